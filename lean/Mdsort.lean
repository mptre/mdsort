-- Root of the library: everything (models, specifications, proofs, property theorems).
-- `lake build Mdsort` (the setup command) therefore checks every proof; a check rebuilds only `Mdsort.Props.Cxx` and the driver.
-- Every module is reached through the property files, which `Mdsort.All` lists.
import Mdsort.All
