import Mdsort.Proofs.WorldBasic

/-! The composite scripts of `Model/Scripts.lean` and `Model/Main.lean` as equations in `Prog.ret`/`Prog.call`/`Prog.bind`
form: what a proof rewrites with instead of unfolding the `do` block.  The names given here to parts of a script (`cand`,
`mwTail`, `moveRest`, `moveBranch`, `mainK`, ...) are the units the specifications are stated for.  The short scripts
(`execP`, `writefd`, `maildirClose`, ...) have no equation: a walk unfolds them; the loops above `processMessage` have
theirs in WorldSpine.

Trap: `gennameStart` runs `genname` with the literal fuel `gennameAttempts = 2 ^ 32`.  A goal `wp .. (gennameStart ..) ..`
is evaluated through `genname` whenever the elaborator reduces it (at every `refine` against it), so a walk of a
script that calls `gennameStart` does `unfold gennameStart; generalize gennameAttempts = fuel` first.  Likewise the test
`(cand ..).length ≥ NAME_MAX1` of `genname_succ`: reducing it runs `List.length` into the decimal printers, so a walk of
`genname` does `generalize (cand env flags (count + 1)).length = len` before it splits. -/

namespace Mdsort.Proofs.World
open Mdsort Mdsort.Model

theorem isOk_eq_not_isErr (r : Res) : isOk r = !r.isErr := by
  cases r <;> rfl

/-- The candidate name for counter value `c`: `%u` prints the counter modulo `2 ^ 32`
(`genName` of WorldKinds at `c % gennameWrap`). -/
def cand (env : PEnv) (flags : Option Bytes) (c : Nat) : Bytes :=
  decimalInt env.now ++ [46] ++ decimal env.pid ++ [95] ++ decimal (c % gennameWrap) ++ [46] ++ env.host ++ flags.getD []

theorem genname_succ (env : PEnv) (md : Maildir) (flags : Option Bytes) (fuel count : Nat) :
    genname env md flags (fuel + 1) count =
      if (cand env flags (count + 1)).length ≥ NAME_MAX1 then .ret none
      else match md.dirH with
        | none => .ret none
        | some d => .call (.openExcl d (cand env flags (count + 1))) fun r =>
          match r with
          | .ok h => .ret (some (h, cand env flags (count + 1)))
          | .err e => if e == "EEXIST" then genname env md flags fuel (count + 1) else .ret none
          | _ => .ret none := by
  rw [genname]
  rfl

theorem calls_genname (env : PEnv) (md : Maildir) (flags : Option Bytes) (fuel count : Nat) :
    Calls (fun c => ∃ d k, md.dirH = some d ∧ c = .openExcl d (cand env flags k)) (genname env md flags fuel count) := by
  induction fuel generalizing count with
  | zero => exact trivial
  | succ fuel ih =>
    rw [genname_succ]
    generalize (cand env flags (count + 1)).length = len
    split
    · exact trivial
    · split
      · exact trivial
      · rename_i d hd
        refine ⟨⟨d, _, hd, rfl⟩, fun r => ?_⟩
        cases r with
        | err e =>
          dsimp only
          split
          · exact ih _
          · exact trivial
        | _ => exact trivial

theorem maildirUnlink_eq (md : Maildir) (name : Bytes) :
    maildirUnlink md name = match md.dirH with
      | none => .ret true
      | some d => .call (.unlinkat d name) fun r => .ret (!isOk r) := by
  unfold maildirUnlink
  rfl

/-- One header line as `message_write` prints it. -/
def hdrLine (h : Hdr) : Bytes := h.key ++ [58, 32] ++ h.val ++ [10]

theorem hdrs_nil (fd : Handle) : messageWriteP.hdrs fd [] = .ret false := by
  unfold messageWriteP.hdrs
  rfl

theorem hdrs_cons (fd : Handle) (h : Hdr) (rest : List Hdr) :
    messageWriteP.hdrs fd (h :: rest) =
      .call (.fprintf fd (hdrLine h)) fun r => if isOk r = true then messageWriteP.hdrs fd rest else .ret true := by
  rw [messageWriteP.hdrs]
  rfl

/-- The part of `message_write` between the header lines and `fclose`. -/
def mwTail (newfd : Handle) (body : Bytes) (herr : Bool) : Prog Bool :=
  if herr = true then Prog.ret true
  else
    Prog.call (Call.fprintf newfd ([10] ++ body)) fun r =>
      if (!isOk r) = true then Prog.ret true
      else
        Prog.call (Call.fflush newfd) fun r =>
          if (!isOk r) = true then Prog.ret true
          else Prog.call (Call.fsync newfd) fun r => Prog.ret !isOk r

theorem messageWriteP_eq (m : Msg) (fd : Handle) :
    messageWriteP m fd =
      .call (.dupfd fd) fun r =>
        match r with
        | .ok newfd =>
          .call (.fdopen newfd) fun r2 =>
            if (!isOk r2) = true then .call (.close newfd) fun _ => .ret true
            else
              (messageWriteP.hdrs newfd (sortById m.headers)).bind fun herr =>
                (mwTail newfd m.body herr).bind fun err1 =>
                  .call (.fclose newfd) fun r3 => .ret (err1 || !isOk r3)
        | _ => .ret true := by
  unfold messageWriteP mwTail
  rfl

theorem eq_of_strlcpyFits {siz : Nat} {s n : Bytes} (h : strlcpyFits siz s = some n) : n = s := by
  unfold strlcpyFits at h
  split at h
  · cases h
  · cases h; rfl

theorem pathjoin_eq {n : Nat} {d f p : Bytes} (h : pathjoin n d f = some p) : p = d ++ [47] ++ f := by
  unfold pathjoin at h
  dsimp only at h
  split at h
  · cases h
  · cases h; rfl

/-- What `message_set_file(msg, path, name, -1)` after a move returns: it issues no call. -/
def setFileMoved (ms : MsgSt) (src dst : Subdir) (dir name : Bytes) : MsgSt × Bool :=
  match pathjoin PATH_MAX dir name with
  | none => (ms, true)
  | some p =>
    match strlcpyFits NAME_MAX1 name with
    | none => ({ ms with path := p }, true)
    | some n => ({ ms with path := p, name := n, flags := adjustSeen src dst ms.flags }, false)

theorem messageSetFileMoved_eq (ms : MsgSt) (src dst : Subdir) (dir name : Bytes) :
    messageSetFileMoved ms src dst dir name = .ret (setFileMoved ms src dst dir name) := by
  unfold messageSetFileMoved setFileMoved
  cases pathjoin PATH_MAX dir name with
  | none => rfl
  | some p => cases strlcpyFits NAME_MAX1 name <;> rfl

/-- The end of `maildir_move`: roll back, close, set the time, update the message. -/
def moveTail (ss : Subdir) (dst : Maildir) (dh fd : Handle) (dstname : Bytes) (mt : Option Nat) (err1 : Bool) (ms : MsgSt) :
    Prog (MsgSt × Bool) := do
  if err1 then
    let _ ← maildirUnlink dst dstname
    pure ()
  let _ ← call (.close fd)
  let err2 ← (if !err1 && mt.isSome then do
      let r ← call (.utimensat dh dstname none mt)
      pure (!isOk r)
    else pure err1)
  if err2 then pure (ms, true)
  else messageSetFileMoved ms ss dst.subdir dst.path dstname

/-- What `maildir_move` does with the result of the rename. -/
def moveCopy (src dst : Maildir) (ms : MsgSt) (fd : Handle) (dstname : Bytes) (r : Res) : Prog (Bool × MsgSt) :=
  match r with
  | .err e =>
    if e == "EXDEV" then do
      let we ← messageWriteP ms.msg fd
      if we then pure (true, ms)
      else do
        let ue ← maildirUnlink src ms.name
        pure (ue, if ue then ms else { ms with loc := some (dst.path, dstname), content := (messageWrite ms.msg).1 })
    else pure (true, ms)
  | _ => pure (false, { ms with loc := some (dst.path, dstname) })

/-- `maildir_move` after the `fstatat` (`mt` = the time it returned, if it succeeded). -/
def moveRest (env : PEnv) (src dst : Maildir) (ms : MsgSt) (sh dh : Handle) (mt : Option Nat) : Prog (MsgSt × Bool) :=
  match msgflags src.subdir dst.subdir ms.flags with
  | none => pure (ms, true)
  | some fl => do
    let g ← gennameStart env dst (some fl)
    match g with
    | none => pure (ms, true)
    | some (fd, dstname) =>
      let r ← call (.renameat sh ms.name dh dstname)
      let (err1, ms) ← moveCopy src dst ms fd dstname r
      moveTail src.subdir dst dh fd dstname mt err1 ms

theorem maildirMove_eq (env : PEnv) (src dst : Maildir) (ms : MsgSt) :
    maildirMove env src dst ms =
      if src.stdin && src.root == dst.root then Prog.ret (ms, true)
      else
        match src.dirH, dst.dirH with
        | some sh, some dh =>
          (if !src.stdin then Prog.call (.fstatat sh ms.name) (fun r => Prog.ret (statMtime r)) else Prog.ret none).bind
            fun mt => moveRest env src dst ms sh dh mt
        | _, _ => Prog.ret (ms, true) := by
  unfold maildirMove moveRest moveCopy moveTail
  rfl

theorem moveTail_err (ss : Subdir) (dst : Maildir) (dh fd : Handle) (dstname : Bytes) (mt : Option Nat) (ms : MsgSt) :
    moveTail ss dst dh fd dstname mt true ms =
      (maildirUnlink dst dstname).bind fun _ => .call (.close fd) fun _ => .ret (ms, true) := rfl

theorem moveTail_ok (ss : Subdir) (dst : Maildir) (dh fd : Handle) (dstname : Bytes) (mt : Option Nat) (ms : MsgSt) :
    moveTail ss dst dh fd dstname mt false ms =
      .call (.close fd) fun _ =>
        match mt with
        | some t => .call (.utimensat dh dstname none (some t)) fun r =>
          if (!isOk r) = true then .ret (ms, true) else .ret (setFileMoved ms ss dst.subdir dst.path dstname)
        | none => .ret (setFileMoved ms ss dst.subdir dst.path dstname) := by
  unfold moveTail
  cases mt <;> simp only [messageSetFileMoved_eq] <;> rfl

theorem maildirWrite_eq (env : PEnv) (md : Maildir) (ms : MsgSt) :
    maildirWrite env md ms =
      match msgflags md.subdir md.subdir ms.flags with
      | none => .ret (ms, true)
      | some fl =>
        (gennameStart env md (some fl)).bind fun g =>
          match g with
          | none => .ret (ms, true)
          | some (fd, name) =>
            (messageWriteP ms.msg fd).bind fun we =>
              .call (.close fd) fun _ =>
                (if we = true then .ret true else maildirUnlink md ms.name).bind fun err =>
                  if err = true then (maildirUnlink md name).bind fun _ => .ret (ms, true)
                  else
                    match md.dirH with
                    | none => .ret ({ ms with loc := some (md.path, name), content := (messageWrite ms.msg).1 }, true)
                    | some d =>
                      .call (.openRd d name) fun r =>
                        match r with
                        | .ok rdfd =>
                          (messageSetFile { ms with loc := some (md.path, name), content := (messageWrite ms.msg).1 }
                            md.path name (some rdfd)).bind fun x =>
                            if x.2 = true then .call (.close rdfd) fun _ => .ret (x.1, true) else .ret (x.1, false)
                        | _ => .ret ({ ms with loc := some (md.path, name), content := (messageWrite ms.msg).1 }, true) := by
  unfold maildirWrite
  rfl

/-- `message_get_fd` after the descriptor has been obtained: rewind it, or close it and fail. -/
def rewindFd (fdo : Option Handle) : Prog (Option Handle) :=
  match fdo with
  | none => .ret none
  | some fd => .call (.lseek fd) fun r => if isOk r = true then .ret (some fd) else .call (.close fd) fun _ => .ret none

/-- A temporary file filled by `fill`: `writefd`, then `fill`, closed again if that fails. -/
def tmpCopy (tmpdir : Bytes) (fill : Handle → Prog Bool) : Prog (Option Handle) :=
  (writefd tmpdir).bind fun f =>
    match f with
    | none => .ret none
    | some fd => (fill fd).bind fun e => if e = true then .call (.close fd) fun _ => .ret none else .ret (some fd)

theorem messageGetFd_eq (env : PEnv) (ms : MsgSt) (part : Option Msg) (dobody : Bool) :
    messageGetFd env ms part dobody =
      (if dobody = true then
        match getBody (part.getD ms.msg) with
        | none => .ret none
        | some body => tmpCopy env.tmpdir fun fd => writeAll fd (body.length + 1) (cstr body)
      else if part.isSome = true then tmpCopy env.tmpdir fun fd => messageWriteP (part.getD ms.msg) fd
      else
        match ms.fd with
        | none => .ret none
        | some mfd => .call (.dupfd mfd) fun r => .ret (resHandle r)).bind rewindFd := by
  unfold messageGetFd tmpCopy
  rfl

/-- The `move`/`flag`/`flags` branch of `execOne`. -/
def moveBranch (env : PEnv) (mh : Match) (st : ExecSt) : Prog (ExecSt × Bool) :=
  (maildirOpenDst mh.path).bind fun d =>
    match d with
    | none => Prog.ret (st, true)
    | some dst =>
      (maildirMove env st.src dst st.ms).bind fun x =>
        if x.snd = true then
          (maildirClose dst).bind fun _ =>
            Prog.ret ({ src := st.src, chsrc := st.chsrc, ms := x.fst, reject := st.reject }, true)
        else
          if (st.src.subdir != dst.subdir || st.src.root != dst.root) = true then
            if st.chsrc = true then
              (maildirClose st.src).bind fun _ =>
                Prog.ret ({ src := dst, chsrc := true, ms := x.fst, reject := st.reject }, false)
            else Prog.ret ({ src := dst, chsrc := true, ms := x.fst, reject := st.reject }, false)
          else
            (maildirClose dst).bind fun _ =>
              Prog.ret ({ src := st.src, chsrc := st.chsrc, ms := x.fst, reject := st.reject }, false)

theorem execOne_move (env : PEnv) (mh : Match) (st : ExecSt) (hty : mh.ty = .move ∨ mh.ty = .flag ∨ mh.ty = .flags) :
    execOne env mh st = moveBranch env mh st := by
  unfold execOne moveBranch
  rcases hty with hty | hty | hty <;> simp only [hty] <;> rfl

theorem execOne_discard (env : PEnv) (mh : Match) (st : ExecSt) (hty : mh.ty = .discard) :
    execOne env mh st = (maildirUnlink st.src st.ms.name).bind fun e =>
      .ret (if e = true then st else { st with ms := { st.ms with loc := none } }, e) := by
  unfold execOne
  simp only [hty]
  rfl

theorem execOne_write (env : PEnv) (mh : Match) (st : ExecSt) (hty : mh.ty = .label ∨ mh.ty = .addHeader) :
    execOne env mh st = (maildirWrite env st.src st.ms).bind fun x => .ret ({ st with ms := x.1 }, x.2) := by
  unfold execOne
  rcases hty with hty | hty <;> simp only [hty] <;> rfl

theorem execOne_reject (env : PEnv) (mh : Match) (st : ExecSt) (hty : mh.ty = .reject) :
    execOne env mh st = .ret ({ st with reject := true }, false) := by
  unfold execOne
  simp only [hty]
  rfl

theorem execOne_exec (env : PEnv) (mh : Match) (st : ExecSt) (hty : mh.ty = .exec) :
    execOne env mh st =
      (if mh.execStdin = true then
        (messageGetFd env st.ms (if (mh.part == 0) = true then none else st.ms.parts[mh.part - 1]?) mh.execBody).bind
          fun f => .ret (f.map some)
      else .ret (some none)).bind fun fdr =>
        match fdr with
        | none => .ret (st, true)
        | some fd =>
          (execP mh.argv fd).bind fun rc =>
            match fd with
            | some h => .call (.close h) fun _ => .ret (st, rc != 0)
            | none => .ret (st, rc != 0) := by
  unfold execOne
  simp only [hty]
  rfl

/-- The entries that are no action (conditions, `break`, `pass`, an attachment block) do nothing in `matches_exec`. -/
theorem execOne_other (env : PEnv) (mh : Match) (st : ExecSt)
    (hty : mh.ty ∉ [.move, .flag, .flags, .discard, .label, .addHeader, .reject, .exec]) :
    execOne env mh st = .ret (st, false) := by
  unfold execOne
  cases h : mh.ty <;> first | rfl | exact absurd (by rw [h]; decide) hty

/-- The types of an entry, grouped as the branch equations of `execOne` above take them. -/
theorem execOne_ty_cases (t : MType) :
    (t = .move ∨ t = .flag ∨ t = .flags) ∨ t = .discard ∨ (t = .label ∨ t = .addHeader) ∨ t = .reject ∨ t = .exec ∨
      t ∉ [.move, .flag, .flags, .discard, .label, .addHeader, .reject, .exec] := by
  cases t <;> decide

theorem matchesExec_nil (env : PEnv) (st : ExecSt) :
    matchesExec env [] st =
      if st.chsrc = true then (maildirClose st.src).bind fun _ => .ret (st, false) else .ret (st, false) := by
  rw [matchesExec]
  rfl

end Mdsort.Proofs.World

namespace Mdsort.Proofs.Own
open Mdsort Mdsort.Model

/-- What `matchesExec` does after an entry reported an error.  (In `Own`, whose passes name it; defined here because
`matchesExec_cons` is stated with it.) -/
def errTail (st : ExecSt) : Prog (ExecSt × Bool) :=
  if st.chsrc = true then (maildirClose st.src).bind fun _ => Prog.ret (st, true) else Prog.ret (st, true)

end Mdsort.Proofs.Own

namespace Mdsort.Proofs.World
open Mdsort Mdsort.Model

theorem matchesExec_cons (env : PEnv) (mh : Match) (rest : MatchList) (st : ExecSt) :
    matchesExec env (mh :: rest) st =
      (execOne env mh st).bind fun x => if x.2 = true then Own.errTail x.1 else matchesExec env rest x.1 := by
  rw [matchesExec]
  rfl

/-- `message_parse` after the file has been opened. -/
def parseTail (fd : Handle) (dir name content : Bytes) : Prog (Option MsgSt) :=
  (readAll fd (content.length + 2)).bind fun failed =>
    if failed = true then Prog.call (Call.close fd) fun _ => Prog.ret none
    else
      match pathjoin PATH_MAX dir name, strlcpyFits NAME_MAX1 name with
      | some p, some n =>
        match flagsParse n with
        | some mf =>
          Prog.ret (some { name := n, path := p, fd := some fd, msg := parseMessage content,
                           parts := (getAttachments (parseMessage content)).getD [], flags := mf,
                           loc := some (dir, name), content := content })
        | none => Prog.call (Call.close fd) fun _ => Prog.ret none
      | _, _ => Prog.call (Call.close fd) fun _ => Prog.ret none

theorem messageParseP_eq (d : Handle) (dir name content : Bytes) :
    messageParseP d dir name content =
      Prog.call (Call.openRd d name) fun r =>
        match r with
        | .ok fd => parseTail fd dir name content
        | _ => Prog.ret none := by
  unfold messageParseP parseTail
  rfl

/-- `mainP` after the configuration file was opened and closed. -/
def mainK (env : PEnv) (orc : EvalOracles) (confOk : Bool) (conf : List ConfBlock) (files : Files) (input : Bytes) :
    Prog (Nat × MainSt) :=
  if !confOk then .ret (exitStatus env { files := files, error := true, reject := false, log := [] },
      { files := files, error := true, reject := false, log := [] })
  else if env.syntaxOnly then .ret (exitStatus env { files := files, error := false, reject := false, log := [] },
      { files := files, error := false, reject := false, log := [] })
  else
    (mainP.blocks env orc input conf { files := files, error := false, reject := false, log := [] }).bind fun stf =>
      .ret (exitStatus env stf, stf)

theorem mainP_eq (env : PEnv) (orc : EvalOracles) (confOk : Bool) (conf : List ConfBlock) (files : Files) (input : Bytes) :
    mainP env orc confOk conf files input =
      .call (.fopen env.confpath) fun r =>
        match r with
        | .ok h => .call (.fclose h) fun _ => mainK env orc confOk conf files input
        | _ => .ret (exitStatus env { files := files, error := true, reject := false, log := [] },
            { files := files, error := true, reject := false, log := [] }) := by
  unfold mainP mainK
  rfl

end Mdsort.Proofs.World

namespace Mdsort.Proofs
open Mdsort Mdsort.Model

/-- What a successful `message_parse` returns (everything but the descriptor is determined by the
directory, the name and the content of the file).  (In `Mdsort.Proofs`, like the verdict lemmas of WorldVerdict that take it.) -/
def ParsedAs (dir name content : Bytes) (pm : Option MsgSt) : Prop :=
  ∀ ms, pm = some ms → ∃ p mf, pathjoin PATH_MAX dir name = some p ∧ strlcpyFits NAME_MAX1 name = some name ∧
    flagsParse name = some mf ∧ ms.name = name ∧ ms.path = p ∧ ms.msg = parseMessage content ∧ ms.flags = mf ∧
    ms.parts = (getAttachments (parseMessage content)).getD []

theorem all_messageParseP_as (d : Handle) (dir name content : Bytes) :
    World.All (ParsedAs dir name content) (messageParseP d dir name content) := by
  rw [World.messageParseP_eq]
  refine World.All.call_intro fun r => ?_
  split
  · unfold World.parseTail
    refine World.All.bind_of_forall _ fun failed => ?_
    split
    · exact World.All.call_intro fun _ => World.All.ret_intro nofun
    · split
      · split
        · refine World.All.ret_intro ?_
          intro ms h
          cases h
          rename_i p n hp hn _ mf hmf
          cases World.eq_of_strlcpyFits hn
          exact ⟨_, _, hp, hn, hmf, rfl, rfl, rfl, rfl, rfl⟩
        · exact World.All.call_intro fun _ => World.All.ret_intro nofun
      · exact World.All.call_intro fun _ => World.All.ret_intro nofun
  · exact World.All.ret_intro nofun

end Mdsort.Proofs
