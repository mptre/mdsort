import Mdsort.Proofs.Captures
import Mdsort.Proofs.Interp
import Mdsort.Proofs.LimitsEvalP
import Mdsort.Proofs.WorldVerdict

/-!
# A failure of `match_interpolate` is sticky (match.c, `matches_interpolate`)

("Sticky" here: the failure of one entry is final for the list.  The lemmas named `*_sticky` in `LimitsMain` are about
something else, the error flag of `main`.)

`matches_interpolate` walks the match list and stops at the first entry whose `match_interpolate` fails
(`error = 1; break;`).  The failing `match_interpolate` has by then already written into the entry
(`strlcpy` of an over-long destination into `mh_path` stores the first `PATH_MAX - 1` bytes), so the only thing
that keeps `matches_exec` away from the truncation is that the failure is remembered whatever the entries
AFTER the failing one do.  Here, for all limits: whether an entry fails (`EntryFails`) depends on the entries before it
through their types and captures only (`EntryFails.congr`), and not on the message, so "entry `i` fails" can be stated on the
list as it is handed to `matches_interpolate`; `matchesInterpolateL` is `none` iff SOME entry fails, whatever follows it (one
induction over the loop, `matchesInterpolateL_go_none_iff`); and then `processMessageL` does nothing with the message but
close its descriptor (`processMessageL_interp_error_run`).
-/

namespace Mdsort.Proofs.Limits
open Mdsort Mdsort.Model Mdsort.Proofs Mdsort.Proofs.World

theorem add_congr_keys (macros : Option (List (Bytes × Bytes))) (b1 b2 : MatchList) (h : b1.map capKey = b2.map capKey)
    (ss : List Bytes) (buf : Bytes) : matchInterpolate.add macros b1 ss buf = matchInterpolate.add macros b2 ss buf := by
  fun_induction matchInterpolate.add macros b2 ss buf with
  | case1 => rfl
  | case2 buf s r hs => simp only [matchInterpolate.add, interpolate_congr b1 b2 macros h s, hs]
  | case3 buf s r v hs ih => simp only [matchInterpolate.add, interpolate_congr b1 b2 macros h s, hs, ih]

theorem matchInterpolate_congr_keys (macros : Option (List (Bytes × Bytes))) (ml ml' : MatchList) (i : Nat) (mh : Match)
    (msgs : Nat → Msg) (h : (ml.take i).map capKey = (ml'.take i).map capKey) :
    matchInterpolate macros ml i mh msgs = matchInterpolate macros ml' i mh msgs := by
  have hfun : interpolate (ml.take i) macros = interpolate (ml'.take i) macros :=
    funext fun s => interpolate_congr _ _ macros h s
  have hadd := add_congr_keys macros _ _ h
  unfold matchInterpolate
  simp only [hfun, hadd]

theorem matchInterpolateL_key (L : Limits) (macros : Option (List (Bytes × Bytes))) (ml : MatchList) (i : Nat) (mh mh' : Match)
    (msgs : Nat → Msg) (upd : Option (Nat × Msg)) (h : matchInterpolateL L macros ml i mh msgs = some (mh', upd)) :
    capKey mh' = capKey mh := by
  revert h
  fun_cases matchInterpolateL L macros ml i mh msgs
  -- `stat`, `move` with a path that cannot be interpolated: `none`
  case case1 | case3 => nofun
  -- `stat`, `move` otherwise: the entry with the interpolated path in `mh_path`
  case case2 | case4 =>
    simp only [Option.map_eq_some_iff, Prod.mk.injEq]
    rintro ⟨_, _, rfl, -⟩
    rfl
  case case5 => exact matchInterpolate_key macros ml i mh mh' msgs upd

theorem add_none_exists (macros : Option (List (Bytes × Bytes))) (before : MatchList) (ss : List Bytes) (buf : Bytes) :
    matchInterpolate.add macros before ss buf = none → ∃ t ∈ ss, interpolate before macros t = none := by
  fun_induction matchInterpolate.add macros before ss buf with
  | case1 => nofun
  | case2 buf s r hs => exact fun _ => ⟨s, List.mem_cons_self, hs⟩
  | case3 buf s r v hs ih => exact fun h => (ih h).imp fun t ht => ⟨List.mem_cons_of_mem _ ht.1, ht.2⟩

/-- How `match_interpolate` fails for an entry: one of its templates cannot be interpolated, or - `move`, `isdirectory` - the
interpolated path does not fit `mh_path`.  The entries `before` it are read through `interpolate` only (their types and
captures), and the message is not read at all. -/
def EntryFails (L : Limits) (macros : Option (List (Bytes × Bytes))) (before : MatchList) (mh : Match) : Prop :=
  (∃ t ∈ templates mh, interpolate before macros t = none) ∨
    ((mh.ty = .move ∨ mh.ty = .stat) ∧ ∃ p, interpolate before macros mh.path = some p ∧ L.pathMax.fits p.length = false)

theorem EntryFails.congr {L : Limits} {macros : Option (List (Bytes × Bytes))} {b1 b2 : MatchList} (mh : Match)
    (h : b1.map capKey = b2.map capKey) : EntryFails L macros b1 mh ↔ EntryFails L macros b2 mh := by
  unfold EntryFails
  rw [funext fun t => interpolate_congr b1 b2 macros h t]

theorem matchInterpolateL_none_iff (L : Limits) (macros : Option (List (Bytes × Bytes))) (ml : MatchList) (i : Nat) (mh : Match)
    (msgs : Nat → Msg) : matchInterpolateL L macros ml i mh msgs = none ↔ EntryFails L macros (ml.take i) mh := by
  have hother : mh.ty ≠ .move → mh.ty ≠ .stat →
      matchInterpolate macros ml i mh msgs = none → ∃ t ∈ templates mh, interpolate (ml.take i) macros t = none := by
    intro h1 h2
    unfold templates
    fun_cases matchInterpolate macros ml i mh msgs
    case case1 hty _ | case2 hty _ _ => exact absurd hty h2
    case case3 hty _ | case4 hty _ _ => exact absurd hty h1
    -- `label`: `add` fails on one of the strings
    case case5 hty _ _ hadd =>
      simp only [hty]
      exact fun _ => add_none_exists macros _ _ _ hadd
    -- `command`, `exec`: `mapM` fails on one of the strings
    case case7 hty | case8 hty =>
      simp only [hty, Option.map_eq_none_iff]
      exact (List.mapM_eq_none_iff _).1
    -- `add-header`: the value
    case case9 hty hv =>
      simp only [hty]
      exact fun _ => ⟨_, List.mem_singleton.mpr rfl, hv⟩
    -- an entry without templates, or one whose templates were all expanded, is returned
    case case6 | case10 | case11 => nofun
  unfold EntryFails
  fun_cases matchInterpolateL L macros ml i mh msgs
  -- `stat`, `move`: the one template is the path; interpolated, it has to fit `mh_path`
  case case1 hty hip | case3 hty hip => simp [templates, hty, hip]
  case case2 hty p hip | case4 hty p hip =>
    simp only [strlcpyL_eq]
    cases hfit : L.pathMax.fits p.length <;> simp [templates, hfit, hty, hip]
  -- every other entry is handed to `matchInterpolate`
  case case5 h2 h1 =>
    exact ⟨fun h => .inl (hother h1 h2 h), fun h => h.elim (fun ⟨t, ht, hf⟩ => matchInterpolate_none macros ml i mh msgs t ht hf)
      fun ⟨hty, _⟩ => (hty.elim h1 h2).elim⟩

/-- The loop from position `i` fails iff one of the remaining entries fails (judged on the list `ml` the loop started
from: what the interpolation of the earlier entries stored keeps their types and captures). -/
theorem matchesInterpolateL_go_none_iff (L : Limits) (macros : Option (List (Bytes × Bytes))) (ml : MatchList) :
    ∀ (rest : MatchList) (i : Nat) (cur : MatchList) (msgs : Nat → Msg),
      rest = ml.drop i → cur.map capKey = ml.map capKey →
      (matchesInterpolateL.go L macros i rest cur msgs = none ↔
        ∃ (j : Nat) (mh : Match), rest[j]? = some mh ∧ EntryFails L macros (ml.take (i + j)) mh) := by
  intro rest
  induction rest with
  | nil =>
    intro i cur msgs _ _
    simp only [matchesInterpolateL.go, reduceCtorEq, false_iff]
    rintro ⟨j, mh, hj, -⟩
    cases hj
  | cons m0 more ih =>
    intro i cur msgs hrest hkey
    have hhead := (matchInterpolateL_none_iff L macros cur i m0 msgs).trans
      (EntryFails.congr (b2 := ml.take i) m0 (by rw [List.map_take, List.map_take, hkey]))
    have hsplit : (∃ (j : Nat) (mh : Match), (m0 :: more)[j]? = some mh ∧ EntryFails L macros (ml.take (i + j)) mh) ↔
        EntryFails L macros (ml.take i) m0 ∨
          ∃ (j : Nat) (mh : Match), more[j]? = some mh ∧ EntryFails L macros (ml.take (i + 1 + j)) mh := by
      constructor
      · rintro ⟨j, mh, hj, hf⟩
        cases j with
        | zero => cases hj; exact .inl hf
        | succ j => exact .inr ⟨j, mh, hj, by rw [show i + 1 + j = i + (j + 1) by omega]; exact hf⟩
      · rintro (hf | ⟨j, mh, hj, hf⟩)
        · exact ⟨0, m0, rfl, hf⟩
        · exact ⟨j + 1, mh, hj, by rw [show i + (j + 1) = i + 1 + j by omega]; exact hf⟩
    rw [matchesInterpolateL.go, hsplit, ← hhead]
    cases hmi : matchInterpolateL L macros cur i m0 msgs with
    | none => exact ⟨fun _ => .inl rfl, fun _ => rfl⟩
    | some r =>
      obtain ⟨mh', upd⟩ := r
      have hdrop : ml.drop i = m0 :: more := hrest.symm
      have hi : ml[i]? = some m0 := by
        have := List.getElem?_drop (xs := ml) (i := i) (j := 0)
        rw [hdrop] at this
        simpa using this.symm
      simp only [reduceCtorEq, false_or]
      refine ih (i + 1) _ _ (by rw [← List.tail_drop, hdrop]; rfl) ?_
      rw [List.map_set, matchInterpolateL_key L macros cur i m0 mh' msgs upd hmi, ← hkey]
      have hci : (cur.map capKey)[i]? = some (capKey m0) := by
        rw [hkey, List.getElem?_map, hi]; rfl
      obtain ⟨hlt, hget⟩ := List.getElem?_eq_some_iff.mp hci
      rw [← hget, List.set_getElem_self]

theorem matchesInterpolateL_none_iff (L : Limits) (env : Env) (ml : MatchList) (msgs : Nat → Msg) :
    matchesInterpolateL L env ml msgs = none ↔
      ∃ (i : Nat) (mh : Match), ml[i]? = some mh ∧ EntryFails L (some [(ofString "path", env.path)]) (ml.take i) mh := by
  have := matchesInterpolateL_go_none_iff L (some [(ofString "path", env.path)]) ml ml 0 ml msgs rfl rfl
  simpa only [Nat.zero_add, matchesInterpolateL] using this

theorem matchesInterpolateL_none_of_entry (L : Limits) (env : Env) (ml : MatchList) (msgs msgs0 : Nat → Msg) (i : Nat) (mh : Match)
    (hi : ml[i]? = some mh) (hf : matchInterpolateL L (some [(ofString "path", env.path)]) ml i mh msgs0 = none) :
    matchesInterpolateL L env ml msgs = none :=
  (matchesInterpolateL_none_iff L env ml msgs).2 ⟨i, mh, hi, (matchInterpolateL_none_iff L _ ml i mh msgs0).1 hf⟩

/-- What a successful `message_parse` returns under the limits `L` (`ParsedFrom` of `Captures.lean` with the limits as a parameter). -/
def ParsedFromL (L : Limits) (dir name content : Bytes) (pm : Option MsgSt) : Prop :=
  ∀ ms, pm = some ms → ∃ p n mf, pathjoinL L.pathMax dir name = some p ∧ strlcpyL L.nameMax1 name = some n ∧
    flagsParse n = some mf ∧ ms.msg = parseMessage content ∧ ms.path = p ∧ ms.flags = mf ∧
    ms.parts = (getAttachments (parseMessage content)).getD []

theorem parse_messageParsePL (L : Limits) (d : Handle) (dir name content : Bytes) :
    Calls (ParseCall d) (messageParsePL L d dir name content) := by
  unfold messageParsePL
  simp only [bind_eq, pure_eq, call_bind]
  refine Calls.step (.inl ⟨name, rfl⟩) fun r => ?_
  split
  · rename_i fd
    refine World.Calls.bind (parse_readAll d fd _) fun failed => ?_
    -- every exit but the successful one closes `fd` and returns
    have hclose : Calls (ParseCall d) (Prog.call (.close fd) fun _ => (.ret none : Prog (Option MsgSt))) :=
      Calls.step (.inr (.inr ⟨_, rfl⟩)) fun _ => Calls.ret _
    split
    · exact hclose
    · split
      · split
        · exact Calls.ret _
        · exact hclose
      · exact hclose
  · exact Calls.ret _

theorem all_messageParsePL (L : Limits) (d : Handle) (dir name content : Bytes) :
    All (ParsedFromL L dir name content) (messageParsePL L d dir name content) := by
  unfold messageParsePL
  simp only [bind_eq, pure_eq, call_bind]
  refine All.call_intro fun r => ?_
  split
  · refine World.All.bind_of_forall _ fun failed => ?_
    split
    · exact All.call_intro fun _ => All.ret_intro (fun ms h => by cases h)
    · split
      · split
        · refine All.ret_intro ?_
          intro ms h
          cases h
          exact ⟨_, _, _, by assumption, by assumption, by assumption, rfl, rfl, rfl, rfl⟩
        · exact All.call_intro fun _ => All.ret_intro (fun ms h => by cases h)
      · exact All.call_intro fun _ => All.ret_intro (fun ms h => by cases h)
  · exact All.ret_intro (fun ms h => by cases h)

/-- What `processMessageL` does with the result `ev` of evaluation: interpolate, inspect / execute, free.  The model does not
name this part of `Model.processMessageL`, so it is written out a second time here, for the statements about the run after
evaluation; `processMessageL_phases` proves that the two agree and stops checking when only one of them is changed. -/
def afterEvalL (L : Limits) (env : PEnv) (orc : EvalOracles) (md : Maildir) (name : Bytes) (st : MainSt) (ms : MsgSt) :
    Tri × St → Prog (MainSt × Maildir)
  | (.error, _) => do freeMsg ms; pure ({ st with error := true }, md)
  | (.nomatch, _) => do freeMsg ms; pure (st, md)
  | (.match, est) =>
    match matchesInterpolateL L (msgEnv env orc ms.path) est.ml (partMsg ms.msg ms.parts) with
    | none => do freeMsg ms; pure ({ st with error := true }, md)
    | some (ml, msgs) =>
      let ms1 := { ms with msg := msgs 0, flags := est.flags }
      let st1 := { st with log := st.log ++ inspectLines env ml ms.path }
      if env.dryrun then do freeMsg ms1; pure (st1, md)
      else do
        let (xs, e) ← matchesExecL L env ml { src := md, chsrc := false, ms := ms1, reject := false }
        freeMsg xs.ms
        pure ({ st1 with error := st1.error || e, reject := st1.reject || xs.reject,
                         files := afterExec st1.files md.path name xs.ms }, md)

theorem processMessageL_phases (L : Limits) (env : PEnv) (orc : EvalOracles) (expr : Expr) (md : Maildir) (name : Bytes)
    (st : MainSt) (d : Handle) (content : Bytes) (hd : md.dirH = some d) (hf : st.files.get md.path name = some content) :
    processMessageL L env orc expr md name st =
      (messageParsePL L d md.path name content).bind fun pm =>
        match pm with
        | none => pure ({ st with error := true }, md)
        | some ms => (evalPL L (msgEnv env orc ms.path) expr ms.msg ms.flags).bind (afterEvalL L env orc md name st ms) := by
  unfold processMessageL
  simp only [hd, hf]
  congr 1

theorem afterEvalL_interp_error (L : Limits) (env : PEnv) (orc : EvalOracles) (md : Maildir) (name : Bytes) (st : MainSt)
    (ms : MsgSt) (est : St)
    (hint : matchesInterpolateL L (msgEnv env orc ms.path) est.ml (partMsg ms.msg ms.parts) = none) :
    Calls IsClose (afterEvalL L env orc md name st ms (.match, est)) ∧
      All (fun r => r = ({ st with error := true }, md)) (afterEvalL L env orc md name st ms (.match, est)) := by
  simp only [afterEvalL, hint]
  obtain ⟨nm, pth, fd, msg, parts, flags, loc, cont⟩ := ms
  cases fd with
  | none => exact ⟨Calls.ret _, rfl⟩
  | some h =>
    simp only [freeMsg, bind_eq, pure_eq, call_bind, ret_bind, call_bind']
    exact ⟨Calls.step ⟨h, rfl⟩ fun _ => Calls.ret _, fun _ => rfl⟩

/-- Whatever the calls return: when in this run the rules match (`hev`: the result of the program `evalPL`, run from where
the parse phase ended) and interpolation of the resulting list fails, the run of `processMessageL` is the run of the parse
phase, then calls of evaluation (`EvalCallOf expr`), then `close` calls only; no call is mutating; the outcome is "error",
nothing else changed. -/
theorem processMessageL_interp_error_run (L : Limits) (env : PEnv) (orc : EvalOracles) (expr : Expr) (md : Maildir) (name : Bytes)
    (st : MainSt) (d : Handle) (content p n : Bytes) (mf : MFlags) (est : St)
    (hd : md.dirH = some d) (hf : st.files.get md.path name = some content)
    (hp : pathjoinL L.pathMax md.path name = some p) (hn : strlcpyL L.nameMax1 name = some n)
    (hmf : flagsParse n = some mf)
    (orcl : Nat → Call → Res)
    (hev : (Own.runO orcl (evalPL L (msgEnv env orc p) expr (parseMessage content) mf)
      (Own.runO orcl (messageParsePL L d md.path name content) 0).2.2).1 = (.match, est))
    (hint : matchesInterpolateL L (msgEnv env orc p) est.ml
      (partMsg (parseMessage content) ((getAttachments (parseMessage content)).getD [])) = none) :
    (runOracle orcl (processMessageL L env orc expr md name st) 0 []).1 = ({ st with error := true }, md) ∧
    (∀ x ∈ (runOracle orcl (processMessageL L env orc expr md name st) 0 []).2,
      ParseEvalCall d expr x.1 ∧ x.1.mutating = false) ∧
    ∃ E T, (runOracle orcl (processMessageL L env orc expr md name st) 0 []).2 =
        (runOracle orcl (messageParsePL L d md.path name content) 0 []).2 ++ E ++ T ∧
        (∀ x ∈ E, EvalCallOf expr x.1) ∧ ∀ x ∈ T, IsClose x.1 := by
  have hpm := Own.all_runO (all_messageParsePL L d md.path name content) orcl 0
  have hpc := Own.calls_runO_mem (parse_messageParsePL L d md.path name content) orcl 0
  rw [processMessageL_phases L env orc expr md name st d content hd hf]
  simp only [Own.runOracle_eq, Own.runO_bind, List.nil_append]
  generalize Own.runO orcl (messageParsePL L d md.path name content) 0 = rp at hpm hev hpc
  obtain ⟨pm, ptr, j⟩ := rp
  dsimp only at hpm hev hpc ⊢
  -- the calls are classified once the trace is split into its three phases
  suffices h : ∀ {v tr}, v = ({ st with error := true }, md) →
      (∃ E T, tr = ptr ++ E ++ T ∧ (∀ x ∈ E, EvalCallOf expr x.1) ∧ ∀ x ∈ T, IsClose x.1) →
      v = ({ st with error := true }, md) ∧ (∀ x ∈ tr, ParseEvalCall d expr x.1 ∧ x.1.mutating = false) ∧
        ∃ E T, tr = ptr ++ E ++ T ∧ (∀ x ∈ E, EvalCallOf expr x.1) ∧ ∀ x ∈ T, IsClose x.1 by
    cases pm with
    | none => exact h rfl ⟨[], [], (List.append_nil _).symm, fun _ h => (List.not_mem_nil h).elim, fun _ h => (List.not_mem_nil h).elim⟩
    | some ms =>
      obtain ⟨p', n', mf', hp', hn', hmf', h1, h2, h3, h4⟩ := hpm ms rfl
      cases hp.symm.trans hp'
      cases hn.symm.trans hn'
      cases hmf.symm.trans hmf'
      simp only [Own.runO_bind, h1, h2, h3]
      have hE := Own.calls_runO_mem (evalPL_calls_of L (msgEnv env orc p) expr (parseMessage content) mf) orcl j
      generalize Own.runO orcl (evalPL L (msgEnv env orc p) expr (parseMessage content) mf) j = re at hev hE
      obtain ⟨ev, etr, j2⟩ := re
      cases hev
      obtain ⟨hc, ha⟩ := afterEvalL_interp_error L env orc md name st ms est (by rw [h1, h2, h4]; exact hint)
      exact h (Own.all_runO ha orcl j2) ⟨etr, _, (List.append_assoc ..).symm, hE, Own.calls_runO_mem hc orcl j2⟩
  rintro v tr hv ⟨E, T, rfl, hE, hT⟩
  refine ⟨hv, fun x hx => ?_, E, T, rfl, hE, hT⟩
  have hx' : ParseEvalCall d expr x.1 := by
    rcases List.mem_append.1 hx with hx | hx
    · rcases List.mem_append.1 hx with hx | hx
      · exact .inl (hpc x hx)
      · exact .inr (hE x hx)
    · exact .inl (.inr (.inr (hT x hx)))
  exact ⟨hx', hx'.quiet⟩

/-- `processMessageL_interp_error_run` for a rule tree that asks the operating system nothing, in terms of the pure
evaluator `evalL`: only the calls of parsing, no `fork`; after the parse phase only `close`. -/
theorem processMessageL_interp_error_run_pure (L : Limits) (env : PEnv) (orc : EvalOracles) (expr : Expr) (md : Maildir)
    (name : Bytes) (st : MainSt) (d : Handle) (content p n : Bytes) (mf : MFlags) (est : St)
    (hd : md.dirH = some d) (hf : st.files.get md.path name = some content)
    (hp : pathjoinL L.pathMax md.path name = some p) (hn : strlcpyL L.nameMax1 name = some n)
    (hmf : flagsParse n = some mf) (hfree : asksFree expr = true)
    (hev : evalL L (msgEnv env orc p) (parseMessage content) expr 0 (parseMessage content) { ml := [], flags := mf }
      = (.match, est))
    (hint : matchesInterpolateL L (msgEnv env orc p) est.ml
      (partMsg (parseMessage content) ((getAttachments (parseMessage content)).getD [])) = none)
    (orcl : Nat → Call → Res) :
    (runOracle orcl (processMessageL L env orc expr md name st) 0 []).1 = ({ st with error := true }, md) ∧
    (∀ x ∈ (runOracle orcl (processMessageL L env orc expr md name st) 0 []).2,
      ParseCall d x.1 ∧ x.1.mutating = false ∧ x.1.isFork = false) ∧
    ∃ T, (runOracle orcl (processMessageL L env orc expr md name st) 0 []).2 =
        (runOracle orcl (messageParsePL L d md.path name content) 0 []).2 ++ T ∧ ∀ x ∈ T, IsClose x.1 := by
  have hev' : (Own.runO orcl (evalPL L (msgEnv env orc p) expr (parseMessage content) mf)
      (Own.runO orcl (messageParsePL L d md.path name content) 0).2.2).1 = (.match, est) := by
    rw [evalPL_asksFree_eq L _ expr hfree, ← hev]
    rfl
  obtain ⟨h1, h2, E, T, h3, hE, hT⟩ :=
    processMessageL_interp_error_run L env orc expr md name st d content p n mf est hd hf hp hn hmf orcl hev' hint
  have hE0 : E = [] := List.eq_nil_iff_forall_not_mem.2 fun x hx => (hE x hx).not_asksFree hfree
  subst hE0
  refine ⟨h1, fun x hx => ?_, T, by simpa using h3, hT⟩
  have hpc := ParseEvalCall.of_asksFree hfree (h2 x hx).1
  exact ⟨hpc, hpc.quiet⟩

end Mdsort.Proofs.Limits

namespace Mdsort.Proofs
open Mdsort Mdsort.Model

/-- `matches_interpolate` fails as soon as one template of one entry fails - in particular a
reference to a missing group, an unknown macro, an unterminated `${`. -/
theorem matchesInterpolate_none_of_template (env : Env) (ml : MatchList) (msgs : Nat → Msg) (i : Nat) (mh : Match)
    (t : Bytes) (hi : ml[i]? = some mh) (ht : t ∈ templates mh)
    (hf : interpolate (ml.take i) (some [(ofString "path", env.path)]) t = none) :
    matchesInterpolate env ml msgs = none := by
  rw [← Limits.matchesInterpolateL_std]
  exact (Limits.matchesInterpolateL_none_iff stdLimits env ml msgs).2 ⟨i, mh, hi, .inl ⟨t, ht, hf⟩⟩

end Mdsort.Proofs
