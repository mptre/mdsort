import Mdsort.Model.Start

/-!
# The regenerated constants, evaluated

`tools/gen_tables.py` regenerates `Gen/Tables.lean` from the sources and the platform headers of the tree under check, and
the executable model is DEFINED with those names (`Model.PATH_MAX := Gen.pathMax`, `Model.execStatus` with
`Gen.execFatalExit`, ...): the driver of the correspondence run follows the source.  The proofs are stated with the
numbers.  The `simp` lemmas below tie each number to its generated name by evaluating the generated table (`decide`); when
the source or the platform changes a constant they stop checking, and with them every theorem stated with the number.  No
executable definition depends on this file, so a changed constant breaks theorems, not the driver.
-/

namespace Mdsort.Model
open Mdsort

/-! ## platform limits (`cc -E -dM` over config.h + extern.h of the tree) -/

@[simp] theorem Gen_nameMax_eq : Gen.nameMax = 255 := by decide
@[simp] theorem Gen_pathMax_eq : Gen.pathMax = 4096 := by decide

/-! ## util.c `exec()`: `int error = 1`, `_exit(127)` in the child, `if (error == 127) error = -1`,
`128 + WTERMSIG(status)`, `error = -1` on the three failure paths -/

@[simp] theorem Gen_execFatalExit_eq : Gen.execFatalExit = 127 := by decide
@[simp] theorem Gen_execFatalValue_eq : Gen.execFatalValue = -1 := by decide
@[simp] theorem Gen_execSignalBase_eq : Gen.execSignalBase = 128 := by decide
@[simp] theorem Gen_execInitialValue_eq : Gen.execInitialValue = 1 := by decide
@[simp] theorem Gen_execChildExit_eq : Gen.execChildExit = 127 := by decide
@[simp] theorem Gen_execCannotRunValue_eq : Gen.execCannotRunValue = -1 := by decide

/-! ## mdsort.c `defaultconf`, `readenv`; extern.h `struct environment` -/

/-- `"/.mdsort.conf"` (13 bytes): the literal part of the format of `defaultconf`. -/
@[simp] theorem confSuffix_eq : confSuffix = [47, 46, 109, 100, 115, 111, 114, 116, 46, 99, 111, 110, 102] := by decide

@[simp] theorem TZ_BUF_eq : TZ_BUF = 256 := by decide

/-- `ev_home`, `ev_tmpdir` (extern.h) and the static buffer of `defaultconf` are declared `[PATH_MAX]`: the sizes
regenerated from the declarations equal the platform limit (a buffer declared with another size breaks these and with
them every `C18_*` theorem about start-up). -/
@[simp] theorem Gen_evHomeSize_eq : Gen.evHomeSize = PATH_MAX := by decide
@[simp] theorem Gen_evTmpdirSize_eq : Gen.evTmpdirSize = PATH_MAX := by decide
@[simp] theorem Gen_defaultconfSize_eq : Gen.defaultconfSize = PATH_MAX := by decide
@[simp] theorem Gen_evHostnameSize_eq : Gen.evHostnameSize = 256 := by decide

end Mdsort.Model
