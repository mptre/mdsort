import Mdsort.Proofs.LimitsTrace
import Mdsort.Proofs.LimitsConf

/-!
# The run from the configuration TEXT under two sets of limits

`mainTextL L` parses the configuration with an `expandtilde` buffer of `L.pathMax` bytes and runs `mainPL L` over the
trees.  For `L ≤ L'`: either both parsers give the same verdict and the runs are those of `mainPL_psim`, or the parser
under `L` rejects the configuration ("path too long") - then the run under `L` opens and closes the configuration file,
which the run under `L'` does as well, and stops with the error status: no maildir is opened.
-/

namespace Mdsort.Proofs.Limits
open Mdsort Mdsort.Model Mdsort.Proofs.World

theorem parseConfigL_invalidDefs_iff (l : Lim) (home : Bytes) (defs : List (Bytes × Bytes)) (rxOk : Pat → Bool) (input : Bytes) :
    parseConfigL l home defs rxOk input = .invalidDefs ↔ macrosOfDefs defs [] = none := by
  unfold parseConfigL
  fun_cases parseConfigFullL l home defs rxOk input
  -- the definitions of the command line are read before the text: every later exit has them
  case case1 h => exact iff_of_true rfl h
  all_goals simp [*]

/-- A run that stops with the error status after the configuration file (`confOk = false`). -/
theorem mainPL_badconf_sim {L L' : Limits} (env : PEnv) (orc : EvalOracles) (confOk : Bool) (conf conf0 : List ConfBlock) (files : Files)
    (input : Bytes) :
    Sim (Stopped MainErr) (mainPL L env orc false conf0 files input) (mainPL L' env orc confOk conf files input) := by
  unfold mainPL
  simp only [bind_eq, pure_eq, call_bind, Bool.not_false, if_true]
  apply Sim.call
  intro r
  split
  · apply Sim.call
    intro _
    refine Sim.stop _ _ ⟨_, Prog.ret _, Prog.ret, rfl, trivial, ?_⟩
    exact ⟨rfl, exitStatus_ne_zero env _ rfl⟩
  · exact Sim.refl _

theorem mainTextL_sim {L L' : Limits} (hle : L ≤ L') (hs : Sane L) (env : PEnv) (orc : EvalOracles) (rxOk : Pat → Bool)
    (defs : List (Bytes × Bytes)) (confText : Bytes) (files : Files) (input : Bytes) :
    Sim (Stopped MainErr) (mainTextL L env orc rxOk defs confText files input) (mainTextL L' env orc rxOk defs confText files input) := by
  unfold mainTextL
  rcases parseConfigL_mono hle.1 env.home defs rxOk confText with h | ⟨line, h⟩
  · rw [h]
    split
    · exact Sim.refl _
    · split
      · exact (mainPL_psim env orc L L' true _ files input).sim hle hs
      · exact (mainPL_psim env orc L L' false _ files input).sim hle hs
    · exact (mainPL_psim env orc L L' false _ files input).sim hle hs
    · exact (mainPL_psim env orc L L' false _ files input).sim hle hs
  · rw [h]
    simp only
    have hnd : parseConfigL L'.pathMax env.home defs rxOk confText ≠ .invalidDefs := by
      intro h'
      have h1 := (parseConfigL_invalidDefs_iff L'.pathMax env.home defs rxOk confText).1 h'
      have h2 := (parseConfigL_invalidDefs_iff L.pathMax env.home defs rxOk confText).2 h1
      rw [h] at h2
      cases h2
    split
    · rename_i h'; exact absurd h' hnd
    · split
      · exact mainPL_badconf_sim env orc _ _ _ files input
      · exact mainPL_badconf_sim env orc _ _ _ files input
    · exact mainPL_badconf_sim env orc _ _ _ files input
    · exact mainPL_badconf_sim env orc _ _ _ files input

/-- A configuration rejected by the parser (here: for an over-long `~` path) is rejected as a whole: the run is the one of
`Model.mainP` with verdict "rejected" - the configuration file is opened and closed, nothing else. -/
theorem mainTextL_rejected (L : Limits) (env : PEnv) (orc : EvalOracles) (rxOk : Pat → Bool) (defs : List (Bytes × Bytes))
    (confText : Bytes) (files : Files) (input : Bytes) {line : Nat}
    (h : parseConfigL L.pathMax env.home defs rxOk confText = .error line) :
    mainTextL L env orc rxOk defs confText files input = mainP env orc false [] files input := by
  unfold mainTextL
  rw [h]
  unfold mainPL mainP
  simp only [Bool.not_false, if_true]
  rfl

theorem maildirOpendir_paths (md : Maildir) (p : Bytes) :
    All (fun r : Maildir × Bool => r.1.path = md.path ∧ r.1.root = md.root) (maildirOpendir md p) := by
  unfold maildirOpendir
  simp only [bind_eq, pure_eq, call_bind]
  split
  · intro _ r
    cases r <;> exact ⟨rfl, rfl⟩
  · intro r
    cases r <;> exact ⟨rfl, rfl⟩

/-- What `maildir_close` of the spool will `rmdir(md_path)` after ANY outcome of `maildir_stdin`, overflow included: `md_path`
is empty or `md_root/new` in full, never a shortened path (`md->md_root[0] = '\0'`, `md->md_path[0] = '\0'`: "do not leave
a truncated path behind"). -/
theorem maildirStdinL_paths (L : Limits) (env : PEnv) (input : Bytes) :
    All (fun r : Maildir × Bool × Option Bytes => r.1.path = [] ∨ r.1.path = r.1.root ++ [47] ++ subdirName .new)
      (maildirStdinL L env input) := by
  unfold maildirStdinL
  simp only [bind_eq, pure_eq, call_bind]
  split
  · exact .inl rfl
  · intro r
    dsimp only
    split
    · rename_i root
      cases hj : pathjoinL L.pathMax root (subdirName .new) with
      | none => exact .inl rfl
      | some p =>
        have hp : p = root ++ [47] ++ subdirName .new := by
          rw [pathjoinL_eq] at hj
          split at hj
          · exact (Option.some.inj hj).symm
          · cases hj
        subst hp
        simp only
        intro r2
        dsimp only
        split
        · exact .inr rfl
        · refine All.bind ((maildirOpendir_paths _ _).mono fun x hx => ?_)
          obtain ⟨h1, h2⟩ := hx
          have hgood : x.1.path = x.1.root ++ [47] ++ subdirName .new := by rw [h1, h2]
          split
          · exact .inr hgood
          · apply All.bind_of_forall
            intro g
            split
            · exact .inr hgood
            · apply All.bind_of_forall
              intro _
              apply All.bind_of_forall
              intro _
              intro _
              exact .inr hgood
    · exact .inl rfl

end Mdsort.Proofs.Limits
