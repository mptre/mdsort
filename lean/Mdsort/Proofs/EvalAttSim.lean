import Mdsort.Proofs.EvalSim
import Mdsort.Proofs.EvalRules
import Mdsort.Proofs.EvalAttCond

/-!
# The invariant of the simulation, and the steps of the evaluator under it (C03 with attachments)

What the simulation (`att_sim`, in `EvalAttRules`) is assembled from; the module itself holds no induction over rules.
`keysP` / `planP` are `keysOf` / `planOf` with the part an entry was created for.  `RelG` relates the match list to the
state of the specification run (`G`: the general form, with the flag for a BREAK entry in the list; `RelA` is the form
without), with one lemma per way the evaluator changes the list; under it `blockWrap` is computed (`att_blockWrap_*`).
-/

namespace Mdsort.Proofs
open Mdsort Mdsort.Model Mdsort.Spec

/-- (type, line, part) of the executed action entries of a match list. -/
def keysP (ml : MatchList) : List (MType × Nat × Nat) :=
  (ml.filter fun m => realAct m.ty).map fun m => (m.ty, m.lno, m.part)

@[simp] theorem keysP_nil : keysP [] = [] := rfl
theorem keysP_append (a b : MatchList) : keysP (a ++ b) = keysP a ++ keysP b := by
  simp [keysP]
theorem keysP_cons (x : Match) (b : MatchList) :
    keysP (x :: b) = (if realAct x.ty then [(x.ty, x.lno, x.part)] else []) ++ keysP b := by
  unfold keysP
  by_cases h : realAct x.ty = true <;> simp [h]

def dropPart (k : MType × Nat × Nat) : MType × Nat := (k.1, k.2.1)

theorem keysOf_eq_map (ml : MatchList) : keysOf ml = (keysP ml).map dropPart := by
  simp [keysOf, keysP, dropPart, Function.comp_def]

theorem isMoveFlag_dropPart (k : MType × Nat × Nat) : isMoveFlag (dropPart k) = isMoveFlagP k := rfl

theorem planOf_map_dropPart (ks : List (MType × Nat × Nat)) :
    planOf (ks.map dropPart) = ((planP ks).1.map dropPart, (planP ks).2.map dropPart) := by
  unfold planOf planP
  simp only [List.filter_map, Function.comp_def, isMoveFlag_dropPart, List.getLast?_map]

theorem planOf_of_planP {a b : List (MType × Nat × Nat)} (h : planP a = planP b) :
    planOf (a.map dropPart) = planOf (b.map dropPart) := by
  rw [planOf_map_dropPart, planOf_map_dropPart, h]

theorem planP_snoc (ks : List (MType × Nat × Nat)) (k : MType × Nat × Nat) :
    planP (ks ++ [k]) =
      (ks.filter (fun k => !isMoveFlagP k) ++ (if isMoveFlagP k then [] else [k]),
       if isMoveFlagP k then some k else (ks.filter isMoveFlagP).getLast?) := by
  unfold planP
  by_cases h : isMoveFlagP k = true <;> simp [List.filter_append, h]

theorem keysP_of_mergeRes_filter {ml ml1 : MatchList} {ty : MType} (h : MergeRes ml ty ml1) :
    (keysP ml1).filter (fun k => !isMoveFlagP k) = (keysP ml).filter (fun k => !isMoveFlagP k) := by
  rcases h with h | ⟨_, a, x, b, e1, e2, hx⟩
  · rw [h]
  · subst e1 e2
    simp only [keysP_append, keysP_cons, List.filter_append]
    have : (isMoveFlagP (x.ty, x.lno, x.part)) = true := by
      unfold isMoveFlagP; unfold isMF at hx; simpa using hx
    by_cases hr : realAct x.ty = true <;> simp [hr, this]

theorem att_plan_step {ml ml1 : MatchList} {mh mh' : Match} {ps : List (MType × Nat × Nat)}
    (hplan : planP (keysP ml) = planP ps) (hres : MergeRes ml mh.ty ml1)
    (hty : mh'.ty = mh.ty) (hact : realAct mh.ty = true) :
    planP (keysP (ml1 ++ [mh'])) = planP (ps ++ [(mh.ty, mh'.lno, mh'.part)]) := by
  have hk : keysP (ml1 ++ [mh']) = keysP ml1 ++ [(mh.ty, mh'.lno, mh'.part)] := by
    rw [keysP_append, keysP_cons, hty, hact]; simp
  rw [hk, planP_snoc, planP_snoc, keysP_of_mergeRes_filter hres]
  unfold planP at hplan
  simp only [Prod.mk.injEq] at hplan
  rw [hplan.1]
  by_cases hmf : isMoveFlagP (mh.ty, mh'.lno, mh'.part) = true
  · simp [hmf]
  · have : isMF mh.ty = false := by
      unfold isMoveFlagP at hmf; unfold isMF; simpa using hmf
    rw [hres.eq_of_not_mf this, hplan.2]

theorem keysP_filter_ne (ml : MatchList) (t : MType) (ht : realAct t = false) :
    keysP (ml.filter (·.ty != t)) = keysP ml := by
  unfold keysP
  rw [List.filter_filter]
  congr 1
  apply List.filter_congr
  intro m _
  cases hr : realAct m.ty
  · simp
  · have : m.ty ≠ t := by intro e; rw [e, ht] at hr; cases hr
    simp [this]

/-- The match list against the specification state: pending (part, action) pairs,
`hasPass` = a pass was seen in the current block or in an enclosing one, `hasBrk` = a BREAK entry
is in the list (between the `break` of a rule and the end of the block it leaves).  `plan` compares the plans, not the key
lists: `matches_merge` takes an earlier move / flag entry out of the list (`MergeRes`), so all that stays equal is the
actions other than move / flag in order and the last move-or-flag. -/
structure RelG (L : Nat) (ml : MatchList) (pend : List (Nat × Expr)) (hasPass hasBrk : Bool) : Prop where
  brk : hasTy ml .brk = hasBrk
  pass : hasTy ml .pass = hasPass
  plan : planP (keysP ml) = planP (pend.filterMap actKeyP)
  acts : ∀ a ∈ pend, isActionExpr a.2 = true
  paths : PathInv L ml

/-- The invariant outside the stretch between a `break` and the end of its block. -/
abbrev RelA (L : Nat) (ml : MatchList) (pend : List (Nat × Expr)) (hasPass : Bool) : Prop :=
  RelG L ml pend hasPass false

/-- The evaluator returned the verdict `t`, in a state that stands in `RelG` to the pending actions (and with the Seen
flag as it was, where `old` reads it). -/
def StPost (L : Nat) (od : Bool) (f : MFlags) (r : Tri × St) (t : Tri) (pend : List (Nat × Expr))
    (hasPass hasBrk : Bool) : Prop :=
  ∃ s, r = (t, s) ∧ RelG L s.ml pend hasPass hasBrk ∧ SeenInv od f s

theorem RelA.noBrk {L : Nat} {ml : MatchList} {pend : List (Nat × Expr)} {hp : Bool} (h : RelA L ml pend hp) :
    hasTy ml .brk = false := RelG.brk h

theorem att_filterMap_drop (pend : List (Nat × Expr)) :
    (pend.filterMap actKeyP).map dropPart = (pend.map (·.2)).filterMap actKey := by
  induction pend with
  | nil => rfl
  | cons a r ih =>
    simp only [List.filterMap_cons, List.map_cons]
    cases h : actKey a.2 with
    | none => simp only [actKeyP, h, Option.map_none]; exact ih
    | some k => simp only [actKeyP, h, Option.map_some, List.map_cons, ih]; rfl

theorem RelG.keys_nil_iff {L : Nat} {ml : MatchList} {pend : List (Nat × Expr)} {hasPass hasBrk : Bool}
    (h : RelG L ml pend hasPass hasBrk) :
    keysP ml = [] ↔ pend = [] := by
  have hplan := planOf_of_planP h.plan
  rw [att_filterMap_drop] at hplan
  have hacts : ∀ a ∈ pend.map (·.2), isActionExpr a = true := by
    intro a ha
    obtain ⟨x, hx, rfl⟩ := List.mem_map.1 ha
    exact h.acts x hx
  have h1 := (planOf_eq_nil_iff hplan).trans (filterMap_actKey_eq_nil hacts)
  rwa [List.map_eq_nil_iff, List.map_eq_nil_iff] at h1

theorem att_inert_keysP {X : MatchList} (hX : ∀ m ∈ X, Inert m) : keysP X = [] := by
  unfold keysP
  rw [List.map_eq_nil_iff, List.filter_eq_nil_iff]
  intro m hm
  have := (hX m hm).1
  simp [realAct, this]

theorem RelG.append_inert {L : Nat} {ml : MatchList} {pend : List (Nat × Expr)} {hasPass hasBrk : Bool} (hL : 0 + 1 + L < PATH_MAX)
    (h : RelG L ml pend hasPass hasBrk) {X : MatchList} (hX : ∀ m ∈ X, Inert m) : RelG L (ml ++ X) pend hasPass hasBrk where
  brk := by rw [hasTy_append, h.brk, inert_hasTy hX _ (by rw [isAction_eq]; rfl)]; simp
  pass := by rw [hasTy_append, h.pass, inert_hasTy hX _ (by rw [isAction_eq]; rfl)]; simp
  plan := by rw [keysP_append, att_inert_keysP hX, List.append_nil]; exact h.plan
  acts := h.acts
  paths := h.paths.append (inert_pathInv hL hX)

theorem RelG.step {env : Env} {L : Nat} (hctx : PCtx env L) {ml : MatchList} {pend : List (Nat × Expr)} {hasPass hasBrk : Bool}
    (h : RelG L ml pend hasPass hasBrk) (mh : Match) (hact : realAct mh.ty = true) (hok : okEntry L mh)
    (a : Nat × Expr) (hk : actKeyP a = some (mh.ty, mh.lno, mh.part)) (ha : isActionExpr a.2 = true) :
    ∃ ml', matchesAppend env ml mh = (ml', false) ∧ RelG L ml' (pend ++ [a]) hasPass hasBrk := by
  obtain ⟨ml1, mh', he, hty, hlno, hpart, hok', hres⟩ := matchesAppend_ok hctx ml mh h.paths hok
  refine ⟨_, he, ?_⟩
  constructor
  · rw [hasTy_append, hres.hasTy _ (by decide), h.brk, hasTy_cons, hty, realAct_ne hact (by rw [realAct_eq]; rfl)]; simp
  · rw [hasTy_append, hres.hasTy _ (by decide), h.pass, hasTy_cons, hty, realAct_ne hact (by rw [realAct_eq]; rfl)]; simp
  · have := att_plan_step h.plan hres hty hact
    rw [this, List.filterMap_append, hlno, hpart]
    simp [hk]
  · intro x hx
    rcases List.mem_append.1 hx with hx | hx
    · exact h.acts x hx
    · simp only [List.mem_singleton] at hx; rw [hx]; exact ha
  · apply (hres.pathInv h.paths).append
    intro m hm
    simp only [List.mem_singleton] at hm
    rw [hm]; exact hok'

/-- A marker entry appended: `pass` (`expr_eval_pass`) or `break` (`expr_eval_break`). -/
theorem RelG.marker {L : Nat} {ml : MatchList} {pend : List (Nat × Expr)} {hasPass hasBrk : Bool} (hL : 0 + 1 + L < PATH_MAX)
    (h : RelG L ml pend hasPass hasBrk) (t : MType) (ht : realAct t = false) (lno part : Nat) :
    RelG L (ml ++ [{ ty := t, lno := lno, part := part }]) pend (hasPass || t == .pass) (hasBrk || t == .brk) where
  brk := by rw [hasTy_append, h.brk]; simp [hasTy]
  pass := by rw [hasTy_append, h.pass]; simp [hasTy]
  plan := by
    rw [keysP_append, keysP_cons]
    simp only [ht]
    simpa using h.plan
  acts := h.acts
  paths := by
    apply h.paths.append
    intro m hm
    simp only [List.mem_singleton] at hm
    rw [hm]
    exact ⟨Nat.zero_le _, hL⟩

theorem RelG.marker_pass {L : Nat} {ml : MatchList} {pend : List (Nat × Expr)} {hasPass hasBrk : Bool} (hL : 0 + 1 + L < PATH_MAX)
    (h : RelG L ml pend hasPass hasBrk) (lno part : Nat) :
    RelG L (ml ++ [{ ty := .pass, lno := lno, part := part }]) pend true hasBrk := by
  simpa [show (MType.pass == MType.brk) = false by decide] using h.marker hL .pass (by rw [realAct_eq]; rfl) lno part

theorem RelG.marker_brk {L : Nat} {ml : MatchList} {pend : List (Nat × Expr)} {hasPass hasBrk : Bool} (hL : 0 + 1 + L < PATH_MAX)
    (h : RelG L ml pend hasPass hasBrk) (lno part : Nat) :
    RelG L (ml ++ [{ ty := .brk, lno := lno, part := part }]) pend hasPass true := by
  simpa [show (MType.brk == MType.pass) = false by decide] using h.marker hL .brk (by rw [realAct_eq]; rfl) lno part

theorem RelG.remove_pass {L : Nat} {ml : MatchList} {pend : List (Nat × Expr)} {hasPass hasBrk : Bool}
    (h : RelG L ml pend hasPass hasBrk) :
    RelG L (ml.filter (·.ty != .pass)) pend false hasBrk where
  brk := by rw [hasTy_filter_ne _ _ _ (by decide)]; exact h.brk
  pass := hasTy_filter_ne_self _ _
  plan := by rw [keysP_filter_ne _ _ (by rw [realAct_eq]; rfl)]; exact h.plan
  acts := h.acts
  paths := h.paths.filter _

/-- Removing the break markers (`matches_remove(ml, EXPR_TYPE_BREAK)` in `expr_eval_block`). -/
theorem RelG.remove_brk {L : Nat} {ml : MatchList} {pend : List (Nat × Expr)} {hasPass hasBrk : Bool}
    (h : RelG L ml pend hasPass hasBrk) :
    RelA L (ml.filter (·.ty != .brk)) pend hasPass where
  brk := hasTy_filter_ne_self _ _
  pass := by rw [hasTy_filter_ne _ _ _ (by decide)]; exact h.pass
  plan := by rw [keysP_filter_ne _ _ (by rw [realAct_eq]; rfl)]; exact h.plan
  acts := h.acts
  paths := h.paths.filter _

theorem att_blockWrap_plain {L : Nat} {st : St} {pend : List (Nat × Expr)} (h : RelA L st.ml pend false) (t : Tri)
    (ht : t ≠ .error) : blockWrap (t, st) = (t, st) := by
  cases t
  · simp [blockWrap, h.brk, h.pass]
  · simp [blockWrap, h.brk, h.pass]
  · exact absurd rfl ht

theorem att_blockWrap_pass {L : Nat} {st : St} {pend : List (Nat × Expr)} (h : RelA L st.ml pend true) (t : Tri)
    (ht : t ≠ .error) :
    blockWrap (t, st) =
      (if pend = [] then .nomatch else .match, { st with ml := st.ml.filter (·.ty != .pass) }) := by
  have h' := h.remove_pass
  have hc := count_actions _ h'.brk h'.pass
  rw [keysOf_eq_map, List.length_map] at hc
  have : ((st.ml.filter (·.ty != .pass)).filter (·.ty.isAction)).length = 0 ↔ pend = [] := by
    rw [hc, List.length_eq_zero_iff]; exact h'.keys_nil_iff
  by_cases hp : pend = []
  · have h0 := this.2 hp
    cases t
    · simp only [blockWrap, h.brk, h.pass, Bool.false_eq_true, if_false, if_true, h0, hp, beq_self_eq_true]
    · simp only [blockWrap, h.brk, h.pass, Bool.false_eq_true, if_false, if_true, h0, hp, beq_self_eq_true]
    · exact absurd rfl ht
  · have h0 : (((st.ml.filter (·.ty != .pass)).filter (·.ty.isAction)).length == 0) = false :=
      beq_eq_false_iff_ne.2 (fun e => hp (this.1 e))
    cases t
    · simp only [blockWrap, h.brk, h.pass, Bool.false_eq_true, if_false, if_true, h0, hp]
    · simp only [blockWrap, h.brk, h.pass, Bool.false_eq_true, if_false, if_true, h0, hp]
    · exact absurd rfl ht

theorem att_blockWrap_matched {L : Nat} {od : Bool} {f : MFlags} {st : St} {pend : List (Nat × Expr)} {hasPass : Bool}
    (h : RelA L st.ml pend hasPass) (hs : SeenInv od f st) (hne : pend ≠ []) :
    StPost L od f (blockWrap (.match, st)) .match pend false false := by
  cases hasPass
  · rw [att_blockWrap_plain h _ (by decide)]
    exact ⟨st, rfl, h, hs⟩
  · rw [att_blockWrap_pass h _ (by decide), if_neg hne]
    exact ⟨_, rfl, h.remove_pass, hs⟩

/-- A `break` was just appended: the case of `att_blockWrap_hasBrk` in which the epilogue gives the list back as it was. -/
theorem att_blockWrap_break {L : Nat} {st : St} {pend : List (Nat × Expr)} {hp : Bool} (h : RelA L st.ml pend hp)
    (lno part : Nat) (t : Tri) (ht : t ≠ .error) :
    blockWrap (t, { st with ml := st.ml ++ [{ ty := .brk, lno := lno, part := part }] }) = (.nomatch, st) := by
  have : (st.ml ++ [({ ty := .brk, lno := lno, part := part } : Match)]).filter (·.ty != .brk) = st.ml := by
    rw [List.filter_append, filter_ne_of_not_hasTy _ _ h.brk]; simp
  cases t
  · simp [blockWrap, hasTy, this]
  · simp [blockWrap, hasTy, this]
  · exact absurd rfl ht

/-- A BREAK entry is in the list, anywhere. -/
theorem att_blockWrap_hasBrk {L : Nat} {st : St} {pend : List (Nat × Expr)} {hasPass : Bool} (h : RelG L st.ml pend hasPass true)
    (t : Tri) (ht : t ≠ .error) :
    blockWrap (t, st) = (.nomatch, { st with ml := st.ml.filter (·.ty != .brk) }) := by
  cases t
  · simp [blockWrap, h.brk]
  · simp [blockWrap, h.brk]
  · exact absurd rfl ht

theorem att_exprAppend_step {env : Env} {L : Nat} (hctx : PCtx env L) {o : Bool} {f : MFlags} {st : St}
    {pend : List (Nat × Expr)} {hasPass hasBrk : Bool} (h : RelG L st.ml pend hasPass hasBrk) (hs : SeenInv o f st) (mh : Match)
    (hact : realAct mh.ty = true) (hok : okEntry L mh)
    (a : Nat × Expr) (hk : actKeyP a = some (mh.ty, mh.lno, mh.part)) (ha : isActionExpr a.2 = true) :
    ∃ st', exprAppend env mh st .match = (.match, st') ∧ RelG L st'.ml (pend ++ [a]) hasPass hasBrk ∧ SeenInv o f st' := by
  obtain ⟨ml', h1, h2⟩ := h.step hctx mh hact hok a hk ha
  unfold exprAppend
  rw [h1]
  exact ⟨_, rfl, h2, hs⟩

theorem att_act_eval {env : Env} {L : Nat} (hctx : PCtx env L) (root : Msg) {o : Bool} {f : MFlags} (a : Expr)
    (k : Nat) (m : Msg) (ha : isActionExpr a = true) (hok : okA L o k a) (st : St) (pend : List (Nat × Expr))
    (hasPass : Bool) {hasBrk : Bool} (hR : RelG L st.ml pend hasPass hasBrk) (hs : SeenInv o f st) :
    (actionErr a = true ∧ (eval env root a k m st).1 = .error) ∨
    (actionErr a = false ∧ ∃ st', eval env root a k m st = (.match, st') ∧ RelG L st'.ml (pend ++ [(k, a)]) hasPass hasBrk ∧
      SeenInv o f st') := by
  have hL := hctx.hL
  have ok0 : ∀ x : Match, x.maildir = [] → x.subdir = [] → okEntry L x := by
    intro x h1 h2; unfold okEntry; rw [h1, h2]; exact ⟨Nat.zero_le _, hL⟩
  cases a with
  | move lno path =>
    obtain ⟨_, hmv, _⟩ := hok
    simp only [movesFitA, Bool.or_eq_true, decide_eq_true_eq] at hmv
    by_cases hlen : path.length ≥ PATH_MAX
    · left
      refine ⟨by simp [actionErr, hlen], ?_⟩
      simp [eval, strlcpyFits, hlen]
    · right
      refine ⟨by simp [actionErr, hlen], ?_⟩
      have hfit : path.length + 1 + L < PATH_MAX := by
        rcases hmv with h | h
        · exact absurd h hlen
        · exact h
      simp only [eval, strlcpyFits, hlen, if_false]
      exact att_exprAppend_step hctx hR hs _ (by dsimp only; rw [realAct_eq]; rfl) (by unfold okEntry; exact ⟨Nat.zero_le _, hfit⟩)
        (k, _) rfl rfl
  | flag lno sd =>
    obtain ⟨hw, _, hmx, _⟩ := hok
    simp only [att_wfG, decide_eq_true_eq] at hw
    simp only [maxSubdirA] at hmx
    right
    refine ⟨rfl, ?_⟩
    have : ¬ sd.length ≥ NAME_MAX1 := by omega
    simp only [eval, strlcpyFits, this, if_false]
    exact att_exprAppend_step hctx hR hs _ (by dsimp only; rw [realAct_eq]; rfl) (by unfold okEntry; exact ⟨hmx, hL⟩) (k, _) rfl rfl
  | flags lno fl =>
    by_cases herr : fl.any (fun c => !isalpha c) = true
    · left
      refine ⟨by simp only [actionErr]; exact herr, ?_⟩
      rw [eval]
      have := setAll_snd fl st.flags false
      rw [Bool.false_or, herr] at this
      generalize eval.setAll fl st.flags false = r at this
      rcases r with ⟨mf, e⟩
      simp only at this
      subst this
      rfl
    · right
      have herr' : fl.any (fun c => !isalpha c) = false := by simpa using herr
      refine ⟨by simp only [actionErr]; exact herr', ?_⟩
      rw [eval]
      have := setAll_snd fl st.flags false
      rw [Bool.false_or, herr'] at this
      have hseen : SeenInv o f { st with flags := (eval.setAll fl st.flags false).1 } := by
        intro ho
        have hk := hok.2.2.2.2 ho
        simp only [flagsKeepSeenA, Bool.not_eq_true', List.contains_eq_mem, decide_eq_false_iff_not] at hk
        have : ∀ c ∈ fl, c ≠ 83 := fun c hc e => hk (e ▸ hc)
        show flagsIsSet (eval.setAll fl st.flags false).1 83 = _
        rw [setAll_seen fl st.flags false this]
        exact hs ho
      generalize eval.setAll fl st.flags false = r at this hseen
      rcases r with ⟨mf, e⟩
      simp only at this
      subst this
      simp only [Bool.false_eq_true, if_false]
      exact att_exprAppend_step (st := { st with flags := mf }) hctx hR hseen _ (by dsimp only; rw [realAct_eq]; rfl) (ok0 _ rfl rfl)
        (k, _) rfl rfl
  | discard _ | label _ _ | reject _ | exec _ _ _ _ | addHeader _ _ _ =>
    right; refine ⟨rfl, ?_⟩; rw [eval]
    exact att_exprAppend_step hctx hR hs _ (by dsimp only; rw [realAct_eq]; rfl) (ok0 _ rfl rfl) (k, _) rfl rfl
  | _ => simp [isActionExpr] at ha

theorem att_eval_mtch (env : Env) (root : Msg) (lno : Nat) (c rhs : Expr) (k : Nat) (m : Msg) (st : St) :
    eval env root (.mtch lno c rhs) k m st =
      match eval env root c k m { st with ml := st.ml ++ [{ ty := .mtch, lno := lno, part := k }] } with
      | (.match, st1) => eval env root rhs k m st1
      | other => other := by
  rw [eval, matchesAppend_plain env st.ml _ (by dsimp only; rw [isPath_eq]; rfl) (by dsimp only; decide)]
  rfl

theorem att_eval_pass (env : Env) (root : Msg) (lno : Nat) (k : Nat) (m : Msg) (st : St) :
    eval env root (.pass lno) k m st =
      (.nomatch, { st with ml := st.ml ++ [{ ty := .pass, lno := lno, part := k }] }) := by
  rw [eval]; unfold exprAppend
  rw [matchesAppend_plain env st.ml _ (by dsimp only; rw [isPath_eq]; rfl) (by dsimp only; decide)]
  rfl

theorem att_eval_brk (env : Env) (root : Msg) (lno : Nat) (k : Nat) (m : Msg) (st : St) :
    eval env root (.brk lno) k m st =
      (.match, { st with ml := st.ml ++ [{ ty := .brk, lno := lno, part := k }] }) := by
  rw [eval]; unfold exprAppend
  rw [matchesAppend_plain env st.ml _ (by dsimp only; rw [isPath_eq]; rfl) (by dsimp only; decide)]
  rfl

/-- Condition of a rule evaluated after the sentinel, on part `(k, m)`. -/
theorem att_rule_cond {env : Env} {L : Nat} (hctx : PCtx env L) (root : Msg) (f : MFlags) {o : Bool} (lno : Nat)
    (c rhs : Expr) (k : Nat) (m : Msg) (hc : isCond c = true) (hw : att_wfG c = true)
    (ho : k = 0 → hasOld c = true → o = true) (st : St)
    {pend : List (Nat × Expr)} {hasPass : Bool} (hR : RelA L st.ml pend hasPass) (hs : SeenInv o f st) :
    ∃ st1, RelA L st1.ml pend hasPass ∧ SeenInv o f st1 ∧
      eval env root (.mtch lno c rhs) k m st =
        match condValA (partCtx env root f) c k m with
        | .match => eval env root rhs k m st1
        | t => (t, st1) := by
  obtain ⟨X, hX, he⟩ := att_cond_eval env root f c hc hw k m
    { st with ml := st.ml ++ [{ ty := .mtch, lno := lno, part := k }] } (fun z x => hs (ho z x))
  refine ⟨{ ml := st.ml ++ [{ ty := .mtch, lno := lno, part := k }] ++ X, flags := st.flags }, ?_, hs, ?_⟩
  rotate_left
  · rw [att_eval_mtch, he]
    cases condValA (partCtx env root f) c k m <;> rfl
  · dsimp only
    apply (hR.append_inert hctx.hL _).append_inert hctx.hL hX
    intro x hx
    simp only [List.mem_singleton] at hx
    rw [hx]; exact inert_sentinel lno k

end Mdsort.Proofs
