import Mdsort.Proofs.EvalAttParse

/-!
# The shape with `pass` / `break` last is a special case of the shape with them anywhere (C03)

`Spec.parseRulesA` (control action last) accepts a subset of what `Spec.parseRulesAW` accepts and
gives the same rules; a tree it accepts is `ctlPlaced`.  This is what makes the theorems stated
over `parseBlockA` corollaries of the ones stated over `parseBlockAW`.
-/

namespace Mdsort.Proofs
open Mdsort Mdsort.Model Mdsort.Spec

theorem ctlPlaced_of_isCond : ∀ (c : Expr), isCond c = true → ctlPlaced c = true := by
  intro c
  induction c with
  | and _ l r ihl ihr =>
    intro h
    simp only [isCond, Bool.and_eq_true] at h
    simp [ctlPlaced, ihl h.1, ihr h.2]
  | or _ l r ihl ihr =>
    intro h
    simp only [isCond, Bool.and_eq_true] at h
    simp [ctlPlaced, ihl h.1, ihr h.2]
  | neg _ e ih => intro h; simp only [isCond] at h; simp [ctlPlaced, ih h]
  | attachment _ e ih => intro h; simp only [isCond] at h; simp [ctlPlaced, ih h]
  | _ => intro h; first | rfl | simp [isCond] at h

theorem ctlPlaced_of_andChain : ∀ (e : Expr), (∀ y ∈ andChain e, ctlPlaced y = true) → ctlPlaced e = true := by
  intro e
  induction e with
  | and lno l r ihl _ =>
    intro h
    rw [andChain] at h
    simp only [ctlPlaced, Bool.and_eq_true]
    exact ⟨ihl fun y hy => h y (by simp [hy]), h r (by simp)⟩
  | _ =>
    intro h
    exact h _ (by simp [andChain])

theorem placedOK_noctl : ∀ (es : List Expr), (∀ x ∈ es, isCtlExpr x = Option.none) → placedOK es = true := by
  intro es
  induction es with
  | nil => intro _; rfl
  | cons x xs ih =>
    intro h
    rw [placedOK_cons_plain x xs (h x (by simp))]
    exact ih fun y hy => h y (by simp [hy])

theorem placedOK_ctl_last : ∀ (es : List Expr) (xc : Expr), (∀ x ∈ es, isCtlExpr x = Option.none) →
    (isCtlExpr xc).isSome = true → placedOK (es ++ [xc]) = true := by
  intro es
  induction es with
  | nil =>
    intro xc _ hc
    rcases isCtlExpr_cases xc with hn | ⟨l, rfl⟩ | ⟨l, rfl⟩
    · rw [hn] at hc; cases hc
    · rfl
    · rfl
  | cons x xs ih =>
    intro xc h hc
    rw [List.cons_append, placedOK_cons_plain x _ (h x (by simp))]
    exact ih xc (fun y hy => h y (by simp [hy])) hc

theorem ctlOfList_ctl_last (es : List Expr) (xc : Expr) (ctl : Ctl) (hes : ∀ x ∈ es, isCtlExpr x = Option.none)
    (hcx : isCtlExpr xc = some ctl) : ctlOfList (es ++ [xc]) = some ctl := by
  obtain ⟨hp, hb⟩ := any_ctl_noctl es hes
  rcases isCtlExpr_spec hcx with ⟨rfl, lp, rfl⟩ | ⟨rfl, lb, rfl⟩ <;>
    simp [ctlOfList, hp, hb, isPassExpr, isBrkExpr, isCtlExpr]

theorem ctlPlaced_of_isCtl {x : Expr} {ctl : Ctl} (h : isCtlExpr x = some ctl) : ctlPlaced x = true := by
  rcases isCtlExpr_spec h with ⟨_, lp, rfl⟩ | ⟨_, lb, rfl⟩ <;> rfl

theorem ctlPlaced_of_action {a : Expr} (h : isActionExpr a = true) : ctlPlaced a = true := by
  cases a <;> simp [isActionExpr] at h <;> rfl

theorem att_isCtl_of_action {a : Expr} (h : isActionExpr a = true) : isCtlExpr a = Option.none := by
  cases a <;> simp [isActionExpr] at h <;> rfl

def WidensAct (e : Expr) : Prop :=
  ∀ a, parseActA e = some a → parseActAW e = some a ∧ isCtlExpr e = Option.none ∧ ctlPlaced e = true

def WidensRule (e : Expr) : Prop := ∀ r, parseRuleA e = some r → parseRuleAW e = some r ∧ ctlPlaced e = true

def WidensRules (e : Expr) : Prop := ∀ rs, parseRulesA e = some rs → parseRulesAW e = some rs ∧ ctlPlaced e = true

def WidensChain (e : Expr) : Prop :=
  ∀ as, parseChainA e = some as →
    parseChainAW e = some as ∧ (∀ y ∈ andChain e, isCtlExpr y = Option.none) ∧ ctlPlaced e = true

theorem WidensChain.and {l r : Expr} (lno : Nat) (hl : WidensChain l) (hr : WidensAct r) : WidensChain (.and lno l r) := by
  intro as h
  rw [parseChainA] at h
  split at h
  · rename_i ls x h1 h2
    cases h
    obtain ⟨g1, g2, g3⟩ := hl ls h1
    obtain ⟨k1, k2, k3⟩ := hr x h2
    refine ⟨by simp [parseChainAW, g1, k1, k2], ?_, by simp [ctlPlaced, g3, k3]⟩
    intro y hy
    rw [andChain] at hy
    rcases List.mem_append.1 hy with hy | hy
    · exact g2 y hy
    · rw [List.mem_singleton.1 hy]; exact k2
  · cases h

theorem WidensChain.leaf {e : Expr} (hne : ∀ lno l r, e = .and lno l r → False) (he : WidensAct e) : WidensChain e := by
  intro as h
  rw [parseChainA.eq_2 _ hne] at h
  obtain ⟨x, hx, rfl⟩ := Option.map_eq_some_iff.1 h
  obtain ⟨k1, k2, k3⟩ := he x hx
  rw [att_andChain_leaf e fun _ _ _ h => hne _ _ _ h]
  refine ⟨?_, by simpa using k2, k3⟩
  rw [att_parseChainAW_leaf e fun _ _ _ h => hne _ _ _ h, k2, k1]
  rfl

theorem ctlPlaced_mtch {lno : Nat} {c rhs : Expr} (hc : isCond c = true) (hnb : ∀ l e, rhs ≠ .block l e)
    (hr : ctlPlaced rhs = true) (hpo : placedOK (andChain rhs) = true) : ctlPlaced (.mtch lno c rhs) = true := by
  simp only [ctlPlaced, Bool.and_eq_true]
  refine ⟨⟨ctlPlaced_of_isCond c hc, hr⟩, ?_⟩
  cases rhs <;> first | exact hpo | exact absurd rfl (hnb _ _)

theorem WidensChain.rule {lno : Nat} {c rhs : Expr} {as : List ActA} (hc : isCond c = true) (hnb : ∀ l e, rhs ≠ .block l e)
    (h : WidensChain rhs) (has : parseChainA rhs = some as) :
    parseRuleAW (.mtch lno c rhs) = some (.acts lno c as .none) ∧ ctlPlaced (.mtch lno c rhs) = true := by
  obtain ⟨g1, g2, g3⟩ := h as has
  exact ⟨by rw [parseRuleAW_acts lno c rhs hc hnb, ctlOfList_noctl _ g2, g1], ctlPlaced_mtch hc hnb g3 (placedOK_noctl _ g2)⟩

/-- By the induction principle Lean derives from the four definitions (`#check @parseActA.mutual_induct` shows it): one
case per arm of `parseActA`, `parseRulesA`, `parseRuleA`, `parseChainA`, in that order and, within a function, in the
order of the text of `Spec/RulesAtt.lean`; the comment at each bullet names the arm.  The arms in which a function
returns `none` are there too (nothing to show); where simp unfolds a function it finds in the context what the arm
assumes of the sub-results. -/
theorem att_widen : (∀ e, WidensAct e) ∧ (∀ e, WidensRules e) ∧ (∀ e, WidensRule e) ∧ ∀ e, WidensChain e := by
  refine parseActA.mutual_induct WidensAct WidensRules WidensRule WidensChain ?_ ?_ ?_ ?_ ?_ ?_ ?_ ?_ ?_ ?_ ?_ ?_ ?_ ?_ ?_ ?_ ?_
  -- `parseActA`: an attachment block `attachment { e }`
  · intro l lno e ih a h
    simp only [parseActA, Option.map_eq_some_iff] at h
    obtain ⟨rs, h1, rfl⟩ := h
    obtain ⟨g1, g2⟩ := ih rs h1
    simp [parseActAW, g1, ctlPlaced, g2, isCtlExpr]
  -- `parseActA`: any other node that is an action
  · intro a hna hact b h
    rw [parseActA.eq_2 a hna, if_pos hact] at h
    cases h
    exact ⟨by rw [parseActAW.eq_2 a hna, if_pos hact], att_isCtl_of_action hact, ctlPlaced_of_action hact⟩
  -- `parseActA`: any other node that is no action (`none`)
  · intro a hna hact b h
    rw [parseActA.eq_2 a hna, if_neg hact] at h
    cases h
  -- `parseRulesA` on `or l r`: both sides parse
  · intro lno l r ls x hr hl ihl ihr rs h
    rw [parseRulesA, hl, hr] at h
    cases h
    obtain ⟨g1, g2⟩ := ihl ls hl
    obtain ⟨k1, k2⟩ := ihr x hr
    simp [parseRulesAW, g1, k1, ctlPlaced, g2, k2]
  -- `parseRulesA` on `or l r`: one side does not (`none`)
  · intro lno l r hno _ _ rs h
    rw [parseRulesA] at h
    split at h
    · exact (hno _ _ ‹_› ‹_›).elim
    · cases h
  -- `parseRulesA` on a node that is no `or`: one rule
  · intro e hne ih rs h
    rw [parseRulesA.eq_2 e hne] at h
    obtain ⟨x, hx, rfl⟩ := Option.map_eq_some_iff.1 h
    obtain ⟨g1, g2⟩ := ih x hx
    exact ⟨by rw [parseRulesAW.eq_2 e hne, g1]; rfl, g2⟩
  -- `parseRuleA` on `match c rhs`: `c` is no condition (`none`)
  · intro lno c rhs hc r h
    rw [parseRuleA.eq_def] at h
    simp only [hc, if_true] at h
    cases h
  -- `parseRuleA`: `rhs` is a nested block
  · intro lno c hc lno1 e ih r h
    have hc' : isCond c = true := by simpa using hc
    simp only [parseRuleA, hc', Bool.not_true, Bool.false_eq_true, if_false, Option.map_eq_some_iff] at h
    obtain ⟨rs, h1, rfl⟩ := h
    obtain ⟨g1, g2⟩ := ih rs h1
    simp [parseRuleAW, hc', g1, ctlPlaced, g2, ctlPlaced_of_isCond c hc']
  -- `parseRuleA`: `rhs` is `and l r` with `r` a `pass` / `break`
  · intro lno c hc n l r ctl hctl ih rr h
    have hc' : isCond c = true := by simpa using hc
    have hnb : ∀ l' e, Expr.and n l r ≠ .block l' e := fun _ _ hh => by cases hh
    simp only [parseRuleA, hc', Bool.not_true, Bool.false_eq_true, if_false, hctl, Option.map_eq_some_iff] at h
    obtain ⟨as, h1, rfl⟩ := h
    obtain ⟨g1, g2, g3⟩ := ih as h1
    refine ⟨?_, ctlPlaced_mtch hc' hnb (by simp [ctlPlaced, g3, ctlPlaced_of_isCtl hctl])
      (placedOK_ctl_last _ r g2 (by rw [hctl]; rfl))⟩
    rw [parseRuleAW_acts lno c _ hc' hnb, andChain, ctlOfList_ctl_last _ r ctl g2 hctl, parseChainAW, g1]
    simp [hctl]
  -- `parseRuleA`: `rhs` is `and l r` with `r` an action, chain and action parse
  · intro lno c hc n l r hnc ls x hr hl ihl ihr rr h
    have hc' : isCond c = true := by simpa using hc
    simp only [parseRuleA, hc', Bool.not_true, Bool.false_eq_true, if_false, hnc, hl, hr, Option.some.injEq] at h
    subst h
    exact (ihl.and n ihr).rule hc' (fun _ _ hh => by cases hh) (by rw [parseChainA, hl, hr])
  -- `parseRuleA`: `rhs` is `and l r` with `r` no control, chain or action does not parse (`none`)
  · intro lno c hc n l r hnc hno _ _ rr h
    have hc' : isCond c = true := by simpa using hc
    simp only [parseRuleA, hc', Bool.not_true, Bool.false_eq_true, if_false, hnc] at h
    cases h
  -- `parseRuleA`: `rhs` is a single node, a `pass` / `break`
  · intro lno c hc e hnb hna ctl hctl rr h
    have hc' : isCond c = true := by simpa using hc
    have hnb' : ∀ l' e', e ≠ .block l' e' := fun _ _ hh => hnb _ _ hh
    rw [parseRuleA.eq_3 lno c e hnb hna] at h
    simp only [hc', Bool.not_true, Bool.false_eq_true, if_false, hctl, Option.some.injEq] at h
    subst h
    have hleaf := att_andChain_leaf e fun _ _ _ hh => hna _ _ _ hh
    have hcl : ctlOfList [e] = some ctl := ctlOfList_ctl_last [] e ctl (by simp) hctl
    have hpo : placedOK [e] = true := placedOK_ctl_last [] e (by simp) (by rw [hctl]; rfl)
    refine ⟨?_, ctlPlaced_mtch hc' hnb' (ctlPlaced_of_isCtl hctl) (by rw [hleaf]; exact hpo)⟩
    rw [parseRuleAW_acts lno c e hc' hnb', hleaf, hcl, att_parseChainAW_leaf e fun _ _ _ hh => hna _ _ _ hh]
    simp [hctl]
  -- `parseRuleA`: `rhs` is a single node, no control
  · intro lno c hc e hnb hna hnc ih rr h
    have hc' : isCond c = true := by simpa using hc
    rw [parseRuleA.eq_3 lno c e hnb hna] at h
    simp only [hc', Bool.not_true, Bool.false_eq_true, if_false, hnc, Option.map_eq_some_iff] at h
    obtain ⟨x, hx, rfl⟩ := h
    exact (WidensChain.leaf hna ih).rule hc' (fun _ _ hh => hnb _ _ hh) (by rw [parseChainA.eq_2 e hna, hx]; rfl)
  -- `parseRuleA` on a node that is no `match` (`none`)
  · intro x hx r h
    rw [parseRuleA.eq_4 x hx] at h
    cases h
  -- `parseChainA` on `and l r`: both parse
  · intro lno l r ls x hr hl ihl ihr
    exact ihl.and lno ihr
  -- `parseChainA` on `and l r`: one does not
  · intro lno l r hno ihl ihr
    exact ihl.and lno ihr
  -- `parseChainA` on a node that is no `and`: one action
  · intro e hne ih
    exact WidensChain.leaf hne ih

theorem att_parseBlockAW_of_parseBlockA {e : Expr} {rs : List RuleA} (h : parseBlockA e = some rs) :
    parseBlockAW e = some rs ∧ ctlPlaced e = true := by
  cases e with
  | block lno e' =>
    simp only [parseBlockA] at h
    obtain ⟨g1, g2⟩ := att_widen.2.1 e' rs h
    exact ⟨by simpa [parseBlockAW] using g1, by simpa [ctlPlaced] using g2⟩
  | _ => simp [parseBlockA] at h

end Mdsort.Proofs
