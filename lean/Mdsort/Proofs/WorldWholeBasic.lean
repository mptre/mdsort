import Mdsort.Proofs.WorldMid

/-!
# Whole-run loss-freedom: the frame relation `WholeK` (every fault plan)

Unlike `Mid` (WorldMid), `WholeK` does not describe the entries exactly - entries that were free may be bound -, so that it
survives a failed roll-back (a stray entry under a fresh name).
-/

namespace Mdsort.Proofs.World
open Mdsort Mdsort.Model

/-- From `w` to `w'` every entry other than `a` that was bound is bound to the same file, every file that existed has its
content, every handle below the cut `H` is untouched, directories persist.  Entries that were free may be bound in `w'`. -/
structure WholeK (a : Ent) (H : Nat) (w w' : World) : Prop where
  look : ∀ x fid, x ≠ a → lk w x = some fid → lk w' x = some fid
  files : ∀ g, g < w.nextFid → w'.file g = w.file g
  nextFid : w.nextFid ≤ w'.nextFid
  objs : ∀ h, h < H → w'.obj h = w.obj h
  len : w.handles.length ≤ w'.handles.length
  dirSome : ∀ q, (w.dir q).isSome → (w'.dir q).isSome
  cut : H ≤ w.handles.length

theorem WholeK.refl (a : Ent) {H : Nat} (w : World) (hH : H ≤ w.handles.length) : WholeK a H w w :=
  ⟨fun _ _ _ h => h, fun _ _ => rfl, Nat.le_refl _, fun _ _ => rfl, Nat.le_refl _, fun _ h => h, hH⟩

theorem WholeK.dirPath {a : Ent} {H : Nat} {w w' : World} (k : WholeK a H w w') {h : Handle} {p : Bytes}
    (hp : w.dirPath h = some p) (hh : h < H) : w'.dirPath h = some p := by
  rw [← hp]; exact dirPath_congr (k.objs h hh)

theorem WholeK.mono_cut {a : Ent} {H H' : Nat} {w w' : World} (k : WholeK a H w w') (h : H' ≤ H) : WholeK a H' w w' :=
  ⟨k.look, k.files, k.nextFid, fun x hx => k.objs x (Nat.lt_of_lt_of_le hx h), k.len, k.dirSome, Nat.le_trans h k.cut⟩

theorem WholeK.of_mid {a : Ent} {H : Nat} {w w' : World} {L : Ent → Option Nat} (m : Mid w w' L)
    (hL : ∀ x fid, x ≠ a → lk w x = some fid → L x = some fid) (hH : H ≤ w.handles.length) : WholeK a H w w' := by
  refine ⟨?_, m.files, m.nextFid, ?_, m.len, ?_, hH⟩
  · intro x fid hx h; rw [m.look]; exact hL x fid hx h
  · intro h hh; exact m.objs h (Nat.lt_of_lt_of_le hh hH)
  · intro q hq; rw [m.dirSome]; exact hq

theorem WholeK.of_mid_same {a : Ent} {H : Nat} {w w' : World} (m : Mid w w' (lk w)) (hH : H ≤ w.handles.length) :
    WholeK a H w w' := WholeK.of_mid m (fun _ _ _ h => h) hH

theorem WholeK.trans {a b : Ent} {H H' : Nat} {w0 w1 w2 : World} (k1 : WholeK a H w0 w1) (k2 : WholeK b H' w1 w2)
    (hb : b = a ∨ lk w0 b = none) (hH : H ≤ H') : WholeK a H w0 w2 := by
  refine ⟨?_, ?_, Nat.le_trans k1.nextFid k2.nextFid, ?_, Nat.le_trans k1.len k2.len, ?_, k1.cut⟩
  · intro x fid hxa h
    refine k2.look x fid ?_ (k1.look x fid hxa h)
    rcases hb with rfl | hb
    · exact hxa
    · rintro rfl; rw [hb] at h; cases h
  · intro g hg
    rw [k2.files g (Nat.lt_of_lt_of_le hg k1.nextFid), k1.files g hg]
  · intro h hh
    rw [k2.objs h (Nat.lt_of_lt_of_le hh hH), k1.objs h hh]
  · intro q hq; exact k2.dirSome q (k1.dirSome q hq)

theorem WholeK.of_same {a : Ent} {H : Nat} {w w1 w2 : World} (k : WholeK a H w w1) (h : SameFs w1 w2) : WholeK a H w w2 := by
  refine ⟨?_, ?_, ?_, ?_, ?_, ?_, k.cut⟩
  · intro x fid hx hl; unfold lk; rw [h.lookup]; exact k.look x fid hx hl
  · intro g hg; rw [h.file]; exact k.files g hg
  · rw [h.nextFid]; exact k.nextFid
  · intro x hx; rw [h.obj]; exact k.objs x hx
  · rw [h.handles]; exact k.len
  · intro q hq; rw [h.dir]; exact k.dirSome q hq

theorem WholeK.step {a : Ent} {H : Nat} {w w' : World} (k : WholeK a H w w') (c : Call) (r : Res)
    (hd : Call.dirOp c = false) (hsub : ∀ h, Call.subject c = some h → H ≤ h)
    (hfs : ∀ g, g < w.nextFid → fileSafe w' g c) : WholeK a H w (stepWorld w' c r) := by
  have hdirs : (stepWorld w' c r).dirs = w'.dirs := by rw [stepWorld_dirs]; exact core_dirs w' c r hd
  refine ⟨?_, ?_, ?_, ?_, ?_, ?_, k.cut⟩
  · intro x fid hx hl
    rw [lk_step _ _ _ hd]; exact k.look x fid hx hl
  · intro g hg
    rw [stepWorld_file, core_file w' c r g (Nat.lt_of_lt_of_le hg k.nextFid) (hfs g hg), k.files g hg]
  · simpa using Nat.le_trans k.nextFid (core_nextFid w' c r)
  · intro h hh
    rw [stepWorld_obj, core_obj w' c r h (Nat.lt_of_lt_of_le hh (Nat.le_trans k.cut k.len)), k.objs h hh]
    intro hs
    have := hsub h hs
    omega
  · simpa using Nat.le_trans k.len (core_len w' c r)
  · intro q hq
    rw [dir_of_dirs hdirs q]; exact k.dirSome q hq

theorem WholeK.of_fr1 {a : Ent} {H : Nat} {w w1 w2 : World} {S : Nat → Prop} (k : WholeK a H w w1) (fr : Fr1 S w1 w2)
    (hS : ∀ g, S g → w.nextFid ≤ g) : WholeK a H w w2 := by
  refine ⟨?_, ?_, Nat.le_trans k.nextFid fr.nextFid, ?_, Nat.le_trans k.len fr.len, ?_, k.cut⟩
  · intro x fid hx hl
    unfold lk
    rw [lookup_of_dirs fr.dirs]; exact k.look x fid hx hl
  · intro g hg
    rw [fr.files g (Nat.lt_of_lt_of_le hg k.nextFid) (fun hs => by have := hS g hs; omega), k.files g hg]
  · intro h hh
    rw [fr.objs h (Nat.lt_of_lt_of_le hh (Nat.le_trans k.cut k.len)), k.objs h hh]
  · intro q hq
    rw [dir_of_dirs fr.dirs q]; exact k.dirSome q hq

theorem Located.whole_keep {a : Ent} {H : Nat} {w w' : World} {ms : MsgSt} {nb : Ent} (h : Located w ms nb)
    (k : WholeK a H w w') (hne : nb ≠ a) : Located w' ms nb := by
  obtain ⟨hl, fid, hlk, hlt, hf⟩ := h
  exact ⟨hl, fid, k.look nb fid hne hlk, Nat.lt_of_lt_of_le hlt k.nextFid, (k.files fid hlt).trans hf⟩

theorem Located.of_mid {w w' : World} {L : Ent → Option Nat} {ms : MsgSt} {nb : Ent} (h : Located w ms nb)
    (m : Mid w w' L) (hL : L nb = lk w nb) : Located w' ms nb := by
  obtain ⟨hl, fid, hlk, hlt, hf⟩ := h
  exact ⟨hl, fid, by rw [m.look, hL]; exact hlk, Nat.lt_of_lt_of_le hlt m.nextFid, (m.files fid hlt).trans hf⟩

end Mdsort.Proofs.World
