import Mdsort.Proofs.WorldSpine
import Mdsort.Proofs.EvalPCalls
import Mdsort.Proofs.Captures

/-!
# The main loop with the evaluator as a parameter, for evaluated example runs

The evaluator `eval` is defined by well-founded recursion, which the kernel does not evaluate.  For an example run the
main loop is restated with the evaluator as a parameter (`FdsEx.processMessageGP`, `dry_processMessageG`, `dry_walkG`;
`dry_walk_G`: equal to `walk` for rules that ask the operating system nothing), which makes the call of `eval` on the
concrete rule visible to `simp only [eval]`; what is left is evaluated by the kernel.  WorldDryF21, WorldFdsEx, Props/C01
and C02 evaluate their example runs with it.  The prefix `dry_` and the namespace `FdsEx` are those of two of these users,
not the subject: nothing here depends on `-d` or speaks of descriptors.
-/

namespace Mdsort.Proofs.FdsEx
open Mdsort Mdsort.Model

/-- `processMessage` with the evaluation program as a parameter (equal to `processMessage` by `rfl`), which makes the call
of `evalP` on the concrete rule visible to `simp only [evalP, evalT]`. -/
def processMessageGP (env : PEnv) (orc : EvalOracles) (ev : Env → Msg → MFlags → Prog (Tri × St)) (md : Maildir) (name : Bytes)
    (st : MainSt) : Prog (MainSt × Maildir) :=
  match md.dirH with
  | none => pure (st, md)
  | some d =>
    match st.files.get md.path name with
    | none => pure ({ st with error := true }, md)
    | some content => do
      let pm ← messageParseP d md.path name content
      match pm with
      | none => pure ({ st with error := true }, md)
      | some ms =>
        let eenv : Env := {
          rx := orc.rx, command := fun _ => -1, isDir := fun _ => false, now := env.now,
          strptime := orc.strptime, zoneName := orc.zoneName, fileTime := fun _ => none, timeFormat := orc.timeFormat,
          dryrun := env.dryrun, path := ms.path }
        let free (ms : MsgSt) : Prog Unit :=
          match ms.fd with
          | some h => do let _ ← call (.close h); pure ()
          | none => pure ()
        let r ← ev eenv ms.msg ms.flags
        match r with
        | (.error, _) => do free ms; pure ({ st with error := true }, md)
        | (.nomatch, _) => do free ms; pure (st, md)
        | (.match, est) =>
          match matchesInterpolate eenv est.ml (partMsg ms.msg ms.parts) with
          | none => do free ms; pure ({ st with error := true }, md)
          | some (ml, msgs) =>
            let ms1 := { ms with msg := msgs 0, flags := est.flags }
            let st1 := { st with log := st.log ++ inspectLines env ml ms.path }
            if env.dryrun then do free ms1; pure (st1, md)
            else do
              let (xs, e) ← matchesExec env ml { src := md, chsrc := false, ms := ms1, reject := false }
              free xs.ms
              pure ({ st1 with error := st1.error || e, reject := st1.reject || xs.reject,
                               files := afterExec st1.files md.path name xs.ms }, md)

theorem processMessage_eqGP (env : PEnv) (orc : EvalOracles) (expr : Expr) :
    processMessage env orc expr = processMessageGP env orc (fun eenv m fl => evalP eenv expr m fl) := rfl

end Mdsort.Proofs.FdsEx

namespace Mdsort.Proofs
open Mdsort Mdsort.Model

/-- `processMessage` with the pure evaluation of the rules as a parameter. -/
def dry_processMessageG (env : PEnv) (orc : EvalOracles) (ev : Env → Msg → MFlags → Tri × St) :
    Maildir → Bytes → MainSt → Prog (MainSt × Maildir) :=
  FdsEx.processMessageGP env orc fun eenv m fl => .ret (ev eenv m fl)

theorem dry_processMessage_eqG (env : PEnv) (orc : EvalOracles) (expr : Expr) (hfree : asksFree expr = true) :
    processMessage env orc expr =
      dry_processMessageG env orc (fun eenv m fl => eval eenv m expr 0 m { ml := [], flags := fl }) := by
  have key : ∀ (p : Bytes) (m : Msg) (fl : MFlags), evalP (msgEnv env orc p) expr m fl =
      .ret (eval (msgEnv env orc p) m expr 0 m { ml := [], flags := fl }) :=
    fun p m fl => evalP_asksFree (msgEnv env orc p) expr hfree m fl
  simp only [msgEnv] at key
  funext md name st
  unfold processMessage dry_processMessageG FdsEx.processMessageGP
  simp only [key]
  rfl

/-- `walk` with the processing of one message as a parameter. -/
def dry_walkG (pm : Maildir → Bytes → MainSt → Prog (MainSt × Maildir)) : Nat → Maildir → MainSt → Prog (MainSt × Maildir)
  | 0, md, st => .ret ({ st with fuelOut := true }, md)
  | fuel + 1, md, st =>
    match md.dirH with
    | none => .ret (st, md)
    | some d =>
      .call (.readdir d) fun r =>
        match r with
        | .name n =>
          if n == [46] || n == [46, 46] then dry_walkG pm fuel md st
          else (pm md n st).bind fun x => dry_walkG pm fuel x.2 x.1
        | .eof =>
          if md.stdin then .ret (st, md)
          else
            match md.subdir with
            | .cur => .ret (st, md)
            | .new =>
              match pathjoin PATH_MAX md.root (subdirName .cur) with
              | none => .ret ({ st with error := true }, md)
              | some p =>
                (maildirOpendir { md with subdir := .cur, path := p } p).bind fun x =>
                  if x.2 then .ret ({ st with error := true }, x.1) else dry_walkG pm fuel x.1 st
        | _ => .ret ({ st with error := true }, md)

theorem dry_walk_eqG (env : PEnv) (orc : EvalOracles) (expr : Expr) (fuel : Nat) (md : Maildir) (st : MainSt) :
    walk env orc expr fuel md st = dry_walkG (processMessage env orc expr) fuel md st := by
  induction fuel generalizing md st with
  | zero => rfl
  | succ fuel ih =>
    rw [Own.walk_succ, dry_walkG]
    unfold Own.walkK
    simp only [ih]
    rfl

theorem dry_walk_G (env : PEnv) (orc : EvalOracles) (expr : Expr) (hfree : asksFree expr = true) (fuel : Nat) (md : Maildir)
    (st : MainSt) :
    walk env orc expr fuel md st =
      dry_walkG (dry_processMessageG env orc (fun eenv m fl => eval eenv m expr 0 m { ml := [], flags := fl })) fuel md st := by
  rw [dry_walk_eqG, dry_processMessage_eqG env orc expr hfree]

end Mdsort.Proofs
