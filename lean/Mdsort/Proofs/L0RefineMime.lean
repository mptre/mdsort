import Mdsort.Proofs.L0Mime
import Mdsort.Proofs.MimeScan
import Mdsort.Proofs.Safety

/-!
# L0 `skipline`, `parseboundary`, `findboundary` refine the list model

No access leaves the buffer, and the results are tracked: the three outcomes of `parseboundary` with the `strndup`ed
boundary, and the position and terminator flag `findboundary` returns are those of the list model on the view.

`findboundary` resumes, after a failed comparison, with `skipline` from the byte after the text it has just compared,
so a line start INSIDE a matched boundary is never examined (this matters only for a boundary that contains a newline,
obtainable from an RFC 2047 encoded word in the Content-Type value).  The list model `Model.findBoundaryAux` follows
the C code in this, so the refinement holds for EVERY boundary; `l0r_witness_L0` / `l0r_witness_L1` are such a boundary and a
text in which a delimiter line is passed over, at both levels.
-/

namespace Mdsort.L0
open Mdsort Mdsort.L0.Buf

/-- How the result of the L0 `parseboundary` stands for the L1 one: the same case, and the `strndup`ed boundary is
the C string of the L1 boundary. -/
def l0r_BoundaryRel : Boundary → Model.Boundary → Prop
  | .notMultipart, .notMultipart => True
  | .invalid, .invalid => True
  | .ok bnd, .ok bb => bnd = Buf.ofBytes bb ∧ bnd.view 0 = bb
  | _, _ => False

theorem l0r_parseBoundary_refines (t : Buf) {i : Nat} (h : t.HasNul i) :
    ∃ r, parseBoundary t i = .ok r ∧ l0r_BoundaryRel r (Model.parseBoundary (t.view i)) := by
  have c0 := h.at
  generalize t.view i = s at c0 ⊢
  unfold parseBoundary Model.parseBoundary
  simp only [Proofs.ofString_multipart, Proofs.ofString_boundaryq, multipartLit, boundaryLit, List.length_cons,
    List.length_nil, Nat.zero_add, Nat.reduceAdd]
  rw [startsWithLitCI_spec c0.hasNul _ (by decide), c0.view]
  cases hs : Model.startsWithCI s [109, 117, 108, 116, 105, 112, 97, 114, 116, 47] with
  | false => exact ⟨.notMultipart, rfl, trivial⟩
  | true =>
    simp only [Bool.not_true, Bool.false_eq_true, if_false]
    -- `str += len`, then up to the `;`
    have c1 := c0.drop 10 (startsWithCI_length hs)
    have c2 := c1.dropWhile (· != 59)
    rw [scanUntil_spec c1.hasNul 59, c1.view]
    simp only
    rw [c2.get?]
    generalize (s.drop 10).dropWhile (· != 59) = d at c2 ⊢
    generalize i + 10 + ((s.drop 10).takeWhile (· != 59)).length = p1 at c2 ⊢
    cases d with
    | nil => exact ⟨.notMultipart, rfl, trivial⟩
    | cons x s1 =>
      have hx : x ≠ 0 := c2.no_nul x (by simp)
      simp only [List.headD_cons, beq_iff_eq, hx, if_false]
      -- `str++`, blanks, `boundary="`
      have c4 := c2.tail.drop (Mdsort.nspaces s1) (nspaces_le s1)
      rw [skipBlanks_spec c2.tail.hasNul, c2.tail.view]
      simp only
      rw [startsWithLitCI_spec c4.hasNul _ (by decide), c4.view]
      generalize p1 + 1 + Mdsort.nspaces s1 = p2 at c4 ⊢
      cases hs2 : Model.startsWithCI (s1.drop (Mdsort.nspaces s1)) [98, 111, 117, 110, 100, 97, 114, 121, 61, 34] with
      | false => exact ⟨.notMultipart, rfl, trivial⟩
      | true =>
        simp only [Bool.not_true, Bool.false_eq_true, if_false]
        -- up to the closing quote
        have c5 := c4.drop 10 (startsWithCI_length hs2)
        have c6 := c5.dropWhile (· != 34)
        rw [scanUntil_spec c5.hasNul 34, c5.view]
        simp only
        rw [c6.get?, Nat.add_sub_cancel_left, strndup_spec c5.hasNul, c5.view, List.take_length_takeWhile]
        generalize (s1.drop (Mdsort.nspaces s1)).drop 10 = s3 at c5 c6 ⊢
        cases hd3 : s3.dropWhile (· != 34) with
        | nil => exact ⟨.invalid, rfl, trivial⟩
        | cons y r3 =>
          obtain rfl : y = 34 := List.eq_of_dropWhile_ne_eq_cons hd3
          simp only [List.headD_cons, bne_self_eq_false, Bool.false_eq_true, if_false]
          cases hb : s3.takeWhile (· != 34) with
          | nil => exact ⟨.invalid, rfl, trivial⟩
          | cons a l =>
            refine ⟨_, rfl, rfl, view_ofBytes_of_no_nul fun z hz => c5.no_nul z ?_⟩
            exact (List.takeWhile_sublist _).subset (hb ▸ hz)

open Mdsort.Proofs (prependPre)

/-- Where the L0 `findboundary` points, given the L1 result relative to the text at `s`. -/
def l0r_shift (s : Nat) (x : Bytes × Bool × Bytes) : Nat × Bool := (s + x.1.length, x.2.1)

theorem l0r_map_shift_prepend (o : Option (Bytes × Bool × Bytes)) (pre : Bytes) (s : Nat) :
    (o.map (prependPre pre)).map (l0r_shift s) = o.map (l0r_shift (s + pre.length)) := by
  cases o with
  | none => rfl
  | some x => simp [l0r_shift, prependPre, Nat.add_assoc]

/-! The three comparisons of a round of `findboundary`, keyed on what the C code has just tested: what the list model says of
the line (`delimiterLine`) and where it resumes (`continueAt`).  They are facts about the list model alone, stated in the
shape in which `l0r_findBoundaryLoop_refines` meets them (`Proofs.delimiter_stage` is the same analysis as one disjunction). -/

theorem l0r_stage1 {B V : Bytes} (h : startsWith V [45, 45] = false) :
    Model.delimiterLine B V = none ∧ Model.continueAt B V = V := by
  simp [Model.delimiterLine, Model.continueAt, h]

theorem l0r_stage2 {B V2 : Bytes} (h : startsWith V2 B = false) :
    Model.delimiterLine B ([45, 45] ++ V2) = none ∧ Model.continueAt B ([45, 45] ++ V2) = V2 := by
  have h1 : startsWith ([45, 45] ++ V2) [45, 45] = true := Proofs.isPrefixOf_append_self _ _
  have hd : ([45, 45] ++ V2).drop 2 = V2 := rfl
  unfold Model.delimiterLine Model.continueAt
  simp only [h1, Bool.not_true, Bool.false_eq_true, if_false, hd, h, Bool.not_false, if_true, and_self]

theorem l0r_stage3 (B V3 : Bytes) :
    Model.delimiterLine B ([45, 45] ++ (B ++ V3)) =
      (match (if startsWith V3 [45, 45] then V3.drop 2 else V3) with
       | 10 :: _ => some (startsWith V3 [45, 45])
       | _ => none) ∧
    Model.continueAt B ([45, 45] ++ (B ++ V3)) = (if startsWith V3 [45, 45] then V3.drop 2 else V3) := by
  have h1 : startsWith ([45, 45] ++ (B ++ V3)) [45, 45] = true := Proofs.isPrefixOf_append_self _ _
  have h2 : startsWith (B ++ V3) B = true := Proofs.isPrefixOf_append_self _ _
  have hd : ([45, 45] ++ (B ++ V3)).drop 2 = B ++ V3 := rfl
  unfold Model.delimiterLine Model.continueAt
  simp only [h1, Bool.not_true, Bool.false_eq_true, if_false, hd, h2, List.drop_left, and_true]
  rfl

theorem l0r_map_prepend_nil (o : Option (Bytes × Bool × Bytes)) : o.map (prependPre []) = o :=
  Proofs.map_prependPre_nil o

/-- A `continue` re-enters with `skip = 1`: the next round examines the line `skipline` finds. -/
theorem findBoundaryLoop_skip {bnd b : Buf} {len s : Nat} (h : b.HasNul s) :
    findBoundaryLoop bnd len b s true = findBoundaryLoop bnd len b (s + l0r_lineLen (b.view s)) false := by
  rw [findBoundaryLoop, findBoundaryLoop, show lineStart b s true = skipLine b s from rfl, l0r_skipLine_spec h]
  rfl

/-- `findboundary`'s loop, for EVERY boundary: the line it returns and its terminator flag are the list model's.
Entered with `skip = false` the text at `s` is examined; a `continue` re-enters with `skip = true`, which is an entry with
`skip = false` at the line `skipline` finds (`findBoundaryLoop_skip`), and that line lies further on: `skipline` moves on
from a byte that is not the terminator, also when nothing compared matched and the `continue` re-enters at the same `s`. -/
theorem l0r_findBoundaryLoop_refines (bnd b : Buf) (hb : bnd.HasNul 0) {s : Nat} (h : b.HasNul s) :
    findBoundaryLoop bnd (bnd.view 0).length b s false =
      .ok ((Model.findBoundaryAux (bnd.view 0) (b.view s) 0).map (l0r_shift s)) := by
  induction h using HasNul.strong_induction with
  | step s h ih =>
    have c1 := h.at
    rw [findBoundaryLoop, show lineStart b s false = .ok s from rfl]
    simp only
    rw [c1.get?]
    simp only
    generalize b.view s = V at c1 ⊢
    generalize hB : bnd.view 0 = B at *
    cases V with
    | nil => rfl
    | cons x r =>
      rw [List.headD_cons, dif_neg (by simpa using c1.no_nul x (by simp))]
      have hne : x :: r ≠ [] := List.cons_ne_nil _ _
      generalize x :: r = V at c1 hne ⊢
      -- a `continue` after `k` bytes of a line that is no delimiter line: the next round examines the line `skipline`
      -- finds from there
      have hcont : ∀ k s', s' = s + k → k ≤ V.length → V.drop k = Model.continueAt B V →
          Model.delimiterLine B V = none →
          findBoundaryLoop bnd B.length b s' true = .ok ((Model.findBoundaryAux B V 0).map (l0r_shift s)) := by
        rintro k _ rfl hk hca hD
        have cs := c1.drop k hk
        have hpos : 0 < k + l0r_lineLen (V.drop k) := by
          cases k with
          | zero => exact Nat.lt_of_lt_of_le (l0r_lineLen_pos hne) (Nat.le_add_left _ _)
          | succ k => omega
        rw [hca] at cs hpos
        have cn := cs.drop _ (l0r_lineLen_le _)
        -- `s + k + lineLen + |next line| = s + |V|`: what the last `omega` needs to equate `s + k + lineLen` with `s + nextLineDist`
        have hend := c1.end_eq cn (by omega) (by
          have h1 := l0r_lineLen_le (Model.continueAt B V)
          have h2 := congrArg List.length hca
          rw [List.length_drop] at h2
          omega)
        rw [findBoundaryLoop_skip cs.hasNul, cs.view, ih _ cn.hasNul (by omega), cn.view, ← l0r_skipLine_drop,
          Proofs.findBoundaryAux_continue hne hD, l0r_map_shift_prepend]
        congr 3
        rw [List.length_take, Model.nextLineDist, l0r_skipLine_drop]
        omega
      rw [startsWithLit_spec c1.hasNul [45, 45] (by decide), c1.view]
      by_cases hsw : startsWith V [45, 45] = true
      case neg =>
        have hsw' : startsWith V [45, 45] = false := by simpa using hsw
        simp only [hsw']
        exact hcont 0 s rfl (Nat.zero_le _) (l0r_stage1 hsw').2.symm (l0r_stage1 hsw').1
      obtain ⟨V2, rfl⟩ := List.isPrefixOf_iff_prefix.mp hsw
      have c2 : b.At (s + 2) V2 := c1.drop 2 (by simp)
      simp only [hsw]
      rw [strncmpEq_spec _ c2.hasNul hb, hB, c2.view, take_eq_iff_startsWith]
      by_cases hcmp : startsWith V2 B = true
      case neg =>
        have hcmp' : startsWith V2 B = false := by simpa using hcmp
        simp only [hcmp']
        exact hcont 2 _ rfl (by simp) (l0r_stage2 hcmp').2.symm (l0r_stage2 hcmp').1
      obtain ⟨V3, rfl⟩ := List.isPrefixOf_iff_prefix.mp hcmp
      have c3 : b.At (s + 2 + B.length) V3 := by simpa using c2.drop B.length (by simp)
      simp only [hcmp]
      rw [startsWithLit_spec c3.hasNul [45, 45] (by decide), c3.view]
      simp only
      obtain ⟨hD3, hC3⟩ := l0r_stage3 B V3
      -- the optional `--` is `k4` bytes
      obtain ⟨k4, hk4, hp4, hd4⟩ : ∃ k4, k4 ≤ V3.length ∧
          afterDashes (s + 2 + B.length) (startsWith V3 [45, 45]) = s + 2 + B.length + k4 ∧
          (if startsWith V3 [45, 45] then V3.drop 2 else V3) = V3.drop k4 := by
        unfold afterDashes
        cases ht : startsWith V3 [45, 45] with
        | true => exact ⟨2, (List.isPrefixOf_iff_prefix.mp ht).length_le, rfl, rfl⟩
        | false => exact ⟨0, Nat.zero_le _, rfl, rfl⟩
      have c4 := c3.drop k4 hk4
      have hdk : ([45, 45] ++ (B ++ V3)).drop (B.length + 2 + k4) = V3.drop k4 := by
        rw [← List.drop_drop]
        exact congrArg _ List.drop_left
      have hcont4 := hcont (B.length + 2 + k4) (s + 2 + B.length + k4) (by omega) (by simp; omega) (by rw [hdk, hC3, hd4])
      rw [hd4] at hD3
      rw [hp4, c4.get?]
      simp only
      cases hW : V3.drop k4 with
      | nil => exact hcont4 (by rw [hD3, hW])
      | cons y W =>
        rw [hW] at hD3
        by_cases h10 : y = 10
        · subst h10
          rw [Proofs.findBoundaryAux_found hD3]
          simp [l0r_shift]
        · rw [List.headD_cons, if_neg (by simpa using h10)]
          refine hcont4 ?_
          rw [hD3]
          split
          · rename_i heq; exact absurd (List.cons.inj heq).1 h10
          · rfl

theorem l0r_findBoundary_refines (bnd b : Buf) (hb : bnd.HasNul 0) {s : Nat} (h : b.HasNul s) :
    findBoundary bnd b s = .ok ((Model.findBoundary (bnd.view 0) (b.view s)).map (l0r_shift s)) := by
  unfold findBoundary Model.findBoundary
  rw [strlen_spec hb]
  exact l0r_findBoundaryLoop_refines bnd b hb h

/-- What the position means: the text before it is `pre`, the view at it is the L1 `rest` (the delimiter line on). -/
theorem l0r_findBoundary_pos {B : Bytes} {b : Buf} {s : Nat} (h : b.HasNul s) {pre rest : Bytes} {term : Bool}
    (hf : Model.findBoundary B (b.view s) = some (pre, term, rest)) :
    b.HasNul (s + pre.length) ∧ b.view (s + pre.length) = rest ∧ b.slice s (s + pre.length) = pre ∧ rest ≠ [] := by
  obtain ⟨h1, h2⟩ := Proofs.findBoundary_split _ _ _ _ _ hf
  have c : b.At (s + pre.length) rest := by simpa using (At.mk h h1).drop pre.length (by simp)
  refine ⟨c.hasNul, c.view, ?_, h2⟩
  rw [h.slice_view pre.length (by rw [h1]; simp), h1]
  simp

/-! ## a boundary with a newline

Boundary `"a\n"` and text `"--a\n--a\n\n"`: the C code compares `"--"`, `"a\n"`, `"--"` from offset 0, does not
find a newline after them and resumes with `skipline` from offset 6, so the line at offset 4 is never examined and
it returns NULL.  (That line IS a delimiter line: the `example` after `C07_findBoundary_round` in Props/C07.) -/

def l0r_witBnd : Buf := Buf.ofBytes [97, 10]
def l0r_witText : Buf := Buf.ofBytes [45, 45, 97, 10, 45, 45, 97, 10, 10]

theorem l0r_witness_L1 : Model.findBoundary (l0r_witBnd.view 0) (l0r_witText.view 0) = none := by
  decide +kernel

theorem l0r_witness_hasNul (b : Buf) (hb : b.Terminated) (i : Nat) (hi : i < b.size) : b.HasNul i := hb.hasNul hi

theorem l0r_witness_L0 : findBoundary l0r_witBnd l0r_witText 0 = .ok none := by
  rw [l0r_findBoundary_refines l0r_witBnd l0r_witText (ofBytes_terminated _).hasNul0 (ofBytes_terminated _).hasNul0,
    l0r_witness_L1]
  rfl

end Mdsort.L0
