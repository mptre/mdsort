import Mdsort.Proofs.WorldSpine
import Mdsort.Proofs.WorldIndependent

/-!
The walk (C04).  Whatever the calls return, every call is a `readdir` or satisfies the frame condition for the name the last
`readdir` returned (`framedW_walk`; `walk_frame`, `processMessage_frame` say it of the trace of a run); the error flag never
influences which calls are issued (`walk_setErr`, `processMessage_setErr`).
-/

namespace Mdsort.Proofs
open Mdsort Mdsort.Model

def nameStep (acc : Option Bytes) : Call × Res → Option Bytes
  | (.readdir _, .name n) => some n
  | _ => acc

/-- The name most recently returned by `readdir`: the message being processed. -/
def lastName (tr : List (Call × Res)) : Option Bytes := tr.foldl nameStep none

/-- The frame condition during a walk: `readdir` itself, or `Framed` for the name returned by the
last `readdir`; before the first name is returned nothing is mutated. -/
def FramedW (tr : List (Call × Res)) (c : Call) : Prop :=
  (∃ d, c = .readdir d) ∨
  match lastName tr with
  | some n => Framed n tr c
  | none => c.mutating = false

def setErr (b : Bool) (st : MainSt) : MainSt := { st with error := b || st.error }

def orErr (b : Bool) (x : MainSt × Maildir) : MainSt × Maildir := (setErr b x.1, x.2)

end Mdsort.Proofs

namespace Mdsort.Proofs.Own
open Mdsort Mdsort.Model Mdsort.Proofs
open Mdsort.Proofs.World (bind_assoc Calls)

variable {R : Call → Res → Prop}

theorem lastName_snoc (tr : Trace) (x : Call × Res) : lastName (tr ++ [x]) = nameStep (lastName tr) x := by
  unfold lastName
  rw [List.foldl_append]
  rfl

theorem lastName_readdir (tr : Trace) (d : Handle) (n : Bytes) : lastName (tr ++ [(.readdir d, .name n)]) = some n := by
  rw [lastName_snoc]
  rfl

theorem lastName_other (tr : Trace) (c : Call) (r : Res) (h : ∀ d, c ≠ .readdir d) :
    lastName (tr ++ [(c, r)]) = lastName tr := by
  rw [lastName_snoc]
  unfold nameStep
  split
  · rename_i d n heq
    cases heq
    exact absurd rfl (h d)
  · rfl

theorem Framed.not_readdir {src : Bytes} {tr : Trace} {c : Call} (h : Framed src tr c) : ∀ d, c ≠ .readdir d := by
  intro d e
  subst e
  exact h

theorem Inert.not_mutating {c : Call} (h : Inert c) : c.mutating = false := by
  cases c <;> first | exact h.elim | rfl

theorem Inert.framedW {c : Call} (h : Inert c) (tr : Trace) : FramedW tr c := by
  refine .inr ?_
  cases lastName tr with
  | none => exact h.not_mutating
  | some n => exact h.framed n tr

theorem wp_transfer {α} {I I2 : Trace → Call → Prop} {J : Trace → Prop}
    (hstep : ∀ tr c r, J tr → I tr c → J (tr ++ [(c, r)]))
    (himp : ∀ tr c, J tr → I tr c → I2 tr c)
    {p : Prog α} {Q : α → Trace → Prop} {tr : Trace} (h : wp R I p Q tr) (hj : J tr) : wp R I2 p Q tr := by
  induction p generalizing tr with
  | ret a => exact h
  | call c k ih => exact ⟨himp _ _ hj h.1, fun r hr => ih r (h.2 r hr) (hstep _ _ r hj h.1)⟩

theorem framedW_processMessage (env : PEnv) (orc : EvalOracles) (expr : Expr) (md : Maildir) (name : Bytes) (st : MainSt)
    (tr : Trace) (hl : lastName tr = some name) :
    wp R FramedW (processMessage env orc expr md name st) (fun _ _ => True) tr := by
  refine wp_transfer (J := fun tr => lastName tr = some name) ?_ ?_ (framed_processMessage env orc expr md name st tr) hl
  · intro tr c r hj hc
    rw [lastName_other tr c r (Framed.not_readdir hc)]
    exact hj
  · intro tr c hj hc
    refine .inr ?_
    rw [hj]
    exact hc

theorem wp_inertW {α} {p : Prog α} (hc : Calls Inert p) (tr : Trace) : wp R FramedW p (fun _ _ => True) tr :=
  wp_calls (fun tr _ (h : Inert _) => h.framedW tr) hc (All.trivial p) tr

theorem framedW_walk (env : PEnv) (orc : EvalOracles) (expr : Expr) (fuel : Nat) (md : Maildir) (st : MainSt) (tr : Trace) :
    wp R FramedW (walk env orc expr fuel md st) (fun _ _ => True) tr :=
  wp_walk (M := fun _ _ => True) env orc expr (fun _ _ d _ _ => ⟨.inl ⟨d, rfl⟩, fun _ => True.intro⟩)
    (fun _ md _ n st _ => framedW_processMessage env orc expr md n st _ (lastName_readdir _ _ _))
    (fun _ _ _ _ _ => wp_inertW (inert_maildirOpendir _ _) _) fuel md st tr True.intro

theorem setErr_true_error (st : MainSt) : setErr true { st with error := true } = { st with error := true } := rfl

theorem setErr_withError (b : Bool) (st : MainSt) :
    ({ setErr b st with error := true } : MainSt) = setErr b { st with error := true } := by
  simp [setErr]

theorem applyTo_setErr (md : Maildir) (name : Bytes) (st : MainSt) (b : Bool) (e : MsgEffect) :
    applyTo md name (setErr b st) e = orErr b (applyTo md name st e) := by
  simp only [applyTo, orErr, setErr, MsgEffect.apply, Bool.or_assoc]

theorem processMessage_setErr (env : PEnv) (orc : EvalOracles) (expr : Expr) (md : Maildir) (name : Bytes) (st : MainSt)
    (b : Bool) :
    processMessage env orc expr md name (setErr b st) = mapP (orErr b) (processMessage env orc expr md name st) := by
  rw [processMessage_effect, processMessage_effect env orc expr md name st, mapP_mapP]
  congr 1
  funext e
  exact applyTo_setErr md name st b e

theorem walk_setErr (env : PEnv) (orc : EvalOracles) (expr : Expr) (fuel : Nat) (md : Maildir) (st : MainSt) (b : Bool) :
    walk env orc expr fuel md (setErr b st) = mapP (orErr b) (walk env orc expr fuel md st) := by
  induction fuel generalizing md st with
  | zero => rfl
  | succ fuel ih =>
    rw [walk_succ, walk_succ]
    cases md.dirH with
    | none => rfl
    | some d =>
      dsimp only
      rw [mapP_call]
      congr 1
      funext r
      have herr := setErr_withError b st
      unfold walkK
      cases r with
      | name n =>
        dsimp only
        split
        · exact ih _ _
        · rw [processMessage_setErr, mapP_bind]
          unfold mapP
          rw [bind_assoc]
          congr 1
          funext x
          exact ih _ _
      | eof =>
        dsimp only
        split
        · rfl
        · cases md.subdir with
          | cur => rfl
          | new =>
            dsimp only
            cases pathjoin PATH_MAX md.root (subdirName .cur) with
            | none => dsimp only; rw [herr]; rfl
            | some p =>
              dsimp only
              rw [mapP_bind]
              congr 1
              funext x
              split
              · rw [herr]; rfl
              · exact ih _ _
      | ok v => dsimp only; rw [herr]; rfl
      | err e => dsimp only; rw [herr]; rfl

end Mdsort.Proofs.Own

namespace Mdsort.Proofs
open Mdsort Mdsort.Model
open Mdsort.Proofs.Own

theorem processMessage_frame (env : PEnv) (orc : EvalOracles) (expr : Expr) (md : Maildir) (name : Bytes) (st : MainSt)
    (orcl : Nat → Call → Res) (i0 : Nat) (tr0 : List (Call × Res)) :
    ∀ i c r, tr0.length ≤ i → (runOracle orcl (processMessage env orc expr md name st) i0 tr0).2[i]? = some (c, r) →
      Framed name ((runOracle orcl (processMessage env orc expr md name st) i0 tr0).2.take i) c := by
  intro i c r hi hget
  exact (wp_sound (R := fun _ _ => True) orcl (fun _ _ => True.intro)
    (framed_processMessage env orc expr md name st tr0) i0).2 i c r hi hget

theorem walk_frame (env : PEnv) (orc : EvalOracles) (expr : Expr) (fuel : Nat) (md : Maildir) (st : MainSt)
    (orcl : Nat → Call → Res) (i0 : Nat) (tr0 : List (Call × Res)) :
    ∀ i c r, tr0.length ≤ i → (runOracle orcl (walk env orc expr fuel md st) i0 tr0).2[i]? = some (c, r) →
      FramedW ((runOracle orcl (walk env orc expr fuel md st) i0 tr0).2.take i) c := by
  intro i c r hi hget
  exact (wp_sound (R := fun _ _ => True) orcl (fun _ _ => True.intro)
    (framedW_walk env orc expr fuel md st tr0) i0).2 i c r hi hget

end Mdsort.Proofs
