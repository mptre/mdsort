import Mdsort.Proofs.WorldLin
import Mdsort.Proofs.WorldWholeMsg

/-!
# `processMessage` under EVERY fault plan, by lineage

The message's entry `(md.path, name)` is bound to the file `fid`; `message_parse` opens exactly that file, which makes it
the message being processed (`Lin.cur`); from then on every file the action list makes descends from what `fid`
descended from.  After every call some entry is bound to a file that DESCENDS FROM the message and holds the message or
its complete rewrite, visibly and durably (`LGood`); the origin of every file that existed is unchanged (`LinPre`).
-/

namespace Mdsort.Proofs
open Mdsort Mdsort.Model
open Mdsort.Proofs.World (wp wp_mono wp_inv_mono wp_bind_mono wp_call_any GoodAt LG LGood LinPre linAt Calls NotOpenRd)

/-- The invariant, by `L`ineage, of `p`rocess`M`essage on a message that descends from `f0`. -/
def LPM (w0 : World) (l0 : Lin) (N0 : Nat) (o0 : Nat → Nat) (f0 : Nat) (cs : List Bytes) (w : World) : Prop :=
  LinPre w0 l0 N0 o0 w ∧ LGood w0 l0 f0 cs w

theorem LPM.of_lg {w0 : World} {l0 : Lin} {N0 : Nat} {o0 : Nat → Nat} {f0 fid0 : Nat} {cs : List Bytes} {w : World}
    (h : LG w0 l0 N0 o0 f0 fid0 cs w) (h0 : fid0 < N0) (ho : o0 fid0 = f0) : LPM w0 l0 N0 o0 f0 cs w :=
  ⟨h.1.1, h.lgood h0 ho⟩

/-- `message_parse` of the message bound to `fid`, the reference point being the world `wP` it starts in (`o0`: the origins
there): the invariant after every call; if a message is returned, the file that was opened is `fid` and the lineage
invariant of the action list holds. -/
theorem lin_messageParseP {w0 : World} {l0 : Lin} {o0 : Nat → Nat} (d : Handle) (dir name content : Bytes)
    (cs : List Bytes) {wP : World} {fid : Nat} (hpre0 : LinPre w0 l0 wP.nextFid o0 wP)
    (hp : wP.dirPath d = some dir) (hg0 : GoodAt wP cs dir name fid) :
    wp (LPM w0 l0 wP.nextFid o0 (o0 fid) cs) (messageParseP d dir name content)
      (fun pm w' => LPM w0 l0 wP.nextFid o0 (o0 fid) cs w' ∧ (pm.isSome → LG w0 l0 wP.nextFid o0 (o0 fid) fid cs w')) wP := by
  have hlt : fid < wP.nextFid := hg0.2.1
  rw [World.messageParseP_eq]
  refine wp_call_any fun ro => ?_
  have hpre1 := hpre0.step (.openRd d name) ro
  have hg1 := hg0.step (.openRd d name) ro trivial trivial
  have horg1 : (linAt w0 l0 (stepWorld wP (.openRd d name) ro)).org fid = o0 fid := hpre1.old fid hlt
  have hlpm1 : LPM w0 l0 wP.nextFid o0 (o0 fid) cs (stepWorld wP (.openRd d name) ro) :=
    ⟨hpre1, dir, name, fid, hg1, horg1⟩
  refine ⟨hlpm1, ?_⟩
  cases ro with
  | ok fd =>
    have hopen : openedFile wP (.openRd d name) (.ok fd) = some fid := by simp [openedFile, hp, hg0.1]
    have hLG : LG w0 l0 wP.nextFid o0 (o0 fid) fid cs (stepWorld wP (.openRd d name) (.ok fd)) := by
      refine ⟨⟨hpre1, ⟨fid, ?_, horg1⟩, ?_⟩, dir, name, fid, hg1, .inl rfl⟩
      · rw [World.linAt_step l0 hpre0.hist, World.linStep_cur_some _ _ _ _ fid hopen]
      · intro g h1 h2
        rw [World.stepWorld_nextFid, World.core_nextFid_eq _ _ _ rfl] at h2
        omega
    dsimp only
    -- the rest of `message_parse` reads the file and closes it
    have hk : Calls (fun c => c.kind ∈ [.read, .close]) (World.parseTail fd dir name content) := by
      unfold World.parseTail
      kinds_walk [World.kinds_readAll _ _]
    exact wp_mono (wp_inv_mono (World.lg_harmless (hk.mono fun _ => World.Harmless.of_kind (by decide))
        (hk.mono fun _ => NotOpenRd.of_kind (by decide)) hLG)
      (fun _ h => LPM.of_lg h hlt rfl)) (fun pm w' h => ⟨LPM.of_lg h hlt rfl, fun _ => h⟩)
  | err e => exact ⟨hlpm1, by intro h; cases h⟩
  | name x => exact ⟨hlpm1, by intro h; cases h⟩
  | eof => exact ⟨hlpm1, by intro h; cases h⟩

theorem LG.mono {w0 : World} {l0 : Lin} {N0 : Nat} {o0 : Nat → Nat} {f0 fid0 : Nat} {cs cs' : List Bytes} {w : World}
    (h : LG w0 l0 N0 o0 f0 fid0 cs w) (hs : ∀ c ∈ cs, c ∈ cs') : LG w0 l0 N0 o0 f0 fid0 cs' w := by
  obtain ⟨hli, p, n, g, hg, hA⟩ := h
  exact ⟨hli, p, n, g, hg.mono_cs hs, hA⟩

theorem LPM.mono {w0 : World} {l0 : Lin} {N0 : Nat} {o0 : Nat → Nat} {f0 : Nat} {cs cs' : List Bytes} {w : World}
    (h : LPM w0 l0 N0 o0 f0 cs w) (hs : ∀ c ∈ cs, c ∈ cs') : LPM w0 l0 N0 o0 f0 cs' w := by
  obtain ⟨hp, p, n, g, hg, ho⟩ := h
  exact ⟨hp, p, n, g, hg.mono_cs hs, ho⟩

/-- `LPM` for some `A`nswers: the invariant of `processMessage` while the answers of the operating system to the questions of evaluation
(`command`, `isdirectory`, file-time `date` conditions) are not known: for SOME answers `as`. -/
def LPMA (env : PEnv) (orc : EvalOracles) (expr : Expr) (w0 : World) (l0 : Lin) (N0 : Nat) (o0 : Nat → Nat) (f0 : Nat)
    (dir name content : Bytes) (w : World) : Prop :=
  ∃ as, LPM w0 l0 N0 o0 f0 [content, wholeRewrite env orc expr dir name content as] w

/-- One message by lineage, the reference point being the world `wP` in which `processMessage` starts. -/
theorem lin_processMessage (env : PEnv) (orc : EvalOracles) (expr : Expr) (md : Maildir) (name : Bytes) (st : MainSt)
    {w0 : World} {l0 : Lin} {o0 : Nat → Nat} {wP : World} {d : Handle} {content : Bytes} {fid : Nat}
    (hpre : LinPre w0 l0 wP.nextFid o0 wP) (hd : md.dirH = some d) (hp : wP.dirPath d = some md.path)
    (hfc : st.files.get md.path name = some content)
    (hl : wP.lookup md.path name = some fid) (hlt : fid < wP.nextFid) (hf : wP.file fid = some ⟨content, content⟩)
    (hnd : WholeNoDiscard env orc expr) :
    wp (LPMA env orc expr w0 l0 wP.nextFid o0 (o0 fid) md.path name content)
      (processMessage env orc expr md name st)
      (fun _ w' => LPMA env orc expr w0 l0 wP.nextFid o0 (o0 fid) md.path name content w') wP := by
  rw [processMessage_eq env orc expr md name st d content hd hfc]
  have hg0 : GoodAt wP [content] md.path name fid := ⟨hl, hlt, _, hf, by simp, by simp⟩
  -- while the answers are not known: the message itself is there
  have inv0 : ∀ w', LPM w0 l0 wP.nextFid o0 (o0 fid) [content] w' →
      LPMA env orc expr w0 l0 wP.nextFid o0 (o0 fid) md.path name content w' :=
    fun w' h => ⟨[], h.mono (by intro c hc; simp only [List.mem_singleton] at hc; subst hc; simp)⟩
  refine wp_bind_mono (wp_inv_mono (whole_wp_all (lin_messageParseP d md.path name content _ hpre hp hg0)
    (all_messageParseP_as d md.path name content)) inv0) ?_
  rintro pm w1 ⟨⟨hlpm, hlg⟩, hpa⟩
  cases pm with
  | none => exact inv0 _ hlpm
  | some ms =>
    have hLG0 := hlg rfl
    simp only [afterParse]
    -- evaluation: `open("/dev/null")`, `fork`, `waitpid`, `close`, `stat` only
    have hcE : Calls (fun c => World.Harmless c ∧ NotOpenRd c) (evalMs env orc expr ms) :=
      Calls.mono (evalP_calls _ _ _ _) (by
        rintro c (h | h | h | ⟨x, h⟩ | ⟨x, h⟩)
        · subst h; exact ⟨True.intro, True.intro⟩
        · obtain ⟨_, _, rfl⟩ := Call.isFork_iff.1 h; exact ⟨True.intro, True.intro⟩
        all_goals subst h; exact ⟨True.intro, True.intro⟩)
    refine wp_bind_mono (wp_inv_mono (World.wp_both
        (World.lg_harmless (hcE.mono fun _ h => h.1) (hcE.mono fun _ h => h.2) hLG0)
      (World.wp_evalFoot (msgEnv env orc ms.path) expr ms.msg ms.flags w1))
      (fun w' h => inv0 w' (LPM.of_lg h.1 hlt rfl))) ?_
    rintro ev w2 ⟨hLG1, -, as, hev⟩
    have hv : evVerdict env orc ms ev = verdictA env orc expr md.path name content as := by
      rw [hev]; exact msVerdictA_of_parsed env orc expr md.path name content ms hpa as
    rw [hv]
    have hLG : LG w0 l0 wP.nextFid o0 (o0 fid) fid
        [content, wholeRewrite env orc expr md.path name content as] w2 :=
      LG.mono hLG1 (by intro c hc; simp only [List.mem_singleton] at hc; subst hc; simp)
    have invA : ∀ w', LG w0 l0 wP.nextFid o0 (o0 fid) fid
          [content, wholeRewrite env orc expr md.path name content as] w' →
        LPMA env orc expr w0 l0 wP.nextFid o0 (o0 fid) md.path name content w' :=
      fun w' h => ⟨as, LPM.of_lg h hlt rfl⟩
    have freeLG : ∀ (ms' : MsgSt) (r : MainSt × Maildir) (w3 : World),
        LG w0 l0 wP.nextFid o0 (o0 fid) fid
          [content, wholeRewrite env orc expr md.path name content as] w3 →
        wp (LPMA env orc expr w0 l0 wP.nextFid o0 (o0 fid) md.path name content)
          ((freeP ms').bind fun _ => Prog.ret r)
          (fun _ w' => LPMA env orc expr w0 l0 wP.nextFid o0 (o0 fid) md.path name content w') w3 := by
      intro ms' r w3 h3
      refine wp_bind_mono (wp_inv_mono (World.lg_harmless (calls_freeP (fun _ => True.intro) ms') (calls_freeP (fun _ => True.intro) ms') h3) invA) ?_
      intro _ w4 h4
      exact invA _ h4
    cases hvd : verdictA env orc expr md.path name content as with
    | unparsable => simp only [afterVerdict]; exact freeLG ms _ _ hLG
    | error => simp only [afterVerdict]; exact freeLG ms _ _ hLG
    | interpFail => simp only [afterVerdict]; exact freeLG ms _ _ hLG
    | «nomatch» => simp only [afterVerdict]; exact freeLG ms _ _ hLG
    | act ml msgs fl =>
      simp only [afterVerdict]
      split
      · exact freeLG _ _ _ hLG
      · have hml : NoDiscard ml := hnd md.path name content as ml msgs fl hvd
        have hrw : wholeRewrite env orc expr md.path name content as = (messageWrite (msgs 0)).1 := by
          unfold wholeRewrite; rw [hvd]; rfl
        refine wp_bind_mono (wp_inv_mono (World.lin_matchesExec env ml
          { src := md, chsrc := false, ms := { ms with msg := msgs 0, flags := fl }, reject := false } hLG
          (by rw [hrw]; simp) hml) invA) ?_
        intro x w3 h3
        exact freeLG _ _ _ h3

/-- C01 and C02, one message under every fault plan (`C01_message_no_loss`; `C02_message_power_failure` reads the durable
half): the entry the walk by lineage follows, and for every other entry the frame of `whole_processMessage`. -/
theorem whole_message_no_loss (env : PEnv) (orc : EvalOracles) (expr : Expr) (md : Maildir) (name : Bytes) (st : MainSt)
    (w : World) (plan : Plan) {d : Handle} {content : Bytes} {fid : Nat}
    (hd : md.dirH = some d) (hp : w.dirPath d = some md.path)
    (hwf : pathjoin PATH_MAX md.root (subdirName md.subdir) = some md.path)
    (hfc : st.files.get md.path name = some content)
    (hl : w.lookup md.path name = some fid) (hlt : fid < w.nextFid) (hf : w.file fid = some ⟨content, content⟩)
    (hnd : WholeNoDiscard env orc expr) :
    ∀ w' ∈ (runPlan plan (processMessage env orc expr md name st) w 0 []).2.2,
      (∃ as, Intact w' [content, wholeRewrite env orc expr md.path name content as] ∧
        IntactDurable w' [content, wholeRewrite env orc expr md.path name content as]) ∧
      ∀ q m g, (q, m) ≠ (md.path, name) → w.lookup q m = some g →
        w'.lookup q m = some g ∧ (g < w.nextFid → w'.file g = w.file g) := by
  intro w' hw'
  rw [World.runPlan_eq] at hw'
  simp only [List.nil_append] at hw'
  obtain ⟨k, as, -, p, n, g, hg, -⟩ := (World.wp_sound plan (World.wp_both
    (whole_processMessage env orc expr md name st hd hp hwf hfc hl hlt hf fun _ => hnd)
    (lin_processMessage env orc expr md name st (LinPre.start (l0 := Lin.init) (World.Hist.refl w)) hd hp hfc hl hlt hf hnd))
    0).1 w' hw'
  exact ⟨⟨as, hg.good.intact, hg.good.intactDurable⟩, fun q m g hne hq => ⟨k.look (q, m) g hne hq, fun h => k.files g h⟩⟩

end Mdsort.Proofs
