import Mdsort.Proofs.PartiesCopyLocal
import Mdsort.Proofs.WorldOwnScripts

/-! The protocol `CopyI` holds for every script of `matches_exec` and for the listing party
(`scanExec`), whatever the predicted results are: every action ends with nothing in flight.
A `copy_X` is a triple in `wp R (CopyI M)`, from `inFlightH tr = []` to `inFlightH tr' = []` for an action and what is made
of actions; the pieces in between say where they stand: `copy_genname` ends in `Fresh1`, `copy_messageWriteP` goes from
`Fresh1` to `Fresh1`, `copy_rollback` starts with the created name in flight or not.  `R` is `PredR`, except in the five
lemmas on the way from `maildir_move` to `copy_party`, which take any `R` within `PredR` so that rename-only parties can be
given results without `EXDEV` (`NoExdev R`) in place of a message to copy.  That the message of the returned state is the
given one (the next action needs `M` of it) is added from the value lemmas of `WorldVal`. -/

namespace Mdsort.Proofs.Parties
open Mdsort Mdsort.Model
open Mdsort.Proofs.World (bind_eq pure_eq ret_bind call_bind' call_bind)
open Mdsort.Proofs.Own

variable {M : Msg → Prop} {R : Call → Res → Prop}

def NoExdev (R : Call → Res → Prop) : Prop := ∀ d1 n1 d2 n2, ¬ R (.renameat d1 n1 d2 n2) (.err "EXDEV")


theorem copy_genname (env : PEnv) (md : Maildir) (flags : Option Bytes) (fuel count : Nat) (tr : Trace)
    (h0 : inFlightH tr = []) :
    wp PredR (CopyI M) (genname env md flags fuel count)
      (fun res tr' => match res with
        | none => inFlightH tr' = []
        | some x => ∃ d, md.dirH = some d ∧ Fresh1 tr' (d, x.2) x.1 []) tr := by
  induction fuel generalizing count tr with
  | zero => unfold genname; exact h0
  | succ fuel ih =>
    rw [World.genname_succ]
    split
    · exact h0
    split
    · exact h0
    rename_i d hd
    refine wp_call (show inFlightH tr = [] from h0) fun r hr => ?_
    rcases predR_openExcl hr with ⟨h, rfl⟩ | ⟨e, rfl⟩
    · refine ⟨d, hd, ?_, ?_, ?_, ?_, ?_⟩
      · rw [inFlightH_snoc, h0]; rfl
      all_goals (rw [locOf_snoc]; rfl)
    · dsimp only
      have h1 : inFlightH (tr ++ [(Call.openExcl d (World.cand env flags (count + 1)), Res.err e)]) = [] := by rw [inFlightH_snoc, h0]; rfl
      split
      · exact ih _ _ h1
      · exact h1

theorem flight_after_commit {T : Trace} {x : Handle × Bytes} (hF : inFlightH T = [x]) (d' : Handle) (n' : Bytes) (r : Res) :
    (isOk r = true → inFlightH (T ++ [(Call.unlinkat d' n', r)]) = []) ∧
    (isOk r = false → inFlightH (T ++ [(Call.unlinkat d' n', r)]) = [] ∨ inFlightH (T ++ [(Call.unlinkat d' n', r)]) = [x]) := by
  rw [inFlightH_snoc, hF, inFlightUpd_unlinkat]
  by_cases hx : x = (d', n')
  · subst hx; simp
  · have : ([x].contains (d', n')) = false := by
      simp only [List.contains_cons, List.contains_nil, Bool.or_false, beq_eq_false_iff_ne, ne_eq]
      exact fun e => hx e.symm
    simp only [this, Bool.false_eq_true, if_false]
    constructor
    · intro h; simp [h]
    · intro h; simp [h]

theorem copy_rollback (md : Maildir) (d : Handle) (name : Bytes) (hd : md.dirH = some d) (T : Trace)
    (hF : inFlightH T = [] ∨ inFlightH T = [(d, name)]) :
    wp PredR (CopyI M) (maildirUnlink md name) (fun _ tr' => inFlightH tr' = []) T := by
  rw [World.maildirUnlink_eq, hd]
  rcases hF with hF | hF
  · refine wp_call (.inr (.inl hF)) fun r _ => ?_
    show inFlightH _ = []
    rw [inFlightH_snoc, hF, inFlightUpd_unlinkat]; simp
  · refine wp_call (.inl (by rw [hF]; exact List.mem_singleton.2 rfl)) fun r _ => ?_
    show inFlightH _ = []
    rw [inFlightH_snoc, hF, inFlightUpd_unlinkat]; simp

theorem copyI_commit {T : Trace} {m : Msg} (hM : M m)
    (hst : (locOf T).st = none) (hdup : (locOf T).dup = none) (hwr : (locOf T).wr = (messageWrite m).1)
    (d' : Handle) (n' : Bytes) : CopyI M T (.unlinkat d' n') :=
  .inr (.inr ⟨hst, hdup, m, hM, hwr⟩)

theorem copy_maildirWrite (env : PEnv) (md : Maildir) (ms : MsgSt) (tr : Trace) (h0 : inFlightH tr = []) (hM : M ms.msg) :
    wp PredR (CopyI M) (maildirWrite env md ms) (fun _ tr' => inFlightH tr' = []) tr := by
  rw [World.maildirWrite_eq]
  unfold gennameStart
  split
  · exact h0
  rename_i fl _
  -- with the literal fuel, checking the next step against the goal would unfold `genname`
  generalize gennameAttempts = fuel
  refine wp_bind_ext (copy_genname env md (some fl) fuel _ _ h0) ?_
  intro g L1 hg
  cases g with
  | none => exact hg
  | some x =>
  obtain ⟨fd, name⟩ := x
  obtain ⟨d, hd, s1⟩ := hg
  dsimp only at s1 ⊢
  refine wp_bind_ext (copy_messageWriteP ms.msg s1) ?_
  rintro we L2 ⟨rfl, s2⟩
  generalize tr ++ L1 ++ L2 = T at s2
  refine wp_call (.inr s2.fd) fun rc _ => ?_
  have hl3 : locOf (T ++ [(Call.close fd, rc)]) = (locOf T).drop fd := by rw [locOf_snoc]; rfl
  have hF3 : inFlightH (T ++ [(Call.close fd, rc)]) = [(d, name)] := by rw [inFlightH_snoc]; exact s2.flight
  generalize hT3 : T ++ [(Call.close fd, rc)] = T3 at hl3 hF3
  simp only [Bool.false_eq_true, if_false]
  simp only [World.maildirUnlink_eq, hd, call_bind', ret_bind]
  refine wp_call (copyI_commit hM (by rw [hl3]; simp [Loc.drop, clr, s2.st]) (by rw [hl3]; simp [Loc.drop, clr, s2.dup])
    (by rw [hl3]; exact s2.wr) d ms.name) fun ru _ => ?_
  obtain ⟨hok, herr⟩ := flight_after_commit hF3 d ms.name ru
  cases hru : isOk ru with
  | false =>
    simp only [Bool.not_false, if_true]
    refine wp_call ?_ fun r2 _ => ?_
    · rcases herr hru with h | h
      · exact .inr (.inl h)
      · exact .inl (by rw [h]; exact List.mem_singleton.2 rfl)
    · show inFlightH _ = []
      rw [inFlightH_snoc, inFlightUpd_unlinkat]
      rcases herr hru with h | h <;> rw [h] <;> simp
  | true =>
    simp only [Bool.not_true, Bool.false_eq_true, if_false]
    refine wp_quiet0_flight ?_ _ (hok hru)
    -- the rest of `maildir_write` call by call (`kinds_step`), down to `message_set_file`
    repeat' (first | kinds_step | exact q0_messageSetFile _ _ _ _)

/-- What follows the rename in `maildir_move`, the roll-back included: nothing in flight any more. -/
theorem copy_moveTail (ss : Subdir) (dst : Maildir) (dh fd : Handle) (dstname : Bytes) (mt : Option Nat) (err1 : Bool)
    (ms' : MsgSt) (hdh : dst.dirH = some dh) (T : Trace)
    (hF : inFlightH T = [] ∨ (err1 = true ∧ inFlightH T = [(dh, dstname)])) :
    wp PredR (CopyI M) (World.moveTail ss dst dh fd dstname mt err1 ms') (fun _ tr' => inFlightH tr' = []) T := by
  cases err1 with
  | true =>
    rw [World.moveTail_err]
    refine wp_bind_ext (copy_rollback dst dh dstname hdh T (hF.imp id And.right)) ?_
    intro _ L hF3
    refine wp_quiet0_flight ?_ _ hF3
    repeat' kinds_step
  | false =>
    rw [World.moveTail_ok]
    refine wp_quiet0_flight ?_ T (hF.resolve_right fun h => Bool.noConfusion h.1)
    repeat' kinds_step

/-- The copy across devices needs the message in `M`; where the results rule out `EXDEV` it is never made. -/
theorem copy_maildirMove (hR : ∀ c r, R c r → PredR c r) (env : PEnv) (s dst : Maildir) (ms : MsgSt) (tr : Trace)
    (h0 : inFlightH tr = []) (hM : M ms.msg ∨ NoExdev R) :
    wp R (CopyI M) (maildirMove env s dst ms) (fun _ tr' => inFlightH tr' = []) tr := by
  rw [World.maildirMove_eq]
  split
  · exact h0
  split
  rotate_left
  · exact h0
  rename_i sh dh hsh hdh
  refine wp_bind_ext (P := fun _ T => inFlightH T = []) ?_ ?_
  · split
    · refine wp_results hR (wp_quiet0_flight ?_ tr h0)
      repeat' kinds_step
    · exact h0
  intro mt L0 h1
  unfold World.moveRest gennameStart
  simp only [bind_eq, pure_eq, call_bind]
  split
  · exact h1
  rename_i fl _
  generalize gennameAttempts = fuel
  refine wp_bind_ext (wp_results hR (copy_genname env dst (some fl) fuel _ _ h1)) ?_
  intro g L1 hg
  cases g with
  | none => exact hg
  | some x =>
  obtain ⟨fd, dstname⟩ := x
  obtain ⟨d, hd, s1⟩ := hg
  rw [hdh] at hd
  cases hd
  dsimp only at s1 ⊢
  generalize tr ++ L0 ++ L1 = T at s1 ⊢
  refine wp_call (show (dh, dstname) ∈ inFlightH T by rw [s1.flight]; exact List.mem_singleton.2 rfl) fun r hr => ?_
  -- `moveCopy` yields (err1, ms'); the created name is still in flight only if err1
  refine wp_bind_ext (P := fun a T' => inFlightH T' = [] ∨ (a.1 = true ∧ inFlightH T' = [(dh, dstname)])) ?_
    fun a L2 hfl => wp_results hR (copy_moveTail _ dst dh fd dstname mt a.1 a.2 hdh _ hfl)
  unfold World.moveCopy
  rcases predR_renameat (hR _ _ hr) with ⟨v, rfl⟩ | ⟨e, rfl⟩
  · refine .inl ?_
    rw [inFlightH_snoc, s1.flight]; simp [inFlightUpd]
  · have s2 : Fresh1 (T ++ [(Call.renameat sh ms.name dh dstname, Res.err e)]) (dh, dstname) fd [] := by
      refine ⟨?_, ?_, ?_, ?_, ?_⟩
      -- a failed `renameat` changes neither the flight nor a slot
      · rw [inFlightH_snoc]; exact s1.flight
      · rw [locOf_snoc]; exact s1.fd
      · rw [locOf_snoc]; exact s1.dup
      · rw [locOf_snoc]; exact s1.st
      · rw [locOf_snoc]; exact s1.wr
    dsimp only
    split
    · -- EXDEV: write a copy, then remove the source
      rename_i hx
      obtain rfl : e = "EXDEV" := by simpa using hx
      have hM : M ms.msg := hM.elim id fun h => absurd hr (h _ _ _ _)
      refine wp_results hR (wp_bind_ext (copy_messageWriteP ms.msg s2) ?_)
      rintro we L2 ⟨rfl, s3⟩
      simp only [Bool.false_eq_true, if_false]
      rw [World.maildirUnlink_eq, hsh]
      refine wp_call (copyI_commit hM s3.st s3.dup s3.wr sh ms.name) fun ru _ => ?_
      obtain ⟨hok, herr⟩ := flight_after_commit s3.flight sh ms.name ru
      cases hru : isOk ru with
      | false =>
        refine (herr hru).imp (fun h => ?_) fun h => ⟨by simp [hru], ?_⟩
        all_goals simpa [List.append_assoc] using h
      | true =>
        refine .inl ?_
        simpa [List.append_assoc] using hok hru
    · exact .inr ⟨rfl, s2.flight⟩

theorem copy_writefd (tmpdir : Bytes) (tr : Trace) (h0 : inFlightH tr = []) :
    wp PredR (CopyI M) (writefd tmpdir)
      (fun res tr' => inFlightH tr' = [] ∧ ∀ fd, res = some fd → fd ∈ (locOf tr').tmp) tr := by
  unfold writefd
  simp only [bind_eq, pure_eq, call_bind]
  split
  · exact ⟨h0, by intro _ h; cases h⟩
  rename_i tmpl _
  refine wp_call True.intro fun r hr => ?_
  obtain ⟨fd, rfl⟩ := predR_mkostemp hr
  dsimp only
  refine wp_call True.intro fun r2 hr2 => ?_
  rw [predR_ok0 hr2 (.inr (.inr (.inr (.inr ⟨_, rfl⟩))))]
  simp only [isOk, if_true]
  refine ⟨?_, ?_⟩
  · rw [inFlightH_snoc, inFlightH_snoc, h0]; rfl
  · intro fd' h
    cases h
    rw [locOf_snoc, locOf_snoc]
    show fd ∈ (fd :: (locOf tr).tmp)
    exact List.mem_cons_self ..

theorem copy_writeAll (fd : Handle) (fuel : Nat) (data : Bytes) (tr : Trace) (h0 : inFlightH tr = [])
    (hfd : fd ∈ (locOf tr).tmp) :
    wp PredR (CopyI M) (writeAll fd fuel data) (fun _ tr' => inFlightH tr' = []) tr := by
  induction fuel generalizing data tr with
  | zero => unfold writeAll; exact h0
  | succ fuel ih =>
    unfold writeAll
    simp only [bind_eq, pure_eq, call_bind]
    split
    · exact h0
    refine wp_call hfd fun r hr => ?_
    rw [predR_write hr]
    dsimp only
    have h1 : inFlightH (tr ++ [(Call.write fd data, Res.ok data.length)]) = [] := by rw [inFlightH_snoc, h0]; rfl
    split
    · exact h1
    · exact ih _ _ h1 (by rw [locOf_snoc]; exact hfd)

def TStream (tr : Trace) (h : Handle) : Prop := inFlightH tr = [] ∧ h ∈ (locOf tr).tst

theorem TStream.I {tr : Trace} {h : Handle} (s : TStream tr h) :
    (inFlightH tr ≠ [] ∧ (locOf tr).st = some h) ∨ h ∈ (locOf tr).tst := .inr s.2

theorem TStream.fprintf {tr : Trace} {h : Handle} (s : TStream tr h) (data : Bytes) (v : Nat) :
    TStream (tr ++ [(.fprintf h data, .ok v)]) h := by
  refine ⟨by rw [inFlightH_snoc]; exact s.1, ?_⟩
  rw [locOf_snoc]
  show h ∈ (if (locOf tr).st = some h then _ else locOf tr).tst
  split
  · exact s.2
  · exact s.2

theorem TStream.same {tr : Trace} {h : Handle} (s : TStream tr h) (c : Call) (r : Res)
    (hc : (∃ h', c = .fflush h') ∨ (∃ h', c = .fsync h')) : TStream (tr ++ [(c, r)]) h := by
  have hl : locOf (tr ++ [(c, r)]) = locOf tr := by
    rw [locOf_snoc]; rcases hc with ⟨_, rfl⟩ | ⟨_, rfl⟩ <;> rfl
  have hf : inFlightH (tr ++ [(c, r)]) = inFlightH tr := by
    rw [inFlightH_snoc]; rcases hc with ⟨_, rfl⟩ | ⟨_, rfl⟩ <;> rfl
  exact ⟨hf ▸ s.1, hl ▸ s.2⟩

theorem tstream_state (h : Handle) : StreamState h fun _ tr => TStream tr h :=
  ⟨TStream.I, fun data v s => s.fprintf data v, fun c r hc s => s.same c r hc⟩

/-- `message_write` into a temporary file (an attachment piped to a command). -/
theorem tmp_messageWriteP (m : Msg) (fd : Handle) (tr : Trace) (h0 : inFlightH tr = []) (hfd : fd ∈ (locOf tr).tmp) :
    wp PredR (CopyI M) (messageWriteP m fd) (fun _ tr' => inFlightH tr' = []) tr := by
  rw [World.messageWriteP_eq]
  refine wp_call True.intro fun r hr => ?_
  obtain ⟨h, rfl⟩ := predR_dupfd hr
  dsimp only
  have hc : (locOf tr).tmp.contains fd = true := by simpa using hfd
  have hl1 : (locOf (tr ++ [(Call.dupfd fd, Res.ok h)])).tmp = h :: (locOf tr).tmp := by
    rw [locOf_snoc]; simp [locUpd.eq_def, hfd]
  have hf1 : inFlightH (tr ++ [(Call.dupfd fd, Res.ok h)]) = [] := by rw [inFlightH_snoc]; exact h0
  generalize tr ++ [(Call.dupfd fd, Res.ok h)] = T at hl1 hf1
  refine wp_call (.inr (by rw [hl1]; exact List.mem_cons_self ..)) fun r2 hr2 => ?_
  rw [predR_ok0 hr2 (.inl ⟨_, rfl⟩)]
  simp only [isOk, Bool.not_true, Bool.false_eq_true, if_false]
  have s2 : TStream (T ++ [(Call.fdopen h, Res.ok 0)]) h := by
    refine ⟨by rw [inFlightH_snoc]; exact hf1, ?_⟩
    rw [locOf_snoc]
    have : h ∈ (locOf T).tmp := by rw [hl1]; exact List.mem_cons_self ..
    simp [locUpd.eq_def, this]
  refine wp_bind_ext (stream_hdrs (wr := []) (tstream_state h) (sortById m.headers) s2) ?_
  rintro herr L1 ⟨rfl, s3⟩
  refine wp_bind_ext (stream_tail (wr := []) (tstream_state h) m.body s3) ?_
  rintro err1 L2 ⟨rfl, s6⟩
  refine wp_call s6.I fun r6 _ => ?_
  show inFlightH _ = []
  rw [inFlightH_snoc]; exact s6.1

theorem copy_tmpCopy (tmpdir : Bytes) (fill : Handle → Prog Bool) (tr : Trace) (h0 : inFlightH tr = [])
    (hfill : ∀ fd T, inFlightH T = [] → fd ∈ (locOf T).tmp → wp PredR (CopyI M) (fill fd) (fun _ tr' => inFlightH tr' = []) T) :
    wp PredR (CopyI M) (World.tmpCopy tmpdir fill) (fun _ tr' => inFlightH tr' = []) tr := by
  unfold World.tmpCopy
  refine wp_bind_ext (copy_writefd tmpdir tr h0) ?_
  rintro f L1 ⟨h1, hfd⟩
  cases f with
  | none => exact h1
  | some fd =>
    refine wp_bind_ext (hfill fd _ h1 (hfd fd rfl)) ?_
    intro e L2 h2
    refine wp_quiet0_flight ?_ _ h2
    repeat' kinds_step

theorem copy_messageGetFd (env : PEnv) (ms : MsgSt) (part : Option Msg) (dobody : Bool) (tr : Trace) (h0 : inFlightH tr = []) :
    wp PredR (CopyI M) (messageGetFd env ms part dobody) (fun _ tr' => inFlightH tr' = []) tr := by
  rw [World.messageGetFd_eq]
  refine wp_bind_ext (P := fun _ T => inFlightH T = []) ?_ fun fdo L h =>
    wp_quiet0_flight ((World.kinds_rewindFd fdo).mono fun _ => Quiet0.of_kind (by decide)) _ h
  split
  · split
    · exact h0
    · exact copy_tmpCopy _ _ tr h0 fun fd T h hfd => copy_writeAll fd _ _ T h hfd
  · split
    · exact copy_tmpCopy _ _ tr h0 fun fd T h hfd => tmp_messageWriteP _ fd T h hfd
    · refine wp_quiet0_flight ?_ tr h0
      repeat' kinds_step

theorem copy_moveBranch (hR : ∀ c r, R c r → PredR c r) (env : PEnv) (mh : Match) (st : ExecSt) (tr : Trace)
    (h0 : inFlightH tr = []) (hM : M st.ms.msg ∨ NoExdev R) :
    wp R (CopyI M) (moveBranch env mh st) (fun x tr' => inFlightH tr' = [] ∧ x.1.ms.msg = st.ms.msg) tr := by
  unfold moveBranch
  refine wp_bind_ext (wp_results hR (wp_quiet0_flight (q0_maildirOpenDst _) _ h0)) ?_
  intro d L0 h1
  cases d with
  | none => exact ⟨h1, rfl⟩
  | some dst =>
    dsimp only
    refine wp_bind_ext (wp_with_all (copy_maildirMove hR env st.src dst st.ms _ h1 hM) (World.val_maildirMove env st.src dst st.ms)) ?_
    rintro x L1 ⟨h2, -, hmsg, -⟩
    have closeThen : ∀ (md : Maildir) (r : ExecSt × Bool), r.1.ms.msg = st.ms.msg →
        wp R (CopyI M) ((maildirClose md).bind fun _ => Prog.ret r)
          (fun x tr' => inFlightH tr' = [] ∧ x.1.ms.msg = st.ms.msg) (tr ++ L0 ++ L1) := by
      intro md r hr
      refine wp_bind_ext (wp_results hR (wp_quiet0_flight (q0_maildirClose _) _ h2)) ?_
      intro _ L2 h3
      exact ⟨h3, hr⟩
    split
    · exact closeThen _ _ hmsg
    · split
      · split
        · exact closeThen _ _ hmsg
        · exact ⟨h2, hmsg⟩
      · exact closeThen _ _ hmsg

/-- Either the message is in `M`, or the action delivers by renaming and the results rule out `EXDEV`. -/
theorem copy_execOne (hR : ∀ c r, R c r → PredR c r) (env : PEnv) (mh : Match) (st : ExecSt) (tr : Trace)
    (h0 : inFlightH tr = []) (hM : M st.ms.msg ∨ (isMover mh ∧ NoExdev R)) :
    wp R (CopyI M) (execOne env mh st) (fun x tr' => inFlightH tr' = [] ∧ x.1.ms.msg = st.ms.msg) tr := by
  by_cases hty : mh.ty = .move ∨ mh.ty = .flag ∨ mh.ty = .flags
  · rw [execOne_move env mh st hty]
    exact copy_moveBranch hR env mh st tr h0 (hM.imp_right (·.2))
  have hM : M st.ms.msg := hM.elim id fun h => absurd h.1 hty
  have write : wp PredR (CopyI M) ((maildirWrite env st.src st.ms).bind fun x => Prog.ret (({ st with ms := x.1 } : ExecSt), x.2))
      (fun x tr' => inFlightH tr' = [] ∧ x.1.ms.msg = st.ms.msg) tr := by
    refine wp_bind_ext (wp_with_all (copy_maildirWrite env st.src st.ms _ h0 hM) (World.val_maildirWrite env st.src st.ms)) ?_
    rintro x L ⟨h1, hmsg, -⟩
    exact ⟨h1, hmsg⟩
  refine wp_results hR ?_
  rcases World.execOne_ty_cases mh.ty with h | h | h | h | h | h
  · exact absurd h hty
  · rw [World.execOne_discard env mh st h, World.maildirUnlink_eq]
    split
    · exact ⟨h0, rfl⟩
    · simp only [call_bind', ret_bind]
      refine wp_call (.inr (.inl h0)) fun r _ => ?_
      refine ⟨?_, ?_⟩
      · rw [inFlightH_snoc, h0, inFlightUpd_unlinkat]; simp
      · show (if (!isOk r) = true then st else _).ms.msg = st.ms.msg
        split <;> rfl
  · rw [World.execOne_write env mh st h]
    exact write
  · rw [World.execOne_reject env mh st h]
    exact ⟨h0, rfl⟩
  · rw [World.execOne_exec env mh st h]
    refine wp_bind_ext (P := fun _ T => inFlightH T = []) ?_ ?_
    · split
      · refine wp_bind_ext (copy_messageGetFd env st.ms _ _ _ h0) ?_
        intro _ _ h
        exact h
      · exact h0
    · intro fdr L0 h1
      cases fdr with
      | none => exact ⟨h1, rfl⟩
      | some fd =>
        dsimp only
        refine wp_bind_ext (wp_quiet0_flight (q0_execP _ fd) _ h1) ?_
        intro rc L1 h2
        cases fd with
        | none => exact ⟨h2, rfl⟩
        | some h =>
          dsimp only
          refine wp_call (.inl h2) fun r _ => ?_
          refine ⟨?_, rfl⟩
          rw [inFlightH_snoc, h2]; rfl
  · rw [World.execOne_other env mh st h]
    exact ⟨h0, rfl⟩

theorem copy_matchesExec (hR : ∀ c r, R c r → PredR c r) (env : PEnv) (ml : MatchList) (st : ExecSt) (tr : Trace)
    (h0 : inFlightH tr = []) (hM : M st.ms.msg ∨ ((∀ mh ∈ ml, isMover mh) ∧ NoExdev R)) :
    wp R (CopyI M) (matchesExec env ml st) (fun _ tr' => inFlightH tr' = []) tr := by
  induction ml generalizing st tr with
  | nil =>
    rw [matchesExec_nil]
    split
    · refine wp_bind_ext (wp_results hR (wp_quiet0_flight (q0_maildirClose _) _ h0)) ?_
      intro _ L h1
      exact h1
    · exact h0
  | cons mh rest ih =>
    rw [matchesExec_cons]
    refine wp_bind_ext (copy_execOne hR env mh st tr h0 (hM.imp_right fun h => ⟨h.1 mh (List.mem_cons_self ..), h.2⟩)) ?_
    rintro x L ⟨h1, hmsg⟩
    split
    · unfold errTail
      split
      · refine wp_bind_ext (wp_results hR (wp_quiet0_flight (q0_maildirClose _) _ h1)) ?_
        intro _ L2 h2
        exact h2
      · exact h1
    · exact ih x.1 _ h1 (hM.imp (hmsg ▸ ·) fun h => ⟨fun mh' hm => h.1 mh' (List.mem_cons_of_mem _ hm), h.2⟩)

theorem copy_party (hR : ∀ c r, R c r → PredR c r) (env : PEnv) (ml : MatchList) (st : ExecSt)
    (hM : M st.ms.msg ∨ ((∀ mh ∈ ml, isMover mh) ∧ NoExdev R)) :
    wp R (CopyI M) (errOf (matchesExec env ml st)) (fun _ tr' => inFlightH tr' = []) [] := by
  unfold errOf
  refine wp_bind_ext (copy_matchesExec hR env ml st [] rfl hM) ?_
  intro x L h
  exact h

theorem copy_scanExec (env : PEnv) (md : Maildir) (rule : Bytes → Option (MatchList × MsgSt))
    (hM : ∀ n ml ms, rule n = some (ml, ms) → M ms.msg) (fuel : Nat) (e : Bool) (tr : Trace) (h0 : inFlightH tr = []) :
    wp PredR (CopyI M) (scanExec env md rule fuel e) (fun _ tr' => inFlightH tr' = []) tr := by
  induction fuel generalizing e tr with
  | zero => unfold scanExec; exact h0
  | succ fuel ih =>
    unfold scanExec
    split
    · exact h0
    rename_i d hd
    refine wp_call True.intro fun r hrr => ?_
    have h1 : inFlightH (tr ++ [(Call.readdir d, r)]) = [] := by rw [inFlightH_snoc, h0]; rfl
    split
    · rename_i n
      split
      · exact ih _ _ h1
      · split
        · exact ih _ _ h1
        · rename_i ml ms hr
          refine wp_bind_ext (copy_matchesExec (fun _ _ h => h) env ml _ _ h1 (.inl (hM n ml ms hr))) ?_
          intro x L h2
          exact ih _ _ h2
    · exact h1
    · exact h1

end Mdsort.Proofs.Parties
