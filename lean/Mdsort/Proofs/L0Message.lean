import Mdsort.Model.L0.Message
import Mdsort.Model.Header
import Mdsort.Proofs.L0Basic

/-!
# L0 header code: what the refinement proofs start from

What the in-place NUL writes of `findheader` keep (`KeepsNuls`), what it promises (`FindHdr.Post`), when a header table
points into its buffer (`HdrsIn`), the libks vector (`VECTOR_CALLOC` and the stale pointer it can leave), and the scanners
settled without more (`skipseparator`, the newline skip before the body, `strcasecmp`).
-/

namespace Mdsort.L0
open Mdsort Mdsort.L0.Buf

/-- Every NUL of `b` is a NUL of `b'` and the size is the same: what the in-place writes of `findheader` do. -/
def KeepsNuls (b b' : Buf) : Prop := b'.size = b.size ∧ ∀ k, b.get? k = .ok 0 → b'.get? k = .ok 0

theorem KeepsNuls.refl (b : Buf) : KeepsNuls b b := ⟨rfl, fun _ h => h⟩

theorem KeepsNuls.trans {a b c : Buf} (h1 : KeepsNuls a b) (h2 : KeepsNuls b c) : KeepsNuls a c :=
  ⟨h2.1.trans h1.1, fun k hk => h2.2 k (h1.2 k hk)⟩

theorem KeepsNuls.of_set {b b' : Buf} {i : Nat} (h : b.set i 0 = .ok b') : KeepsNuls b b' := by
  refine ⟨size_of_set h, fun k hk => ?_⟩
  rw [get?_set h]
  split
  · rfl
  · exact hk

theorem KeepsNuls.hasNul {b b' : Buf} (h : KeepsNuls b b') {i : Nat} (hn : b.HasNul i) : b'.HasNul i := by
  obtain ⟨k, hk, hg⟩ := hn
  exact ⟨k, hk, h.2 k hg⟩

theorem KeepsNuls.terminated {b b' : Buf} (h : KeepsNuls b b') (ht : b.Terminated) : b'.Terminated :=
  terminated_of_last (h.1 ▸ h.2 _ ht.last)

theorem skipSeparator_refines (b : Buf) {i : Nat} (h : b.HasNul i) :
    ∃ j, skipSeparator b i = .ok j ∧ i ≤ j ∧ b.HasNul j ∧ b.view j = Model.skipSeparator (b.view i) := by
  unfold skipSeparator Model.skipSeparator
  rw [startsWithLit_spec h _ (by decide)]
  by_cases hs : startsWith (b.view i) [70, 114, 111, 109, 32] = true
  · simp only [hs, if_true]
    rw [strchr_spec h 10 (by decide), Proofs.strchr_eq]
    have c := h.at.dropWhile (· != 10)
    cases hd : (b.view i).dropWhile (· != 10) with
    | nil => exact ⟨i, rfl, Nat.le_refl _, h, rfl⟩
    | cons x q =>
      rw [hd] at c
      exact ⟨_, rfl, by omega, c.tail.hasNul, c.tail.view⟩
  · simp only [hs, Bool.false_eq_true, if_false]
    exact ⟨i, rfl, Nat.le_refl _, h, rfl⟩

theorem scanKey_eq {b : Buf} {i : Nat} {c : UInt8} (hg : b.get? i = .ok c) :
    scanKey b i = if c == 58 then .ok (some i) else if c == 0 || isspace c then .ok none else scanKey b (i + 1) := by
  rw [scanKey]; split <;> simp_all

/-- What `findheader` guarantees about its result. -/
def FindHdr.Post (b : Buf) (i : Nat) : FindHdr → Prop
  | .notHeader => True
  | .cutAtColon b' => KeepsNuls b b'
  | .found b' ks vs =>
    KeepsNuls b b' ∧ ks.beg = i ∧ i ≤ ks.end_ ∧ ks.end_ < vs.beg ∧ vs.beg ≤ vs.end_ ∧
      b'.get? ks.end_ = .ok 0 ∧ b'.get? vs.end_ = .ok 0 ∧ b'.HasNul (vs.end_ + 1)

theorem Vec.growSiz_ge (s need : Nat) (hs : 0 < s) : need ≤ Vec.growSiz s need := by
  fun_induction Vec.growSiz s need with
  | case1 s h ih => exact ih (by omega)
  | case2 s h => omega

/-- `VECTOR_CALLOC` never writes outside the capacity, and the pointer it returns is valid for the new vector. -/
theorem Vec.calloc_ok {α : Type} (v : Vec α) (z : α) :
    ∃ v' p, v.calloc z = .ok (v', p) ∧ v'.items = v.items.push z ∧ p.gen = v'.gen ∧ p.idx = v.items.size := by
  unfold Vec.calloc
  have hitems : v.reserve1.items = v.items := by unfold Vec.reserve1; split <;> rfl
  have hlt : v.reserve1.items.size < v.reserve1.siz := by
    unfold Vec.reserve1
    split
    · omega
    · simp only
      have := Vec.growSiz_ge (if v.siz = 0 then 16 else v.siz) (v.items.size + 1) (by split <;> omega)
      omega
  rw [if_pos hlt]
  exact ⟨_, _, rfl, by simp [hitems], rfl, by simp [hitems]⟩

/-- The fault the generation numbers exist for: once `VECTOR_CALLOC` had to reallocate, every pointer taken
before it is stale, and dereferencing it is `Fault.uaf`.  (`parseattachments` read `msg->me_path` inside its loop until
/repo 88a7ae6; `L0.partsLoop` transcribes the loop after that repair and contains no such access.) -/
theorem Vec.deref_stale {α : Type} (v : Vec α) (z : α) (p : Ptr) (hp : p.gen = v.gen)
    (hfull : ¬ v.items.size + 1 < v.siz) :
    ∃ v' q, v.calloc z = .ok (v', q) ∧ v'.deref p = .error .uaf := by
  obtain ⟨v', q, hc, _, _, _⟩ := Vec.calloc_ok v z
  refine ⟨v', q, hc, ?_⟩
  have hg : v'.gen = v.gen + 1 := by
    unfold Vec.calloc at hc
    simp only at hc
    split at hc
    · cases hc; simp [Vec.reserve1, hfull]
    · cases hc
  unfold Vec.deref
  have : p.gen ≠ v'.gen := by omega
  simp [this]

theorem push_set_last {α : Type} (xs : Array α) (z a : α) : (xs.push z).setIfInBounds xs.size a = xs.push a := by
  apply Array.ext'
  simp only [Array.toList_setIfInBounds, Array.toList_push]
  rw [List.set_append_right _ _ (by simp)]
  simp

theorem Vec.store_ok {α : Type} (v : Vec α) (p : Ptr) (a : α) (hg : p.gen = v.gen) (hi : p.idx < v.items.size) :
    v.store p a = .ok { v with items := v.items.setIfInBounds p.idx a } := by
  unfold Vec.store; simp [hg, hi]

theorem Vec.calloc_store {α : Type} (v : Vec α) (z : α) :
    ∃ v1 p, v.calloc z = .ok (v1, p) ∧ v1.items.size = v.items.size + 1 ∧ p.gen = v1.gen ∧ p.idx = v.items.size ∧
      ∀ a, v1.store p a = .ok { v1 with items := v.items.push a } := by
  obtain ⟨v1, p, hc, hitems, hgen, hidx⟩ := Vec.calloc_ok v z
  refine ⟨v1, p, hc, by rw [hitems]; simp, hgen, hidx, fun a => ?_⟩
  rw [Vec.store_ok v1 p a hgen (by rw [hitems, hidx]; simp), hitems, hidx, push_set_last]

/-- Every `key` and `val` pointer of the table points at a C string inside `me_buf`. -/
def HdrsIn (b : Buf) (hs : Array Hdr0) : Prop := ∀ h ∈ hs, b.HasNul h.key ∧ b.HasNul h.val

theorem HdrsIn.keeps {b b' : Buf} {hs : Array Hdr0} (h : HdrsIn b hs) (hk : KeepsNuls b b') : HdrsIn b' hs :=
  fun x hx => ⟨hk.hasNul (h x hx).1, hk.hasNul (h x hx).2⟩

theorem skipNewlines_eq {b : Buf} {i : Nat} {c : UInt8} (hg : b.get? i = .ok c) :
    skipNewlines b i = if c == 10 then skipNewlines b (i + 1) else .ok i := by
  rw [skipNewlines]; split <;> simp_all

theorem skipNewlines_spec {b : Buf} {i : Nat} (h : b.HasNul i) :
    skipNewlines b i = .ok (i + ((b.view i).takeWhile (· == 10)).length) :=
  h.scan (g := fun i _ => .ok i) rfl fun _ _ => skipNewlines_eq

theorem skipTabs_eq {b : Buf} {i : Nat} {c : UInt8} (hg : b.get? i = .ok c) :
    skipTabs b i = if c == 9 then skipTabs b (i + 1) else .ok i := by
  rw [skipTabs]; split <;> simp_all

theorem tolower_pos {y : UInt8} (hy : y ≠ 0) : (0 : UInt8) < tolower y :=
  UInt8.pos_iff_ne_zero.mpr fun e => hy (tolower_eq_zero y e)

theorem strcasecmp_spec {a b : Buf} {i j : Nat} (ha : a.HasNul i) (hb : b.HasNul j) :
    strcasecmp a i b j = .ok (Mdsort.strcasecmp (a.view i) (b.view j)) := by
  have ht0 : tolower 0 = 0 := by decide
  induction ha using HasNul.induction generalizing j with
  | nul i ha hga hva =>
    rw [strcasecmp, hga, hva]
    rcases hb.cases with ⟨hgb, hvb⟩ | ⟨y, hy, hgb, hvb, _⟩
    · rw [hgb, hvb]
      simp [Mdsort.strcasecmp, ht0]
    · rw [hgb, hvb]
      simp [Mdsort.strcasecmp, ht0, tolower_pos hy]
  | cons i x ha ha' hx hga hva ih =>
    rw [strcasecmp, hga, hva]
    rcases hb.cases with ⟨hgb, hvb⟩ | ⟨y, hy, hgb, hvb, hb'⟩
    · rw [hgb, hvb]
      have hn : ¬ tolower x < 0 := by
        rw [UInt8.lt_iff_toNat_lt]; simp
      simp [Mdsort.strcasecmp, ht0, tolower_pos hx, hn]
    · rw [hgb, hvb]
      simp only [Mdsort.strcasecmp, beq_iff_eq, hx, if_false]
      rw [ih hb']
      split
      · rfl
      · split <;> rfl

end Mdsort.L0
