import Mdsort.Proofs.WorldFoot

/-! `maildir_stdin`: the spool file holds the complete input, visibly and durably, whenever the
function reports success - under every fault plan.  Also: what the function leaves behind on
each of its failure paths (for the cleanup theorem). -/

namespace Mdsort.Proofs.World
open Mdsort Mdsort.Model

/-- Same file system and handles; only the trace (and `devs`, `mtimes`) may differ.  The scripts state `SameFs` (WorldScripts:
only the trace differs), which implies this; no statement is made through `SameFsS`. -/
def SameFsS (a b : World) : Prop :=
  b.dirs = a.dirs ∧ b.files = a.files ∧ b.nextFid = a.nextFid ∧ b.handles = a.handles

theorem SameFsS.lookup {a b : World} (h : SameFsS a b) (p n : Bytes) : b.lookup p n = a.lookup p n :=
  lookup_of_dirs h.1 p n

/-- `w` differs from `w0` at most in the objects of the handles in `H` and in file `fid`. -/
structure SameBut (w0 w : World) (H : Handle → Prop) (fid : Nat) : Prop where
  dirs : w.dirs = w0.dirs
  nextFid : w.nextFid = w0.nextFid
  len : w.handles.length = w0.handles.length
  objs : ∀ h, ¬ H h → w.obj h = w0.obj h
  files : ∀ g, g ≠ fid → w.file g = w0.file g

theorem SameBut.refl (w : World) (H : Handle → Prop) (fid : Nat) : SameBut w w H fid :=
  ⟨rfl, rfl, rfl, fun _ _ => rfl, fun _ _ => rfl⟩

theorem SameBut.trans {w0 w1 w2 : World} {H : Handle → Prop} {fid : Nat}
    (a : SameBut w0 w1 H fid) (b : SameBut w1 w2 H fid) : SameBut w0 w2 H fid :=
  ⟨b.dirs.trans a.dirs, b.nextFid.trans a.nextFid, b.len.trans a.len,
   fun h hh => (b.objs h hh).trans (a.objs h hh), fun g hg => (b.files g hg).trans (a.files g hg)⟩

theorem SameBut.mono {w0 w : World} {H H' : Handle → Prop} {fid : Nat} (a : SameBut w0 w H fid)
    (hH : ∀ h, H h → H' h) : SameBut w0 w H' fid :=
  ⟨a.dirs, a.nextFid, a.len, fun h hh => a.objs h (fun x => hh (hH h x)), a.files⟩

theorem SameBut.ofSameFs {w0 w : World} (h : SameFs w0 w) (H : Handle → Prop) (fid : Nat) : SameBut w0 w H fid :=
  ⟨h.dirs, h.nextFid, by rw [h.handles], fun x _ => h.obj x, fun g _ => h.file g⟩

theorem sameBut_setObj (w : World) (fd : Handle) (o : Obj) (H : Handle → Prop) (hH : H fd) (fid : Nat) :
    SameBut w (w.setObj fd o) H fid := by
  refine ⟨rfl, rfl, by simp, ?_, fun _ _ => rfl⟩
  intro h hh
  have : h ≠ fd := fun e => hh (e ▸ hH)
  simp [obj_setObj, this]

theorem sameBut_step {w : World} {c : Call} {r : Res} {H : Handle → Prop} {fid : Nat}
    (h : SameBut w (core w c r) H fid) : SameBut w (stepWorld w c r) H fid :=
  ⟨h.dirs, h.nextFid, h.len, h.objs, h.files⟩

/-- The inner loop of the copy: a short `write` is continued, never accepted. -/
theorem spec_wr (fd fid : Nat) (fuel : Nat) (chunk : Bytes) {w : World} {acc dur : Bytes} {off : Nat}
    (ho : w.obj fd = .file fid off true) (hf : w.file fid = some ⟨acc, dur⟩) :
    wp NoInv (copyStdin.wr fd fuel chunk)
      (fun e w' => SameBut w w' (fun h => h = fd) fid ∧
        ∃ off' c', w'.obj fd = .file fid off' true ∧ w'.file fid = some ⟨acc ++ c', dur⟩ ∧ (e = false → c' = chunk)) w := by
  induction fuel generalizing chunk w acc off with
  | zero =>
    unfold copyStdin.wr
    exact ⟨SameBut.refl _ _ _, off, [], ho, by simpa using hf, nofun⟩
  | succ fuel ih =>
    unfold copyStdin.wr
    simp only [bind_eq, pure_eq, call_bind]
    split
    · rename_i hemp
      have : chunk = [] := by simpa using hemp
      exact ⟨SameBut.refl _ _ _, off, [], ho, by simpa using hf, fun _ => this.symm⟩
    · rename_i hne
      have hpos : 0 < chunk.length := by
        cases chunk with
        | nil => simp at hne
        | cons _ _ => simp
      refine wp_call (fun r => (∃ n, r = .ok n ∧ 0 < n ∧ n ≤ chunk.length) ∨ ∃ e, r = .err e) ?_ ?_
      · intro ft
        rcases faultResult_write ft w fd chunk with ⟨n, hn, h | h⟩ | h
        · exact .inl ⟨n, hn, by omega, by omega⟩
        · exact .inl ⟨n, hn, h.1, by omega⟩
        · exact .inr h
      · rintro r (⟨n, rfl, hn0, hnle⟩ | ⟨e, rfl⟩)
        · refine ⟨trivial, ?_⟩
          have hc := core_write_file_ok ho hf chunk n hn0 hnle
          have hlt : fd < w.handles.length := lt_of_obj_ne_closed w fd (by simp [ho])
          have hsb : SameBut w (stepWorld w (.write fd chunk) (.ok n)) (fun h => h = fd) fid := by
            apply sameBut_step
            rw [hc]
            refine ⟨rfl, rfl, by simp, ?_, ?_⟩
            · intro h hh
              simp [obj_setObj, hh]
            · intro g hg
              simp [file_setFile, hg]
          have ho1 : (stepWorld w (.write fd chunk) (.ok n)).obj fd = .file fid (off + n) true := by
            rw [stepWorld_obj, hc]; simp [obj_setObj, hlt]
          have hf1 : (stepWorld w (.write fd chunk) (.ok n)).file fid = some ⟨acc ++ chunk.take n, dur⟩ := by
            rw [stepWorld_file, hc]; simp [file_setFile]
          have hn0' : (n == 0) = false := by simp; omega
          simp only [hn0', Bool.false_eq_true, if_false]
          refine wp_mono (ih (chunk.drop n) ho1 hf1) ?_
          rintro e w' ⟨sb, off', c', h1, h2, h3⟩
          refine ⟨hsb.trans sb, off', chunk.take n ++ c', h1, by simpa [List.append_assoc] using h2, ?_⟩
          intro he
          rw [h3 he, List.take_append_drop]
        · refine ⟨trivial, ?_⟩
          have hs := sameFs_err w (.write fd chunk) e rfl
          exact ⟨SameBut.ofSameFs hs _ _, off, [], by rw [hs.obj]; exact ho, by rw [hs.file]; simpa using hf,
            nofun⟩

/-- The outer loop: a short `read` is followed by another `read`, a failed one is an error; only the `read` that returns 0
ends the copy with success. -/
theorem spec_copyStdin (fd fid sfid : Nat) (input : Bytes) (hfd : fd ≠ 0) (hfid : fid ≠ sfid) (fuel : Nat) (k : Nat)
    {w : World} {fs : File} {dur : Bytes} {off : Nat} (hk : k ≤ input.length)
    (h0 : w.obj 0 = .file sfid k false) (hs : w.file sfid = some fs) (hsd : fs.data = input)
    (ho : w.obj fd = .file fid off true) (hf : w.file fid = some ⟨input.take k, dur⟩) :
    wp NoInv (copyStdin fd fuel (input.drop k))
      (fun e w' => SameBut w w' (fun h => h = 0 ∨ h = fd) fid ∧
        ∃ off' c, w'.obj fd = .file fid off' true ∧ w'.file fid = some ⟨c, dur⟩ ∧ (e = false → c = input)) w := by
  induction fuel generalizing k w off with
  | zero =>
    unfold copyStdin
    exact ⟨SameBut.refl _ _ _, off, _, ho, hf, nofun⟩
  | succ fuel ih =>
    unfold copyStdin
    simp only [bind_eq, pure_eq, call_bind]
    have hlt0 : 0 < w.handles.length := lt_of_obj_ne_closed w 0 (by simp [h0])
    refine wp_call (fun r => (∃ e, r = .err e) ∨ ∃ n, r = .ok n ∧ n ≤ input.length - k ∧ (n = 0 → input.length - k = 0)) ?_ ?_
    · intro ft
      have := read_results ft h0 hs
      rw [hsd] at this
      exact this
    · rintro r (⟨e, rfl⟩ | ⟨n, rfl, hnle, hn0⟩)
      · refine ⟨trivial, ?_⟩
        have hsf := sameFs_err w (.read 0) e rfl
        exact ⟨SameBut.ofSameFs hsf _ _, off, _, by rw [hsf.obj]; exact ho, by rw [hsf.file]; exact hf, nofun⟩
      · refine ⟨trivial, ?_⟩
        have hc := core_read_ok h0 hs n (by rw [hsd]; omega) (by rw [hsd]; omega)
        have hsb : SameBut w (stepWorld w (.read 0) (.ok n)) (fun h => h = 0 ∨ h = fd) fid := by
          apply sameBut_step
          rw [hc]
          exact sameBut_setObj w 0 _ _ (.inl rfl) fid
        have h01 : (stepWorld w (.read 0) (.ok n)).obj 0 = .file sfid (k + n) false := by
          rw [stepWorld_obj, hc]; simp [obj_setObj, hlt0]
        have ho1 : (stepWorld w (.read 0) (.ok n)).obj fd = .file fid off true := by
          rw [stepWorld_obj, hc]; simp [obj_setObj, hfd, ho]
        have hs1 : (stepWorld w (.read 0) (.ok n)).file sfid = some fs := by
          rw [stepWorld_file, hc]; simpa using hs
        have hf1 : (stepWorld w (.read 0) (.ok n)).file fid = some ⟨input.take k, dur⟩ := by
          rw [stepWorld_file, hc]; simpa using hf
        by_cases hz : n = 0
        · subst hz
          simp only [beq_self_eq_true, if_true]
          refine ⟨hsb, off, _, ho1, hf1, ?_⟩
          intro _
          have : k = input.length := by have := hn0 rfl; omega
          rw [this, List.take_length]
        · have hz' : (n == 0) = false := by simp [hz]
          simp only [hz', Bool.false_eq_true, if_false]
          refine wp_bind_mono (spec_wr fd fid (n + 1) ((input.drop k).take n) ho1 hf1) ?_
          rintro e w2 ⟨sb2, off2, c2, ho2, hf2, hc2⟩
          have sb2' : SameBut (stepWorld w (.read 0) (.ok n)) w2 (fun h => h = 0 ∨ h = fd) fid :=
            sb2.mono (fun h hh => .inr hh)
          cases e with
          | true =>
            simp only [if_true]
            exact ⟨hsb.trans sb2', off2, _, ho2, hf2, nofun⟩
          | false =>
            simp only [Bool.false_eq_true, if_false, List.drop_drop]
            have h02 : w2.obj 0 = .file sfid (k + n) false := by
              rw [sb2.objs 0 (fun e => hfd e.symm)]; exact h01
            have hs2 : w2.file sfid = some fs := by
              rw [sb2.files sfid (fun e => hfid e.symm)]; exact hs1
            have hf2' : w2.file fid = some ⟨input.take (k + n), dur⟩ := by
              rw [hf2, hc2 rfl, List.take_add]
            have := ih (k + n) (by omega) h02 hs2 ho2 hf2'
            refine wp_mono this ?_
            rintro e w3 ⟨sb3, off3, c3, ho3, hf3, hc3⟩
            exact ⟨(hsb.trans sb2').trans sb3, off3, c3, ho3, hf3, hc3⟩

/-- The name `maildir_genname` tries for counter value `count`.  It contains `_` (byte 95), which is how the stdin
predicates know that a spool name is neither `.` nor `..`.  (`Parties.genName`, WorldKinds, has the same body; the statements
of Props/C02 are written with this one.) -/
def gennameName (env : PEnv) (flags : Option Bytes) (count : Nat) : Bytes :=
  decimalInt env.now ++ [46] ++ decimal env.pid ++ [95] ++ decimal count ++ [46] ++ env.host ++ flags.getD []

theorem spec_genname_plain (env : PEnv) (md : Maildir) (flags : Option Bytes) (fuel count : Nat) {w : World} :
    wp NoInv (genname env md flags fuel count)
      (fun res w' =>
        (res = none ∧ SameFs w w') ∨
        (∃ fd name d p w3, res = some (fd, name) ∧ md.dirH = some d ∧ SameFs w w3 ∧ w3.dirPath d = some p ∧
          w3.lookup p name = none ∧ fd = w3.handles.length ∧
          w' = stepWorld w3 (.openExcl d name) (.ok w3.handles.length) ∧ (95 : UInt8) ∈ name ∧
          ∃ k, name = gennameName env flags k)) w := by
  refine wp_mono (wp_genname env md flags (fun _ => True) (fun _ _ => trivial) (fun _ _ _ _ _ _ _ _ => trivial) fuel count
    (SameFs.refl w)) ?_
  rintro res w' (⟨h, hs⟩ | ⟨d, wk, p, c, hd, hs, hp, -, -, hl, rfl, rfl⟩)
  · exact .inl ⟨h, hs⟩
  · exact .inr ⟨_, _, d, p, wk, rfl, hd, hs, hp, hl, rfl, rfl, by simp [cand], c % gennameWrap, rfl⟩

/-- Handle 0 is a read-only descriptor at offset 0 on an existing file that holds `input` (`sfid < nextFid`: no later
create gets the id of that file). -/
def StdinIs (w : World) (input : Bytes) : Prop :=
  ∃ sfid fs, w.obj 0 = .file sfid 0 false ∧ w.file sfid = some fs ∧ fs.data = input ∧ sfid < w.nextFid

/-- `StdinIs` with its witnesses named, so that it can be followed through calls. -/
structure StdinKept (sfid : Nat) (fs : File) (w : World) : Prop where
  obj0 : w.obj 0 = .file sfid 0 false
  file : w.file sfid = some fs
  fidLt : sfid < w.nextFid

theorem StdinKept.step {sfid : Nat} {fs : File} {w : World} (k : StdinKept sfid fs w) (c : Call) (r : Res)
    (hsub : Call.subject c ≠ some 0) (hfs : fileSafe w sfid c) : StdinKept sfid fs (stepWorld w c r) := by
  have hl : 0 < w.handles.length := lt_of_obj_ne_closed w 0 (by rw [k.obj0]; simp)
  exact ⟨by rw [stepWorld_obj, core_obj w c r 0 hl hsub]; exact k.obj0,
    by rw [stepWorld_file, core_file w c r sfid k.fidLt hfs]; exact k.file,
    Nat.lt_of_lt_of_le k.fidLt (core_nextFid w c r)⟩

theorem StdinKept.sameFs {sfid : Nat} {fs : File} {w w' : World} (k : StdinKept sfid fs w) (h : SameFs w w') :
    StdinKept sfid fs w' :=
  ⟨(h.obj 0).trans k.obj0, (h.file sfid).trans k.file, by rw [h.nextFid]; exact k.fidLt⟩

theorem obj_dir_keep {w : World} {d : Handle} {p : Bytes} {snap : Option (List Bytes)} {pos : Nat} (c : Call) (r : Res)
    (hc : Call.released c = none) (hobj : w.obj d = .dir p snap pos) :
    ∃ snap' pos', (stepWorld w c r).obj d = .dir p snap' pos' := by
  rw [stepWorld_obj]
  exact core_obj_dir c r hobj ⟨(by rintro rfl; cases hc), (by rintro rfl; cases hc)⟩

theorem sameBut_close (w : World) (fd : Handle) (r : Res) (H : Handle → Prop) (hH : H fd) (fid : Nat) :
    SameBut w (stepWorld w (.close fd) r) H fid := by
  apply sameBut_step; rw [core_close]; exact sameBut_setObj w fd _ H hH fid

theorem file_close (w : World) (fd : Handle) (r : Res) (g : Nat) : (stepWorld w (.close fd) r).file g = w.file g := by
  rw [stepWorld_file, core_close]; rfl

theorem sameBut_setFile (w : World) (fid : Nat) (f : File) (H : Handle → Prop) : SameBut w (w.setFile fid f) H fid :=
  ⟨rfl, rfl, rfl, fun _ _ => rfl, fun g hg => by simp [file_setFile, hg]⟩

/-- Copy, `fsync`, `close`: the part of `maildir_stdin` after the spool file has been created. -/
theorem spec_stdinTail (input : Bytes) (md : Maildir) (fd : Handle) (name : Bytes) (fid sfid : Nat) {w : World} {fs : File}
    (hfd : fd ≠ 0) (hfid : fid ≠ sfid) (h0 : w.obj 0 = .file sfid 0 false) (hs : w.file sfid = some fs) (hsd : fs.data = input)
    (ho : w.obj fd = .file fid 0 true) (hf : w.file fid = some ⟨[], []⟩) :
    wp NoInv
      ((copyStdin fd (input.length + 2) input).bind fun e1 =>
        (if e1 = true then Prog.ret true else Prog.call (Call.fsync fd) fun r => Prog.ret !isOk r).bind fun e2 =>
          Prog.call (Call.close fd) fun r3 => Prog.ret (md, e2 || !isOk r3, some name))
      (fun r w' => r.1 = md ∧ r.2.2 = some name ∧ SameBut w w' (fun h => h = 0 ∨ h = fd) fid ∧
        (r.2.1 = false → w'.file fid = some ⟨input, input⟩)) w := by
  have hcopy := spec_copyStdin fd fid sfid input hfd hfid (input.length + 2) 0 (Nat.zero_le _) h0 hs hsd ho (by simpa using hf)
  simp only [List.drop_zero] at hcopy
  refine wp_bind_mono hcopy ?_
  rintro e1 w1 ⟨sb1, off1, c1, ho1, hf1, hc1⟩
  cases e1 with
  | true =>
    simp only [if_true, ret_bind]
    refine wp_call_any fun r3 => ⟨trivial, ?_⟩
    exact ⟨rfl, rfl, sb1.trans (sameBut_close w1 fd r3 _ (.inr rfl) fid), by intro h; simp at h⟩
  | false =>
    simp only [Bool.false_eq_true, if_false, call_bind']
    refine wp_call_plain 0 rfl rfl ?_
    rintro r (rfl | ⟨e, rfl⟩)
    · refine ⟨trivial, ?_⟩
      have hc := core_fsync_file_ok ho1 hf1 0
      have hc1' : c1 = input := hc1 rfl
      subst hc1'
      have hf2 : (stepWorld w1 (.fsync fd) (.ok 0)).file fid = some ⟨c1, c1⟩ := by
        rw [stepWorld_file, hc]; simp [file_setFile]
      have sb2 : SameBut w1 (stepWorld w1 (.fsync fd) (.ok 0)) (fun h => h = 0 ∨ h = fd) fid := by
        apply sameBut_step; rw [hc]; exact sameBut_setFile w1 fid _ _
      simp only [ret_bind]
      refine wp_call_any fun r3 => ⟨trivial, ?_⟩
      exact ⟨rfl, rfl, (sb1.trans sb2).trans (sameBut_close _ fd r3 _ (.inr rfl) fid), fun _ => by rw [file_close]; exact hf2⟩
    · refine ⟨trivial, ?_⟩
      have hsf := sameFs_err w1 (.fsync fd) e rfl
      simp only [ret_bind]
      refine wp_call_any fun r3 => ⟨trivial, ?_⟩
      exact ⟨rfl, rfl, (sb1.trans (SameBut.ofSameFs hsf _ _)).trans (sameBut_close _ fd r3 _ (.inr rfl) fid),
        by intro h; simp [isOk] at h⟩

/-- The value `maildir_stdin` starts from (`calloc`, `md_subdir = SUBDIR_NEW`, `MAILDIR_WALK | MAILDIR_STDIN`): the local
`md0` of `Model.maildirStdin`, named so that `StdinPost` can speak of it. -/
def md0 : Maildir := { root := [], path := [], dirH := none, subdir := .new, walk := true, stdin := true }

def spoolDirs (w : World) (tmpl p : Bytes) : World := { w with dirs := w.dirs ++ [(tmpl, []), (p, [])] }

/-- Everything `maildir_stdin` can leave behind: it failed before the directory stream existed and has added only empty
directories the maildir names; or the stream `d` is open and either no name could be created or the spool file exists
(complete and durable if no failure is reported). -/
def StdinPost (env : PEnv) (input : Bytes) (w : World) (r : Maildir × Bool × Option Bytes) (w' : World) : Prop :=
  (r.2 = (true, none) ∧ r.1.dirH = none ∧
    ∃ ex, w'.dirs = w.dirs ++ ex ∧ ∀ e ∈ ex, e.2 = [] ∧ (e.1 = r.1.path ∨ e.1 = r.1.root)) ∨
  ∃ tmpl p d, pathjoin PATH_MAX env.tmpdir (ofString "mdsort-XXXXXXXX") = some tmpl ∧
    pathjoin PATH_MAX tmpl (subdirName .new) = some p ∧
    r.1 = { md0 with root := tmpl, path := p, dirH := some d } ∧ w'.dirPath d = some p ∧
    ((r.2 = (true, none) ∧ w'.dirs = w.dirs ++ [(tmpl, []), (p, [])]) ∨
     (∃ name fid, r.2.2 = some name ∧ w'.dirs = ((spoolDirs w tmpl p).bind p name fid).dirs ∧
        w'.lookup p name = some fid ∧ fid < w'.nextFid ∧
        (r.2.1 = false → w'.file fid = some ⟨input, input⟩) ∧ (95 : UInt8) ∈ name ∧
        w'.obj d = .dir p none 0 ∧ ∃ k, name = gennameName env none k))

theorem dir_isSome_of_mem {w : World} {p : Bytes} {es : List (Bytes × Nat)} (h : (p, es) ∈ w.dirs) : (w.dir p).isSome := by
  unfold World.dir
  rw [Option.isSome_map, List.find?_isSome]
  exact ⟨(p, es), h, by simp⟩

theorem bind_dirs_congr {a b : World} (h : a.dirs = b.dirs) (p n : Bytes) (fid : Nat) :
    (a.bind p n fid).dirs = (b.bind p n fid).dirs := by
  unfold World.bind World.dir World.setDir
  rw [h]
  split <;> simp [h]

theorem spec_maildirStdin (env : PEnv) (input : Bytes) {w : World} (hin : StdinIs w input) :
    wp NoInv (maildirStdin env input) (StdinPost env input w) w := by
  obtain ⟨sfid, fs, h0, hs, hsd, hslt⟩ := hin
  have k0 : StdinKept sfid fs w := ⟨h0, hs, hslt⟩
  unfold maildirStdin gennameStart
  simp only [bind_eq, pure_eq, call_bind]
  -- with the literal fuel in place, every elaboration against the goal would unfold `genname`
  generalize gennameAttempts = fuel
  split
  · exact .inl ⟨rfl, rfl, [], by simp, by simp⟩
  rename_i tmpl htmpl
  refine wp_call (fun r => r = .name tmpl ∨ ∃ e, r = .err e)
    (fun ft => faultResult_plain ft w rfl) ?_
  rintro r (rfl | ⟨e, rfl⟩)
  -- the failed call first; the successful one goes on at this depth
  rotate_left
  · exact ⟨trivial, .inl ⟨rfl, rfl, [], by simpa using (sameFs_err w _ e rfl).dirs, by simp⟩⟩
  refine ⟨trivial, ?_⟩
  have hd1 : (stepWorld w (.mkdtemp tmpl) (.name tmpl)).dirs = w.dirs ++ [(tmpl, [])] := by
    rw [stepWorld_dirs, core_mkdtemp_name]
  have k1 := k0.step (.mkdtemp tmpl) (.name tmpl) (by simp [Call.subject]) trivial
  generalize stepWorld w (.mkdtemp tmpl) (.name tmpl) = w1 at hd1 k1 ⊢
  dsimp only
  split
  · exact .inl ⟨rfl, rfl, [(tmpl, [])], hd1, by simp⟩
  rename_i p hp
  refine wp_call_plain 0 rfl rfl ?_
  rintro r (rfl | ⟨e, rfl⟩)
  rotate_left
  · refine ⟨trivial, ?_⟩
    simp only [isOk, Bool.not_false, if_true]
    exact .inl ⟨rfl, rfl, [(tmpl, [])], (sameFs_err w1 (.mkdir p) e rfl).dirs.trans hd1, by simp⟩
  refine ⟨trivial, ?_⟩
  have hd2 : (stepWorld w1 (.mkdir p) (.ok 0)).dirs = w.dirs ++ [(tmpl, []), (p, [])] := by
    rw [stepWorld_dirs, core_mkdir_ok]
    simp [hd1]
  have k2 := k1.step (.mkdir p) (.ok 0) (by simp [Call.subject]) trivial
  generalize stepWorld w1 (.mkdir p) (.ok 0) = w2 at hd2 k2 ⊢
  simp only [isOk, Bool.not_true, Bool.false_eq_true, if_false]
  unfold maildirOpendir
  simp only [bind_eq, pure_eq, call_bind, call_bind']
  intro ft
  refine ⟨trivial, ?_⟩
  rcases opendir_results ft w2 p with ⟨e, he⟩ | ⟨he, hdp⟩
  · rw [he]
    simp only [ret_bind, if_true]
    exact .inl ⟨rfl, rfl, [(tmpl, []), (p, [])], (sameFs_err w2 (.opendir p) e rfl).dirs.trans hd2, by simp⟩
  rw [he]
  have hc3 := core_opendir_ok hdp w2.handles.length
  have hd3 : (stepWorld w2 (.opendir p) (.ok w2.handles.length)).dirs = w.dirs ++ [(tmpl, []), (p, [])] := by
    rw [stepWorld_dirs, hc3]; exact hd2
  have hob3 : (stepWorld w2 (.opendir p) (.ok w2.handles.length)).obj w2.handles.length = .dir p none 0 := by
    rw [stepWorld_obj, hc3]; simp [obj_newHandle]
  have k3 := k2.step (.opendir p) (.ok w2.handles.length) (by simp [Call.subject]) trivial
  have hdpos : 0 < w2.handles.length := lt_of_obj_ne_closed w2 0 (by rw [k2.obj0]; simp)
  clear he hc3
  generalize w2.handles.length = d at hd3 hob3 k3 hdpos ⊢
  generalize stepWorld w2 (.opendir p) (.ok d) = w3 at hd3 hob3 k3 ⊢
  simp only [ret_bind, Bool.false_eq_true, if_false]
  apply wp_bind_mono (spec_genname_plain env _ none fuel _)
  rintro g w4 (⟨rfl, hsf⟩ | ⟨fd, name, d', p', w3', rfl, hd', hsf, hdp', hl', hfd', rfl, hname, hk⟩)
  · exact .inr ⟨tmpl, p, d, htmpl, hp, rfl, by rw [hsf.dirPath]; exact dirPath_of_obj hob3, .inl ⟨rfl, hsf.dirs.trans hd3⟩⟩
  · dsimp only at hd'
    cases hd'
    obtain rfl : p' = p := by
      rw [hsf.dirPath, dirPath_of_obj hob3] at hdp'; cases hdp'; rfl
    subst hfd'
    have k3' := k3.sameFs hsf
    have nf := newFile_of_openExcl hdp' hl'
    have hfdne : w3'.handles.length ≠ 0 := Nat.ne_of_gt (lt_of_obj_ne_closed w3' 0 (by rw [k3'.obj0]; simp))
    have k4 := k3'.step (.openExcl d name) (.ok w3'.handles.length) (by simp [Call.subject]) trivial
    have hd4 : (stepWorld w3' (.openExcl d name) (.ok w3'.handles.length)).dirs = ((spoolDirs w tmpl p').bind p' name w3'.nextFid).dirs := by
      rw [stepWorld_dirs, core_openExcl_ok hdp' hl']
      simp only [dirs_newHandle]
      apply bind_dirs_congr
      simp [spoolDirs, hsf.dirs, hd3]
    have hdir3 : (w3'.dir p').isSome :=
      dir_isSome_of_mem (es := []) (by rw [hsf.dirs, hd3]; simp)
    have hbound := nf.bound (by
      rw [stepWorld_dir]
      exact core_dir_isSome w3' (.openExcl d name) (.ok w3'.handles.length) p' hdir3 nofun)
    refine wp_mono (spec_stdinTail input _ _ name w3'.nextFid sfid hfdne (Nat.ne_of_gt k3'.fidLt) k4.obj0 k4.file hsd nf.obj nf.file) ?_
    rintro r w5 ⟨hr1, hr2, sb, hok⟩
    have hdlt : d < w3'.handles.length := nf.dLt
    have hdX : ¬ (d = 0 ∨ d = w3'.handles.length) := by omega
    refine .inr ⟨tmpl, p', d, htmpl, hp, hr1, ?_, .inr ⟨name, w3'.nextFid, hr2, sb.dirs.trans hd4, ?_, ?_,
      hok, hname, ?_, hk⟩⟩
    · rw [← nf.dirPath]; exact dirPath_congr (sb.objs d hdX)
    · rw [lookup_of_dirs sb.dirs]; exact hbound
    · rw [sb.nextFid]; exact nf.fidLt
    · rw [sb.objs d hdX, stepWorld_obj, core_obj w3' _ _ d hdlt (by simp [Call.subject]), hsf.obj]
      exact hob3

end Mdsort.Proofs.World
