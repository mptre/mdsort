import Mdsort.Proofs.WorldDryStdin
import Mdsort.Proofs.WorldFrameMain
import Mdsort.Proofs.WorldStdinTop

/-!
# Dry run: what the file system looks like (C05, world level)

`calls_mainP_dry` (WorldFrameMain) / `dry_stdin_calls` (WorldDryStdin) say which CALLS a run with `-d` issues.  Here the step from
"which calls" to "what the abstract file system looks like after every call" (`applyOk` / `runPlan`):

* maildir mode: every call of the run is a call that can only touch the descriptor table
  (`DryCall`), so directories, files (visible and durable content), modification times and the
  id counter are literally the ones of the initial world after every call;
* stdin mode (`-d -`): every call satisfies `DrySpoolCall` on the trace so far; `DryCoh` ties the
  trace to the world (a handle `opendir` of the spool returned is a stream on the spool or closed, a
  descriptor an exclusive create in the spool returned refers to a file created by this run, ...),
  and every such call keeps every directory and file of the initial world as it was.
-/

namespace Mdsort.Proofs.World
open Mdsort Mdsort.Model

/-- `o'` is `o` up to position / offset / snapshot, or closed.  The `stream` arm is never read - `DryCoh` follows directory
streams, descriptors and the configuration stream, and `fdopen`, the one call that makes a stdio stream of one of them, is
excluded by `Call.stdio` - so it says nothing. -/
def ObjStable : Obj → Obj → Prop
  | .dir p _ _, o' => o' = .closed ∨ ∃ s pos, o' = .dir p s pos
  | .file fid _ wr, o' => o' = .closed ∨ ∃ off, o' = .file fid off wr
  | .other, o' => o' = .closed ∨ o' = .other
  | .closed, o' => o' = .closed
  | .stream _ _, _ => True

theorem ObjStable.refl (o : Obj) : ObjStable o o := by
  cases o <;> simp [ObjStable]

/-- Calls that turn a descriptor into a stdio stream or write through one (none of them occurs in a dry run). -/
def Call.stdio : Call → Bool
  | .fdopen _ | .fprintf .. | .fflush _ => true
  | _ => false

theorem obj_stable (w : World) (c : Call) (r : Res) (h : Handle) (hl : h < w.handles.length) (hc : Call.stdio c = false) :
    ObjStable (w.obj h) ((core w c r).obj h) := by
  have hst := core_objStep w c r h hl
  generalize w.obj h = o at hst ⊢
  generalize (core w c r).obj h = o' at hst ⊢
  cases hst with
  | same => exact ObjStable.refl _
  | closed => cases o <;> first | exact .inl rfl | exact rfl | exact True.intro
  | dir => exact .inr ⟨_, _, rfl⟩
  | file => exact .inr ⟨_, rfl⟩
  | stream => exact True.intro
  | fdopen e => subst e; cases hc

/-- The calls of a dry run in maildir mode (`dry_calls_mainP`): the configuration file, directory streams,
read-only descriptors. -/
def DryCall : Call → Prop
  | .fopen _ | .fclose _ | .opendir _ | .readdir _ | .closedir _ | .openRd .. | .read _ | .close _ => True
  -- the calls of evaluation (`command`, `isdirectory`, file-time `date` conditions: `EvalCall`)
  | .openPath _ | .fork .. | .waitpid | .stat _ => True
  | _ => False

theorem DryCall.quiet {c : Call} (h : DryCall c) : c.mutating = false := by
  cases c <;> first | exact h.elim | rfl

theorem DryCall.of_evalCall {c : Call} (h : EvalCall c) : DryCall c := by
  rcases h with h | h | h | ⟨x, h⟩ | ⟨x, h⟩
  · subst h; exact True.intro
  · obtain ⟨_, _, rfl⟩ := Call.isFork_iff.1 h; exact True.intro
  all_goals subst h; exact True.intro

theorem DryCall.of_kind {K : List Kind}
    (hK : ∀ k ∈ K, k ∈ [.fopen, .fclose, .opendir, .readdir, .closedir, .openRd, .read, .close, .openPath, .fork, .waitpid, .stat])
    {c : Call} (h : c.kind ∈ K) : DryCall c := by
  cases c <;> first | exact True.intro | exact (Bool.false_ne_true (List.elem_eq_true_of_mem (hK _ h))).elim

theorem _root_.Mdsort.Proofs.ParseEvalCall.dryCall {d : Handle} {expr : Expr} {c : Call} (h : ParseEvalCall d expr c) : DryCall c := by
  rcases h with (⟨nm, rfl⟩ | ⟨fd, rfl⟩ | ⟨fd, rfl⟩) | h
  · exact True.intro
  · exact True.intro
  · exact True.intro
  · exact DryCall.of_evalCall h.evalCall

theorem dry_calls_mainP (env : PEnv) (orc : EvalOracles) (ok : Bool) (conf : List ConfBlock) (files : Files) (input : Bytes)
    (hd : env.dryrun = true) (hm : env.stdinMode = false) : Calls DryCall (mainP env orc ok conf files input) :=
  (calls_mainP_dry hd hm ok files).mono fun _ h => h.elim (DryCall.of_kind (by decide)) fun ⟨_, _, _, h⟩ => h.dryCall

/-- No handle is a stdio stream on a file (true when a process starts). -/
def NoStreams (w : World) : Prop := ∀ h fid buf, w.obj h ≠ .stream fid buf

/-- The file system of `w` is the one of `w0`: same directories with the same entries (names and file ids),
same files with the same visible and durable content, same modification times, same id counter. -/
structure SameDisk (w0 w : World) : Prop where
  dirs : w.dirs = w0.dirs
  files : w.files = w0.files
  mtimes : w.mtimes = w0.mtimes
  nextFid : w.nextFid = w0.nextFid

theorem SameDisk.refl (w : World) : SameDisk w w := ⟨rfl, rfl, rfl, rfl⟩

theorem SameDisk.trans {w0 w1 w2 : World} (h1 : SameDisk w0 w1) (h2 : SameDisk w1 w2) : SameDisk w0 w2 :=
  ⟨h2.dirs.trans h1.dirs, h2.files.trans h1.files, h2.mtimes.trans h1.mtimes, h2.nextFid.trans h1.nextFid⟩

theorem SameDisk.dir {w0 w : World} (h : SameDisk w0 w) (q : Bytes) : w.dir q = w0.dir q :=
  dir_of_dirs h.dirs q
theorem SameDisk.lookup {w0 w : World} (h : SameDisk w0 w) (q n : Bytes) : w.lookup q n = w0.lookup q n :=
  lookup_of_dirs h.dirs q n
theorem SameDisk.file {w0 w : World} (h : SameDisk w0 w) (g : Nat) : w.file g = w0.file g := by
  unfold World.file; rw [h.files]
theorem SameDisk.mtime {w0 w : World} (h : SameDisk w0 w) (g : Nat) : w.mtime g = w0.mtime g :=
  mtime_of_mtimes h.mtimes g

theorem NoStreams.setObj {w : World} (h : NoStreams w) (x : Handle) {o : Obj} (ho : ∀ fid buf, o ≠ .stream fid buf) :
    NoStreams (w.setObj x o) := by
  intro y fid buf
  rw [obj_setObj]
  split
  · exact ho fid buf
  · exact h y fid buf

theorem NoStreams.newHandle {w : World} (h : NoStreams w) {o : Obj} (ho : ∀ fid buf, o ≠ .stream fid buf) :
    NoStreams (w.newHandle o).1 := by
  intro y fid buf
  rw [obj_newHandle]
  split
  · exact ho fid buf
  · exact h y fid buf

/-- A `DryCall` changes the descriptor table only, and makes no stream: of the things a call can do (`Upd`) the others belong to
calls that are no `DryCall`s, except the `fclose` that flushes a stream - and there is no stream. -/
theorem dryCall_core (w : World) (c : Call) (r : Res) (hc : DryCall c) (hns : NoStreams w) :
    SameDisk w (core w c r) ∧ NoStreams (core w c r) := by
  core_cases w c r
  case refl => exact ⟨.refl w, hns⟩
  case fclose ho _ => exact absurd ho (hns _ _ _)
  case handle ho _ => exact ⟨⟨rfl, rfl, rfl, rfl⟩, hns.newHandle ho⟩
  case dirPos | closedir | close | fcloseOnly | read => exact ⟨⟨rfl, rfl, rfl, rfl⟩, hns.setObj _ (by rintro _ _ ⟨⟩)⟩
  all_goals exact hc.elim

/-- `-d`, maildir mode, world level (C05): under every fault plan, after every call and at the end, the file system is
the initial one. -/
theorem dry_world_unchanged (env : PEnv) (orc : EvalOracles) (ok : Bool) (conf : List ConfBlock) (files : Files) (input : Bytes)
    (w : World) (plan : Plan) (hd : env.dryrun = true) (hm : env.stdinMode = false) (hns : NoStreams w) (w' : World)
    (hw' : w' = (runPlan plan (mainP env orc ok conf files input) w 0 []).2.1 ∨
      w' ∈ (runPlan plan (mainP env orc ok conf files input) w 0 []).2.2) : SameDisk w w' := by
  have h := wp_sound plan (wp_of_calls (C := DryCall) (J := fun w1 => SameDisk w w1 ∧ NoStreams w1)
    (dry_calls_mainP env orc ok conf files input hd hm)
    (fun w1 c r hc hi =>
      have hk := dryCall_core w1 c r hc hi.2
      -- `hk.1` speaks of `core w1 c r`; `stepWorld w1 c r` has the same four fields (it only extends the trace)
      ⟨hi.1.trans ⟨hk.1.dirs, hk.1.files, hk.1.mtimes, hk.1.nextFid⟩, hk.2⟩)
    ⟨SameDisk.refl w, hns⟩) 0
  rw [runPlan_eq] at hw'
  simp only [List.nil_append] at hw'
  rcases hw' with rfl | hw'
  · exact h.2.1
  · exact (h.1 w' hw').1

/-- What `-d -` needs of the initial world: the paths `mkdtemp` and `mkdir` will create are not taken
(`SpoolFresh`), and the empty path names no directory. -/
structure DryStart (env : PEnv) (w0 : World) : Prop where
  fresh : SpoolFresh env w0
  empty : w0.dir [] = none

/-- Trace so far (`pre`, the calls of this run with their results) and world cohere; everything that existed in `w0`
is unchanged. -/
structure DryCoh (env : PEnv) (w0 : World) (pre : List (Call × Res)) (w : World) : Prop where
  dirs : ∀ q, (w0.dir q).isSome → w.dir q = w0.dir q
  files : ∀ g, g < w0.nextFid → w.file g = w0.file g
  mtimes : w.mtimes = w0.mtimes
  nextFid : w0.nextFid ≤ w.nextFid
  root : ∀ t root, (Call.mkdtemp t, Res.name root) ∈ pre → root = spoolRoot env
  odir : ∀ p d, (Call.opendir p, Res.ok d) ∈ pre →
    d < w.handles.length ∧ (w.obj d = .closed ∨ ∃ s pos, w.obj d = .dir p s pos)
  ofd : ∀ d n fd, (Call.openExcl d n, Res.ok fd) ∈ pre →
    fd < w.handles.length ∧ (w.obj fd = .closed ∨ ∃ fid off wr, w.obj fd = .file fid off wr ∧ w0.nextFid ≤ fid)
  conf : ∀ p h, (Call.fopen p, Res.ok h) ∈ pre → h < w.handles.length ∧ (w.obj h = .closed ∨ w.obj h = .other)

theorem DryCoh.start (env : PEnv) (w : World) : DryCoh env w [] w :=
  ⟨fun _ _ => rfl, fun _ _ => rfl, rfl, Nat.le_refl _, fun _ _ h => (by cases h), fun _ _ h => (by cases h),
   fun _ _ _ h => (by cases h), fun _ _ h => (by cases h)⟩

variable {env : PEnv} {cm sa : Bool} {w0 w : World} {pre : List (Call × Res)}

theorem DryCoh.isRoot (h : DryCoh env w0 pre w) {root : Bytes} (hr : dry_IsRoot pre root) : root = spoolRoot env := by
  obtain ⟨t, ht⟩ := hr
  exact h.root t root ht

theorem DryCoh.isNew (h : DryCoh env w0 pre w) {p : Bytes} (hn : dry_IsNew pre p) : p = spoolPath env := by
  obtain ⟨root, hr, hp⟩ := hn
  rw [pathjoin_eq hp, h.isRoot hr]
  rfl

theorem DryCoh.isDir (h : DryCoh env w0 pre w) {d : Handle} (hd : dry_IsDir pre d) :
    w.obj d = .closed ∨ ∃ s pos, w.obj d = .dir (spoolPath env) s pos := by
  obtain ⟨p, hp, hm⟩ := hd
  have := (h.odir p d hm).2
  rwa [h.isNew hp] at this

theorem DryCoh.isFd (h : DryCoh env w0 pre w) {fd : Handle} (hf : dry_IsFd pre fd) :
    w.obj fd = .closed ∨ ∃ fid off wr, w.obj fd = .file fid off wr ∧ w0.nextFid ≤ fid := by
  obtain ⟨d, n, _, hm⟩ := hf
  exact (h.ofd d n fd hm).2

theorem DryCoh.dirPath (h : DryCoh env w0 pre w) {d : Handle} (hd : dry_IsDir pre d) {p : Bytes} (hp : w.dirPath d = some p) :
    p = spoolPath env := by
  rcases h.isDir hd with hc | ⟨s, pos, ho⟩
  · simp [World.dirPath, hc] at hp
  · simp [World.dirPath, ho] at hp
    exact hp.symm

theorem _root_.Mdsort.Proofs.DrySpoolCall.notStdio {tr : List (Call × Res)} {c : Call} (h : DrySpoolCall env cm sa tr c) :
    Call.stdio c = false := by
  cases c <;> first | rfl | exact h.elim

theorem _root_.Mdsort.Proofs.DrySpoolCall.notUtimens {tr : List (Call × Res)} {c : Call} (h : DrySpoolCall env cm sa tr c) :
    Call.isUtimens c = false := by
  cases c <;> first | rfl | exact h.elim

theorem dir_append_of_isSome (w : World) (p q : Bytes) (hq : (w.dir q).isSome) :
    ({ w with dirs := w.dirs ++ [(p, [])] } : World).dir q = w.dir q := by
  have := dir_of_append (w := w) (w' := { w with dirs := w.dirs ++ [(p, [])] }) (ex := [(p, [])]) rfl q
  rw [this]
  cases hw : w.dir q with
  | none => rw [hw] at hq; cases hq
  | some es => rfl

theorem DryCoh.dir_step (hs : DryStart env w0) (h : DryCoh env w0 pre w) (c : Call) (r : Res) (hc : DrySpoolCall env cm sa pre c)
    (q : Bytes) (hq : (w0.dir q).isSome) : (core w c r).dir q = w0.dir q := by
  have hwq : w.dir q = w0.dir q := h.dirs q hq
  have hqs : (w.dir q).isSome := by rw [hwq]; exact hq
  have hne_sp : q ≠ spoolPath env := by intro e; rw [e, hs.fresh.2] at hq; cases hq
  have hne_sr : q ≠ spoolRoot env := by intro e; rw [e, hs.fresh.1] at hq; cases hq
  have hne_nil : q ≠ [] := by intro e; rw [e, hs.empty] at hq; cases hq
  core_cases w c r
  case openExcl hp _ =>
    have hpe := h.dirPath (hc : dry_IsDir pre _) hp
    subst hpe
    simp only [dir_newHandle, dir_bind, hne_sp, if_false, dir_setFile]
    exact hwq
  case unlinkat hp _ =>
    have hpe := h.dirPath hc.1 hp
    subst hpe
    simp only [dir_unbind, hne_sp, if_false]
    exact hwq
  case mkdtemp => rw [dir_append_of_isSome w _ q hqs, hwq]
  case mkdir => rw [dir_append_of_isSome w _ q hqs, hwq]
  case rmdir p _ =>
    have hp : q ≠ p := by
      rcases hc with rfl | hr | hn
      · exact hne_nil
      · rw [h.isRoot hr]; exact hne_sr
      · rw [h.isNew hn]; exact hne_sp
    simp only [dir_filter_ne, hp, if_false]
    exact hwq
  -- the other calls are not admitted (`hc : False`) or leave every directory as it is
  all_goals first | exact hc.elim | exact hwq

theorem DryCoh.file_step (h : DryCoh env w0 pre w) (c : Call) (r : Res) (hc : DrySpoolCall env cm sa pre c)
    (g : Nat) (hg : g < w0.nextFid) : (core w c r).file g = w0.file g := by
  rw [core_file w c r g (Nat.lt_of_lt_of_le hg h.nextFid) ?_, h.files g hg]
  have hfd : ∀ fd, dry_IsFd pre fd → objFid (w.obj fd) ≠ some g := by
    intro fd hf
    rcases h.isFd hf with ho | ⟨fid, off, wr, ho, hle⟩
    · simp [ho, objFid]
    · simp only [ho, objFid, ne_eq, Option.some.injEq]
      omega
  -- `fileSafe` asks something of the five calls that write through a handle: `write` and `fsync` go to a descriptor of the
  -- spool file, `fclose` to the configuration stream, which refers to no file; `fprintf` and `fflush` are not admitted
  cases c
  case write fd _ => exact hfd fd hc
  case fsync fd => exact hfd fd hc
  case fclose x =>
    have hx : (Call.fopen env.confpath, Res.ok x) ∈ pre := hc
    rcases (h.conf _ x hx).2 with ho | ho <;> simp [fileSafe, ho, objFid]
  case fprintf | fflush => exact hc.elim
  all_goals exact True.intro

theorem opendir_ok {f : Option Fault} {w : World} {p : Bytes} {d : Nat} (h : faultResult f w (.opendir p) = .ok d) :
    d = w.handles.length ∧ core w (.opendir p) (.ok d) = (w.newHandle (.dir p none 0)).1 := by
  rcases opendir_results f w p with ⟨e, he⟩ | ⟨he, hdir⟩
  · rw [he] at h; cases h
  · rw [he] at h
    cases h
    exact ⟨rfl, core_opendir_ok hdir _⟩

theorem fopen_ok {f : Option Fault} {w : World} {p : Bytes} {x : Nat} (h : faultResult f w (.fopen p) = .ok x) :
    x = w.handles.length ∧ core w (.fopen p) (.ok x) = (w.newHandle .other).1 :=
  ⟨opener_result f w (.fopen p) x rfl h, core_fopen_ok w p x⟩

theorem openExcl_ok {f : Option Fault} {w : World} {d : Handle} {n : Bytes} {x : Nat} (h : faultResult f w (.openExcl d n) = .ok x) :
    x = w.handles.length ∧ ∃ p, core w (.openExcl d n) (.ok x) = Parties.created w p n := by
  rcases openExcl_results f w d n with ⟨e, he⟩ | ⟨he, p, hp, hl⟩
  · rw [he] at h; cases h
  · rw [he] at h
    cases h
    exact ⟨rfl, p, core_openExcl_ok hp hl _⟩

theorem mkdtemp_name {f : Option Fault} {w : World} {t root : Bytes} (h : faultResult f w (.mkdtemp t) = .name root) : root = t := by
  rcases faultResult_cases f w (.mkdtemp t) (by intro _ e; cases e) (by intro _ _ e; cases e) with h' | ⟨e, h'⟩
  · rw [h'] at h
    simp only [predict] at h
    cases h; rfl
  · rw [h'] at h; cases h

theorem stable_step (w : World) (c : Call) (r : Res) (x : Handle) (hl : x < w.handles.length) (hst : Call.stdio c = false) :
    x < (stepWorld w c r).handles.length ∧ ObjStable (w.obj x) ((stepWorld w c r).obj x) := by
  rw [stepWorld_handles, stepWorld_obj]
  exact ⟨Nat.lt_of_lt_of_le hl (core_len w c r), obj_stable w c r x hl hst⟩

theorem DryCoh.step (hs : DryStart env w0) (h : DryCoh env w0 pre w) (c : Call) (f : Option Fault)
    (hc : DrySpoolCall env cm sa pre c) :
    DryCoh env w0 (pre ++ [(c, faultResult f w c)]) (stepWorld w c (faultResult f w c)) := by
  have hst := hc.notStdio
  refine ⟨?_, ?_, ?_, ?_, ?_, ?_, ?_, ?_⟩
  · intro q hq
    rw [stepWorld_dir]
    exact h.dir_step hs c _ hc q hq
  · intro g hg
    rw [stepWorld_file]
    exact h.file_step c _ hc g hg
  · show (core w c _).mtimes = _
    rw [core_mtimes w c _ hc.notUtimens, h.mtimes]
  · rw [stepWorld_nextFid]
    exact Nat.le_trans h.nextFid (core_nextFid w c _)
  · intro t root hm
    rcases List.mem_append.1 hm with hm | hm
    · exact h.root t root hm
    · simp only [List.mem_singleton, Prod.mk.injEq] at hm
      obtain ⟨rfl, hr⟩ := hm
      have ht : pathjoin PATH_MAX env.tmpdir (ofString "mdsort-XXXXXXXX") = some t := hc
      rw [mkdtemp_name hr.symm, pathjoin_eq ht]
      rfl
  · intro p d hm
    rcases List.mem_append.1 hm with hm | hm
    · obtain ⟨hl, ho⟩ := h.odir p d hm
      obtain ⟨hl', hs'⟩ := stable_step w c (faultResult f w c) d hl hst
      refine ⟨hl', ?_⟩
      rcases ho with ho | ⟨s, pos, ho⟩
      · rw [ho] at hs'; exact .inl hs'
      · rw [ho] at hs'; exact hs'
    · simp only [List.mem_singleton, Prod.mk.injEq] at hm
      obtain ⟨rfl, hr⟩ := hm
      obtain ⟨hd, hcore⟩ := opendir_ok hr.symm
      rw [← hr, stepWorld_handles, stepWorld_obj, hcore, hd]
      exact ⟨by simp, .inr ⟨none, 0, by simp [obj_newHandle]⟩⟩
  · intro d n fd hm
    rcases List.mem_append.1 hm with hm | hm
    · obtain ⟨hl, ho⟩ := h.ofd d n fd hm
      obtain ⟨hl', hs'⟩ := stable_step w c (faultResult f w c) fd hl hst
      refine ⟨hl', ?_⟩
      rcases ho with ho | ⟨fid, off, wr, ho, hle⟩
      · rw [ho] at hs'; exact .inl hs'
      · rw [ho] at hs'
        rcases hs' with hs' | ⟨off', hs'⟩
        · exact .inl hs'
        · exact .inr ⟨fid, off', wr, hs', hle⟩
    · simp only [List.mem_singleton, Prod.mk.injEq] at hm
      obtain ⟨rfl, hr⟩ := hm
      obtain ⟨hd, p, hcore⟩ := openExcl_ok hr.symm
      rw [← hr, stepWorld_handles, stepWorld_obj, hcore, hd]
      exact ⟨by simp [Parties.created], .inr ⟨w.nextFid, 0, true, by simp [Parties.created, obj_newHandle], h.nextFid⟩⟩
  · intro p x hm
    rcases List.mem_append.1 hm with hm | hm
    · obtain ⟨hl, ho⟩ := h.conf p x hm
      obtain ⟨hl', hs'⟩ := stable_step w c (faultResult f w c) x hl hst
      refine ⟨hl', ?_⟩
      rcases ho with ho | ho
      · rw [ho] at hs'; exact .inl hs'
      · rw [ho] at hs'; exact hs'
    · simp only [List.mem_singleton, Prod.mk.injEq] at hm
      obtain ⟨rfl, hr⟩ := hm
      obtain ⟨hd, hcore⟩ := fopen_ok hr.symm
      rw [← hr, stepWorld_handles, stepWorld_obj, hcore, hd]
      exact ⟨by simp, .inr (by simp [obj_newHandle])⟩

/-- Everything that existed in `w0` is unchanged in `w'`: every directory has the same entries (same names bound to the
same file ids), every file (ids are handed out from `nextFid`) has the same visible and durable content, and the table
of modification times is the same. -/
structure PreExisting (w0 w' : World) : Prop where
  dirs : ∀ q, (w0.dir q).isSome → w'.dir q = w0.dir q
  files : ∀ g, g < w0.nextFid → w'.file g = w0.file g
  mtimes : w'.mtimes = w0.mtimes

theorem PreExisting.lookup {w0 w' : World} (h : PreExisting w0 w') {q n : Bytes} {fid : Nat} (hl : w0.lookup q n = some fid) :
    w'.lookup q n = some fid := by
  rw [lookup_of_dir_eq (h.dirs q (dir_isSome_of_lookup hl))]
  exact hl

theorem PreExisting.mtime {w0 w' : World} (h : PreExisting w0 w') (g : Nat) : w'.mtime g = w0.mtime g :=
  mtime_of_mtimes h.mtimes g

theorem SameDisk.preExisting {w0 w' : World} (h : SameDisk w0 w') : PreExisting w0 w' :=
  ⟨fun q _ => h.dir q, fun g _ => h.file g, h.mtimes⟩

theorem DryCoh.preExisting {env : PEnv} {w0 w' : World} {pre : List (Call × Res)} (h : DryCoh env w0 pre w') : PreExisting w0 w' :=
  ⟨h.dirs, h.files, h.mtimes⟩

/-- `-d -`, world level (C05): under every fault plan, after every call and at the end, everything that existed before
the run is unchanged. -/
theorem dry_stdin_world_unchanged (env : PEnv) (orc : EvalOracles) (ok : Bool) (conf : List ConfBlock) (files : Files)
    (input : Bytes) (w : World) (plan : Plan) (hd : env.dryrun = true) (hm : env.stdinMode = true) (hs : DryStart env w)
    (w' : World)
    (hw' : w' = (runPlan plan (mainP env orc ok conf files input) w 0 []).2.1 ∨
      w' ∈ (runPlan plan (mainP env orc ok conf files input) w 0 []).2.2) : PreExisting w w' := by
  have h := wp_sound plan (Own.wp_world (C := DryCoh env w) (fun _ _ c f hi hc => hc.step hs c f hi)
    (Own.dry_mainP env orc ok conf files input hd hm) (DryCoh.start env w)) 0
  rw [runPlan_eq] at hw'
  simp only [List.nil_append] at hw'
  rcases hw' with rfl | hw'
  · obtain ⟨_, hc⟩ := h.2
    exact hc.preExisting
  · obtain ⟨_, hc⟩ := h.1 w' hw'
    exact hc.preExisting

/-- `-d -`, world level (C05): when nothing is injected from the first call of the cleanup on, the set of directories at the end is
exactly the initial one, each with its initial entries: the spool the run made is gone. -/
theorem dry_stdin_world_restored (env : PEnv) (orc : EvalOracles) (conf : List ConfBlock) (files : Files) (input : Bytes)
    (expr : Expr) (w : World) (plan : Plan) (hd : env.dryrun = true) (hm : env.stdinMode = true) (hsx : env.syntaxOnly = false)
    (hc : stdinExprs conf = [expr]) (hin : StdinIs w input) (hs : DryStart env w)
    (hplan : ∀ j, stdinCleanupStart plan env orc expr files input w ≤ j → plan j = none) :
    ∀ q, (runPlan plan (mainP env orc true conf files input) w 0 []).2.1.dir q = w.dir q := by
  intro q
  have hfr := dry_stdin_world_unchanged env orc true conf files input w plan hd hm hs _ (.inl rfl)
  cases hq : w.dir q with
  | some es => rw [← hq]; exact hfr.dirs q (by rw [hq]; rfl)
  | none =>
    cases hq' : (runPlan plan (mainP env orc true conf files input) w 0 []).2.1.dir q with
    | none => rfl
    | some es =>
      have := stdin_spool_removed env orc conf files input expr w plan hm hsx hc hin hs.fresh hplan q (by rw [hq']; rfl)
      rw [hq] at this
      cases this

def noStreamsOk (w : World) : Bool :=
  w.handles.all fun o => match o with
    | .stream _ _ => false
    | _ => true

theorem noStreams_of_ok {w : World} (h : noStreamsOk w = true) : NoStreams w := by
  intro x fid buf ho
  unfold noStreamsOk at h
  rw [List.all_eq_true] at h
  unfold World.obj at ho
  rw [List.getD_eq_getElem?_getD] at ho
  cases hx : w.handles[x]? with
  | none => rw [hx] at ho; cases ho
  | some o =>
    rw [hx] at ho
    simp only [Option.getD_some] at ho
    have := h o (List.mem_of_getElem? hx)
    rw [ho] at this
    cases this

end Mdsort.Proofs.World
