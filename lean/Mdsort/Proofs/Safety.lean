import Mdsort.Proofs.Decode
import Mdsort.Proofs.MimeScan
import Mdsort.Proofs.HeaderSearch

/-! Lemmas for C07: bounds and progress facts the memory safety and termination of the C code rest on. -/

namespace Mdsort.Proofs.SafetyAux
open Mdsort Mdsort.Model

theorem qpLoop_len (d : Bool) (s out : Bytes) : (qpLoop d s out).length ≤ out.length + s.length := by
  -- every branch of the loop appends at most as many bytes as it consumes
  fun_induction qpLoop d s out <;> simp_all <;> omega

theorem findSub_le {p s : Bytes} {k : Nat} (h : findSub p s = some k) : k + p.length ≤ s.length := by
  fun_induction findSub p s generalizing k
  -- end of text (the empty pattern is found, any other is not); the pattern is a prefix here; one byte on
  case case1 hp => cases h; simp [List.isEmpty_iff.1 hp]
  case case2 => cases h
  case case3 hp =>
    cases h
    simpa using (List.isPrefixOf_iff_prefix.mp hp).length_le
  case case4 ih =>
    simp only [Option.map_eq_some_iff] at h
    obtain ⟨a, ha, rfl⟩ := h
    have := ih ha
    simp; omega

theorem b64raw_fits (s out : Bytes) (h : base64DecodeRaw s = some out) : out.length ≤ s.length := by
  unfold base64DecodeRaw at h
  rw [b64pton_eq_spec s _ (Nat.lt_succ_self _)] at h
  have := b64_spec_len s out h
  omega

theorem rfc2047Word_len {es w rest : Bytes} (h : rfc2047Word es = some (w, rest)) :
    w.length + rest.length ≤ es.length := by
  revert h
  fun_cases rfc2047Word es
  -- the two encodings; in both `es` holds up to a `?`, the letter, `?`, `len` bytes of text, `?=`, the rest
  case case5 q hq enc es3 len hl text rest' _ dst hd hes =>
    intro h
    obtain ⟨rfl, rfl⟩ : dst = w ∧ rest' = rest := by simpa using h
    have hq' := strchr_length_le hq
    have hes' := congrArg List.length hes
    have hlen := findSub_le hl
    unfold base64Decode at hd
    simp only [Option.map_eq_some_iff] at hd
    obtain ⟨raw, hraw, rfl⟩ := hd
    have := b64raw_fits _ _ hraw
    have := cstr_length_le raw
    simp only [text, rest', List.length_take, List.length_drop, List.length_cons, List.length_nil] at *
    omega
  case case6 q hq enc es3 len hl text rest' _ hes =>
    intro h
    obtain ⟨rfl, rfl⟩ : qpLoop true text [] = w ∧ rest' = rest := by simpa using h
    have hq' := strchr_length_le hq
    have hes' := congrArg List.length hes
    have hlen := findSub_le hl
    have := qpLoop_len true text []
    simp only [text, rest', List.length_take, List.length_drop, List.length_cons, List.length_nil] at *
    omega
  all_goals exact nofun

theorem rfc2047Loop_len (es out r : Bytes) (h : rfc2047Loop es out = some r) :
    r.length ≤ out.length + es.length := by
  fun_induction rfc2047Loop es out
  -- end of text; a malformed encoded word; an encoded word; any other byte
  case case1 out => cases h; simp
  case case2 out es' hw => contradiction
  case case3 out es' w rest hw _ _ ih =>
    have := ih h
    have := rfc2047Word_len hw
    have := rfc2047SkipSpace_le rest
    simp at *; omega
  case case4 out c r' hx ih =>
    have := ih h
    simp at *; omega

/-- For ANY table, sorted or not (so it is not a reading of `Zones.bsearch_eq`, which needs the order). -/
theorem bsearch_bounds (hs : Array Hdr) (key : Bytes) (lo hi fuel i n : Nat) (hhi : hi < hs.size)
    (h : bsearch hs key lo hi fuel = some (i, n)) : 0 < n ∧ i + n ≤ hs.size := by
  fun_induction bsearch hs key lo hi fuel
  -- the probe matches; the key is behind it; the key is before it
  case case2 lo hi _ hle mi _ beg e =>
    obtain ⟨rfl, rfl⟩ : beg = i ∧ e - beg = n := by simpa using h
    have h1 := scanBeg_le hs key mi
    have h2 := scanEnd_bounds hs key (mi + 1) (by omega)
    omega
  case case3 ih => exact ih hhi h
  case case4 ih => exact ih (by omega) h
  all_goals cases h

theorem delimiterLine_skip {bnd s : Bytes} {t : Bool} (h : delimiterLine bnd s = some t) :
    (skipLine s).length + 3 ≤ s.length := by
  -- `s` is `--`, then at least the newline that ends the delimiter line
  obtain ⟨s1, rfl, hs1⟩ : ∃ s1, s = 45 :: 45 :: s1 ∧ s1 ≠ [] := by
    rcases delimiterLine_some h with ⟨r, rfl⟩ | ⟨r, rfl⟩
    · exact ⟨bnd ++ 10 :: r, rfl, by simp⟩
    · exact ⟨bnd ++ [45, 45] ++ 10 :: r, by simp [finOf, sepOf], by simp⟩
  have := skipLine_length_lt hs1
  simp [skipLine]
  omega

theorem strchr_suffix_len {s q : Bytes} {c : UInt8} (h : strchr s c = some q) : q.length ≤ s.length :=
  strchr_length_le h

theorem skipSeparator_le (s : Bytes) : (skipSeparator s).length ≤ s.length := by
  fun_cases skipSeparator s
  case case2 p hp =>
    have := strchr_length_le hp
    simp; omega
  all_goals exact Nat.le_refl _

theorem parseLoop_rest_le (s : Bytes) (n : Nat) (acc : List Hdr) : (parseLoop s n acc).2.length ≤ s.length := by
  fun_induction parseLoop s n acc
  case case1 => simp
  case case2 s n acc key h =>
    -- `findheader` wrote NUL at the colon and found no end of value: `buf` still points at the key, which is all that is left
    revert h
    fun_cases findHeader s
    case case2 k ac hk _ =>
      intro h
      cases h
      rw [scanKey_split hk]; simp
    all_goals exact nofun
  case case3 s n acc key val rest h hlt ih =>
    omega

theorem parseHeaders_body_le (t : Bytes) : (parseHeaders t).body.length ≤ t.length := by
  unfold parseHeaders
  have h1 := parseLoop_rest_le (skipSeparator t) 0 []
  have h2 := skipSeparator_le t
  have h3 := dropWhile_length_le' (· == 10) (parseLoop (skipSeparator t) 0 []).2
  simp only
  omega

theorem partsLoop_len (sub : Msg → Option (List Msg)) (bnd : Bytes)
    (hsub : ∀ part nested, sub part = some nested → nested.length ≤ part.body.length)
    (f : Nat) (text : Bytes) (ps : List Msg) (h : partsLoop sub bnd f text = some ps) :
    ps.length ≤ text.length := by
  fun_induction partsLoop sub bnd f text generalizing ps
  -- the last part, and a part with more behind it: a part and its nested parts fit the text in front of the delimiter line
  case case4 partText fromLine part nested hn hfb =>
    cases h
    obtain ⟨hsplit, _, hdl⟩ := findBoundaryAux_split hfb
    have := delimiterLine_skip hdl
    have : nested.length ≤ (parseHeaders partText).body.length := hsub _ _ hn
    have := parseHeaders_body_le partText
    rw [hsplit]; simp; omega
  case case5 partText term fromLine hfb part nested hn _ ih =>
    simp only [Option.map_eq_some_iff] at h
    obtain ⟨more, hmore, rfl⟩ := h
    obtain ⟨hsplit, _, hdl⟩ := findBoundaryAux_split hfb
    have := delimiterLine_skip hdl
    have : nested.length ≤ (parseHeaders partText).body.length := hsub _ _ hn
    have := parseHeaders_body_le partText
    have := ih _ hmore
    rw [hsplit]; simp; omega
  all_goals cases h

theorem parseAttachments_len (fuel : Nat) (m : Msg) (ps : List Msg) (h : parseAttachments fuel m = some ps) :
    ps.length ≤ m.body.length := by
  induction fuel generalizing m ps with
  | zero => simp [parseAttachments] at h
  | succ fuel ih =>
    unfold parseAttachments at h
    split at h
    · cases h; simp
    · split at h
      · cases h; simp
      · contradiction
      · split at h
        · contradiction
        · rename_i pre term fromLine hfb
          obtain ⟨hsplit, _, hdl⟩ := findBoundaryAux_split hfb
          split at h
          · cases h; simp
          · have := partsLoop_len (parseAttachments fuel) _ (fun p n hp => ih p n hp) _ _ _ h
            have := skipLine_length_le fromLine
            rw [hsplit]; simp; omega

end Mdsort.Proofs.SafetyAux

namespace Mdsort.Proofs
open Mdsort Mdsort.Model

/-- `base64_decode` allocates `strlen + 1` bytes and stores the terminator at `dec[n]`: `n ≤ strlen`. -/
theorem b64_fits (s out : Bytes) (h : base64DecodeRaw s = some out) : out.length ≤ s.length :=
  SafetyAux.b64raw_fits s out h

/-- With any target size the decoder never reports more bytes than the target holds. -/
theorem b64pton_fits (s out : Bytes) (n : Nat) (h : b64pton s n = some out) : out.length ≤ n := by
  rw [b64pton_eq, Option.filter_eq_some_iff] at h
  exact of_decide_eq_true h.2

/-- `quoted_printable_decode`: never longer than the input. -/
theorem qp_fits (s : Bytes) : (qpDecodeRaw s).length ≤ s.length := by
  have := SafetyAux.qpLoop_len false s []
  simpa [qpDecodeRaw] using this

/-- `rfc2047_decode`: never longer than the input. -/
theorem rfc2047_fits (s : Bytes) : (rfc2047DecodeRaw s).length ≤ s.length := by
  unfold rfc2047DecodeRaw
  split
  · rename_i out h
    simpa using SafetyAux.rfc2047Loop_len s [] out h
  · exact Nat.le_refl _

/-- The indices `mi` at which `bsearch` reads the table, in order (ghost of `Model.bsearch`: the same
recursion with the reads recorded; no theorem links the two, see the note at `C07_search_in_bounds`). -/
def bsearchProbes (hs : Array Hdr) (key : Bytes) (lo hi : Nat) : Nat → List Nat
  | 0 => []
  | fuel + 1 =>
    if lo ≤ hi then
      let mi := lo + (hi - lo) / 2
      mi :: (match strcasecmp key hs[mi]!.key with
        | .eq => []
        | .gt => bsearchProbes hs key (mi + 1) hi fuel
        | .lt => if mi > 0 then bsearchProbes hs key lo (mi - 1) fuel else [])
    else []

theorem bsearch_probes_in_bounds (hs : Array Hdr) (key : Bytes) (lo hi fuel : Nat) (h : hi < hs.size) :
    ∀ i ∈ bsearchProbes hs key lo hi fuel, i < hs.size := by
  induction fuel generalizing lo hi with
  | zero => simp [bsearchProbes]
  | succ fuel ih =>
    intro i hi'
    unfold bsearchProbes at hi'
    split at hi'
    · rename_i hle
      simp only [List.mem_cons] at hi'
      rcases hi' with rfl | hi'
      · omega
      · split at hi'
        · simp at hi'
        · exact ih _ _ h i hi'
        · split at hi'
          · exact ih _ _ (by omega) i hi'
          · simp at hi'
    · simp at hi'

/-- The binary search terminates by itself: the fuel `nmemb + 1` the model gives it is never what ends it. -/
theorem bsearch_fuel_irrelevant (hs : Array Hdr) (key : Bytes) (lo hi f1 f2 : Nat)
    (h1 : hi + 2 - lo ≤ f1) (h2 : hi + 2 - lo ≤ f2) : bsearch hs key lo hi f1 = bsearch hs key lo hi f2 := by
  induction f1 generalizing lo hi f2 with
  | zero =>
    cases f2 with
    | zero => rfl
    | succ f2 =>
      unfold bsearch
      rw [if_neg (by omega)]
  | succ f1 ih =>
    cases f2 with
    | zero =>
      unfold bsearch
      rw [if_neg (by omega)]
    | succ f2 =>
      unfold bsearch
      split
      · simp only
        split
        · rfl
        · exact ih _ _ _ (by omega) (by omega)
        · split
          · exact ih _ _ _ (by omega) (by omega)
          · rfl
      · rfl

/-- The slice `searchheader` hands to its callers lies inside the table - for ANY table, sorted or not. -/
theorem searchHeader_in_bounds (hs : List Hdr) (key : Bytes) (i n : Nat) (h : searchHeader hs key = some (i, n)) :
    0 < n ∧ i + n ≤ hs.length := by
  unfold searchHeader at h
  split at h
  · contradiction
  · rename_i hne
    have hne' : hs.length ≠ 0 := by simpa using hne
    have := SafetyAux.bsearch_bounds hs.toArray key 0 (hs.length - 1) (hs.length + 1) i n (by simp; omega) h
    simpa using this

/-- `findheader`: key, value and the continuation point are consecutive pieces of the text it was given
(the pointers it returns point into the buffer, before the terminator). -/
theorem findHeader_inside (s key val rest : Bytes) (h : findHeader s = .ok key val rest) :
    ∃ gap : Bytes, s = key ++ [58] ++ gap ++ val ++ [10] ++ rest := by
  revert h
  fun_cases findHeader s
  -- a key and the end of its value
  case case3 k ac hk v r hv =>
    intro h
    cases h
    have h2 := scanValue_split hv
    unfold afterColonDrop at h2
    obtain ⟨gap, hg⟩ : ∃ gap, ac = gap ++ (val ++ 10 :: rest) :=
      ⟨ac.take (nspaces ac), by rw [← h2]; exact (List.take_append_drop _ _).symm⟩
    exact ⟨gap, by rw [scanKey_split hk, hg]; simp⟩
  all_goals exact nofun

theorem skipLine_suffix (s : Bytes) : ∃ pre, s = pre ++ skipLine s :=
  (skipLine_isSuffix s).imp fun _ h => h.symm

/-- `findboundary`: the text before the delimiter line and the text from it on make up the input. -/
theorem findBoundary_split (bnd s pre rest : Bytes) (term : Bool) (h : findBoundary bnd s = some (pre, term, rest)) :
    s = pre ++ rest ∧ rest ≠ [] := by
  obtain ⟨h1, h2, _⟩ := findBoundaryAux_split h
  exact ⟨h1, h2⟩

/-- The `while (!term)` loop of `parseattachments` terminates by itself: every iteration consumes at least
the delimiter line, so the fuel `strlen(body) + 1` the model gives it is never what ends it. -/
theorem partsLoop_fuel_irrelevant (sub : Msg → Option (List Msg)) (bnd text : Bytes) (f1 f2 : Nat)
    (h1 : text.length < f1) (h2 : text.length < f2) : partsLoop sub bnd f1 text = partsLoop sub bnd f2 text := by
  induction f1 generalizing f2 text with
  | zero => omega
  | succ f1 ih =>
    cases f2 with
    | zero => omega
    | succ f2 =>
      unfold partsLoop
      split
      · rfl
      · rename_i partText term fromLine hfb
        obtain ⟨hsplit, hne⟩ := findBoundary_split _ _ _ _ _ hfb
        have hlt := skipLine_length_lt hne
        have hlen : text.length = partText.length + fromLine.length := by rw [hsplit]; simp
        simp only
        split
        · rfl
        · split
          · rfl
          · rw [ih _ f2 (by omega) (by omega)]

/-- The attachment table cannot outgrow the text: at most one part per byte of the body, nested parts included. -/
theorem attachments_bounded (m : Msg) (ps : List Msg) (h : getAttachments m = some ps) : ps.length ≤ m.body.length :=
  SafetyAux.parseAttachments_len _ m ps h

end Mdsort.Proofs
