import Mdsort.Proofs.LimitsSim
import Mdsort.Proofs.LimitsEval
import Mdsort.Proofs.LimitsBridgeWorld
import Mdsort.Proofs.EvalPCalls

/-!
# The evaluation as a program (`evalPL`) under two sets of limits

`AskRel t t'`: as programs over calls, the computation under the smaller limits is in lock step with the one under the
larger limits until it ends with the verdict `error` (an overflow).  Every limit of an asking condition is checked BEFORE
its question is asked, so an overflow never leaves a question half-way.  `evalPL_sim` is `IsEvalT.rel` at `AskRel`: the
composite nodes keep the relation, a leaf that fills no buffer is the model's under both limits (`evalTL_plain`), the eight
that do are compared one by one (`evalTL_leaf_sim`, `evalL_leaf_mono`).
-/

namespace Mdsort.Model

theorem Ask.toProg_bind {α β} (t : Ask α) (f : α → Ask β) : (t.bind f).toProg = t.toProg.bind fun a => (f a).toProg := by
  induction t with
  | ret a => rfl
  | ask q k ih => simp only [Ask.bind, Ask.toProg, Mdsort.Proofs.World.bind_assoc, ih]

end Mdsort.Model

namespace Mdsort.Proofs.Limits
open Mdsort Mdsort.Model Mdsort.Proofs.World

variable {L L' : Limits}

def AskRel (t t' : Ask (Tri × St)) : Prop := Sim (RelErr (·.1 = .error)) t.toProg t'.toProg

theorem AskRel.bind {t t' : Ask (Tri × St)} {f g : Tri × St → Ask (Tri × St)} (h : AskRel t t') (hf : ∀ a, AskRel (f a) (g a))
    (he : ErrStays f) : AskRel (t.bind f) (t'.bind g) := by
  unfold AskRel
  rw [Ask.toProg_bind, Ask.toProg_bind]
  refine Sim.bindE h hf ?_
  rintro ⟨t, s⟩ (rfl : t = .error)
  rw [he s]
  exact RelErr.ret rfl

theorem AskRel.stop (s : St) (t' : Ask (Tri × St)) : AskRel (.ret (.error, s)) t' := Sim.stop_ret _ rfl

theorem AskRel.of_eqOrErr {a b : Tri × St} (h : EqOrErr a b) : AskRel (.ret a) (.ret b) := by
  rcases h with rfl | h
  · exact Sim.refl _
  · exact Sim.stop_ret _ h

theorem evalTL_leaf_sim (hle : L ≤ L') (hs : Sane L) (env : Env) (root : Msg) {n : Expr} (hn : n.isLeaf = true) (part : Nat)
    (m : Msg) (st : St) : AskRel (evalTL L env root n part m st) (evalTL L' env root n part m st) := by
  cases hb : fillsNoBuffer n
  case true => exact Sim.of_eq (by rw [evalTL_plain L env root hn hb, evalTL_plain L' env root hn hb])
  rcases Expr.leaf_cases hn with ha | ⟨lno, field, cmp, age, rfl, hf⟩ | ⟨lno, path, rfl⟩ | ⟨lno, argv, rfl⟩
  · rw [evalTL_leaf L env root ha, evalTL_leaf L' env root ha]
    exact .of_eqOrErr (evalL_leaf_mono hle hs env root ha hb part m st)
  · cases hb
  · have happ := fun L => matchesAppendL_plain L env st.ml { ty := .stat, lno := lno, part := part, strings := [path] }
      (by dsimp only; decide) (by dsimp only; decide)
    simp only [evalTL, happ, Bool.false_eq_true, if_false]
    exact optStep ((strlcpyL_Exact path).mono hle.1) (AskRel.stop _) fun p0 => by
      split
      · exact Sim.refl _
      · exact optStep ((strlcpyL_Exact _).mono hle.1) (AskRel.stop _) fun _ => Sim.refl _
  · cases hb

theorem evalPL_sim (hle : L ≤ L') (hs : Sane L) (env : Env) (e : Expr) (m : Msg) (fl : MFlags) :
    Sim (RelErr (·.1 = .error)) (evalPL L env e m fl) (evalPL L' env e m fl) :=
  (evalTL_isEvalT L env m).rel (evalTL_isEvalT L' env m) (R := AskRel) (fun _ => Sim.refl _) AskRel.bind
    (fun ml mh => (matchesAppendL_mono hle env ml mh).imp id fun h => ⟨h, AskRel.stop⟩) e
    (fun _ hn => evalTL_leaf_sim hle hs env m (Expr.isLeaf_of_mem_leaves hn)) 0 m _

theorem evalTL_leaf_qs (L : Limits) (env : Env) (root : Msg) {n : Expr} (hn : n.isLeaf = true) (part : Nat) (m : Msg) (st : St) :
    (evalTL L env root n part m st).Qs (AllowedQ n) := by
  cases hb : fillsNoBuffer n
  case true => rw [evalTL_plain L env root hn hb]; exact evalT_leaf_qs env root hn part m st
  rcases Expr.leaf_cases hn with ha | ⟨lno, field, cmp, age, rfl, hf⟩ | ⟨lno, path, rfl⟩ | ⟨lno, argv, rfl⟩
  · rw [evalTL_leaf L env root ha]; exact True.intro
  · cases hb
  · simp only [evalTL, ask, Ask.ask_bind, Ask.ret_bind]
    generalize matchesAppendL L env st.ml _ = r1
    -- the append, the copy of the path, its interpolation and the copy of the result each return on failure; then `isDir` is asked
    split
    · exact True.intro
    split
    · exact True.intro
    split
    · exact True.intro
    split
    · exact True.intro
    · exact ⟨rfl, fun _ => True.intro⟩
  · cases hb

theorem evalTL_qs (L : Limits) (env : Env) (root : Msg) (e : Expr) :
    ∀ (part : Nat) (m : Msg) (st : St), (evalTL L env root e part m st).Qs (AllowedQ e) :=
  (evalTL_isEvalT L env root).qs e fun _ hn part m st =>
    (evalTL_leaf_qs L env root (Expr.isLeaf_of_mem_leaves hn) part m st).mono
      (AllowedQ.mono (hasCommand_of_leaf hn) (hasIsDir_of_leaf hn) (hasFileDate_of_leaf hn))

theorem evalPL_calls_of (L : Limits) (env : Env) (e : Expr) (m : Msg) (fl : MFlags) :
    Calls (EvalCallOf e) (evalPL L env e m fl) := by
  refine calls_toProg_qs (evalTL_qs L env m e 0 m _) fun q hq => ?_
  cases q with
  | command av =>
    exact Calls.bind (Calls.mono (execCall_execP _) fun c hc => .inl ⟨hq, hc⟩) fun _ => True.intro
  | isDir p => exact ⟨.inr ⟨.inl hq, p, rfl⟩, fun _ => True.intro⟩
  | fileTime p f => exact ⟨.inr ⟨.inr hq, p, rfl⟩, fun _ => True.intro⟩

theorem asksNothing_of_leaf {n e : Expr} (hn : n ∈ e.leaves) (h : asksFree e = true) : asksNothing n = true := by
  simp only [asksFree, Bool.and_eq_true, Bool.not_eq_true'] at h
  have hl := Expr.isLeaf_of_mem_leaves hn
  rcases Expr.leaf_cases hl with ha | ⟨lno, f, cmp, age, rfl, hf⟩ | ⟨lno, path, rfl⟩ | ⟨lno, argv, rfl⟩
  · exact ha
  · cases f <;> first | rfl | exact absurd (hasFileDate_of_leaf hn rfl) (by rw [h.2]; exact Bool.false_ne_true)
  · exact absurd (hasIsDir_of_leaf hn rfl) (by rw [h.1.2]; exact Bool.false_ne_true)
  · exact absurd (hasCommand_of_leaf hn rfl) (by rw [h.1.1]; exact Bool.false_ne_true)

theorem evalTL_asksFree (L : Limits) (env : Env) (root : Msg) (e : Expr) (h : asksFree e = true) (part : Nat) (m : Msg) (st : St) :
    evalTL L env root e part m st = .ret (evalL L env root e part m st) :=
  (evalTL_isEvalT L env root).ext (evalL_isEvalT L env root) e
    (fun _ hn => evalTL_leaf L env root (asksNothing_of_leaf hn h)) part m st

theorem evalPL_asksFree_eq (L : Limits) (env : Env) (e : Expr) (h : asksFree e = true) (m : Msg) (fl : MFlags) :
    evalPL L env e m fl = .ret (evalL L env m e 0 m { ml := [], flags := fl }) := by
  unfold evalPL
  rw [evalTL_asksFree L env m e h]
  rfl

theorem evalPL_asksFree (L : Limits) (env : Env) (e : Expr) (h : asksFree e = true) (m : Msg) (fl : MFlags) :
    ∃ r, evalPL L env e m fl = .ret r :=
  ⟨_, evalPL_asksFree_eq L env e h m fl⟩

end Mdsort.Proofs.Limits
