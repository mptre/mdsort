import Mdsort.Proofs.PartiesCopyStep

/-! Preservation of `CInv` by one step, first part: entries, handles, names in flight. -/

namespace Mdsort.Proofs.Parties
open Mdsort Mdsort.Model
open Mdsort.Proofs.World

variable {M : Msg → Prop} {s0 s : Shared} {a : Nat} {ps : PState} {c : Call} {k : Res → Prog Bool}

/-- The file the target of the step holds afterwards is held by no other entry (`inj'` for a target and a non-target). -/
theorem StepCtx.key (x : StepCtx M s0 s a ps c k) (p n p' n' : Bytes) (f : Nat)
    (hd : isOk (predict (s.view ps) c) = true ∧ callDst (s.view ps) c = some (p, n))
    (hnd : ¬ (isOk (predict (s.view ps) c) = true ∧ callDst (s.view ps) c = some (p', n')))
    (h1 : (stepCall s a ps c k).fs.lookup p n = some f) (h2 : (stepCall s a ps c k).fs.lookup p' n' = some f) : False := by
  rw [x.hL, if_pos hd] at h1
  rw [x.hL, if_neg hnd] at h2
  split at h2
  · cases h2
  rename_i hns
  rcases dst_kind hd.2 with hk | hk
  · obtain ⟨y, hy, _, hb, _⟩ := create_ok hk hd.1
    rw [hb] at h1; cases h1
    exact Nat.lt_irrefl _ (x.inv.boundLt p' n' _ h2)
  · obtain ⟨y, z, g, hy, hz, hl, hb⟩ := rename_ok hk hd.1
    rw [hb] at h1; cases h1
    obtain ⟨e1, e2⟩ := x.inv.inj y.1 y.2 p' n' f hl h2
    apply hns
    refine ⟨hd.1, ?_⟩
    rw [hy, ← e1, ← e2]

theorem StepCtx.boundLt' (x : StepCtx M s0 s a ps c k) (p n : Bytes) (f : Nat)
    (h : (stepCall s a ps c k).fs.lookup p n = some f) : f < (stepCall s a ps c k).fs.nextFid := by
  rw [x.hL] at h
  split at h
  · rename_i hd
    rcases dst_kind hd.2 with hk | hk
    · obtain ⟨y, hy, _, hb, hn⟩ := create_ok hk hd.1
      rw [hb] at h; cases h
      show s.fs.nextFid < (core (s.view ps) c _).nextFid
      rw [hn]; exact Nat.lt_succ_self _
    · obtain ⟨y, z, g, hy, hz, hl, hb⟩ := rename_ok hk hd.1
      rw [hb] at h; cases h
      exact Nat.lt_of_lt_of_le (x.inv.boundLt y.1 y.2 f hl) stepCall_nextge
  · split at h
    · cases h
    · exact Nat.lt_of_lt_of_le (x.inv.boundLt p n f h) stepCall_nextge

theorem StepCtx.inj' (x : StepCtx M s0 s a ps c k) (p n p' n' : Bytes) (f : Nat)
    (h1 : (stepCall s a ps c k).fs.lookup p n = some f) (h2 : (stepCall s a ps c k).fs.lookup p' n' = some f) :
    p = p' ∧ n = n' := by
  by_cases hd : isOk (predict (s.view ps) c) = true ∧ callDst (s.view ps) c = some (p, n)
  · by_cases hd' : isOk (predict (s.view ps) c) = true ∧ callDst (s.view ps) c = some (p', n')
    · have := hd.2.symm.trans hd'.2
      simpa using this
    · exact (x.key p n p' n' f hd hd' h1 h2).elim
  · by_cases hd' : isOk (predict (s.view ps) c) = true ∧ callDst (s.view ps) c = some (p', n')
    · exact (x.key p' n' p n f hd' hd h2 h1).elim
    · rw [x.hL, if_neg hd] at h1
      rw [x.hL, if_neg hd'] at h2
      split at h1
      · cases h1
      split at h2
      · cases h2
      exact x.inv.inj p n p' n' f h1 h2

theorem StepCtx.dir_kept (x : StepCtx M s0 s a ps c k) {p : Bytes} (h : (s.fs.dir p).isSome) :
    ((stepCall s a ps c k).fs.dir p).isSome :=
  core_dir_isSome (s.view ps) c _ p h (callowed_not_rmdir x.allowed)

theorem StepCtx.dirsOk' (x : StepCtx M s0 s a ps c k) (i : Nat) (q : PState) (d : Handle) (p : Bytes)
    (hq : (stepCall s a ps c k).parties[i]? = some q) (hd : handlesDirPath q.handles d = some p) :
    ((stepCall s a ps c k).fs.dir p).isSome := by
  rcases x.party hq with ⟨rfl, rfl⟩ | ⟨hi, hq⟩
  · rcases core_dirsFrom (s.view ps) c _ d p hd with h | h
    · exact x.dir_kept (x.inv.dirsOk a ps d p x.hp h)
    · exact x.dir_kept h
  · exact x.dir_kept (x.inv.dirsOk i q d p hq hd)

theorem StepCtx.resolves' (x : StepCtx M s0 s a ps c k) (i : Nat) (q : PState) (y : Handle × Bytes)
    (hq : (stepCall s a ps c k).parties[i]? = some q) (hy : y ∈ inFlightH q.trace) :
    (handlesDirPath q.handles y.1).isSome := by
  rcases x.party hq with ⟨rfl, rfl⟩ | ⟨hi, hq⟩
  · have hy' : y ∈ inFlightUpd (inFlightH ps.trace) (c, predict (s.view ps) c) := by
      rw [← inFlightH_snoc]; exact hy
    rcases mem_inFlightUpd hy' with hold | ⟨d, n, v, hc', hr', rfl⟩
    · obtain ⟨p, hp'⟩ := Option.isSome_iff_exists.1 (x.inv.resolves a ps y x.hp hold)
      exact Option.isSome_iff_exists.2 ⟨p, core_dirPath c _ hp' (x.keeps_flight_dir (d := y.1) (n := y.2) hold)⟩
    · subst hc'
      rcases openExcl_state (s.view ps) d n with ⟨p, hp', _, _, _⟩ | ⟨e, hpr⟩
      · exact Option.isSome_iff_exists.2 ⟨p, core_dirPath _ _ hp' ⟨(by intro e; cases e), (by intro e; cases e)⟩⟩
      · rw [hpr] at hr'; cases hr'
  · exact x.inv.resolves i q y hq hy

theorem StepCtx.localOk' (x : StepCtx M s0 s a ps c k) (i : Nat) (q : PState)
    (hq : (stepCall s a ps c k).parties[i]? = some q) : LocalOKc M q := by
  rcases x.party hq with ⟨rfl, rfl⟩ | ⟨hi, hq⟩
  · exact localOKc_eq M _ ▸ localOKr_step x.loc x.hc _ ⟨_, rfl⟩ _
  · exact x.inv.localOk i q hq

theorem StepCtx.flight_cases (x : StepCtx M s0 s a ps c k) {y : Bytes × Bytes} (hy : y ∈ (stepLocal s ps c k).inFlight) :
    (isCreate c = true ∧ isOk (predict (s.view ps) c) = true ∧ s.fs.lookup y.1 y.2 = none ∧
      (stepCall s a ps c k).fs.lookup y.1 y.2 = some s.fs.nextFid) ∨
    (¬ (isCreate c = true ∧ isOk (predict (s.view ps) c) = true) ∧ y ∈ ps.inFlight ∧
      (stepCall s a ps c k).fs.lookup y.1 y.2 = s.fs.lookup y.1 y.2) := by
  by_cases hcr : isCreate c = true ∧ isOk (predict (s.view ps) c) = true
  · obtain ⟨z, hz, hnone, hb, _⟩ := create_ok hcr.1 hcr.2
    rw [x.flightAfter, if_pos hcr, hz] at hy
    obtain rfl := List.mem_singleton.1 hy
    exact .inl ⟨hcr.1, hcr.2, hnone, by rw [x.hL, if_pos ⟨hcr.2, hz⟩]; exact hb⟩
  · rw [x.flightAfter, if_neg hcr] at hy
    split at hy
    · cases hy
    rename_i hnru
    refine .inr ⟨hcr, hy, ?_⟩
    rw [x.hL, if_neg, if_neg]
    · exact fun h => hnru ⟨src_kind h.2, h.1⟩
    · rintro ⟨hok, hd⟩
      rcases dst_kind hd with hk | hk
      · exact hcr ⟨hk, hok⟩
      · exact hnru ⟨.inl hk, hok⟩

theorem StepCtx.flightBound' (x : StepCtx M s0 s a ps c k) (i : Nat) (q : PState) (y : Bytes × Bytes)
    (hq : (stepCall s a ps c k).parties[i]? = some q) (hy : y ∈ q.inFlight) :
    ∃ f, (stepCall s a ps c k).fs.lookup y.1 y.2 = some f ∧ s0.fs.nextFid ≤ f := by
  rcases x.party hq with ⟨rfl, rfl⟩ | ⟨hi, hq⟩
  · rcases x.flight_cases hy with ⟨_, _, _, hl⟩ | ⟨_, hy0, hl⟩
    · exact ⟨_, hl, x.inv.nextLe⟩
    · obtain ⟨f, hf, hge⟩ := x.inv.flightBound a ps y x.hp hy0
      exact ⟨f, hl.trans hf, hge⟩
  · obtain ⟨f, hf, hge⟩ := x.inv.flightBound i q y hq hy
    exact ⟨f, by rw [x.foreign_lookup i q y hi hq hy]; exact hf, hge⟩

theorem StepCtx.flight_sub (x : StepCtx M s0 s a ps c k) {y : Bytes × Bytes} (hy : y ∈ (stepLocal s ps c k).inFlight) :
    y ∈ ps.inFlight ∨ s.fs.lookup y.1 y.2 = none :=
  (x.flight_cases hy).elim (fun h => .inr h.2.2.1) fun h => .inl h.2.1

theorem StepCtx.disjoint' (x : StepCtx M s0 s a ps c k) (i j : Nat) (q q' : PState) (y : Bytes × Bytes) (hij : i ≠ j)
    (hq : (stepCall s a ps c k).parties[i]? = some q) (hq' : (stepCall s a ps c k).parties[j]? = some q')
    (hy : y ∈ q.inFlight) : y ∉ q'.inFlight := by
  rw [x.hpar] at hq hq'
  intro hy'
  by_cases hi : i = a
  · have hj : j ≠ a := fun e => hij (hi.trans e.symm)
    simp only [hi, if_true, Option.some.injEq] at hq
    simp only [hj, if_false] at hq'
    subst hq
    rcases x.flight_sub hy with h | h
    · exact x.inv.disjoint a j ps q' y (fun e => hj e.symm) x.hp hq' h hy'
    · obtain ⟨f, hf, _⟩ := x.inv.flightBound j q' y hq' hy'
      rw [hf] at h; cases h
  · simp only [hi, if_false] at hq
    by_cases hj : j = a
    · simp only [hj, if_true, Option.some.injEq] at hq'
      subst hq'
      rcases x.flight_sub hy' with h | h
      · exact x.inv.disjoint i a q ps y hi hq x.hp hy h
      · obtain ⟨f, hf, _⟩ := x.inv.flightBound i q y hq hy
        rw [hf] at h; cases h
    · simp only [hj, if_false] at hq'
      exact x.inv.disjoint i j q q' y hij hq hq' hy hy'

theorem StepCtx.files' (x : StepCtx M s0 s a ps c k) (f : Nat) (hf : f < s0.fs.nextFid) :
    (stepCall s a ps c k).fs.file f = s0.fs.file f :=
  (x.file_init hf).trans (x.inv.files f hf)

theorem StepCtx.unb_step (x : StepCtx M s0 s a ps c k) {g : Nat} (h : Unb s0 s g) : Unb s0 (stepCall s a ps c k) g := by
  refine ⟨h.1, Nat.lt_of_lt_of_le h.2.1 stepCall_nextge, ?_⟩
  intro p n hl
  rw [x.hL] at hl
  split at hl
  · rename_i hd
    rcases dst_kind hd.2 with hk | hk
    · obtain ⟨y, _, _, hb, _⟩ := create_ok hk hd.1
      rw [hb] at hl; cases hl
      exact Nat.lt_irrefl _ h.2.1
    · obtain ⟨y, z, g', hy, hz, hl', hb⟩ := rename_ok hk hd.1
      rw [hb] at hl; cases hl
      exact h.2.2 y.1 y.2 hl'
  · split at hl
    · cases hl
    · exact h.2.2 p n hl

end Mdsort.Proofs.Parties
