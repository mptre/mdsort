import Mdsort.Proofs.WorldResults
import Mdsort.Proofs.WorldEqns

/-! `maildir_genname`, which every action of `matches_exec` that creates a file goes through (`wpg_genname`, for every relation
of admissible results; `wp_genname` under a fault plan: failed attempts change nothing but the trace, `SameFs`; the one
success is an exclusive create, `NewFile`), and the frame `Fr` of a tracked entry (`message_write` itself is in WorldFoot). -/

namespace Mdsort.Proofs.World
open Mdsort Mdsort.Model

/-- What a successful exclusive create leaves behind.  `bound` is conditional: a directory stream can be on a path that is
no longer in `w.dirs` (`rmdir` does not look at the handles), `World.bind` does nothing there and the new file has no entry.
Who needs the entry says that the directory exists (`DirH` of WorldMove, the `hdir` of `Mid.create`). -/
structure NewFile (w : World) (d fd : Handle) (name p : Bytes) (fid : Nat) : Prop where
  dirPath : w.dirPath d = some p
  bound : (w.dir p).isSome → w.lookup p name = some fid
  file : w.file fid = some ⟨[], []⟩
  fidLt : fid < w.nextFid
  obj : w.obj fd = .file fid 0 true
  fdLt : fd < w.handles.length
  dLt : d < fd

theorem newFile_of_openExcl {w : World} {d : Handle} {n p : Bytes} (hp : w.dirPath d = some p) (hl : w.lookup p n = none) :
    NewFile (stepWorld w (.openExcl d n) (.ok w.handles.length)) d w.handles.length n p w.nextFid := by
  have hd : d < w.handles.length := lt_of_dirPath hp
  have hne : d ≠ w.handles.length := Nat.ne_of_lt hd
  refine ⟨?_, ?_, ?_, ?_, ?_, ?_, hd⟩
  · rw [← hp]
    exact dirPath_congr (core_obj w _ _ d hd (by simp [Call.subject]))
  · intro hdir
    simp only [stepWorld_dir, stepWorld_lookup, core_openExcl_ok hp hl, dir_newHandle, dir_bind_isSome, dir_setFile, lookup_newHandle] at hdir ⊢
    rw [lookup_bind _ _ _ _ _ _ (by exact hdir)]
    simp
  · simp [core_openExcl_ok hp hl, file_setFile]
  · simp [core_openExcl_ok hp hl]
  · simp [core_openExcl_ok hp hl, obj_newHandle]
  · simp [core_openExcl_ok hp hl]

/-- Everything but the trace is the same. -/
def SameFs (w w' : World) : Prop := ∃ tr, w' = { w with trace := tr }

theorem SameFs.refl (w : World) : SameFs w w := ⟨w.trace, rfl⟩
theorem SameFs.trans {a b c : World} (h1 : SameFs a b) (h2 : SameFs b c) : SameFs a c := by
  obtain ⟨t1, rfl⟩ := h1
  obtain ⟨t2, rfl⟩ := h2
  exact ⟨t2, rfl⟩

theorem SameFs.lookup {w w' : World} (h : SameFs w w') (p n : Bytes) : w'.lookup p n = w.lookup p n := by
  obtain ⟨t, rfl⟩ := h; rfl
theorem SameFs.dir {w w' : World} (h : SameFs w w') (p : Bytes) : w'.dir p = w.dir p := by
  obtain ⟨t, rfl⟩ := h; rfl
theorem SameFs.file {w w' : World} (h : SameFs w w') (g : Nat) : w'.file g = w.file g := by
  obtain ⟨t, rfl⟩ := h; rfl
theorem SameFs.obj {w w' : World} (h : SameFs w w') (x : Handle) : w'.obj x = w.obj x := by
  obtain ⟨t, rfl⟩ := h; rfl
theorem SameFs.dirPath {w w' : World} (h : SameFs w w') (x : Handle) : w'.dirPath x = w.dirPath x := by
  obtain ⟨t, rfl⟩ := h; rfl
theorem SameFs.nextFid {w w' : World} (h : SameFs w w') : w'.nextFid = w.nextFid := by
  obtain ⟨t, rfl⟩ := h; rfl
theorem SameFs.handles {w w' : World} (h : SameFs w w') : w'.handles = w.handles := by
  obtain ⟨t, rfl⟩ := h; rfl
theorem SameFs.mtimes {w w' : World} (h : SameFs w w') : w'.mtimes = w.mtimes := by
  obtain ⟨t, rfl⟩ := h; rfl
theorem SameFs.dirs {w w' : World} (h : SameFs w w') : w'.dirs = w.dirs := by
  obtain ⟨t, rfl⟩ := h; rfl

theorem SameFs.of_core {w : World} {c : Call} {r : Res} (h : core w c r = w) : SameFs w (stepWorld w c r) := by
  refine ⟨w.trace ++ [(c, r)], ?_⟩
  rw [stepWorld_eq, h]

theorem sameFs_err (w : World) (c : Call) (e : String) (h : Call.released c = none) : SameFs w (stepWorld w c (.err e)) :=
  .of_core (core_fail w e h)

theorem sameFs_fstatat (w : World) (d : Handle) (n : Bytes) (r : Res) : SameFs w (stepWorld w (.fstatat d n) r) :=
  .of_core (core_fstatat ..)

theorem wp_both {α} {I I' : World → Prop} {p : Prog α} {Q Q' : α → World → Prop} {w : World}
    (h : wp I p Q w) (h' : wp I' p Q' w) : wp (fun w => I w ∧ I' w) p (fun a w => Q a w ∧ Q' a w) w := by
  induction p generalizing w with
  | ret a => exact ⟨h, h'⟩
  | call c k ih => intro f; exact ⟨⟨(h f).1, (h' f).1⟩, ih _ (h f).2 (h' f).2⟩

theorem wp_call_plain {α} {I : World → Prop} {c : Call} {k : Res → Prog α} {Q : α → World → Prop} {w : World} (v : Nat)
    (hc : Call.transfers c = false) (hp : predict w c = .ok v)
    (h : ∀ r, (r = .ok v ∨ ∃ e, r = .err e) → I (stepWorld w c r) ∧ wp I (k r) Q (stepWorld w c r)) : wp I (.call c k) Q w :=
  wp_call _ (fun f => (faultResult_plain f w hc).imp (·.trans hp) id) h

theorem GoodAt.of_same {w w' : World} {cs p n fid} (hg : GoodAt w cs p n fid) (h : SameFs w w') : GoodAt w' cs p n fid := by
  obtain ⟨t, rfl⟩ := h
  exact hg

theorem wpg_genname {R : World → Call → Res → Prop} (hR : ∀ {w c r}, R w c r → Sane w c r)
    (env : PEnv) (md : Maildir) (flags : Option Bytes) (I : World → Prop) {w0 : World}
    (hI : ∀ w', SameFs w0 w' → I w')
    (hI2 : ∀ d wk p n, md.dirH = some d → SameFs w0 wk → wk.dirPath d = some p → wk.lookup p n = none →
      I (stepWorld wk (.openExcl d n) (.ok wk.handles.length)))
    (fuel count : Nat) {w : World} (hs : SameFs w0 w) :
    wpg R I (genname env md flags fuel count)
      (fun res w' => (res = none ∧ SameFs w0 w') ∨
        ∃ d wk p c, md.dirH = some d ∧ SameFs w0 wk ∧ wk.dirPath d = some p ∧ count < c ∧ c ≤ count + fuel ∧
          wk.lookup p (cand env flags c) = none ∧ res = some (wk.handles.length, cand env flags c) ∧
          w' = stepWorld wk (.openExcl d (cand env flags c)) (.ok wk.handles.length)) w := by
  induction fuel generalizing count w with
  | zero => exact .inl ⟨rfl, hs⟩
  | succ fuel ih =>
    rw [genname_succ]
    generalize (cand env flags (count + 1)).length = len
    split
    · exact .inl ⟨rfl, hs⟩
    · split
      · exact .inl ⟨rfl, hs⟩
      · rename_i d hd
        intro r hr
        rcases (hR hr).openExcl _ _ rfl with ⟨e, rfl⟩ | ⟨rfl, p, hp, hl⟩
        · have hs' : SameFs w0 (stepWorld w (.openExcl d (cand env flags (count + 1))) (.err e)) :=
            hs.trans (sameFs_err w _ e rfl)
          refine ⟨hI _ hs', ?_⟩
          dsimp only
          split
          · refine wpg_mono (ih (count + 1) hs') ?_
            rintro res w' (h | ⟨d', wk, p, c, h1, h2, h3, h4, h5, h6⟩)
            · exact .inl h
            · exact .inr ⟨d', wk, p, c, h1, h2, h3, by omega, by omega, h6⟩
          · exact .inl ⟨rfl, hs'⟩
        · exact ⟨hI2 d w p _ hd hs hp hl, .inr ⟨d, w, p, count + 1, hd, hs, hp, by omega, by omega, hl, rfl, rfl⟩⟩

theorem wp_genname (env : PEnv) (md : Maildir) (flags : Option Bytes) (I : World → Prop) {w0 : World}
    (hI : ∀ w', SameFs w0 w' → I w')
    (hI2 : ∀ d wk p n, md.dirH = some d → SameFs w0 wk → wk.dirPath d = some p → wk.lookup p n = none →
      I (stepWorld wk (.openExcl d n) (.ok wk.handles.length)))
    (fuel count : Nat) {w : World} (hs : SameFs w0 w) :
    wp I (genname env md flags fuel count)
      (fun res w' => (res = none ∧ SameFs w0 w') ∨
        ∃ d wk p c, md.dirH = some d ∧ SameFs w0 wk ∧ wk.dirPath d = some p ∧ count < c ∧ c ≤ count + fuel ∧
          wk.lookup p (cand env flags c) = none ∧ res = some (wk.handles.length, cand env flags c) ∧
          w' = stepWorld wk (.openExcl d (cand env flags c)) (.ok wk.handles.length)) w :=
  wp_of_wpg (wpg_genname sane_fault env md flags I hI hI2 fuel count hs)

/-- `wp_genname` for a directory handle whose path is known. -/
theorem spec_gen (env : PEnv) (md : Maildir) (flags : Option Bytes) (d : Handle) (p : Bytes) (hd : md.dirH = some d)
    (I : World → Prop) {w0 : World} (hp : w0.dirPath d = some p)
    (hI : ∀ w', SameFs w0 w' → I w')
    (hI2 : ∀ wk n, SameFs w0 wk → wk.lookup p n = none → I (stepWorld wk (.openExcl d n) (.ok wk.handles.length)))
    (fuel count : Nat) {w : World} (hs : SameFs w0 w) :
    wp I (genname env md flags fuel count)
      (fun res w' => (res = none ∧ SameFs w0 w') ∨
        ∃ wk c, SameFs w0 wk ∧ count < c ∧ c ≤ count + fuel ∧ wk.lookup p (cand env flags c) = none ∧
          res = some (wk.handles.length, cand env flags c) ∧
          w' = stepWorld wk (.openExcl d (cand env flags c)) (.ok wk.handles.length)) w := by
  have same : ∀ {d' wk p'}, md.dirH = some d' → SameFs w0 wk → wk.dirPath d' = some p' → d' = d ∧ p' = p := by
    intro d' wk p' hd' h hp'
    cases hd.symm.trans hd'
    rw [h.dirPath, hp] at hp'
    cases hp'
    exact ⟨rfl, rfl⟩
  refine wp_mono (wp_genname env md flags I hI (fun d' wk p' n hd' h hp' hl => ?_) fuel count hs) ?_
  · obtain ⟨rfl, rfl⟩ := same hd' h hp'
    exact hI2 wk n h hl
  · rintro res w' (h | ⟨d', wk, p', c, hd', h, hp', h4⟩)
    · exact .inl h
    · obtain ⟨rfl, rfl⟩ := same hd' h hp'
      exact .inr ⟨wk, c, h, h4⟩

theorem spec_genname (env : PEnv) (md : Maildir) (flags : Option Bytes) (cs : List Bytes) (p0 n0 : Bytes) (fid0 : Nat)
    (J : World → Prop) (hJ : ∀ w d n r, J w → J (stepWorld w (.openExcl d n) r))
    (fuel count : Nat) {w : World} (hg : GoodAt w cs p0 n0 fid0) (hj : J w) :
    wp (fun w' => GoodAt w' cs p0 n0 fid0) (genname env md flags fuel count)
      (fun res w' => GoodAt w' cs p0 n0 fid0 ∧ J w' ∧
        ∀ fd name, res = some (fd, name) →
          ∃ d p fid, md.dirH = some d ∧ NewFile w' d fd name p fid ∧ fid0 < fid ∧ ¬(p = p0 ∧ name = n0)) w := by
  have h1 := wp_genname env md flags (fun w' => GoodAt w' cs p0 n0 fid0) (fun _ h => hg.of_same h)
    (fun _ _ _ _ _ h _ _ => (hg.of_same h).step _ _ trivial trivial) fuel count (SameFs.refl w)
  have h2 := wp_of_calls (calls_genname env md flags fuel count) (J := J)
    (by rintro w c r ⟨d, k, -, rfl⟩ h; exact hJ w d _ r h) hj
  refine wp_mono (wp_inv_mono (wp_both h1 h2) fun _ h => h.1) ?_
  rintro res w' ⟨⟨rfl, hs⟩ | ⟨d, wk, p, c, hd, hs, hp, -, -, hl, rfl, rfl⟩, hj'⟩
  · exact ⟨hg.of_same hs, hj', by intro _ _ h; cases h⟩
  · have hgk := hg.of_same hs
    refine ⟨hgk.step _ _ trivial trivial, hj', ?_⟩
    intro fd name h
    cases h
    refine ⟨d, p, wk.nextFid, hd, newFile_of_openExcl hp hl, hgk.2.1, ?_⟩
    rintro ⟨rfl, rfl⟩
    rw [hgk.1] at hl
    cases hl

/-- `faultResult_cases` for a call that is predicted to succeed with `v`. -/
theorem results_simple (f : Option Fault) (w : World) (c : Call) (v : Nat)
    (h1 : ∀ fd, c ≠ .read fd) (h2 : ∀ fd d, c ≠ .write fd d) (hp : predict w c = .ok v) :
    faultResult f w c = .ok v ∨ ∃ e, faultResult f w c = .err e := by
  rcases faultResult_cases f w c h1 h2 with h | h
  · exact .inl (h.trans hp)
  · exact .inr h

/-- Relative to the world `w0`: a tracked entry is still good, the directories are the same, the handles that existed are
untouched, ids only grow.  The tracked walk states `message_write` with it (`spec_messageWriteP`, through `FrW.fr`); the
general form, with the files a script may write in place of the entry, is `Fr1` of WorldFoot, and the scripts are walked with
that one. -/
structure Fr (cs : List Bytes) (p0 n0 : Bytes) (fid0 : Nat) (w0 w : World) : Prop where
  good : GoodAt w cs p0 n0 fid0
  dirs : w.dirs = w0.dirs
  objs : ∀ h, h < w0.handles.length → w.obj h = w0.obj h
  len : w0.handles.length ≤ w.handles.length
  nextFid : w0.nextFid ≤ w.nextFid

/-- `Fr1.step` for `Fr`. -/
theorem Fr.step {cs p0 n0 fid0} {w0 w : World} (fr : Fr cs p0 n0 fid0 w0 w) (c : Call) (r : Res)
    (hd : Call.dirOp c = false) (hsub : ∀ h, Call.subject c = some h → w0.handles.length ≤ h)
    (hfs : fileSafe w fid0 c) : Fr cs p0 n0 fid0 w0 (stepWorld w c r) := by
  refine ⟨fr.good.step c r (dirSafe_of_not_dirOp hd _ _ _) hfs, ?_, ?_, ?_, ?_⟩
  · simp [core_dirs w c r hd, fr.dirs]
  · intro h hh
    rw [stepWorld_obj, core_obj w c r h (Nat.lt_of_lt_of_le hh fr.len), fr.objs h hh]
    intro hs
    have := hsub h hs
    omega
  · simpa using Nat.le_trans fr.len (core_len w c r)
  · simpa using Nat.le_trans fr.nextFid (core_nextFid w c r)

theorem Fr.trans {cs p0 n0 fid0} {w0 w1 w2 : World} (a : Fr cs p0 n0 fid0 w0 w1) (b : Fr cs p0 n0 fid0 w1 w2) :
    Fr cs p0 n0 fid0 w0 w2 :=
  ⟨b.good, b.dirs.trans a.dirs, fun h hh => (b.objs h (Nat.lt_of_lt_of_le hh a.len)).trans (a.objs h hh),
   Nat.le_trans a.len b.len, Nat.le_trans a.nextFid b.nextFid⟩

/-- State while the stream `N` on file `fid` is being written, over `Fr`: `WSt1` of WorldFoot with a tracked entry.  The walk
of `message_write` uses `WSt1`; `WSt.fprintf`, `WSt.fflush` are its two steps in this form. -/
structure WSt (cs : List Bytes) (p0 n0 : Bytes) (fid0 : Nat) (w0 : World) (N : Handle) (fid : Nat) (w : World) (f : File) (buf : Bytes) : Prop where
  fr : Fr cs p0 n0 fid0 w0 w
  obj : w.obj N = .stream fid buf
  file : w.file fid = some f

theorem WSt.lt {cs p0 n0 fid0 w0 N fid w f buf} (s : WSt cs p0 n0 fid0 w0 N fid w f buf) : N < w.handles.length :=
  lt_of_obj_ne_closed w N (by simp [s.obj])

theorem WSt.fileSafe {cs p0 n0 fid0 w0 N fid w f buf} (s : WSt cs p0 n0 fid0 w0 N fid w f buf) (hne : fid ≠ fid0) :
    objFid (w.obj N) ≠ some fid0 := by
  simp [s.obj, objFid, hne]

theorem WSt.fprintf {cs p0 n0 fid0 w0 N fid w f buf} (s : WSt cs p0 n0 fid0 w0 N fid w f buf) (hne : fid ≠ fid0)
    (hN : w0.handles.length ≤ N) (data : Bytes) :
    WSt cs p0 n0 fid0 w0 N fid (stepWorld w (.fprintf N data) (.ok data.length)) f (buf ++ data) := by
  have hc := core_fprintf_ok s.obj data
  refine ⟨s.fr.step _ _ rfl (fun h hh => by cases hh; exact hN) (s.fileSafe hne), ?_, ?_⟩
  · rw [stepWorld_obj, hc]; simp [obj_setObj, s.lt]
  · rw [stepWorld_file, hc]; simpa using s.file

theorem WSt.fflush {cs p0 n0 fid0 w0 N fid w f buf} (s : WSt cs p0 n0 fid0 w0 N fid w f buf) (hne : fid ≠ fid0)
    (hN : w0.handles.length ≤ N) (v : Nat) :
    WSt cs p0 n0 fid0 w0 N fid (stepWorld w (.fflush N) (.ok v)) { f with data := f.data ++ buf } [] := by
  have hc := core_fflush_ok s.obj s.file v
  refine ⟨s.fr.step _ _ rfl (fun h hh => by cases hh; exact hN) (s.fileSafe hne), ?_, ?_⟩
  · rw [stepWorld_obj, hc]; simp [obj_setObj, s.lt]
  · rw [stepWorld_file, hc]; simp [file_setFile]

theorem render_eq (m : Msg) : (messageWrite m).1 = (sortById m.headers).flatMap hdrLine ++ [10] ++ m.body := rfl

end Mdsort.Proofs.World
