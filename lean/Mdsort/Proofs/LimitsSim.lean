import Mdsort.Proofs.WorldBasic
import Mdsort.Proofs.LimitsSetters

/-!
# Lock-step simulation of two programs up to an overflow

`Sim S p q`: `p` (the run under the smaller limits) and `q` (the run under the larger ones, or under ideal strings)
issue the same calls with the same arguments, receive the same results and end with the same value - until `p`
reaches a point where `S p` holds.  For the functions below `main`, `S` is `RelErr E`: what is left of `p` only gives
back descriptors (`close`, `closedir`, `fclose`) and every value it can end with is an error value (`E`).
-/

namespace Mdsort.Model

def Call.isRelease : Call → Bool
  | .close _ | .closedir _ | .fclose _ => true
  | _ => false

end Mdsort.Model

namespace Mdsort.Proofs.Limits
open Mdsort Mdsort.Model Mdsort.Proofs.World

/-- `Rel` is short for RELEASE, not relation: the call gives a descriptor back.  So `RelErr E p`: `p` only releases, and ends
with an error value; `rel`, `rels` in `Stopped` and in the trace lemmas are the releasing part of a run. -/
def Rel (c : Call) : Prop := c.isRelease = true

def RelErr {α} (E : α → Prop) (p : Prog α) : Prop := Calls Rel p ∧ All E p

inductive Sim {α} (S : Prog α → Prop) : Prog α → Prog α → Prop
  | ret (a : α) : Sim S (.ret a) (.ret a)
  | call (c : Call) (k k' : Res → Prog α) : (∀ r, Sim S (k r) (k' r)) → Sim S (.call c k) (.call c k')
  | stop (p q : Prog α) : S p → Sim S p q

theorem Sim.refl {α} {S : Prog α → Prop} (p : Prog α) : Sim S p p := by
  induction p with
  | ret a => exact .ret a
  | call c k ih => exact .call c k k ih

theorem Sim.of_eq {α} {S : Prog α → Prop} {p q : Prog α} (h : p = q) : Sim S p q := h ▸ Sim.refl p

theorem Sim.mono {α} {S S' : Prog α → Prop} (hS : ∀ p, S p → S' p) {p q : Prog α} (h : Sim S p q) : Sim S' p q := by
  induction h with
  | ret a => exact .ret a
  | call c k k' _ ih => exact .call c k k' ih
  | stop p q hs => exact .stop p q (hS p hs)

theorem Sim.bind {α β} {S : Prog α → Prop} {S' : Prog β → Prop} {p q : Prog α} {f g : α → Prog β} (h : Sim S p q)
    (hf : ∀ a, Sim S' (f a) (g a)) (hS : ∀ p', S p' → S' (p'.bind f)) : Sim S' (p.bind f) (q.bind g) := by
  induction h with
  | ret a => exact hf a
  | call c k k' _ ih => exact .call c _ _ ih
  | stop p q hs => exact .stop _ _ (hS p hs)

theorem Sim.bind_same {α β} {S' : Prog β → Prop} (p : Prog α) {f g : α → Prog β} (hf : ∀ a, Sim S' (f a) (g a)) :
    Sim S' (p.bind f) (p.bind g) := by
  induction p with
  | ret a => exact hf a
  | call c k ih => exact .call c _ _ ih

theorem _root_.Mdsort.Proofs.World.Calls.bind_all {α β} {Q : Call → Prop} {p : Prog α} {f : α → Prog β} (hp : Calls Q p)
    (hf : All (fun a => Calls Q (f a)) p) : Calls Q (p.bind f) := by
  induction p with
  | ret a => exact hf
  | call c k ih => exact ⟨hp.1, fun r => ih r (hp.2 r) (hf r)⟩

theorem RelErr.bind {α β} {E : α → Prop} {E' : β → Prop} {p : Prog α} {f : α → Prog β} (hp : RelErr E p)
    (hf : ∀ a, E a → RelErr E' (f a)) : RelErr E' (p.bind f) :=
  ⟨Calls.bind_all hp.1 (hp.2.mono fun a ha => (hf a ha).1), All.bind (hp.2.mono fun a ha => (hf a ha).2)⟩

theorem RelErr.ret {α} {E : α → Prop} {a : α} (h : E a) : RelErr E (Prog.ret a) := ⟨trivial, h⟩

theorem RelErr.call {α} {E : α → Prop} {c : Call} {k : Res → Prog α} (hc : c.isRelease = true) (hk : ∀ r, RelErr E (k r)) :
    RelErr E (Prog.call c k) := ⟨⟨hc, fun r => (hk r).1⟩, fun r => (hk r).2⟩

theorem Sim.bindE {α β} {E : α → Prop} {E' : β → Prop} {p q : Prog α} {f g : α → Prog β} (h : Sim (RelErr E) p q)
    (hf : ∀ a, Sim (RelErr E') (f a) (g a)) (he : ∀ a, E a → RelErr E' (f a)) : Sim (RelErr E') (p.bind f) (q.bind g) :=
  h.bind hf fun _ hp => hp.bind he

theorem Sim.ite {α} {S : Prog α → Prop} (c : Prop) [Decidable c] {p p' q q' : Prog α} (hp : Sim S p p') (hq : Sim S q q') :
    Sim S (if c then p else q) (if c then p' else q') := by
  split
  · exact hp
  · exact hq

theorem Sim.bindNone {α β} {E' : β → Prop} {p q : Prog (Option α)} {f g : Option α → Prog β}
    (h : Sim (RelErr (· = none)) p q) (hf : ∀ a, Sim (RelErr E') (f a) (g a)) (he : RelErr E' (f none)) :
    Sim (RelErr E') (p.bind f) (q.bind g) :=
  h.bindE hf fun _ ha => ha ▸ he

theorem Sim.bindFlag {α β} {E' : β → Prop} {p q : Prog (α × Bool)} {f g : α × Bool → Prog β}
    (h : Sim (RelErr (·.2 = true)) p q) (hf : ∀ a, Sim (RelErr E') (f a) (g a)) (he : ∀ a, RelErr E' (f (a, true))) :
    Sim (RelErr E') (p.bind f) (q.bind g) :=
  h.bindE hf fun (a, b) hb => by cases hb; exact he a

theorem Sim.stop_ret {α} {E : α → Prop} {a : α} (q : Prog α) (h : E a) : Sim (RelErr E) (.ret a) q := .stop _ _ (RelErr.ret h)

theorem Sim.optStep {β} {S : Prog β → Prop} {o o' : Option Bytes} (h : o = none ∨ o = o') {n : Prog β}
    {s s' : Bytes → Prog β} (hn : S n) (hs : ∀ v, Sim S (s v) (s' v)) :
    Sim S (match (generalizing := false) o with | none => n | some v => s v)
      (match (generalizing := false) o' with | none => n | some v => s' v) :=
  Limits.optStep h (fun q => .stop _ q hn) hs

end Mdsort.Proofs.Limits
