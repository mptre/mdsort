import Mdsort.Proofs.WorldOwnBasic
import Mdsort.Proofs.WorldHoare

/-!
# From a statement against arbitrary call results to the worlds of a run under a fault plan

`Own.wp` (state: the calls so far, with their results) knows nothing of the abstract file system; `Own.wp_world` carries a
statement in it to `World.wp` along any relation between trace and world that every admitted call keeps.
-/

namespace Mdsort.Proofs.Own
open Mdsort Mdsort.Model Mdsort.Proofs

variable {I : Trace → Call → Prop}

/-- A relation `C` between the calls so far and the world that every admitted call keeps holds after every call of a run under
any fault plan, and at its end. -/
theorem wp_world {α} {C : Trace → World → Prop}
    (hstep : ∀ tr w c f, I tr c → C tr w →
      C (tr ++ [(c, World.faultResult f w c)]) (stepWorld w c (World.faultResult f w c)))
    {p : Prog α} {Q : α → Trace → Prop} {tr : Trace} {w : World} (h : wp (fun _ _ => True) I p Q tr) (hc : C tr w) :
    World.wp (fun w' => ∃ tr', C tr' w') p (fun _ w' => ∃ tr', C tr' w') w := by
  induction p generalizing tr w with
  | ret a => exact ⟨tr, hc⟩
  | call c k ih =>
    intro f
    have hc' := hstep tr w c f h.1 hc
    exact ⟨⟨_, hc'⟩, ih _ (h.2 _ trivial) hc'⟩

/-- `tr` is what the run has added to the trace of `w0`, and each of its calls satisfies `I` on those before it. -/
def Traced (I : Trace → Call → Prop) (w0 : World) (tr : Trace) (w : World) : Prop :=
  w.trace = w0.trace ++ tr ∧ ∀ i c r, tr[i]? = some (c, r) → I (tr.take i) c

theorem Traced.step {w0 w : World} {tr : Trace} {c : Call} (hi : I tr c) (h : Traced I w0 tr w) (r : Res) :
    Traced I w0 (tr ++ [(c, r)]) (stepWorld w c r) := by
  refine ⟨by rw [World.stepWorld_trace, h.1, List.append_assoc], fun i c' r' hget => ?_⟩
  rcases Nat.lt_or_ge i tr.length with hlt | hge
  · rw [List.getElem?_append_left hlt] at hget
    rw [List.take_append_of_le_length (Nat.le_of_lt hlt)]
    exact h.2 i c' r' hget
  · rw [List.getElem?_append_right hge] at hget
    have hi0 : i - tr.length = 0 := by
      cases hk : i - tr.length with
      | zero => rfl
      | succ k => rw [hk] at hget; cases hget
    rw [hi0] at hget
    cases hget
    rw [show i = tr.length by omega, List.take_left' rfl]
    exact hi

theorem wp_plan_calls {α} {p : Prog α} {Q : α → Trace → Prop} (h : wp (fun _ _ => True) I p Q []) (plan : Plan) (w : World) :
    ∀ i c r, ((runPlan plan p w 0 []).2.1.trace.drop w.trace.length)[i]? = some (c, r) →
      I (((runPlan plan p w 0 []).2.1.trace.drop w.trace.length).take i) c := by
  obtain ⟨tr', htr, hI⟩ := (World.wp_sound plan
    (wp_world (C := Traced I w) (fun _ _ _ _ hi hc => hc.step hi _) h ⟨(List.append_nil _).symm, fun _ _ _ hg => by cases hg⟩) 0).2
  rw [World.runPlan_eq, htr, List.drop_left]
  exact hI

end Mdsort.Proofs.Own
