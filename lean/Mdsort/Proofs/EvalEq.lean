import Mdsort.Model.Eval

/-!
Lean generates the unfolding equations of `Model.eval` (what `rw [eval]`, `simp only [eval]` use) in the first module
that asks for them, and separately in every module that imports no such module; for the 25 cases of `eval` that is slow.
Every module that unfolds `eval` imports this one first, so that they are generated here only.
-/

namespace Mdsort.Model

/-- Stated to have the equations of `eval` generated in this module: it stays although nothing refers to it. -/
theorem eval_all (env : Env) (root : Msg) (lno part : Nat) (m : Msg) (st : St) :
    eval env root (.all lno) part m st = (.match, st) := by
  rw [eval]

end Mdsort.Model
