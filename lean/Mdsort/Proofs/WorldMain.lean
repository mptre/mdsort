import Mdsort.Proofs.EvalPCalls
import Mdsort.Proofs.WorldSpine

/-! Control-flow facts about `mainP`: exit status, configuration-only runs, dry run. -/

namespace Mdsort.Proofs.World
open Mdsort Mdsort.Model

/-- `Own.wp_mainP` (WorldSpine) with nothing said about the calls (`all_iff_wp`) and the invariant `True`. -/
theorem mainP_all (env : PEnv) (orc : EvalOracles) (ok : Bool) (conf : List ConfBlock) (files : Files) (input : Bytes) :
    All (fun r : Nat × MainSt => r.1 = exitStatus env r.2) (mainP env orc ok conf files input) :=
  (Own.all_iff_wp (tr := [])).2 <| Own.wp_mainP (J := fun _ => True) env orc ok conf files input
    (fun _ _ _ => rfl) [] trivial (fun _ _ => trivial) (fun _ => trivial) (fun _ _ => trivial)
    fun _ _ _ => Own.all_iff_wp.1 (All.trivial' _)

/-- The calls a run issued, read off the trace.  `Mdsort.Proofs.callsOf` of World.lean, which imports this module, has
the same body; what is proved before World.lean is stated with this one. -/
def callsOf' {α} (plan : Plan) (p : Prog α) (w : World) : List Call :=
  ((runPlan plan p w 0 []).2.1.trace.drop w.trace.length).map (·.1)

/-- The shape of `mainP` when it stops after the configuration. -/
def confOnly (env : PEnv) (st1 st2 : Nat × MainSt) : Prog (Nat × MainSt) :=
  .call (.fopen env.confpath) fun r =>
    match r with
    | .ok h => .call (.fclose h) fun _ => .ret st1
    | _ => .ret st2

theorem confOnly_calls (env : PEnv) (st1 st2 : Nat × MainSt) (plan : Plan) (w : World) :
    callsOf' plan (confOnly env st1 st2) w = [.fopen env.confpath] ∨
    ∃ h, callsOf' plan (confOnly env st1 st2) w = [.fopen env.confpath, .fclose h] := by
  unfold callsOf' confOnly
  simp only [runPlan_eq, run]
  split
  · right
    rename_i h _
    exact ⟨h, by simp [run, stepWorld_trace]⟩
  · left
    simp [run, stepWorld_trace]

theorem mainP_syntaxOnly (env : PEnv) (orc : EvalOracles) (ok : Bool) (conf : List ConfBlock) (files : Files) (input : Bytes)
    (hn : env.syntaxOnly = true) : ∃ st1 st2, mainP env orc ok conf files input = confOnly env st1 st2 := by
  rw [mainP_eq]
  unfold mainK confOnly
  cases ok <;> simp only [hn, if_true] <;> exact ⟨_, _, rfl⟩

/-- A call of a dry run: not mutating, and a `fork` only if the configuration has a `command` condition (`hc`):
conditions are evaluated under `-d` as they are otherwise, actions are not executed. -/
def Quiet (hc : Bool) (c : Call) : Prop := c.mutating = false ∧ (c.isFork = true → hc = true)

theorem Quiet.of_kind {K : List Kind}
    (hK : ∀ k ∈ K, k ∉ [.openExcl, .write, .fprintf, .renameat, .unlinkat, .unlink, .utimensat, .mkostemp, .mkdtemp, .mkdir, .rmdir,
      .fork])
    {hc : Bool} {c : Call} (h : c.kind ∈ K) : Quiet hc c := by
  cases c <;> first | exact (hK _ h (Kind.mem rfl)).elim | exact ⟨rfl, fun h => by cases h⟩

theorem confOnly_result (env : PEnv) (st1 st2 : Nat × MainSt) (plan : Plan) (w : World) :
    (runPlan plan (confOnly env st1 st2) w 0 []).1 = st1 ∨ (runPlan plan (confOnly env st1 st2) w 0 []).1 = st2 := by
  unfold confOnly
  simp only [runPlan_eq, run]
  split
  · left; simp [run]
  · right; simp [run]

theorem mainP_badconf (env : PEnv) (orc : EvalOracles) (conf : List ConfBlock) (files : Files) (input : Bytes) :
    ∃ st : Nat × MainSt, st.2.error = true ∧ mainP env orc false conf files input = confOnly env st st := by
  rw [mainP_eq]
  exact ⟨_, rfl, rfl⟩

theorem quiet_callsOf {α} (hc : Bool) (plan : Plan) (p : Prog α) (w : World) (h : Calls (Quiet hc) p) :
    ∀ c ∈ callsOf' plan p w, c.mutating = false ∧ (c.isFork = true → hc = true) := by
  obtain ⟨L, hL, hQ⟩ := h.trace plan w 0
  unfold callsOf'
  simp only [runPlan_eq, hL, List.drop_left]
  intro c hc
  obtain ⟨x, hx, rfl⟩ := List.mem_map.1 hc
  exact hQ x hx

end Mdsort.Proofs.World
