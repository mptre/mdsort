import Mdsort.Model.MainText
import Mdsort.Proofs.World
import Mdsort.Proofs.ConfErrors

/-!
# The run from the configuration text (`Model.mainText`)

The trees of an accepted configuration have no empty block, so they are trees of the evaluator, and `mainText` is `mainP`
on them; the runs on rejected text and with refused `-D` options are spelled out.
-/

namespace Mdsort.Proofs.MainText
open Mdsort Mdsort.Model Mdsort.Spec

theorem mt_ofExpr_cond {e : Expr} (h : isCondLeaf e = true) : CTree.ofExpr e = .leaf e := by
  cases e <;> simp_all [isCondLeaf, CTree.ofExpr]

theorem mt_ofExpr_act {e : Expr} (h : e.leafAction = true) : CTree.ofExpr e = .leaf e := by
  cases e <;> simp_all [Expr.leafAction, CTree.ofExpr]

theorem mt_toExpr_of_wf (rx : Pat → Bool) : ∀ (t : CTree) (k : Kind), wfK rx k t = true →
    (k = .block → t.countActions > 0) → ∃ e, t.toExpr = some e ∧ CTree.ofExpr e = t := by
  intro t
  induction t with
  | leaf e =>
    intro k h _
    refine ⟨e, rfl, ?_⟩
    rcases (Conf.wfK_leaf.1 h).1 with ⟨_, hc⟩ | ⟨_, ha⟩
    · exact mt_ofExpr_cond hc
    · exact mt_ofExpr_act ha
  | emptyBlock l => exact fun k h hb => absurd (hb (Conf.wfK_emptyBlock.1 h)) (Nat.lt_irrefl 0)
  | block l b ih =>
    intro k h _
    obtain ⟨e, he, hof⟩ := ih .rules (Conf.wfK_block.1 h).2 nofun
    exact ⟨.block l e, by simp [CTree.toExpr, he], by simp [CTree.ofExpr, hof]⟩
  | neg l e ih =>
    intro k h _
    obtain ⟨e', he, hof⟩ := ih .cond (Conf.wfK_neg.1 h).2 nofun
    exact ⟨.neg l e', by simp [CTree.toExpr, he], by simp [CTree.ofExpr, hof]⟩
  | attachment l e ih =>
    intro k h _
    obtain ⟨e', he, hof⟩ := ih .cond (Conf.wfK_attachment.1 h).2 nofun
    exact ⟨.attachment l e', by simp [CTree.toExpr, he], by simp [CTree.ofExpr, hof]⟩
  | attBlock l b ih =>
    intro k h _
    obtain ⟨_, hb, hpos, _⟩ := Conf.wfK_attBlock.1 h
    obtain ⟨e', he, hof⟩ := ih .block hb (fun _ => hpos)
    exact ⟨.attBlock l e', by simp [CTree.toExpr, he], by simp [CTree.ofExpr, hof]⟩
  | and l a b iha ihb =>
    intro k h _
    rcases Conf.wfK_and.1 h with ⟨_, ha, hb⟩ | ⟨_, ha, hb⟩
    all_goals
      obtain ⟨ea, hea, hofa⟩ := iha _ ha nofun
      obtain ⟨eb, heb, hofb⟩ := ihb _ hb nofun
      exact ⟨.and l ea eb, by simp [CTree.toExpr, hea, heb], by simp [CTree.ofExpr, hofa, hofb]⟩
  | or l a b iha ihb =>
    intro k h _
    rcases Conf.wfK_or.1 h with ⟨_, ha, hb⟩ | ⟨_, ha, hb⟩
    all_goals
      obtain ⟨ea, hea, hofa⟩ := iha _ ha nofun
      obtain ⟨eb, heb, hofb⟩ := ihb _ hb nofun
      exact ⟨.or l ea eb, by simp [CTree.toExpr, hea, heb], by simp [CTree.ofExpr, hofa, hofb]⟩
  | mtch l c r ihc ihr =>
    intro k h _
    obtain ⟨_, hc, hr⟩ := Conf.wfK_mtch.1 h
    obtain ⟨ec, hec, hofc⟩ := ihc .cond hc nofun
    have hr : ∃ er, r.toExpr = some er ∧ CTree.ofExpr er = r := by
      rcases hr with h2 | h2
      · exact ihr .block h2.1 (fun _ => h2.2)
      · exact ihr .acts h2.1 nofun
    obtain ⟨er, her, hofr⟩ := hr
    exact ⟨.mtch l ec er, by simp [CTree.toExpr, hec, her], by simp [CTree.ofExpr, hofc, hofr]⟩

def toPBlocks (conf : List ConfBlock) : List PBlock :=
  conf.map fun b => { paths := b.paths, tree := CTree.ofExpr b.expr }

theorem mt_confBlocksOf_ok (rx : Pat → Bool) : ∀ (blocks : List PBlock), (∀ b ∈ blocks, blockOK rx b = true) →
    ∃ conf, confBlocksOf blocks = some conf ∧ toPBlocks conf = blocks := by
  intro blocks
  induction blocks with
  | nil => intro _; exact ⟨[], rfl, rfl⟩
  | cons b r ih =>
    intro h
    obtain ⟨conf, hc, hp⟩ := ih (fun x hx => h x (by simp [hx]))
    have hb := Conf.blockOK_parts (h b (by simp))
    obtain ⟨e, he, hof⟩ := mt_toExpr_of_wf rx b.tree .block hb.1 (fun _ => hb.2.1)
    refine ⟨{ paths := b.paths, expr := e } :: conf, by simp [confBlocksOf, he, hc], ?_⟩
    simp only [toPBlocks, List.map_cons, hof] at hp ⊢
    rw [hp]

theorem confBlocksOf_accepted {home : Bytes} {defs : List (Bytes × Bytes)} {rx : Pat → Bool} {input : Bytes}
    {blocks : List PBlock} (h : parseConfig home defs rx input = .ok blocks) :
    ∃ conf, confBlocksOf blocks = some conf ∧ toPBlocks conf = blocks :=
  mt_confBlocksOf_ok rx blocks (Conf.accepted_block h)

theorem mainText_accepted (env : PEnv) (orc : EvalOracles) (rx : Pat → Bool) (defs : List (Bytes × Bytes))
    (confText : Bytes) (files : Files) (input : Bytes) (blocks : List PBlock)
    (h : parseConfig env.home defs rx confText = .ok blocks) :
    ∃ conf, confBlocksOf blocks = some conf ∧ toPBlocks conf = blocks ∧
      mainText env orc rx defs confText files input = mainP env orc true conf files input := by
  obtain ⟨conf, hc, hp⟩ := confBlocksOf_accepted h
  exact ⟨conf, hc, hp, by simp only [mainText, h, hc]⟩

theorem mainText_error (env : PEnv) (orc : EvalOracles) (rx : Pat → Bool) (defs : List (Bytes × Bytes))
    (confText : Bytes) (files : Files) (input : Bytes) (line : Nat)
    (h : parseConfig env.home defs rx confText = .error line) :
    mainText env orc rx defs confText files input = mainP env orc false [] files input := by
  simp only [mainText, h]

theorem mainText_rejected (env : PEnv) (orc : EvalOracles) (rx : Pat → Bool) (defs : List (Bytes × Bytes))
    (confText : Bytes) (files : Files) (input : Bytes) (line : Nat) (w : World) (plan : Plan)
    (h : parseConfig env.home defs rx confText = .error line) :
    let p := mainText env orc rx defs confText files input
    let r := runPlan plan p w 0 []
    r.1.2.error = true ∧ r.1.1 = (if env.stdinMode then 75 else 1) ∧
    (callsOf plan p w = [.fopen env.confpath] ∨ ∃ hd, callsOf plan p w = [.fopen env.confpath, .fclose hd]) := by
  intro p r
  have hp : p = mainP env orc false [] files input := mainText_error env orc rx defs confText files input line h
  have hb := bad_config_only_reads_config env orc [] files input w plan
  have hx := exit_status_table env orc false [] files input w plan
  simp only at hb hx
  refine ⟨?_, ?_, ?_⟩
  · show (runPlan plan p w 0 []).1.2.error = true
    rw [hp]; exact hb.1
  · show (runPlan plan p w 0 []).1.1 = _
    rw [hp, hx]
    simp only [exitStatus, hb.1, if_true, Gen.exTempfail]
  · rw [hp]; exact hb.2

/-- Refused `-D` options (`path`, or the same name twice): the run ends before the configuration is opened, also with `-`. -/
theorem mainText_invalidDefs (env : PEnv) (orc : EvalOracles) (rx : Pat → Bool) (defs : List (Bytes × Bytes))
    (confText : Bytes) (files : Files) (input : Bytes) (w : World) (plan : Plan)
    (h : parseConfig env.home defs rx confText = .invalidDefs) :
    let p := mainText env orc rx defs confText files input
    (runPlan plan p w 0 []).1.1 = 1 ∧ (runPlan plan p w 0 []).1.2.error = true ∧ callsOf plan p w = [] := by
  intro p
  have hp : p = .ret (1, { files := files, error := true, reject := false, log := [] }) := by
    show mainText env orc rx defs confText files input = _
    simp only [mainText, h]; rfl
  rw [hp]
  simp [runPlan, callsOf]

end Mdsort.Proofs.MainText
