import Mdsort.Proofs.LimitsBridgeWorld

/-!
# What the main loop keeps

A property `I` of the main state that the loop's own updates keep (`Kept I`: setting the error flag or the fuel flag,
`orFuel`, recording the spooled message) and that one message keeps is kept by `walkL`, `pathsL`, `blocksL`, for all limits -
and so by `walk`, `mainP.blocks.paths`, `mainP.blocks` of the model, which are those at `stdLimits`.  The flags that stay
set once they are set (`MainSt.error`, `MainSt.fuelOut`) are the instances `kept_error`, `kept_fuelOut`.
-/

namespace Mdsort.Proofs.Limits
open Mdsort Mdsort.Model Mdsort.Proofs.World

structure Kept (I : MainSt → Prop) : Prop where
  error : ∀ st, I st → I { st with error := true }
  orFuel : ∀ st b, I st → I (orFuel st b)
  put : ∀ st d n c, I st → I { st with files := st.files.put d n c }

theorem kept_error : Kept (fun st => st.error = true) :=
  ⟨fun _ _ => rfl, fun _ _ h => h, fun _ _ _ _ h => h⟩

theorem kept_fuelOut : Kept (fun st => st.fuelOut = true) :=
  ⟨fun _ h => h, fun st b h => by simp only [Model.orFuel, h, Bool.true_or], fun _ _ _ _ h => h⟩

/-- Raising the fuel flag is `orFuel st true`. -/
theorem Kept.fuel {I : MainSt → Prop} (hI : Kept I) (st : MainSt) (h : I st) : I { st with fuelOut := true } := by
  simpa only [Model.orFuel, Bool.or_true] using hI.orFuel st true h

variable {I : MainSt → Prop} {L : Limits} {env : PEnv} {orc : EvalOracles}

theorem walkL_inv (hI : Kept I) (expr : Expr)
    (hm : ∀ md name st, I st → All (fun r => I r.1) (processMessageL L env orc expr md name st)) (fuel : Nat) :
    ∀ (md : Maildir) (st : MainSt), I st → All (fun r => I r.1) (walkL L env orc expr fuel md st) := by
  induction fuel with
  | zero => intro md st h; exact hI.fuel _ h
  | succ n ih =>
    intro md st h
    simp only [walkL, bind_eq, pure_eq, call_bind]
    split
    · exact h
    · intro r
      cases r with
      | name nm =>
        dsimp only
        split
        · exact ih _ _ h
        · exact All.bind ((hm md _ st h).mono fun b hb => ih _ _ hb)
      | eof =>
        dsimp only
        split
        · exact h
        · split
          · exact h
          · refine All.bind_of_forall _ fun x => ?_
            split
            · exact hI.error _ h
            · exact ih _ _ h
      | ok v => exact hI.error _ h
      | err e => exact hI.error _ h

theorem pathsL_inv (hI : Kept I) (input : Bytes) (b : ConfBlock)
    (hm : ∀ md name st, I st → All (fun r => I r.1) (processMessageL L env orc b.expr md name st)) (ps : List Bytes) :
    ∀ st : MainSt, I st → All I (pathsL L env orc input b ps st) := by
  induction ps with
  | nil => intro st h; exact h
  | cons p more ih =>
    intro st h
    simp only [pathsL, bind_eq]
    split
    · exact ih _ h
    · split
      · refine All.bind_of_forall _ fun x => ?_
        split
        · exact All.bind_of_forall _ fun _ => ih _ (hI.orFuel _ _ (hI.error _ h))
        · refine All.bind ((walkL_inv hI b.expr hm _ _ _ ?_).mono fun r hr => All.bind_of_forall _ fun _ => ih _ (hI.orFuel _ _ hr))
          split
          · exact hI.put _ _ _ _ h
          · exact h
      · refine All.bind_of_forall _ fun o => ?_
        split
        · exact ih _ (hI.error _ h)
        · exact All.bind ((walkL_inv hI b.expr hm _ _ _ h).mono fun r hr => All.bind_of_forall _ fun _ => ih _ hr)

theorem blocksL_inv (hI : Kept I) (input : Bytes)
    (hm : ∀ expr md name st, I st → All (fun r => I r.1) (processMessageL L env orc expr md name st)) (bs : List ConfBlock) :
    ∀ st : MainSt, I st → All I (blocksL L env orc input bs st) := by
  induction bs with
  | nil => intro st h; exact h
  | cons b rest ih =>
    intro st h
    simp only [blocksL, bind_eq]
    exact All.bind ((pathsL_inv hI input b (hm b.expr) b.paths st h).mono fun r hr => ih _ hr)

theorem walk_inv (hI : Kept I) (expr : Expr)
    (hm : ∀ md name st, I st → All (fun r => I r.1) (processMessage env orc expr md name st)) (fuel : Nat) (md : Maildir)
    (st : MainSt) (h : I st) : All (fun r => I r.1) (walk env orc expr fuel md st) :=
  walkL_std ▸ walkL_inv hI expr (fun md name st h => processMessageL_std ▸ hm md name st h) fuel md st h

theorem paths_inv (hI : Kept I) (input : Bytes) (b : ConfBlock)
    (hm : ∀ md name st, I st → All (fun r => I r.1) (processMessage env orc b.expr md name st)) (ps : List Bytes) (st : MainSt)
    (h : I st) : All I (mainP.blocks.paths env orc input b ps st) :=
  pathsL_std ▸ pathsL_inv hI input b (fun md name st h => processMessageL_std ▸ hm md name st h) ps st h

theorem blocks_inv (hI : Kept I) (input : Bytes)
    (hm : ∀ expr md name st, I st → All (fun r => I r.1) (processMessage env orc expr md name st)) (bs : List ConfBlock)
    (st : MainSt) (h : I st) : All I (mainP.blocks env orc input bs st) :=
  blocksL_std ▸ blocksL_inv hI input (fun expr md name st h => processMessageL_std ▸ hm expr md name st h) bs st h

end Mdsort.Proofs.Limits
