import Mdsort.Proofs.WorldCrash
import Mdsort.Proofs.WorldLinTop
import Mdsort.Proofs.WorldCountExec

/-! Every crash state of the execution of an action list has an intact copy OF THE MESSAGE (C02): the three facts `wp_crash`
asks for - `GoodN`, the lineage and `DI` from the tracked walk, the message's own file from the frame `WholeK`. -/

namespace Mdsort.Proofs
open Mdsort Mdsort.Model
open Mdsort.Proofs.World (GoodN LinInv DI CrashSafe Hist WholeK NoPartPipe)

/-- Every crash state, by lineage (one action list, every fault plan).  The message's entry is bound to `fid`;
after EVERY call, for EVERY prefix `i` of the calls issued since the start: the crash state "directories after the first
`i` calls, files as on stable storage now" has an entry bound to a file `g` that descends from `fid` and whose content is
a complete stage of the message. -/
theorem exec_crash_states (env : PEnv) (ml : MatchList) (st : ExecSt) (w : World) (orig : Bytes) (plan : Plan)
    (hs : StartAt w st orig) (hd : NoDiscard ml) (hpp : NoPartPipe ml) (fid : Nat)
    (hfid : w.lookup st.src.path st.ms.name = some fid) :
    ∀ w' ∈ (runPlan plan (matchesExec env ml st) w 0 []).2.2, ∀ i, i ≤ (traceSince w w').length →
      ∃ p n g f, (crashState (worldAt w (traceSince w w') i) w').lookup p n = some g ∧
        (lineage w { cur := some fid, org := id } (traceSince w w')).org g = fid ∧
        (crashState (worldAt w (traceSince w w') i) w').file g = some f ∧ f.data ∈ stages st.ms orig := by
  intro w' hw' i hi
  rw [World.runPlan_eq] at hw'
  simp only [List.nil_append] at hw'
  obtain ⟨hlt, hL⟩ := start_lg hs.start { cur := some fid, org := id } hfid rfl rfl
  obtain ⟨fid', hl', hf'⟩ := hs.start.bound
  have hff : fid' = fid := by rw [hfid] at hl'; exact (Option.some.inj hl').symm
  subst hff
  -- no file of this run exists yet
  have hdi0 : DI w.nextFid (stages st.ms orig) w := by
    intro g f h1 h2 _
    omega
  -- the frame: files that existed are never written
  obtain ⟨sh, fidA, hA⟩ := hs.at
  have hwk := World.whole_matchesExec env ml st hA hA.wholeSt (Nat.zero_le _) hd
  have hall := World.wp_both (World.tracked_matchesExec World.LinInv.side.withDI env ml st ⟨⟨hL.1, hdi0⟩, hL.2⟩
    (by simp [stages]) hd (.inl hpp)) hwk
  have hI : ∀ w'', (World.Tracked (fun w'' => LinInv w { cur := some fid', org := id } w.nextFid id fid' w'' ∧
          DI w.nextFid (stages st.ms orig) w'') w.nextFid fid' (stages st.ms orig) w'' ∧
        WholeK (st.src.path, st.ms.name) 0 w w'') →
      DI w.nextFid (stages st.ms orig) w'' ∧ w''.file fid' = some ⟨orig, orig⟩ ∧
        GoodN w.nextFid fid' w'' (stages st.ms orig) := by
    rintro w'' ⟨⟨h1, h2⟩, k⟩
    exact ⟨h1.2, by rw [k.files fid' hlt]; exact hf', h2⟩
  have hcr := World.wp_crash (orig := orig) (by simp [stages]) hI hall
    ⟨⟨⟨hL.1, hdi0⟩, hL.2⟩, WholeK.refl _ w (Nat.zero_le _)⟩ (Hist.refl w) (CrashSafe.start hL.2)
  obtain ⟨⟨⟨⟨hL', -⟩, -⟩, -⟩, -, hcs⟩ := (World.wp_sound plan hcr 0).1 w' hw'
  obtain ⟨p, n, g, f, h1, hkind, hglt, hf, hdur⟩ := hcs i hi
  refine ⟨p, n, g, ⟨f.durable, f.durable⟩, ?_, ?_, ?_, hdur⟩
  · rw [World.crashState_lookup]; exact h1
  · exact hL'.org_of hlt rfl hkind hglt
  · rw [World.crashState_file, hf]; rfl

end Mdsort.Proofs
