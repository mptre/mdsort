import Mdsort.Proofs.WorldStep

/-! A weakest-precondition calculus for `Prog` under arbitrary fault plans, and the invariant
"a complete version of the message is bound somewhere". -/

namespace Mdsort.Proofs.World
open Mdsort Mdsort.Model

/-- Entry `(p, n)` is bound to file `fid` whose visible and durable contents are both in `cs`. -/
def GoodAt (w : World) (cs : List Bytes) (p n : Bytes) (fid : Nat) : Prop :=
  w.lookup p n = some fid ∧ fid < w.nextFid ∧ ∃ f, w.file fid = some f ∧ f.data ∈ cs ∧ f.durable ∈ cs

/-- Some entry is bound to a complete version of the message (`cs`: the contents that count as complete). -/
def Good (w : World) (cs : List Bytes) : Prop := ∃ p n fid, GoodAt w cs p n fid

theorem GoodAt.good {w cs p n fid} (h : GoodAt w cs p n fid) : Good w cs := ⟨p, n, fid, h⟩

theorem GoodAt.step {w cs p n fid} (hg : GoodAt w cs p n fid) (c : Call) (r : Res)
    (hd : dirSafe w p n c) (hf : fileSafe w fid c) : GoodAt (stepWorld w c r) cs p n fid := by
  obtain ⟨hl, hlt, f, hfile, h1, h2⟩ := hg
  refine ⟨?_, ?_, f, ?_, h1, h2⟩
  · simpa using core_lookup w c r p n fid hl hd
  · simpa using Nat.lt_of_lt_of_le hlt (core_nextFid w c r)
  · simpa [core_file w c r fid hlt hf] using hfile

theorem GoodAt.mono_cs {w : World} {cs cs' : List Bytes} {p n : Bytes} {fid : Nat} (h : GoodAt w cs p n fid)
    (hs : ∀ x ∈ cs, x ∈ cs') : GoodAt w cs' p n fid := by
  obtain ⟨a, b, f, c, d, e⟩ := h
  exact ⟨a, b, f, c, hs _ d, hs _ e⟩

/-- Calls that cannot remove an entry or change the content of an existing file, whatever they act on (`mkdtemp`, `mkdir`, `rmdir`
are left out because `dirSafe` is). -/
def Harmless : Call → Prop
  | .write .. | .fprintf .. | .fsync .. | .fflush .. | .fclose .. | .unlinkat .. | .renameat ..
  | .mkdtemp .. | .mkdir .. | .rmdir .. => False
  | _ => True

theorem Harmless.dirSafe {c : Call} (h : Harmless c) (w : World) (p n : Bytes) : dirSafe w p n c := by
  cases c <;> first | trivial | exact h.elim
theorem Harmless.fileSafe {c : Call} (h : Harmless c) (w : World) (fid : Nat) : fileSafe w fid c := by
  cases c <;> first | trivial | exact h.elim

/-- Under every choice of faults (one `Option Fault` at each call, whatever happened before): the world after each call satisfies
`I` (the initial world is not asked to), and the final value and world satisfy `Q`. -/
def wp {α} (I : World → Prop) : Prog α → (α → World → Prop) → World → Prop
  | .ret a, Q, w => Q a w
  | .call c k, Q, w => ∀ f : Option Fault,
      I (stepWorld w c (faultResult f w c)) ∧ wp I (k (faultResult f w c)) Q (stepWorld w c (faultResult f w c))

theorem wp_ret {α} {I : World → Prop} {a : α} {Q : α → World → Prop} {w : World} (h : Q a w) : wp I (.ret a) Q w := h

theorem wp_bind {α β} {I : World → Prop} {p : Prog α} {f : α → Prog β} {Q : β → World → Prop} {w : World}
    (h : wp I p (fun a w' => wp I (f a) Q w') w) : wp I (p.bind f) Q w := by
  induction p generalizing w with
  | ret a => exact h
  | call c k ih => intro ft; exact ⟨(h ft).1, ih _ (h ft).2⟩

theorem wp_mono {α} {I : World → Prop} {p : Prog α} {Q Q' : α → World → Prop} {w : World}
    (h : wp I p Q w) (hq : ∀ a w', Q a w' → Q' a w') : wp I p Q' w := by
  induction p generalizing w with
  | ret a => exact hq _ _ h
  | call c k ih => intro ft; exact ⟨(h ft).1, ih _ (h ft).2⟩

theorem wp_inv_mono {α} {I I' : World → Prop} {p : Prog α} {Q : α → World → Prop} {w : World}
    (h : wp I p Q w) (hi : ∀ w', I w' → I' w') : wp I' p Q w := by
  induction p generalizing w with
  | ret a => exact h
  | call c k ih => intro ft; exact ⟨hi _ (h ft).1, ih _ (h ft).2⟩

theorem wp_bind_mono {α β} {I : World → Prop} {p : Prog α} {f : α → Prog β} {Q : β → World → Prop}
    {R : α → World → Prop} {w : World}
    (h : wp I p R w) (hf : ∀ a w', R a w' → wp I (f a) Q w') : wp I (p.bind f) Q w :=
  wp_bind (wp_mono h hf)

theorem wp_call {α} {I : World → Prop} {c : Call} {k : Res → Prog α} {Q : α → World → Prop} {w : World}
    (R : Res → Prop) (hr : ∀ f, R (faultResult f w c))
    (h : ∀ r, R r → I (stepWorld w c r) ∧ wp I (k r) Q (stepWorld w c r)) : wp I (.call c k) Q w :=
  fun f => h _ (hr f)

theorem wp_sound {α} {I : World → Prop} {p : Prog α} {Q : α → World → Prop} {w : World} (plan : Plan)
    (h : wp I p Q w) (i : Nat) :
    (∀ w' ∈ (run plan p w i).2.2.2, I w') ∧ Q (run plan p w i).1 (run plan p w i).2.1 := by
  induction p generalizing w i with
  | ret a => exact ⟨by simp [run], h⟩
  | call c k ih =>
    have hc := h (plan i)
    have := ih _ hc.2 (i + 1)
    refine ⟨?_, this.2⟩
    intro w' hw'
    simp only [run, List.mem_cons] at hw'
    rcases hw' with rfl | hw'
    · exact hc.1
    · exact this.1 w' hw'

theorem wp_call_any {α} {I : World → Prop} {c : Call} {k : Res → Prog α} {Q : α → World → Prop} {w : World}
    (h : ∀ r, I (stepWorld w c r) ∧ wp I (k r) Q (stepWorld w c r)) : wp I (.call c k) Q w := fun _ => h _

/-! ## the results a call may be given, as a parameter

`wp` gives a call the results of a fault plan, `ExecSeq.wpo` every result that is possible in the abstract file system.
`wpg R I` takes the admissible results as the relation `R`: a script walked once for every `R` whose results are `Sane`
(WorldResults) gives its statement in each of them (`wp_of_wpg`, `ExecSeq.wpo_of_wpg`). -/

/-- For every result `R` allows in the world the call is issued in: the world after each call satisfies `I`, the final value
and world satisfy `Q`. -/
def wpg {α} (R : World → Call → Res → Prop) (I : World → Prop) : Prog α → (α → World → Prop) → World → Prop
  | .ret a, Q, w => Q a w
  | .call c k, Q, w => ∀ r, R w c r → I (stepWorld w c r) ∧ wpg R I (k r) Q (stepWorld w c r)

def FaultR (w : World) (c : Call) (r : Res) : Prop := ∃ f, r = faultResult f w c

section
variable {α β : Type} {R : World → Call → Res → Prop} {I I' : World → Prop}

theorem wpg_mono {p : Prog α} {Q Q' : α → World → Prop} {w : World}
    (h : wpg R I p Q w) (hq : ∀ a w', Q a w' → Q' a w') : wpg R I p Q' w := by
  induction p generalizing w with
  | ret a => exact hq _ _ h
  | call c k ih => intro r hr; exact ⟨(h r hr).1, ih _ (h r hr).2⟩

theorem wpg_bind_mono {p : Prog α} {f : α → Prog β} {Q : β → World → Prop} {S : α → World → Prop} {w : World}
    (h : wpg R I p S w) (hf : ∀ a w', S a w' → wpg R I (f a) Q w') : wpg R I (p.bind f) Q w := by
  induction p generalizing w with
  | ret a => exact hf _ _ h
  | call c k ih => intro r hr; exact ⟨(h r hr).1, ih _ (h r hr).2⟩

theorem wpg_inv_mono {p : Prog α} {Q : α → World → Prop} {w : World} (h : wpg R I p Q w) (hI : ∀ w', I w' → I' w') :
    wpg R I' p Q w := by
  induction p generalizing w with
  | ret a => exact h
  | call c k ih => intro r hr; exact ⟨hI _ (h r hr).1, ih _ (h r hr).2⟩

theorem wpg_both {p : Prog α} {Q Q' : α → World → Prop} {w : World} (h : wpg R I p Q w) (h' : wpg R I' p Q' w) :
    wpg R (fun w => I w ∧ I' w) p (fun a w => Q a w ∧ Q' a w) w := by
  induction p generalizing w with
  | ret a => exact ⟨h, h'⟩
  | call c k ih => intro r hr; exact ⟨⟨(h r hr).1, (h' r hr).1⟩, ih _ (h r hr).2 (h' r hr).2⟩

/-- The invariant holds of the final world too: that is the start or the world after the last call. -/
theorem wpg_inv_post {p : Prog α} {Q : α → World → Prop} {w : World} (h : wpg R I p Q w) (hw : I w) :
    wpg R I p (fun a w' => Q a w' ∧ I w') w := by
  induction p generalizing w with
  | ret a => exact ⟨h, hw⟩
  | call c k ih => intro r hr; exact ⟨(h r hr).1, ih _ (h r hr).2 (h r hr).1⟩

theorem wpg_call_any {c : Call} {k : Res → Prog α} {Q : α → World → Prop} {w : World}
    (h : ∀ r, I (stepWorld w c r) ∧ wpg R I (k r) Q (stepWorld w c r)) : wpg R I (.call c k) Q w := fun r _ => h r

theorem wpg_of_calls {C : Call → Prop} {J : World → Prop} {P : α → Prop} {p : Prog α} (hc : Calls C p) (ha : All P p)
    (hJ : ∀ w c r, C c → J w → J (stepWorld w c r)) {w : World} (hj : J w) : wpg R J p (fun a w' => J w' ∧ P a) w := by
  induction p generalizing w with
  | ret a => exact ⟨hj, ha⟩
  | call c k ih => intro r _; exact ⟨hJ _ _ _ hc.1 hj, ih _ (hc.2 _) (ha _) (hJ _ _ _ hc.1 hj)⟩

/-- `wp` is the instance "results under a fault plan". -/
theorem wp_of_wpg {p : Prog α} {Q : α → World → Prop} {w : World} (h : wpg FaultR I p Q w) : wp I p Q w := by
  induction p generalizing w with
  | ret a => exact h
  | call c k ih => intro f; exact ⟨(h _ ⟨f, rfl⟩).1, ih _ (h _ ⟨f, rfl⟩).2⟩

end

theorem wp_of_calls_all {α} {C : Call → Prop} {J : World → Prop} {P : α → Prop} {p : Prog α} (hc : Calls C p) (ha : All P p)
    (hJ : ∀ w c r, C c → J w → J (stepWorld w c r)) {w : World} (hj : J w) : wp J p (fun a w' => J w' ∧ P a) w :=
  wp_of_wpg (wpg_of_calls hc ha hJ hj)

theorem wp_of_calls {α} {C : Call → Prop} {J : World → Prop} {p : Prog α} (hc : Calls C p)
    (hJ : ∀ w c r, C c → J w → J (stepWorld w c r)) {w : World} (hj : J w) : wp J p (fun _ w' => J w') w :=
  wp_mono (wp_of_calls_all hc (All.trivial' p) hJ hj) fun _ _ h => h.1

theorem wp_of_all {α} {P : α → Prop} {p : Prog α} (ha : All P p) {w : World} : wp (fun _ => True) p (fun a _ => P a) w :=
  wp_mono (wp_of_calls_all (J := fun _ => True) (Calls.of_forall (fun _ => trivial) p) ha (fun _ _ _ _ h => h) trivial)
    fun _ _ h => h.2

/-- `faultResult_plain` (WorldBasic) with "transfers no bytes" spelt as "neither `read` nor `write`". -/
theorem faultResult_cases (f : Option Fault) (w : World) (c : Call)
    (h1 : ∀ fd, c ≠ .read fd) (h2 : ∀ fd d, c ≠ .write fd d) :
    faultResult f w c = predict w c ∨ ∃ e, faultResult f w c = .err e := by
  refine faultResult_plain f w ?_
  cases c
  case read => exact absurd rfl (h1 _)
  case write => exact absurd rfl (h2 _ _)
  all_goals rfl

theorem faultResult_write (f : Option Fault) (w : World) (fd : Handle) (data : Bytes) :
    (∃ n, faultResult f w (.write fd data) = .ok n ∧ (n = data.length ∨ (0 < n ∧ n < data.length))) ∨
      ∃ e, faultResult f w (.write fd data) = .err e := by
  rcases faultResult_trichotomy f w (.write fd data) with h | h | ⟨n, m, -, hm, h0, hlt, h⟩
  · exact .inl ⟨_, h, .inl rfl⟩
  · exact .inr h
  · cases hm
    exact .inl ⟨n, h, .inr ⟨h0, hlt⟩⟩

end Mdsort.Proofs.World
