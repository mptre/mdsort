import Mdsort.Proofs.EvalAttSim

/-!
# What `parseRuleAW` recognises, and monotonicity of the specification run (C03 with attachments)

The simulation works with the widened shape (`pass` / `break` anywhere in an action list,
`Spec.parseRuleAW`).  An action list is read from the left, as `expr_eval_and` walks it and as `Spec.parseChainAW`
descends: one more element behind a list changes its control and whether it is `placedOK` in a way that depends on the
control of the list before it only (`CtlStep`, `ctlStep_of_snoc`).

The second half is about the specification alone: its run only grows (`RunLe`, `att_run_mono`).
-/

namespace Mdsort.Proofs
open Mdsort Mdsort.Model Mdsort.Spec

theorem att_andChain_leaf (e : Expr) (h : ∀ lno l r, e ≠ .and lno l r) : andChain e = [e] := by
  cases e <;> first | rfl | exact absurd rfl (h _ _ _)

theorem att_parseChainAW_leaf (e : Expr) (h : ∀ lno l r, e ≠ .and lno l r) :
    parseChainAW e = if (isCtlExpr e).isSome then some [] else (parseActAW e).map fun x => [x] := by
  cases e with
  | and lno l r => exact absurd rfl (h _ _ _)
  | _ => rw [parseChainAW]; intro _ _ _ hh; cases hh

theorem att_parseActAW_spec {x : Expr} {a : ActA} (h : parseActAW x = some a) :
    (∃ l l' e rs, x = .attBlock l (.block l' e) ∧ a = .att l rs ∧ parseRulesAW e = some rs) ∨
    (a = .plain x ∧ isActionExpr x = true) := by
  by_cases hx : ∃ l l' e, x = .attBlock l (.block l' e)
  · obtain ⟨l, l', e, rfl⟩ := hx
    left
    simp only [parseActAW, Option.map_eq_some_iff] at h
    obtain ⟨rs, h1, h2⟩ := h
    exact ⟨l, l', e, rs, rfl, h2.symm, h1⟩
  · right
    rw [parseActAW.eq_2 x fun l l' e he => hx ⟨l, l', e, he⟩] at h
    by_cases ha : isActionExpr x = true
    · rw [if_pos ha] at h
      exact ⟨(Option.some.inj h).symm, ha⟩
    · rw [if_neg ha] at h
      cases h

theorem isCtlExpr_isNone_iff (x : Expr) : isCtlExpr x = Option.none ↔ (isPassExpr x = false ∧ isBrkExpr x = false) := by
  cases x <;> simp [isCtlExpr, isPassExpr, isBrkExpr]

theorem isBrkExpr_iff (x : Expr) : isBrkExpr x = true ↔ ∃ l, x = .brk l := by
  cases x <;> simp [isCtlExpr, isBrkExpr]

theorem isCtlExpr_cases (x : Expr) : isCtlExpr x = Option.none ∨ (∃ l, x = .pass l) ∨ (∃ l, x = .brk l) := by
  cases x <;> simp [isCtlExpr]

theorem placedOK_cons_plain (x : Expr) (xs : List Expr) (h : isCtlExpr x = Option.none) :
    placedOK (x :: xs) = placedOK xs := by
  obtain ⟨hp, hb⟩ := (isCtlExpr_isNone_iff x).1 h
  simp [placedOK, ctlMixed, actionAfterPass, attAfterBreak, List.dropWhile, hp, hb]

theorem any_ctl_noctl (es : List Expr) (h : ∀ x ∈ es, isCtlExpr x = Option.none) :
    es.any isPassExpr = false ∧ es.any isBrkExpr = false := by
  simp only [List.any_eq_false, Bool.not_eq_true]
  exact ⟨fun x hx => ((isCtlExpr_isNone_iff x).1 (h x hx)).1, fun x hx => ((isCtlExpr_isNone_iff x).1 (h x hx)).2⟩

theorem ctlOfList_noctl (es : List Expr) (h : ∀ x ∈ es, isCtlExpr x = Option.none) : ctlOfList es = some Ctl.none := by
  obtain ⟨hp, hb⟩ := any_ctl_noctl es h
  simp [ctlOfList, hp, hb]

/-- "`q` holds of an element behind the first `p`" (the shape of `actionAfterPass` and `attAfterBreak`) with one more
element at the end. -/
theorem any_afterFirst_snoc {α : Type} (p q : α → Bool) (x : α) : ∀ (xs : List α),
    (((xs ++ [x]).dropWhile fun y => !p y).drop 1).any q =
      (((xs.dropWhile fun y => !p y).drop 1).any q || (xs.any p && q x)) := by
  intro xs
  induction xs with
  | nil => by_cases hx : p x = true <;> simp [List.dropWhile, hx]
  | cons y ys ih =>
    by_cases hy : p y = true
    · simp [List.dropWhile, hy]
    · simpa [List.dropWhile, hy] using ih

/-- One more element `x` behind an action list whose control is `c0`: the control `c` of the longer list, when it is
`placedOK`. -/
def CtlStep (c0 : Ctl) (x : Expr) (c : Ctl) : Prop :=
  (isCtlExpr x = Option.none ∧ c = c0 ∧ c0 ≠ .pass ∧ (c0 = .brk → isAttBlockExpr x = false)) ∨
  ((∃ l, x = .pass l) ∧ c = .pass ∧ c0 ≠ .brk) ∨
  ((∃ l, x = .brk l) ∧ c = .brk ∧ c0 ≠ .pass)

theorem ctlStep_of_snoc {xs : List Expr} {x : Expr} {c : Ctl} (hp : placedOK (xs ++ [x]) = true)
    (hc : ctlOfList (xs ++ [x]) = some c) :
    ∃ c0, placedOK xs = true ∧ ctlOfList xs = some c0 ∧ CtlStep c0 x c := by
  have hpass : (xs ++ [x]).any isPassExpr = (xs.any isPassExpr || isPassExpr x) := by simp
  have hbrk : (xs ++ [x]).any isBrkExpr = (xs.any isBrkExpr || isBrkExpr x) := by simp
  unfold placedOK ctlMixed at hp ⊢
  unfold ctlOfList at hc ⊢
  rw [hpass, hbrk] at hp hc
  rw [actionAfterPass, attAfterBreak, any_afterFirst_snoc, any_afterFirst_snoc, ← actionAfterPass, ← attAfterBreak] at hp
  unfold CtlStep
  -- what is left are Boolean functions of four facts about `xs` and of what `x` is
  generalize xs.any isPassExpr = aP at hp hc ⊢
  generalize xs.any isBrkExpr = aB at hp hc ⊢
  generalize actionAfterPass xs = ap at hp ⊢
  generalize attAfterBreak xs = ab at hp ⊢
  -- the three conjuncts of `placedOK`: not mixed; nothing but `pass` behind a `pass`; no attachment block behind a `break`
  simp only [Bool.and_eq_true, Bool.not_eq_true', Bool.or_eq_false_iff] at hp
  obtain ⟨⟨hmix, rfl, hafter⟩, rfl, hatt⟩ := hp
  rcases isCtlExpr_cases x with hx | ⟨l, rfl⟩ | ⟨l, rfl⟩
  · -- `x` is no control: no `pass` stands before it (`hafter`); the control stays what it is
    obtain ⟨h1, h2⟩ := (isCtlExpr_isNone_iff x).1 hx
    rw [h1, h2] at hmix hc
    rw [h1] at hafter
    obtain rfl : aP = false := by simpa using hafter
    cases aB
    · exact ⟨.none, rfl, rfl, .inl ⟨hx, by simpa using hc.symm, by decide, fun h => by cases h⟩⟩
    · exact ⟨.brk, rfl, rfl, .inl ⟨hx, by simpa using hc.symm, by decide, fun _ => by simpa using hatt⟩⟩
  · -- `x` is `pass`: no `break` stands before it (`hmix`)
    have h1 : isPassExpr (.pass l) = true := rfl
    have h2 : isBrkExpr (.pass l) = false := rfl
    rw [h1, h2] at hmix hc
    obtain rfl : aB = false := by simpa using hmix
    have hc' : c = .pass := by simpa using hc.symm
    cases aP
    · exact ⟨.none, rfl, rfl, .inr (.inl ⟨⟨l, rfl⟩, hc', by decide⟩)⟩
    · exact ⟨.pass, rfl, rfl, .inr (.inl ⟨⟨l, rfl⟩, hc', by decide⟩)⟩
  · -- `x` is `break`: no `pass` stands before it (`hmix`)
    have h1 : isPassExpr (.brk l) = false := rfl
    have h2 : isBrkExpr (.brk l) = true := rfl
    rw [h1, h2] at hmix hc
    obtain rfl : aP = false := by simpa using hmix
    have hc' : c = .brk := by simpa using hc.symm
    cases aB
    · exact ⟨.none, rfl, rfl, .inr (.inr ⟨⟨l, rfl⟩, hc', by decide⟩)⟩
    · exact ⟨.brk, rfl, rfl, .inr (.inr ⟨⟨l, rfl⟩, hc', by decide⟩)⟩

theorem parseRuleAW_acts (lno : Nat) (c rhs : Expr) (hc : isCond c = true) (hnb : ∀ l e, rhs ≠ .block l e) :
    parseRuleAW (.mtch lno c rhs) =
      match ctlOfList (andChain rhs), parseChainAW rhs with
      | some ctl, some as => some (RuleA.acts lno c as ctl)
      | _, _ => Option.none := by
  cases rhs with
  | block l e => exact absurd rfl (hnb l e)
  | _ =>
    rw [parseRuleAW]
    · simp only [hc, Bool.not_true, Bool.false_eq_true, if_false]
      rfl
    · intro _ _ hh; cases hh

theorem placedOK_of_ctlPlaced {lno : Nat} {c rhs : Expr} (hnb : ∀ l e, rhs ≠ .block l e)
    (h : ctlPlaced (.mtch lno c rhs) = true) : placedOK (andChain rhs) = true := by
  simp only [ctlPlaced, Bool.and_eq_true] at h
  have := h.2
  cases rhs with
  | block l e => exact absurd rfl (hnb l e)
  | _ => exact this

/-- `isCtlExpr_spec` (EvalRules) under the prefix of these modules. -/
theorem att_isCtlExpr_spec {x : Expr} {ctl : Ctl} (h : isCtlExpr x = some ctl) :
    (ctl = .pass ∧ ∃ l, x = .pass l) ∨ (ctl = .brk ∧ ∃ l, x = .brk l) :=
  isCtlExpr_spec h

theorem ctlPlaced_mtch_rhs {lno : Nat} {c rhs : Expr} (h : ctlPlaced (.mtch lno c rhs) = true) : ctlPlaced rhs = true := by
  simp only [ctlPlaced, Bool.and_eq_true] at h
  exact h.1.2

/-- `b` is a later state of the run `a`: the pending list was extended and a deviation that was
recorded stays recorded. -/
def RunLe (a b : RunA) : Prop :=
  (∃ ext, b.pend = a.pend ++ ext) ∧ (b.crosses = false → a.crosses = false) ∧ (b.leaks = false → a.leaks = false)

theorem RunLe.refl (a : RunA) : RunLe a a := ⟨⟨[], by simp⟩, id, id⟩

theorem RunLe.trans {a b c : RunA} (h1 : RunLe a b) (h2 : RunLe b c) : RunLe a c := by
  obtain ⟨⟨e1, p1⟩, c1, l1⟩ := h1
  obtain ⟨⟨e2, p2⟩, c2, l2⟩ := h2
  exact ⟨⟨e1 ++ e2, by rw [p2, p1, List.append_assoc]⟩, fun h => c1 (c2 h), fun h => l1 (l2 h)⟩

theorem RunLe.crossed (a : RunA) (b : Bool) : RunLe a { a with crosses := a.crosses || b } :=
  ⟨⟨[], by simp⟩, fun h => (Bool.or_eq_false_iff.1 h).1, id⟩

theorem att_forParts_mono {α : Type} {F : Nat → α → RunA → BRes × RunA} (hF : ∀ i q r, RunLe r (F i q r).2) :
    ∀ {ps : List α} {i : Nat} {any : Bool} {run : RunA} {b : Option Bool} {run1 : RunA},
      forParts F i ps any run = (b, run1) → RunLe run run1 := by
  intro ps
  induction ps with
  | nil =>
    intro i any run b run1 h
    cases h
    exact RunLe.refl run
  | cons q qs ih =>
    intro i any run b run1 h
    have h1 := hF i q run
    simp only [forParts] at h
    rcases hr : F i q run with ⟨b', run'⟩
    rw [hr] at h1 h
    cases b' with
    | err =>
      cases h
      exact h1
    | _ => exact h1.trans (ih h)

/-- By the induction principle Lean derives from the two definitions (`#check @evalRulesA.mutual_induct_unfolding`
shows it): one case per arm of `evalRulesA`, then of `evalActsA`, in the order of the text of `Spec/RulesAtt.lean`; the
comment at each bullet names the arm.  What the arm assumes (the value of the condition, the outcome of the sub-run as an
equation) and the hypotheses of induction for the recursive calls come last in the context, in that order; the hypothesis
for a sub-run speaks of it before its equation is used. -/
theorem att_run_mono {α : Type} (cx : PartCtx α) (aerr : Expr → Bool) :
    (∀ (nested outerPass : Bool) (start k : Nat) (m : α) (rs : List RuleA) (passSeen : Bool) (run : RunA),
      RunLe run (evalRulesA cx aerr nested outerPass start k m rs passSeen run).2) ∧
    (∀ (hasPass : Bool) (k : Nat) (m : α) (as : List ActA) (run : RunA),
      RunLe run (evalActsA cx aerr hasPass k m as run).2) := by
  refine evalRulesA.mutual_induct_unfolding cx aerr (fun _ _ _ _ _ _ _ run o => RunLe run o.2)
    (fun _ _ _ _ run o => RunLe run o.2) ?_ ?_ ?_ ?_ ?_ ?_ ?_ ?_ ?_ ?_ ?_ ?_ ?_ ?_ ?_ ?_ ?_ ?_ ?_
  -- `evalRulesA` on `[]`
  · intro _ _ _ _ _ _ run
    exact RunLe.crossed run _
  -- `.acts`: the condition is an error
  · intros
    exact RunLe.refl _
  -- `.acts`: the condition does not match
  · intros
    assumption
  -- `.acts`, match: the actions end in an error, `(none, run1)`
  · intros
    rename_i ha ihA
    rw [ha] at ihA
    exact ihA
  -- `.acts`, match: an attachment block matched on no part, `(some false, run1)`; `leaks` may be set, `pend` is reset
  · intros
    rename_i ha ihA ih
    rw [ha] at ihA
    refine RunLe.trans ?_ ih
    exact ⟨⟨[], by simp⟩, ihA.2.1, fun h => ihA.2.2 (Bool.or_eq_false_iff.1 h).1⟩
  -- `.acts`, match, `(some true, run1)`: control `pass`
  · intros
    rename_i ha ihA ih
    rw [ha] at ihA
    exact ihA.trans ih
  -- `.acts`, match, `(some true, run1)`: control `break`
  · intros
    rename_i ha ihA
    rw [ha] at ihA
    exact ihA.trans (RunLe.crossed _ _)
  -- `.acts`, match, `(some true, run1)`: no control
  · intros
    rename_i ha ihA
    rw [ha] at ihA
    exact ihA
  -- `.blk`: the condition is an error
  · intros
    exact RunLe.refl _
  -- `.blk`: the condition does not match
  · intros
    assumption
  -- `.blk`, match: the nested block is an error
  · intros
    rename_i hb ihB
    rw [hb] at ihB
    exact ihB
  -- `.blk`, match: the nested block matched
  · intros
    rename_i hb ihB
    rw [hb] at ihB
    exact ihB
  -- `.blk`, match: any other outcome of the nested block, the rest of the list follows
  · intros
    rename_i hb ihB ih
    rw [hb] at ihB
    exact ihB.trans ih
  -- `evalActsA` on `[]`
  · intros
    exact RunLe.refl _
  -- `.plain x`: `aerr x`
  · intros
    exact RunLe.refl _
  -- `.plain x`: collected, the rest follows
  · intros
    rename_i ih
    refine RunLe.trans ?_ ih
    exact ⟨⟨[_], rfl⟩, id, id⟩
  -- `.att`: the message has no table of parts
  · intros
    exact RunLe.refl _
  -- `.att`: `forParts` gives `some true`, the rest follows
  · intros
    rename_i hf ihR ih
    refine RunLe.trans ?_ ih
    exact (RunLe.crossed _ _).trans (att_forParts_mono ihR hf)
  -- `.att`: any other outcome of `forParts` is the outcome
  · intros
    rename_i ihR
    exact (RunLe.crossed _ _).trans (att_forParts_mono ihR rfl)

theorem att_rules_mono {α : Type} (cx : PartCtx α) (aerr : Expr → Bool) (rs : List RuleA) (nested outerPass : Bool)
    (start k : Nat) (m : α) (passSeen : Bool) (run : RunA) :
    RunLe run (evalRulesA cx aerr nested outerPass start k m rs passSeen run).2 :=
  (att_run_mono cx aerr).1 _ _ _ _ _ _ _ _

theorem att_acts_mono {α : Type} (cx : PartCtx α) (aerr : Expr → Bool) (as : List ActA) (hasPass : Bool)
    (k : Nat) (m : α) (run : RunA) : RunLe run (evalActsA cx aerr hasPass k m as run).2 :=
  (att_run_mono cx aerr).2 _ _ _ _ _

theorem att_evalActsA_nil {α : Type} (cx : PartCtx α) (aerr : Expr → Bool) (hasPass : Bool) (k : Nat) (m : α) (run : RunA) :
    evalActsA cx aerr hasPass k m [] run = (some true, run) := by
  rw [evalActsA]

theorem att_evalActsA_append {α : Type} (cx : PartCtx α) (aerr : Expr → Bool) (hasPass : Bool) (k : Nat) (m : α)
    (bs : List ActA) : ∀ (as : List ActA) (run : RunA),
    evalActsA cx aerr hasPass k m (as ++ bs) run =
      match evalActsA cx aerr hasPass k m as run with
      | (some true, run1) => evalActsA cx aerr hasPass k m bs run1
      | other => other := by
  intro as
  induction as with
  | nil => intro run; rw [List.nil_append, att_evalActsA_nil]
  | cons a as ih =>
    intro run
    rw [List.cons_append]
    cases a with
    | plain x =>
      rw [evalActsA, evalActsA]
      split
      · rfl
      · exact ih _
    | att l rs =>
      rw [evalActsA, evalActsA]
      split
      · rfl
      · split
        · exact ih _
        · rename_i h
          split
          · rename_i h'
            exact (h _ h').elim
          · rfl

theorem att_evalActsA_plain {α : Type} (cx : PartCtx α) (aerr : Expr → Bool) (hasPass : Bool) (k : Nat) (m : α) :
    ∀ (as : List Expr) (runA : RunA),
    (as.any aerr = true → ∃ r, evalActsA cx aerr hasPass k m (as.map ActA.plain) runA = (Option.none, r) ∧
      r.crosses = runA.crosses ∧ r.leaks = runA.leaks) ∧
    (as.any aerr = false → evalActsA cx aerr hasPass k m (as.map ActA.plain) runA =
      (some true, { runA with pend := runA.pend ++ as.map fun a => (k, a) })) := by
  intro as
  induction as with
  | nil =>
    intro runA
    refine ⟨fun h => by simp at h, fun _ => ?_⟩
    rw [List.map_nil, evalActsA]
    simp
  | cons a as ih =>
    intro runA
    rw [List.map_cons, evalActsA]
    by_cases ha : aerr a = true
    · simp only [ha, if_true]
      exact ⟨fun _ => ⟨runA, rfl, rfl, rfl⟩, fun h => by simp [ha] at h⟩
    · simp only [ha, Bool.false_eq_true, if_false]
      obtain ⟨i1, i2⟩ := ih { runA with pend := runA.pend ++ [(k, a)] }
      have hany : (a :: as).any aerr = as.any aerr := by simp [ha]
      rw [hany]
      refine ⟨fun h => ?_, fun h => ?_⟩
      · obtain ⟨r, h1, h2, h3⟩ := i1 h
        exact ⟨r, h1, h2, h3⟩
      · rw [i2 h]
        simp [List.append_assoc]

end Mdsort.Proofs
