import Mdsort.Model.Plan
import Mdsort.Proofs.WorldCall

/-! Generic facts about `Prog`, `runPlan` and the trace, for the world-level properties. -/

namespace Mdsort.Proofs.World
open Mdsort Mdsort.Model

@[simp] theorem bind_eq {α β} (p : Prog α) (f : α → Prog β) : (p >>= f) = p.bind f := rfl
@[simp] theorem pure_eq {α} (a : α) : (pure a : Prog α) = .ret a := rfl
@[simp] theorem ret_bind {α β} (a : α) (f : α → Prog β) : (Prog.ret a).bind f = f a := rfl
/-- `bind` under any call; `call_bind` below is the case of the one-call program `call c` that the `do` blocks produce. -/
@[simp] theorem call_bind' {α β} (c : Call) (k : Res → Prog α) (f : α → Prog β) :
    (Prog.call c k).bind f = .call c (fun r => (k r).bind f) := rfl
@[simp] theorem call_bind {β} (c : Call) (f : Res → Prog β) : (call c).bind f = .call c f := rfl

theorem bind_assoc {α β γ} (p : Prog α) (f : α → Prog β) (g : β → Prog γ) :
    (p.bind f).bind g = p.bind (fun a => (f a).bind g) := by
  induction p with
  | ret a => rfl
  | call c k ih => simp [Prog.bind, ih]

/-- The result of a call given the fault (if any) the plan injects at it: `planResult` with the plan's entry as an argument, so
that lemmas quantify over one fault and not over a plan and an index. -/
def faultResult (f : Option Fault) (w : World) (c : Call) : Res :=
  match f with
  | none => predict w c
  | some (.fail e) => .err e
  | some (.short n) =>
    match c, predict w c with
    | .read _, .ok m => if 0 < n && n < m then .ok n else .ok m
    | .write _ _, .ok m => if 0 < n && n < m then .ok n else .ok m
    | _, r => r

@[simp] theorem faultResult_none (w : World) (c : Call) : faultResult none w c = predict w c := rfl
@[simp] theorem faultResult_fail (e : String) (w : World) (c : Call) : faultResult (some (.fail e)) w c = .err e := rfl

theorem planResult_eq (plan : Plan) (i : Nat) (w : World) (c : Call) :
    planResult plan i w c = faultResult (plan i) w c := by
  unfold planResult faultResult; rfl

/-- Calls that transfer bytes: the only ones a `short` fault changes. -/
def Call.transfers : Call → Bool
  | .read _ | .write _ _ => true
  | _ => false

theorem faultResult_trichotomy (f : Option Fault) (w : World) (c : Call) :
    faultResult f w c = predict w c ∨ (∃ e, faultResult f w c = .err e) ∨
      ∃ n m, Call.transfers c = true ∧ predict w c = .ok m ∧ 0 < n ∧ n < m ∧ faultResult f w c = .ok n := by
  unfold faultResult
  split
  · exact .inl rfl
  · exact .inr (.inl ⟨_, rfl⟩)
  · next n =>
    have short : ∀ m, ((if (decide (0 < n) && decide (n < m)) = true then Res.ok n else .ok m) = .ok m) ∨
        0 < n ∧ n < m ∧ (if (decide (0 < n) && decide (n < m)) = true then Res.ok n else .ok m) = .ok n := by
      intro m
      by_cases h : 0 < n ∧ n < m
      · exact .inr ⟨h.1, h.2, by simp only [h.1, h.2, decide_true, Bool.and_self, if_true]⟩
      · refine .inl (if_neg ?_)
        simpa only [Bool.and_eq_true, decide_eq_true_eq] using h
    split
    · next m hm =>
      rcases short m with h | ⟨h0, hlt, h⟩
      · exact .inl (h.trans hm.symm)
      · exact .inr (.inr ⟨n, m, rfl, hm, h0, hlt, h⟩)
    · next m hm =>
      rcases short m with h | ⟨h0, hlt, h⟩
      · exact .inl (h.trans hm.symm)
      · exact .inr (.inr ⟨n, m, rfl, hm, h0, hlt, h⟩)
    · exact .inl rfl

theorem faultResult_plain (f : Option Fault) (w : World) {c : Call} (hc : Call.transfers c = false) :
    faultResult f w c = predict w c ∨ ∃ e, faultResult f w c = .err e := by
  rcases faultResult_trichotomy f w c with h | h | ⟨_, _, ht, _⟩
  · exact .inl h
  · exact .inr h
  · rw [hc] at ht
    cases ht

/-- `runPlan` without the accumulator, returning the next call index. -/
def run {α} (plan : Plan) : Prog α → World → Nat → α × World × Nat × List World
  | .ret a, w, i => (a, w, i, [])
  | .call c k, w, i =>
    let r := faultResult (plan i) w c
    let w' := stepWorld w c r
    let x := run plan (k r) w' (i + 1)
    (x.1, x.2.1, x.2.2.1, w' :: x.2.2.2)

theorem runPlan_eq {α} (plan : Plan) (p : Prog α) (w : World) (i : Nat) (hist : List World) :
    runPlan plan p w i hist = ((run plan p w i).1, (run plan p w i).2.1, hist ++ (run plan p w i).2.2.2) := by
  induction p generalizing w i hist with
  | ret a => simp [runPlan, run]
  | call c k ih => simp [runPlan, run, ih, planResult_eq]

theorem run_bind {α β} (plan : Plan) (p : Prog α) (f : α → Prog β) (w : World) (i : Nat) :
    run plan (p.bind f) w i =
      ((run plan (f (run plan p w i).1) (run plan p w i).2.1 (run plan p w i).2.2.1).1,
       (run plan (f (run plan p w i).1) (run plan p w i).2.1 (run plan p w i).2.2.1).2.1,
       (run plan (f (run plan p w i).1) (run plan p w i).2.1 (run plan p w i).2.2.1).2.2.1,
       (run plan p w i).2.2.2 ++ (run plan (f (run plan p w i).1) (run plan p w i).2.1 (run plan p w i).2.2.1).2.2.2) := by
  induction p generalizing w i with
  | ret a => simp [run, Prog.bind]
  | call c k ih => simp [run, Prog.bind, ih]

/-- Whatever the calls return, the value of the program satisfies `P`. -/
def All {α} (P : α → Prop) : Prog α → Prop
  | .ret a => P a
  | .call _ k => ∀ r, All P (k r)

theorem All.run {α} {P : α → Prop} (plan : Plan) {p : Prog α} (h : All P p) (w : World) (i : Nat) :
    P (run plan p w i).1 := by
  induction p generalizing w i with
  | ret a => exact h
  | call c k ih => exact ih _ (h _) _ _

theorem All.runOracle {α} {P : α → Prop} (orc : Nat → Call → Res) {p : Prog α} (h : All P p) (i : Nat) (tr : List (Call × Res)) :
    P (Model.runOracle orc p i tr).1 := by
  induction p generalizing i tr with
  | ret a => exact h
  | call c k ih => exact ih _ (h _) _ _

theorem All.ret_intro {α} {P : α → Prop} {a : α} (h : P a) : All P (Prog.ret a) := h
theorem All.call_intro {α} {P : α → Prop} {c : Call} {k : Res → Prog α} (h : ∀ r, All P (k r)) : All P (Prog.call c k) := h

theorem All.mono {α} {R P : α → Prop} {p : Prog α} (hp : All R p) (h : ∀ a, R a → P a) : All P p := by
  induction p with
  | ret a => exact h a hp
  | call c k ih => intro r; exact ih r (hp r)

theorem All.bind_mono {α β} {R : α → Prop} {P : β → Prop} {p : Prog α} {f : α → Prog β}
    (hp : All R p) (hf : ∀ a, R a → All P (f a)) : All P (p.bind f) := by
  induction p with
  | ret a => exact hf a hp
  | call c k ih => intro r; exact ih r (hp r)

theorem All.bind {α β} {P : β → Prop} {p : Prog α} {f : α → Prog β} (h : All (fun a => All P (f a)) p) :
    All P (p.bind f) :=
  h.bind_mono fun _ ha => ha

/-- (`Own.All.trivial` of WorldOwnBasic is this lemma under the unprimed name.) -/
theorem All.trivial' {α} (p : Prog α) : All (fun _ => True) p := by
  induction p with
  | ret a => exact True.intro
  | call c k ih => exact fun r => ih r

theorem All.bind_of_forall {α β} {P : β → Prop} (p : Prog α) {f : α → Prog β} (h : ∀ a, All P (f a)) :
    All P (p.bind f) := by
  induction p with
  | ret a => exact h a
  | call c k ih => intro r; exact ih r

/-- Whatever the calls return, every call the program issues satisfies `Q`. -/
def Calls {α} (Q : Call → Prop) : Prog α → Prop
  | .ret _ => True
  | .call c k => Q c ∧ ∀ r, Calls Q (k r)

theorem Calls.bind {α β} {Q : Call → Prop} {p : Prog α} {f : α → Prog β} (hp : Calls Q p) (hf : ∀ a, Calls Q (f a)) :
    Calls Q (p.bind f) := by
  induction p with
  | ret a => exact hf a
  | call c k ih => exact ⟨hp.1, fun r => ih r (hp.2 r)⟩

theorem Calls.mono {α} {P Q : Call → Prop} {p : Prog α} (h : Calls P p) (hpq : ∀ c, P c → Q c) : Calls Q p := by
  induction p with
  | ret a => exact True.intro
  | call c k ih => exact ⟨hpq c h.1, fun r => ih r (h.2 r)⟩

theorem Calls.of_forall {α} {Q : Call → Prop} (h : ∀ c, Q c) (p : Prog α) : Calls Q p := by
  induction p with
  | ret a => exact trivial
  | call c k ih => exact ⟨h c, ih⟩

@[simp] theorem trace_setObj (w : World) (h : Handle) (o : Obj) : (w.setObj h o).trace = w.trace := rfl
@[simp] theorem trace_setFile (w : World) (fid : Nat) (f : File) : (w.setFile fid f).trace = w.trace := rfl
@[simp] theorem trace_setDir (w : World) (p : Bytes) (es : List (Bytes × Nat)) : (w.setDir p es).trace = w.trace := rfl
@[simp] theorem trace_newHandle (w : World) (o : Obj) : (w.newHandle o).1.trace = w.trace := rfl
@[simp] theorem trace_bind (w : World) (p n : Bytes) (fid : Nat) : (w.bind p n fid).trace = w.trace := by
  unfold World.bind; split <;> rfl
@[simp] theorem trace_unbind (w : World) (p n : Bytes) : (w.unbind p n).trace = w.trace := by
  unfold World.unbind; split <;> rfl

theorem core_trace (w : World) (c : Call) (r : Res) : (core w c r).trace = w.trace := by
  core_cases w c r <;> simp only [trace_setObj, trace_setFile, trace_newHandle, trace_bind, trace_unbind, World.setMtime]

theorem stepWorld_eq (w : World) (c : Call) (r : Res) :
    stepWorld w c r = { core w c r with trace := (core w c r).trace ++ [(c, r)] } := rfl

theorem stepWorld_trace (w : World) (c : Call) (r : Res) : (stepWorld w c r).trace = w.trace ++ [(c, r)] := by
  rw [stepWorld_eq, core_trace]

theorem Calls.trace {α} {Q : Call → Prop} (plan : Plan) {p : Prog α} (h : Calls Q p) (w : World) (i : Nat) :
    ∃ L : List (Call × Res), (run plan p w i).2.1.trace = w.trace ++ L ∧ ∀ x ∈ L, Q x.1 := by
  induction p generalizing w i with
  | ret a => exact ⟨[], by simp [run], by simp⟩
  | call c k ih =>
    obtain ⟨L, hL, hQ⟩ := ih (faultResult (plan i) w c) (h.2 _) (stepWorld w c (faultResult (plan i) w c)) (i + 1)
    refine ⟨(c, faultResult (plan i) w c) :: L, ?_, ?_⟩
    · simp [run, hL, stepWorld_trace]
    · intro x hx
      rcases List.mem_cons.1 hx with rfl | hx
      · exact h.1
      · exact hQ x hx

end Mdsort.Proofs.World
