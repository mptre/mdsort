import Mdsort.Spec.RulesAtt

/-!
# What `attachment c` means in `Spec.condValA` (C03 with attachments)

`Spec.anyPart` in terms of the per-part values: the first part that is not *no match* decides.  It serves
`C03_attachment_cond_meaning`.
-/

namespace Mdsort.Proofs
open Mdsort Mdsort.Model Mdsort.Spec

/-- The two cases of `anyPart`, in ONE induction over the parts: *no match* on every part, or the value on the first part on
which `f` is not *no match*.  The two characterisations below read it off (the first such part is unique). -/
theorem att_anyPart_spec {α : Type} (f : Nat → α → Tri) (ps : List α) (i0 : Nat) :
    (anyPart f i0 ps = .nomatch ∧ ∀ j q, ps[j]? = some q → f (i0 + j) q = .nomatch) ∨
    (anyPart f i0 ps ≠ .nomatch ∧ ∃ j q, ps[j]? = some q ∧ f (i0 + j) q = anyPart f i0 ps ∧
      ∀ j' < j, ∀ q', ps[j']? = some q' → f (i0 + j') q' = .nomatch) := by
  fun_induction anyPart f i0 ps with
  | case1 => exact .inl ⟨rfl, fun j q h => by simp at h⟩
  | case2 i0 p ps hf ih =>
    -- the parts behind `p` are numbered from `i0 + 1`
    have shift : ∀ j, i0 + 1 + j = i0 + (j + 1) := fun j => by omega
    have h0 : ∀ j q, (p :: ps)[j]? = some q → (∀ j' q', ps[j']? = some q' → j = j' + 1 → f (i0 + j) q = .nomatch) →
        f (i0 + j) q = .nomatch := by
      intro j q hj hs
      cases j with
      | zero => rw [List.getElem?_cons_zero, Option.some.injEq] at hj; rw [← hj]; exact hf
      | succ j => exact hs j q (by simpa using hj) rfl
    rcases ih with ⟨h1, h2⟩ | ⟨h1, j, q, hj, hq, hall⟩
    · refine .inl ⟨h1, fun j q hj => h0 j q hj fun j' q' hq' e => ?_⟩
      rw [e, ← shift]
      exact h2 j' q (by rw [e] at hj; simpa using hj)
    · refine .inr ⟨h1, j + 1, q, by simpa using hj, by rw [← shift]; exact hq, fun j' hj' q' hq' => ?_⟩
      refine h0 j' q' hq' fun j'' q'' hq'' e => ?_
      rw [e, ← shift]
      exact hall j'' (by omega) q' (by rw [e] at hq'; simpa using hq')
  | case3 i0 p ps hne => exact .inr ⟨hne, 0, p, by simp, rfl, fun j' hj' => by omega⟩

theorem att_anyPart_nomatch {α : Type} (f : Nat → α → Tri) (ps : List α) (i0 : Nat) :
    anyPart f i0 ps = .nomatch ↔ ∀ j q, ps[j]? = some q → f (i0 + j) q = .nomatch := by
  rcases att_anyPart_spec f ps i0 with ⟨h1, h2⟩ | ⟨h1, j, q, hj, hq, _⟩
  · exact ⟨fun _ => h2, fun _ => h1⟩
  · exact ⟨fun h => absurd h h1, fun h => absurd (hq.symm.trans (h j q hj)) h1⟩

theorem att_anyPart_decided {α : Type} (f : Nat → α → Tri) (t : Tri) (ht : t ≠ .nomatch) (ps : List α) (i0 : Nat) :
    anyPart f i0 ps = t ↔
      ∃ j q, ps[j]? = some q ∧ f (i0 + j) q = t ∧ ∀ j' < j, ∀ q', ps[j']? = some q' → f (i0 + j') q' = .nomatch := by
  constructor
  · intro h
    rcases att_anyPart_spec f ps i0 with ⟨h1, _⟩ | ⟨_, hd⟩
    · exact absurd (h.symm.trans h1) ht
    · rwa [h] at hd
  · rintro ⟨j, q, hj, hq, hall⟩
    rcases att_anyPart_spec f ps i0 with ⟨_, h2⟩ | ⟨h1, j2, q2, hj2, hq2, hall2⟩
    · exact absurd (hq.symm.trans (h2 j q hj)) ht
    · -- both are the first part that decides
      rcases Nat.lt_trichotomy j j2 with hlt | rfl | hgt
      · exact absurd (hq.symm.trans (hall2 j hlt q hj)) ht
      · rw [hj] at hj2
        cases hj2
        exact hq2.symm.trans hq
      · exact absurd (hq2.symm.trans (hall j2 hgt q2 hj2)) h1

theorem att_attachment_cond_meaning {α : Type} (cx : PartCtx α) (l : Nat) (c : Expr) (k : Nat) (m : α) :
    (cx.parts m = none → condValA cx (.attachment l c) k m = .error) ∧
    (∀ ps, cx.parts m = some ps →
      (∀ t, t ≠ .nomatch → (condValA cx (.attachment l c) k m = t ↔
        ∃ i q, ps[i]? = some q ∧ condValA cx c (partIndex k i) q = t ∧
          ∀ j < i, ∀ q', ps[j]? = some q' → condValA cx c (partIndex k j) q' = .nomatch)) ∧
      (condValA cx (.attachment l c) k m = .nomatch ↔
        ∀ i q, ps[i]? = some q → condValA cx c (partIndex k i) q = .nomatch)) := by
  refine ⟨fun h => by simp only [condValA, h], fun ps h => ⟨fun t ht => ?_, ?_⟩⟩
  · simp only [condValA, h]
    have := att_anyPart_decided (fun i q => condValA cx c (partIndex k i) q) t ht ps 0
    simpa using this
  · simp only [condValA, h]
    have := att_anyPart_nomatch (fun i q => condValA cx c (partIndex k i) q) ps 0
    simpa using this

end Mdsort.Proofs
