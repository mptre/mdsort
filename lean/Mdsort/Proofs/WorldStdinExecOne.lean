import Mdsort.Proofs.WorldStdinExec

namespace Mdsort.Proofs.World
open Mdsort Mdsort.Model

/-- What one action guarantees: `AllPost` whatever happens; on success the invariant for the next action, with the source
changed by a move (and never changed back). -/
def ActPost (S : Spool) (NSD : Prop) (cs : List Bytes) (mh : Match) (st : ExecSt) (w : World) (r : ExecSt × Bool)
    (w' : World) : Prop :=
  AllPost S w r w' ∧
  (r.2 = false → ActPre S False NSD cs w' r.1 ∧ (moveTy mh.ty → r.1.chsrc = true) ∧ (st.chsrc = true → r.1.chsrc = true))

theorem ActPost.same {S : Spool} {NSD : Prop} {cs : List Bytes} {mh : Match} {st : ExecSt} {w : World}
    (pre : ActPre S False NSD cs w st) (hm : ¬ moveTy mh.ty) (b : Bool) :
    ActPost S NSD cs mh st w ({ src := st.src, chsrc := st.chsrc, ms := st.ms, reject := b }, false) w := by
  have pre' : ActPre S False NSD cs w { src := st.src, chsrc := st.chsrc, ms := st.ms, reject := b } :=
    ⟨pre.src, pre.stdinSrc, pre.shape, pre.dOpen, pre.root, pre.names, pre.nm95, pre.trk, pre.msg, pre.nsd⟩
  exact ⟨AllPost.ofInv pre' (InvX.refl pre.root) pre.names false, fun _ => ⟨pre', fun h => absurd h hm, fun h => h⟩⟩

theorem spec_execOne_sp (S : Spool) (hS : SpoolShape S) (NSD : Prop) (cs : List Bytes) (env : PEnv) (mh : Match)
    (st : ExecSt) {w : World} (pre : ActPre S False NSD cs w st)
    (hN : NSD → moveTy mh.ty → destPath mh.path ≠ some S.sp) :
    wp NoInv (execOne env mh st) (ActPost S NSD cs mh st w) w := by
  obtain ⟨sh, hsh, hps, hsd, hch0, hch1, hfds⟩ := pre.src
  have hdlt : S.d < w.handles.length := lt_of_dirPath pre.dOpen
  have hshlt : sh < w.handles.length := lt_of_dirPath hps
  have hsr1 := shape_ne_sr hS pre.shape
  have fdsKeep : ∀ {w' : World}, w.handles.length ≤ w'.handles.length →
      ∀ f, st.ms.fd = some f → S.d < f ∧ f ≠ sh ∧ f < w'.handles.length :=
    fun hl f hf => ⟨(hfds f hf).1, (hfds f hf).2.1, Nat.lt_of_lt_of_le (hfds f hf).2.2 hl⟩
  have moveBr : moveTy mh.ty → wp NoInv (moveBranch env mh st) (ActPost S NSD cs mh st w) w := fun hty =>
    wp_mono (spec_moveBranch_sp S hS NSD cs env mh st pre (fun h => hN h hty))
      fun _ _ ⟨a, b⟩ => ⟨a, fun he => ⟨(b he).1, fun _ => (b he).2, fun _ => (b he).2⟩⟩
  have writeBr : ¬ moveTy mh.ty → wp NoInv
      ((maildirWrite env st.src st.ms).bind fun x =>
        Prog.ret (({ src := st.src, chsrc := st.chsrc, ms := x.fst, reject := st.reject } : ExecSt), x.snd))
      (ActPost S NSD cs mh st w) w := by
    intro hnm
    refine wp_bind_mono (spec_maildirWrite_sp S env st.src st.ms hsh hps hsd hsr1 pre.root pre.names pre.nm95) ?_
    rintro ⟨ms', e⟩ w' ⟨invx, hmsg, two, hfd, hok⟩
    dsimp only at hmsg hfd hok ⊢
    have hX : ∀ x, st.ms.fd = some x → S.d < x := fun x hx => (hfds x hx).1
    have fdsNew : ∀ f, ms'.fd = some f → S.d < f ∧ f ≠ sh ∧ f < w'.handles.length := by
      intro f hf
      rcases hfd f hf with h | ⟨h1, h2⟩
      · obtain ⟨a, b, c⟩ := hfds f h
        exact ⟨a, b, Nat.lt_of_lt_of_le c invx.len⟩
      · exact ⟨Nat.lt_of_lt_of_le hdlt h1, Nat.ne_of_gt (Nat.lt_of_lt_of_le hshlt h1), h2⟩
    refine ⟨⟨invx.mono hX, two, fun f hf => (fdsNew f hf).1, fun hc => ⟨sh, hsh, hch1 hc⟩⟩, ?_⟩
    intro he
    subst he
    obtain ⟨h95, hnok⟩ := hok rfl
    exact ⟨pre.next hsh invx (fun h hh => ⟨(hfds h hh).2.1, Nat.ne_of_gt (hfds h hh).1⟩) fdsNew hmsg h95 hnok,
      fun h => absurd h hnm, fun h => h⟩
  rcases execOne_ty_cases mh.ty with hty | hty | hty | hty | hty | hty
  · rw [execOne_move env mh st hty]
    exact moveBr hty
  · have hnm : ¬ moveTy mh.ty := by rw [hty]; decide
    rw [execOne_discard env mh st hty, maildirUnlink_some hsh]
    simp only [call_bind', ret_bind]
    intro ft
    refine ⟨trivial, ?_⟩
    rcases unlinkat_results ft w sh st.ms.name with ⟨e, he⟩ | ⟨he, p, fid, hp, hl⟩
    · rw [he]
      have hsf := sameFs_err w (.unlinkat sh st.ms.name) e rfl
      simp only [isOk, Bool.not_false, if_true]
      exact ⟨AllPost.ofInv pre (InvX.ofSameFs hsf pre.root) (pre.names.congr (hsf.dir _)) true, nofun⟩
    · rw [he]
      have hpp : p = st.src.path := by rw [hps] at hp; cases hp; rfl
      subst hpp
      simp only [isOk, Bool.not_true, Bool.false_eq_true, if_false]
      have inv1 := (InvX.refl pre.root : Inv S w w).step (.unlinkat sh st.ms.name) (.ok 0) rfl nofun
        (by rw [stepWorld_dir, core_unlinkat_ok hps hl, dir_unbind, if_neg (Ne.symm hsr1)])
      have hn1 : NamesIn (stepWorld w (.unlinkat sh st.ms.name) (.ok 0)) S.sp (if st.src.path = S.sp then [st.ms.name] else []) :=
        pre.names.unlinkat sh st.ms.name (.ok 0)
      exact ⟨AllPost.ofInv pre inv1 hn1 false,
        fun _ => ⟨pre.next hsh inv1 (fun _ h => h.elim) (fdsKeep inv1.len) rfl pre.nm95 hn1, fun h => absurd h hnm, fun h => h⟩⟩
  · rw [execOne_write env mh st hty]
    -- label, add-header: no move type
    refine writeBr ?_
    rcases hty with h | h
    · rw [h]; decide
    · rw [h]; decide
  · rw [execOne_reject env mh st hty]
    exact ActPost.same pre (by rw [hty]; decide) true
  · have hnm : ¬ moveTy mh.ty := by rw [hty]; decide
    refine wp_mono (whole_wp_noInv (whole_execOne_exec env mh st hty)) ?_
    rintro ⟨st', b⟩ w' ⟨fr, hq⟩
    cases hq
    have inv := (InvX.refl pre.root : Inv S w w).of_fr1 fr
    exact ⟨AllPost.ofInv pre inv (pre.names.congr (dir_of_dirs fr.dirs _)) b,
      fun _ => ⟨pre.next hsh inv (fun _ h => h.elim) (fdsKeep inv.len) rfl pre.nm95 (pre.names.congr (dir_of_dirs fr.dirs _)),
        fun h => absurd h hnm, fun h => h⟩⟩
  · rw [execOne_other env mh st hty]
    -- a move type is in the list `hty` excludes
    refine ActPost.same pre (fun h => hty ?_) st.reject
    rcases h with h | h | h
    · rw [h]; decide
    · rw [h]; decide
    · rw [h]; decide

theorem AllPost.trans {S : Spool} {w w1 w2 : World} {r1 r2 : ExecSt × Bool} (a : AllPost S w r1 w1)
    (b : AllPost S w1 r2 w2) : AllPost S w r2 w2 :=
  ⟨a.1.trans b.1, b.2.1, b.2.2.1, b.2.2.2⟩

theorem ActPre.empty {S : Spool} {NSD : Prop} {cs : List Bytes} {w w' : World} {st : ExecSt} (pre : ActPre S False NSD cs w st)
    (hd : w'.dirs = w.dirs) (hN : NSD) (hch : st.chsrc = true) : NamesIn w' S.sp [] := by
  have := pre.names.congr (dir_of_dirs hd S.sp)
  rwa [if_neg (pre.nsd hN hch)] at this

/-- The action list: `AllPost` whatever happens; when the whole list has succeeded, a message that was moved, and never into the
spool, has left the spool empty. -/
theorem spec_matchesExec_sp (S : Spool) (hS : SpoolShape S) (NSD : Prop) (cs : List Bytes) (env : PEnv) (ml : MatchList)
    (st : ExecSt) {w : World} (pre : ActPre S False NSD cs w st)
    (hN : NSD → ∀ m ∈ ml, moveTy m.ty → destPath m.path ≠ some S.sp) :
    wp NoInv (matchesExec env ml st)
      (fun r w' => AllPost S w r w' ∧
        (r.2 = false → (NSD → r.1.chsrc = true → NamesIn w' S.sp []) ∧
          ((st.chsrc = true ∨ ∃ m ∈ ml, moveTy m.ty) → r.1.chsrc = true))) w := by
  induction ml generalizing st w with
  | nil =>
    obtain ⟨sh, hsh, hps, hsd, hch0, hch1, hfds⟩ := pre.src
    rw [matchesExec_nil]
    split
    · rename_i hch
      refine wp_closeRet hsh _ fun rc => ?_
      exact ⟨(AllPost.ofInv pre (InvX.refl pre.root) pre.names false).closedir sh rc (hch1 hch),
        fun _ => ⟨pre.empty (core_dirs _ (.closedir sh) rc rfl), fun _ => hch⟩⟩
    · rename_i hch
      refine ⟨AllPost.ofInv pre (InvX.refl pre.root) pre.names false, fun _ => ⟨pre.empty rfl, ?_⟩⟩
      rintro (h | ⟨m, hm, _⟩)
      · exact absurd h hch
      · cases hm
  | cons mh rest ih =>
    rw [matchesExec_cons]
    unfold Own.errTail
    refine wp_bind_mono (spec_execOne_sp S hS NSD cs env mh st pre (fun h => hN h mh (List.mem_cons_self ..))) ?_
    rintro ⟨st', e⟩ w1 ⟨all1, hok1⟩
    dsimp only at hok1 ⊢
    cases e with
    | true =>
      simp only [if_true]
      split
      · rename_i hch
        obtain ⟨h, hh, hd⟩ := all1.2.2.2 hch
        exact wp_closeRet hh _ fun rc => ⟨all1.closedir h rc hd, nofun⟩
      · exact ⟨all1, nofun⟩
    | false =>
      obtain ⟨pre1, hmv, hkeep⟩ := hok1 rfl
      simp only [Bool.false_eq_true, if_false]
      refine wp_mono (ih st' pre1 (fun h m hm => hN h m (List.mem_cons_of_mem _ hm))) ?_
      rintro r w2 ⟨all2, hok2⟩
      refine ⟨all1.trans all2, fun he => ⟨(hok2 he).1, ?_⟩⟩
      rintro (h | ⟨m, hm, hty⟩)
      · exact (hok2 he).2 (.inl (hkeep h))
      · rcases List.mem_cons.1 hm with rfl | hm'
        · exact (hok2 he).2 (.inl (hmv hty))
        · exact (hok2 he).2 (.inr ⟨m, hm', hty⟩)

end Mdsort.Proofs.World
