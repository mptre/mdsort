import Mdsort.Model.Conf
import Mdsort.Spec.Macro
import Mdsort.Proofs.Basics

/-!
# Parse-time macro expansion (`expandMacros`, the macro table) is the documented single pass

`mt_tokens_cons`: the tokens of a string by its head, without the budget of `Spec.mtokensAux`.
`mt_expand_eq`: for every string, context and macro table the loop of `expandmacros` computes the
token-wise substitution of `Spec.mexpand` (and only counts references in the table); Props/C12.lean states readings of it.
(`mt_`: see Proofs/MainTextLex.lean.)
-/

namespace Mdsort.Proofs.MainText
open Mdsort Mdsort.Model Mdsort.Spec

private theorem mt_split_at (r : Bytes) (h : r.contains 125 = true) :
    r = r.takeWhile (fun c => c != 125) ++ 125 :: (r.dropWhile (fun c => c != 125)).drop 1 := by
  have hm : (125 : UInt8) ∈ r.takeWhile (fun c => c != 125) ++ r.dropWhile (fun c => c != 125) := by
    rw [List.takeWhile_append_dropWhile]
    exact List.contains_iff_mem.mp h
  rcases List.mem_append.mp hm with hm | hm
  · exact absurd (List.of_mem_takeWhile hm) (by decide)
  · cases hd : r.dropWhile (fun c => c != 125) with
    | nil => rw [hd] at hm; cases hm
    | cons x rest =>
      conv => lhs; rw [← List.takeWhile_append_dropWhile (p := fun c => c != 125) (l := r), hd]
      rw [List.eq_of_dropWhile_ne_eq_cons hd, List.drop_succ_cons, List.drop_zero]

private theorem mt_takeWhile_lt (r : Bytes) :
    (r.takeWhile (fun c => c != 125)).length < r.length ↔ r.contains 125 = true := by
  constructor
  · intro hlt
    have hl := List.length_takeWhile_add_length_dropWhile (fun c : UInt8 => c != 125) r
    cases hd : r.dropWhile (fun c => c != 125) with
    | nil => rw [hd, List.length_nil] at hl; omega
    | cons x rest =>
      refine List.contains_iff_mem.mpr ((List.dropWhile_sublist (fun c : UInt8 => c != 125)).subset ?_)
      rw [hd, List.eq_of_dropWhile_ne_eq_cons hd]
      exact List.mem_cons_self
  · intro h
    have := congrArg List.length (mt_split_at r h)
    rw [List.length_append, List.length_cons] at this
    omega

/-- `ismacro` in terms of `refAt`: the same references are recognised, `n` is the length of `${name}`. -/
theorem mt_ismacro_refAt (s : Bytes) :
    (refAt s = none → ismacro s = none) ∧
    (refAt s = some none → ismacro s = some none) ∧
    (∀ name rest, refAt s = some (some (name, rest)) →
      ismacro s = some (some (name, name.length + 3)) ∧ s = 36 :: 123 :: (name ++ 125 :: rest) ∧
      s.drop (name.length + 3) = rest) := by
  fun_cases refAt s  -- 1 `${name}`, 2 `${` without `}`, 3 no `${` at the head
  case case1 r hc =>
    have hsplit := mt_split_at r hc
    simp only [ismacro, (mt_takeWhile_lt r).2 hc, if_true]
    refine ⟨nofun, nofun, ?_⟩
    intro name rest h
    simp only [Option.some.injEq, Prod.mk.injEq] at h
    rw [h.1, h.2] at hsplit
    refine ⟨by rw [h.1], by rw [← hsplit], ?_⟩
    conv => lhs; rw [hsplit]
    simp [List.drop_append]
  case case2 r hc =>
    have hlt : ¬ (r.takeWhile (fun c => c != 125)).length < r.length := fun h => hc ((mt_takeWhile_lt r).1 h)
    simp only [ismacro, hlt, if_false]
    exact ⟨nofun, fun _ => trivial, nofun⟩
  case case3 hno =>
    refine ⟨fun _ => ?_, nofun, nofun⟩
    unfold ismacro
    split
    next r => exact (hno r rfl).elim
    next => rfl

theorem mt_macroValue_map (f : Macro → Macro) (hf : ∀ x, (f x).name = x.name ∧ (f x).value = x.value) (ms : List Macro)
    (n : Bytes) : macroValue (ms.map f) n = macroValue ms n := by
  induction ms with
  | nil => rfl
  | cons m t ih =>
    unfold macroValue at ih ⊢
    simp only [List.map_cons, List.find?_cons, (hf m).1]
    split
    · simp [(hf m).2]
    · exact ih

/-- Counting a reference (`macro_ref`). -/
def mt_ref (name : Bytes) (ms : List Macro) : List Macro :=
  ms.map fun x => if x.name == name then { x with refs := x.refs + 1 } else x

theorem mt_macroValue_ref (name : Bytes) (ms : List Macro) : macroValue (mt_ref name ms) = macroValue ms := by
  funext n
  apply mt_macroValue_map
  intro x
  split <;> exact ⟨rfl, rfl⟩

theorem mt_macrosUse (ms : List Macro) (name : Bytes) :
    macrosUse ms name = (macroValue ms name).map fun v => (v, mt_ref name ms) := by
  unfold macrosUse macroValue mt_ref
  cases ms.find? (fun m => m.name == name) <;> rfl

/-- The table after the references of the tokens have been counted. -/
def mt_bump (ms : List Macro) : List MTok → List Macro
  | [] => ms
  | .ref name :: r => if name = pathName then mt_bump ms r else mt_bump (mt_ref name ms) r
  | .lit _ :: r => mt_bump ms r
  | .unterminated :: r => mt_bump ms r

theorem mt_macroValue_bump (toks : List MTok) (ms : List Macro) : macroValue (mt_bump ms toks) = macroValue ms := by
  fun_induction mt_bump ms toks  -- 1 no token left, 2 `${path}`, 3 another reference, 4 a byte, 5 an unterminated `${`
  case case1 => rfl
  case case3 ms name r _ ih => rw [ih, mt_macroValue_ref]
  -- `${path}`, a byte, an unterminated `${`: the table is not touched
  all_goals assumption

private theorem mt_refAt_length {c : UInt8} {r name rest : Bytes} (h : refAt (c :: r) = some (some (name, rest))) :
    rest.length + name.length + 2 = r.length := by
  have := congrArg List.length ((mt_ismacro_refAt (c :: r)).2.2 name rest h).2.1
  simp only [List.length_cons, List.length_append] at this
  omega

theorem mt_tokens_fuel : ∀ (s : Bytes) (f : Nat), s.length ≤ f → mtokensAux f s = mtokens s
  | [], f, _ => by cases f <;> rfl
  | c :: r, f + 1, hf => by
    simp only [List.length_cons, Nat.add_le_add_iff_right] at hf
    simp only [mtokens, List.length_cons, mtokensAux]
    cases hR : refAt (c :: r) with
    | none => simp only; rw [mt_tokens_fuel r f hf, mtokens]
    | some o =>
      cases o with
      | none => rfl
      | some p =>
        have hlen := mt_refAt_length hR
        simp only
        rw [mt_tokens_fuel p.2 f (by omega), mt_tokens_fuel p.2 r.length (by omega)]
termination_by s => s.length
decreasing_by all_goals simp_wf <;> omega

theorem mt_tokens_cons (c : UInt8) (r : Bytes) :
    mtokens (c :: r) = match refAt (c :: r) with
      | none => .lit c :: mtokens r
      | some none => [.unterminated]
      | some (some (name, rest)) => .ref name :: mtokens rest := by
  rw [mtokens, List.length_cons, mtokensAux]
  cases hR : refAt (c :: r) with
  | none => rfl
  | some o =>
    cases o with
    | none => rfl
    | some p =>
      simp only
      rw [mt_tokens_fuel p.2 r.length (by have := mt_refAt_length hR; omega)]

theorem mt_refAt_not_dollar (c : UInt8) (r : Bytes) (hc : c ≠ 36) : refAt (c :: r) = none := by
  unfold refAt
  split
  · rename_i heq; simp only [List.cons.injEq] at heq; exact absurd heq.1 hc
  · rfl

/-- Text without `$` is copied byte by byte (so is the `{path}` of a deferred `${path}`, after its `$`). -/
theorem mt_expand_skip (action : Bool) (s : Bytes) (ms : List Macro) : ∀ (pre acc : Bytes) (f : Nat), (36 : UInt8) ∉ pre →
    expandMacros action (pre.length + f) (pre ++ s) ms acc = expandMacros action f s ms (acc ++ pre)
  | [], acc, f, _ => by simp
  | c :: r, acc, f, h => by
    have him : ismacro (c :: (r ++ s)) = none := (mt_ismacro_refAt _).1 (mt_refAt_not_dollar c _ fun e => h (by simp [e]))
    rw [List.length_cons, Nat.add_right_comm, List.cons_append, expandMacros, him]
    simp only
    rw [mt_expand_skip action s ms r _ f fun e => h (by simp [e]), List.append_assoc, List.singleton_append]

theorem mt_isPath_iff (name : Bytes) : isPathMacro name = true ↔ name = pathName := by
  simp [isPathMacro, pathName]

/-- The loop of `expandmacros` is the token-wise substitution, for every string, context, table,
accumulator and sufficient budget. -/
theorem mt_expand_eq (action : Bool) : ∀ (s : Bytes) (fM : Nat) (ms : List Macro) (acc : Bytes), s.length < fM →
    expandMacros action fM s ms acc =
      (msubstAll action (macroValue ms) (mtokens s)).map fun out => (acc ++ out, mt_bump ms (mtokens s))
  | [], fM + 1, ms, acc, _ => by simp [expandMacros, mtokens, mtokensAux, msubstAll, mt_bump]
  | c :: r, fM + 1, ms, acc, hM => by
    simp only [List.length_cons, Nat.add_lt_add_iff_right] at hM
    obtain ⟨h1, h2, h3⟩ := mt_ismacro_refAt (c :: r)
    rw [mt_tokens_cons]
    unfold expandMacros
    cases hR : refAt (c :: r) with
    | none =>
      simp only [h1 hR]
      rw [mt_expand_eq action r fM ms (acc ++ [c]) hM]
      simp only [msubstAll, msubst, mt_bump]
      cases msubstAll action (macroValue ms) (mtokens r) <;> simp
    | some o =>
      cases o with
      | none =>
        simp only [h2 hR]
        simp [msubstAll, msubst]
      | some p =>
        obtain ⟨name, rest⟩ := p
        obtain ⟨him, hs', hdrop⟩ := h3 name rest hR
        have hlen := mt_refAt_length hR
        simp only [him]
        by_cases hp : name = pathName
        · have hip : isPathMacro name = true := (mt_isPath_iff name).2 hp
          simp only [hip, if_true]
          cases action with
          | false =>
            simp [msubstAll, msubst, hp]
          | true =>
            simp only [if_true]
            -- `c :: r = ${path}rest`
            subst hp
            simp only [pathName, List.cons_append, List.nil_append, List.cons.injEq] at hs'
            obtain ⟨hc, hr⟩ := hs'
            subst hc
            simp only [pathName, List.length_cons, List.length_nil] at hlen
            obtain ⟨f, rfl⟩ : ∃ k, fM = 6 + k := ⟨fM - 6, by omega⟩
            rw [hr]
            refine (mt_expand_skip true rest ms [123, 112, 97, 116, 104, 125] _ f (by decide)).trans ?_
            rw [mt_expand_eq true rest f ms _ (by omega)]
            simp only [msubstAll, msubst, mt_bump, if_true, pathName]
            cases msubstAll true (macroValue ms) (mtokens rest) <;> simp [pathRef]
        · have hip : isPathMacro name = false := by
            cases h : isPathMacro name
            · rfl
            · exact absurd ((mt_isPath_iff name).1 h) hp
          simp only [hip, Bool.false_eq_true, if_false, mt_macrosUse]
          cases hv : macroValue ms name with
          | none => simp [msubstAll, msubst, hp, hv]
          | some v =>
            simp only [Option.map_some, hdrop]
            rw [mt_expand_eq action rest fM (mt_ref name ms) (acc ++ v) (by omega)]
            simp only [msubstAll, msubst, mt_bump, hp, if_false, hv, mt_macroValue_ref]
            cases msubstAll action (macroValue ms) (mtokens rest) <;> simp
termination_by s => s.length
decreasing_by all_goals simp_wf <;> omega

/-- `expandmacros(str, macros, ctx)` as called by the parser. -/
theorem mt_expandMacros_spec (action : Bool) (ms : List Macro) (s : Bytes) :
    expandMacros action (s.length + 1) s ms [] =
      (mexpand action (macroValue ms) s).map fun out => (out, mt_bump ms (mtokens s)) := by
  rw [mt_expand_eq action s _ ms [] (Nat.lt_succ_self _)]
  rfl

/-- The two readings used in the property: the expanded string, and "values never change". -/
theorem mt_expandMacros_value (action : Bool) (ms : List Macro) (s : Bytes) :
    (expandMacros action (s.length + 1) s ms []).map (·.1) = mexpand action (macroValue ms) s ∧
    (∀ out ms', expandMacros action (s.length + 1) s ms [] = some (out, ms') → macroValue ms' = macroValue ms) := by
  rw [mt_expandMacros_spec]
  constructor
  · cases mexpand action (macroValue ms) s <;> rfl
  · intro out ms' h
    cases hm : mexpand action (macroValue ms) s with
    | none => rw [hm] at h; cases h
    | some o =>
      rw [hm] at h
      simp only [Option.map_some, Option.some.injEq, Prod.mk.injEq] at h
      rw [← h.2]
      exact mt_macroValue_bump _ _

theorem mt_tokens_pre (s : Bytes) : ∀ pre : Bytes, (36 : UInt8) ∉ pre → mtokens (pre ++ s) = pre.map MTok.lit ++ mtokens s
  | [], _ => rfl
  | c :: r, h => by
    rw [List.cons_append, mt_tokens_cons, mt_refAt_not_dollar c _ fun e => h (by simp [e]),
      mt_tokens_pre s r fun e => h (by simp [e])]
    rfl

theorem mt_tokens_plain (s : Bytes) (h : (36 : UInt8) ∉ s) : mtokens s = s.map MTok.lit := by
  have := mt_tokens_pre [] s h
  rwa [List.append_nil, show mtokens [] = [] from rfl, List.append_nil] at this

theorem mt_msubstAll_lits (action : Bool) (value : Bytes → Option Bytes) (s : Bytes) :
    msubstAll action value (s.map MTok.lit) = some s := by
  induction s with
  | nil => rfl
  | cons c r ih => simp [msubstAll, msubst, ih]

/-- A string without `$` expands to itself, in every context and with every table. -/
theorem mt_mexpand_plain (action : Bool) (value : Bytes → Option Bytes) (s : Bytes) (h : (36 : UInt8) ∉ s) :
    mexpand action value s = some s := by
  rw [mexpand, mt_tokens_plain s h, mt_msubstAll_lits]

theorem mt_expandMacros_plain (action : Bool) (ms : List Macro) (s : Bytes) (h : (36 : UInt8) ∉ s) :
    expandMacros action (s.length + 1) s ms [] = some (s, ms) := by
  rw [mt_expandMacros_spec, mt_mexpand_plain action _ s h, mt_tokens_plain s h]
  simp only [Option.map_some]
  congr 2
  generalize hms : ms = ms0
  clear hms h
  induction s generalizing ms0 with
  | nil => rfl
  | cons c r ih => exact ih ms0

theorem mt_refAt_written (name post : Bytes) (hname : (125 : UInt8) ∉ name) :
    refAt (36 :: 123 :: (name ++ 125 :: post)) = some (some (name, post)) := by
  have hc : (name ++ 125 :: post).contains 125 = true := by simp
  have htw : (name ++ 125 :: post).takeWhile (fun c => c != 125) = name :=
    List.takeWhile_append_stop (fun c hc => bne_iff_ne.2 fun (e : c = 125) => hname (e ▸ hc)) (by simp)
  have hdw : ((name ++ 125 :: post).dropWhile (fun c => c != 125)).drop 1 = post := by
    have hs := mt_split_at (name ++ 125 :: post) hc
    rw [htw] at hs
    have := List.append_cancel_left hs
    simp only [List.cons.injEq, true_and] at this
    exact this.symm
  simp only [refAt, hc, if_true, htw, hdw]

theorem mt_msubstAll_append (action : Bool) (value : Bytes → Option Bytes) (a b : List MTok) :
    msubstAll action value (a ++ b) =
      match msubstAll action value a, msubstAll action value b with
      | some x, some y => some (x ++ y)
      | _, _ => none := by
  induction a with
  | nil =>
    simp only [List.nil_append, msubstAll]
    cases msubstAll action value b <;> simp
  | cons t r ih =>
    simp only [List.cons_append, msubstAll, ih]
    cases msubst action value t <;> cases msubstAll action value r <;> cases msubstAll action value b <;> simp

/-- One statement about `pre ${name} post`: the result is `pre`, then what the
reference stands for - the table's value VERBATIM (whatever bytes it holds, it is not read again), or
`${path}` itself in an action context - then the expansion of `post`; it is an error when `name` is
`path` outside an action, when the table has no value for `name`, or when `post` has an error. -/
theorem mt_mexpand_ref (action : Bool) (value : Bytes → Option Bytes) (pre name post : Bytes)
    (hpre : (36 : UInt8) ∉ pre) (hname : (125 : UInt8) ∉ name) :
    mexpand action value (pre ++ 36 :: 123 :: (name ++ 125 :: post)) =
      match (if name = pathName then (if action then some pathRef else none) else value name), mexpand action value post with
      | some v, some rest => some (pre ++ v ++ rest)
      | _, _ => none := by
  unfold mexpand
  rw [mt_tokens_pre _ pre hpre, mt_tokens_cons, mt_refAt_written name post hname, mt_msubstAll_append, mt_msubstAll_lits]
  simp only [msubstAll, msubst]
  cases (if name = pathName then (if action then some pathRef else none) else value name) <;>
    cases msubstAll action value (mtokens post) <;> simp

/-- An unterminated `${` (after text without `$`) is an error. -/
theorem mt_mexpand_unterminated (action : Bool) (value : Bytes → Option Bytes) (pre tail : Bytes)
    (hpre : (36 : UInt8) ∉ pre) (htail : (125 : UInt8) ∉ tail) :
    mexpand action value (pre ++ 36 :: 123 :: tail) = none := by
  have hc : tail.contains 125 = false := by
    cases h : tail.contains 125
    · rfl
    · exact absurd (List.contains_iff_mem.1 h) htail
  rw [mexpand, mt_tokens_pre _ pre hpre, mt_tokens_cons, mt_msubstAll_append, mt_msubstAll_lits]
  simp only [refAt, hc, Bool.false_eq_true, if_false, msubstAll, msubst]

/-- A definition in the file of a name the table does not hold: afterwards `${name}` stands for the
given value, every other name for what it stood for. -/
theorem mt_insert_new (ms : List Macro) (name v : Bytes) (lno : Nat) (sticky : Bool)
    (hp : isPathMacro name = false) (hnew : macroValue ms name = none) :
    ∃ ms', macrosInsert ms name v lno sticky = some ms' ∧ macroValue ms' name = some v ∧
      ∀ n, n ≠ name → macroValue ms' n = macroValue ms n := by
  have hfind : ms.find? (fun m => m.name == name) = none := by
    unfold macroValue at hnew
    cases h : ms.find? (fun m => m.name == name) with
    | none => rfl
    | some m => rw [h] at hnew; cases hnew
  have hany : (ms.any fun m => m.name == name) = false := by
    rw [List.any_eq_false]
    intro x hx
    exact List.find?_eq_none.1 hfind x hx
  refine ⟨ms ++ [{ name := name, value := v, refs := 0, defs := 0, lno := lno, sticky := sticky }],
    by simp only [macrosInsert, hp, hany, Bool.false_eq_true, if_false], ?_, ?_⟩
  · unfold macroValue
    rw [List.find?_append, hfind]
    simp
  · intro n hn
    unfold macroValue
    rw [List.find?_append]
    cases ms.find? (fun m => m.name == n) with
    | some m => rfl
    | none =>
      have : (name == n) = false := by simp only [beq_eq_false_iff_ne, ne_eq]; exact fun h => hn h.symm
      simp [this]

/-- Sticky override: when the name was given with `-D` (and not yet shadowed), the definition in the
file is accepted and DROPPED - every name, this one included, keeps its value. -/
theorem mt_insert_sticky (ms : List Macro) (name v : Bytes) (lno : Nat) (m : Macro)
    (hfind : ms.find? (fun x => x.name == name) = some m) (hs : m.sticky = true) (hd : m.defs = 0)
    (hp : isPathMacro name = false) :
    ∃ ms', macrosInsert ms name v lno false = some ms' ∧ macroValue ms' = macroValue ms := by
  have hmem := List.mem_of_find?_eq_some hfind
  have hpred := List.find?_some hfind
  have hany : (ms.any fun x => x.name == name) = true := List.any_eq_true.2 ⟨m, hmem, hpred⟩
  have hany2 : (ms.any fun x => x.name == name && x.sticky && !false && x.defs == 0) = true :=
    List.any_eq_true.2 ⟨m, hmem, by simp [hpred, hs, hd]⟩
  refine ⟨ms.map fun x => if x.name == name then { x with defs := x.defs + 1 } else x,
    by simp only [macrosInsert, hp, hany, hany2, Bool.false_eq_true, if_false, if_true], ?_⟩
  funext n
  apply mt_macroValue_map
  intro x
  split <;> exact ⟨rfl, rfl⟩

/-- A second definition in the file of a name given with `-D`, and a second `-D` of the same name,
are refused. -/
theorem mt_insert_twice (ms : List Macro) (name v : Bytes) (lno : Nat) (sticky : Bool)
    (hex : (ms.any fun x => x.name == name) = true)
    (hno : ∀ x ∈ ms, x.name = name → x.sticky = false ∨ sticky = true ∨ x.defs ≠ 0) :
    macrosInsert ms name v lno sticky = none := by
  unfold macrosInsert
  by_cases hp : isPathMacro name = true
  · simp [hp]
  · have hany2 : (ms.any fun x => x.name == name && x.sticky && !sticky && x.defs == 0) = false := by
      rw [List.any_eq_false]
      intro x hx hc
      simp only [Bool.and_eq_true, beq_iff_eq, Bool.not_eq_true'] at hc
      rcases hno x hx hc.1.1.1 with h | h | h
      · rw [h] at hc; exact absurd hc.1.1.2 (by simp)
      · rw [h] at hc; exact absurd hc.1.2 (by simp)
      · exact h hc.2
    simp only [hp, Bool.false_eq_true, if_false, hex, if_true, hany2]

/-- `macrosOfDefs` for one `-D name=value`. -/
theorem mt_defs_single (name v : Bytes) (hp : isPathMacro name = false) :
    macrosOfDefs [(name, v)] [] = some [{ name := name, value := v, refs := 0, defs := 0, lno := 0, sticky := true }] := by
  simp [macrosOfDefs, macrosInsert, hp]

/-- Action time: the one pass of `interpolate` over the string `${path}` yields the message's path. -/
theorem mt_interpolate_path (before : MatchList) (p : Bytes) :
    interpolate before (some [([112, 97, 116, 104], p)]) [36, 123, 112, 97, 116, 104, 125] = some p := by
  simp [interpolate, interpolate.go, isBackref, isMacro]

/-! ## Reading the strings of a parse result (for the concrete witnesses) -/

def mt_leafStrings : Expr → List Bytes
  | .header _ ns _ => ns
  | .stat _ p => [p]
  | .command _ a => a
  | .move _ p => [p]
  | .flags _ f => [f]
  | .label _ ls => ls
  | .exec _ _ _ a => a
  | .addHeader _ k v => [k, v]
  | _ => []

def mt_treeStrings : CTree → List Bytes
  | .leaf e => mt_leafStrings e
  | .block _ b => mt_treeStrings b
  | .emptyBlock _ => []
  | .and _ l r | .or _ l r | .mtch _ l r => mt_treeStrings l ++ mt_treeStrings r
  | .neg _ e | .attachment _ e | .attBlock _ e => mt_treeStrings e

/-- The maildir paths and the strings of the rules of every block, in file order (`none`: not accepted). -/
def mt_strings : ParseResult → Option (List (List Bytes × List Bytes))
  | .ok blocks => some (blocks.map fun b => (b.paths, mt_treeStrings b.tree))
  | _ => none

def mt_isError : ParseResult → Bool
  | .error _ => true
  | _ => false

def mt_isInvalidDefs : ParseResult → Bool
  | .invalidDefs => true
  | _ => false

end Mdsort.Proofs.MainText
