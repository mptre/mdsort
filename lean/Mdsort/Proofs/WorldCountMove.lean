import Mdsort.Proofs.WorldWholeBasic
import Mdsort.Proofs.WorldFootMove

/-!
# `maildir_move` under every fault plan, counting the faults

The guarantee `MoveC` is read off the footprint `foot_maildirMove` (WorldFootMove), whose walk counts the faults (`wpC`).
-/

namespace Mdsort.Proofs.World
open Mdsort Mdsort.Model

/-- `MoveC` without its last clause: its every-plan half as a predicate of its own.  No theorem says that `maildir_move` satisfies
it (`count_maildirMove` proves `MoveC`, which the action list reads); it is proved of the unchanged world only (`.unchanged`). -/
def WholeMovePost (H : Nat) (w : World) (src dst : Maildir) (ms : MsgSt) (r : MsgSt × Bool) (w' : World) : Prop :=
  WholeK (src.path, ms.name) H w w' ∧
  (∀ h, h < w.handles.length → w'.obj h = w.obj h) ∧
  ∃ nb, Located w' r.1 nb ∧ (nb = (src.path, ms.name) ∨ lk w nb = none) ∧
    r.1.msg = ms.msg ∧ r.1.fd = ms.fd ∧
    (r.1.content = ms.content ∨ r.1.content = (messageWrite ms.msg).1) ∧
    (r.2 = false → nb = (dst.path, r.1.name))

theorem WholeMovePost.unchanged {H : Nat} {w w' : World} {src dst : Maildir} {ms : MsgSt}
    (hL : Located w ms (src.path, ms.name)) (hH : H ≤ w.handles.length) (m : Mid w w' (lk w)) :
    WholeMovePost H w src dst ms (ms, true) w' :=
  ⟨WholeK.of_mid_same m hH, m.objs, _, hL.of_mid m rfl, .inl rfl, rfl, rfl, .inl rfl, by intro h; cases h⟩

/-- The guarantee of `maildir_move` for a run during which the count of faults went from `n0` to `n`: what holds
under every plan, and the exact change of the entries (`Delta`) unless two faults were injected - and whenever the move
succeeds: the one outcome that is not exact, a placeholder left behind by a failed roll-back, is an error. -/
def MoveC (H : Nat) (w : World) (src dst : Maildir) (ms : MsgSt) (n0 n : Nat) (r : MsgSt × Bool) (w' : World) : Prop :=
  ∃ nb, Located w' r.1 nb ∧
    (∀ h, h < w.handles.length → w'.obj h = w.obj h) ∧
    r.1.msg = ms.msg ∧ r.1.fd = ms.fd ∧
    (r.1.content = ms.content ∨ r.1.content = (messageWrite ms.msg).1) ∧
    (r.2 = false → nb = (dst.path, r.1.name)) ∧
    WholeK (src.path, ms.name) H w w' ∧ (nb = (src.path, ms.name) ∨ lk w nb = none) ∧
    (n < n0 + 2 ∨ r.2 = false → Delta w w' (src.path, ms.name) nb)

theorem FootI.wholeK {w w' : World} {a : Ent} {H : Nat} (h : FootI w a w') (hH : H ≤ w.handles.length) : WholeK a H w w' := by
  obtain ⟨s, hs, m⟩ := h
  exact WholeK.of_mid m (fun _ _ hx hl => Foot.ents_old hs hx hl) hH

theorem count_maildirMove (env : PEnv) {H : Nat} {w : World} {src dst : Maildir} {ms : MsgSt} {sh dh : Handle}
    (hsh : src.dirH = some sh) (hdh : dst.dirH = some dh)
    (hps : w.dirPath sh = some src.path) (hpd : w.dirPath dh = some dst.path) (hdd : (w.dir dst.path).isSome)
    (hL : Located w ms (src.path, ms.name)) (hH : H ≤ w.handles.length) (n0 : Nat) :
    wpC (fun w' => WholeK (src.path, ms.name) H w w') (maildirMove env src dst ms) (MoveC H w src dst ms n0) n0 w := by
  refine wpC_mono (wpC_inv_mono (foot_maildirMove env src dst ms hsh hdh hps hpd hdd n0) fun _ h => h.wholeK hH) ?_
  rintro n r w' ⟨mt, h⟩
  have k := h.footI.wholeK hH
  obtain ⟨s, hs, m, any, out⟩ := h
  have hL0 := hL
  obtain ⟨hloc, fid0, hlk, hlt, hf⟩ := hL
  have out := out ⟨fid0, hlk⟩
  cases s with
  | same =>
    obtain rfl := out
    exact ⟨_, hL0.of_mid m rfl, m.objs, rfl, rfl, .inl rfl, nofun, k, .inl rfl, fun _ => m.delta_same _⟩
  | stray b N =>
    obtain ⟨rfl, hn⟩ := out
    have hab : ((src.path, ms.name) : Ent) ≠ b := by rintro rfl; rw [hs] at hlk; cases hlk
    exact ⟨_, hL0.of_mid m (if_neg hab), m.objs, rfl, rfl, .inl rfl, nofun, k, .inl rfl,
      fun h => h.elim (fun h => by omega) nofun⟩
  | moved b g =>
    obtain ⟨fl, c, rfl⟩ := any.new b rfl
    obtain ⟨hl, hcont, -⟩ := out
    have hab : ((src.path, ms.name) : Ent) ≠ (dst.path, cand env fl c) := by rintro h; rw [h, hs] at hlk; cases hlk
    have hLoc : Located w' r.1 (dst.path, cand env fl c) := by
      refine ⟨hl, g, (m.look (dst.path, cand env fl c)).trans (if_pos rfl : _ = some g), ?_⟩
      rcases hcont with ⟨h1, h2⟩ | ⟨h1, h2, h3, h4⟩
      · obtain rfl : g = fid0 := Option.some.inj (h1.symm.trans hlk)
        exact ⟨Nat.lt_of_lt_of_le hlt m.nextFid, by rw [h2]; exact (m.files g hlt).trans hf⟩
      · exact ⟨h2, by rw [h4]; exact h3⟩
    refine ⟨_, hLoc, m.objs, any.msg, any.fd, ?_, fun he => by rw [(any.ok he).2.1 _ rfl], k, .inr hs,
      fun _ => m.delta_moved fun _ => hs⟩
    rcases hcont with ⟨-, h2⟩ | ⟨-, -, -, h4⟩
    · exact .inl h2
    · exact .inr h4

end Mdsort.Proofs.World
