import Mdsort.Spec.ExecSeq
import Mdsort.Proofs.WorldWrite

/-!
# `wpo`, the frames `Frm` and `Frd`, `maildir_genname` and `message_write` in `wpo`

First module of the chain ExecSeqBasic → ExecSeqMaildirWrite, ExecSeqFrame → ExecSeqTop → ExecSeqContent, which ends in what an
`exec stdin` child reads across the action list (`C13_exec_stdin_sees_current`).

`wpo`: weakest preconditions of a `Prog` against arbitrary POSSIBLE results (`Spec.Possible`; the "o" is for the oracle that
chooses them).  It is the instance `Possible` of `World.wpg` (`wpo_of_wpg`), so the specifications here are read off the walks
made once for every relation of admissible results (`World.wpg_genname`, `World.wpg_messageWriteP`), and the step lemmas of
`WorldStep` (`core_obj`, `core_file`, `core_len`, ...), which hold for every result, are used as they are.
-/

namespace Mdsort.Proofs.ExecSeq
open Mdsort Mdsort.Model Mdsort.Spec Mdsort.Proofs.World

def wpo {α} : Prog α → (α → World → Prop) → World → Prop
  | .ret a, Q, w => Q a w
  | .call c k, Q, w => ∀ r, Possible w c r → wpo (k r) Q (stepWorld w c r)

theorem wpo_sound {α} (orc : Nat → Call → Res) {p : Prog α} {Q : α → World → Prop} {w : World} (h : wpo p Q w) (i : Nat)
    (hp : PossibleRun orc p w i) : Q (runW orc p w i).1 (runW orc p w i).2 := by
  induction p generalizing w i with
  | ret a => exact h
  | call c k ih => exact ih _ (h _ hp.1) (i + 1) hp.2

theorem wpo_bind {α β} {p : Prog α} {f : α → Prog β} {Q : β → World → Prop} {w : World}
    (h : wpo p (fun a w' => wpo (f a) Q w') w) : wpo (p.bind f) Q w := by
  induction p generalizing w with
  | ret a => exact h
  | call c k ih => intro r hr; exact ih _ (h r hr)

theorem wpo_mono {α} {p : Prog α} {Q Q' : α → World → Prop} {w : World}
    (h : wpo p Q w) (hq : ∀ a w', Q a w' → Q' a w') : wpo p Q' w := by
  induction p generalizing w with
  | ret a => exact hq _ _ h
  | call c k ih => intro r hr; exact ih _ (h r hr)

theorem wpo_bind_mono {α β} {p : Prog α} {f : α → Prog β} {Q : β → World → Prop} {R : α → World → Prop} {w : World}
    (h : wpo p R w) (hf : ∀ a w', R a w' → wpo (f a) Q w') : wpo (p.bind f) Q w :=
  wpo_bind (wpo_mono h hf)

theorem wpo_of_wpg {α} {I : World → Prop} {p : Prog α} {Q : α → World → Prop} {w : World} (h : wpg Possible I p Q w) :
    wpo p Q w := by
  induction p generalizing w with
  | ret a => exact h
  | call c k ih => intro r hr; exact ih _ (h r hr).2

/-- Holds by definition: the walks enter a call by `intro r hr`. -/
theorem wpo_call {α} {c : Call} {k : Res → Prog α} {Q : α → World → Prop} {w : World}
    (h : ∀ r, Possible w c r → wpo (k r) Q (stepWorld w c r)) : wpo (.call c k) Q w := h

theorem wpo_of_all {α} {P : α → Prop} {p : Prog α} {Q : α → World → Prop} {w : World}
    (ha : All P p) (hq : ∀ a w', P a → Q a w') : wpo p Q w :=
  wpo_mono (wpo_of_wpg (wpg_of_calls (J := fun _ => True) (Calls.of_forall (fun _ => trivial) p) ha (fun _ _ _ _ h => h) trivial))
    fun a w' h => hq a w' h.2

theorem wpo_and {α} {p : Prog α} {Q1 Q2 : α → World → Prop} {w : World}
    (h1 : wpo p Q1 w) (h2 : wpo p Q2 w) : wpo p (fun a w' => Q1 a w' ∧ Q2 a w') w := by
  induction p generalizing w with
  | ret a => exact ⟨h1, h2⟩
  | call c k ih => intro r hr; exact ih _ (h1 r hr) (h2 r hr)

theorem wpo_with_all {α} {P : α → Prop} {p : Prog α} {Q : α → World → Prop} {w : World}
    (h : wpo p Q w) (ha : All P p) : wpo p (fun a w' => Q a w' ∧ P a) w :=
  wpo_and h (wpo_of_all ha fun _ _ h => h)

structure FileAt (w : World) (fid : Nat) (c : Bytes) : Prop where
  lt : fid < w.nextFid
  file : ∃ f, w.file fid = some f ∧ f.data = c

theorem FileAt.step {w : World} {fid : Nat} {c : Bytes} (h : FileAt w fid c) (cl : Call) (r : Res)
    (hf : fileSafe w fid cl) : FileAt (stepWorld w cl r) fid c := by
  refine ⟨?_, ?_⟩
  · simpa using Nat.lt_of_lt_of_le h.lt (core_nextFid w cl r)
  · simpa [core_file w cl r fid h.lt hf] using h.file

/-- Frame of a script relative to the world `w0` at its start: the protected file, the handles that
existed, and the two counters. -/
structure Frm (fid0 : Nat) (c0 : Bytes) (w0 w : World) : Prop where
  file : FileAt w fid0 c0
  objs : ∀ h, h < w0.handles.length → w.obj h = w0.obj h
  len : w0.handles.length ≤ w.handles.length
  nextFid : w0.nextFid ≤ w.nextFid

theorem Frm.refl {fid0 c0} {w : World} (hf : FileAt w fid0 c0) : Frm fid0 c0 w w :=
  ⟨hf, fun _ _ => rfl, Nat.le_refl _, Nat.le_refl _⟩

theorem Frm.step {fid0 c0} {w0 w : World} (fr : Frm fid0 c0 w0 w) (c : Call) (r : Res)
    (hsub : ∀ h, Call.subject c = some h → w0.handles.length ≤ h) (hfs : fileSafe w fid0 c) :
    Frm fid0 c0 w0 (stepWorld w c r) := by
  refine ⟨fr.file.step c r hfs, ?_, ?_, ?_⟩
  · intro h hh
    rw [stepWorld_obj, core_obj w c r h (Nat.lt_of_lt_of_le hh fr.len), fr.objs h hh]
    intro hs
    have := hsub h hs
    omega
  · simpa using Nat.le_trans fr.len (core_len w c r)
  · simpa using Nat.le_trans fr.nextFid (core_nextFid w c r)

/-- `Frm.step` for a call whose subject may be an EXISTING handle, measured from the world before the call: every handle
other than the subject is untouched. -/
theorem Frm.step_on {fid0 c0} {w0 w : World} (fr : Frm fid0 c0 w0 w) (c : Call) (r : Res) (hfs : fileSafe w fid0 c) :
    FileAt (stepWorld w c r) fid0 c0 ∧ w.handles.length ≤ (stepWorld w c r).handles.length ∧
      w.nextFid ≤ (stepWorld w c r).nextFid ∧
      ∀ h, h < w.handles.length → Call.subject c ≠ some h → (stepWorld w c r).obj h = w.obj h := by
  refine ⟨fr.file.step c r hfs, by simpa using core_len w c r, by simpa using core_nextFid w c r, ?_⟩
  intro h hh hs
  rw [stepWorld_obj, core_obj w c r h hh hs]

theorem Frm.trans {fid0 c0} {w0 w1 w2 : World} (a : Frm fid0 c0 w0 w1) (b : Frm fid0 c0 w1 w2) : Frm fid0 c0 w0 w2 :=
  ⟨b.file, fun h hh => (b.objs h (Nat.lt_of_lt_of_le hh a.len)).trans (a.objs h hh),
   Nat.le_trans a.len b.len, Nat.le_trans a.nextFid b.nextFid⟩

theorem Frm.of_same {fid0 : Nat} {c0 : Bytes} {w0 w w' : World} (fr : Frm fid0 c0 w0 w) (h : SameFs w w') : Frm fid0 c0 w0 w' := by
  obtain ⟨t, rfl⟩ := h
  exact ⟨⟨fr.file.lt, fr.file.file⟩, fr.objs, fr.len, fr.nextFid⟩

theorem spec_genname (env : PEnv) (md : Maildir) (flags : Option Bytes) (fid0 : Nat) (c0 : Bytes) (w0 : World)
    (fuel count : Nat) {w : World} (fr : Frm fid0 c0 w0 w) :
    wpo (genname env md flags fuel count)
      (fun res w' => Frm fid0 c0 w0 w' ∧
        ∀ fd name, res = some (fd, name) →
          ∃ d p fid, md.dirH = some d ∧ NewFile w' d fd name p fid ∧ fid0 < fid ∧ w0.handles.length ≤ fd) w := by
  refine wpo_mono (wpo_of_wpg (wpg_genname sane_possible env md flags (fun _ => True) (fun _ _ => trivial)
    (fun _ _ _ _ _ _ _ _ => trivial) fuel count (SameFs.refl w))) ?_
  rintro res w' (⟨rfl, hs⟩ | ⟨d, wk, p, c, hd, hs, hp, -, -, hl, rfl, rfl⟩)
  · exact ⟨fr.of_same hs, by intro _ _ h; cases h⟩
  · have frk := fr.of_same hs
    refine ⟨frk.step _ _ (by intro _ h; cases h) trivial, ?_⟩
    intro fd name h
    cases h
    exact ⟨d, p, wk.nextFid, hd, newFile_of_openExcl hp hl, frk.file.lt, frk.len⟩

/-- `Frm` together with "no directory entry changed since `wa`".  Three worlds, because the two parts are measured from
different points: `w0` is the start of the enclosing script (`maildir_write`, `maildir_move`), from which the handles and the
protected file are framed; `wa` is the world in which the sub-script was called (`spec_messageWriteP` has `wa` = the world of
its call, `Frm.of_frW`), and by then `genname` has made a directory entry, so `w.dirs = w0.dirs` does not hold. -/
structure Frd (fid0 : Nat) (c0 : Bytes) (w0 wa w : World) : Prop where
  fr : Frm fid0 c0 w0 w
  dirs : w.dirs = wa.dirs
  lena : wa.handles.length ≤ w.handles.length

theorem Frd.step {fid0 c0} {w0 wa w : World} (s : Frd fid0 c0 w0 wa w) (c : Call) (r : Res) (hd : Call.dirOp c = false)
    (hsub : ∀ h, Call.subject c = some h → w0.handles.length ≤ h) (hfs : fileSafe w fid0 c) :
    Frd fid0 c0 w0 wa (stepWorld w c r) :=
  ⟨s.fr.step c r hsub hfs, by simp [core_dirs w c r hd, s.dirs], by simpa using Nat.le_trans s.lena (core_len w c r)⟩

/-- State while the stream `N` on file `fid` is being written, in `Frd` form; `WS.fprintf` and `WS.fflush` are its two
steps: the single-call facts for a script that prints to a stream of its own and is walked in `wpo` call by call.
`message_write` itself is not walked here: `spec_messageWriteP` reads `Frd` off `World.wpg_messageWriteP` through
`Frm.of_frW`.  `WS`, `WS.lt`, `WS.fileSafe`, `WS.fprintf`, `WS.fflush` and `Frd.step` are the twins of `World.WSt` and its lemmas
(WorldScripts) for `Frd`; no walk of the `ExecSeq` modules goes through them, they are not a stream calculus of `wpo`. -/
structure WS (fid0 : Nat) (c0 : Bytes) (w0 wa : World) (N : Handle) (fid : Nat) (w : World) (f : File) (buf : Bytes) : Prop where
  fd : Frd fid0 c0 w0 wa w
  obj : w.obj N = .stream fid buf
  file : w.file fid = some f

theorem WS.lt {fid0 c0 w0 wa N fid w f buf} (s : WS fid0 c0 w0 wa N fid w f buf) : N < w.handles.length :=
  lt_of_obj_ne_closed w N (by simp [s.obj])

theorem WS.fileSafe {fid0 c0 w0 wa N fid w f buf} (s : WS fid0 c0 w0 wa N fid w f buf) (hne : fid ≠ fid0) :
    objFid (w.obj N) ≠ some fid0 := by
  simp [s.obj, objFid, hne]

theorem WS.fprintf {fid0 c0 w0 wa N fid w f buf} (s : WS fid0 c0 w0 wa N fid w f buf) (hne : fid ≠ fid0)
    (hN : w0.handles.length ≤ N) (data : Bytes) :
    WS fid0 c0 w0 wa N fid (stepWorld w (.fprintf N data) (.ok data.length)) f (buf ++ data) := by
  have hc := core_fprintf_ok s.obj data
  refine ⟨s.fd.step _ _ rfl (fun h hh => by cases hh; exact hN) (s.fileSafe hne), ?_, ?_⟩
  · rw [stepWorld_obj, hc]; simp [obj_setObj, s.lt]
  · rw [stepWorld_file, hc]; simpa using s.file

theorem WS.fflush {fid0 c0 w0 wa N fid w f buf} (s : WS fid0 c0 w0 wa N fid w f buf) (hne : fid ≠ fid0)
    (hN : w0.handles.length ≤ N) (v : Nat) :
    WS fid0 c0 w0 wa N fid (stepWorld w (.fflush N) (.ok v)) { f with data := f.data ++ buf } [] := by
  have hc := core_fflush_ok s.obj s.file v
  refine ⟨s.fd.step _ _ rfl (fun h hh => by cases hh; exact hN) (s.fileSafe hne), ?_, ?_⟩
  · rw [stepWorld_obj, hc]; simp [obj_setObj, s.lt]
  · rw [stepWorld_file, hc]; simp [file_setFile]

theorem Frm.of_frW {fid0 fid : Nat} {c0 : Bytes} {w0 w w' : World} (fr : Frm fid0 c0 w0 w) (f : FrW fid w w') (hne : fid ≠ fid0) :
    Frd fid0 c0 w0 w w' := by
  obtain ⟨g, hg, hc⟩ := fr.file.file
  exact ⟨⟨⟨by rw [f.nextFid]; exact fr.file.lt, g, by rw [f.files fid0 fr.file.lt (Ne.symm hne)]; exact hg, hc⟩,
    fun h hh => (f.objs h (Nat.lt_of_lt_of_le hh fr.len)).trans (fr.objs h hh), Nat.le_trans fr.len f.len,
    Nat.le_trans fr.nextFid (Nat.le_of_eq f.nextFid.symm)⟩, f.dirs, f.len⟩

theorem spec_messageWriteP {fid0 : Nat} {c0 : Bytes} {w0 : World} (m : Msg) (fd : Handle) {w : World}
    {fid off : Nat} {wr : Bool} {f0 : File}
    (fr : Frm fid0 c0 w0 w) (ho : w.obj fd = .file fid off wr) (hne : fid ≠ fid0) (hf : w.file fid = some f0) :
    wpo (messageWriteP m fd)
      (fun err w' => Frd fid0 c0 w0 w w' ∧ ∃ f, w'.file fid = some f ∧
          (err = false → f.data = f0.data ++ (messageWrite m).1)) w :=
  wpo_mono (wpo_of_wpg (wpg_messageWriteP sane_possible m fd ho hf)) fun _ _ h =>
    ⟨fr.of_frW h.2.fr hne, h.1.imp fun _ hf' => ⟨hf'.1, fun he => (hf'.2 he).1⟩⟩

end Mdsort.Proofs.ExecSeq
