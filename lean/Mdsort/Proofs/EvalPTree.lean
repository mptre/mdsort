import Mdsort.Model.EvalP
import Mdsort.Proofs.EvalLeaves
import Mdsort.Proofs.DateFields

/-!
# The shape of an evaluation that asks

`expr_eval` combines the values of sub-evaluations in few ways: a pure function of the value (`blockPost`, `negPost`),
"go on after this value, stop with any other" (`thenK`), and the two attachment loops (`attLoop`, `attLoopB`).
`IsEvalT app ev` says that `ev` is built that way over `matches_append = app`; `evalT_isEvalT`: `Model.evalT` is, and so is
`evalTL` with the limits as parameters (`evalTL_isEvalT`, Proofs/LimitsBridgeWorld.lean), which is why `app` and `ev` are variables.
`IsEvalT.walk` is the one induction over the composite nodes: a relation between two computations that `bind` respects holds
between two such evaluators as soon as it holds at the leaves; `IsEvalT.rel`, `.ext`, `.sat`, `.qs` are its instances.
`Model.eval`, regarded as a computation that asks nothing, is built that way too (`eval_isEvalT`).
For the leaves that ask nothing the counterpart is `eval_leaf_rel`: what such a leaf reads and how it changes the state, once.

The declarations extend `Model.Ask`, `Model.Expr` and sit in namespace `Mdsort.Model` so that dot notation finds them.
-/

namespace Mdsort.Model
open Mdsort

@[simp] theorem Ask.ret_bind {α β} (a : α) (f : α → Ask β) : (Ask.ret a).bind f = f a := rfl
@[simp] theorem Ask.ask_bind {α β} (q : Req) (k : SysAns → Ask α) (f : α → Ask β) :
    (Ask.ask q k).bind f = .ask q (fun a => (k a).bind f) := rfl
@[simp] theorem Ask.run_ret {α} (a : α) (as : List SysAns) : (Ask.ret a).run as = (a, []) := rfl

/-- Every question of the computation satisfies `P`. -/
def Ask.Qs {α} (P : Req → Prop) : Ask α → Prop
  | .ret _ => True
  | .ask q k => P q ∧ ∀ a, (k a).Qs P

/-- Along every path whose answers satisfy `ok` the value satisfies `P`. -/
def Ask.Sat {α} (ok : Req → SysAns → Prop) (P : α → Prop) : Ask α → Prop
  | .ret a => P a
  | .ask q k => ∀ a, ok q a → (k a).Sat ok P

/-- Every value the computation can return (whatever the answers are) satisfies `P`. -/
abbrev Ask.AllRet {α} (P : α → Prop) (t : Ask α) : Prop := t.Sat (fun _ _ => True) P

theorem Ask.Qs.bind {α β} {P : Req → Prop} {t : Ask α} {f : α → Ask β} (ht : t.Qs P) (hf : ∀ a, (f a).Qs P) :
    (t.bind f).Qs P := by
  induction t with
  | ret a => exact hf a
  | ask q k ih => exact ⟨ht.1, fun a => ih a (ht.2 a)⟩

theorem Ask.Qs.mono {α} {P Q : Req → Prop} {t : Ask α} (ht : t.Qs P) (h : ∀ q, P q → Q q) : t.Qs Q := by
  induction t with
  | ret a => exact True.intro
  | ask q k ih => exact ⟨h q ht.1, fun a => ih a (ht.2 a)⟩

theorem Ask.eq_ret_of_qs_false {α} {t : Ask α} (ht : t.Qs fun _ => False) : ∃ a, t = .ret a := by
  cases t with
  | ret a => exact ⟨a, rfl⟩
  | ask q k => exact ht.1.elim

section
variable {α β : Type} {ok : Req → SysAns → Prop}

theorem Ask.Sat.bind {R : α → Prop} {P : β → Prop} {t : Ask α} {f : α → Ask β}
    (ht : t.Sat ok R) (hf : ∀ a, R a → (f a).Sat ok P) : (t.bind f).Sat ok P := by
  induction t with
  | ret a => exact hf a ht
  | ask q k ih => exact fun a ha => ih a (ht a ha)

theorem Ask.Sat.value {P : α → Prop} {v : α} {t : Ask α} (ht : t.Sat ok (· = v)) (hp : t.AllRet P)
    (hans : ∀ q, ∃ a, ok q a) : P v := by
  induction t with
  | ret a => exact ht ▸ hp
  | ask q k ih =>
    obtain ⟨a, ha⟩ := hans q
    exact ih a (ht a ha) (hp a True.intro)

end

theorem Ask.AllRet.run {α} {P : α → Prop} {t : Ask α} (ht : t.AllRet P) (as : List SysAns) : P (t.run as).1 := by
  induction t generalizing as with
  | ret a => exact ht
  | ask q k ih => exact ih _ (ht _ True.intro) _

/-- What `expr_eval_block` makes of the value of its body: `break` and `pass` entries are consumed.  The same function as
`Proofs.blockWrap` (Proofs/EvalSim.lean, which says `hasTy` for `(matchesFind ..).isSome` and spells `matchesRemove` out as
its filter and the count of the actions left); here in the words of `evalT` and `eval`, so that `evalT_isEvalT` and
`eval_isEvalT` hold by unfolding. -/
def blockPost : Tri × St → Tri × St
  | (.error, st1) => (.error, st1)
  | (ev, st1) =>
    if (matchesFind st1.ml .brk).isSome then (.nomatch, { st1 with ml := (matchesRemove st1.ml .brk).1 })
    else if (matchesFind st1.ml .pass).isSome then
      let (ml2, n) := matchesRemove st1.ml .pass
      (if n == 0 then .nomatch else .match, { st1 with ml := ml2 })
    else (ev, st1)

/-- What `expr_eval_neg` makes of the value of its operand; `n` is the length of the list before. -/
def negPost (n : Nat) : Tri × St → Tri × St
  | (.error, st1) => (.error, st1)
  | (.nomatch, st1) => (.match, st1)
  | (.match, st1) => (.nomatch, { st1 with ml := st1.ml.take n })

/-- Go on with `next` after the value `t`; any other value is the result. -/
def thenK (t : Tri) (next : St → Ask (Tri × St)) (r : Tri × St) : Ask (Tri × St) :=
  if r.1 = t then next r.2 else .ret r

/-- The loop of `expr_eval_attachment` over the parts, `f` the evaluation of the operand. -/
def attLoop (f : Nat → Msg → St → Ask (Tri × St)) (part : Nat) : List Msg → Nat → St → Ask (Tri × St)
  | [], _, st => .ret (.nomatch, st)
  | p :: rest, i, st =>
    (f (if part == 0 then i + 1 else part) p st).bind (thenK .nomatch (attLoop f part rest (i + 1)))

/-- What the loop of `expr_eval_attachment_block` does with the value for one part. -/
def attBlockK (ev : Tri) (next : Tri → St → Ask (Tri × St)) : Tri × St → Ask (Tri × St)
  | (.error, st1) => .ret (.error, st1)
  | (.match, st1) => next .match st1
  | (.nomatch, st1) => next ev st1

def attLoopB (f : Nat → Msg → St → Ask (Tri × St)) (part : Nat) : List Msg → Nat → Tri → St → Ask (Tri × St)
  | [], _, ev, st => .ret (ev, st)
  | p :: rest, i, ev, st =>
    (f (if part == 0 then i + 1 else part) p st).bind (attBlockK ev (attLoopB f part rest (i + 1)))

/-- `ev` treats the composite nodes as `expr_eval` does, with `app` for `matches_append`. -/
structure IsEvalT (app : MatchList → Match → MatchList × Bool) (ev : Expr → Nat → Msg → St → Ask (Tri × St)) : Prop where
  block : ∀ lno e part m st, ev (.block lno e) part m st = (ev e part m st).bind fun r => .ret (blockPost r)
  and : ∀ lno l r part m st, ev (.and lno l r) part m st = (ev l part m st).bind (thenK .match (ev r part m))
  or : ∀ lno l r part m st, ev (.or lno l r) part m st = (ev l part m st).bind (thenK .nomatch (ev r part m))
  neg : ∀ lno e part m st, ev (.neg lno e) part m st = (ev e part m st).bind fun r => .ret (negPost st.ml.length r)
  mtch : ∀ lno c rhs part m st, ev (.mtch lno c rhs) part m st =
    if (app st.ml { ty := .mtch, lno := lno, part := part }).2 then
      .ret (.error, { st with ml := (app st.ml { ty := .mtch, lno := lno, part := part }).1 })
    else (ev c part m { st with ml := (app st.ml { ty := .mtch, lno := lno, part := part }).1 }).bind
      (thenK .match (ev rhs part m))
  attachment : ∀ lno e part m st, ev (.attachment lno e) part m st =
    match getAttachments m with
    | none => .ret (.error, st)
    | some parts => attLoop (ev e) part parts 0 st
  attBlock : ∀ lno e part m st, ev (.attBlock lno e) part m st =
    match getAttachments m with
    | none => .ret (.error, st)
    | some parts => attLoopB (ev e) part parts 0 .nomatch st

theorem evalT_loop_eq (env : Env) (root : Msg) (e : Expr) (part : Nat) (ps : List Msg) :
    ∀ i st, evalT.loop env root e part ps i st = attLoop (evalT env root e) part ps i st := by
  induction ps with
  | nil => intro i st; simp only [evalT.loop, attLoop]
  | cons p rest ih =>
    intro i st
    simp only [evalT.loop, attLoop]
    congr 1
    funext ⟨ev, s1⟩
    cases ev <;> simp only [thenK, ih, reduceCtorEq, if_true, if_false]

theorem evalT_loopB_eq (env : Env) (root : Msg) (e : Expr) (part : Nat) (ps : List Msg) :
    ∀ i ev st, evalT.loopB env root e part ps i ev st = attLoopB (evalT env root e) part ps i ev st := by
  induction ps with
  | nil => intro i ev st; simp only [evalT.loopB, attLoopB]
  | cons p rest ih =>
    intro i ev st
    simp only [evalT.loopB, attLoopB]
    congr 1
    funext ⟨ev1, s1⟩
    cases ev1 <;> simp only [attBlockK, ih]

theorem thenK_eq (t : Tri) (next : St → Ask (Tri × St)) (k : Tri × St → Ask (Tri × St))
    (hnext : ∀ s, k (t, s) = next s) (hret : ∀ r, r.1 ≠ t → k r = .ret r) : k = thenK t next := by
  funext ⟨ev, s⟩
  by_cases h : ev = t
  · subst h; simp only [thenK, if_true, hnext]
  · simp only [thenK, h, if_false, hret (ev, s) h]

theorem evalT_isEvalT (env : Env) (root : Msg) : IsEvalT (matchesAppend env) (evalT env root) where
  block lno e part m st := by
    simp only [evalT]
    congr 1
    funext ⟨ev, s1⟩
    cases ev <;> simp only [blockPost, apply_ite Ask.ret]
  and lno l r part m st := by
    simp only [evalT]
    exact congrArg _ (thenK_eq _ _ _ (fun _ => rfl) (fun ⟨ev, s⟩ h => by cases ev <;> first | rfl | exact absurd rfl h))
  or lno l r part m st := by
    simp only [evalT]
    exact congrArg _ (thenK_eq _ _ _ (fun _ => rfl) (fun ⟨ev, s⟩ h => by cases ev <;> first | rfl | exact absurd rfl h))
  neg lno e part m st := by
    simp only [evalT]
    congr 1
    funext ⟨ev, s1⟩
    cases ev <;> rfl
  mtch lno c rhs part m st := by
    simp only [evalT]
    split
    · rfl
    · exact congrArg _ (thenK_eq _ _ _ (fun _ => rfl) (fun ⟨ev, s⟩ h => by cases ev <;> first | rfl | exact absurd rfl h))
  attachment lno e part m st := by
    simp only [evalT, evalT_loop_eq]
    cases getAttachments m <;> rfl
  attBlock lno e part m st := by
    simp only [evalT, evalT_loopB_eq]
    cases getAttachments m <;> rfl

/-- The conditions and actions of the tree. -/
def Expr.leaves : Expr → List Expr
  | .block _ e | .neg _ e | .attachment _ e | .attBlock _ e => e.leaves
  | .and _ l r | .or _ l r | .mtch _ l r => l.leaves ++ r.leaves
  | e => [e]

/-- Is the node one of these? -/
def Expr.isLeaf : Expr → Bool
  | .block .. | .and .. | .or .. | .neg .. | .mtch .. | .attachment .. | .attBlock .. => false
  | _ => true

theorem Expr.isLeaf_of_mem_leaves {n e : Expr} (h : n ∈ e.leaves) : n.isLeaf = true := by
  induction e with
  | block _ e ih | neg _ e ih | attachment _ e ih | attBlock _ e ih => exact ih h
  | and _ l r ihl ihr | or _ l r ihl ihr | mtch _ l r ihl ihr => exact (List.mem_append.1 h).elim ihl ihr
  | _ => rw [List.mem_singleton.1 h]; rfl

/-- The leaves `evalT` hands to `Model.eval`: all but `command`, `isdirectory` and the file-time `date` conditions. -/
def asksNothing : Expr → Bool
  | .stat .. | .command .. => false
  | .date _ f _ _ => f == .header
  | e => e.isLeaf

theorem Expr.leaf_cases {n : Expr} (hn : n.isLeaf = true) :
    asksNothing n = true ∨ (∃ lno f cmp age, n = .date lno f cmp age ∧ f ≠ .header) ∨ (∃ lno path, n = .stat lno path) ∨
      ∃ lno argv, n = .command lno argv := by
  cases n with
  | block | and | or | neg | mtch | attachment | attBlock => cases hn
  | stat lno path => exact .inr (.inr (.inl ⟨lno, path, rfl⟩))
  | command lno argv => exact .inr (.inr (.inr ⟨lno, argv, rfl⟩))
  | date lno f cmp age =>
    cases f with
    | header => exact .inl rfl
    | access | modified | created => exact .inr (.inl ⟨_, _, _, _, rfl, by decide⟩)
  | _ => exact .inl rfl

theorem evalT_leaf (env : Env) (root : Msg) {e : Expr} (he : asksNothing e = true) (part : Nat) (m : Msg) (st : St) :
    evalT env root e part m st = .ret (eval env root e part m st) := by
  cases e with
  | block | and | or | neg | mtch | attachment | attBlock | stat | command => cases he
  | date lno f cmp age =>
    cases f with
    | header => simp only [evalT]
    | access | modified | created => cases he
  | _ => simp only [evalT]

theorem blockPost_sub (r : Tri × St) : ∀ x ∈ (blockPost r).2.ml, x ∈ r.2.ml := by
  have hrem : ∀ (ml : MatchList) t, ∀ x ∈ (matchesRemove ml t).1, x ∈ ml := fun ml t x hx => (List.mem_filter.1 hx).1
  fun_cases blockPost r with
  | case1 => exact fun _ h => h
  -- a `break` entry: the list without the `break` entries
  | case2 ev st1 _ _ => exact hrem st1.ml .brk
  -- a `pass` entry: the list without the `pass` entries
  | case3 ev st1 _ _ _ ml2 n hr => exact fun x hx => hrem st1.ml .pass x (by rw [hr]; exact hx)
  | case4 => exact fun _ h => h

theorem negPost_sub (n : Nat) (r : Tri × St) : ∀ x ∈ (negPost n r).2.ml, x ∈ r.2.ml := by
  obtain ⟨ev, s1⟩ := r
  cases ev <;> first | exact fun _ h => List.mem_of_mem_take h | exact fun _ h => h

def SameVerdict (S : St → St → Prop) (r r' : Tri × St) : Prop := r.1 = r'.1 ∧ S r.2 r'.2

def ErrStays (k : Tri × St → Ask (Tri × St)) : Prop := ∀ s, k (.error, s) = .ret (.error, s)

theorem errStays_thenK {t : Tri} (ht : Tri.error ≠ t) (next : St → Ask (Tri × St)) : ErrStays (thenK t next) :=
  fun _ => if_neg ht

/-- The entry `expr_eval_match` appends before it evaluates the condition of a rule. -/
abbrev sentinel (lno part : Nat) : Match := { ty := .mtch, lno := lno, part := part }

section walk
variable {app app' : MatchList → Match → MatchList × Bool} {ev ev' : Expr → Nat → Msg → St → Ask (Tri × St)}
  {S : St → St → Prop} {R : Ask (Tri × St) → Ask (Tri × St) → Prop}

/-- For two evaluators and two start states.  `R` respects `bind` (`hret`, `hbind`) for continuations related on results
with the same verdict and `S`-related states, the left one handing an error on: all that `expr_eval` uses (`blockPost`,
`negPost`, `thenK`, `attBlockK`) do.  `hblock`, `hneg`: the two pure continuations keep results related.  `happ`:
`matches_append` of the sentinel fails on both sides or on neither and keeps the states related - or it fails on the left
and `R` lets the left side end there with an error (an overflow under smaller limits). -/
theorem IsEvalT.walk (h : IsEvalT app ev) (h' : IsEvalT app' ev')
    (hret : ∀ {r r'}, SameVerdict S r r' → R (.ret r) (.ret r'))
    (hbind : ∀ {t t' k k'}, R t t' → (∀ r r', SameVerdict S r r' → R (k r) (k' r')) → ErrStays k → R (t.bind k) (t'.bind k'))
    (hblock : ∀ {r r'}, SameVerdict S r r' → SameVerdict S (blockPost r) (blockPost r'))
    (hneg : ∀ {st st' r r'}, S st st' → SameVerdict S r r' → SameVerdict S (negPost st.ml.length r) (negPost st'.ml.length r'))
    (happ : ∀ {st st'} lno part, S st st' →
      ((app st.ml (sentinel lno part)).2 = (app' st'.ml (sentinel lno part)).2 ∧
        S { st with ml := (app st.ml (sentinel lno part)).1 } { st' with ml := (app' st'.ml (sentinel lno part)).1 }) ∨
      ((app st.ml (sentinel lno part)).2 = true ∧
        ∀ t', R (.ret (.error, { st with ml := (app st.ml (sentinel lno part)).1 })) t'))
    (e : Expr) (hleaf : ∀ n ∈ e.leaves, ∀ part m st st', S st st' → R (ev n part m st) (ev' n part m st')) :
    ∀ part m st st', S st st' → R (ev e part m st) (ev' e part m st') := by
  have hthen : ∀ {t : Tri} {next next' : St → Ask (Tri × St)}, (∀ s s', S s s' → R (next s) (next' s')) →
      ∀ r r', SameVerdict S r r' → R (thenK t next r) (thenK t next' r') := by
    intro t next next' hn r r' hr
    unfold thenK
    rw [← hr.1]
    split
    · exact hn _ _ hr.2
    · exact hret hr
  have hattB : ∀ {ev0 : Tri} {next next' : Tri → St → Ask (Tri × St)}, (∀ v s s', S s s' → R (next v s) (next' v s')) →
      ∀ r r', SameVerdict S r r' → R (attBlockK ev0 next r) (attBlockK ev0 next' r') := by
    rintro ev0 next next' hn ⟨v, s⟩ ⟨v', s'⟩ ⟨hv, hs⟩
    cases hv
    cases v
    · exact hn _ _ _ hs
    · exact hn _ _ _ hs
    · exact hret ⟨rfl, hs⟩
  induction e with
  | block lno e ih =>
    intro part m st st' hS
    rw [h.block, h'.block]
    exact hbind (ih hleaf part m st st' hS) (fun _ _ hr => hret (hblock hr)) (fun _ => rfl)
  | neg lno e ih =>
    intro part m st st' hS
    rw [h.neg, h'.neg]
    exact hbind (ih hleaf part m st st' hS) (fun _ _ hr => hret (hneg hS hr)) (fun _ => rfl)
  | and lno l r ihl ihr =>
    intro part m st st' hS
    rw [h.and, h'.and]
    exact hbind (ihl (fun n hn => hleaf n (List.mem_append_left _ hn)) part m st st' hS)
      (hthen (ihr (fun n hn => hleaf n (List.mem_append_right _ hn)) part m)) (errStays_thenK (by decide) _)
  | or lno l r ihl ihr =>
    intro part m st st' hS
    rw [h.or, h'.or]
    exact hbind (ihl (fun n hn => hleaf n (List.mem_append_left _ hn)) part m st st' hS)
      (hthen (ihr (fun n hn => hleaf n (List.mem_append_right _ hn)) part m)) (errStays_thenK (by decide) _)
  | mtch lno c rhs ihc ihr =>
    intro part m st st' hS
    rw [h.mtch, h'.mtch]
    rcases happ lno part hS with ⟨hf, hS1⟩ | ⟨hf, hstop⟩
    · rw [hf]
      split
      · exact hret ⟨rfl, hS1⟩
      · exact hbind (ihc (fun n hn => hleaf n (List.mem_append_left _ hn)) part m _ _ hS1)
          (hthen (ihr (fun n hn => hleaf n (List.mem_append_right _ hn)) part m)) (errStays_thenK (by decide) _)
    · rw [if_pos hf]
      exact hstop _
  | attachment lno e ih =>
    intro part m st st' hS
    rw [h.attachment, h'.attachment]
    cases getAttachments m with
    | none => exact hret ⟨rfl, hS⟩
    | some parts =>
      generalize 0 = i
      induction parts generalizing i st st' with
      | nil => exact hret ⟨rfl, hS⟩
      | cons p rest ihp =>
        exact hbind (ih hleaf _ p st st' hS) (hthen fun s s' hs => ihp s s' hs _) (errStays_thenK (by decide) _)
  | attBlock lno e ih =>
    intro part m st st' hS
    rw [h.attBlock, h'.attBlock]
    cases getAttachments m with
    | none => exact hret ⟨rfl, hS⟩
    | some parts =>
      generalize 0 = i
      generalize Tri.nomatch = ev0
      induction parts generalizing i ev0 st st' with
      | nil => exact hret ⟨rfl, hS⟩
      | cons p rest ihp =>
        exact hbind (ih hleaf _ p st st' hS) (hattB fun v s s' hs => ihp s s' hs _ v) (fun _ => rfl)
  | _ => exact hleaf _ (List.mem_singleton.2 rfl)

/-- The walk from one start state (`S` is equality). -/
theorem IsEvalT.rel (h : IsEvalT app ev) (h' : IsEvalT app' ev') (hret : ∀ a, R (.ret a) (.ret a))
    (hbind : ∀ {t t' : Ask (Tri × St)} {f g : Tri × St → Ask (Tri × St)}, R t t' → (∀ a, R (f a) (g a)) → ErrStays f →
      R (t.bind f) (t'.bind g))
    (happ : ∀ ml mh, app ml mh = app' ml mh ∨ ((app ml mh).2 = true ∧ ∀ s t', R (.ret (.error, s)) t'))
    (e : Expr) (hleaf : ∀ n ∈ e.leaves, ∀ part m st, R (ev n part m st) (ev' n part m st)) :
    ∀ part m st, R (ev e part m st) (ev' e part m st) := fun part m st =>
  h.walk h' (S := Eq) (fun hr => Prod.ext hr.1 hr.2 ▸ hret _)
    (fun ht hk hs => hbind ht (fun a => hk a a ⟨rfl, rfl⟩) hs)
    (fun hr => Prod.ext hr.1 hr.2 ▸ ⟨rfl, rfl⟩)
    (fun hS hr => hS ▸ Prod.ext hr.1 hr.2 ▸ ⟨rfl, rfl⟩)
    (fun {st st'} lno part hS => by
      cases hS
      rcases happ st.ml (sentinel lno part) with ha | ⟨ha, hR⟩
      · exact .inl ⟨congrArg _ ha, by rw [ha]⟩
      · exact .inr ⟨ha, hR _⟩)
    e (fun n hn part m st _ hS => hS ▸ hleaf n hn part m st) part m st st rfl

theorem IsEvalT.ext (h : IsEvalT app ev) (h' : IsEvalT app ev') (e : Expr)
    (hleaf : ∀ n ∈ e.leaves, ∀ part m st, ev n part m st = ev' n part m st) :
    ∀ part m st, ev e part m st = ev' e part m st :=
  h.rel h' (R := Eq) (fun _ => rfl) (fun ht hf _ => by rw [ht, funext hf]) (fun _ _ => .inl rfl) e hleaf

end walk

section
variable {app : MatchList → Match → MatchList × Bool} {ev : Expr → Nat → Msg → St → Ask (Tri × St)}
  {Pq : Req → Prop} {ok : Req → SysAns → Prop} {I : MatchList → Prop}

/-- The walk on the diagonal: the same state on both sides, and it satisfies `I`. -/
theorem IsEvalT.sat (h : IsEvalT app ev) (hsub : ∀ a b, I b → (∀ x ∈ a, x ∈ b) → I a)
    (happ : ∀ ml lno part, I ml → I (app ml { ty := .mtch, lno := lno, part := part }).1) (e : Expr)
    (hleaf : ∀ n ∈ e.leaves, ∀ part m st, I st.ml → (ev n part m st).Sat ok fun r => I r.2.ml) :
    ∀ part m st, I st.ml → (ev e part m st).Sat ok fun r => I r.2.ml := fun part m st hI =>
  h.walk h (S := fun s s' => s' = s ∧ I s.ml)
    (R := fun (t _ : Ask (Tri × St)) => t.Sat ok fun r : Tri × St => I r.2.ml)
    (fun hr => hr.2.2)
    (fun ht hk _ => ht.bind fun r hr => hk r r ⟨rfl, rfl, hr⟩)
    (fun {r r'} hr => by
      cases Prod.ext hr.1 hr.2.1.symm
      exact ⟨rfl, rfl, hsub _ _ hr.2.2 (blockPost_sub r)⟩)
    (fun {st st' r r'} hS hr => by
      cases hS.1
      cases Prod.ext hr.1 hr.2.1.symm
      exact ⟨rfl, rfl, hsub _ _ hr.2.2 (negPost_sub _ r)⟩)
    (fun {st st'} lno part hS => by
      cases hS.1
      exact .inl ⟨rfl, rfl, happ _ _ _ hS.2⟩)
    e (fun n hn part m st st' hS => by cases hS.1; exact hleaf n hn part m st hS.2) part m st st ⟨rfl, hI⟩

theorem IsEvalT.qs (h : IsEvalT app ev) (e : Expr) (hleaf : ∀ n ∈ e.leaves, ∀ part m st, (ev n part m st).Qs Pq) :
    ∀ part m st, (ev e part m st).Qs Pq :=
  h.rel h (R := fun (t _ : Ask (Tri × St)) => t.Qs Pq) (fun _ => True.intro) (fun ht hk _ => ht.bind hk)
    (fun _ _ => .inl rfl) e hleaf

end

/-- A pure evaluator as a computation that asks nothing: `Model.eval` and `evalL` are instances of `IsEvalT` too. -/
abbrev pureEv (f : Expr → Nat → Msg → St → Tri × St) : Expr → Nat → Msg → St → Ask (Tri × St) :=
  fun e part m st => .ret (f e part m st)

theorem thenK_ret (t : Tri) (f : St → Tri × St) (r : Tri × St) :
    thenK t (fun s => .ret (f s)) r = .ret (if r.1 = t then f r.2 else r) := by
  unfold thenK
  split <;> rfl

theorem attLoop_pure (f : Nat → Msg → St → Tri × St) (loop : List Msg → Nat → St → Tri × St) (part : Nat)
    (hnil : ∀ i st, loop [] i st = (.nomatch, st))
    (hcons : ∀ p rest i st, loop (p :: rest) i st =
      if (f (if part == 0 then i + 1 else part) p st).1 = .nomatch then
        loop rest (i + 1) (f (if part == 0 then i + 1 else part) p st).2
      else f (if part == 0 then i + 1 else part) p st) :
    ∀ ps i st, attLoop (fun k p s => .ret (f k p s)) part ps i st = .ret (loop ps i st) := by
  intro ps
  induction ps with
  | nil => intro i st; rw [attLoop, hnil]
  | cons p rest ih =>
    intro i st
    rw [attLoop, Ask.ret_bind, hcons, thenK]
    generalize f (if part == 0 then i + 1 else part) p st = r
    by_cases hr : r.1 = .nomatch
    · rw [if_pos hr, if_pos hr]; exact ih _ _
    · rw [if_neg hr, if_neg hr]

theorem attLoopB_pure (f : Nat → Msg → St → Tri × St) (loopB : List Msg → Nat → Tri → St → Tri × St) (part : Nat)
    (hnil : ∀ i ev st, loopB [] i ev st = (ev, st))
    (hcons : ∀ p rest i ev st, loopB (p :: rest) i ev st =
      match f (if part == 0 then i + 1 else part) p st with
      | (.error, st1) => (.error, st1)
      | (.match, st1) => loopB rest (i + 1) .match st1
      | (.nomatch, st1) => loopB rest (i + 1) ev st1) :
    ∀ ps i ev st, attLoopB (fun k p s => .ret (f k p s)) part ps i ev st = .ret (loopB ps i ev st) := by
  intro ps
  induction ps with
  | nil => intro i ev st; rw [attLoopB, hnil]
  | cons p rest ih =>
    intro i ev st
    rw [attLoopB, Ask.ret_bind, hcons]
    rcases f (if part == 0 then i + 1 else part) p st with ⟨t, s⟩
    cases t <;> simp only [attBlockK, ih]

theorem eval_isEvalT (env : Env) (root : Msg) : IsEvalT (matchesAppend env) (pureEv (eval env root)) where
  block lno e part m st := by
    simp only [pureEv, Ask.ret_bind, eval]
    rcases eval env root e part m st with ⟨t, s⟩
    cases t <;> rfl
  and lno l r part m st := by
    simp only [pureEv, Ask.ret_bind, eval, thenK_ret]
    rcases eval env root l part m st with ⟨t, s⟩
    cases t <;> rfl
  or lno l r part m st := by
    simp only [pureEv, Ask.ret_bind, eval, thenK_ret]
    rcases eval env root l part m st with ⟨t, s⟩
    cases t <;> rfl
  neg lno e part m st := by
    simp only [pureEv, Ask.ret_bind, eval]
    rcases eval env root e part m st with ⟨t, s⟩
    cases t <;> rfl
  mtch lno c rhs part m st := by
    simp only [pureEv, Ask.ret_bind, eval, thenK_ret]
    rcases matchesAppend env st.ml { ty := .mtch, lno := lno, part := part } with ⟨ml, failed⟩
    cases failed
    · simp only [Bool.false_eq_true, if_false]
      rcases eval env root c part m { st with ml := ml } with ⟨t, s⟩
      cases t <;> rfl
    · rfl
  attachment lno e part m st := by
    simp only [pureEv, eval]
    cases getAttachments m with
    | none => rfl
    | some parts =>
      refine (attLoop_pure (eval env root e) (eval.loop env root e part) part (fun _ _ => by rw [eval.loop])
        (fun p rest i st => ?_) parts 0 st).symm
      rw [eval.loop]
      rcases eval env root e (if part == 0 then i + 1 else part) p st with ⟨t, s⟩
      cases t <;> rfl
  attBlock lno e part m st := by
    simp only [pureEv, eval]
    cases getAttachments m with
    | none => rfl
    | some parts =>
      refine (attLoopB_pure (eval env root e) (eval.loopB env root e part) part (fun _ _ _ => by rw [eval.loopB])
        (fun p rest i ev st => ?_) parts 0 .nomatch st).symm
      rw [eval.loopB]
      rcases eval env root e (if part == 0 then i + 1 else part) p st with ⟨t, s⟩
      cases t <;> rfl

end Mdsort.Model

/-! The three leaves that ask, in closed form: each asks one question, or none when its strings do not interpolate, and
returns at once; the match list is left as it was (the entry appended for the interpolation is no path, so
`matches_append` cannot fail, and it is removed again). -/

namespace Mdsort.Proofs
open Mdsort Mdsort.Model

/-- The path `isdirectory "path"` asks about when the entries `before` precede it: both copies must fit `PATH_MAX`. -/
def statPath (before : MatchList) (path : Bytes) : Option Bytes :=
  match strlcpyFits PATH_MAX path with
  | none => none
  | some p =>
    match interpolate before none p with
    | none => none
    | some ip => strlcpyFits PATH_MAX ip

theorem statTri_eq (env : Env) (before : MatchList) (path : Bytes) :
    statTri env before path =
      match statPath before path with
      | none => .error
      | some ip => if env.isDir ip then .match else .nomatch := by
  unfold statTri
  -- the two functions split alike; where both copies fit, the two sides are the same `match` on the second
  fun_cases statPath before path <;> simp only [*]
  rfl

theorem evalT_command (env : Env) (root : Msg) (lno : Nat) (argv : List Bytes) (part : Nat) (m : Msg) (st : St) :
    evalT env root (.command lno argv) part m st =
      match argv.mapM (interpolate st.ml none) with
      | none => .ret (.error, st)
      | some av => .ask (.command av) fun a => .ret (commandTri (ansStatus a), st) := by
  simp only [evalT, matchesAppend_plain env st.ml { ty := .command, lno := lno, part := part, strings := argv } rfl rfl,
    List.dropLast_concat, Bool.false_eq_true, if_false]
  cases argv.mapM (interpolate st.ml none) <;> cases st <;> rfl

theorem evalT_stat (env : Env) (root : Msg) (lno : Nat) (path : Bytes) (part : Nat) (m : Msg) (st : St) :
    evalT env root (.stat lno path) part m st =
      match statPath st.ml path with
      | none => .ret (.error, st)
      | some ip => .ask (.isDir ip) fun a => .ret (if ansIsDir a then .match else .nomatch, st) := by
  simp only [evalT, matchesAppend_plain env st.ml { ty := .stat, lno := lno, part := part, strings := [path] } rfl rfl,
    List.dropLast_concat, Bool.false_eq_true, if_false]
  -- a row of `statPath` decides the nested `match`es of `evalT` (its equations, `simp only [*]`); the sides then differ in `st`
  -- against the record written out
  fun_cases statPath st.ml path <;> simp only [*] <;> cases st <;> rfl

/-- A file-time `date` condition: `stat` of the message's path, then what `expr_eval_date` makes of the time of the field and
its text (`dateOutcome`, Proofs/DateFields.lean; `none`: `stat` or `time_format` failed). -/
theorem evalT_fileDate (env : Env) (root : Msg) (lno : Nat) {f : DateField} (hf : f ≠ .header) (cmp : DateCmp) (age : Nat)
    (part : Nat) (m : Msg) (st : St) :
    evalT env root (.date lno f cmp age) part m st =
      .ask (.fileTime env.path f) fun a =>
        .ret (dateOutcome env lno cmp age part st ((ansFileTime env.timeFormat f a).map some)) := by
  cases f with
  | header => exact absurd rfl hf
  | access | modified | created =>
    simp only [evalT, ask, Ask.ask_bind, Ask.ret_bind]
    congr 1
    funext a
    cases ansFileTime env.timeFormat _ a with
    | none => rfl
    | some td => exact (apply_ite Ask.ret ..).symm.trans (congrArg Ask.ret (date_tail env lno cmp age part st td.1 td.2))

/-- Type and strings of the entry the evaluation of a node appends to the match list; `none`: it appends nothing. -/
def entryOf : Expr → Option (MType × List Bytes)
  | .mtch .. => some (.mtch, [])
  | .body .. => some (.body, [])
  | .date .. => some (.date, [])
  | .header .. => some (.header, [])
  | .stat _ path => some (.stat, [path])
  | .command _ argv => some (.command, argv)
  | .move _ path => some (.move, [path])
  | .flag _ subdir => some (.flag, [subdir])
  | .flags _ fl => some (.flags, [fl])
  | .discard _ => some (.discard, [])
  | .brk _ => some (.brk, [])
  | .label _ ls => some (.label, ls)
  | .pass _ => some (.pass, [])
  | .reject _ => some (.reject, [])
  | .exec _ _ _ argv => some (.exec, argv)
  | .addHeader .. => some (.addHeader, [])
  | _ => none

section
variable {e1 e2 : Env} {S : St → St → Prop}

theorem dateOutcome_rel (hnow : e1.now = e2.now) (lno : Nat) (cmp : DateCmp) (age part : Nat) {st st' : St} (hS : S st st')
    (hreg : ∀ p k v, SameVerdict S (regexHit e1 .date lno part p k v st) (regexHit e2 .date lno part p k v st'))
    (x : Option (Option (Int × Bytes))) :
    SameVerdict S (dateOutcome e1 lno cmp age part st x) (dateOutcome e2 lno cmp age part st' x) := by
  unfold dateOutcome
  split
  · exact ⟨rfl, hS⟩
  · exact ⟨rfl, hS⟩
  · rw [hnow]
    split
    · -- a `date` entry is no path: `expr_regexec` is `regexHit`
      rw [exprRegexec_eq e1 _ _ _ _ _ _ _ date_not_path (by decide), exprRegexec_eq e2 _ _ _ _ _ _ _ date_not_path (by decide)]
      exact hreg _ _ _
    · exact ⟨rfl, hS⟩

/-- What a leaf that asks nothing reads and does, said of two evaluations from related states (of one: `S` on the diagonal).
Of the environment it reads `rx`, `now`, `strptime`, `zoneName` and `path`, of the state the flags; it changes the state by
setting flags, by `expr_regexec` of a type that is no path (`regexHit`, `hreg`) and by `matches_append` of an entry that has the
type and the strings of the node and neither key nor value (`happ`), and in no other way. -/
theorem eval_leaf_rel (root : Msg) {n : Expr} (hn : asksNothing n = true)
    (hrx : e1.rx = e2.rx) (hnow : e1.now = e2.now) (hstrp : e1.strptime = e2.strptime) (hzone : e1.zoneName = e2.zoneName)
    (hpath : e1.path = e2.path) (part : Nat) (m : Msg) {st st' : St} (hS : S st st') (hfl : st.flags = st'.flags)
    (hset : ∀ mf, S { st with flags := mf } { st' with flags := mf })
    (hreg : ∀ ty lno p k v, entryOf n = some (ty, []) →
      SameVerdict S (regexHit e1 ty lno part p k v st) (regexHit e2 ty lno part p k v st'))
    (happ : ∀ (mh : Match) s s' ok, S s s' → { mh with key := none, val := none } = mh → entryOf n = some (mh.ty, mh.strings) →
      SameVerdict S (exprAppend e1 mh s ok) (exprAppend e2 mh s' ok)) :
    SameVerdict S (eval e1 root n part m st) (eval e2 root n part m st') := by
  cases n with
  | block | and | or | neg | mtch | attachment | attBlock | stat | command => cases hn
  | all => simp only [eval]; exact ⟨rfl, hS⟩
  | new => simp only [eval, hpath]; exact ⟨rfl, hS⟩
  | old =>
    simp only [eval, hpath, hfl]
    cases flagsIsSet (if (part == 0) = true then st'.flags else MFlags.empty) 83 <;> exact ⟨rfl, hS⟩
  | body lno p =>
    rw [eval_body_eq, eval_body_eq]
    cases getBody m with
    | none => exact ⟨rfl, hS⟩
    | some b => exact hreg .body lno p _ b rfl
  | date lno f cmp age =>
    cases f with
    | access | modified | created => cases hn
    | header =>
      rw [date_fields, date_fields, show dateInstant e1 m .header = dateInstant e2 m .header by simp only [dateInstant, hstrp, hzone]]
      exact dateOutcome_rel hnow lno cmp age part hS (fun p k v => hreg .date lno p k v rfl) _
  | header lno names p =>
    rw [eval_header_model, eval_header_model, hrx]
    cases Spec.firstNonNomatch (e2.rx p) (modelCands m names) with
    | none => exact ⟨rfl, hS⟩
    | some c => exact hreg .header lno p c.1 c.2 rfl
  | move lno path =>
    simp only [eval]
    cases strlcpyFits PATH_MAX path with
    | none => exact ⟨rfl, hS⟩
    | some p => exact happ _ _ _ _ hS rfl rfl
  | flag lno subdir =>
    simp only [eval]
    cases strlcpyFits NAME_MAX1 subdir with
    | none => exact ⟨rfl, hS⟩
    | some p => exact happ _ _ _ _ hS rfl rfl
  | flags lno fl =>
    simp only [eval, hfl]
    rcases eval.setAll fl st'.flags false with ⟨mf, err⟩
    cases err
    · exact happ { ty := .flags, lno := lno, part := part, strings := [fl] } _ _ _ (hset mf) rfl rfl
    · exact ⟨rfl, hset mf⟩
  | discard | brk | label | pass | reject | exec | addHeader => simp only [eval]; exact happ _ _ _ _ hS rfl rfl

end

end Mdsort.Proofs
