import Mdsort.Proofs.WorldFs

/-! Effect of one call on the observations of the abstract file system: the frame lemmas (what no call changes unless ...,
each by cases on `Upd`), and one equation `core_<call>_<result>` for every call and every result it can have (the table is
meant to be complete: an entry need not have a user). -/

namespace Mdsort.Proofs.World
open Mdsort Mdsort.Model

@[simp] theorem nextFid_setObj (w : World) (h : Handle) (o : Obj) : (w.setObj h o).nextFid = w.nextFid := rfl
@[simp] theorem nextFid_setFile (w : World) (fid : Nat) (f : File) : (w.setFile fid f).nextFid = w.nextFid := rfl
@[simp] theorem nextFid_newHandle (w : World) (o : Obj) : (w.newHandle o).1.nextFid = w.nextFid := rfl
@[simp] theorem nextFid_bind (w : World) (p n : Bytes) (fid : Nat) : (w.bind p n fid).nextFid = w.nextFid := by
  unfold World.bind; split <;> rfl
@[simp] theorem nextFid_unbind (w : World) (p n : Bytes) : (w.unbind p n).nextFid = w.nextFid := by
  unfold World.unbind; split <;> rfl

@[simp] theorem devs_bind (w : World) (p n : Bytes) (fid : Nat) : (w.bind p n fid).devs = w.devs := by
  unfold World.bind; split <;> rfl
@[simp] theorem devs_unbind (w : World) (p n : Bytes) : (w.unbind p n).devs = w.devs := by
  unfold World.unbind; split <;> rfl
@[simp] theorem handles_bind (w : World) (p n : Bytes) (fid : Nat) : (w.bind p n fid).handles = w.handles := by
  unfold World.bind; split <;> rfl
@[simp] theorem handles_unbind (w : World) (p n : Bytes) : (w.unbind p n).handles = w.handles := by
  unfold World.unbind; split <;> rfl

@[simp] theorem file_setObj (w : World) (h : Handle) (o : Obj) (g : Nat) : (w.setObj h o).file g = w.file g := rfl
@[simp] theorem file_newHandle (w : World) (o : Obj) (g : Nat) : (w.newHandle o).1.file g = w.file g := rfl
@[simp] theorem file_bind (w : World) (p n : Bytes) (fid g : Nat) : (w.bind p n fid).file g = w.file g := by
  unfold World.bind; split <;> rfl
@[simp] theorem file_unbind (w : World) (p n : Bytes) (g : Nat) : (w.unbind p n).file g = w.file g := by
  unfold World.unbind; split <;> rfl

@[simp] theorem lookup_setObj (w : World) (h : Handle) (o : Obj) (p n : Bytes) : (w.setObj h o).lookup p n = w.lookup p n := rfl
@[simp] theorem lookup_newHandle (w : World) (o : Obj) (p n : Bytes) : (w.newHandle o).1.lookup p n = w.lookup p n := rfl
@[simp] theorem lookup_setFile (w : World) (fid : Nat) (f : File) (p n : Bytes) : (w.setFile fid f).lookup p n = w.lookup p n := rfl
@[simp] theorem dir_setObj (w : World) (h : Handle) (o : Obj) (p : Bytes) : (w.setObj h o).dir p = w.dir p := rfl
@[simp] theorem dir_newHandle (w : World) (o : Obj) (p : Bytes) : (w.newHandle o).1.dir p = w.dir p := rfl
@[simp] theorem dir_setFile (w : World) (fid : Nat) (f : File) (p : Bytes) : (w.setFile fid f).dir p = w.dir p := rfl

@[simp] theorem obj_setFile (w : World) (fid : Nat) (f : File) (h : Handle) : (w.setFile fid f).obj h = w.obj h := rfl
@[simp] theorem obj_bind (w : World) (p n : Bytes) (fid : Nat) (h : Handle) : (w.bind p n fid).obj h = w.obj h := by
  unfold World.bind; split <;> rfl
@[simp] theorem obj_unbind (w : World) (p n : Bytes) (h : Handle) : (w.unbind p n).obj h = w.obj h := by
  unfold World.unbind; split <;> rfl
@[simp] theorem dirPath_setFile (w : World) (fid : Nat) (f : File) (h : Handle) : (w.setFile fid f).dirPath h = w.dirPath h := rfl

@[simp] theorem len_setObj (w : World) (h : Handle) (o : Obj) : (w.setObj h o).handles.length = w.handles.length := by
  simp [World.setObj]
@[simp] theorem len_newHandle (w : World) (o : Obj) : (w.newHandle o).1.handles.length = w.handles.length + 1 := by
  simp [World.newHandle]
@[simp] theorem len_setFile (w : World) (fid : Nat) (f : File) : (w.setFile fid f).handles.length = w.handles.length := rfl
@[simp] theorem len_bind (w : World) (p n : Bytes) (fid : Nat) : (w.bind p n fid).handles.length = w.handles.length := by
  unfold World.bind; split <;> rfl
@[simp] theorem len_unbind (w : World) (p n : Bytes) : (w.unbind p n).handles.length = w.handles.length := by
  unfold World.unbind; split <;> rfl

@[simp] theorem dirs_setObj (w : World) (h : Handle) (o : Obj) : (w.setObj h o).dirs = w.dirs := rfl
@[simp] theorem dirs_setFile (w : World) (fid : Nat) (f : File) : (w.setFile fid f).dirs = w.dirs := rfl
@[simp] theorem dirs_newHandle (w : World) (o : Obj) : (w.newHandle o).1.dirs = w.dirs := rfl

@[simp] theorem mtimes_setObj (w : World) (h : Handle) (o : Obj) : (w.setObj h o).mtimes = w.mtimes := rfl
@[simp] theorem mtimes_setFile (w : World) (fid : Nat) (f : File) : (w.setFile fid f).mtimes = w.mtimes := rfl
@[simp] theorem mtimes_setDir (w : World) (p : Bytes) (es : List (Bytes × Nat)) : (w.setDir p es).mtimes = w.mtimes := rfl
@[simp] theorem mtimes_newHandle (w : World) (o : Obj) : (w.newHandle o).1.mtimes = w.mtimes := rfl
@[simp] theorem mtimes_bind (w : World) (p n : Bytes) (fid : Nat) : (w.bind p n fid).mtimes = w.mtimes := by
  unfold World.bind; split <;> rfl
@[simp] theorem mtimes_unbind (w : World) (p n : Bytes) : (w.unbind p n).mtimes = w.mtimes := by
  unfold World.unbind; split <;> rfl

theorem dir_append_isSome (w : World) (p q : Bytes) (h : (w.dir p).isSome) :
    (({ w with dirs := w.dirs ++ [(q, [])] } : World).dir p).isSome := by
  unfold World.dir at h ⊢
  simp only [List.find?_append, Option.isSome_map] at h ⊢
  cases hf : List.find? (fun x => x.1 == p) w.dirs with
  | none => simp [hf] at h
  | some x => simp

theorem lookup_of_dirs {w w' : World} (h : w'.dirs = w.dirs) (p n : Bytes) : w'.lookup p n = w.lookup p n := by
  unfold World.lookup World.dir; rw [h]
theorem dir_of_dirs {w w' : World} (h : w'.dirs = w.dirs) (p : Bytes) : w'.dir p = w.dir p := by
  unfold World.dir; rw [h]
theorem file_of_files {w w' : World} (h : w'.files = w.files) (g : Nat) : w'.file g = w.file g := by
  unfold World.file; rw [h]

theorem core_nextFid (w : World) (c : Call) (r : Res) : w.nextFid ≤ (core w c r).nextFid := by
  core_cases w c r <;>
    simp only [nextFid_setObj, nextFid_setFile, nextFid_newHandle, nextFid_bind, nextFid_unbind, World.setMtime, Nat.le_refl, Nat.le_add_right]

theorem core_len (w : World) (c : Call) (r : Res) : w.handles.length ≤ (core w c r).handles.length := by
  core_cases w c r <;>
    simp only [len_setObj, len_setFile, len_newHandle, len_bind, len_unbind, World.setMtime, Nat.le_refl, Nat.le_add_right]

theorem core_obj (w : World) (c : Call) (r : Res) (h : Handle) (hl : h < w.handles.length) (hs : Call.subject c ≠ some h) :
    (core w c r).obj h = w.obj h := by
  have hne : ¬ h = w.handles.length := Nat.ne_of_lt hl
  have hs' : ∀ x, Call.subject c = some x → ¬ h = x := fun x hx e => hs (e ▸ hx)
  core_cases w c r
  case dirPos _ hsub => simp only [obj_setObj, hs' _ hsub, false_and, if_false]
  case closedir | close | fcloseOnly | read | writeFile | writeStream | fprintfFile | fprintfStream | fdopen | fflush | fclose =>
    simp only [obj_setObj, obj_setFile, hs' _ rfl, false_and, if_false]
  case handle => simp only [obj_newHandle, hne, if_false]
  case openExcl | mkostemp =>
    simp only [obj_newHandle, len_bind, len_setFile, hne, if_false, obj_bind, obj_setFile]
    rfl
  case renameat | unlinkat => simp only [obj_bind, obj_unbind]
  all_goals rfl

theorem Call.released_cases {c : Call} {h : Handle} (hr : Call.released c = some h) :
    c = .closedir h ∨ c = .close h ∨ c = .fclose h := by
  revert hr
  fun_cases Call.released c <;> intro hr <;> cases hr <;> simp only [true_or, or_true]

/-- What one call can make of the object behind handle `h`: it moves within the same directory or file, is
released, or (a descriptor) becomes a stream on its file. -/
inductive ObjStep (c : Call) (h : Handle) : Obj → Obj → Prop
  | same (o : Obj) : ObjStep c h o o
  | closed {o : Obj} : Call.released c = some h → (∀ p sn pos, o = .dir p sn pos → c ≠ .fclose h) → ObjStep c h o .closed
  | dir {p : Bytes} {sn sn' : Option (List Bytes)} {pos pos' : Nat} : ObjStep c h (.dir p sn pos) (.dir p sn' pos')
  | file {fid off off' : Nat} {wr : Bool} : ObjStep c h (.file fid off wr) (.file fid off' wr)
  | stream {fid : Nat} {buf buf' : Bytes} : ObjStep c h (.stream fid buf) (.stream fid buf')
  | fdopen {fid off : Nat} {wr : Bool} : c = .fdopen h → ObjStep c h (.file fid off wr) (.stream fid [])

theorem ObjStep.setObj {c : Call} {h x : Handle} {o : Obj} (w : World) (hx : h = x → ObjStep c h (w.obj h) o) :
    ObjStep c h (w.obj h) ((w.setObj x o).obj h) := by
  rw [obj_setObj]
  split
  · next hc => exact hx hc.1
  · exact .same _

theorem core_objStep (w : World) (c : Call) (r : Res) (h : Handle) (hl : h < w.handles.length) :
    ObjStep c h (w.obj h) ((core w c r).obj h) := by
  by_cases hs : Call.subject c = some h
  · core_cases w c r
    case refl => exact .same _
    case dirPos ho _ => exact .setObj w (by rintro rfl; rw [ho]; exact .dir)
    case closedir | close => exact .setObj w (by rintro rfl; exact .closed rfl (by rintro _ _ _ _ ⟨⟩))
    case fcloseOnly ho => exact .setObj w (by rintro rfl; exact .closed rfl (fun p sn pos e => absurd e (ho p sn pos)))
    case handle =>
      rw [obj_newHandle, if_neg (Nat.ne_of_lt hl)]
      exact .same _
    case read ho => exact .setObj w (by rintro rfl; rw [ho]; exact .file)
    case writeFile ho _ | fprintfFile ho _ =>
      exact .setObj (World.setFile w _ _) (by rintro rfl; rw [obj_setFile, ho]; exact .file)
    case writeStream ho | fprintfStream ho => exact .setObj w (by rintro rfl; rw [ho]; exact .stream)
    case fflush ho _ => exact .setObj (World.setFile w _ _) (by rintro rfl; rw [obj_setFile, ho]; exact .stream)
    case fdopen ho => exact .setObj w (by rintro rfl; rw [ho]; exact .fdopen rfl)
    case fclose ho _ =>
      exact .setObj (World.setFile w _ _) (by rintro rfl; exact .closed rfl (fun _ _ _ e => by rw [obj_setFile, ho] at e; cases e))
    all_goals cases hs
  · rw [core_obj w c r h hl hs]
    exact .same _

theorem dirPath_of_obj {w : World} {d : Handle} {p : Bytes} {snap : Option (List Bytes)} {pos : Nat}
    (h : w.obj d = .dir p snap pos) : w.dirPath d = some p := by
  simp [World.dirPath, h]

theorem obj_of_dirPath {w : World} {d : Handle} {p : Bytes} (h : w.dirPath d = some p) :
    ∃ snap pos, w.obj d = .dir p snap pos := by
  unfold World.dirPath at h
  split at h
  · next ho => cases h; exact ⟨_, _, ho⟩
  · cases h

theorem dirPath_congr {w w' : World} {d : Handle} (h : w'.obj d = w.obj d) : w'.dirPath d = w.dirPath d := by
  unfold World.dirPath; rw [h]

/-- A directory stream stays on its directory under every call but its own `close` / `closedir`. -/
theorem core_obj_dir {w : World} {d : Handle} {p : Bytes} {snap : Option (List Bytes)} {pos : Nat} (c : Call) (r : Res)
    (ho : w.obj d = .dir p snap pos) (hk : c ≠ .close d ∧ c ≠ .closedir d) :
    ∃ snap' pos', (core w c r).obj d = .dir p snap' pos' := by
  have hst := core_objStep w c r d (lt_of_obj_ne_closed w d (by rw [ho]; exact nofun))
  rw [ho] at hst
  generalize (core w c r).obj d = o' at hst ⊢
  cases hst with
  | same => exact ⟨_, _, rfl⟩
  | closed hr hd =>
    rcases Call.released_cases hr with e | e | e
    · exact absurd e hk.2
    · exact absurd e hk.1
    · exact absurd e (hd _ _ _ rfl)
  | dir => exact ⟨_, _, rfl⟩

theorem core_dirPath {w : World} {d : Handle} {p : Bytes} (c : Call) (r : Res) (hp : w.dirPath d = some p)
    (hk : c ≠ .close d ∧ c ≠ .closedir d) : (core w c r).dirPath d = some p := by
  obtain ⟨sn, pos, ho⟩ := obj_of_dirPath hp
  obtain ⟨sn', pos', ho'⟩ := core_obj_dir c r ho hk
  exact dirPath_of_obj ho'

/-- The call does not remove or replace the entry `(p0, n0)`.  `mkdtemp`, `mkdir`, `rmdir` are excluded wholesale: `lookup` goes
through the list of directories, which they change. -/
def dirSafe (w : World) (p0 n0 : Bytes) : Call → Prop
  | .unlinkat d n => ¬ (w.dirPath d = some p0 ∧ n = n0)
  | .renameat d1 n1 d2 n2 => ¬ (w.dirPath d1 = some p0 ∧ n1 = n0) ∧ ¬ (w.dirPath d2 = some p0 ∧ n2 = n0)
  | .mkdtemp _ | .mkdir _ | .rmdir _ => False
  | _ => True

theorem core_lookup (w : World) (c : Call) (r : Res) (p0 n0 : Bytes) (fid0 : Nat)
    (hl : w.lookup p0 n0 = some fid0) (hs : dirSafe w p0 n0 c) : (core w c r).lookup p0 n0 = some fid0 := by
  core_cases w c r
  case openExcl p hp hfree =>
    rw [lookup_newHandle, lookup_bind_ne]
    · exact hl
    · rintro ⟨rfl, rfl⟩
      rw [hfree] at hl
      cases hl
  case renameat p1 p2 fid hp1 hp2 _ =>
    rw [lookup_bind_ne, lookup_unbind, if_neg, hl]
    · rintro ⟨rfl, rfl⟩
      exact hs.1 ⟨hp1, rfl⟩
    · rintro ⟨rfl, rfl⟩
      exact hs.2 ⟨hp2, rfl⟩
  case unlinkat p fid hp _ =>
    rw [lookup_unbind, if_neg, hl]
    rintro ⟨rfl, rfl⟩
    exact hs ⟨hp, rfl⟩
  case mkdtemp | mkdir | rmdir => exact hs.elim
  all_goals exact hl

/-- The call does not write through a handle that refers to file `fid0`. -/
def fileSafe (w : World) (fid0 : Nat) : Call → Prop
  | .write fd _ | .fprintf fd _ | .fsync fd | .fflush fd | .fclose fd => objFid (w.obj fd) ≠ some fid0
  | _ => True

theorem core_file (w : World) (c : Call) (r : Res) (fid0 : Nat)
    (hl : fid0 < w.nextFid) (hs : fileSafe w fid0 c) : (core w c r).file fid0 = w.file fid0 := by
  have hne : ¬ fid0 = w.nextFid := Nat.ne_of_lt hl
  core_cases w c r
  case writeFile ho _ | fprintfFile ho _ | fflush ho _ | fclose ho _ =>
    have : ¬ fid0 = _ := fun e => hs (by rw [ho, e]; rfl)
    simp only [file_setObj, file_setFile, this, if_false]
  case fsync ho _ =>
    have : ¬ fid0 = _ := fun e => hs (by rw [ho, e])
    simp only [file_setFile, this, if_false]
  case openExcl | mkostemp =>
    simp only [file_newHandle, file_bind, file_setFile, hne, if_false]
    rfl
  case renameat | unlinkat => simp only [file_bind, file_unbind]
  all_goals rfl

theorem core_dir_isSome (w : World) (c : Call) (r : Res) (p : Bytes)
    (hd : (w.dir p).isSome) (hc : ∀ q, c ≠ .rmdir q) : ((core w c r).dir p).isSome := by
  core_cases w c r
  case rmdir => exact absurd rfl (hc _)
  case mkdtemp | mkdir => exact dir_append_isSome w p _ hd
  case openExcl | renameat | unlinkat =>
    simp only [dir_newHandle, dir_bind_isSome, dir_unbind_isSome, dir_setFile]
    exact hd
  all_goals exact hd

-- What `stepWorld` passes on from `core` (`stepWorld_mtime` at the end of the file belongs with them).  `by rfl`, not `:= rfl`: a
-- `simp` lemma closed by the term `rfl` is also checked to hold by unfolding instances only, and that check compares
-- `stepWorld w c r` with `core w c r` first and walks `applyOk` before it gives up - slow to check.
@[simp] theorem stepWorld_lookup (w : World) (c : Call) (r : Res) (p n : Bytes) : (stepWorld w c r).lookup p n = (core w c r).lookup p n := by rfl
@[simp] theorem stepWorld_dir (w : World) (c : Call) (r : Res) (p : Bytes) : (stepWorld w c r).dir p = (core w c r).dir p := by rfl
@[simp] theorem stepWorld_file (w : World) (c : Call) (r : Res) (g : Nat) : (stepWorld w c r).file g = (core w c r).file g := by rfl
@[simp] theorem stepWorld_obj (w : World) (c : Call) (r : Res) (h : Handle) : (stepWorld w c r).obj h = (core w c r).obj h := by rfl
@[simp] theorem stepWorld_dirPath (w : World) (c : Call) (r : Res) (h : Handle) : (stepWorld w c r).dirPath h = (core w c r).dirPath h := by rfl
@[simp] theorem stepWorld_nextFid (w : World) (c : Call) (r : Res) : (stepWorld w c r).nextFid = (core w c r).nextFid := by rfl
@[simp] theorem stepWorld_handles (w : World) (c : Call) (r : Res) : (stepWorld w c r).handles = (core w c r).handles := by rfl
@[simp] theorem stepWorld_dirs (w : World) (c : Call) (r : Res) : (stepWorld w c r).dirs = (core w c r).dirs := by rfl

theorem dirPath_step {w : World} {h : Handle} {p : Bytes} (hp : w.dirPath h = some p) (c : Call) (r : Res)
    (hs : Call.subject c ≠ some h) : (stepWorld w c r).dirPath h = some p := by
  rw [← hp, stepWorld_dirPath]
  exact dirPath_congr (core_obj w c r h (lt_of_dirPath hp) hs)

/-- Calls that can change `World.dirs`. -/
def Call.dirOp : Call → Bool
  | .openExcl .. | .renameat .. | .unlinkat .. | .mkdtemp .. | .mkdir .. | .rmdir .. => true
  | _ => false

/-- Calls that take a new file id. -/
def Call.creates : Call → Bool
  | .openExcl .. | .mkostemp .. => true
  | _ => false

theorem core_dirs (w : World) (c : Call) (r : Res) (hc : Call.dirOp c = false) : (core w c r).dirs = w.dirs := by
  core_cases w c r
  case openExcl | renameat | unlinkat | mkdtemp | mkdir | rmdir => cases hc
  all_goals rfl

theorem dirSafe_of_not_dirOp {c : Call} (h : Call.dirOp c = false) (w : World) (p n : Bytes) : dirSafe w p n c := by
  cases c <;> first | trivial | (simp [Call.dirOp] at h)

def Call.mkrm : Call → Bool
  | .mkdtemp _ | .mkdir _ | .rmdir _ => true
  | _ => false

theorem core_dir_isSome_eq (w : World) (c : Call) (r : Res) (p : Bytes) (hc : Call.mkrm c = false) :
    ((core w c r).dir p).isSome = (w.dir p).isSome := by
  core_cases w c r
  case mkdtemp | mkdir | rmdir => cases hc
  case openExcl =>
    simp only [dir_newHandle, dir_bind_isSome, dir_setFile]
    rfl
  case renameat | unlinkat => simp only [dir_bind_isSome, dir_unbind_isSome]
  all_goals rfl

theorem mkrm_of_not_dirOp {c : Call} (h : Call.dirOp c = false) : Call.mkrm c = false := by
  cases c <;> first | rfl | (simp [Call.dirOp] at h)

theorem core_nextFid_eq (w : World) (c : Call) (r : Res) (hc : Call.creates c = false) : (core w c r).nextFid = w.nextFid := by
  core_cases w c r
  case openExcl | mkostemp => cases hc
  case renameat | unlinkat => simp only [nextFid_bind, nextFid_unbind]
  all_goals rfl

theorem core_devs (w : World) (c : Call) (r : Res) : (core w c r).devs = w.devs := by
  core_cases w c r
  case openExcl => exact devs_bind _ _ _ _
  case renameat => rw [devs_bind, devs_unbind]
  case unlinkat => rw [devs_unbind]
  all_goals rfl

/-- `utimensat`: the one call that changes a modification time (`core_mtimes`). -/
def Call.isUtimens : Call → Bool
  | .utimensat .. => true
  | _ => false

theorem core_mtimes (w : World) (c : Call) (r : Res) (hc : Call.isUtimens c = false) : (core w c r).mtimes = w.mtimes := by
  core_cases w c r
  case utimensat => cases hc
  case openExcl | renameat | unlinkat => simp only [mtimes_newHandle, mtimes_bind, mtimes_unbind, mtimes_setFile]
  all_goals rfl

@[simp] theorem stepWorld_mtimes (w : World) (c : Call) (r : Res) : (stepWorld w c r).mtimes = (core w c r).mtimes := by rfl

theorem core_fail (w : World) {c : Call} (e : String) (h : Call.released c = none) : core w c (.err e) = w := by
  cases c <;> first | rfl | cases h

theorem core_opendir_ok {w : World} {p : Bytes} (hd : (w.dir p).isSome) (v : Nat) :
    core w (.opendir p) (.ok v) = (w.newHandle (.dir p none 0)).1 := by
  obtain ⟨es, hes⟩ := Option.isSome_iff_exists.1 hd
  simp only [core, applyOk, hes, Option.map_some, Option.getD_some]

theorem core_readdir_name {w : World} {d : Handle} {p : Bytes} {snap : Option (List Bytes)} {pos : Nat} {n : Bytes}
    (ho : w.obj d = .dir p snap pos) (hn : (snap.getD ((w.dir p).map sortedNames |>.getD []))[pos]? = some n) :
    core w (.readdir d) (.name n) =
      w.setObj d (.dir p (some (snap.getD ((w.dir p).map sortedNames |>.getD []))) (pos + 1)) := by
  simp only [core, applyOk, ho, hn, beq_self_eq_true, if_true, Option.getD_some]

theorem core_readdir_eof {w : World} {d : Handle} {p : Bytes} {snap : Option (List Bytes)} {pos : Nat}
    (ho : w.obj d = .dir p snap pos) (hn : (snap.getD ((w.dir p).map sortedNames |>.getD [])).length ≤ pos) :
    core w (.readdir d) .eof = w.setObj d (.dir p (some (snap.getD ((w.dir p).map sortedNames |>.getD []))) pos) := by
  simp only [core, applyOk, ho, ge_iff_le, hn, if_true, Option.getD_some]

theorem predict_readdir_name {w : World} {d : Handle} {p : Bytes} {snap : Option (List Bytes)} {pos : Nat} {n : Bytes}
    (ho : w.obj d = .dir p snap pos) (hn : (snap.getD ((w.dir p).map sortedNames |>.getD []))[pos]? = some n) :
    predict w (.readdir d) = .name n := by
  simp only [predict, ho, hn]

theorem predict_readdir_eof {w : World} {d : Handle} {p : Bytes} {snap : Option (List Bytes)} {pos : Nat}
    (ho : w.obj d = .dir p snap pos) (hn : (snap.getD ((w.dir p).map sortedNames |>.getD []))[pos]? = none) :
    predict w (.readdir d) = .eof := by
  simp only [predict, ho, hn]

/-- On an open stream the predicted `readdir` is no failure. -/
theorem predict_readdir_ne_err {w : World} {d : Handle} {p : Bytes} {snap : Option (List Bytes)} {pos : Nat}
    (ho : w.obj d = .dir p snap pos) (e : String) : predict w (.readdir d) ≠ .err e := by
  cases hn : (snap.getD ((w.dir p).map sortedNames |>.getD []))[pos]? with
  | some n => rw [predict_readdir_name ho hn]; nofun
  | none => rw [predict_readdir_eof ho hn]; nofun

theorem core_rewinddir_ok {w : World} {d : Handle} {p : Bytes} {snap : Option (List Bytes)} {pos : Nat}
    (ho : w.obj d = .dir p snap pos) (v : Nat) : core w (.rewinddir d) (.ok v) = w.setObj d (.dir p none 0) := by
  simp only [core, applyOk, ho, Option.getD_some]

theorem core_closedir (w : World) (h : Handle) (r : Res) : core w (.closedir h) r = w.setObj h .closed := by
  cases r <;> rfl

theorem core_openRd_ok {w : World} {d : Handle} {n p : Bytes} {fid : Nat}
    (hp : w.dirPath d = some p) (hl : w.lookup p n = some fid) (v : Nat) :
    core w (.openRd d n) (.ok v) = (w.newHandle (.file fid 0 false)).1 := by
  simp only [core, applyOk, hp, hl, Option.bind_some, Option.map_some, Option.getD_some]

theorem core_openExcl_ok {w : World} {d : Handle} {n p : Bytes} (hp : w.dirPath d = some p) (hl : w.lookup p n = none) (v : Nat) :
    core w (.openExcl d n) (.ok v) =
      (((({ w with nextFid := w.nextFid + 1 } : World).setFile w.nextFid ⟨[], []⟩).bind p n w.nextFid).newHandle (.file w.nextFid 0 true)).1 := by
  simp only [core, applyOk, hp, hl, Option.bind_some, Option.getD_some]

/-- An exclusive create through no directory, or of a name that is bound, changes nothing whatever it returns. -/
theorem core_openExcl_taken {w : World} {d : Handle} {n : Bytes} (h : ∀ p, w.dirPath d = some p → w.lookup p n ≠ none)
    (r : Res) : core w (.openExcl d n) r = w := by
  cases r with
  | ok v =>
    refine core_eq_self_of_none ?_
    cases hp : w.dirPath d with
    | none => simp only [applyOk, hp, Option.bind_none]
    | some p =>
      cases hl : w.lookup p n with
      | none => exact absurd hl (h p hp)
      | some x => simp only [applyOk, hp, Option.bind_some, hl]
  | _ => rfl

theorem core_openPath_ok (w : World) (p : Bytes) (v : Nat) : core w (.openPath p) (.ok v) = (w.newHandle .other).1 := rfl

theorem core_fopen_ok (w : World) (p : Bytes) (v : Nat) : core w (.fopen p) (.ok v) = (w.newHandle .other).1 := rfl

theorem core_read_ok {w : World} {fd : Handle} {fid off : Nat} {wr : Bool} {f : File} (ho : w.obj fd = .file fid off wr)
    (hf : w.file fid = some f) (n : Nat) (h : off + n ≤ f.data.length) (h2 : 0 < n ∨ off = f.data.length) :
    core w (.read fd) (.ok n) = w.setObj fd (.file fid (off + n) wr) := by
  have : (decide (off + n ≤ f.data.length) && (decide (n > 0) || off == f.data.length)) = true := by
    simpa only [Bool.and_eq_true, Bool.or_eq_true, decide_eq_true_eq, beq_iff_eq] using ⟨h, h2⟩
  simp only [core, applyOk, ho, hf, Option.bind_some, this, if_true, Option.getD_some]

theorem core_read_other {w : World} {fd : Handle} (ho : w.obj fd = .other) (n : Nat) : core w (.read fd) (.ok n) = w := by
  simp only [core, applyOk, ho, Option.getD_some]

/-- `read` on a descriptor, whatever it returns: nothing, or the offset moves. -/
theorem core_read {w : World} {fd : Handle} {fid off : Nat} {wr : Bool} (ho : w.obj fd = .file fid off wr) (r : Res) :
    core w (.read fd) r = w ∨ ∃ n, core w (.read fd) r = w.setObj fd (.file fid (off + n) wr) := by
  unfold core
  cases r with
  | ok n =>
    have : applyOk w (.read fd) (.ok n) = (w.file fid).bind fun f =>
        if off + n ≤ f.data.length && (n > 0 || off == f.data.length) then some (w.setObj fd (.file fid (off + n) wr))
        else none := by
      simp only [applyOk, ho]
    rw [this]
    cases w.file fid with
    | none => left; rfl
    | some f =>
      simp only [Option.bind_some]
      split
      · right; exact ⟨n, rfl⟩
      · left; rfl
  | _ => left; rfl

theorem core_write_ok (w : World) (fd : Handle) (data : Bytes) (n : Nat) (hn : 0 < n) (hle : n ≤ data.length) :
    core w (.write fd data) (.ok n) = applyWrite w fd data n := by
  have : (n == 0 || decide (n > data.length)) = false := by
    simp only [Bool.or_eq_false_iff, beq_eq_false_iff_ne, decide_eq_false_iff_not]
    omega
  simp only [core, applyOk, this, Bool.false_eq_true, if_false, Option.getD_some]

theorem core_write_file_ok {w : World} {fd : Handle} {fid off : Nat} {wr : Bool} {f : File} (ho : w.obj fd = .file fid off wr)
    (hf : w.file fid = some f) (data : Bytes) (n : Nat) (hn : 0 < n) (hle : n ≤ data.length) :
    core w (.write fd data) (.ok n) =
      (w.setFile fid { f with data := f.data ++ data.take n }).setObj fd (.file fid (off + n) wr) := by
  simp only [core_write_ok w fd data n hn hle, applyWrite, ho, hf]

theorem core_fsync_file_ok {w : World} {fd : Handle} {fid off : Nat} {wr : Bool} {f : File} (ho : w.obj fd = .file fid off wr)
    (hf : w.file fid = some f) (v : Nat) :
    core w (.fsync fd) (.ok v) = w.setFile fid { f with durable := f.data } := by
  simp only [core, applyOk, ho, hf, Option.map_some, Option.getD_some]

theorem core_fsync_stream_ok {w : World} {fd : Handle} {fid : Nat} {buf : Bytes} {f : File} (ho : w.obj fd = .stream fid buf)
    (hf : w.file fid = some f) (v : Nat) :
    core w (.fsync fd) (.ok v) = w.setFile fid { f with durable := f.data } := by
  simp only [core, applyOk, ho, hf, Option.map_some, Option.getD_some]

theorem core_close (w : World) (fd : Handle) (r : Res) : core w (.close fd) r = w.setObj fd .closed := by
  cases r <;> rfl

theorem core_dupfd_ok {w : World} {fd : Handle} {fid off : Nat} {wr : Bool} (ho : w.obj fd = .file fid off wr) (v : Nat) :
    core w (.dupfd fd) (.ok v) = (w.newHandle (.file fid off wr)).1 := by
  simp only [core, applyOk, ho, Option.getD_some]

theorem core_dupfd_other {w : World} {fd : Handle} (ho : w.obj fd = .other) (v : Nat) :
    core w (.dupfd fd) (.ok v) = (w.newHandle .other).1 := by
  simp only [core, applyOk, ho, Option.getD_some]

theorem core_fdopen_ok {w : World} {fd : Handle} {fid off : Nat} {wr : Bool} (ho : w.obj fd = .file fid off wr) (v : Nat) :
    core w (.fdopen fd) (.ok v) = w.setObj fd (.stream fid []) := by
  simp only [core, applyOk, ho, Option.getD_some]

theorem core_fprintf_applyWrite (w : World) (fd : Handle) (data : Bytes) :
    core w (.fprintf fd data) (.ok data.length) = applyWrite w fd data data.length := by
  simp only [core, applyOk, bne_self_eq_false, Bool.false_eq_true, if_false, Option.getD_some]

theorem core_fprintf_ok {w : World} {fd : Handle} {fid : Nat} {buf : Bytes} (ho : w.obj fd = .stream fid buf) (data : Bytes) :
    core w (.fprintf fd data) (.ok data.length) = w.setObj fd (.stream fid (buf ++ data)) := by
  simp only [core_fprintf_applyWrite, applyWrite, ho, List.take_length]

theorem core_fflush_ok {w : World} {fd : Handle} {fid : Nat} {buf : Bytes} {f : File} (ho : w.obj fd = .stream fid buf)
    (hf : w.file fid = some f) (v : Nat) :
    core w (.fflush fd) (.ok v) = (w.setFile fid { f with data := f.data ++ buf }).setObj fd (.stream fid []) := by
  simp only [core, applyOk, ho, hf, Option.map_some, Option.getD_some]

theorem core_fclose_stream {w : World} {fd : Handle} {fid : Nat} {buf : Bytes} {f : File} (ho : w.obj fd = .stream fid buf)
    (hf : w.file fid = some f) (r : Res) :
    core w (.fclose fd) r = (if r.isErr then w else w.setFile fid { f with data := f.data ++ buf }).setObj fd .closed := by
  cases r <;> simp only [core, applyOk, ho, hf, Option.map_some, Option.getD_some]

theorem core_fclose_other {w : World} {fd : Handle} (ho : w.obj fd = .other) (r : Res) :
    core w (.fclose fd) r = w.setObj fd .closed := by
  cases r <;> simp only [core, applyOk, ho, Option.getD_some]

theorem core_renameat_ok {w : World} {d1 d2 : Handle} {n1 n2 p1 p2 : Bytes} {fid : Nat}
    (hp1 : w.dirPath d1 = some p1) (hp2 : w.dirPath d2 = some p2) (hl : w.lookup p1 n1 = some fid) (v : Nat) :
    core w (.renameat d1 n1 d2 n2) (.ok v) = (w.unbind p1 n1).bind p2 n2 fid := by
  simp only [core, applyOk, hp1, hp2, hl, Option.bind_some, Option.map_some, Option.getD_some]

theorem core_unlinkat_ok {w : World} {d : Handle} {n p : Bytes} {fid : Nat}
    (hp : w.dirPath d = some p) (hl : w.lookup p n = some fid) (v : Nat) :
    core w (.unlinkat d n) (.ok v) = w.unbind p n := by
  simp only [core, applyOk, hp, hl, Option.bind_some, Option.map_some, Option.getD_some]

theorem core_unlink (w : World) (t : Bytes) (r : Res) : core w (.unlink t) r = w := by
  cases r <;> rfl

theorem core_fstatat (w : World) (d : Handle) (n : Bytes) (r : Res) : core w (.fstatat d n) r = w := by
  cases r with
  | ok v =>
    cases ha : applyOk w (.fstatat d n) (.ok v) with
    | none => exact core_eq_self_of_none ha
    | some w' =>
      obtain ⟨p, -, fid, -, h⟩ : ∃ p, w.dirPath d = some p ∧ ∃ fid, w.lookup p n = some fid ∧
          (if (w.mtime fid == v) = true then some w else none) = some w' := by
        simpa only [applyOk, Option.bind_eq_some_iff] using ha
      split at h
      · cases h
        rw [core, ha]
        rfl
      · cases h
  | _ => rfl

theorem core_stat (w : World) (p : Bytes) (r : Res) : core w (.stat p) r = w := by
  cases r <;> rfl

theorem core_lseek (w : World) (fd : Handle) (r : Res) : core w (.lseek fd) r = w := by
  cases r <;> rfl

theorem core_fork (w : World) (argv : List Bytes) (s : Handle) (r : Res) : core w (.fork argv s) r = w := by
  cases r <;> rfl

theorem core_waitpid (w : World) (r : Res) : core w .waitpid r = w := by
  cases r <;> rfl

theorem core_utimensat_ok {w : World} {d : Handle} {n p : Bytes} {fid : Nat} (hp : w.dirPath d = some p)
    (hl : w.lookup p n = some fid) (a : Option Nat) (t v : Nat) :
    core w (.utimensat d n a (some t)) (.ok v) = w.setMtime fid t := by
  simp only [core, applyOk, hp, hl, Option.bind_some, Option.map_some, Option.getD_some]

theorem core_utimensat_omit (w : World) (d : Handle) (n : Bytes) (a : Option Nat) (r : Res) :
    core w (.utimensat d n a none) r = w := by
  cases r with
  | ok v =>
    cases h : applyOk w (.utimensat d n a none) (.ok v) with
    | none => exact core_eq_self_of_none h
    | some w' =>
      obtain ⟨p, -, fid, -, rfl⟩ : ∃ p, w.dirPath d = some p ∧ ∃ fid, w.lookup p n = some fid ∧ w = w' := by
        simpa only [applyOk, Option.bind_eq_some_iff, Option.map_eq_some_iff] using h
      rw [core, h]
      rfl
  | _ => rfl

theorem core_mkostemp_ok (w : World) (t : Bytes) (v : Nat) :
    core w (.mkostemp t) (.ok v) =
      ((({ w with nextFid := w.nextFid + 1 } : World).setFile w.nextFid ⟨[], []⟩).newHandle (.file w.nextFid 0 true)).1 := rfl

theorem core_mkdtemp_name (w : World) (t p : Bytes) : core w (.mkdtemp t) (.name p) = { w with dirs := w.dirs ++ [(p, [])] } := rfl

theorem core_mkdir_ok (w : World) (p : Bytes) (v : Nat) : core w (.mkdir p) (.ok v) = { w with dirs := w.dirs ++ [(p, [])] } := rfl

theorem core_rmdir_ok {w : World} {p : Bytes} (hd : w.dir p = some []) (v : Nat) :
    core w (.rmdir p) (.ok v) = { w with dirs := w.dirs.filter (·.1 != p) } := by
  simp only [core, applyOk, hd, Option.getD_some]

/-- `rmdir`, whatever it returns: nothing, or an empty directory goes. -/
theorem core_rmdir (w : World) (q : Bytes) (r : Res) :
    core w (.rmdir q) r = w ∨
      (w.dir q = some [] ∧ core w (.rmdir q) r = { w with dirs := w.dirs.filter (·.1 != q) }) := by
  cases r with
  | ok v =>
    by_cases hq : w.dir q = some []
    · exact .inr ⟨hq, core_rmdir_ok hq v⟩
    · refine .inl (core_eq_self_of_none ?_)
      simp only [applyOk]
  | _ => exact .inl rfl

/-- The names of directory `d` are pairwise distinct (`exit0_Unique`, WorldExitBasic, is this for every directory). -/
def UniqueAt (w : World) (d : Bytes) : Prop := ∀ es, w.dir d = some es → (es.map (·.1)).Nodup

theorem uniqueAt_dirs {w w' : World} {d : Bytes} (hd : w'.dirs = w.dirs) (h : UniqueAt w d) : UniqueAt w' d :=
  fun es hq => h es (by rw [← dir_of_dirs hd]; exact hq)

theorem uniqueAt_bind {w : World} {d : Bytes} (h : UniqueAt w d) (p n : Bytes) (fid : Nat) : UniqueAt (w.bind p n fid) d := by
  intro es hq
  rw [dir_bind] at hq
  split at hq
  · rename_i hdp
    subst hdp
    cases hw : w.dir d with
    | none => rw [hw] at hq; cases hq
    | some es0 =>
      rw [hw] at hq
      simp only [Option.map_some, Option.some.injEq] at hq
      subst hq
      exact nodup_filter_append (h es0 hw) n fid
  · exact h es hq

theorem uniqueAt_unbind {w : World} {d : Bytes} (h : UniqueAt w d) (p n : Bytes) : UniqueAt (w.unbind p n) d := by
  intro es hq
  rw [dir_unbind] at hq
  split at hq
  · rename_i hdp
    subst hdp
    cases hw : w.dir d with
    | none => rw [hw] at hq; cases hq
    | some es0 =>
      rw [hw] at hq
      simp only [Option.map_some, Option.some.injEq] at hq
      subst hq
      exact (List.filter_sublist.map _).nodup (h es0 hw)
  · exact h es hq

theorem uniqueAt_append {w : World} {d : Bytes} (h : UniqueAt w d) (p : Bytes) :
    UniqueAt ({ w with dirs := w.dirs ++ [(p, [])] } : World) d := by
  intro es hq
  rw [dir_of_append (w := w) (ex := [(p, [])]) rfl d] at hq
  cases hw : w.dir d with
  | some es0 =>
    rw [hw] at hq
    simp only [Option.some_or, Option.some.injEq] at hq
    subst hq
    exact h es0 hw
  | none =>
    rw [hw] at hq
    simp only [Option.none_or, List.find?_cons, List.find?_nil] at hq
    split at hq
    · simp only [Option.map_some, Option.some.injEq] at hq
      subst hq
      exact List.nodup_nil
    · cases hq

theorem uniqueAt_step {w : World} {d : Bytes} (h : UniqueAt w d) (c : Call) (r : Res) : UniqueAt (stepWorld w c r) d := by
  refine uniqueAt_dirs (w := core w c r) rfl ?_
  core_cases w c r
  case openExcl p _ _ =>
    exact uniqueAt_dirs rfl (uniqueAt_bind (w := (({ w with nextFid := w.nextFid + 1 } : World).setFile w.nextFid ⟨[], []⟩))
      (uniqueAt_dirs rfl h) p _ w.nextFid)
  case renameat => exact uniqueAt_bind (uniqueAt_unbind h _ _) _ _ _
  case unlinkat => exact uniqueAt_unbind h _ _
  case mkdtemp | mkdir => exact uniqueAt_append h _
  case rmdir q _ =>
    intro es hq
    rw [dir_filter_ne] at hq
    split at hq
    · cases hq
    · exact h es hq
  all_goals exact uniqueAt_dirs rfl h

theorem mtime_setMtime (w : World) (fid t g : Nat) :
    (w.setMtime fid t).mtime g = if g = fid then t else w.mtime g := by
  unfold World.setMtime World.mtime
  simp only [List.find?_cons]
  by_cases h : g = fid
  · subst h; simp
  · have h2 : (fid == g) = false := by simp; exact fun e => h e.symm
    simp [h, h2, -List.find?_filter, find_filter_ne]

@[simp] theorem lookup_setMtime (w : World) (fid t : Nat) (p n : Bytes) : (w.setMtime fid t).lookup p n = w.lookup p n := rfl
@[simp] theorem dir_setMtime (w : World) (fid t : Nat) (p : Bytes) : (w.setMtime fid t).dir p = w.dir p := rfl
@[simp] theorem file_setMtime (w : World) (fid t g : Nat) : (w.setMtime fid t).file g = w.file g := rfl
@[simp] theorem obj_setMtime (w : World) (fid t : Nat) (h : Handle) : (w.setMtime fid t).obj h = w.obj h := rfl
@[simp] theorem nextFid_setMtime (w : World) (fid t : Nat) : (w.setMtime fid t).nextFid = w.nextFid := rfl

@[simp] theorem stepWorld_mtime (w : World) (c : Call) (r : Res) (g : Nat) : (stepWorld w c r).mtime g = (core w c r).mtime g := by rfl

theorem mtime_of_mtimes {w w' : World} (h : w'.mtimes = w.mtimes) (g : Nat) : w'.mtime g = w.mtime g := by
  unfold World.mtime; rw [h]

theorem core_unlinkat_lookup_sub (w : World) (d : Handle) (n : Bytes) (r : Res) (q m : Bytes) (g : Nat)
    (h : (core w (.unlinkat d n) r).lookup q m = some g) : w.lookup q m = some g := by
  revert h
  core_cases w (.unlinkat d n) r
  case unlinkat p fid hp hl =>
    intro h
    rw [lookup_unbind] at h
    split at h
    · cases h
    · exact h
  all_goals simp only [lookup_setObj, lookup_newHandle, imp_self]

end Mdsort.Proofs.World
