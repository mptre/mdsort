import Mdsort.Proofs.WorldDryLog

/-!
# A real run that ends without the error flag: so does the dry run (C06)

`dry_predicts_real` assumes that BOTH runs end with exit status 0.  Here the dry run's half is derived:
under the fault-free plan the dry run performs a subset of the fallible steps of the real run -

* common to both: the configuration is valid; every configured path, path + `/new` and path + `/cur` fits;
  `new` and `cur` can be opened (the real run opened them, and no call of a maildir-mode run creates or removes
  a directory: `dryT_real`); `readdir`; for every message met: the registry knows it, `message_parse`
  (open, read, the path and the name fit, the flag suffix is valid), the evaluation of the rules and the
  interpolation of the action strings (the verdict, a function of directory, name and content that does not
  depend on `-d`: `dryT_verdict_isErr`);
* only in a real run: every call of the action list (`matchesExec`), and - without `exit0_Good` - whatever
  happens to a message that is met a second time (F21);
* only in a dry run: nothing.

Both halves are read off the one pass over `mainP` (`exit0_mainP_gen`): what a run under at most one fault that ends without
the error flag has found (`dryT_real`) is what the fault-free dry run needs to end without it (`dryT_mainP`).
-/

namespace Mdsort.Proofs
open Mdsort Mdsort.Model
open Mdsort.Proofs.World (wpS wpS_mono)

theorem dryT_mainP (C : exit0_Ctx) (hG : exit0_Good C) (hH : dryT_Hyp C C.w0) (hm : C.env.stdinMode = false)
    (hsyn : C.env.syntaxOnly = false) (conf : List ConfBlock) (input : Bytes) (hdirs : C.dirs = exit0_dirsOf conf)
    (hfree : ∀ b ∈ conf, asksFree b.expr = true)
    (hfit : ∀ b ∈ conf, ∀ p ∈ b.paths, isStdinPath p = false → dryT_Fits p) (hreg : WholeReg C.w0 C.files0) :
    wpS (mainP C.env C.orc true conf C.files0 input) (fun _ r _ => r.2.error = false) false C.w0 :=
  wpS_mono (exit0_mainP_gen C hG hm hsyn true conf input hdirs (fun b hb => exit0_step C.env C.orc b.expr (hfree b hb) fun h => by rw [hH.dry] at h; cases h) hreg
    (NF := True) (fun _ => hH) (fun _ => hfree) (fun _ => ⟨rfl, hfit⟩) false (fun _ => rfl)) fun _ _ _ h => h.2 trivial

theorem dryT_verdict_isErr (env : PEnv) (orc : EvalOracles) (expr : Expr) (D n c : Bytes) (b1 b2 : Bool) :
    (verdict { env with dryrun := b1 } orc expr D n c).isErr = (verdict { env with dryrun := b2 } orc expr D n c).isErr :=
  have h (b : Bool) : (verdict { env with dryrun := false } orc expr D n c).isErr =
      (verdict { env with dryrun := b } orc expr D n c).isErr :=
    (congrArg Verdict.isErr (verdict_er { env with dryrun := b } orc expr D n c)).trans (Verdict.isErr_erase _)
  (h b1).symm.trans (h b2)

def dryT_dirsExist (conf : List ConfBlock) (w : World) : Prop :=
  ∀ D ∈ (exit0_dirsOf conf).map (·.1), (w.dir D).isSome = true

theorem dryT_budget_none : World.Budget Plan.none 0 false :=
  ⟨fun _ _ _ => rfl, fun _ _ _ _ _ => rfl⟩

/-- The run has opened every directory of the configuration, and no call of a maildir-mode run creates or removes a
directory (`exit0_walk_gen`): they all existed in the initial world. -/
theorem dryT_real (env : PEnv) (orc : EvalOracles) (confOk : Bool) (conf : List ConfBlock) (files : Files) (input : Bytes)
    (w : World) (plan : Plan) (hm : env.stdinMode = false) (hsyn : env.syntaxOnly = false)
    (hfree : ∀ b ∈ conf, asksFree b.expr = true)
    (hnd : ∀ b ∈ conf, WholeNoDiscard env orc b.expr) (hreg : WholeReg w files)
    (hG : exit0_Good ⟨env, orc, exit0_dirsOf conf, files, w⟩) (hp : World.SingleFault plan)
    (he : (runPlan plan (mainP env orc confOk conf files input) w 0 []).1.2.error = false) :
    dryT_dirsExist conf w ∧ confOk = true ∧ ∀ b ∈ conf, ∀ p ∈ b.paths, isStdinPath p = false → dryT_Fits p := by
  rw [World.runPlan_eq] at he
  obtain ⟨_, hq⟩ := World.wpS_sound plan (exit0_mainP_gen ⟨env, orc, exit0_dirsOf conf, files, w⟩ hG hm hsyn confOk conf input rfl
    (fun b hb => exit0_step env orc b.expr (hfree b hb) fun _ => hnd b hb) hreg (NF := False) False.elim False.elim False.elim
    true False.elim) hp.budget
  exact ⟨(hq.1 he).2.1, (hq.1 he).2.2.2⟩

/-- If the real run ends with exit status 0, so does the dry run (fault-free plan, maildir mode, rules
without discard that ask the operating system nothing, no message visited twice). -/
theorem dry_exit_le_real (env : PEnv) (orc : EvalOracles) (confOk : Bool) (conf : List ConfBlock) (files : Files) (input : Bytes)
    (w : World) (hm : env.stdinMode = false) (hsyn : env.syntaxOnly = false) (hdry : env.dryrun = false)
    (hfree : ∀ b ∈ conf, asksFree b.expr = true)
    (hnd : ∀ b ∈ conf, WholeNoDiscard env orc b.expr) (hreg : WholeReg w files)
    (hG : exit0_Good ⟨env, orc, exit0_dirsOf conf, files, w⟩)
    (hreal : (runPlan Plan.none (mainP env orc confOk conf files input) w 0 []).1.1 = 0) :
    (runPlan Plan.none (mainP { env with dryrun := true } orc confOk conf files input) w 0 []).1.1 = 0 := by
  have he := exit0_status_zero env orc confOk conf files input w Plan.none hm hreal
  obtain ⟨hex, hok, hfit⟩ :=
    dryT_real env orc confOk conf files input w Plan.none hm hsyn hfree hnd hreg hG World.singleFault_none he
  subst hok
  have hpl := (exit0_main_exit0 env orc true conf files input w Plan.none hm hsyn hdry hfree hnd hreg hG World.singleFault_none hreal).1
  have hverd : ∀ D e n c, (D, e) ∈ exit0_dirsOf conf → files.get D n = some c →
      (verdict { env with dryrun := true } orc e D n c).isErr = false := by
    intro D e n c hmem hc
    have hp := hpl D e n c hmem hc
    have hr : (verdict env orc e D n c).isErr = false := by
      unfold exit0_Placed at hp
      cases hv : verdict env orc e D n c with
      | act ml msgs fl => rfl
      | «nomatch» => rfl
      | unparsable => rw [hv] at hp; exact hp.elim
      | error => rw [hv] at hp; exact hp.elim
      | interpFail => rw [hv] at hp; exact hp.elim
    have := dryT_verdict_isErr env orc e D n c true false
    rw [dry_env_false env hdry] at this
    rw [this]; exact hr
  have hD := dryT_mainP ⟨{ env with dryrun := true }, orc, exit0_dirsOf conf, files, w⟩ (dry_good env orc _ files w hG)
    ⟨rfl, hex, hverd⟩ hm hsyn conf input rfl hfree hfit hreg
  obtain ⟨_, herrD⟩ := World.wpS_sound Plan.none hD dryT_budget_none
  have herr' : (World.run Plan.none (mainP { env with dryrun := true } orc true conf files input) w 0).1.2.error = false :=
    herrD
  have ht := exit_status_table { env with dryrun := true } orc true conf files input w Plan.none
  dsimp only at ht
  rw [ht]
  unfold exitStatus
  rw [World.runPlan_eq]
  dsimp only
  rw [herr']
  simp [hm]

/-- `dry_predicts_real` without the hypothesis that the dry run ends with exit status 0. -/
theorem dry_predicts_real2 (env : PEnv) (orc : EvalOracles) (confOk : Bool) (conf : List ConfBlock) (files : Files) (input : Bytes)
    (w : World) (hm : env.stdinMode = false) (hsyn : env.syntaxOnly = false) (hdry : env.dryrun = false)
    (hfree : ∀ b ∈ conf, asksFree b.expr = true)
    (hnd : ∀ b ∈ conf, WholeNoDiscard env orc b.expr) (hreg : WholeReg w files)
    (hG : exit0_Good ⟨env, orc, exit0_dirsOf conf, files, w⟩)
    (hreal : (runPlan Plan.none (mainP env orc confOk conf files input) w 0 []).1.1 = 0) :
    (runPlan Plan.none (mainP { env with dryrun := true } orc confOk conf files input) w 0 []).1.1 = 0 ∧
    (runPlan Plan.none (mainP { env with dryrun := true } orc confOk conf files input) w 0 []).1.2.log =
      (runPlan Plan.none (mainP env orc confOk conf files input) w 0 []).1.2.log ∧
    (runPlan Plan.none (mainP env orc confOk conf files input) w 0 []).1.2.log =
      exit0_refDirs ⟨env, orc, exit0_dirsOf conf, files, w⟩ (exit0_dirsOf conf) := by
  have hd := dry_exit_le_real env orc confOk conf files input w hm hsyn hdry hfree hnd hreg hG hreal
  exact ⟨hd, dry_predicts_real env orc confOk conf files input w hm hsyn hdry hfree hnd hreg hG hreal hd⟩

end Mdsort.Proofs
