import Mdsort.Proofs.EvalDom
import Mdsort.Proofs.Interp
import Mdsort.Proofs.EvalLeaves

/-!
# Matchers are context-free inside the domain (C03)

`expr_regexec` only appends entries that are not actions (`Inert`), and its verdict is a function of the environment
alone (`rxTri`, `regexHit_cf`); a string without a backslash is interpolated without looking at the match list
(`interpolate_nobs`).
-/

namespace Mdsort.Proofs
open Mdsort Mdsort.Model Mdsort.Spec

/-- Entries conditions leave behind: not actions, no maildir/subdir of their own. -/
def Inert (m : Match) : Prop := m.ty.isAction = false ∧ m.maildir = [] ∧ m.subdir = []

theorem St.ml_append_nil (st : St) : ({ st with ml := st.ml ++ [] } : St) = st := by
  cases st; simp

/-- The verdict of one `regexec` call. -/
def rxTri : RxRes → Tri
  | .nomatch => .nomatch
  | .error => .error
  | .ok _ => .match

theorem regexHit_cf (env : Env) (ty : MType) (lno part : Nat) (p : Pat) (k v : Bytes) (ha : ty.isAction = false) :
    ∃ X : MatchList, (∀ m ∈ X, Inert m) ∧
      ∀ st : St, regexHit env ty lno part p k v st = (rxTri (env.rx p v), { st with ml := st.ml ++ X }) := by
  unfold regexHit
  cases env.rx p v with
  | «nomatch» => exact ⟨[], by simp, fun st => by rw [St.ml_append_nil]; rfl⟩
  | error => exact ⟨[], by simp, fun st => by rw [St.ml_append_nil]; rfl⟩
  | ok groups =>
    exact ⟨[regexEntry env.dryrun ty lno part p k v groups],
      fun m hm => List.mem_singleton.1 hm ▸ ⟨ha, rfl, rfl⟩, fun _ => rfl⟩

theorem interpolate_nobs (b : MatchList) (s : Bytes) (h : noBackslash s = true) :
    interpolate b none s = interpolate [] none s :=
  interpolate_congr_backref b [] none s fun _ hm => by
    simp only [noBackslash, Bool.not_eq_true', List.contains_eq_mem, decide_eq_false_iff_not] at h
    exact absurd hm h

theorem mapM_interpolate_nobs (b : MatchList) (argv : List Bytes) (h : argv.all noBackslash = true) :
    argv.mapM (interpolate b none) = argv.mapM (interpolate [] none) :=
  List.mapM_congr fun a ha => interpolate_nobs b a (List.all_eq_true.mp h a ha)

/-- `o` = the tree contains an `old`: then the Seen flag of the state is still the message's. -/
def SeenInv (o : Bool) (f : MFlags) (st : St) : Prop := o = true → flagsIsSet st.flags 83 = flagsIsSet f 83

end Mdsort.Proofs
