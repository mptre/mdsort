import Mdsort.Proofs.WorldStdinAct
import Mdsort.Proofs.WorldFootMove
import Mdsort.Proofs.WorldFootWrite

/-! `maildir_move` and `maildir_write` (label, add-header) with the spool watched: what each does to the handles, to the set of
directories and to the names in the spool - read off the footprints `foot_maildirMove`
(WorldFootMove) and `foot_maildirWrite` (WorldFootWrite): `InvX` is `Mid`'s frame plus "the root has no entry" (`Mid.inv`),
`NamesIn` is "every bound name is listed" plus distinct names (`Mid.namesIn`). -/

namespace Mdsort.Proofs.World
open Mdsort Mdsort.Model

theorem cand_has95 (env : PEnv) (fl : Option Bytes) (c : Nat) : (95 : UInt8) ∈ cand env fl c := by simp [cand]

theorem wp_uniqueAt {α} (p : Prog α) {w : World} {d : Bytes} (h : UniqueAt w d) : wp NoInv p (fun _ w' => UniqueAt w' d) w :=
  whole_wp_noInv (wp_of_calls (Calls.of_forall (Q := fun _ => True) (fun _ => trivial) p) (fun _ c r _ h => uniqueAt_step h c r) h)

theorem Mid.inv {S : Spool} {w w' : World} {a : Ent} {s : Foot} (m : Mid w w' (s.ents w a)) (hroot : w.dir S.sr = some [])
    (hnew : ∀ b, s.new = some b → b.1 ≠ S.sr) : Inv S w w' := by
  refine ⟨fun h hh _ => m.objs h hh, m.len, m.dirSome, ?_⟩
  have hsome : (w'.dir S.sr).isSome := by rw [m.dirSome, hroot]; rfl
  obtain ⟨es, hes⟩ := Option.isSome_iff_exists.1 hsome
  rw [hes, dir_nil_of_lookup hes fun n => ?_]
  cases hl : w'.lookup S.sr n with
  | none => rfl
  | some fid =>
    exfalso
    rcases Foot.ents_new ((m.look (S.sr, n)).symm.trans hl) with h | h
    · exact hnew _ h rfl
    · rw [lk, lookup_eq_of_dir hroot] at h; cases h

theorem Mid.namesIn {w w' : World} {L : Ent → Option Nat} (m : Mid w w' L) {sp : Bytes} {ns ns' : List Bytes}
    (hns : NamesIn w sp ns) (hu : UniqueAt w' sp) (hL : ∀ n fid, L (sp, n) = some fid → n ∈ ns') : NamesIn w' sp ns' :=
  namesIn_iff.2 ⟨by rw [m.dirSome]; exact (namesIn_iff.1 hns).1, hu, fun n fid hl => hL n fid ((m.look (sp, n)).symm.trans hl)⟩

section
variable {S : Spool} {w w' : World} {a : Ent} {s : Foot}

/-- A spool that held at most the message's entry `a` holds, under any footprint, at most `a` and the new name. -/
theorem Mid.twoNames (m : Mid w w' (s.ents w a)) (hns : NamesIn w S.sp (if a.1 = S.sp then [a.2] else []))
    (hu : UniqueAt w' S.sp) (h95 : (95 : UInt8) ∈ a.2) (hnew : ∀ b, s.new = some b → (95 : UInt8) ∈ b.2) :
    ∃ x y, (95 : UInt8) ∈ x ∧ (95 : UInt8) ∈ y ∧ NamesIn w' S.sp [x, y] := by
  refine ⟨(s.new.map (·.2)).getD a.2, a.2, ?_, h95, m.namesIn hns hu fun n fid h => ?_⟩
  · cases hn : s.new with
    | none => exact h95
    | some b => exact hnew b hn
  · rcases Foot.ents_new h with h | h
    · simp [h]
    · have := (namesIn_iff.1 hns).2.2 n fid h
      split at this
      · simp only [List.mem_singleton] at this; simp [this]
      · cases this

/-- ... and at most `b`, once the new name is `b` and `a` is gone. -/
theorem Mid.oneName {b : Ent} (m : Mid w w' (s.ents w a)) (hns : NamesIn w S.sp (if a.1 = S.sp then [a.2] else []))
    (hu : UniqueAt w' S.sp) (hnew : ∀ x, s.new = some x → x = b) (hgone : lk w' a = none ∨ a = b) :
    NamesIn w' S.sp (if b.1 = S.sp then [b.2] else []) := by
  refine m.namesIn hns hu fun n fid h => ?_
  have hb : (S.sp, n) = b := by
    rcases Foot.ents_new h with h1 | h1
    · exact hnew _ h1
    · have hn := (namesIn_iff.1 hns).2.2 n fid h1
      split at hn
      · rename_i ha
        simp only [List.mem_singleton] at hn
        have hna : (S.sp, n) = a := by rw [hn, ← ha]
        rcases hgone with hg | hg
        · rw [← hna, m.look, h] at hg; cases hg
        · exact hna.trans hg
      · cases hn
  simp [← hb]

end

/-- What `maildir_move` guarantees with the spool `S` watched, for a spool that holds at most the message: whatever happens, the
spool has gained at most one name; on success it holds at most the message under its new name (in `dst`). -/
def MoveSp (S : Spool) (src dst : Maildir) (ms : MsgSt) (w : World) (r : MsgSt × Bool) (w' : World) : Prop :=
  Inv S w w' ∧ r.1.msg = ms.msg ∧ r.1.fd = ms.fd ∧
  (∃ x y, (95 : UInt8) ∈ x ∧ (95 : UInt8) ∈ y ∧ NamesIn w' S.sp [x, y]) ∧
  (r.2 = false → (95 : UInt8) ∈ r.1.name ∧ NamesIn w' S.sp (if dst.path = S.sp then [r.1.name] else []) ∧
    (src.stdin && src.root == dst.root) = false)

theorem spec_maildirMove_sp (S : Spool) (env : PEnv) (src dst : Maildir) (ms : MsgSt)
    {w : World} {sh dh : Handle}
    (hsh : src.dirH = some sh) (hdh : dst.dirH = some dh)
    (hps : w.dirPath sh = some src.path) (hpd : w.dirPath dh = some dst.path) (hdd : (w.dir dst.path).isSome)
    (hsr2 : dst.path ≠ S.sr) (hroot : w.dir S.sr = some [])
    (hns : NamesIn w S.sp (if src.path = S.sp then [ms.name] else [])) (h95 : (95 : UInt8) ∈ ms.name) :
    wp NoInv (maildirMove env src dst ms) (MoveSp S src dst ms w) w := by
  have two0 : ∃ x y, (95 : UInt8) ∈ x ∧ (95 : UInt8) ∈ y ∧ NamesIn w S.sp [x, y] :=
    Mid.twoNames (a := (src.path, ms.name)) (s := .same) (Mid.refl w) hns (namesIn_iff.1 hns).2.1 h95 nofun
  by_cases hst : (src.stdin && src.root == dst.root) = true
  · rw [maildirMove_eq, if_pos hst]
    exact ⟨InvX.refl hroot, rfl, rfl, two0, nofun⟩
  refine wp_mono (whole_wp_noInv (wp_both (wp_of_wpC (foot_maildirMove env src dst ms hsh hdh hps hpd hdd 0))
    (wp_uniqueAt _ (namesIn_iff.1 hns).2.1))) ?_
  rintro r w' ⟨⟨n, mt, s, hs, m, any, -⟩, hu⟩
  have hnew95 : ∀ b, s.new = some b → (95 : UInt8) ∈ b.2 := fun b hb => by
    obtain ⟨fl, c, rfl⟩ := any.new b hb; exact cand_has95 env fl c
  refine ⟨m.inv hroot fun b hb => by obtain ⟨fl, c, rfl⟩ := any.new b hb; exact hsr2, any.msg, any.fd,
    m.twoNames hns hu h95 hnew95, fun he => ?_⟩
  obtain ⟨⟨fl, c, hname⟩, hnewok, hgone⟩ := any.ok he
  exact ⟨by rw [hname]; exact cand_has95 env fl c, m.oneName (b := (dst.path, r.1.name)) hns hu hnewok hgone, by simpa using hst⟩

/-- What `maildir_write` guarantees with the spool `S` watched, for a spool that holds at most the message: whatever happens, the
spool has gained at most one name and only the descriptor of the message may have been closed; on success it holds at most
the message under its new name. -/
def WriteSp (S : Spool) (md : Maildir) (ms : MsgSt) (w : World) (r : MsgSt × Bool) (w' : World) : Prop :=
  InvX S (fun h => ms.fd = some h) w w' ∧ r.1.msg = ms.msg ∧
  (∃ x y, (95 : UInt8) ∈ x ∧ (95 : UInt8) ∈ y ∧ NamesIn w' S.sp [x, y]) ∧
  (∀ f, r.1.fd = some f → ms.fd = some f ∨ (w.handles.length ≤ f ∧ f < w'.handles.length)) ∧
  (r.2 = false → (95 : UInt8) ∈ r.1.name ∧ NamesIn w' S.sp (if md.path = S.sp then [r.1.name] else []))

theorem spec_maildirWrite_sp (S : Spool) (env : PEnv) (md : Maildir) (ms : MsgSt) {w : World} {d : Handle}
    (hd : md.dirH = some d) (hp : w.dirPath d = some md.path) (hdd : (w.dir md.path).isSome)
    (hsr : md.path ≠ S.sr) (hroot : w.dir S.sr = some [])
    (hns : NamesIn w S.sp (if md.path = S.sp then [ms.name] else [])) (h95 : (95 : UInt8) ∈ ms.name) :
    wp NoInv (maildirWrite env md ms) (WriteSp S md ms w) w := by
  refine wp_mono (whole_wp_noInv (wp_both (wp_of_wpC (foot_maildirWrite env md ms hd hp hdd 0))
    (wp_uniqueAt _ (namesIn_iff.1 hns).2.1))) ?_
  rintro r w' ⟨⟨n, s, w6, hs, m, hu, any, -⟩, huniq⟩
  -- the close of the old descriptor changes neither entries nor files
  have hdirs : w'.dirs = w6.dirs := by
    rcases hu with rfl | ⟨old, r7, -, rfl⟩
    · rfl
    · exact core_dirs w6 (.close old) r7 rfl
  have hlen : w6.handles.length ≤ w'.handles.length := by
    rcases hu with rfl | ⟨old, r7, -, rfl⟩
    · exact Nat.le_refl _
    · exact core_len w6 (.close old) r7
  have hinv : InvX S (fun h => ms.fd = some h) w w' := by
    have i6 : Inv S w w6 := m.inv hroot fun b hb => by obtain ⟨fl, c, rfl⟩ := any.new b hb; exact hsr
    rcases hu with rfl | ⟨old, r7, hold, rfl⟩
    · exact i6.toX _
    · exact (i6.toX _).close old r7 hold
  have hu6 : UniqueAt w6 S.sp := uniqueAt_dirs hdirs.symm huniq
  have hnew95 : ∀ b, s.new = some b → (95 : UInt8) ∈ b.2 := fun b hb => by
    obtain ⟨fl, c, rfl⟩ := any.new b hb; exact cand_has95 env fl c
  obtain ⟨x, y, hx, hy, hxy⟩ := m.twoNames hns hu6 h95 hnew95
  refine ⟨hinv, any.msg, ⟨x, y, hx, hy, hxy.congr (dir_of_dirs hdirs _)⟩, fun f hf => ?_, fun he => ?_⟩
  · cases he : r.2 with
    | true => exact .inl (by rw [← any.fd he]; exact hf)
    | false =>
      obtain ⟨-, -, -, rd, hrd, h1, h2⟩ := any.ok he
      rw [hrd] at hf; cases hf
      exact .inr ⟨h1, Nat.lt_of_lt_of_le h2 hlen⟩
  · obtain ⟨⟨fl, c, hname⟩, ⟨g, rfl⟩, hab, -⟩ := any.ok he
    have hgone : lk w6 (md.path, ms.name) = none := by
      rw [m.look]; simp only [Foot.ents, hab, if_false, if_true]
    exact ⟨by rw [hname]; exact cand_has95 env fl c,
      (m.oneName (b := (md.path, r.1.name)) hns hu6 (fun _ h => (Option.some.inj h).symm) (.inl hgone)).congr (dir_of_dirs hdirs _)⟩

end Mdsort.Proofs.World
