import Mdsort.Model.Flags
import Mdsort.Model.Time
import Mdsort.Spec.Flags
import Mdsort.Spec.Time
import Mdsort.Proofs.Basics

/-! Three subjects that share no lemma.  Flags (C09): the letters of a flag set, `flagsStr`/`flagsParse` against
`Spec.flagSuffix`/`Spec.nameFlags`, and the round trip.  Dates (C15): `tzoff`, and `timegm` as day counting
(`daysFromCivil_eq`).  Age literals (C15), at the end: the unit table and `date_age` (`scalarLookup_eq_spec`, `dateAge_spec`).  Bytes: 58 50 44 is `:2,`; 65 and 97 are `A` and `a`; 83 is `S` (bit 18 of the upper mask). -/

namespace Mdsort.Proofs
open Mdsort Mdsort.Model

theorem isupper_iff_toNat (c : UInt8) : isupper c = true ↔ 65 ≤ c.toNat ∧ c.toNat ≤ 90 := by
  simp [isupper, UInt8.le_iff_toNat_le]
theorem islower_iff_toNat (c : UInt8) : islower c = true ↔ 97 ≤ c.toNat ∧ c.toNat ≤ 122 := by
  simp [islower, UInt8.le_iff_toNat_le]

theorem mem_letterRange (lo : Nat) (hlo : lo + 26 ≤ 256) (c : UInt8) :
    c ∈ Spec.letterRange lo ↔ lo ≤ c.toNat ∧ c.toNat < lo + 26 := by
  simp only [Spec.letterRange, List.mem_map, List.mem_range]
  constructor
  · rintro ⟨i, hi, rfl⟩
    simp [UInt8.toNat_ofNat']
    omega
  · rintro ⟨h1, h2⟩
    refine ⟨c.toNat - lo, by omega, ?_⟩
    apply UInt8.toNat_inj.mp
    simp [UInt8.toNat_ofNat']
    omega

theorem testBit_false_of_lt_two_pow {F n i : Nat} (hF : F < 2 ^ n) (hi : n ≤ i) : F.testBit i = false :=
  Nat.testBit_lt_two_pow (Nat.lt_of_lt_of_le hF (Nat.pow_le_pow_right (by decide) hi))

theorem lt_of_testBit_of_lt_two_pow {F n i : Nat} (hF : F < 2 ^ n) (h : F.testBit i = true) : i < n := by
  apply Nat.lt_of_not_le
  intro hle
  rw [testBit_false_of_lt_two_pow hF hle] at h
  cases h

theorem strflagsLoop_eq (offset : UInt8) (room F : Nat) (hF : F < 2 ^ room) :
    ∀ fuel bit acc, F < 2 ^ (bit + fuel) → acc.length ≤ bit →
      strflagsLoop offset room fuel (F >>> bit) bit acc =
        some (acc ++ ((List.range' bit fuel).filter F.testBit).map (fun i => offset + i.toUInt8)) := by
  intro fuel
  induction fuel with
  | zero => intro bit acc _ _; simp [strflagsLoop]
  | succ fuel ih =>
    intro bit acc hlt hacc
    have hb : F.testBit bit = decide ((F >>> bit) % 2 = 1) := by
      rw [Nat.testBit_eq_decide_div_mod_eq, Nat.shiftRight_eq_div_pow]
    have hnext : (F >>> bit) / 2 = F >>> (bit + 1) := (Nat.shiftRight_succ F bit).symm
    rw [strflagsLoop]
    by_cases h0 : F >>> bit = 0
    · simp only [h0, beq_self_eq_true, if_true]
      have hlt' : F < 2 ^ bit := by
        rw [Nat.shiftRight_eq_div_pow] at h0
        exact (Nat.div_eq_zero_iff_lt (Nat.two_pow_pos bit)).mp h0
      have : (List.range' bit (fuel + 1)).filter F.testBit = [] := by
        rw [List.filter_eq_nil_iff]
        intro i hi
        rw [List.mem_range'_1] at hi
        simp [testBit_false_of_lt_two_pow hlt' hi.1]
      simp [this]
    · have ih' := ih (bit + 1)
      rw [show bit + 1 + fuel = bit + (fuel + 1) by omega] at ih'
      by_cases h2 : (F >>> bit) % 2 = 0
      · have hbf : F.testBit bit = false := by rw [hb]; simp [h2]
        simp only [beq_iff_eq, h0, if_false, h2, if_true, hnext]
        rw [ih' acc hlt (by omega)]
        simp [List.range'_succ, hbf]
      · have h3 : (F >>> bit) % 2 = 1 := (Nat.mod_two_eq_zero_or_one _).resolve_left h2
        have hbt : F.testBit bit = true := by rw [hb]; simp [h3]
        have hroom : bit < room := lt_of_testBit_of_lt_two_pow hF hbt
        simp only [beq_iff_eq, h0, if_false, h2, hnext]
        rw [if_neg (by omega)]
        rw [ih' _ hlt (by simp; omega)]
        simp [List.range'_succ, hbt]

/-- 33 is the fuel `Model.strflags` gives its loop: one more than the 32 bits of the `unsigned int` that the C loop shifts out
(`for (; flags > 0; flags >>= 1, bit++)`), so the loop always ends because the flags are used up.  A mask below `2 ^ 26` has
its set bits among the first 26 positions. -/
theorem range'_33 : List.range' 0 33 = List.range 26 ++ [26, 27, 28, 29, 30, 31, 32] := by decide

theorem strflags_eq (F off bufsiz : Nat) (hF : F < 2 ^ 26) (hb : 27 ≤ bufsiz) (hoff : off + 26 ≤ 256) :
    strflags F (UInt8.ofNat off) bufsiz =
      some ((Spec.letterRange off).filter (fun c => F.testBit (c.toNat - off))) := by
  have hF' : F < 2 ^ (bufsiz - 1) :=
    Nat.lt_of_lt_of_le hF (Nat.pow_le_pow_right (by decide) (by omega))
  have h := strflagsLoop_eq (UInt8.ofNat off) (bufsiz - 1) F hF' 33 0 []
    (Nat.lt_of_lt_of_le hF (Nat.pow_le_pow_right (by decide) (by omega))) (by simp)
  rw [Nat.shiftRight_zero] at h
  rw [strflags, h, range'_33, List.filter_append]
  have htail : List.filter F.testBit [26, 27, 28, 29, 30, 31, 32] = [] := by
    rw [List.filter_eq_nil_iff]
    intro i hi
    have : 26 ≤ i := by simp at hi; omega
    simp [testBit_false_of_lt_two_pow hF this]
  rw [htail, Spec.letterRange, List.filter_map]
  simp only [List.nil_append, List.append_nil, Option.some.injEq]
  have hfil : List.filter ((fun c : UInt8 => F.testBit (c.toNat - off)) ∘ fun i => UInt8.ofNat (off + i)) (List.range 26)
      = List.filter F.testBit (List.range 26) := by
    apply List.filter_congr
    intro i hi
    rw [List.mem_range] at hi
    simp only [Function.comp, UInt8.toNat_ofNat']
    congr 1
    omega
  rw [hfil]
  apply List.map_congr_left
  intro i _
  rw [UInt8.ofNat_add]

/-- The letters of a flag set, upper case ascending then lower case ascending. -/
def lettersOf (mf : MFlags) : List UInt8 :=
  (Spec.letterRange 65).filter (fun c => mf.upper.testBit (c.toNat - 65)) ++
  (Spec.letterRange 97).filter (fun c => mf.lower.testBit (c.toNat - 97))

/-- The flag set containing exactly the given letters (non-letters ignored). -/
def ofLetters (ls : List UInt8) : MFlags :=
  ls.foldl (fun mf c => (flagsSet mf c).getD mf) MFlags.empty

/-- Both masks fit the 26 letters. -/
def MFlags.Valid (mf : MFlags) : Prop := mf.upper < 2 ^ 26 ∧ mf.lower < 2 ^ 26

theorem length_letterRange (lo : Nat) : (Spec.letterRange lo).length = 26 := by
  simp [Spec.letterRange]

theorem flagsStr_eq_lettersOf (mf : MFlags) (h : MFlags.Valid mf) :
    flagsStr mf Gen.flagsMax = some (58 :: 50 :: 44 :: lettersOf mf) := by
  have hu := strflags_eq mf.upper 65 (Gen.flagsMax - 3) h.1 (by decide) (by decide)
  have hlen : ((Spec.letterRange 65).filter (fun c => mf.upper.testBit (c.toNat - 65))).length ≤ 26 := by
    have := List.length_filter_le (fun c : UInt8 => mf.upper.testBit (c.toNat - 65)) (Spec.letterRange 65)
    rwa [length_letterRange] at this
  have hl := strflags_eq mf.lower 97
    (Gen.flagsMax - 3 - ((Spec.letterRange 65).filter (fun c => mf.upper.testBit (c.toNat - 65))).length)
    h.2 (by
      -- room for `:2,`, the 52 letters and the NUL
      have : 56 ≤ Gen.flagsMax := by decide
      omega) (by decide)
  rw [flagsStr, if_neg (by decide)]
  simp only [show (UInt8.ofNat 65) = 65 from rfl, show (UInt8.ofNat 97) = 97 from rfl] at hu hl
  simp only [hu, hl, lettersOf, List.cons_append, List.nil_append]

/-- The 52 letters in the order of a flag suffix. -/
def alphabet : List UInt8 := Spec.letterRange 65 ++ Spec.letterRange 97

theorem mem_alphabet (c : UInt8) : c ∈ alphabet ↔ isalpha c = true := by
  rw [alphabet, List.mem_append, mem_letterRange 65 (by decide), mem_letterRange 97 (by decide), isalpha,
    Bool.or_eq_true, isupper_iff_toNat, islower_iff_toNat]
  omega

theorem not_lower_of_upper {c : UInt8} (h : isupper c = true) : islower c = false := by
  rw [isupper_iff_toNat] at h
  cases hl : islower c
  · rfl
  · rw [islower_iff_toNat] at hl; omega

theorem flagsIsSet_upper (mf : MFlags) {c : UInt8} (h : isupper c = true) :
    flagsIsSet mf c = mf.upper.testBit (c.toNat - 65) := by
  rw [flagsIsSet, if_pos h]

theorem flagsIsSet_lower (mf : MFlags) {c : UInt8} (h : islower c = true) :
    flagsIsSet mf c = mf.lower.testBit (c.toNat - 97) := by
  have hu : ¬ isupper c = true := fun hu => by rw [not_lower_of_upper hu] at h; cases h
  rw [flagsIsSet, if_neg hu, if_pos h]

theorem lettersOf_eq (mf : MFlags) : lettersOf mf = alphabet.filter (flagsIsSet mf) := by
  simp only [lettersOf, alphabet, List.filter_append]
  -- not `congr`: it closes each goal by `rfl`, that is by evaluating both filters over the 26 letters, which is slow to check
  refine congr (congrArg _ (List.filter_congr fun c hc => ?_)) (List.filter_congr fun c hc => ?_)
  · rw [mem_letterRange 65 (by decide)] at hc
    exact (flagsIsSet_upper mf ((isupper_iff_toNat c).mpr (by omega))).symm
  · rw [mem_letterRange 97 (by decide)] at hc
    exact (flagsIsSet_lower mf ((islower_iff_toNat c).mpr (by omega))).symm

def Denotes (mf : MFlags) (ls : List UInt8) : Prop := ∀ c, isalpha c = true → ls.contains c = flagsIsSet mf c

theorem flagSuffix_of_denotes (mf : MFlags) (ls : List UInt8) (h : Denotes mf ls) :
    Spec.flagSuffix ls = 58 :: 50 :: 44 :: lettersOf mf := by
  rw [lettersOf_eq, ← List.filter_congr fun c hc => h c ((mem_alphabet c).1 hc), alphabet, List.filter_append]
  rfl

theorem denotes_lettersOf (mf : MFlags) : Denotes mf (lettersOf mf) := fun c hc => by
  rw [lettersOf_eq, Bool.eq_iff_iff, List.contains_iff_mem, List.mem_filter, mem_alphabet]
  exact ⟨And.right, fun h => ⟨hc, h⟩⟩

theorem flagsStr_eq_spec (mf : MFlags) (h : MFlags.Valid mf) :
    flagsStr mf Gen.flagsMax = some (Spec.flagSuffix (lettersOf mf)) := by
  rw [flagsStr_eq_lettersOf mf h, flagSuffix_of_denotes mf _ (denotes_lettersOf mf)]

theorem clrMask_testBit : ∀ k < 26, (2 ^ 32 - 1 - 1 <<< 18).testBit k = !(k == 18) := by decide

theorem testBit_one_shiftLeft (n m : Nat) : (1 <<< n).testBit m = (n == m) := by
  rw [Nat.one_shiftLeft, Nat.testBit_two_pow, Bool.eq_iff_iff]; simp

/-- `S` is the letter of bit 18 of the upper mask, and of no other bit. -/
theorem bit_S : ∀ c : UInt8,
    (isupper c = true → c.toNat - 65 < 26 ∧ (c.toNat - 65 == 18) = (c == 83)) ∧ (isupper c = false → (c == 83) = false) := by
  apply forall_u8
  decide +kernel

/-- `message_flags_set(mf, 'S')`, letter by letter. -/
theorem flagsIsSet_setS (mf : MFlags) (c : UInt8) :
    flagsIsSet ⟨mf.upper ||| 1 <<< 18, mf.lower⟩ c = (flagsIsSet mf c || c == 83) := by
  unfold flagsIsSet
  cases hu : isupper c
  · rw [(bit_S c).2 hu, Bool.or_false]
    rfl
  · simp only [if_true]
    rw [Nat.testBit_or, testBit_one_shiftLeft, Bool.beq_comm, ((bit_S c).1 hu).2]

/-- `message_flags_clr(mf, 'S')`, letter by letter. -/
theorem flagsIsSet_clrS (mf : MFlags) (c : UInt8) :
    flagsIsSet ⟨mf.upper &&& (2 ^ 32 - 1 - 1 <<< 18), mf.lower⟩ c = (flagsIsSet mf c && c != 83) := by
  unfold flagsIsSet
  cases hu : isupper c
  · rw [bne, (bit_S c).2 hu, Bool.not_false, Bool.and_true]
    rfl
  · simp only [if_true]
    rw [Nat.testBit_and, clrMask_testBit _ ((bit_S c).1 hu).1, ((bit_S c).1 hu).2, bne]

theorem msgflags_eq_spec (src dst : Subdir) (mf : MFlags) (h : MFlags.Valid mf) :
    msgflags src dst mf = some (Spec.flagSuffix (Spec.adjustSeen (src == .new) (dst == .new) (lettersOf mf))) := by
  have hr := denotes_lettersOf mf
  have same : flagsStr mf Gen.flagsMax = some (Spec.flagSuffix (lettersOf mf)) := flagsStr_eq_spec mf h
  cases src <;> cases dst
  · exact same
  · -- `new` to `cur`: `S` is set
    have hv : MFlags.Valid ⟨mf.upper ||| 1 <<< 18, mf.lower⟩ := ⟨Nat.or_lt_two_pow h.1 (by decide), h.2⟩
    show flagsStr ⟨mf.upper ||| 1 <<< 18, mf.lower⟩ Gen.flagsMax = some (Spec.flagSuffix (83 :: lettersOf mf))
    rw [flagsStr_eq_lettersOf _ hv, flagSuffix_of_denotes _ _ fun c hc => by
      rw [List.contains_cons, hr c hc, flagsIsSet_setS, Bool.or_comm]]
  · -- `cur` to `new`: `S` is cleared
    have hv : MFlags.Valid ⟨mf.upper &&& (2 ^ 32 - 1 - 1 <<< 18), mf.lower⟩ :=
      ⟨Nat.lt_of_le_of_lt Nat.and_le_left h.1, h.2⟩
    show flagsStr ⟨mf.upper &&& (2 ^ 32 - 1 - 1 <<< 18), mf.lower⟩ Gen.flagsMax =
      some (Spec.flagSuffix ((lettersOf mf).filter fun c => c != 83))
    rw [flagsStr_eq_lettersOf _ hv, flagSuffix_of_denotes _ _ fun c hc => by
      rw [flagsIsSet_clrS, ← hr c hc, Bool.eq_iff_iff]
      simp [List.mem_filter]]
  · exact same

theorem strrchr_none (c : UInt8) : ∀ s : Bytes, c ∉ s → strrchr s c = none
  | [], _ => rfl
  | x :: r, h => by
    have h1 : c ∉ r := fun h' => h (List.mem_cons_of_mem _ h')
    have h2 : ¬ x = c := fun h' => h (h' ▸ List.mem_cons_self)
    simp [strrchr, strrchr_none c r h1, h2]

theorem strrchr_split (c : UInt8) (b : Bytes) (hb : c ∉ b) :
    ∀ a : Bytes, strrchr (a ++ c :: b) c = some (c :: b)
  | [] => by simp [strrchr, strrchr_none c b hb]
  | x :: a => by
    simp [strrchr, strrchr_split c b hb a]

theorem exists_split_last (c : UInt8) : ∀ s : Bytes, c ∈ s → ∃ a b, s = a ++ c :: b ∧ c ∉ b
  | [], h => by simp at h
  | x :: r, h => by
    by_cases hr : c ∈ r
    · obtain ⟨a, b, e, hb⟩ := exists_split_last c r hr
      exact ⟨x :: a, b, by simp [e], hb⟩
    · have : c = x := by simpa [hr] using h
      exact ⟨[], r, by simp [this], hr⟩

theorem takeWhile_suffix_split (a b : Bytes) (hb : (58 : UInt8) ∉ b) :
    ((a ++ 58 :: b).reverse.takeWhile (fun c => c != 58)).reverse = b := by
  have hrev : ∀ x ∈ b.reverse, (x != 58) = true := fun x hx =>
    bne_iff_ne.2 fun h : x = 58 => hb (h ▸ List.mem_reverse.1 hx)
  rw [List.reverse_append, List.reverse_cons, List.append_assoc,
    List.takeWhile_append_stop hrev (fun x hx => by cases hx; rfl), List.reverse_reverse]

/-- One step of `ofLetters`. -/
def flagStep (mf : MFlags) (c : UInt8) : MFlags := (flagsSet mf c).getD mf

theorem flagsSet_isSome (mf : MFlags) (c : UInt8) : (flagsSet mf c).isSome = isalpha c := by
  unfold flagsSet isalpha
  cases hu : isupper c <;> cases hl : islower c <;> simp

theorem flagsSetAll_eq : ∀ (ls : Bytes) (mf : MFlags),
    flagsSetAll mf ls = if ls.all isalpha then some (ls.foldl flagStep mf) else none := by
  intro ls mf
  fun_induction flagsSetAll mf ls with
  | case1 => rfl
  | case2 mf c r hf =>
    have hs := flagsSet_isSome mf c
    rw [hf] at hs
    have hs' : isalpha c = false := by simpa using hs.symm
    simp [hs']
  | case3 mf c r mf' hf ih =>
    have hs := flagsSet_isSome mf c
    rw [hf] at hs
    simp only [ih, List.all_cons, ← hs, Option.isSome_some, Bool.true_and, List.foldl_cons, flagStep, hf, Option.getD_some]

theorem flagsParse_tail (b : Bytes) :
    (match (58 : UInt8) :: b with
      | _ :: 50 :: 44 :: fl => flagsSetAll MFlags.empty fl
      | _ => none) =
    (match b with
      | 50 :: 44 :: letters => if letters.all isalpha then some letters else none
      | _ => none : Option (List UInt8)).map ofLetters := by
  split
  · rename_i fl h
    simp only [List.cons.injEq] at h
    obtain ⟨_, rfl⟩ := h
    simp only [flagsSetAll_eq]
    split
    · rfl
    · rfl
  · rename_i h
    split
    · rename_i letters
      exact absurd rfl (h _ letters)
    · rfl

theorem flagsParse_eq_spec (name : Bytes) : flagsParse name = (Spec.nameFlags name).map ofLetters := by
  by_cases hc : (58 : UInt8) ∈ name
  · obtain ⟨a, b, rfl, hb⟩ := exists_split_last 58 name hc
    have hcont : (a ++ 58 :: b).contains 58 = true := by simp
    simp only [flagsParse, strrchr_split 58 b hb a, Spec.nameFlags, hcont, takeWhile_suffix_split a b hb]
    exact flagsParse_tail b
  · have hcont : name.contains 58 = false := by simpa using hc
    simp only [flagsParse, strrchr_none 58 name hc, Spec.nameFlags, hcont]
    rfl

theorem flagStep_upper (mf : MFlags) (c : UInt8) :
    (flagStep mf c).upper = if isupper c then mf.upper ||| 1 <<< (c.toNat - 65) else mf.upper := by
  unfold flagStep flagsSet
  cases hu : isupper c <;> cases hl : islower c <;> simp

theorem flagStep_lower (mf : MFlags) (c : UInt8) :
    (flagStep mf c).lower = if islower c then mf.lower ||| 1 <<< (c.toNat - 97) else mf.lower := by
  unfold flagStep flagsSet
  cases hu : isupper c <;> cases hl : islower c <;> simp
  rw [not_lower_of_upper hu] at hl
  cases hl

/-- One mask of the fold: `proj` is `MFlags.upper` with `isupper` and 65, or `MFlags.lower` with `islower` and 97. -/
theorem foldl_flagStep_bit (proj : MFlags → Nat) (isC : UInt8 → Bool) (lo : Nat)
    (hstep : ∀ mf c, proj (flagStep mf c) = if isC c then proj mf ||| 1 <<< (c.toNat - lo) else proj mf) :
    ∀ (ls : Bytes) (mf : MFlags) (i : Nat),
      (proj (ls.foldl flagStep mf)).testBit i = ((proj mf).testBit i || ls.any (fun c => isC c && (c.toNat - lo == i)))
  | [], mf, i => by simp
  | c :: r, mf, i => by
    rw [List.foldl_cons, foldl_flagStep_bit proj isC lo hstep r (flagStep mf c) i, hstep, List.any_cons]
    cases hu : isC c
    · simp
    · simp only [if_true, Nat.testBit_or, testBit_one_shiftLeft, Bool.true_and, Bool.or_assoc]

theorem any_letter_bit (ls : List UInt8) (m lo : Nat) (isC : UInt8 → Bool) (hlo : lo + 26 ≤ 256)
    (hC : ∀ c, isC c = true ↔ lo ≤ c.toNat ∧ c.toNat ≤ lo + 25)
    (hden : ∀ c, isC c = true → ls.contains c = m.testBit (c.toNat - lo)) (hm : m < 2 ^ 26) (i : Nat) :
    ls.any (fun c => isC c && (c.toNat - lo == i)) = m.testBit i := by
  rw [Bool.eq_iff_iff, List.any_eq_true]
  constructor
  · rintro ⟨c, hc, hp⟩
    simp only [Bool.and_eq_true, beq_iff_eq] at hp
    rw [← List.contains_iff_mem, hden c hp.1, hp.2] at hc
    exact hc
  · intro hi
    have hi26 : i < 26 := lt_of_testBit_of_lt_two_pow hm hi
    have hn : (UInt8.ofNat (lo + i)).toNat = lo + i := by rw [UInt8.toNat_ofNat']; omega
    have hup : isC (UInt8.ofNat (lo + i)) = true := by rw [hC, hn]; omega
    refine ⟨UInt8.ofNat (lo + i), ?_, ?_⟩
    · rw [← List.contains_iff_mem, hden _ hup, hn]
      simpa using hi
    · show (_ && (_ - _ == i)) = true
      rw [hup, hn]; simp

theorem ofLetters_lettersOf (mf : MFlags) (h : MFlags.Valid mf) : ofLetters (lettersOf mf) = mf := by
  have hu : (ofLetters (lettersOf mf)).upper = mf.upper := by
    apply Nat.eq_of_testBit_eq
    intro i
    show ((lettersOf mf).foldl flagStep MFlags.empty).upper.testBit i = _
    rw [foldl_flagStep_bit MFlags.upper isupper 65 flagStep_upper, any_letter_bit _ mf.upper 65 isupper (by decide)
      isupper_iff_toNat (fun c hc => (denotes_lettersOf mf c (by rw [isalpha, hc]; rfl)).trans (flagsIsSet_upper mf hc)) h.1]
    simp [MFlags.empty]
  have hl : (ofLetters (lettersOf mf)).lower = mf.lower := by
    apply Nat.eq_of_testBit_eq
    intro i
    show ((lettersOf mf).foldl flagStep MFlags.empty).lower.testBit i = _
    rw [foldl_flagStep_bit MFlags.lower islower 97 flagStep_lower, any_letter_bit _ mf.lower 97 islower (by decide)
      islower_iff_toNat (fun c hc => (denotes_lettersOf mf c (by rw [isalpha, hc, Bool.or_true])).trans (flagsIsSet_lower mf hc)) h.2]
    simp [MFlags.empty]
  cases mf
  cases hm : ofLetters (lettersOf _)
  rw [hm] at hu hl
  simp only at hu hl
  rw [hu, hl]

theorem isalpha_of_mem_lettersOf (mf : MFlags) (c : UInt8) (hc : c ∈ lettersOf mf) : isalpha c = true := by
  rw [lettersOf_eq] at hc
  exact (mem_alphabet c).1 (List.mem_filter.1 hc).1

/-- The suffix written for any list of letters that denotes `mf` (any order, repetitions, other bytes) reads back as `mf`. -/
theorem flagsParse_flagSuffix (base : Bytes) (mf : MFlags) (ls : List UInt8) (h : MFlags.Valid mf) (hd : Denotes mf ls) :
    flagsParse (base ++ Spec.flagSuffix ls) = some mf := by
  have hsuf := flagSuffix_of_denotes mf ls hd
  have hall : (lettersOf mf).all isalpha = true := by
    rw [List.all_eq_true]; exact isalpha_of_mem_lettersOf mf
  have hno : (58 : UInt8) ∉ (50 :: 44 :: lettersOf mf : Bytes) := by
    intro hm
    rcases List.mem_cons.mp hm with h1 | hm
    · cases h1
    rcases List.mem_cons.mp hm with h1 | hm
    · cases h1
    have := isalpha_of_mem_lettersOf mf 58 hm
    revert this; decide
  rw [hsuf, flagsParse, strrchr_split 58 _ hno base]
  simp only [flagsSetAll_eq, hall, if_true]
  exact congrArg some (ofLetters_lettersOf mf h)

theorem flags_roundtrip (base : Bytes) (mf : MFlags) (h : MFlags.Valid mf) :
    flagsParse (base ++ Spec.flagSuffix (lettersOf mf)) = some mf :=
  flagsParse_flagSuffix base mf _ h (denotes_lettersOf mf)

def twoDigits (n : Nat) : Bytes := [UInt8.ofNat (48 + n / 10), UInt8.ofNat (48 + n % 10)]

theorem digitVal_ofNat : ∀ n < 10, digitVal (UInt8.ofNat (48 + n)) = some n := by decide

theorem digitVal_inv (c : UInt8) (a : Nat) (h : digitVal c = some a) : a < 10 ∧ c = UInt8.ofNat (48 + a) := by
  unfold digitVal isdigit at h
  split at h
  · rename_i hc
    simp at h hc
    have h1 := UInt8.le_iff_toNat_le.mp hc.1
    have h2 := UInt8.le_iff_toNat_le.mp hc.2
    simp at h1 h2
    refine ⟨by omega, ?_⟩
    apply UInt8.toNat_inj.mp
    simp
    omega
  · simp at h

theorem tzoff_accepts (plus : Bool) (hh mm : Nat) (rest : Bytes) (h1 : hh ≤ 23) (h2 : mm ≤ 59) :
    tzoff ((if plus then 43 else 45) :: (twoDigits hh ++ twoDigits mm ++ rest)) =
      some (Spec.zoneOffset (if plus then 1 else -1) hh mm) := by
  have ha := digitVal_ofNat (hh / 10) (by omega)
  have hb := digitVal_ofNat (hh % 10) (by omega)
  have hc := digitVal_ofNat (mm / 10) (by omega)
  have hd := digitVal_ofNat (mm % 10) (by omega)
  have e1 : hh / 10 * 10 + hh % 10 = hh := by omega
  have e2 : mm / 10 * 10 + mm % 10 = mm := by omega
  simp only [twoDigits, List.cons_append, List.nil_append, tzoff, ha, hb, hc, hd]
  cases plus <;> simp [Spec.zoneOffset] <;> omega

theorem tzoff_only (s : Bytes) (z : Int) (h : tzoff s = some z) :
    ∃ (plus : Bool) (hh mm : Nat) (rest : Bytes), hh ≤ 23 ∧ mm ≤ 59 ∧
      s = (if plus then 43 else 45) :: (twoDigits hh ++ twoDigits mm ++ rest) ∧
      z = Spec.zoneOffset (if plus then 1 else -1) hh mm := by
  revert h
  fun_cases tzoff s
  case case3 sg h1 h2 m1 m2 rest sgn sign a b c d hd hc hb ha hsg hours minutes hh hm =>
    -- a sign, four digits, hours and minutes in range
    obtain ⟨ha1, rfl⟩ := digitVal_inv _ _ ha
    obtain ⟨hb1, rfl⟩ := digitVal_inv _ _ hb
    obtain ⟨hc1, rfl⟩ := digitVal_inv _ _ hc
    obtain ⟨hd1, rfl⟩ := digitVal_inv _ _ hd
    have e1 : (a * 10 + b) / 10 = a := by omega
    have e2 : (a * 10 + b) % 10 = b := by omega
    have e3 : (c * 10 + d) / 10 = c := by omega
    have e4 : (c * 10 + d) % 10 = d := by omega
    rintro ⟨⟩
    by_cases hp : sg = 43
    · refine ⟨true, a * 10 + b, c * 10 + d, rest, by omega, by omega, ?_, ?_⟩
      · simp [twoDigits, e1, e2, e3, e4, hp]
      · simp [sgn, hp] at hsg
        subst hsg
        simp [Spec.zoneOffset, hours, minutes]; omega
    · by_cases hm' : sg = 45
      · refine ⟨false, a * 10 + b, c * 10 + d, rest, by omega, by omega, ?_, ?_⟩
        · simp [twoDigits, e1, e2, e3, e4, hm']
        · simp [sgn, hm'] at hsg
          subst hsg
          simp [Spec.zoneOffset, hours, minutes]; omega
      · simp [sgn, hp, hm'] at hsg
  all_goals exact nofun

theorem isLeap_cases (y : Nat) :
    (Spec.isLeap y = true ∧ ((y % 4 = 0 ∧ y % 100 ≠ 0) ∨ y % 400 = 0)) ∨
    (Spec.isLeap y = false ∧ ¬ ((y % 4 = 0 ∧ y % 100 ≠ 0) ∨ y % 400 = 0)) := by
  unfold Spec.isLeap
  by_cases h : ((y % 4 = 0 ∧ y % 100 ≠ 0) ∨ y % 400 = 0)
  · left; refine ⟨?_, h⟩; simpa using h
  · right; refine ⟨?_, h⟩; simpa using h

/-- `daysFromCivil` counts in years that begin on 1 March: `n` is that year and `(m + 9) % 12` the number
of months since March. -/
theorem daysFromCivil_march (y m d n : Int) (hn : 0 ≤ n) (hy : (if m ≤ 2 then y - 1 else y) = n) :
    daysFromCivil y m d = 365 * n + n / 4 - n / 100 + n / 400 + (153 * ((m + 9) % 12) + 2) / 5 + d - 719469 := by
  simp only [daysFromCivil, hy, ge_iff_le, if_pos hn]
  omega

theorem daysBeforeYear_eq (y : Nat) (hy : 1 ≤ y) :
    Spec.daysBeforeYear y = 365 * (y - 1 : Int) + (y - 1 : Int) / 4 - (y - 1 : Int) / 100 + (y - 1 : Int) / 400 - 719162 := by
  simp only [Spec.daysBeforeYear]
  omega

theorem leapDay (y : Nat) :
    (y : Int) / 4 - y / 100 + y / 400 =
      ((y : Int) - 1) / 4 - ((y : Int) - 1) / 100 + ((y : Int) - 1) / 400 + (if Spec.isLeap y then 1 else 0 : Nat) := by
  rcases isLeap_cases y with ⟨hl, hl'⟩ | ⟨hl, hl'⟩
  · rw [hl, if_pos rfl]
    omega
  · rw [hl, if_neg Bool.false_ne_true]
    omega

theorem daysBeforeMonth_congr {y y' : Nat} (h : Spec.isLeap y = Spec.isLeap y') (m : Nat) :
    Spec.daysBeforeMonth y m = Spec.daysBeforeMonth y' m := by
  unfold Spec.daysBeforeMonth Spec.daysInMonth
  rw [h]

/-- From March on, `(153 * k + 2) / 5` days lie between 1 March and the first of the `k`-th month after March.
The year enters only through `isLeap`, so the years 4 and 1 stand for all. -/
theorem daysBeforeMonth_eq (y mon : Nat) (hm : mon ≤ 11) :
    Spec.daysBeforeMonth y (mon + 1) =
      if mon < 2 then 31 * mon else (153 * (mon - 2) + 2) / 5 + 59 + if Spec.isLeap y then 1 else 0 := by
  have table : ∀ b : Bool, ∀ mon ≤ 11, Spec.daysBeforeMonth (if b then 4 else 1) (mon + 1) =
      if mon < 2 then 31 * mon else (153 * (mon - 2) + 2) / 5 + 59 + if b then 1 else 0 := by decide +kernel
  rw [daysBeforeMonth_congr (y' := if Spec.isLeap y then 4 else 1) (by cases Spec.isLeap y <;> rfl)]
  exact table _ _ hm

theorem daysFromCivil_eq (y mon d : Nat) (hy : 1 ≤ y) (hm : mon ≤ 11) :
    daysFromCivil y ((mon : Int) + 1) d = Spec.daysBeforeYear y + Spec.daysBeforeMonth y (mon + 1) + (d : Int) - 1 := by
  rw [daysBeforeMonth_eq y mon hm, daysBeforeYear_eq y hy]
  by_cases h2 : mon < 2
  · rw [daysFromCivil_march y _ d (y - 1) (by omega) (if_pos (by omega)), if_pos h2]
    omega
  · have := leapDay y
    rw [daysFromCivil_march y _ d y (by omega) (if_neg (by omega)), if_neg h2]
    omega

theorem timegm_eq_epoch (y mon d h mi s : Nat) (hy : 1 ≤ y) (hm : mon ≤ 11) :
    timegm { year := y, mon := mon, mday := d, hour := h, min := mi, sec := s } = Spec.epoch y (mon + 1) d h mi s := by
  simp only [timegm, Spec.epoch, daysFromCivil_eq y mon d hy hm]

/-- `Props.C15_true_age`.  The second conjunct holds by the definition of `dateMatches` and stands here because the property
states the pair. -/
theorem true_age (strp : Bytes → Option (Tm × Bytes)) (zn : Bytes → Option Int) (s rest : Bytes)
    (y mon d h mi sec : Nat) (plus : Bool) (hh mm : Nat) (tail : Bytes)
    (hy : 1 ≤ y) (hm : mon ≤ 11) (h1 : hh ≤ 23) (h2 : mm ≤ 59)
    (hs : strp s = some ({ year := y, mon := mon, mday := d, hour := h, min := mi, sec := sec }, rest))
    (hz : rest.drop (nspaces rest) = (if plus then 43 else 45) :: (twoDigits hh ++ twoDigits mm ++ tail))
    (hne : Spec.epoch y (mon + 1) d h mi sec ≠ -1) :
    timeParse strp zn s = some (Spec.epoch y (mon + 1) d h mi sec - Spec.zoneOffset (if plus then 1 else -1) hh mm) ∧
    ∀ age now t, (dateMatches .gt age now t = decide (now - t > age)) ∧ (dateMatches .lt age now t = decide (now - t < age)) := by
  refine ⟨?_, fun age now t => ⟨rfl, rfl⟩⟩
  have ht := tzoff_accepts plus hh mm tail h1 h2
  simp only [timeParse, hs, timegm_eq_epoch y mon d h mi sec hy hm, hz, tzparse, ht]
  simp [hne]

theorem scalars_table : Gen.scalars = Spec.units := by rfl

theorem scalarLookup_eq_spec (lexeme : String) :
    (∀ v, scalarLookup lexeme = .value v ↔ Spec.unitOf lexeme = some v) := by
  intro v
  unfold scalarLookup Spec.unitOf
  rw [scalars_table]
  have e : (Spec.units.filter fun (x : String × Nat) => match x with | (name, _) => lexeme.toList.isPrefixOf name.toList) = (Spec.units.filter fun u => lexeme.toList.isPrefixOf u.1.toList) := rfl
  rw [e]
  generalize (Spec.units.filter fun u => lexeme.toList.isPrefixOf u.1.toList) = ms
  match ms with
  | [] => simp
  | [(n, w)] => simp
  | _ :: _ :: _ => simp

theorem dateAge_spec (n u : Nat) : dateAge n u = (if n * u < 2 ^ 32 then some (n * u) else none) := by
  unfold dateAge
  by_cases h : n * u < 2 ^ 32
  · rw [if_neg (by omega), if_pos h]
  · rw [if_pos (by omega), if_neg h]

end Mdsort.Proofs
