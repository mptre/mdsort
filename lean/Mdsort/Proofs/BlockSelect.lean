import Mdsort.Proofs.WorldBasic

/-!
# C03 - which configuration blocks are processed (`maildir_skip`, mdsort.c)

`main` walks every path of every configuration block and skips a path when
`(dostdin && !isstdin(path)) || (!dostdin && isstdin(path))`.  `Model.mainP` transcribes that loop
(`mainP.blocks`, `mainP.blocks.paths`).
-/

namespace Mdsort.Proofs
open Mdsort Mdsort.Model

/-- A configured path is processed: with `-` exactly the `stdin` blocks, without it exactly the maildirs. -/
def pathSelected (env : PEnv) (p : Bytes) : Bool :=
  (env.stdinMode && isStdinPath p) || (!env.stdinMode && !isStdinPath p)

def selectPaths (env : PEnv) (conf : List ConfBlock) : List ConfBlock :=
  conf.map fun b => { b with paths := b.paths.filter (pathSelected env) }

def selectBlocks (env : PEnv) (conf : List ConfBlock) : List ConfBlock :=
  (selectPaths env conf).filter fun b => !b.paths.isEmpty

namespace BlockSel
open Mdsort.Proofs.World

theorem skip_eq (env : PEnv) (p : Bytes) :
    ((env.stdinMode && !isStdinPath p) || (!env.stdinMode && isStdinPath p)) = !pathSelected env p := by
  unfold pathSelected
  cases env.stdinMode <;> cases isStdinPath p <;> rfl

theorem paths_filter (env : PEnv) (orc : EvalOracles) (input : Bytes) (b : ConfBlock) (ps : List Bytes) :
    ∀ st : MainSt, mainP.blocks.paths env orc input b (ps.filter (pathSelected env)) st =
      mainP.blocks.paths env orc input b ps st := by
  induction ps with
  | nil => intro st; rfl
  | cons p more ih =>
    intro st
    by_cases hs : pathSelected env p = true
    · have hskip : ((env.stdinMode && !isStdinPath p) || (!env.stdinMode && isStdinPath p)) = false := by
        rw [skip_eq, hs]; rfl
      rw [List.filter_cons_of_pos hs]
      rw [mainP.blocks.paths, mainP.blocks.paths]
      simp only [hskip, Bool.false_eq_true, ↓reduceIte, ih]
    · have hskip : ((env.stdinMode && !isStdinPath p) || (!env.stdinMode && isStdinPath p)) = true := by
        rw [skip_eq]; simpa using hs
      rw [List.filter_cons_of_neg hs, ih st]
      conv => rhs; rw [mainP.blocks.paths]
      simp only [hskip, ↓reduceIte]

/-- The expression of a block is only used through `walk`, which does not look at `b.paths`. -/
theorem paths_congr_block (env : PEnv) (orc : EvalOracles) (input : Bytes) (b b' : ConfBlock) (he : b.expr = b'.expr)
    (ps : List Bytes) : ∀ st : MainSt,
      mainP.blocks.paths env orc input b ps st = mainP.blocks.paths env orc input b' ps st := by
  induction ps with
  | nil => intro st; rfl
  | cons p more ih =>
    intro st
    rw [mainP.blocks.paths, mainP.blocks.paths]
    simp only [ih, he]

theorem blocks_select (env : PEnv) (orc : EvalOracles) (input : Bytes) (bs : List ConfBlock) :
    ∀ st : MainSt, mainP.blocks env orc input (selectPaths env bs) st = mainP.blocks env orc input bs st := by
  induction bs with
  | nil => intro st; rfl
  | cons b rest ih =>
    intro st
    have hsel : selectPaths env (b :: rest) =
        { b with paths := b.paths.filter (pathSelected env) } :: selectPaths env rest := rfl
    rw [hsel, mainP.blocks, mainP.blocks]
    simp only [bind_eq]
    rw [paths_congr_block env orc input { b with paths := b.paths.filter (pathSelected env) } b rfl, paths_filter]
    simp only [ih]

theorem blocks_dropEmpty (env : PEnv) (orc : EvalOracles) (input : Bytes) (bs : List ConfBlock) :
    ∀ st : MainSt, mainP.blocks env orc input (bs.filter fun b => !b.paths.isEmpty) st = mainP.blocks env orc input bs st := by
  induction bs with
  | nil => intro st; rfl
  | cons b rest ih =>
    intro st
    by_cases he : b.paths = []
    · have : (!b.paths.isEmpty) = false := by simp [he]
      rw [List.filter_cons]
      simp only [this, Bool.false_eq_true, ↓reduceIte]
      rw [ih st]
      conv => rhs; rw [mainP.blocks]
      simp only [he, mainP.blocks.paths, bind_eq, pure_eq, ret_bind]
    · have : (!b.paths.isEmpty) = true := by simp [he]
      rw [List.filter_cons]
      simp only [this, ↓reduceIte]
      rw [mainP.blocks, mainP.blocks]
      simp only [ih]

theorem mainP_select (env : PEnv) (orc : EvalOracles) (confOk : Bool) (conf : List ConfBlock) (files : Files) (input : Bytes) :
    mainP env orc confOk (selectPaths env conf) files input = mainP env orc confOk conf files input := by
  unfold mainP
  simp only [blocks_select]

theorem mainP_selectBlocks (env : PEnv) (orc : EvalOracles) (confOk : Bool) (conf : List ConfBlock) (files : Files) (input : Bytes) :
    mainP env orc confOk (selectBlocks env conf) files input = mainP env orc confOk conf files input := by
  rw [← mainP_select env orc confOk conf]
  unfold mainP selectBlocks
  simp only [blocks_dropEmpty]

end BlockSel

/-- `mainP` is the same program - the same calls for every behaviour of the world, the same exit
status, log and final state - on the configuration with the unselected paths removed, and on the
configuration where in addition the blocks left without a path are removed. -/
theorem block_selection (env : PEnv) (orc : EvalOracles) (confOk : Bool) (conf : List ConfBlock) (files : Files) (input : Bytes) :
    mainP env orc confOk conf files input = mainP env orc confOk (selectPaths env conf) files input ∧
    mainP env orc confOk conf files input = mainP env orc confOk (selectBlocks env conf) files input :=
  ⟨(BlockSel.mainP_select env orc confOk conf files input).symm,
   (BlockSel.mainP_selectBlocks env orc confOk conf files input).symm⟩

theorem selected_iff (env : PEnv) (p : Bytes) :
    pathSelected env p = true ↔
      (env.stdinMode = true ∧ p = ofString "/dev/stdin") ∨ (env.stdinMode = false ∧ p ≠ ofString "/dev/stdin") := by
  unfold pathSelected isStdinPath
  cases env.stdinMode <;> simp

theorem selectPaths_mem (env : PEnv) (conf : List ConfBlock) (b : ConfBlock) (p : Bytes)
    (hb : b ∈ selectPaths env conf) (hp : p ∈ b.paths) : pathSelected env p = true := by
  unfold selectPaths at hb
  obtain ⟨b0, _, rfl⟩ := List.mem_map.1 hb
  exact (List.mem_filter.1 hp).2

end Mdsort.Proofs
