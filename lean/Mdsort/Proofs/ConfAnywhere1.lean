import Mdsort.Proofs.ConfRT5
import Mdsort.Proofs.ConfErrors

/-!
# A defect behind a written prefix: from a local failure to `parseConfig`

`BadUnary` / `BadActs` / `BadRules cx tl ts`: the tokens `ts` followed by the text `tl` make the operand
parser / the action loop / the rule loop fail, whatever was parsed before (`∀ acc`).  The lemmas of this file
push such a failure outwards through everything `Spec.printBlocks` can have written in front of it
(`Spec.CondStep`, `Spec.RuleStep`, `Spec.RulePos`): the read-back lemmas (Proofs/ConfRT*.lean), which hold in
front of arbitrary text and for an arbitrary postcondition of the error outcome, bring the parser to the
position; errors pass through every continuation (`wpl_bind`).
-/

namespace Mdsort.Proofs.Conf
open Mdsort Mdsort.Model Mdsort.Spec

section

variable {tl : Bytes} {cx : PCtx} {ts : List PTok}

/-- The diagnostic is reported on line 1. -/
abbrev L1 : Nat → ParseSt → Prop := fun l _ => l = 1

/-- `p` does not succeed from `s`; if it reports a diagnostic, then on line 1.  (The third outcome, an exhausted
recursion budget, is excluded for `parseConfig` by `parseConfigFull_spec`.) -/
def Rej {α : Type} (p : PM α) (s : ParseSt) : Prop := wpl p (fun _ _ => False) L1 True s

theorem Rej.elim {α : Type} {p : PM α} {s : ParseSt} (h : Rej p s) {Q : α → ParseSt → Prop} : wpl p Q L1 True s :=
  wpl_mono h (fun _ _ hf => hf.elim) (fun _ _ h => h)

theorem Rej.bind {α β : Type} {p : PM β} {k : β → PM α} {s : ParseSt} (h : Rej p s) {Q : α → ParseSt → Prop} :
    wpl (p >>= k) Q L1 True s := by
  rw [wpl_bind]
  exact h.elim

def BadUnary (cx : PCtx) (tl : Bytes) (ts : List PTok) : Prop :=
  ∀ (fuel : Nat) (s : ParseSt), Up cx tl s ts → Rej (parseUnary cx fuel) s

def BadActs (cx : PCtx) (tl : Bytes) (ts : List PTok) : Prop :=
  ∀ (fuel : Nat) (acc : Option CTree) (s : ParseSt), Up cx tl s ts → Rej (parseActions cx fuel acc) s

def BadRules (cx : PCtx) (tl : Bytes) (ts : List PTok) : Prop :=
  ∀ (fuel : Nat) (acc : Option CTree) (s : ParseSt), Up cx tl s ts → Rej (parseExprs cx fuel acc) s

/-- What every written part `f a` keeps true of the tokens behind it, a list of parts keeps true. -/
theorem flatMap_lift {α : Type} {f : α → List PTok} {ok : α → Bool} {P : List PTok → Prop}
    (step : ∀ a ts, ok a = true → P ts → P (f a ++ ts)) {ts : List PTok} (h : P ts) :
    ∀ l : List α, l.all ok = true → P (l.flatMap f ++ ts)
  | [], _ => h
  | a :: l, hall => by
    simp only [List.all_cons, Bool.and_eq_true] at hall
    simpa [List.flatMap_cons, List.append_assoc] using step a _ hall.1 (flatMap_lift step h l hall.2)

theorem badUnary_prefix (h : BadUnary cx tl ts) (t : PTok)
    (ht : t = .bang ∨ t = .kw .attachment ∨ t = .lparen) : BadUnary cx tl (t :: ts) := by
  intro fuel s hs
  obtain _ | fuel := fuel
  · exact trivial
  unfold parseUnary
  rcases ht with rfl | rfl | rfl <;> exact wpl_eat hs rfl rfl fun s2 h2 => (h fuel s2 h2).bind

theorem badUnary_binR (h : BadUnary cx tl ts) (a : CTree) (k : Kw) (hk : k = .and ∨ k = .or)
    (hw : wfK cx.rxOk .cond a = true) (hp : treePOK a = true) :
    BadUnary cx tl (.lparen :: (toks .cond a ++ (.kw k :: ts))) := by
  intro fuel s hs
  obtain _ | fuel := fuel
  · exact trivial
  unfold parseUnary
  refine wpl_eat hs rfl rfl fun s2 h2 => ?_
  refine wpl_rt_bind (cond_rt cx a hw hp fuel) h2 fun s3 h3 => ?_
  rw [wpl_bind]
  obtain _ | fuel := fuel
  · exact trivial
  unfold parseBinTail
  rcases hk with rfl | rfl <;> exact wpl_eat h3 rfl rfl fun s5 h5 => (h fuel s5 h5).bind

theorem badUnary_step (h : BadUnary cx tl ts) (st : CondStep) (hst : st.ok cx.rxOk = true) :
    BadUnary cx tl (st.toks ++ ts) := by
  cases st with
  | bang => exact badUnary_prefix h _ (Or.inl rfl)
  | att => exact badUnary_prefix h _ (Or.inr (Or.inl rfl))
  | lpar => exact badUnary_prefix h _ (Or.inr (Or.inr rfl))
  | andR a =>
    simp only [CondStep.ok, Bool.and_eq_true] at hst
    have := badUnary_binR h a .and (Or.inl rfl) hst.1 hst.2
    simpa [CondStep.toks] using this
  | orR a =>
    simp only [CondStep.ok, Bool.and_eq_true] at hst
    have := badUnary_binR h a .or (Or.inr rfl) hst.1 hst.2
    simpa [CondStep.toks] using this

theorem badUnary_steps (h : BadUnary cx tl ts) (sts : List CondStep) (hall : sts.all (CondStep.ok cx.rxOk) = true) :
    BadUnary cx tl (sts.flatMap CondStep.toks ++ ts) :=
  flatMap_lift (P := BadUnary cx tl) (fun st _ hst h => badUnary_step h st hst) h sts hall

theorem badRules_of_unary (h : BadUnary cx tl ts) : BadRules cx tl (.kw .mtch :: ts) := by
  intro fuel acc s hs
  obtain _ | fuel := fuel
  · exact trivial
  unfold parseExprs
  refine wpl_eat hs rfl rfl fun s2 h2 => ?_
  unfold parseRuleWith
  exact Rej.bind (Rej.bind (h fuel s2 h2))

/-- The failing list of actions starts with a keyword other than `and` / `or`: the condition in front of it ends there. -/
theorem badRules_of_acts {k : Kw} (h : BadActs cx tl (.kw k :: ts))
    (hk : stopBin (.kw k) = true) (c : CTree) (hw : wfK cx.rxOk .cond c = true) (hp : treePOK c = true) :
    BadRules cx tl (.kw .mtch :: (toks .cond c ++ (.kw k :: ts))) := by
  intro fuel acc s hs
  obtain _ | fuel := fuel
  · exact trivial
  unfold parseExprs
  refine wpl_eat hs rfl rfl fun s2 h2 => ?_
  rw [wpl_bind]
  unfold parseRuleWith
  refine wpl_cond_stop cx c fuel (cond_rt cx c hw hp fuel) h2 hk fun s4 h4 => ?_
  refine wpl_see h4 (show modeOK false false (.kw k) = true from rfl) fun s5 h5 => ?_
  simp only [tkOf]
  exact (h fuel none s5 (h5.up_some (h4.ok (.kw k) (by simp)))).bind

theorem badActs_act (h : BadActs cx tl ts) (a : CTree)
    (hw : wfK cx.rxOk .act a = true) (hp : treePOK a = true) : BadActs cx tl (toks .act a ++ ts) := by
  intro fuel acc s hs
  exact all_rt cx a .act hw hp L1 acc ts (fun _ _ => False) (fun fuel' s' h' => h fuel' _ s' h') fuel s hs

theorem badActs_acts (h : BadActs cx tl ts) (acts : List CTree)
    (hall : (acts.all fun a => wfK cx.rxOk .act a && treePOK a) = true) : BadActs cx tl (acts.flatMap (toks .act) ++ ts) :=
  flatMap_lift (P := BadActs cx tl) (fun a _ ha h => badActs_act h a (Bool.and_eq_true_iff.1 ha).1 (Bool.and_eq_true_iff.1 ha).2) h acts hall

theorem badRules_rule (h : BadRules cx tl (.kw .mtch :: ts)) (r : CTree)
    (hw : wfK cx.rxOk .rule r = true) (hp : treePOK r = true) : BadRules cx tl (toks .rule r ++ (.kw .mtch :: ts)) := by
  intro fuel acc s hs
  exact all_rt cx r .rule hw hp L1 acc (.kw .mtch) ts (fun _ _ => False) rfl
    (fun fuel' s' h' => h fuel' _ s' h') fuel s hs

theorem badRules_nested (h : BadRules cx tl ts) (c : CTree)
    (hw : wfK cx.rxOk .cond c = true) (hp : treePOK c = true) :
    BadRules cx tl (.kw .mtch :: (toks .cond c ++ (.lbrace :: ts))) := by
  intro fuel acc s hs
  obtain _ | fuel := fuel
  · exact trivial
  unfold parseExprs
  refine wpl_eat hs rfl rfl fun s2 h2 => ?_
  rw [wpl_bind]
  unfold parseRuleWith
  refine wpl_cond_stop cx c fuel (cond_rt cx c hw hp fuel) h2 rfl fun s4 h4 => ?_
  exact wpl_eat h4 rfl rfl fun s6 h6 => (h fuel none s6 h6).bind

theorem badActs_attach (h : BadRules cx tl ts) :
    BadActs cx tl (.kw .attachment :: .lbrace :: ts) := by
  intro fuel acc s hs
  obtain _ | fuel := fuel
  · exact trivial
  unfold parseActions
  refine wpl_eat_bind hs rfl rfl fun s2 h2 => ?_
  rw [wpl_bind]
  exact wpl_rt_bind (expectTk_rt .lbrace rfl) h2 fun s3 h3 => (h fuel none s3 h3).bind

theorem toks_act_head (rx : Pat → Bool) (t : CTree) (hw : wfK rx .act t = true) :
    ∃ k tks, toks .act t = .kw k :: tks ∧ stopBin (.kw k) = true := by
  cases t with
  | leaf e =>
    simp only [wfK, Bool.and_eq_true] at hw
    cases e <;> simp only [Expr.leafAction, Bool.false_eq_true, false_and] at hw <;>
      exact ⟨_, _, rfl, rfl⟩
  | attBlock l b => exact ⟨_, _, rfl, rfl⟩
  | _ => simp [wfK] at hw

theorem actList_head (rx : Pat → Bool) : ∀ (acts : List CTree), (acts.all fun a => wfK rx .act a && treePOK a) = true →
    ∀ (k0 : Kw) (r0 : List PTok), stopBin (.kw k0) = true →
    ∃ k tks, acts.flatMap (toks .act) ++ (.kw k0 :: r0) = .kw k :: tks ∧ stopBin (.kw k) = true := by
  intro acts
  cases acts with
  | nil => intro _ k0 r0 h0; exact ⟨k0, r0, rfl, h0⟩
  | cons a acts =>
    intro hall k0 r0 _
    simp only [List.all_cons, Bool.and_eq_true] at hall
    obtain ⟨k, tks, hk, hs⟩ := toks_act_head rx a hall.1.1
    exact ⟨k, tks ++ (acts.flatMap (toks .act) ++ (.kw k0 :: r0)), by simp [List.flatMap_cons, hk], hs⟩

theorem ruleStep_head (rx : Pat → Bool) (st : RuleStep) (hst : st.ok rx = true) : ∃ r, st.toks = .kw .mtch :: r := by
  cases st with
  | rule r =>
    simp only [RuleStep.ok, Bool.and_eq_true] at hst
    exact toks_rule_head _ r hst.1
  | nested c => exact ⟨_, rfl⟩
  | attach c acts => exact ⟨_, rfl⟩

theorem badRules_step (h : BadRules cx tl (.kw .mtch :: ts)) (st : RuleStep)
    (hst : st.ok cx.rxOk = true) : BadRules cx tl (st.toks ++ (.kw .mtch :: ts)) := by
  cases st with
  | rule r =>
    simp only [RuleStep.ok, Bool.and_eq_true] at hst
    exact badRules_rule h r hst.1 hst.2
  | nested c =>
    simp only [RuleStep.ok, Bool.and_eq_true] at hst
    have := badRules_nested h c hst.1 hst.2
    simpa [RuleStep.toks, List.append_assoc] using this
  | attach c acts =>
    simp only [RuleStep.ok, Bool.and_eq_true] at hst
    obtain ⟨⟨hw, hp⟩, hacts⟩ := hst
    have h1 := badActs_acts (badActs_attach h) acts hacts
    obtain ⟨k, tks, hk, hsb⟩ := actList_head cx.rxOk acts hacts .attachment (.lbrace :: .kw .mtch :: ts) rfl
    rw [hk] at h1
    have h2 := badRules_of_acts h1 hsb c hw hp
    rw [← hk] at h2
    simpa [RuleStep.toks, List.append_assoc] using h2

/-- The steps are lifted one by one; what stands behind a step starts with `match` (the next step, or the failing rule). -/
theorem badRules_steps (h : BadRules cx tl (.kw .mtch :: ts)) (sts : List RuleStep)
    (hall : sts.all (RuleStep.ok cx.rxOk) = true) : BadRules cx tl (sts.flatMap RuleStep.toks ++ (.kw .mtch :: ts)) :=
  (flatMap_lift (P := fun ts => (∃ ts', ts = .kw .mtch :: ts') ∧ BadRules cx tl ts)
    (fun st _ hst ⟨⟨ts', e⟩, h⟩ => by
      obtain ⟨r, hr⟩ := ruleStep_head _ st hst
      subst e
      exact ⟨⟨r ++ .kw .mtch :: ts', by rw [hr]; rfl⟩, badRules_step h st hst⟩)
    ⟨⟨ts, rfl⟩, h⟩ sts hall).2

end

section

variable {tl : Bytes}

theorem expandMacros_of_badRef (action : Bool) (b : Bytes) (hb : BadRef action b) :
    expandMacros action (b.length + 1) b [] [] = none := by
  obtain ⟨_, pre, name, post, rfl, hpre, hname, hpath⟩ := hb
  rw [MainText.mt_expandMacros_spec, macroRef, MainText.mt_mexpand_ref action _ pre name post hpre hname]
  by_cases hp : name = pathName
  · have : action = false := hpath ((MainText.mt_isPath_iff name).2 hp)
    simp [hp, this]
  · simp [hp, macroValue]

theorem expandStr_of_badRef (lm : Lim) (home : Bytes) (action : Bool) (b : Bytes) (hb : BadRef action b) :
    expandStr lm home action [] b = none := by
  simp only [expandStr, expandTildeL_written lm home hb.1]
  exact expandMacros_of_badRef action b hb

theorem expandStrs_of_badRef (lm : Lim) (home : Bytes) (action : Bool) (b : Bytes) (hb : BadRef action b) (l2 : List Bytes) :
    ∀ (l1 : List Bytes), (∀ x ∈ l1, strOK x = true) → expandStrs lm home action [] (l1 ++ b :: l2) = none := by
  intro l1
  induction l1 with
  | nil => intro _; simp only [List.nil_append, expandStrs, expandStr_of_badRef lm home action b hb]
  | cons x l1 ih =>
    intro h
    simp only [List.cons_append, expandStrs, expandStr_plain lm home action x (h x (by simp)),
      ih (fun y hy => h y (by simp [hy]))]

theorem wpl_expandOne_bad (cx : PCtx) (action : Bool) (b : Bytes) (hb : BadRef action b) {α : Type} {k : Bytes → PM α}
    {Q : α → ParseSt → Prop} {s : ParseSt} {ts : List PTok} (h : Up cx tl s ts) : wpl (expandOne cx action b >>= k) Q L1 True s := by
  rw [wpl_bind]
  unfold wpl expandOne
  rw [h.mac, expandStr_of_badRef cx.pathMax cx.home action b hb]
  exact h.tokl

theorem wpl_expandMac_bad (action : Bool) (b : Bytes) (hb : BadRef action b) {α : Type} {k : Bytes → PM α}
    {cx : PCtx} {Q : α → ParseSt → Prop} {s : ParseSt} {ts : List PTok} (h : Up cx tl s ts) :
    wpl (expandMac action b >>= k) Q L1 True s := by
  rw [wpl_bind]
  unfold wpl expandMac
  rw [h.mac, expandMacros_of_badRef action b hb]
  exact h.tokl

theorem wpl_expandAll_bad (cx : PCtx) (action : Bool) (b : Bytes) (hb : BadRef action b) (l1 l2 : List Bytes)
    (h1 : l1.all strOK = true) {α : Type} {k : List Bytes → PM α} {Q : α → ParseSt → Prop}
    {s : ParseSt} {ts : List PTok} (h : Up cx tl s ts) : wpl (expandAll cx action (l1 ++ b :: l2) >>= k) Q L1 True s := by
  rw [wpl_bind]
  unfold wpl expandAll
  rw [h.mac, expandStrs_of_badRef cx.pathMax cx.home action b hb l2 l1 (List.all_eq_true.1 h1)]
  exact h.tokl

theorem badActs_site (cx : PCtx) (site : ActSite) (hsite : site.ok = true) (b : Bytes) (hb : BadRef site.action b)
    (ts : List PTok) : BadActs cx tl (site.toks b ++ ts) := by
  intro fuel acc s hs
  obtain _ | fuel := fuel
  · exact trivial
  unfold parseActions
  cases site
  -- every site: the tokens written for it and its side conditions; then the keyword is read
  all_goals
    simp only [ActSite.toks, ActSite.ok, Bool.and_eq_true, List.cons_append, List.nil_append, List.append_assoc] at hs hsite
    refine wpl_eat_bind hs rfl rfl fun s2 h2 => ?_
    rw [wpl_bind]
  case move =>
    refine wpl_rt_bind (parseStr_rt b) h2 fun s3 h3 => ?_
    refine wpl_line_bind h3 ?_
    exact wpl_expandOne_bad cx true b hb h3
  case flags =>
    refine wpl_rt_bind (parseStr_rt b) h2 fun s3 h3 => ?_
    refine wpl_line_bind h3 ?_
    exact wpl_expandMac_bad false b hb h3
  case label l1 l2 =>
    refine wpl_rt_bind (parseStrings_rt (l1 ++ b :: l2) fuel) h2 fun s3 h3 => ?_
    refine wpl_line_bind h3 ?_
    exact wpl_expandAll_bad cx true b hb l1 l2 hsite.1 h3
  case exec si bo l1 l2 =>
    refine execFlags_written cx si bo (l1 ++ b :: l2) ts fuel h2 fun s3 h3 => ?_
    refine wpl_rt_bind (parseStrings_rt (l1 ++ b :: l2) fuel) h3 fun s4 h4 => ?_
    refine wpl_line_bind h4 ?_
    exact wpl_expandAll_bad cx true b hb l1 l2 hsite.1 h4
  case addHeaderKey v =>
    refine wpl_rt_bind (parseStr_rt b) h2 fun s3 h3 => ?_
    refine wpl_rt_bind (parseStr_rt v) h3 fun s4 h4 => ?_
    refine wpl_line_bind h4 ?_
    exact wpl_expandMac_bad false b hb h4
  case addHeaderValue k =>
    refine wpl_rt_bind (parseStr_rt k) h2 fun s3 h3 => ?_
    refine wpl_rt_bind (parseStr_rt b) h3 fun s4 h4 => ?_
    refine wpl_line_bind h4 ?_
    exact wpl_expandMac_bind hsite h4 (wpl_expandMac_bad true b hb h4)

theorem badUnary_site (cx : PCtx) (site : CondSite) (hsite : site.ok = true) (b : Bytes) (hb : BadRef false b)
    (ts : List PTok) : BadUnary cx tl (site.toks b ++ ts) := by
  intro fuel s hs
  obtain _ | fuel := fuel
  · exact trivial
  unfold parseUnary
  cases site
  -- every site: the tokens written for it and its side conditions; then the keyword is read
  all_goals
    simp only [CondSite.toks, CondSite.ok, Bool.and_eq_true, List.cons_append, List.append_assoc, List.nil_append] at hs hsite
    refine wpl_eat hs rfl rfl fun s2 h2 => ?_
  case header l1 l2 p =>
    refine wpl_rt_bind (parseStrings_rt (l1 ++ b :: l2) fuel) h2 fun s3 h3 => ?_
    refine wpl_rt_bind (parsePattern_rt p) h3 fun s4 h4 => ?_
    refine wpl_line_bind h4 ?_
    -- a failing `checkPattern` reports on line 1 as well
    rw [wpl_bind]
    unfold checkPattern
    split
    · exact wpl_expandAll_bad cx false b hb l1 l2 hsite.1.1 h4
    · exact h4.tokl
  case isdirectory =>
    refine wpl_rt_bind (parseStr_rt b) h2 fun s3 h3 => ?_
    refine wpl_line_bind h3 ?_
    exact wpl_expandOne_bad cx false b hb h3
  case command l1 l2 =>
    refine wpl_rt_bind (parseStrings_rt (l1 ++ b :: l2) fuel) h2 fun s3 h3 => ?_
    refine wpl_line_bind h3 ?_
    exact wpl_expandAll_bad cx false b hb l1 l2 hsite.1 h3

/-- Where a unit is expected (`sflag`), a word that is no unit is read with a diagnostic ("ambiguous keyword",
"keyword too long"), or as a token that is no unit (a keyword, or a MACRO token). -/
theorem lex_badUnit (w tail : Bytes) (hw : badUnitWord w = true) (htail : ∀ c, tail.head? = some c → isKwChar c = false) :
    (lex1 false true false (32 :: (w ++ tail))).errors > 0 ∨
    ∀ v, Tk.ofToken (lex1 false true false (32 :: (w ++ tail))).tok ≠ .scalar (some v) := by
  cases w with
  | nil => simp [badUnitWord] at hw
  | cons c r =>
    simp only [badUnitWord, Bool.and_eq_true, Bool.or_eq_true, bne_iff_ne, ne_eq] at hw
    obtain ⟨⟨hl, hall⟩, hno⟩ := hw
    obtain ⟨h1, _, h3, h34, hd⟩ := LexAux.islower_facts c hl
    have htw := List.takeWhile_append_stop (b := tail) (List.all_eq_true.mp hall) htail
    have hdw := List.dropWhile_append_stop (b := tail) (List.all_eq_true.mp hall) htail
    rw [List.cons_append] at htw hdw ⊢
    rw [lex1_blank _ _ _ _ h1 h3, LexAux.lex1_of_lower _ _ _ _ hl]
    unfold lex1.lexTok
    simp only [h34, hd, hl, htw, hdw, if_true, Bool.false_eq_true, if_false]
    split
    · exact Or.inl (by simp)
    · split
      · -- a keyword
        right
        intro v
        rename_i kv _
        rcases ofToken_keyword kv.2 with ⟨k, _, e⟩ | e <;> rw [e] <;> exact Tk.noConfusion
      · rename_i hfind
        have hnokw : (Gen.keywords.any fun kv => kv.1 == String.ofList ((c :: r).map fun b => Char.ofNat b.toNat)) = false := by
          rw [List.any_eq_false]
          intro kv hkv
          have := List.find?_eq_none.mp hfind kv hkv
          simpa using this
        have hlen : (unitMatches (c :: r)).length ≠ 1 := by
          rcases hno with h | h
          · rw [hnokw] at h; cases h
          · exact h
        have hms : (Gen.scalars.filter fun (x : String × Nat) =>
            (String.ofList ((c :: r).map fun b => Char.ofNat b.toNat)).toList.isPrefixOf x.1.toList) = unitMatches (c :: r) := by
          simp only [unitMatches, String.toList_ofList]
        simp only [hms]
        split
        · right; intro v; simp [Tk.ofToken]
        · rename_i heq; rw [heq] at hlen; simp at hlen
        · exact Or.inl (by simp)

theorem parseScalar_badUnit (cx : PCtx) (w tail : Bytes) (hw : badUnitWord w = true)
    (htail : ∀ c, tail.head? = some c → isKwChar c = false) (s : ParseSt) (h : Up cx (32 :: (w ++ tail)) s []) :
    Rej (parseScalar cx) s := by
  have h : Strm cx (32 :: (w ++ tail)) s none [] := by
    rcases h with h | ⟨_, _, heq, _, _⟩
    · exact h
    · cases heq
  have hla : s.la = none := h.la_eq
  have hrest : s.rest = 32 :: (w ++ tail) := by rw [h.rest_eq, render_nil, List.nil_append]
  have ham := h.am
  have hline : tokLineOf cx.nl s.rest = 1 := by
    cases w with
    | nil => simp [badUnitWord] at hw
    | cons c r =>
      simp only [badUnitWord, Bool.and_eq_true] at hw
      obtain ⟨h1, _, h3, _, _⟩ := LexAux.islower_facts c hw.1.1
      rw [hrest, List.cons_append, tokLineOf_blank _ _ _ h1 h3, lineOf, h.nl_eq]
      have : countNl (32 :: (c :: r ++ tail)) = countNl (c :: (r ++ tail)) := by
        simp [countNl, List.count_cons]
      rw [this]; omega
  -- `peek` calls the lexer on the word; a diagnostic of the lexer and the parser's own are both on the line of the word
  unfold Rej parseScalar
  rw [wpl_bind]
  by_cases herr : (lex1 false true false (32 :: (w ++ tail))).errors > 0
  · rw [wpl_err (by rw [peek_lex hla, ham, hrest, if_pos herr])]
    show lexErrLine cx.nl false (32 :: (w ++ tail)) = 1
    rw [← hrest]
    simp only [lexErrLine, Bool.false_and, Bool.false_eq_true, if_false]
    exact hline
  · rw [wpl_ok (by rw [peek_lex hla, ham, hrest, if_neg herr])]
    have hnot := (lex_badUnit w tail hw htail).resolve_left herr
    generalize Tk.ofToken (lex1 false true false (32 :: (w ++ tail))).tok = t at hnot ⊢
    have hfail : wpl (failTok : PM Nat) (fun _ _ => False) L1 True (afterLex cx false true s) := hline
    cases t with
    | scalar v =>
      cases v with
      | none => exact hfail
      | some v => exact absurd rfl (hnot v)
    | _ => exact hfail

theorem badUnary_unit (cx : PCtx) (f : DateField) (c : DateCmp) (n : Nat) (w tail : Bytes) (hw : badUnitWord w = true)
    (htail : ∀ c, tail.head? = some c → isKwChar c = false) :
    BadUnary cx (32 :: (w ++ tail)) (.kw .date :: (fieldToks f ++ [cmpTok c, .int n])) := by
  intro fuel s hs
  obtain _ | fuel := fuel
  · exact trivial
  unfold parseUnary
  refine wpl_eat hs rfl rfl fun s2 h2 => ?_
  unfold parseDate
  exact wpl_dateHead cx f c n (ts := []) (by simpa using h2) fun s5 h5 => (parseScalar_badUnit cx w tail hw htail s5 h5).bind

theorem rej_top (cx : PCtx) (p : RulePos) (hok : p.ok cx.rxOk = true) (ts : List PTok)
    (h : BadRules cx tl (.kw .mtch :: ts)) :
    ∀ (fuel : Nat) (s : ParseSt), Up cx tl s (p.toks ++ (.kw .mtch :: ts)) → Rej (parseTop cx fuel []) s := by
  intro fuel s hs
  simp only [RulePos.ok, Bool.and_eq_true, Bool.or_eq_true, Bool.not_eq_true', decide_eq_false_iff_not] at hok
  obtain ⟨⟨⟨hpre, hpaths⟩, hstd⟩, hsteps⟩ := hok
  obtain ⟨hall', hstdOK⟩ := confOK_parts hpre
  have key := parseTop_prefix (Err := L1) cx p.pre [] hall' hstdOK
    (headToks p.paths ++ (.lbrace :: (p.steps.flatMap RuleStep.toks ++ (.kw .mtch :: ts)))) (fun _ _ => False) ?_ fuel s
    (by simpa [RulePos.toks, List.append_assoc] using hs)
  · unfold Rej; simpa using key
  · refine parseTop_head cx p.paths hpaths _ (fun hp => ?_) _ _ fun fuel' s' h' => ?_
    · rw [List.nil_append, any_stdin_relabel]
      exact hstd.resolve_left (fun h => h hp)
    · unfold parseMaildirBody
      rw [wpl_bind]
      exact wpl_rt_bind (expectTk_rt .lbrace rfl) h' fun s3 h3 => (badRules_steps h p.steps hsteps fuel' none s3 h3).bind

theorem rej_top_paths (cx : PCtx) (pre : List PBlock) (hpre : ConfOK cx.rxOk pre = true) (l1 l2 : List Bytes) (b : Bytes)
    (hb : BadRef false b) (h1 : l1.all strOK = true) (ts : List PTok) :
    ∀ (fuel : Nat) (s : ParseSt), Up cx tl s (pre.flatMap blockToks ++ (.kw .maildir :: (strsToks (l1 ++ b :: l2) ++ ts))) →
      Rej (parseTop cx fuel []) s := by
  intro fuel s hs
  obtain ⟨hall', hstdOK⟩ := confOK_parts hpre
  have key := parseTop_prefix (Err := L1) cx pre [] hall' hstdOK
    (.kw .maildir :: (strsToks (l1 ++ b :: l2) ++ ts)) (fun _ _ => False) ?_ fuel s hs
  · unfold Rej; simpa using key
  · intro fuel' s' h'
    obtain _ | fuel' := fuel'
    · exact trivial
    unfold parseTop
    refine wpl_eat h' rfl rfl fun s2 h2 => ?_
    exact wpl_rt_bind (parseStrings_rt (l1 ++ b :: l2) fuel') h2 fun s3 h3 => wpl_expandAll_bad cx false b hb l1 l2 h1 h3

theorem rej_top_stdin (cx : PCtx) (pre : List PBlock) (hpre : ConfOK cx.rxOk pre = true)
    (hany : (pre.any fun x => x.paths.any isStdinStr) = true) (ts : List PTok) :
    ∀ (fuel : Nat) (s : ParseSt), Up cx tl s (pre.flatMap blockToks ++ (.kw .stdin :: ts)) → Rej (parseTop cx fuel []) s := by
  intro fuel s hs
  obtain ⟨hall', hstdOK⟩ := confOK_parts hpre
  have key := parseTop_prefix (Err := L1) cx pre [] hall' hstdOK (.kw .stdin :: ts) (fun _ _ => False) ?_ fuel s hs
  · unfold Rej; simpa using key
  · intro fuel' s' h'
    obtain _ | fuel' := fuel'
    · exact trivial
    unfold parseTop
    refine wpl_eat h' rfl rfl fun s2 h2 => ?_
    rw [List.nil_append, any_stdin_relabel, hany, if_pos rfl]
    exact h2.tokl

theorem parseConfig_rejected (home : Bytes) (rx : Pat → Bool) (tks : List PTok) (tl : Bytes) (htl : tailOK tl = true)
    (hok : ∀ t ∈ tks, lexOK t = true)
    (h : ∀ (fuel : Nat) (s : ParseSt), Up { nl := countNl tl, home := home, rxOk := rx } tl s tks →
      Rej (parseTop { nl := countNl tl, home := home, rxOk := rx } fuel []) s) :
    parseConfig home [] rx (Spec.render tks ++ tl) = .error 1 := by
  have := parseConfig_written home rx tks tl htl hok (fun _ => False) (· = 1) fun fuel s hs => (h fuel s hs).elim
  split at this
  · exact this.elim
  · rename_i l heq; rw [heq, this]
  · exact this.elim

end

end Mdsort.Proofs.Conf
