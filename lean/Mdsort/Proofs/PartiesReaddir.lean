import Mdsort.Proofs.PartiesClient

/-! `H_iso` from what directory listings return.  Every party `i` generates names in its own name
space `N i` (pairwise disjoint: the processes differ in pid or host); a name in flight of `i` is in
`N i`.  A party removes or renames only names it listed, was given, or created itself, and renames
only onto names it created.  So if no listing of a party returns a name of ANOTHER running party's
name space (`HisoReaddirNS`, which implies `HisoReaddir`), no party touches a foreign name in
flight; what remains of `H_iso` is the purely local clause `HisoOwn` (no party renames a name it has
in flight itself as if it were a message). -/

namespace Mdsort.Proofs.Parties
open Mdsort Mdsort.Model
open Mdsort.Proofs.World (Calls)
open Mdsort.Proofs.Own

def listedNames (tr : Trace) : List Bytes :=
  tr.filterMap fun
    | (.readdir _, .name n) => some n
    | _ => none

theorem listedNames_append (a b : Trace) : listedNames (a ++ b) = listedNames a ++ listedNames b := by
  simp [listedNames, List.filterMap_append]

theorem mem_listedNames_one {c : Call} {r : Res} {n : Bytes} (h : n ∈ listedNames [(c, r)]) :
    ∃ d, c = .readdir d ∧ r = .name n := by
  -- any other call, any other result: the list is empty by evaluation
  cases c <;> first | exact absurd h List.not_mem_nil | skip
  cases r <;> first | exact absurd h List.not_mem_nil | skip
  obtain rfl := List.mem_singleton.1 h
  exact ⟨_, rfl, rfl⟩

theorem mem_createdNames_one {c : Call} {r : Res} {n : Bytes} (h : n ∈ createdNames [(c, r)]) :
    ∃ d, c = .openExcl d n := by
  -- as above: only a successful `openExcl` contributes
  cases c <;> first | exact absurd h List.not_mem_nil | skip
  cases r <;> first | exact absurd h List.not_mem_nil | skip
  obtain rfl := List.mem_singleton.1 h
  exact ⟨_, rfl⟩

/-- The condition on the names of a call: sources are given, listed or created names; targets are created names. -/
def KnownI (init : List Bytes) (tr : Trace) (c : Call) : Prop :=
  (∀ d n, c = .unlinkat d n → n ∈ init ++ listedNames tr ++ createdNames tr) ∧
  (∀ d1 n1 d2 n2, c = .renameat d1 n1 d2 n2 → n1 ∈ init ++ listedNames tr ++ createdNames tr ∧ n2 ∈ createdNames tr)

theorem wp_I_mono_ext {α} {R : Call → Res → Prop} {I I' : Trace → Call → Prop} {p : Prog α} {Q : α → Trace → Prop} {tr : Trace}
    (hI : ∀ L c, I (tr ++ L) c → I' (tr ++ L) c) (h : wp R I p Q tr) : wp R I' p Q tr := by
  induction p generalizing tr with
  | ret a => exact h
  | call c k ih =>
    refine ⟨by simpa using hI [] c (by simpa using h.1), fun r hr => ih r ?_ (h.2 r hr)⟩
    intro L c' hc'
    have := hI ((c, r) :: L) c' (by simpa using hc')
    simpa using this

theorem ownI_knownI {src : Bytes} {init : List Bytes} {tr : Trace} (hs : src ∈ init ++ listedNames tr) (L : Trace) (c : Call)
    (h : OwnI src (tr ++ L) c) : KnownI init (tr ++ L) c := by
  have conv : ∀ n, Own src (tr ++ L) n → n ∈ init ++ listedNames (tr ++ L) ++ createdNames (tr ++ L) := by
    intro n hn
    rcases List.mem_cons.1 hn with rfl | hn
    · apply List.mem_append_left
      rw [listedNames_append]
      rcases List.mem_append.1 hs with h1 | h1
      · exact List.mem_append_left _ h1
      · exact List.mem_append_right _ (List.mem_append_left _ h1)
    · exact List.mem_append_right _ hn
  exact ⟨fun d n e => conv n (h.1 d n e), fun d1 n1 d2 n2 e => ⟨conv n1 (h.2 d1 n1 d2 n2 e).1, (h.2 d1 n1 d2 n2 e).2⟩⟩

theorem known_matchesExec {R : Call → Res → Prop} (init : List Bytes) (env : PEnv) (ml : MatchList) (st : ExecSt) (tr : Trace)
    (hs : st.ms.name ∈ init ++ listedNames tr) :
    wp R (KnownI init) (matchesExec env ml st) (fun _ _ => True) tr :=
  wp_I_mono_ext (fun L c h => ownI_knownI hs L c h)
    (spec_matchesExec st.ms.name env ml st tr (Own.src _ _))

theorem known_party {R : Call → Res → Prop} (env : PEnv) (ml : MatchList) (st : ExecSt) :
    wp R (KnownI [st.ms.name]) (errOf (matchesExec env ml st)) (fun _ _ => True) [] := by
  unfold errOf
  refine wp_bind_ext (known_matchesExec [st.ms.name] env ml st [] (by simp)) ?_
  intro _ _ _
  exact True.intro

theorem knownI_quiet (init : List Bytes) (tr : Trace) (c : Call) (h : Quiet c) : KnownI init tr c := by
  -- `unlinkat`, `renameat` are not `Quiet`: `h.elim`; of any other call `KnownI` asks nothing
  cases c <;> first | exact h.elim | exact ⟨(by intro _ _ e; cases e), (by intro _ _ _ _ e; cases e)⟩

theorem known_scanExec {R : Call → Res → Prop} (env : PEnv) (md : Maildir) (rule : Bytes → Option (MatchList × MsgSt))
    (hname : ∀ n ml ms, rule n = some (ml, ms) → ms.name = n) (fuel : Nat) (e : Bool) (tr : Trace) :
    wp R (KnownI []) (scanExec env md rule fuel e) (fun _ _ => True) tr := by
  induction fuel generalizing e tr with
  | zero => unfold scanExec; exact True.intro
  | succ fuel ih =>
    unfold scanExec
    split
    · exact True.intro
    rename_i d _
    refine wp_call (knownI_quiet _ _ _ True.intro) fun r hrr => ?_
    split
    · rename_i n
      split
      · exact ih _ _
      · split
        · exact ih _ _
        · rename_i ml ms hr
          refine wp_bind_ext (known_matchesExec [] env ml _ _ ?_) ?_
          · show ms.name ∈ [] ++ listedNames (tr ++ [(Call.readdir d, Res.name n)])
            rw [hname n ml ms hr, listedNames_append]
            simp [listedNames]
          · intro x L _
            exact ih _ _
    · exact True.intro
    · exact True.intro

/-- The invariant of `hiso_of_readdirNS` for party `i`: the names it has in flight and those it created are in its name space
`N i`; it removes and renames only names it was given, listed or created (`KnownI`), and those given or listed are in no other
party's name space - or it is a client that mentions no name of any name space. -/
structure RInv (N : Nat → Bytes → Prop) (i : Nat) (ps : PState) : Prop where
  names : NameOK (N i) ps
  created : ∀ n ∈ createdNames ps.trace, N i n
  kind : (∃ init, wp (fun _ _ => True) (KnownI init) ps.prog (fun _ _ => True) ps.trace ∧
            (∀ n ∈ init, ∀ j, j ≠ i → ¬ N j n) ∧ (∀ n ∈ listedNames ps.trace, ∀ j, j ≠ i → ¬ N j n)) ∨
         (∃ ops, ps.prog = clientProg ops ∧ (∀ op ∈ ops, ∀ j, op.avoids (N j)) ∧ inFlightH ps.trace = [])

theorem rinv_step {N : Nat → Bytes → Prop} {s : Shared} {i : Nat} {ps : PState} {c : Call} {k : Res → Prog Bool}
    (hc : ps.prog = .call c k) (h : RInv N i ps)
    (hrd : ∀ d n, c = .readdir d → predict (s.view ps) c = .name n → ∀ j, j ≠ i → ¬ N j n) :
    RInv N i (stepLocal s ps c k) := by
  refine ⟨nameOK_step hc h.names, ?_, ?_⟩
  · intro n hn
    rw [stepLocal_trace, createdNames_append] at hn
    rcases List.mem_append.1 hn with hn | hn
    · exact h.created n hn
    · obtain ⟨d, rfl⟩ := mem_createdNames_one hn
      have hq := h.names.1
      rw [hc] at hq
      exact hq.1
  · rcases h.kind with ⟨init, hw, hinit, hlist⟩ | ⟨ops, hp, hav, h0⟩
    · left
      rw [hc] at hw
      refine ⟨init, hw.2 _ True.intro, hinit, ?_⟩
      intro n hn
      rw [stepLocal_trace, listedNames_append] at hn
      rcases List.mem_append.1 hn with hn | hn
      · exact hlist n hn
      · obtain ⟨d, rfl, hres⟩ := mem_listedNames_one hn
        exact hrd d n rfl hres
    · right
      obtain ⟨ops', hp', hav', h0'⟩ := clientOK_step (N := N i) (s := s) hc ⟨ops, hp, fun op ho => hav op ho i, h0⟩
      cases ops with
      | nil => rw [hp] at hc; cases hc
      | cons op rest =>
        rw [hp] at hc
        simp only [clientProg, Prog.call.injEq] at hc
        obtain ⟨rfl, rfl⟩ := hc
        exact ⟨rest, rfl, fun o ho => hav o (List.mem_cons_of_mem _ ho), h0'⟩

theorem isoStep_of_rinv {N : Nat → Bytes → Prop} (hdisj : ∀ i j n, i ≠ j → N i n → ¬ N j n) (s : Shared) (a : Nat)
    (hall : ∀ (i : Nat) (q : PState), s.parties[i]? = some q → RInv N i q) (hown : ownStep s a = true) : isoStep s a = true := by
  cases hp : s.parties[a]? with
  | none => simp [isoStep, hp]
  | some ps =>
    cases hprog : ps.prog with
    | ret e => simp [isoStep, hp, hprog]
    | call c k =>
      refine isoStep_of_names hp hprog ?_ (by simpa [ownStep, hp, hprog] using hown)
      intro n hn y hy e
      obtain ⟨j, q, hj, hq, hyq⟩ := (mem_foreignInFlight s a y).1 hy
      obtain ⟨d, hd⟩ := mem_inFlight_name hyq
      have hN : N j n := e ▸ (hall j q hq).names.2 (d, y.2) hd
      have hr := hall a ps hp
      -- the names the call mentions are outside the name spaces of the others
      have hcr : ∀ m ∈ createdNames ps.trace, ¬ N j m := fun m hm => hdisj a j m (fun e => hj e.symm) (hr.created m hm)
      rcases hr.kind with ⟨init, hw, hinit, hlist⟩ | ⟨ops, hpr, hav, _⟩
      · have hown : ∀ m ∈ init ++ listedNames ps.trace ++ createdNames ps.trace, ¬ N j m := by
          intro m hm
          rcases List.mem_append.1 hm with h1 | h1
          · rcases List.mem_append.1 h1 with h2 | h2
            · exact hinit m h2 j hj
            · exact hlist m h2 j hj
          · exact hcr m h1
        rw [hprog] at hw
        have hI := hw.1
        cases c <;> simp [touchedNames] at hn
        · rename_i d1 n1 d2 n2
          obtain ⟨h1, h2⟩ := hI.2 d1 n1 d2 n2 rfl
          rcases hn with rfl | rfl
          · exact hown _ h1 hN
          · exact hcr _ h2 hN
        · rename_i d n0
          subst hn
          exact hown _ (hI.1 d _ rfl) hN
      · rw [hpr] at hprog
        cases ops with
        | nil => cases hprog
        | cons op rest =>
          simp only [clientProg, Prog.call.injEq] at hprog
          obtain ⟨rfl, _⟩ := hprog
          exact avoids_touched (hav op (List.mem_cons_self ..) j) n hn hN

theorem hiso_of_readdirNS_from {N : Nat → Bytes → Prop} (hdisj : ∀ i j n, i ≠ j → N i n → ¬ N j n) (sched : List Nat) :
    ∀ s, (∀ (i : Nat) (q : PState), s.parties[i]? = some q → RInv N i q) → HisoReaddirNS N s sched → HisoOwn s sched = true →
      Hiso s sched = true := by
  induction sched with
  | nil => intro s _ _ _; rfl
  | cons a rest ih =>
    intro s hall hrd hown
    simp only [HisoOwn, Bool.and_eq_true] at hown
    simp only [Hiso, Bool.and_eq_true]
    refine ⟨isoStep_of_rinv hdisj s a hall hown.1, ih _ ?_ hrd.2 hown.2⟩
    refine parties_step a hall fun ps c k hp hc => rinv_step hc (hall a ps hp) ?_
    intro d n hcd hres j hj
    subst hcd
    exact hrd.1 ps d k n hp hc hres j hj

/-- The kinds of parties of the theorem, with their name spaces. -/
def ReaddirParty (N : Nat → Bytes → Prop) (i : Nat) (ps : PState) : Prop :=
  (∃ env md rule fuel e, GenNames (N i) env ∧ (∀ n ml ms, rule n = some (ml, ms) → ms.name = n) ∧ ps.prog = scanExec env md rule fuel e) ∨
  (∃ env ml st, GenNames (N i) env ∧ (∀ j, j ≠ i → ¬ N j st.ms.name) ∧ ps.prog = errOf (matchesExec env ml st)) ∨
  (∃ ops, ps.prog = clientProg ops ∧ ∀ op ∈ ops, ∀ j, op.avoids (N j))

theorem ReaddirParty.names {N : Nat → Bytes → Prop} {i : Nat} {ps : PState} (h : ReaddirParty N i ps) :
    Calls (NameQ (N i)) ps.prog := by
  rcases h with ⟨env, md, rule, fuel, e, hN, _, hprog⟩ | ⟨env, ml, st, hN, _, hprog⟩ | ⟨ops, hprog, _⟩
  · rw [hprog]; exact nq_scanExec env hN md rule fuel e
  · rw [hprog]; exact nq_errOf _ (nq_matchesExec env hN ml st)
  · rw [hprog]; exact nq_clientProg ops

theorem hiso_of_readdirNS (N : Nat → Bytes → Prop) (hdisj : ∀ i j n, i ≠ j → N i n → ¬ N j n) (s0 : Shared) (hf : Fresh s0)
    (hp : ∀ (i : Nat) (ps : PState), s0.parties[i]? = some ps → ReaddirParty N i ps)
    (sched : List Nat) (hrd : HisoReaddirNS N s0 sched) (hown : HisoOwn s0 sched = true) : Hiso s0 sched = true := by
  refine hiso_of_readdirNS_from hdisj sched s0 ?_ hrd hown
  intro i q hq
  have ht : q.trace = [] := hf.2 q (List.mem_of_getElem? hq)
  refine ⟨⟨(hp i q hq).names, (by rw [ht]; intro y hy; cases hy)⟩, (by rw [ht]; intro n hn; cases hn), ?_⟩
  rcases hp i q hq with ⟨env, md, rule, fuel, e, _, hname, hprog⟩ | ⟨env, ml, st, _, hout, hprog⟩ | ⟨ops, hprog, hav⟩
  · refine .inl ⟨[], ?_, (by intro n hn; cases hn), (by rw [ht]; intro n hn; cases hn)⟩
    rw [hprog, ht]
    exact known_scanExec env md rule hname fuel e []
  · refine .inl ⟨[st.ms.name], ?_, ?_, (by rw [ht]; intro n hn; cases hn)⟩
    · rw [hprog, ht]
      exact known_party env ml st
    · intro n hn j hj
      rw [List.mem_singleton.1 hn]
      exact hout j hj
  · exact .inr ⟨ops, hprog, hav, (by rw [ht]; rfl)⟩

/-- `HisoReaddirNS` is a strengthening of `HisoReaddir`: a name in flight of a party is in its name space. -/
theorem hisoReaddir_of_NS_from {N : Nat → Bytes → Prop} (sched : List Nat) :
    ∀ s, (∀ (i : Nat) (q : PState), s.parties[i]? = some q → NameOK (N i) q) → HisoReaddirNS N s sched → HisoReaddir s sched = true := by
  induction sched with
  | nil => intro s _ _; rfl
  | cons a rest ih =>
    intro s hall hrd
    simp only [HisoReaddir, Bool.and_eq_true]
    refine ⟨?_, ih _ ?_ hrd.2⟩
    · fun_cases isoReaddirStep s a
      -- the branch that asks something: party `a` (state `ps`) is at `readdir d`, `d` is open on `q`, the answer is the name `n`
      case case2 ps hp d k hprog w n q hq hres =>
        -- a listed name in a foreign flight would be in that party's name space
        cases hct : (foreignInFlight s a).contains (q, n) with
        | false => rfl
        | true =>
          obtain ⟨i, qi, hi, hqi, hy⟩ := (mem_foreignInFlight s a (q, n)).1 (by simpa using hct)
          obtain ⟨d', hd'⟩ := mem_inFlight_name hy
          exact (hrd.1 ps d k n hp hprog hres i hi ((hall i qi hqi).2 (d', n) hd')).elim
      -- no such party, another call, another answer: `true`
      all_goals rfl
    · exact parties_step a hall fun ps _ _ hp hc => nameOK_step hc (hall a ps hp)

theorem hisoReaddir_of_NS (N : Nat → Bytes → Prop) (s0 : Shared) (hf : Fresh s0)
    (hp : ∀ (i : Nat) (ps : PState), s0.parties[i]? = some ps → ReaddirParty N i ps)
    (sched : List Nat) (hrd : HisoReaddirNS N s0 sched) : HisoReaddir s0 sched = true := by
  refine hisoReaddir_of_NS_from sched s0 ?_ hrd
  intro i q hq
  refine ⟨(hp i q hq).names, ?_⟩
  rw [hf.2 q (List.mem_of_getElem? hq)]
  intro y hy
  cases hy

end Mdsort.Proofs.Parties
