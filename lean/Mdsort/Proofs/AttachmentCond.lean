import Mdsort.Proofs.EvalEq
import Mdsort.Spec.Attachment
import Mdsort.Proofs.Mime

/-!
# C11: `attachment c` and `attachment { ... }` in the evaluator are the for-each readings of
`Spec/Attachment.lean`

`eval.loop` / `eval.loopB` (the two `for` loops of `expr_eval_attachment` and
`expr_eval_attachment_block`) against `Spec.attachmentCond` / `Spec.attachmentBlock`, and what the
latter mean in terms of the per-part results.
-/

namespace Mdsort.Proofs
open Mdsort Mdsort.Model

theorem lastState_cons {σ : Type} (r : Tri × σ) (t : List (Tri × σ)) (s : σ) :
    Spec.lastState (r :: t) s = Spec.lastState t r.2 := by
  cases t with
  | nil => rfl
  | cons a t =>
    simp only [Spec.lastState, List.getLast?_cons_cons]
    cases h : (a :: t).getLast? with
    | none => simp at h
    | some x => rfl

theorem partTrace_length {σ α : Type} (f : Nat → α → σ → Tri × σ) (ps : List α) :
    ∀ (i : Nat) (s : σ), (Spec.partTrace f i ps s).length = ps.length := by
  induction ps with
  | nil => intro i s; rfl
  | cons p rest ih => intro i s; simp [Spec.partTrace, ih]

def partEval (env : Env) (root : Msg) (e : Expr) (part : Nat) : Nat → Msg → St → Tri × St :=
  fun i p s => eval env root e (Spec.partIndex part i) p s

theorem partIndex_beq (part i : Nat) : (if part == 0 then i + 1 else part) = Spec.partIndex part i := by
  unfold Spec.partIndex
  by_cases h : part = 0 <;> simp [h]

section listlevel
variable {σ : Type}

/-- `Spec.attachmentCond` on a given trace. -/
def condOf (t : List (Tri × σ)) (s : σ) : Tri × σ :=
  match t.find? (fun r => r.1 != .nomatch) with
  | some r => r
  | none => (.nomatch, Spec.lastState t s)

/-- `Spec.attachmentBlock` on a given trace, with the value `ev` accumulated so far. -/
def blockOf (ev : Tri) (t : List (Tri × σ)) (s : σ) : Tri × σ :=
  match t.find? (fun r => r.1 == .error) with
  | some r => r
  | none => (if t.any (fun r => r.1 == .match) then .match else ev, Spec.lastState t s)

theorem condOf_nil (s : σ) : condOf ([] : List (Tri × σ)) s = (.nomatch, s) := rfl

theorem condOf_cons_nomatch (s1 : σ) (t : List (Tri × σ)) (s : σ) :
    condOf ((.nomatch, s1) :: t) s = condOf t s1 := by
  simp [condOf, lastState_cons]

theorem condOf_cons_stop (r : Tri) (hr : r ≠ .nomatch) (s1 : σ) (t : List (Tri × σ)) (s : σ) :
    condOf ((r, s1) :: t) s = (r, s1) := by
  cases r <;> simp [condOf] at hr ⊢

theorem blockOf_nil (ev : Tri) (s : σ) : blockOf ev ([] : List (Tri × σ)) s = (ev, s) := by
  simp [blockOf, Spec.lastState]

theorem blockOf_cons_go (r : Tri) (hr : r ≠ .error) (ev : Tri) (s1 : σ) (t : List (Tri × σ)) (s : σ) :
    blockOf ev ((r, s1) :: t) s = blockOf (if r = .match then .match else ev) t s1 := by
  cases r <;> simp [blockOf, lastState_cons] at hr ⊢
  rfl

theorem blockOf_cons_error (ev : Tri) (s1 : σ) (t : List (Tri × σ)) (s : σ) :
    blockOf ev ((.error, s1) :: t) s = (.error, s1) := by
  simp [blockOf]

end listlevel

theorem partTrace_cons {σ α : Type} (f : Nat → α → σ → Tri × σ) (i : Nat) (p : α) (ps : List α) (s : σ) :
    Spec.partTrace f i (p :: ps) s = f i p s :: Spec.partTrace f (i + 1) ps (f i p s).2 := rfl

theorem loop_eq_spec (env : Env) (root : Msg) (e : Expr) (part : Nat) (ps : List Msg) :
    ∀ (i : Nat) (st : St),
      eval.loop env root e part ps i st = condOf (Spec.partTrace (partEval env root e part) i ps st) st := by
  induction ps with
  | nil => intro i st; simp only [eval.loop, Spec.partTrace, condOf_nil]
  | cons p rest ih =>
    intro i st
    rw [partTrace_cons]
    simp only [eval.loop, partIndex_beq]
    have hf : partEval env root e part i p st = eval env root e (Spec.partIndex part i) p st := rfl
    rw [hf]
    generalize eval env root e (Spec.partIndex part i) p st = r
    obtain ⟨ev, s1⟩ := r
    cases ev
    · rw [condOf_cons_stop _ (by decide)]
    · rw [condOf_cons_nomatch]; exact ih (i + 1) s1
    · rw [condOf_cons_stop _ (by decide)]

theorem loopB_eq_spec (env : Env) (root : Msg) (e : Expr) (part : Nat) (ps : List Msg) :
    ∀ (i : Nat) (ev : Tri) (st : St),
      eval.loopB env root e part ps i ev st = blockOf ev (Spec.partTrace (partEval env root e part) i ps st) st := by
  induction ps with
  | nil => intro i ev st; simp only [eval.loopB, Spec.partTrace, blockOf_nil]
  | cons p rest ih =>
    intro i ev0 st
    rw [partTrace_cons]
    simp only [eval.loopB, partIndex_beq]
    have hf : partEval env root e part i p st = eval env root e (Spec.partIndex part i) p st := rfl
    rw [hf]
    generalize eval env root e (Spec.partIndex part i) p st = r
    obtain ⟨ev, s1⟩ := r
    cases ev
    · rw [blockOf_cons_go _ (by decide), if_pos rfl]; exact ih (i + 1) .match s1
    · rw [blockOf_cons_go _ (by decide), if_neg (by decide)]; exact ih (i + 1) ev0 s1
    · rw [blockOf_cons_error]

/-- `attachment c` (`expr_eval_attachment`): a malformed multipart message is an error with the
state untouched; otherwise the condition over the parts per `Spec.attachmentCond`. -/
theorem eval_attachment_eq (env : Env) (root : Msg) (lno : Nat) (e : Expr) (part : Nat) (m : Msg) (st : St) :
    eval env root (.attachment lno e) part m st =
      match getAttachments m with
      | none => (.error, st)
      | some ps => Spec.attachmentCond (fun i p s => eval env root e (Spec.partIndex part i) p s) ps st := by
  simp only [eval]
  cases getAttachments m with
  | none => rfl
  | some ps => exact loop_eq_spec env root e part ps 0 st

/-- `attachment { ... }` (`expr_eval_attachment_block`). -/
theorem eval_attBlock_eq (env : Env) (root : Msg) (lno : Nat) (blk : Expr) (part : Nat) (m : Msg) (st : St) :
    eval env root (.attBlock lno blk) part m st =
      match getAttachments m with
      | none => (.error, st)
      | some ps => Spec.attachmentBlock (fun i p s => eval env root blk (Spec.partIndex part i) p s) ps st := by
  simp only [eval]
  cases getAttachments m with
  | none => rfl
  | some ps => exact loopB_eq_spec env root blk part ps 0 .nomatch st

section meaning
variable {σ : Type}

/-- `Spec.attachmentCond` on the trace `t` of per-part results: the first part that is not a no-match decides, the
result and the state. -/
theorem attachmentCond_meaning {α : Type} (f : Nat → α → σ → Tri × σ) (ps : List α) (s : σ) :
    let t := Spec.partTrace f 0 ps s
    let res := Spec.attachmentCond f ps s
    (res.1 = .match ↔ ∃ as r bs, t = as ++ r :: bs ∧ r.1 = .match ∧ ∀ a ∈ as, a.1 ≠ .error) ∧
    (res.1 = .error ↔ ∃ as r bs, t = as ++ r :: bs ∧ r.1 = .error ∧ ∀ a ∈ as, a.1 = .nomatch) ∧
    (res.1 = .nomatch ↔ ∀ r ∈ t, r.1 = .nomatch) ∧
    (res.1 = .nomatch → res.2 = Spec.lastState t s) ∧
    (res.1 ≠ .nomatch → ∃ as bs, t = as ++ res :: bs ∧ ∀ a ∈ as, a.1 = .nomatch) := by
  intro t res
  have hres : res = match t.find? (fun r => r.1 != .nomatch) with
      | some r => r
      | none => (.nomatch, Spec.lastState t s) := rfl
  cases hfind : t.find? (fun r => r.1 != .nomatch) with
  | none =>
    rw [hfind] at hres
    have hall : ∀ r ∈ t, r.1 = .nomatch := by
      intro r hr
      simpa using List.find?_eq_none.1 hfind r hr
    have h1 : res.1 = .nomatch := by rw [hres]
    refine ⟨⟨fun h => ?_, ?_⟩, ⟨fun h => ?_, ?_⟩, ⟨fun _ => hall, fun _ => h1⟩, fun _ => by rw [hres], fun h => absurd h1 h⟩
    · rw [h1] at h; cases h
    · rintro ⟨as, r, bs, ht, hr, -⟩
      have := hall r (by rw [ht]; simp)
      rw [hr] at this; cases this
    · rw [h1] at h; cases h
    · rintro ⟨as, r, bs, ht, hr, -⟩
      have := hall r (by rw [ht]; simp)
      rw [hr] at this; cases this
  | some r0 =>
    rw [hfind] at hres
    dsimp only at hres
    obtain ⟨hp, as0, bs0, ht0, has0⟩ := List.find?_eq_some_iff_append.1 hfind
    have hp' : r0.1 ≠ .nomatch := bne_iff_ne.1 hp
    have has0' : ∀ a ∈ as0, a.1 = .nomatch := fun a ha => by simpa using has0 a ha
    rw [hres]
    refine ⟨⟨fun h => ?_, ?_⟩, ⟨fun h => ?_, ?_⟩, ⟨fun h => absurd h hp', fun h => ?_⟩, fun h => absurd h hp',
      fun _ => ⟨as0, bs0, ht0, has0'⟩⟩
    · exact ⟨as0, r0, bs0, ht0, h, fun a ha => by rw [has0' a ha]; intro h; cases h⟩
    · rintro ⟨as, r, bs, ht, hr, has⟩
      obtain ⟨r1, h1, h2⟩ := List.find?_good (dec := fun r : Tri × σ => r.1 != .nomatch) (good := fun r => r.1 = .match)
        bs (by simp [hr]) hr as fun a ha hd => by
          cases h : a.1 with
          | «match» => rfl
          | «nomatch» => simp [h] at hd
          | error => exact absurd h (has a ha)
      rw [← ht, hfind] at h1
      cases h1
      exact h2
    · exact ⟨as0, r0, bs0, ht0, h, has0'⟩
    · rintro ⟨as, r, bs, ht, hr, has⟩
      have h1 : (as ++ r :: bs).find? (fun r => r.1 != .nomatch) = some r := by
        rw [List.find?_append]
        have : as.find? (fun r => r.1 != .nomatch) = none :=
          List.find?_eq_none.2 fun a ha => by simp [has a ha]
        simp [this, hr]
      rw [← ht, hfind] at h1
      cases h1
      exact hr
    · exact absurd (h r0 (by rw [ht0]; simp)) hp'

/-- `Spec.attachmentBlock` on the trace `t`: the first error decides; without one the block was evaluated on EVERY
part and the result is a match iff it matched on at least one. -/
theorem attachmentBlock_meaning {α : Type} (f : Nat → α → σ → Tri × σ) (ps : List α) (s : σ) :
    let t := Spec.partTrace f 0 ps s
    let res := Spec.attachmentBlock f ps s
    (res.1 = .error ↔ ∃ r ∈ t, r.1 = .error) ∧
    (res.1 = .error → ∃ as bs, t = as ++ res :: bs ∧ ∀ a ∈ as, a.1 ≠ .error) ∧
    (res.1 = .match ↔ (∀ r ∈ t, r.1 ≠ .error) ∧ ∃ r ∈ t, r.1 = .match) ∧
    (res.1 = .nomatch ↔ ∀ r ∈ t, r.1 = .nomatch) ∧
    (res.1 ≠ .error → res.2 = Spec.lastState t s) := by
  intro t res
  have hres : res = match t.find? (fun r => r.1 == .error) with
      | some r => r
      | none => (if t.any (fun r => r.1 == .match) then .match else .nomatch, Spec.lastState t s) := rfl
  cases hfind : t.find? (fun r => r.1 == .error) with
  | none =>
    rw [hfind] at hres
    dsimp only at hres
    have hall : ∀ r ∈ t, r.1 ≠ .error := by
      intro r hr
      have := List.find?_eq_none.1 hfind r hr
      intro h; rw [h] at this; simp at this
    by_cases hany : t.any (fun r => r.1 == .match) = true
    · rw [hany, if_pos rfl] at hres
      obtain ⟨r, hr, hrm⟩ := List.any_eq_true.1 hany
      have hrm' : r.1 = .match := by cases h : r.1 <;> simp [h] at hrm ⊢
      rw [hres]
      refine ⟨⟨fun h => (by cases h), fun ⟨r, hr, h⟩ => absurd h (hall r hr)⟩, fun h => (by cases h),
        ⟨fun _ => ⟨hall, r, hr, hrm'⟩, fun _ => rfl⟩, ⟨fun h => (by cases h), fun h => ?_⟩, fun _ => rfl⟩
      have := h r hr
      rw [hrm'] at this; cases this
    · have hany' : t.any (fun r => r.1 == .match) = false := Bool.eq_false_iff.mpr hany
      rw [hany'] at hres
      have hnm : ∀ r ∈ t, r.1 = .nomatch := by
        intro r hr
        have h1 := hall r hr
        have h2 : ¬ (r.1 == Tri.match) = true := fun h => hany (List.any_eq_true.2 ⟨r, hr, h⟩)
        cases h : r.1
        · rw [h] at h2; simp at h2
        · rfl
        · exact absurd h h1
      rw [hres]
      refine ⟨⟨fun h => (by cases h), fun ⟨r, hr, h⟩ => absurd h (hall r hr)⟩, fun h => (by cases h),
        ⟨fun h => (by cases h), fun ⟨_, r, hr, h⟩ => ?_⟩, ⟨fun _ => hnm, fun _ => rfl⟩, fun _ => rfl⟩
      have := hnm r hr
      rw [h] at this; cases this
  | some r0 =>
    rw [hfind] at hres
    dsimp only at hres
    obtain ⟨hp, as0, bs0, ht0, has0⟩ := List.find?_eq_some_iff_append.1 hfind
    have hp' : r0.1 = .error := beq_iff_eq.1 hp
    have hmem : r0 ∈ t := by rw [ht0]; simp
    rw [hres]
    refine ⟨⟨fun _ => ⟨r0, hmem, hp'⟩, fun _ => hp'⟩, fun _ => ⟨as0, bs0, ht0, fun a ha h => ?_⟩,
      ⟨fun h => ?_, fun ⟨h, _⟩ => absurd hp' (h r0 hmem)⟩, ⟨fun h => ?_, fun h => ?_⟩, fun h => absurd hp' h⟩
    · have := has0 a ha
      rw [h] at this; simp at this
    · rw [hp'] at h; cases h
    · rw [hp'] at h; cases h
    · have := h r0 hmem
      rw [hp'] at this; cases this

end meaning

/-! ## under `BoundaryOk` the parts are those of the MIME tree (`parseAttachments_eq_spec_partial`) -/

theorem eval_attachment_mime (env : Env) (root : Msg) (lno : Nat) (e : Expr) (part : Nat) (m : Msg) (st : St)
    (h : BoundaryOk (Gen.mimeDepthLimit + 1) m = true) :
    eval env root (.attachment lno e) part m st =
      match Spec.parts entity (Gen.mimeDepthLimit + 1) m with
      | none => (.error, st)
      | some ps => Spec.attachmentCond (fun i p s => eval env root e (Spec.partIndex part i) p s) ps st := by
  rw [eval_attachment_eq, show getAttachments m = Spec.parts entity (Gen.mimeDepthLimit + 1) m from
    parseAttachments_eq_spec_partial (Gen.mimeDepthLimit + 1) m h]

theorem eval_attBlock_mime (env : Env) (root : Msg) (lno : Nat) (blk : Expr) (part : Nat) (m : Msg) (st : St)
    (h : BoundaryOk (Gen.mimeDepthLimit + 1) m = true) :
    eval env root (.attBlock lno blk) part m st =
      match Spec.parts entity (Gen.mimeDepthLimit + 1) m with
      | none => (.error, st)
      | some ps => Spec.attachmentBlock (fun i p s => eval env root blk (Spec.partIndex part i) p s) ps st := by
  rw [eval_attBlock_eq, show getAttachments m = Spec.parts entity (Gen.mimeDepthLimit + 1) m from
    parseAttachments_eq_spec_partial (Gen.mimeDepthLimit + 1) m h]

end Mdsort.Proofs
