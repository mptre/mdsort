import Mdsort.Proofs.HeaderParse
import Mdsort.Proofs.HeaderSearch
import Mdsort.Proofs.HeaderUnfold
import Mdsort.Proofs.Decode

/-! The header table of a parsed message.  First the lookup: `message_get_header` on a parsed well-formed message returns the values
the line-by-line reading has (`getHeader_eq_spec`, C10), and the table in id order is that reading (`parseMessage_eq_read`, C08).
Then the rewriting (C08): the invariant `TInv` of the table (sorted by name, equal names in id order), and what one
`message_set_header` does to the table in file order (`TableStep`, `setHeaderRaw_step`). -/

namespace Mdsort.Proofs
open Mdsort Mdsort.Model

theorem lower_eq_tolower : Spec.lower = tolower := by
  funext c; rfl

theorem kmatch_eq_nameEq (name : Bytes) (h : Hdr) : kmatch name h = Spec.nameEq h.key name := by
  unfold kmatch Spec.nameEq
  rw [lower_eq_tolower, Bool.eq_iff_iff]
  simp only [beq_iff_eq, strcasecmp_eq_iff]
  exact eq_comm

theorem kmatch_class (name : Bytes) (a b : Hdr) (ha : kmatch name a = true) (hb : kmatch name b = true) :
    keyLe a b = true := by
  unfold kmatch at ha hb
  simp only [beq_iff_eq] at ha hb
  unfold keyLe
  simp only [bne_iff_ne, ne_eq]
  apply strcasecmp_le_trans a.key name b.key
  · rw [strcasecmp_swap name, ha]; decide
  · rw [hb]; decide

theorem filter_sortByKey_kmatch (name : Bytes) (hs : List Hdr) :
    (sortByKey hs).filter (kmatch name) = hs.filter (kmatch name) :=
  filter_mergeSort_class keyLe_trans keyLe_total _ (kmatch_class name) hs

theorem decodeHeader_eq (v : Bytes) : decodeHeader v = Spec.logical v := by
  unfold decodeHeader rfc2047Decode Spec.logical
  rw [rfc2047_eq_spec, unfoldHeader_eq_spec]

theorem headerValues_table (H : List Hdr) (name : Bytes) :
    Spec.headerValues (H.map fun h => (h.key, h.val)) name =
      (H.filter (kmatch name)).map fun h => decodeHeader h.val := by
  unfold Spec.headerValues
  rw [List.filter_map, List.map_map]
  have : ((fun f : Bytes × Bytes => Spec.nameEq f.1 name) ∘ fun h : Hdr => (h.key, h.val)) = kmatch name := by
    funext h
    simp [kmatch_eq_nameEq]
  rw [this]
  apply List.map_congr_left
  intro h _
  simp [decodeHeader_eq]

theorem getHeader_sorted (hs : List Hdr) (body name : Bytes)
    (hsorted : hs.Pairwise (fun a b => keyLe a b = true)) :
    getHeader { headers := hs, body := body } name =
      (if (hs.filter (kmatch name)).isEmpty then none
       else some ((hs.filter (kmatch name)).map fun h => decodeHeader h.val)) := by
  obtain ⟨G, E, L, z⟩ := zones_of_sorted name hs hsorted
  unfold getHeader
  rw [z.searchHeader_eq, z.filter]
  cases E with
  | nil => rfl
  | cons h rest =>
    rw [if_neg (by simp)]
    simp only
    rw [z.mid]
    rfl

theorem getHeader_eq_spec (m : Bytes) (fs : List (Bytes × Bytes)) (b : Bytes) (name : Bytes)
    (h : Spec.read m = some (fs, b)) :
    getHeader (parseMessage m) name =
      (if (Spec.headerValues fs name).isEmpty then none else some (Spec.headerValues fs name)) := by
  rw [parseMessage_read m fs b h]
  rw [getHeader_sorted (sortByKey (mkHdrs 0 fs)) b name (List.pairwise_mergeSort keyLe_trans keyLe_total _)]
  rw [filter_sortByKey_kmatch]
  have hv := headerValues_table (mkHdrs 0 fs) name
  rw [mkHdrs_map_kv] at hv
  rw [hv]
  simp [List.isEmpty_iff]

theorem parseMessage_eq_read (m : Bytes) (fs : List (Bytes × Bytes)) (b : Bytes)
    (h : Spec.read m = some (fs, b)) :
    (sortById (parseMessage m).headers).map (fun h => (h.key, h.val)) = fs ∧ (parseMessage m).body = b ∧
    (sortById (parseMessage m).headers).map (·.id) = (List.range fs.length).map (· + 1) := by
  rw [parseMessage_read m fs b h]
  simp only
  rw [sortById_sortByKey _ (mkHdrs_strict 0 fs)]
  exact ⟨mkHdrs_map_kv 0 fs, trivial, mkHdrs_map_id 0 fs⟩

/-- Table invariant: sorted by name; headers with the same name appear in increasing id order.  Ids increase only WITHIN a
name: `message_set_header` gives a new header the id `table length + 1` (`message_headers_alloc`), so after a set that replaced
several headers of one name by one, the next new header repeats an id that is in the table under another name.  Hence the
second clause speaks of one name at a time, and `sortByKey_sortById` compares the two sorts class by class
(`eq_of_sorted_of_class`), not as sorted permutations of distinct keys. -/
def TInv (hs : List Hdr) : Prop :=
  hs.Pairwise (fun a b => keyLe a b = true) ∧
  ∀ x : Bytes, (hs.filter (kmatch x)).Pairwise (fun a b => a.id < b.id)

theorem kmatch_congr (x y : Bytes) (h : strcasecmp x y = .eq) (a : Hdr) : kmatch x a = kmatch y a := by
  unfold kmatch
  rw [Bool.eq_iff_iff]
  simp only [beq_iff_eq, strcasecmp_eq_iff]
  rw [(strcasecmp_eq_iff x y).mp h]

@[simp] theorem kmatch_mk (k ky vl : Bytes) (i : Nat) :
    kmatch k { id := i, key := ky, val := vl } = (strcasecmp k ky == .eq) := rfl

theorem kmatch_self (k : Bytes) (h : Hdr) (hk : h.key = k) : kmatch k h = true := by
  unfold kmatch; rw [hk, strcasecmp_refl]; rfl

theorem TInv_sublist (a b : List Hdr) (h : List.Sublist a b) (hb : TInv b) : TInv a :=
  ⟨hb.1.sublist h, fun x => (hb.2 x).sublist (h.filter _)⟩

theorem TInv_map (g : Hdr → Hdr) (hk : ∀ x, (g x).key = x.key) (hi : ∀ x, (g x).id = x.id) (hs : List Hdr)
    (h : TInv hs) : TInv (hs.map g) := by
  refine ⟨?_, fun x => ?_⟩
  · rw [List.pairwise_map]
    exact h.1.imp (fun h => by simpa [keyLe, hk] using h)
  · have e : (kmatch x ∘ g) = kmatch x := funext fun y => by simp [kmatch, hk]
    rw [List.filter_map, List.pairwise_map, e]
    exact (h.2 x).imp (fun h => by simpa [hi] using h)

theorem parseLoop_cut (s : Bytes) (n : Nat) (acc : List Hdr) (key : Bytes)
    (h : findHeader s = .cutAtColon key) : parseLoop s n acc = (acc, key) := by
  rw [parseLoop]
  split
  · rename_i h'; rw [h] at h'; cases h'
  · rename_i k h'; rw [h] at h'; cases h'; rfl
  · rename_i h'; rw [h] at h'; cases h'

/-- Whatever the buffer holds, the loop numbers what it finds as `mkHdrs` does. -/
theorem parseLoop_mkHdrs (s : Bytes) (n : Nat) (acc : List Hdr) :
    ∃ fs, (parseLoop s n acc).1 = acc ++ mkHdrs n fs := by
  fun_induction parseLoop s n acc with
  -- no header here; a name without the end of a value; a header
  | case1 => exact ⟨[], (List.append_nil _).symm⟩
  | case2 => exact ⟨[], (List.append_nil _).symm⟩
  | case3 s n acc key val rest h _ ih =>
    obtain ⟨fs, e⟩ := ih
    exact ⟨(key, val) :: fs, by rw [e, List.append_assoc]; rfl⟩

theorem TInv_sortByKey_of_strict (hs : List Hdr) (h : hs.Pairwise (fun a b => a.id < b.id)) :
    TInv (sortByKey hs) := by
  refine ⟨List.pairwise_mergeSort keyLe_trans keyLe_total hs, fun x => ?_⟩
  rw [filter_sortByKey_kmatch]
  exact h.sublist List.filter_sublist

theorem TInv_parseHeaders (buf : Bytes) : TInv (parseHeaders buf).headers := by
  have e : (parseHeaders buf).headers = sortByKey (parseLoop (skipSeparator buf) 0 []).1 := rfl
  rw [e]
  obtain ⟨fs, h⟩ := parseLoop_mkHdrs (skipSeparator buf) 0 []
  rw [h]
  exact TInv_sortByKey_of_strict _ (mkHdrs_strict 0 fs)

theorem pairwise_idLe_of_lt {l : List Hdr} (h : l.Pairwise (fun a b => a.id < b.id)) :
    l.Pairwise (fun a b => idLe a b = true) :=
  h.imp (fun h => by simp only [idLe, decide_eq_true_eq]; omega)

theorem filter_sortById_kmatch (hs : List Hdr) (h : TInv hs) (x : Bytes) :
    (sortById hs).filter (kmatch x) = hs.filter (kmatch x) := by
  unfold sortById
  rw [← mergeSort_filter idLe_trans idLe_total]
  exact List.mergeSort_of_pairwise (pairwise_idLe_of_lt (h.2 x))

theorem keyclass_eq_kmatch (x y : Hdr) : (keyLe x y && keyLe y x) = kmatch x.key y := by
  unfold keyLe kmatch
  rw [strcasecmp_swap x.key y.key]
  cases strcasecmp x.key y.key <;> rfl

theorem sortByKey_sortById (hs : List Hdr) (h : TInv hs) : sortByKey (sortById hs) = hs := by
  apply eq_of_sorted_of_class keyLe_total
  · exact List.pairwise_mergeSort keyLe_trans keyLe_total _
  · exact h.1
  · intro x
    have e : (fun y => keyLe x y && keyLe y x) = kmatch x.key := by
      funext y; exact keyclass_eq_kmatch x y
    rw [e, filter_sortByKey_kmatch, filter_sortById_kmatch hs h]

/-- What `message_set_header` found: the run of headers named `k`. -/
structure Found (hs : List Hdr) (k : Bytes) (i n : Nat) (h : Hdr) (rest : List Hdr) : Prop where
  split : hs = hs.take i ++ (h :: rest ++ hs.drop (i + n))
  get : hs[i]? = some h
  run : hs.filter (kmatch k) = h :: rest
  before : ∀ x ∈ hs.take i, kmatch k x = false
  after : ∀ x ∈ hs.drop (i + n), kmatch k x = false
  npos : 0 < n
  bound : i + n ≤ hs.length

theorem found_of_search (hs : List Hdr) (k : Bytes) (i n : Nat) (hsorted : hs.Pairwise (fun a b => keyLe a b = true))
    (hres : searchHeader hs k = some (i, n)) : ∃ h rest, Found hs k i n h rest := by
  obtain ⟨G, E, L, z⟩ := zones_of_sorted k hs hsorted
  rw [z.searchHeader_eq] at hres
  cases E with
  | nil => cases hres
  | cons h rest =>
    rw [if_neg (by simp)] at hres
    cases hres
    refine ⟨h, rest, ?_, ?_, z.filter, ?_, ?_, by simp, by have := z.length; omega⟩
    · rw [z.take, z.drop]
      exact z.split
    · rw [z.split, List.getElem?_append_right (Nat.le_refl _), Nat.sub_self]
      rfl
    · rw [z.take]
      exact z.not_kmatch_gt
    · rw [z.drop]
      exact z.not_kmatch_lt

theorem setHeaderRaw_none (m : Msg) (k v : Bytes) (h : searchHeader m.headers k = none) :
    setHeaderRaw m k v =
      { m with headers := sortByKey (m.headers ++ [{ id := m.headers.length + 1, key := k, val := v }]) } := by
  unfold setHeaderRaw; rw [h]

theorem setHeaderRaw_some (m : Msg) (k v : Bytes) (i n : Nat) (h : Hdr)
    (hres : searchHeader m.headers k = some (i, n)) (hget : m.headers[i]? = some h) :
    setHeaderRaw m k v =
      { m with headers := m.headers.take i ++ [{ h with val := v }] ++ m.headers.drop (i + n) } := by
  unfold setHeaderRaw; rw [hres]; simp only [hget]

/-- What a replacing `message_set_header` keeps of the table: the headers with other names and, of those named `k`, the one
with the id of the first (`h`). -/
def keepF (k : Bytes) (h : Hdr) (x : Hdr) : Bool := !kmatch k x || x.id == h.id

/-- ... and the header named `k` gets the value. -/
def setVal (k v : Bytes) (x : Hdr) : Hdr := if kmatch k x then { x with val := v } else x

theorem keepF_of_not {k : Bytes} {h x : Hdr} (hx : kmatch k x = false) : keepF k h x = true := by
  simp [keepF, hx]

theorem setVal_of_not {k v : Bytes} {x : Hdr} (hx : kmatch k x = false) : setVal k v x = x := by
  simp [setVal, hx]

theorem map_setVal_of_not {k v : Bytes} {l : List Hdr} (h : ∀ x ∈ l, kmatch k x = false) : l.map (setVal k v) = l :=
  (List.map_congr_left fun x hx => setVal_of_not (h x hx)).trans (List.map_id l)

/-- The replacing `message_set_header` as a filter and a map, which the sort by id commutes with. -/
theorem found_filter_map (hs : List Hdr) (k v : Bytes) (i n : Nat) (h : Hdr) (rest : List Hdr)
    (hinv : TInv hs) (hf : Found hs k i n h rest) :
    (hs.filter (keepF k h)).map (setVal k v) = hs.take i ++ [{ h with val := v }] ++ hs.drop (i + n) := by
  have hstrict := hinv.2 k
  rw [hf.run, List.pairwise_cons] at hstrict
  have hkm : ∀ x ∈ h :: rest, kmatch k x = true := by
    intro x hx
    rw [← hf.run] at hx
    exact (List.mem_filter.mp hx).2
  have e1 : (hs.take i).filter (keepF k h) = hs.take i :=
    List.filter_eq_self.mpr fun x hx => keepF_of_not (hf.before x hx)
  have e2 : (hs.drop (i + n)).filter (keepF k h) = hs.drop (i + n) :=
    List.filter_eq_self.mpr fun x hx => keepF_of_not (hf.after x hx)
  have e3 : rest.filter (keepF k h) = [] := by
    rw [List.filter_eq_nil_iff]
    intro x hx
    have := hstrict.1 x hx
    have hne : ¬ x.id = h.id := by omega
    simp [keepF, hkm x (by simp [hx]), hne]
  have e4 : keepF k h h = true := by simp [keepF]
  have e5 : setVal k v h = { h with val := v } := by simp [setVal, hkm h (by simp)]
  conv => lhs; rw [hf.split]
  rw [List.filter_append, List.filter_append, List.filter_cons, if_pos e4, e1, e2, e3,
    List.map_append, List.map_append, List.map_cons, List.map_nil, e5, map_setVal_of_not hf.before,
    map_setVal_of_not hf.after, List.append_assoc]

theorem setVal_key (k v : Bytes) (x : Hdr) : (setVal k v x).key = x.key := by
  unfold setVal; split <;> rfl

theorem setVal_id (k v : Bytes) (x : Hdr) : (setVal k v x).id = x.id := by
  unfold setVal; split <;> rfl

theorem setVal_idLe (k v : Bytes) (a b : Hdr) : idLe a b = idLe (setVal k v a) (setVal k v b) := by
  simp [idLe, setVal_id]

/-- The effect of one `message_set_header` on the table in id order. -/
structure TableStep (k v : Bytes) (L L' : List Hdr) : Prop where
  others : L'.filter (fun x => !kmatch k x) = L.filter (fun x => !kmatch k x)
  once : ∃ h', L'.filter (kmatch k) = [h'] ∧ h'.val = v
  pos : L.any (kmatch k) = true →
    L'.takeWhile (fun x => !kmatch k x) = L.takeWhile (fun x => !kmatch k x)

/-- The third clause is what the caller needs to see that printable names and values stay printable (`TOk` in
Proofs/Header.lean).  The two halves are the inserting case (`k` absent: append, re-sort by name) and the replacing case
(`found_filter_map`). -/
theorem setHeaderRaw_step (m : Msg) (k v : Bytes) (hinv : TInv m.headers) :
    TInv (setHeaderRaw m k v).headers ∧ (setHeaderRaw m k v).body = m.body ∧
    (∀ x ∈ (setHeaderRaw m k v).headers, x ∈ m.headers ∨ (x.val = v ∧ (x.key = k ∨ ∃ y ∈ m.headers, y.key = x.key))) ∧
    TableStep k v (sortById m.headers) (sortById (setHeaderRaw m k v).headers) := by
  obtain ⟨hs, body⟩ := m
  simp only at hinv ⊢
  cases hres : searchHeader hs k with
  | none =>
    rw [setHeaderRaw_none _ k v hres]
    simp only
    have hnone := searchHeader_list hs k hinv.1
    rw [hres] at hnone
    simp only at hnone
    have hall : ∀ x ∈ hs, kmatch k x = false := by
      intro x hx
      have := List.filter_eq_nil_iff.mp hnone x hx
      simpa using this
    generalize hhn : ({ id := hs.length + 1, key := k, val := v } : Hdr) = hn
    have hnk : hn.key = k := by rw [← hhn]
    have hnv : hn.val = v := by rw [← hhn]
    have hkn : kmatch k hn = true := kmatch_self k hn hnk
    have hinv' : TInv (sortByKey (hs ++ [hn])) := by
      refine ⟨List.pairwise_mergeSort keyLe_trans keyLe_total _, fun x => ?_⟩
      rw [filter_sortByKey_kmatch, List.filter_append]
      by_cases hx : kmatch x hn = true
      · have hxk : strcasecmp x k = .eq := by simpa [kmatch, hnk] using hx
        have : hs.filter (kmatch x) = [] := by
          rw [List.filter_eq_nil_iff]
          intro a ha
          rw [kmatch_congr x k hxk a, hall a ha]; simp
        rw [this]
        simp [hx]
      · have hx0 : kmatch x hn = false := by simpa using hx
        simp only [List.filter_cons, hx0, Bool.false_eq_true, if_false, List.filter_nil, List.append_nil]
        exact hinv.2 x
    refine ⟨hinv', trivial, ?_, ?_, ⟨hn, ?_, hnv⟩, fun hany => ?_⟩
    · intro x hx
      rw [sortByKey, List.mem_mergeSort, List.mem_append, List.mem_singleton] at hx
      rcases hx with hx | rfl
      · exact Or.inl hx
      · exact Or.inr ⟨hnv, Or.inl hnk⟩
    · -- both sorts commute with the filter, and the other headers were sorted by name already
      unfold sortById
      rw [← mergeSort_filter idLe_trans idLe_total, ← mergeSort_filter idLe_trans idLe_total]
      congr 1
      have e : [hn].filter (fun x => !kmatch k x) = [] := by simp [hkn]
      rw [sortByKey, ← mergeSort_filter keyLe_trans keyLe_total, List.filter_append, e, List.append_nil]
      exact List.mergeSort_of_pairwise (hinv.1.filter _)
    · rw [filter_sortById_kmatch _ hinv', filter_sortByKey_kmatch, List.filter_append, hnone]
      simp [hkn]
    · obtain ⟨x, hx, hkx⟩ := List.any_eq_true.mp hany
      rw [sortById, List.mem_mergeSort] at hx
      rw [hall x hx] at hkx
      cases hkx
  | some r =>
    obtain ⟨i, n⟩ := r
    obtain ⟨h, rest, hf⟩ := found_of_search hs k i n hinv.1 hres
    rw [setHeaderRaw_some _ k v i n h hres hf.get]
    simp only
    have hfm := found_filter_map hs k v i n h rest hinv hf
    have hkh : kmatch k h = true := by
      have : h ∈ hs.filter (kmatch k) := by rw [hf.run]; simp
      exact (List.mem_filter.mp this).2
    have hmem : h ∈ hs := by
      have : h ∈ hs.filter (kmatch k) := by rw [hf.run]; simp
      exact (List.mem_filter.mp this).1
    have hinv' : TInv (hs.take i ++ [{ h with val := v }] ++ hs.drop (i + n)) :=
      hfm ▸ TInv_map _ (setVal_key k v) (setVal_id k v) _ (TInv_sublist _ hs List.filter_sublist hinv)
    refine ⟨hinv', trivial, ?_, ?_⟩
    · intro x hx
      simp only [List.mem_append, List.mem_singleton] at hx
      rcases hx with (hx | rfl) | hx
      · exact Or.inl (List.mem_of_mem_take hx)
      · exact Or.inr ⟨rfl, Or.inr ⟨h, hmem, rfl⟩⟩
      · exact Or.inl (List.mem_of_mem_drop hx)
    · have hrest : rest.filter (fun x => !kmatch k x) = [] := by
        rw [List.filter_eq_nil_iff]
        intro x hx
        have : x ∈ hs.filter (kmatch k) := by rw [hf.run]; simp [hx]
        simp [(List.mem_filter.mp this).2]
      have hA : (hs.take i).filter (kmatch k) = [] :=
        List.filter_eq_nil_iff.mpr (fun a ha => by simp [hf.before a ha])
      have hB : (hs.drop (i + n)).filter (kmatch k) = [] :=
        List.filter_eq_nil_iff.mpr (fun a ha => by simp [hf.after a ha])
      -- `simp` rewrites `kmatch k` of the literal record by `kmatch_mk`
      have hk' : (strcasecmp k h.key == .eq) = true := hkh
      refine ⟨?_, ⟨{ h with val := v }, ?_, rfl⟩, fun _ => ?_⟩
      · -- the sort by id commutes with the filter, and in the table only the run of `k` has changed
        unfold sortById
        rw [← mergeSort_filter idLe_trans idLe_total, ← mergeSort_filter idLe_trans idLe_total]
        congr 1
        conv => rhs; rw [hf.split]
        simp [hk', hkh, hrest]
      · rw [filter_sortById_kmatch _ hinv']
        simp [hA, hB, hk']
      · -- in file order too the step is that filter and that map: the sort by id commutes with both
        have hL' : sortById (hs.take i ++ [{ h with val := v }] ++ hs.drop (i + n)) =
            ((sortById hs).filter (keepF k h)).map (setVal k v) := by
          rw [← hfm, sortById, ← List.map_mergeSort (fun a _ b _ => setVal_idLe k v a b),
            mergeSort_filter idLe_trans idLe_total]
          rfl
        -- `A`: the headers before the first one named `k`, which is `h`; the filter and the map leave them alone
        obtain ⟨A, B, hL, hAk, -, -⟩ := List.filter_eq_cons_iff.mp
          (show (sortById hs).filter (kmatch k) = h :: rest by rw [filter_sortById_kmatch hs hinv, hf.run])
        have hA' : ∀ y ∈ A, kmatch k y = false := fun y hy => by simpa using hAk y hy
        have hAn : ∀ y ∈ A, (!kmatch k y) = true := fun y hy => by simp [hA' y hy]
        have hkv : kmatch k (setVal k v h) = true := by simp [setVal, hkh, hk']
        rw [hL', hL, List.filter_append, List.filter_cons, if_pos (by simp [keepF]), List.map_append, List.map_cons,
          List.filter_eq_self.mpr (fun y hy => keepF_of_not (hA' y hy)), map_setVal_of_not hA']
        exact (List.span_stop hAn (by simp [hkv])).1.trans (List.span_stop hAn (by simp [hkh])).1.symm

end Mdsort.Proofs
