import Mdsort.Proofs.WorldBasic

/-! Algebra of the abstract file system: observations (`lookup`, `file`, `obj`) after updates. -/

namespace Mdsort.Proofs.World
open Mdsort Mdsort.Model

theorem find_filter_ne {κ α} [BEq κ] [LawfulBEq κ] [DecidableEq κ] (es : List (κ × α)) (n m : κ) :
    (es.filter (·.1 != n)).find? (·.1 == m) = if m = n then none else es.find? (·.1 == m) := by
  induction es with
  | nil => simp
  | cons e es ih =>
    simp only [List.filter_cons, List.find?_cons]
    grind

theorem file_setFile (w : World) (fid g : Nat) (f : File) :
    (w.setFile fid f).file g = if g = fid then some f else w.file g := by
  unfold World.setFile World.file
  simp only [List.find?_append, find_filter_ne]
  by_cases h : g = fid
  · subst h; simp
  · have h2 : (fid == g) = false := by simp; exact fun e => h e.symm
    simp [h, h2, List.find?]

theorem mem_files_of_file {w : World} {fid : Nat} {f : File} (h : w.file fid = some f) : (fid, f) ∈ w.files := by
  unfold World.file at h
  simp only [Option.map_eq_some_iff] at h
  obtain ⟨x, hx, rfl⟩ := h
  have h1 := List.mem_of_find?_eq_some hx
  have h2 := List.find?_some hx
  simp only [beq_iff_eq] at h2
  subst h2
  exact h1

theorem obj_setObj (w : World) (h h' : Handle) (o : Obj) :
    (w.setObj h o).obj h' = if h' = h ∧ h < w.handles.length then o else w.obj h' := by
  unfold World.setObj World.obj
  simp only [List.getD_eq_getElem?_getD, List.getElem?_set]
  grind

theorem setObj_setObj (w : World) (d : Handle) (o1 o2 : Obj) : (w.setObj d o1).setObj d o2 = w.setObj d o2 := by
  unfold World.setObj
  simp

theorem obj_newHandle (w : World) (h' : Handle) (o : Obj) :
    (w.newHandle o).1.obj h' = if h' = w.handles.length then o else w.obj h' := by
  unfold World.newHandle World.obj
  simp only [List.getD_eq_getElem?_getD, List.getElem?_append]
  grind

theorem obj_of_ge (w : World) (h : Handle) (hl : w.handles.length ≤ h) : w.obj h = .closed := by
  unfold World.obj
  simp only [List.getD_eq_getElem?_getD]
  grind

theorem lt_of_obj_ne_closed (w : World) (h : Handle) (ho : w.obj h ≠ .closed) : h < w.handles.length := by
  by_cases hl : h < w.handles.length
  · exact hl
  · exact absurd (obj_of_ge w h (Nat.le_of_not_lt hl)) ho

theorem lt_of_dirPath {w : World} {h : Handle} {p : Bytes} (hp : w.dirPath h = some p) : h < w.handles.length := by
  apply lt_of_obj_ne_closed
  intro hc
  simp [World.dirPath, hc] at hp

theorem find_setDir (ds : List (Bytes × List (Bytes × Nat))) (p q : Bytes) (es : List (Bytes × Nat)) :
    ((ds.map fun d => if d.1 == p then (p, es) else d).find? (·.1 == q)).map (·.2) =
      if q = p then ((ds.find? (·.1 == p)).map (·.2)).map (fun _ => es) else (ds.find? (·.1 == q)).map (·.2) := by
  induction ds with
  | nil => simp
  | cons d ds ih =>
    simp only [List.map_cons, List.find?_cons]
    grind

theorem dir_setDir (w : World) (p q : Bytes) (es : List (Bytes × Nat)) :
    (w.setDir p es).dir q = if q = p then (w.dir p).map (fun _ => es) else w.dir q := by
  unfold World.setDir World.dir
  exact find_setDir w.dirs p q es

theorem lookup_unbind (w : World) (p n q m : Bytes) :
    (w.unbind p n).lookup q m = if q = p ∧ m = n then none else w.lookup q m := by
  unfold World.unbind
  cases hd : w.dir p with
  | none =>
    by_cases h : q = p ∧ m = n
    · obtain ⟨rfl, rfl⟩ := h
      simp [World.lookup, hd]
    · simp [h]
  | some es =>
    simp only [World.lookup, dir_setDir, hd]
    by_cases hq : q = p
    · subst hq
      simp only [true_and, if_true, Option.map_some, Option.bind_some, hd, find_filter_ne]
      by_cases hm : m = n <;> simp [hm]
    · simp [hq]

theorem dir_updDir_isSome (w : World) (p q : Bytes) (g : List (Bytes × Nat) → List (Bytes × Nat)) :
    ((match w.dir p with | some es => w.setDir p (g es) | none => w).dir q).isSome = (w.dir q).isSome := by
  cases hd : w.dir p with
  | none => rfl
  | some es =>
    simp only [dir_setDir]
    by_cases hq : q = p
    · subst hq; simp [hd]
    · simp [hq]

theorem dir_unbind_isSome (w : World) (p n q : Bytes) : ((w.unbind p n).dir q).isSome = (w.dir q).isSome :=
  dir_updDir_isSome w p q _

theorem dir_bind_isSome (w : World) (p n q : Bytes) (fid : Nat) : ((w.bind p n fid).dir q).isSome = (w.dir q).isSome :=
  dir_updDir_isSome w p q _

theorem lookup_bind (w : World) (p n q m : Bytes) (fid : Nat) (hp : (w.dir p).isSome) :
    (w.bind p n fid).lookup q m = if q = p ∧ m = n then some fid else w.lookup q m := by
  unfold World.bind
  cases hd : w.dir p with
  | none => simp [hd] at hp
  | some es =>
    simp only [World.lookup, dir_setDir, hd]
    by_cases hq : q = p
    · subst hq
      simp only [true_and, if_true, Option.map_some, Option.bind_some, hd, List.find?_append, find_filter_ne]
      by_cases hm : m = n
      · subst hm; simp
      · have h2 : (n == m) = false := by simp; exact fun e => hm e.symm
        simp [hm, h2, List.find?]
    · simp [hq]

/-- Binding without knowing the directory exists: other names are unaffected. -/
theorem lookup_bind_ne (w : World) (p n q m : Bytes) (fid : Nat) (hne : ¬ (q = p ∧ m = n)) :
    (w.bind p n fid).lookup q m = w.lookup q m := by
  by_cases hp : (w.dir p).isSome
  · simp [lookup_bind w p n q m fid hp, hne]
  · unfold World.bind
    cases hd : w.dir p with
    | none => rfl
    | some es => simp [hd] at hp

/-! `lookup` through the entry list of its directory. -/

theorem lookup_eq_of_dir {w : World} {p : Bytes} {es : List (Bytes × Nat)} (hd : w.dir p = some es) (n : Bytes) :
    w.lookup p n = (es.find? (·.1 == n)).map (·.2) := by
  unfold World.lookup; rw [hd]; rfl

theorem lookup_of_dir_none {w : World} {p : Bytes} (hd : w.dir p = none) (n : Bytes) : w.lookup p n = none := by
  unfold World.lookup; rw [hd]; rfl

theorem lookup_of_dir_eq {w w' : World} {p : Bytes} (h : w'.dir p = w.dir p) (n : Bytes) : w'.lookup p n = w.lookup p n := by
  unfold World.lookup; rw [h]

theorem mem_of_lookup {w : World} {p n : Bytes} {es : List (Bytes × Nat)} {fid : Nat} (hd : w.dir p = some es)
    (hl : w.lookup p n = some fid) : (n, fid) ∈ es := by
  rw [lookup_eq_of_dir hd, Option.map_eq_some_iff] at hl
  obtain ⟨e, he, rfl⟩ := hl
  have := List.find?_some he
  simp only [beq_iff_eq] at this
  rw [← this]
  exact List.mem_of_find?_eq_some he

theorem lookup_isSome_iff {w : World} {p n : Bytes} {es : List (Bytes × Nat)} (hd : w.dir p = some es) :
    (w.lookup p n).isSome ↔ n ∈ es.map (·.1) := by
  rw [lookup_eq_of_dir hd]
  simp only [Option.isSome_map, List.find?_isSome, beq_iff_eq, List.mem_map]

theorem mem_dirs_of_dir {w : World} {p : Bytes} {es : List (Bytes × Nat)} (hd : w.dir p = some es) : (p, es) ∈ w.dirs := by
  unfold World.dir at hd
  simp only [Option.map_eq_some_iff] at hd
  obtain ⟨x, hx, rfl⟩ := hd
  have := List.find?_some hx
  simp only [beq_iff_eq] at this
  rw [← this]
  exact List.mem_of_find?_eq_some hx

theorem dir_isSome_of_lookup {w : World} {p n : Bytes} {fid : Nat} (h : w.lookup p n = some fid) : (w.dir p).isSome := by
  unfold World.lookup at h
  cases hd : w.dir p with
  | none => simp [hd] at h
  | some es => rfl

theorem dir_bind (w : World) (p n q : Bytes) (fid : Nat) :
    (w.bind p n fid).dir q =
      if q = p then (w.dir p).map (fun es => es.filter (·.1 != n) ++ [(n, fid)]) else w.dir q := by
  unfold World.bind
  cases hd : w.dir p with
  | none => by_cases hq : q = p <;> simp [hq, hd]
  | some es =>
    simp only [dir_setDir, hd]
    by_cases hq : q = p <;> simp [hq]

theorem dir_unbind (w : World) (p n q : Bytes) :
    (w.unbind p n).dir q = if q = p then (w.dir p).map (fun es => es.filter (·.1 != n)) else w.dir q := by
  unfold World.unbind
  cases hd : w.dir p with
  | none => by_cases hq : q = p <;> simp [hq, hd]
  | some es =>
    simp only [dir_setDir, hd]
    by_cases hq : q = p <;> simp [hq]

theorem dir_filter_ne (w : World) (q r : Bytes) :
    ({ w with dirs := w.dirs.filter (·.1 != q) } : World).dir r = if r = q then none else w.dir r := by
  unfold World.dir
  simp only [find_filter_ne]
  by_cases h : r = q <;> simp [h]

/-- A new empty directory changes no entry (a second directory of the same path is never found). -/
theorem lookup_append_dir (w : World) (p q m : Bytes) :
    (({ w with dirs := w.dirs ++ [(p, [])] } : World)).lookup q m = w.lookup q m := by
  unfold World.lookup World.dir
  simp only [List.find?_append]
  cases hf : List.find? (fun x => x.1 == q) w.dirs with
  | some d => rfl
  | none => by_cases hpq : p = q <;> simp [hpq]

/-- Removing an empty directory changes no entry. -/
theorem lookup_rmdir (w : World) (p q m : Bytes) (hd : w.dir p = some []) :
    (({ w with dirs := w.dirs.filter (·.1 != p) } : World)).lookup q m = w.lookup q m := by
  unfold World.lookup
  rw [dir_filter_ne]
  by_cases hq : q = p
  · subst hq; rw [if_pos rfl, hd]; rfl
  · rw [if_neg hq]

theorem dir_of_append {w w' : World} {ex : List (Bytes × List (Bytes × Nat))} (h : w'.dirs = w.dirs ++ ex) (q : Bytes) :
    w'.dir q = (w.dir q).or ((ex.find? (·.1 == q)).map (·.2)) := by
  unfold World.dir
  rw [h, List.find?_append]
  cases w.dirs.find? (·.1 == q) <;> simp

theorem nodup_filter_append {es : List (Bytes × Nat)} (h : (es.map (·.1)).Nodup) (n : Bytes) (fid : Nat) :
    ((es.filter (·.1 != n) ++ [(n, fid)]).map (·.1)).Nodup := by
  rw [List.map_append, List.nodup_append]
  refine ⟨(List.filter_sublist.map _).nodup h, by simp, ?_⟩
  intro a ha b hb
  simp only [List.map_cons, List.map_nil, List.mem_singleton] at hb
  subst hb
  simp only [List.mem_map, List.mem_filter] at ha
  obtain ⟨e, ⟨_, he⟩, rfl⟩ := ha
  simpa using he

theorem mem_sortedNames (es : List (Bytes × Nat)) (e : Bytes × Nat) (he : e ∈ es) : e.1 ∈ sortedNames es := by
  unfold sortedNames
  rw [List.mem_mergeSort]
  simp only [List.mem_cons, List.mem_map]
  exact .inr (.inr ⟨e, he, rfl⟩)

theorem length_sortedNames (es : List (Bytes × Nat)) : (sortedNames es).length = es.length + 2 := by
  unfold sortedNames
  simp [List.length_mergeSort]

end Mdsort.Proofs.World

namespace Mdsort.Proofs
open Mdsort Mdsort.Model

/-- How the examples enumerate the entries of a literal world. -/
theorem mem_dirs_of_lookup {w : World} {q m : Bytes} {g : Nat} (hl : w.lookup q m = some g) :
    ∃ es, (q, es) ∈ w.dirs ∧ (m, g) ∈ es := by
  obtain ⟨es, hd⟩ := Option.isSome_iff_exists.1 (World.dir_isSome_of_lookup hl)
  exact ⟨es, World.mem_dirs_of_dir hd, World.mem_of_lookup hd hl⟩

theorem files_find_filter (fs : Files) (d n d' n' : Bytes) :
    (fs.filter fun e => !(e.1 == d && e.2.1 == n)).find? (fun e => e.1 == d' && e.2.1 == n') =
      if d' = d ∧ n' = n then none else fs.find? (fun e => e.1 == d' && e.2.1 == n') := by
  induction fs with
  | nil => simp
  | cons e es ih =>
    simp only [List.filter_cons, List.find?_cons]
    grind

theorem Files.whole_get_del (fs : Files) (d n d' n' : Bytes) :
    (fs.del d n).get d' n' = if d' = d ∧ n' = n then none else fs.get d' n' := by
  unfold Files.del Files.get
  rw [files_find_filter]
  split <;> rfl

theorem Files.whole_get_put (fs : Files) (d n c d' n' : Bytes) :
    (fs.put d n c).get d' n' = if d' = d ∧ n' = n then some c else fs.get d' n' := by
  unfold Files.put Files.get
  rw [List.find?_append, files_find_filter]
  by_cases h : d' = d ∧ n' = n
  · obtain ⟨rfl, rfl⟩ := h
    simp
  · simp only [h, if_false]
    cases hf : List.find? (fun e => e.1 == d' && e.2.1 == n') fs with
    | some x => simp
    | none =>
      have : ((d == d') && (n == n')) = false :=
        Bool.eq_false_iff.2 fun hb => by
          simp only [Bool.and_eq_true, beq_iff_eq] at hb
          exact h ⟨hb.1.symm, hb.2.symm⟩
      simp [List.find?, this]

end Mdsort.Proofs
