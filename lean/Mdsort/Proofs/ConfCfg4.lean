import Mdsort.Proofs.ConfCfg2
import Mdsort.Proofs.ConfRT5

/-!
# Every written configuration is a sentence of the grammar of parse.y
-/

namespace Mdsort.Proofs.Cfg
open Mdsort Mdsort.Model Mdsort.Spec Mdsort.Spec.Cfg Mdsort.Proofs.Conf

def kindRoot : Kind → Sym
  | .cond => "expr1" | .rule => "expr" | .rules => "exprs" | .block => "exprblock" | .act => "expraction"
  | .acts => "expractions"

theorem exprs_empty : Parses GP "exprs" (N "exprs" []) [] := Parses.node p_exprs_empty .nil
theorem expractions_empty : Parses GP "expractions" (N "expractions" []) [] := Parses.node p_expractions_empty .nil

/-- By the induction of `Spec.wfK`, whose cases are the productions. -/
theorem tree_parses (rx : Pat → Bool) (t : CTree) (k : Kind) (hw : wfK rx k t = true) :
    Parses GP (kindRoot k) (tree k t) ((toks k t).map ptokKind) := by
  fun_induction wfK rx k t
  -- the cases are the equations of `Spec.wfK` in the order of Spec/Conf.lean: 1 cond leaf, 2 cond `and`, 3 cond `or`, 4 `!`,
  -- 5 `attachment` cond, 6 rule `match`, 7 rules `match` (first rule), 8 rules `or`, 9 block, 10 empty block, 11 act leaf,
  -- 12 act `attachment { }`, 13 acts leaf, 14 acts `attachment { }`, 15 acts `and`, 16 every other pair (not well formed)
  case case16 => cases hw
  all_goals try simp only [Bool.and_eq_true, decide_eq_true_eq] at hw
  all_goals simp only [tree, toks, kindRoot]
  case case1 e => exact (Parses.node p_expr1_expr3 (.cons (condLeaf_parses e hw.1) .nil)).cast (by simp)
  case case2 l a b iha ihb =>
    have hin := Parses.node p_expr1_expr1_and_expr1 (.cons (iha hw.1) (.cons (.leaf t_and) (.cons (ihb hw.2) .nil)))
    have hpar := Parses.node p_expr3_lparen_expr1_rparen (.cons (.leaf t_lparen) (.cons hin (.cons (.leaf t_rparen) .nil)))
    exact (Parses.node p_expr1_expr3 (.cons hpar .nil)).cast (by simp [ptokKind, kwSym])
  case case3 l a b iha ihb =>
    have hin := Parses.node p_expr1_expr1_or_expr1 (.cons (iha hw.1) (.cons (.leaf t_or) (.cons (ihb hw.2) .nil)))
    have hpar := Parses.node p_expr3_lparen_expr1_rparen (.cons (.leaf t_lparen) (.cons hin (.cons (.leaf t_rparen) .nil)))
    exact (Parses.node p_expr1_expr3 (.cons hpar .nil)).cast (by simp [ptokKind, kwSym])
  case case4 l e ih =>
    exact (Parses.node p_expr1_neg_expr1 (.cons (.leaf t_neg) (.cons (ih hw) .nil))).cast (by simp [ptokKind])
  case case5 l e ih =>
    exact (Parses.node p_expr1_attachment_expr1 (.cons (.leaf t_attachment) (.cons (ih hw) .nil))).cast
      (by simp [ptokKind, kwSym])
  case case6 l c r ihc ihb iha | case7 l c r ihc ihb iha =>
    -- a rule, alone (`expr`) or as the first of a block (`exprs`)
    simp only [Bool.or_eq_true, Bool.and_eq_true] at hw
    have h2 : Parses GP "expr2" (N "expr2" [if isBlock r then tree .block r else tree .acts r])
        ((if isBlock r then toks .block r else toks .acts r).map ptokKind) := by
      rcases hw.2 with ⟨h1, _⟩ | ⟨h1, _⟩
      · rw [isBlock_of_wf_block _ _ h1]
        exact (Parses.node p_expr2_exprblock (.cons (ihb h1) .nil)).cast (by simp)
      · rw [not_isBlock_of_wf_acts _ _ h1]
        exact (Parses.node p_expr2_expractions (.cons (iha h1) .nil)).cast (by simp)
    have key := (Parses.node p_expr_match_expr1_expr2 (.cons (.leaf t_match) (.cons (ihc hw.1) (.cons h2 .nil)))).cast
      (w' := (PTok.kw .mtch :: (toks .cond c ++ (if isBlock r then toks .block r else toks .acts r))).map ptokKind)
      (by simp [ptokKind, kwSym])
    -- case 6 asks for `key`, case 7 for `exprs -> exprs expr` over it
    first
      | exact key
      | exact (Parses.node p_exprs_exprs_expr (.cons exprs_empty (.cons key .nil))).cast (by simp)
  case case8 l a b iha ihb =>
    exact (Parses.node p_exprs_exprs_expr (.cons (iha hw.1) (.cons (ihb hw.2) .nil))).cast (by simp)
  case case9 l b ih =>
    exact (Parses.node p_exprblock_lbrace_exprs_rbrace
      (.cons (.leaf t_lbrace) (.cons (ih hw) (.cons (.leaf t_rbrace) .nil)))).cast (by simp [ptokKind])
  case case10 =>
    exact Parses.node p_exprblock_lbrace_exprs_rbrace (.cons (.leaf t_lbrace) (.cons exprs_empty (.cons (.leaf t_rbrace) .nil)))
  case case11 e => exact actLeaf_parses e hw.1
  case case12 l b ih =>
    exact (Parses.node p_expraction_attachment_exprblock (.cons (.leaf t_attachment) (.cons (ih hw.1.1) .nil))).cast
      (by simp [ptokKind, kwSym])
  case case13 e =>
    exact (Parses.node p_expractions_expractions_expraction
      (.cons expractions_empty (.cons (actLeaf_parses e hw.1) .nil))).cast (by simp)
  case case14 l b ih =>
    have ha := Parses.node p_expraction_attachment_exprblock (.cons (.leaf t_attachment) (.cons (ih hw.1.1) .nil))
    exact (Parses.node p_expractions_expractions_expraction (.cons expractions_empty (.cons ha .nil))).cast
      (by simp [ptokKind, kwSym])
  case case15 l a b iha ihb =>
    exact (Parses.node p_expractions_expractions_expraction (.cons (iha hw.1) (.cons (ihb hw.2) .nil))).cast (by simp)

theorem block_parses (rx : Pat → Bool) (b : PBlock) (h : blockOK rx b = true) :
    Parses GP "maildir" (blockTree b) ((blockToks b).map ptokKind) := by
  have hp : Parses GP "maildir_paths"
      (if b.paths = [stdinStr] then N "maildir_paths" [T "STDIN"] else N "maildir_paths" [T "MAILDIR", stringsTree b.paths])
      ((if b.paths = [stdinStr] then [PTok.kw .stdin] else [PTok.kw .maildir] ++ strsToks b.paths).map ptokKind) := by
    split
    · exact Parses.node p_maildir_paths_stdin (.cons (.leaf t_stdin) .nil)
    · exact (Parses.node p_maildir_paths_maildir_strings (.cons (.leaf t_maildir) (.cons (strings_parses b.paths) .nil))).cast
        (by simp [ptokKind, kwSym])
  exact (Parses.node p_maildir_maildir_paths_exprblock (.cons hp (.cons (tree_parses rx b.tree .block (blockOK_parts h).1) .nil))).cast
    (by simp [blockToks])

theorem conf_fold (rx : Pat → Bool) (bs : List PBlock) (h : ∀ b ∈ bs, blockOK rx b = true) :
    ∀ (t : Tree) (w : List Sym), Parses GP "grammar" t w →
      Parses GP "grammar" (bs.foldl (fun t b => N "grammar" [t, blockTree b]) t) (w ++ (bs.flatMap blockToks).map ptokKind) := by
  induction bs with
  | nil => intro t w ht; simpa using ht
  | cons b r ih =>
    intro t w ht
    have h1 : Parses GP "grammar" (N "grammar" [t, blockTree b]) (w ++ (blockToks b).map ptokKind) :=
      (Parses.node p_grammar_grammar_maildir (.cons ht (.cons (block_parses rx b (h b (by simp))) .nil))).cast (by simp)
    exact (ih (fun b' hb' => h b' (by simp [hb'])) _ _ h1).cast (by simp)

theorem conf_parses (rx : Pat → Bool) (bs : List PBlock) (h : ∀ b ∈ bs, blockOK rx b = true) :
    Parses GP "grammar" (treeOfConf bs) ((bs.flatMap blockToks).map ptokKind) :=
  (conf_fold rx bs h _ _ (Parses.node p_grammar_empty .nil)).cast (by simp)

theorem kind_of_tkOf {tok : Token} {t : PTok} (h : Tk.ofToken tok = tkOf t) : tokenKind tok = ptokKind t := by
  have h1 : isOther (tkOf t) = false := by cases t <;> rfl
  have h2 : tkKind (tkOf t) = ptokKind t := by cases t <;> rfl
  rw [kind_ofToken tok (by rw [h]; exact h1), h, h2]

theorem modeOK_of_kind (t : PTok) : modeOK (ptokKind t == "PATTERN") (ptokKind t == "SCALAR") t = true := by
  cases t <;> simp [modeOK, ptokKind, (kwSym_not_mode _).1]

theorem lexes_render : ∀ (ts : List PTok), (∀ t ∈ ts, tokOK t = true) → Lexes false (Spec.render ts) (ts.map ptokKind) := by
  intro ts
  induction ts with
  | nil =>
    intro _
    have := lex1_nil false false
    exact Lexes.done false _ (by rw [render_nil, this]) (by rw [render_nil, this])
  | cons t ts ih =>
    intro h
    obtain ⟨tok, hlex, hof, hmac⟩ := lex_tok t ts (ptokKind t == "PATTERN") (ptokKind t == "SCALAR") (h t (by simp))
      (modeOK_of_kind t)
    have hk := kind_of_tkOf hof
    have hne : tok ≠ .eof := fun he => tkOf_ne_eof t (by rw [← hof, he]; rfl)
    have hm : isMacroTok tok = false := by cases tok <;> first | rfl | cases hmac
    have := Lexes.tok false (ptokKind t == "PATTERN") (ptokKind t == "SCALAR") (Spec.render (t :: ts)) (ts.map ptokKind)
      (by rw [hlex]) (by rw [hlex]; exact hne) (by rw [hlex, hk]) (by rw [hlex, hk])
      (by rw [hlex]; simp only; rw [hm]; exact ih (fun x hx => h x (by simp [hx])))
    rw [hlex] at this
    simp only [hk] at this
    simpa using this

/-- Every configuration of the specification's domain, written by `Spec.printBlocks`, is a sentence of
the grammar in `Gen.productions`: `treeOfConf bs` is a checked parse tree of it, and its yield is what the lexer
model reads from the written text. -/
theorem printed_in_grammar (rx : Pat → Bool) (bs : List PBlock) (hok : ConfOK rx bs = true) :
    (treeOfConf bs).ok Gen.productions = true ∧ (treeOfConf bs).root = Gen.grammarStart ∧
    (treeOfConf bs).yield = (bs.flatMap blockToks).map ptokKind ∧
    Lexes false (Spec.printBlocks bs) (treeOfConf bs).yield := by
  obtain ⟨h1, h2, h3⟩ := conf_parses rx bs fun b hb => ((confOK_parts hok).1 b hb).1
  refine ⟨h1, by rw [h2, start_symbol], h3, ?_⟩
  rw [h3]
  exact lexes_render _ (List.all_eq_true.1 (confToks_all rx bs hok))

/-- Every text the parser model accepts is a sentence of the grammar in `Gen.productions`: the token
kinds the lexer model delivers for it are the yield of a checked parse tree whose root is the start symbol. -/
theorem accepted_in_grammar {home : Bytes} {defs : List (Bytes × Bytes)} {rx : Pat → Bool} {input : Bytes}
    {blocks : List PBlock} (h : parseConfig home defs rx input = .ok blocks) :
    ∃ t : Tree, t.ok Gen.productions = true ∧ t.root = Gen.grammarStart ∧ Lexes false input t.yield :=
  ((parseConfigFull_acc home defs rx input).2.2 blocks h).2

end Mdsort.Proofs.Cfg
