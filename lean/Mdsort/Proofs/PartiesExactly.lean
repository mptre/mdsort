import Mdsort.Proofs.PartiesCopyMain

/-! Exactly-once delivery for movers + client under `H_iso`, stated on file ids.  Rename-based
deliveries on one device never commit a copy, so the lineage of every file is the file itself and
`exactly_once_copy` reads as a statement about the files. -/

namespace Mdsort.Proofs.Parties
open Mdsort Mdsort.Model
open Mdsort.Proofs.World
open Mdsort.Proofs.Own

def IsMoverParty (ps : PState) : Prop :=
  ∃ env ml st, (∀ mh ∈ ml, isMover mh) ∧ ps.prog = errOf (matchesExec env ml st)

/-- What is assumed of the initial state: nobody has started, one device, every bound file id is
allocated, no file is bound twice (no hard links), the directory handles the parties hold refer to
existing directories, and every party is a mover or the client. -/
structure StartOK (s0 : Shared) : Prop where
  fresh : Fresh s0
  devs : s0.fs.devs = []
  boundLt : ∀ (p n : Bytes) (f : Nat), s0.fs.lookup p n = some f → f < s0.fs.nextFid
  inj : ∀ (p n p' n' : Bytes) (f : Nat), s0.fs.lookup p n = some f → s0.fs.lookup p' n' = some f → p = p' ∧ n = n'
  dirsOk : ∀ (i : Nat) (ps : PState) (d : Handle) (p : Bytes), s0.parties[i]? = some ps →
    handlesDirPath ps.handles d = some p → (s0.fs.dir p).isSome
  parties : ∀ (i : Nat) (ps : PState), s0.parties[i]? = some ps → IsMoverParty ps ∨ IsClientParty ps

theorem IsMoverParty.exec {ps : PState} (h : IsMoverParty ps) : IsExecParty (fun _ => True) ps :=
  let ⟨env, ml, st, _, hprog⟩ := h
  ⟨env, ml, st, True.intro, hprog⟩

theorem StartOK.general {s0 : Shared} (h : StartOK s0) : StartOKc (fun _ => True) s0 :=
  ⟨h.fresh, h.boundLt, h.inj, h.dirsOk, fun i ps hp => (h.parties i ps hp).imp (·.exec) .inr⟩

/-- An invariant of rename-only parties and the client stated on file ids (without lineage), relative to the initial state `s0`.
No theorem establishes it: `exactly_once_movers` reads `exactly_once_copy` through `Plain`. -/
structure MInv (s0 s : Shared) : Prop where
  devs : s.fs.devs = []
  nextLe : s0.fs.nextFid ≤ s.fs.nextFid
  /-- every bound file id has been allocated -/
  boundLt : ∀ (p n : Bytes) (f : Nat), s.fs.lookup p n = some f → f < s.fs.nextFid
  /-- no file is bound twice (no duplicate of a message) -/
  inj : ∀ (p n p' n' : Bytes) (f : Nat), s.fs.lookup p n = some f → s.fs.lookup p' n' = some f → p = p' ∧ n = n'
  /-- a name in flight is bound, to a file created during the run -/
  flightBound : ∀ (i : Nat) (ps : PState) (x : Bytes × Bytes), s.parties[i]? = some ps → x ∈ ps.inFlight →
    ∃ f, s.fs.lookup x.1 x.2 = some f ∧ s0.fs.nextFid ≤ f
  /-- every entry holds an initial file or is somebody's name in flight -/
  origin : ∀ (p n : Bytes) (f : Nat), s.fs.lookup p n = some f →
    (∃ p0 n0, s0.fs.lookup p0 n0 = some f) ∨ (∃ (i : Nat) (ps : PState), s.parties[i]? = some ps ∧ (p, n) ∈ ps.inFlight)
  /-- every initial file is still bound or was removed outright -/
  kept : ∀ (p0 n0 : Bytes) (f : Nat), s0.fs.lookup p0 n0 = some f →
    (∃ p n, s.fs.lookup p n = some f) ∨ (∃ e ∈ s.log, e.destroys f = true)
  files : ∀ f, f < s0.fs.nextFid → s.fs.file f = s0.fs.file f
  dirsOk : ∀ (i : Nat) (ps : PState) (d : Handle) (p : Bytes), s.parties[i]? = some ps →
    handlesDirPath ps.handles d = some p → (s.fs.dir p).isSome
  resolves : ∀ (i : Nat) (ps : PState) (x : Handle × Bytes), s.parties[i]? = some ps → x ∈ inFlightH ps.trace →
    (handlesDirPath ps.handles x.1).isSome
  localOk : ∀ (i : Nat) (ps : PState), s.parties[i]? = some ps → LocalOK ps

def OneDev (c : Call) (r : Res) : Prop := PredR c r ∧ MoverR c r

theorem oneDev_noExdev : NoExdev OneDev := by
  rintro d1 n1 d2 n2 ⟨_, h⟩
  rcases h d1 n1 d2 n2 rfl with ⟨v, hv⟩ | ⟨e, he, hne⟩
  · cases hv
  · cases he; exact hne rfl

theorem moverI_copyI {M : Msg → Prop} {tr : Trace} {c : Call} (h : MoverI tr c) : CopyI M tr c := by
  -- `MoverI` is `False`: `h.elim`; the same clause in both: `h`; `unlinkat`, `close`: the first disjunct of `CopyI`; else `CopyI` is `True`
  cases c <;> first | exact h.elim | exact h | exact .inl h | exact True.intro

theorem LocalOK.general {M : Msg → Prop} {ps : PState} (h : LocalOK ps) : LocalOKr OneDev M ps :=
  ⟨h.1, h.2.imp (fun hw => wp_results (fun _ _ hr => hr.2) (wp_weaken (fun _ _ => moverI_copyI) hw)) id⟩

/-- What movers and the client keep true on every schedule, isolated or not: one device, every party follows `CopyI`
with NO message to copy (as long as no `renameat` fails with `EXDEV`, which one device guarantees), and no event of the
history commits a copy or refers to a file with a lineage of its own. -/
structure Plain (s : Shared) : Prop where
  devs : s.fs.devs = []
  localOk : ∀ (i : Nat) (ps : PState), s.parties[i]? = some ps → LocalOKr OneDev (fun _ => False) ps
  events : ∀ e ∈ s.log, e.commits = false ∧ e.srcRoot = e.srcFid ∧ e.dstRoot = e.dstFid

theorem originIn_of_no_commit : ∀ (log : List Event) (o : Nat → Nat), (∀ e ∈ log, e.commits = false) →
    log.foldl originStep o = o
  | [], _, _ => rfl
  | e :: log, o, h => by
    have he : originStep o e = o := by
      funext g
      simp [originStep, h e (List.mem_cons_self ..)]
    rw [List.foldl_cons, he]
    exact originIn_of_no_commit log o fun e' h' => h e' (List.mem_cons_of_mem _ h')

theorem Plain.origin {s : Shared} (h : Plain s) : originIn s.log = id :=
  originIn_of_no_commit s.log id fun e he => (h.events e he).1

theorem destroysRoot_eq_destroys {e : Event} (h1 : e.srcRoot = e.srcFid) (h2 : e.dstRoot = e.dstFid) (f : Nat) :
    e.destroysRoot f = e.destroys f := by
  unfold Event.destroysRoot Event.destroys
  rw [h1, h2]
  by_cases h : e.dstFid = some f
  · rw [h]
  · simp [beq_false_of_ne h]

/-- With no message to copy `CopyI` lets a party unlink only the name it has in flight, or with nothing in flight: neither
commits. -/
theorem no_commit {s : Shared} {a : Nat} {ps : PState} {c : Call} {k : Res → Prog Bool} {R : Call → Res → Prop}
    (h : LocalOKr R (fun _ => False) ps) (hc : ps.prog = .call c k) : (stepEvent s a ps c).commits = false := by
  cases hcm : (stepEvent s a ps c).commits with
  | false => rfl
  | true =>
    obtain ⟨-, m, hm, -⟩ := h.commit hc hcm
    exact hm.elim

theorem Plain.step {s : Shared} (h : Plain s) (a : Nat) : Plain (stepParty s a) := by
  apply stepParty_cases (P := Plain) h
  intro ps c k hp hc
  refine ⟨?_, ?_, ?_⟩
  · show (core (s.view ps) c (predict (s.view ps) c)).devs = []
    rw [core_devs]
    exact h.devs
  · intro i q hq
    rcases stepCall_party_cases hp hq with ⟨_, rfl⟩ | ⟨_, hq⟩
    · exact localOKr_step (h.localOk a ps hp) hc _ ⟨⟨_, rfl⟩, moverR_predict (s.view ps) h.devs c⟩ _
    · exact h.localOk i q hq
  · intro e he
    rw [stepCall_log, List.mem_append, List.mem_singleton] at he
    rcases he with he | rfl
    · exact h.events e he
    · exact ⟨no_commit (h.localOk a ps hp) hc, by simp [stepEvent, h.origin], by simp [stepEvent, h.origin]⟩

theorem plain_run {s0 : Shared} (h : StartOK s0) (sched : List Nat) : Plain (runSched s0 sched) := by
  refine runSched_inv (fun s i hs => hs.step i) sched s0 ⟨h.devs, ?_, ?_⟩
  · intro i ps hp
    have ht : ps.trace = [] := h.fresh.2 ps (List.mem_of_getElem? hp)
    refine ⟨by simp [ht, inFlightH], ?_⟩
    rcases h.parties i ps hp with ⟨env, ml, st, hml, hprog⟩ | ⟨ops, hprog⟩
    · left
      rw [hprog, ht]
      exact copy_party (fun _ _ h => h.1) env ml st (.inr ⟨hml, oneDev_noExdev⟩)
    · right
      rw [hprog, ht]
      exact ⟨calls_clientProg ops, rfl⟩
  · intro e he
    rw [h.fresh.1] at he
    cases he

/-- Exactly once, for movers and the client, on every complete schedule that respects `H_iso`:
every initial file that was not removed outright (the client's delete, or a rename onto it) is
bound to exactly one entry; and every entry is bound to an initial file with its initial content
(no placeholder, no empty or partial file remains). -/
theorem exactly_once_movers (s0 : Shared) (h0 : StartOK s0) (sched : List Nat) (hiso : Hiso s0 sched = true)
    (hq : (runSched s0 sched).quiescent = true) :
    (∀ p0 n0 f, s0.fs.lookup p0 n0 = some f → (∀ e ∈ (runSched s0 sched).log, e.destroys f = false) →
      ∃ p n, (runSched s0 sched).fs.lookup p n = some f ∧
        ∀ p' n', (runSched s0 sched).fs.lookup p' n' = some f → p' = p ∧ n' = n) ∧
    (∀ p n f, (runSched s0 sched).fs.lookup p n = some f →
      (∃ p0 n0, s0.fs.lookup p0 n0 = some f) ∧ (runSched s0 sched).fs.file f = s0.fs.file f) := by
  obtain ⟨h1, h2, _⟩ := exactly_once_copy s0 h0.general sched hiso hq
  have hp := plain_run h0 sched
  simp only [Shared.origin, hp.origin, id] at h1 h2
  refine ⟨fun p0 n0 f hl hnd => ?_, fun p n f hl => ?_⟩
  · obtain ⟨p, n, g, hg, rfl, huniq⟩ := h1 p0 n0 f hl fun e he => by
      rw [destroysRoot_eq_destroys (hp.events e he).2.1 (hp.events e he).2.2]; exact hnd e he
    exact ⟨p, n, hg, fun p' n' h' => huniq p' n' g h' rfl⟩
  · obtain ⟨⟨p0, n0, hl0⟩, hc⟩ := h2 p n f hl
    refine ⟨⟨p0, n0, hl0⟩, ?_⟩
    rcases hc with ⟨_, hf⟩ | ⟨hge, _⟩
    · exact hf
    · exact absurd (h0.boundLt p0 n0 f hl0) (Nat.not_lt_of_le hge)

/-- The decidable part of `StartOK`. -/
def startChecks (s0 : Shared) : Bool := s0.fs.devs.isEmpty && startChecksC s0

theorem startChecks_general {s0 : Shared} (h : startChecks s0 = true) : startChecksC s0 = true :=
  (Bool.and_eq_true_iff.1 h).2

theorem startOK_of_checks (s0 : Shared) (hf : Fresh s0) (hc : startChecks s0 = true)
    (hp : ∀ (i : Nat) (ps : PState), s0.parties[i]? = some ps → IsMoverParty ps ∨ IsClientParty ps) : StartOK s0 := by
  simp only [startChecks, Bool.and_eq_true, List.isEmpty_iff] at hc
  have h := startOKc_of_checks (M := fun _ => True) s0 hf hc.2 fun i ps hi => (hp i ps hi).imp (·.exec) .inr
  exact ⟨hf, hc.1, h.boundLt, h.inj, h.dirsOk, hp⟩

end Mdsort.Proofs.Parties
