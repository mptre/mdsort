import Mdsort.Proofs.LimitsEvalP

/-!
# The functions of maildir.c / message.c / match.c and the units of `main` (mdsort.c) under two sets of limits

For `L ≤ L'` (and the name buffer of `L` able to hold `new` / `cur`): each function under `L` runs in lock step with
itself under `L'` until a setter overflows under `L`; from there it only releases descriptors and returns its error value.
-/

namespace Mdsort.Proofs.Limits
open Mdsort Mdsort.Model Mdsort.Proofs.World

variable {L L' : Limits}

theorem gennameL_sim (hle : L ≤ L') (env : PEnv) (md : Maildir) (flags : Option Bytes) (fuel : Nat) :
    ∀ count, Sim (RelErr (· = none)) (gennameL L env md flags fuel count) (gennameL L' env md flags fuel count) := by
  induction fuel with
  | zero => intro count; exact Sim.refl _
  | succ n ih =>
    intro count
    rw [gennameL.eq_def, gennameL.eq_def]
    refine Sim.optStep ((gennameBufL_Exact _).mono hle.2.1) (RelErr.ret rfl) fun name => ?_
    cases md.dirH with
    | none => exact Sim.refl _
    | some d =>
      refine Sim.call _ _ _ fun r => ?_
      simp only [ret_bind]
      split
      · exact Sim.refl _
      · split
        · exact ih _
        · exact Sim.refl _
      · exact Sim.refl _

theorem gennameStartL_sim (hle : L ≤ L') (env : PEnv) (md : Maildir) (flags : Option Bytes) :
    Sim (RelErr (· = none)) (gennameStartL L env md flags) (gennameStartL L' env md flags) := gennameL_sim hle _ _ _ _ _

theorem relErr_maildirClose {β} {E : β → Prop} (md : Maildir) {f : Unit → Prog β} (hf : RelErr E (f ())) :
    RelErr E ((maildirClose md).bind f) := by
  unfold maildirClose
  split
  · simp only [bind_eq, pure_eq, call_bind, call_bind', ret_bind]
    exact RelErr.call rfl fun _ => hf
  · exact hf

theorem relErr_freeMsg {β} {E : β → Prop} (ms : MsgSt) {f : Unit → Prog β} (hf : RelErr E (f ())) :
    RelErr E ((freeMsg ms).bind f) := by
  unfold freeMsg
  split
  · simp only [bind_eq, pure_eq, call_bind, call_bind', ret_bind]
    exact RelErr.call rfl fun _ => hf
  · exact hf

theorem parseSubdirL_mono (hle : L ≤ L') (path : Bytes) :
    parseSubdirL L.nameMax1 path = none ∨ parseSubdirL L.nameMax1 path = parseSubdirL L'.nameMax1 path := by
  unfold parseSubdirL
  rcases (pathsliceL_Exact path (-1) (-1)).mono hle.2.1 with h | h
  · rw [h]; exact .inl rfl
  · rw [h]; exact .inr rfl

theorem maildirOpenDstL_sim (hle : L ≤ L') (path : Bytes) :
    Sim (RelErr (· = none)) (maildirOpenDstL L path) (maildirOpenDstL L' path) := by
  unfold maildirOpenDstL
  rcases parseSubdirL_mono hle path with h | h
  · rw [h]; exact Sim.stop_ret _ rfl
  · rw [h]
    cases parseSubdirL L'.nameMax1 path with
    | none => exact Sim.refl _
    | some sd =>
      exact Sim.optStep ((pathsliceL_Exact path 0 (-1)).mono hle.1) (RelErr.ret rfl) fun root =>
        Sim.optStep ((pathjoinL_Exact root (subdirName sd)).mono hle.1) (RelErr.ret rfl) fun p => Sim.refl _

theorem messageSetFileL_sim (hle : L ≤ L') (ms : MsgSt) (dir name : Bytes) (fd : Option Handle) :
    Sim (RelErr (·.2 = true)) (messageSetFileL L ms dir name fd) (messageSetFileL L' ms dir name fd) := by
  unfold messageSetFileL
  exact Sim.optStep ((pathjoinL_Exact dir name).mono hle.1) (RelErr.ret rfl) fun p =>
    Sim.optStep ((strlcpyL_Exact name).mono hle.2.1) (RelErr.ret rfl) fun n => Sim.refl _

theorem messageSetFileMovedL_sim (hle : L ≤ L') (ms : MsgSt) (src dst : Subdir) (dir name : Bytes) :
    Sim (RelErr (·.2 = true)) (messageSetFileMovedL L ms src dst dir name) (messageSetFileMovedL L' ms src dst dir name) := by
  unfold messageSetFileMovedL
  exact Sim.optStep ((pathjoinL_Exact dir name).mono hle.1) (RelErr.ret rfl) fun p =>
    Sim.optStep ((strlcpyL_Exact name).mono hle.2.1) (RelErr.ret rfl) fun n => Sim.refl _

theorem maildirMoveL_sim (hle : L ≤ L') (env : PEnv) (src dst : Maildir) (ms : MsgSt) :
    Sim (RelErr (·.2 = true)) (maildirMoveL L env src dst ms) (maildirMoveL L' env src dst ms) := by
  unfold maildirMoveL
  simp only [bind_eq, pure_eq, call_bind]
  split
  · exact Sim.refl _
  split
  · refine Sim.bind_same _ fun mt => ?_
    split
    · exact Sim.refl _
    refine Sim.bindNone (gennameStartL_sim hle _ _ _) (fun g => ?_) (RelErr.ret rfl)
    split
    · exact Sim.refl _
    refine Sim.call _ _ _ fun r => ?_
    refine Sim.bind_same _ fun x => ?_
    split
    · exact Sim.bind_same _ fun _ => Sim.call _ _ _ fun _ => Sim.bind_same _ fun _ =>
        Sim.ite _ (Sim.refl _) (messageSetFileMovedL_sim hle _ _ _ _ _)
    · exact Sim.call _ _ _ fun _ => Sim.bind_same _ fun _ =>
        Sim.ite _ (Sim.refl _) (messageSetFileMovedL_sim hle _ _ _ _ _)
  · exact Sim.refl _

theorem maildirWriteL_sim (hle : L ≤ L') (env : PEnv) (md : Maildir) (ms : MsgSt) :
    Sim (RelErr (·.2 = true)) (maildirWriteL L env md ms) (maildirWriteL L' env md ms) := by
  unfold maildirWriteL
  simp only [bind_eq, pure_eq, call_bind]
  split
  · exact Sim.refl _
  refine Sim.bindNone (gennameStartL_sim hle _ _ _) (fun g => ?_) (RelErr.ret rfl)
  split
  · exact Sim.refl _
  refine Sim.bind_same _ fun we => Sim.call _ _ _ fun _ => Sim.bind_same _ fun err => ?_
  split
  · exact Sim.refl _
  split
  · exact Sim.refl _
  refine Sim.call _ _ _ fun r => ?_
  split
  · exact Sim.bindFlag (messageSetFileL_sim hle _ _ _ _) (fun _ => Sim.refl _) fun a => RelErr.call rfl fun _ => RelErr.ret rfl
  · exact Sim.refl _

theorem writefdL_sim (hle : L ≤ L') (tmpdir : Bytes) : Sim (RelErr (· = none)) (writefdL L tmpdir) (writefdL L' tmpdir) := by
  unfold writefdL
  exact Sim.optStep ((pathjoinL_Exact tmpdir _).mono hle.1) (RelErr.ret rfl) fun tmpl => Sim.refl _

theorem messageGetFdL_sim (hle : L ≤ L') (env : PEnv) (ms : MsgSt) (part : Option Msg) (dobody : Bool) :
    Sim (RelErr (· = none)) (messageGetFdL L env ms part dobody) (messageGetFdL L' env ms part dobody) := by
  unfold messageGetFdL
  simp only [bind_eq, pure_eq, call_bind]
  refine Sim.bindNone ?_ (fun _ => Sim.refl _) (RelErr.ret rfl)
  split
  · split
    · exact Sim.refl _
    · exact Sim.bindNone (writefdL_sim hle _) (fun _ => Sim.refl _) (RelErr.ret rfl)
  · split
    · exact Sim.bindNone (writefdL_sim hle _) (fun _ => Sim.refl _) (RelErr.ret rfl)
    · exact Sim.refl _

theorem execOneL_sim (hle : L ≤ L') (env : PEnv) (mh : Match) (st : ExecSt) :
    Sim (RelErr (·.2 = true)) (execOneL L env mh st) (execOneL L' env mh st) := by
  unfold execOneL
  simp only [bind_eq, pure_eq, call_bind]
  cases mh.ty <;> simp only
  case move | flag | flags =>
    refine Sim.bindNone (maildirOpenDstL_sim hle _) (fun d => ?_) (RelErr.ret rfl)
    split
    · exact Sim.refl _
    · exact Sim.bindFlag (maildirMoveL_sim hle _ _ _ _) (fun _ => Sim.refl _) fun _ =>
        relErr_maildirClose _ (RelErr.ret rfl)
  case label | addHeader =>
    exact Sim.bindFlag (maildirWriteL_sim hle _ _ _) (fun _ => Sim.refl _) fun _ => RelErr.ret rfl
  case exec =>
    refine Sim.bindNone ?_ (fun _ => Sim.refl _) (RelErr.ret rfl)
    exact Sim.ite _ (Sim.bindNone (messageGetFdL_sim hle _ _ _ _) (fun _ => Sim.refl _) (RelErr.ret rfl)) (Sim.refl _)
  all_goals exact Sim.refl _

theorem matchesExecL_sim (hle : L ≤ L') (env : PEnv) (ml : MatchList) :
    ∀ st, Sim (RelErr (·.2 = true)) (matchesExecL L env ml st) (matchesExecL L' env ml st) := by
  induction ml with
  | nil => intro st; exact Sim.refl _
  | cons mh rest ih =>
    intro st
    simp only [matchesExecL, bind_eq, pure_eq]
    refine Sim.bindFlag (execOneL_sim hle env mh st) (fun x => Sim.ite _ (Sim.refl _) (ih _)) fun st' => ?_
    simp only [if_true]
    split
    · exact relErr_maildirClose _ (RelErr.ret rfl)
    · exact RelErr.ret rfl

theorem messageParsePL_sim (hle : L ≤ L') (d : Handle) (dir name content : Bytes) :
    Sim (RelErr (· = none)) (messageParsePL L d dir name content) (messageParsePL L' d dir name content) := by
  unfold messageParsePL
  simp only [bind_eq, pure_eq, call_bind]
  refine Sim.call _ _ _ fun r => ?_
  split
  · refine Sim.bind_same _ fun failed => ?_
    split
    · exact Sim.refl _
    · exact optStep2 ((pathjoinL_Exact dir name).mono hle.1) ((strlcpyL_Exact name).mono hle.2.1)
        (fun q => .stop _ q (RelErr.call rfl fun _ => RelErr.ret rfl)) fun _ _ => Sim.refl _
  · exact Sim.refl _

theorem processMessageL_sim (hle : L ≤ L') (hs : Sane L) (env : PEnv) (orc : EvalOracles) (expr : Expr) (md : Maildir) (name : Bytes)
    (st : MainSt) :
    Sim (RelErr (·.1.error = true)) (processMessageL L env orc expr md name st) (processMessageL L' env orc expr md name st) := by
  unfold processMessageL
  split
  · exact Sim.refl _
  · split
    · exact Sim.refl _
    · simp only [bind_eq, pure_eq]
      refine Sim.bindNone (messageParsePL_sim hle _ md.path name _) (fun pm => ?_) (RelErr.ret rfl)
      · cases pm with
        | none => exact Sim.refl _
        | some ms =>
          simp only
          apply Sim.bindE (evalPL_sim hle hs _ expr ms.msg ms.flags)
          · rintro ⟨t, est⟩
            cases t
            · simp only
              rcases matchesInterpolateL_mono hle
                  { rx := orc.rx, command := fun _ => -1, isDir := fun _ => false, now := env.now, strptime := orc.strptime,
                    zoneName := orc.zoneName, fileTime := fun _ => none, timeFormat := orc.timeFormat, dryrun := env.dryrun,
                    path := ms.path }
                  est.ml (partMsg ms.msg ms.parts) with h2 | h2
              · rw [h2]
                exact Sim.stop _ _ (relErr_freeMsg _ (RelErr.ret rfl))
              · rw [h2]
                split
                · exact Sim.refl _
                · split
                  · exact Sim.refl _
                  · apply Sim.bindE (matchesExecL_sim hle env _ _)
                    · intro x; exact Sim.refl _
                    · intro x hx
                      exact relErr_freeMsg _ (RelErr.ret (by simp [hx]))
            · exact Sim.refl _
            · exact Sim.refl _
          · rintro ⟨t, est⟩ ht
            simp only at ht
            subst ht
            exact relErr_freeMsg _ (RelErr.ret rfl)

theorem nextSubdirL_sim (hle : L ≤ L') (md : Maildir) : Sim (RelErr (·.2 = true)) (nextSubdirL L md) (nextSubdirL L' md) := by
  unfold nextSubdirL
  exact Sim.optStep ((pathjoinL_Exact md.root _).mono hle.1) (RelErr.ret rfl) fun p => Sim.refl _

theorem openMaildirL_sim (hle : L ≤ L') (p : Bytes) : Sim (RelErr (· = none)) (openMaildirL L p) (openMaildirL L' p) := by
  unfold openMaildirL
  exact optStep2 ((strlcpyL_Exact p).mono hle.1) ((pathjoinL_Exact p _).mono hle.1) (fun q => .stop _ q (RelErr.ret rfl))
    fun _ _ => Sim.refl _

/-- Spooling standard input: the stop is the immediate return of the failure value (the caller removes the spool). -/
theorem maildirStdinL_sim (hle : L ≤ L') (env : PEnv) (input : Bytes) :
    Sim (RelErr (·.2.1 = true)) (maildirStdinL L env input) (maildirStdinL L' env input) := by
  unfold maildirStdinL
  simp only [bind_eq, pure_eq, call_bind]
  refine Sim.optStep ((pathjoinL_Exact env.tmpdir _).mono hle.1) (RelErr.ret rfl) fun tmpl => ?_
  refine Sim.call _ _ _ fun r => ?_
  split
  · refine Sim.optStep ((pathjoinL_Exact _ _).mono hle.1) (RelErr.ret rfl) fun p => Sim.call _ _ _ fun r2 => ?_
    split
    · exact Sim.refl _
    refine Sim.bind_same _ fun x => ?_
    split
    · exact Sim.refl _
    · exact Sim.bindNone (gennameStartL_sim hle _ _ _) (fun _ => Sim.refl _) (RelErr.ret rfl)
  · exact Sim.refl _

end Mdsort.Proofs.Limits
