import Mdsort.Proofs.EvalPCalls
import Mdsort.Proofs.WorldFootExec

/-!
# Evaluation on the abstract file system under EVERY fault plan

`EvalFoot w w'`: the footprint of evaluation relative to the world `w` it started in - directories, files, file ids,
devices and modification times are the same, every handle of `w` is untouched, and the handles created since are
`/dev/null` descriptors (open or closed again).  `wp_evalFoot`: whatever the faults are, after every call of `evalP`
the world is in the footprint; the value is the pure evaluation `evalR` on SOME list of answers.
-/

namespace Mdsort.Proofs.World
open Mdsort Mdsort.Model

structure EvalFoot (w w' : World) : Prop where
  dirs : w'.dirs = w.dirs
  files : w'.files = w.files
  nextFid : w'.nextFid = w.nextFid
  devs : w'.devs = w.devs
  mtimes : w'.mtimes = w.mtimes
  objs : ∀ h, h < w.handles.length → w'.obj h = w.obj h
  len : w.handles.length ≤ w'.handles.length
  new : ∀ h, w.handles.length ≤ h → w'.obj h = .other ∨ w'.obj h = .closed

theorem EvalFoot.refl (w : World) : EvalFoot w w :=
  ⟨rfl, rfl, rfl, rfl, rfl, fun _ _ => rfl, Nat.le_refl _, fun h hh => .inr (obj_of_ge w h hh)⟩

theorem EvalFoot.trace {w w1 : World} (ef : EvalFoot w w1) (tr : List (Call × Res)) : EvalFoot w { w1 with trace := tr } :=
  ⟨ef.dirs, ef.files, ef.nextFid, ef.devs, ef.mtimes, ef.objs, ef.len, ef.new⟩

theorem EvalFoot.step_of_core {w w1 X : World} {c : Call} {r : Res} (h : core w1 c r = X) (hX : EvalFoot w X) :
    EvalFoot w (stepWorld w1 c r) := by
  rw [stepWorld_eq, h]; exact hX.trace _

theorem EvalFoot.newHandle {w w1 : World} (ef : EvalFoot w w1) : EvalFoot w (w1.newHandle .other).1 := by
  refine ⟨ef.dirs, ef.files, ef.nextFid, ef.devs, ef.mtimes, ?_, ?_, ?_⟩
  · intro h hh
    rw [obj_newHandle]
    have : h ≠ w1.handles.length := by have := ef.len; omega
    simp only [this, if_false]
    exact ef.objs h hh
  · rw [len_newHandle]; exact Nat.le_succ_of_le ef.len
  · intro h hh
    rw [obj_newHandle]
    split
    · exact .inl rfl
    · exact ef.new h hh

theorem EvalFoot.close {w w1 : World} (ef : EvalFoot w w1) {fd : Handle} (hfd : w.handles.length ≤ fd) :
    EvalFoot w (w1.setObj fd .closed) := by
  refine ⟨ef.dirs, ef.files, ef.nextFid, ef.devs, ef.mtimes, ?_, ?_, ?_⟩
  · intro h hh
    rw [obj_setObj]
    have : ¬ (h = fd ∧ fd < w1.handles.length) := by intro hc; omega
    simp only [this, if_false]
    exact ef.objs h hh
  · rw [len_setObj]; exact ef.len
  · intro h hh
    rw [obj_setObj]
    split
    · exact .inr rfl
    · exact ef.new h hh

theorem EvalFoot.trans {w0 w1 w2 : World} (a : EvalFoot w0 w1) (b : EvalFoot w1 w2) : EvalFoot w0 w2 := by
  refine ⟨b.dirs.trans a.dirs, b.files.trans a.files, b.nextFid.trans a.nextFid, b.devs.trans a.devs,
    b.mtimes.trans a.mtimes, ?_, Nat.le_trans a.len b.len, ?_⟩
  · intro h hh
    rw [b.objs h (Nat.lt_of_lt_of_le hh a.len)]
    exact a.objs h hh
  · intro h hh
    rcases Nat.lt_or_ge h w1.handles.length with h1 | h1
    · rw [b.objs h h1]; exact a.new h hh
    · exact b.new h h1

theorem evalFoot_execP (argv : List Bytes) {w0 w : World} (ef : EvalFoot w0 w) :
    wp (EvalFoot w0) (execP argv none) (fun _ w' => EvalFoot w0 w') w :=
  wp_of_wpg <| wpg_execP_keeps sane_fault argv none (fun _ ef => ef.len)
    (fun w r hr ef => by
      rcases (sane_fault hr).handle rfl with rfl | ⟨e, rfl⟩
      · exact .step_of_core (core_openPath_ok w _ _) ef.newHandle
      · exact .step_of_core (core_fail w e rfl) ef)
    (fun w s r ef => .step_of_core (core_fork w argv s r) ef)
    (fun w r ef => .step_of_core (core_waitpid w r) ef)
    (fun w h r ef hh => .step_of_core (core_close w h r) (ef.close hh)) ef

theorem evalFoot_sysCall (q : Req) {w0 w : World} (ef : EvalFoot w0 w) :
    wp (EvalFoot w0) (sysCall q) (fun _ w' => EvalFoot w0 w') w := by
  cases q with
  | command av => exact wp_bind_mono (evalFoot_execP _ ef) fun _ _ h => h
  | isDir p | fileTime p _ =>
    refine wp_call_any fun r => ?_
    have ef1 : EvalFoot w0 (stepWorld w (.stat p) r) := EvalFoot.step_of_core (core_stat w p r) ef
    exact ⟨ef1, ef1⟩

theorem evalFoot_toProg {α} (t : Ask α) {w0 w : World} (ef : EvalFoot w0 w) :
    wp (EvalFoot w0) t.toProg (fun v w' => EvalFoot w0 w' ∧ ∃ as, v = (t.run as).1) w := by
  induction t generalizing w with
  | ret a => exact ⟨ef, [], rfl⟩
  | ask q k ih =>
    refine wp_bind_mono (evalFoot_sysCall q ef) fun a w1 ef1 => ?_
    refine wp_mono (ih a ef1) ?_
    rintro v w2 ⟨ef2, as, hv⟩
    exact ⟨ef2, a :: as, by simp only [Ask.run, List.headD_cons, List.tail_cons]; exact hv⟩

theorem wp_evalFoot (env : Env) (e : Expr) (m : Msg) (fl : MFlags) (w : World) :
    wp (EvalFoot w) (evalP env e m fl) (fun v w' => EvalFoot w w' ∧ ∃ as, v = (evalR env e m fl as).1) w :=
  evalFoot_toProg _ (EvalFoot.refl w)

end Mdsort.Proofs.World
