import Mdsort.Spec.DecodeRFC
import Mdsort.Proofs.Decode

/-! Helper lemmas for `C16_qp_vs_rfc` and `C16_rfc2047_vs_rfc`: the reference decoders of `Spec/Decode.lean`
(to which the model is equal) against the RFC readings of `Spec/DecodeRFC.lean`.
Bytes: 61 `=`, 63 `?`, 10 LF, 13 CR, 95 `_`. -/

namespace Mdsort.Proofs
open Mdsort Spec

theorem softBreak_lf (r : Bytes) : softBreak (10 :: r) = some r := by
  simp [softBreak, isblank]

theorem softBreak_nil : softBreak [] = none := by simp [softBreak]

theorem hexPair_cons_cons (x y : UInt8) (r : Bytes) :
    hexPair (x :: y :: r) = match hexval x, hexval y with
      | some hi, some lo => some (byte (hi * 16 + lo), r)
      | _, _ => none := by
  rfl

theorem qp_61_of_not_lf (us : Bool) (r : Bytes) (h : r.head? ≠ some 10) :
    Spec.qp us (61 :: r) = match hexPair r with
      | some (b, r') => b :: Spec.qp us r'
      | none => 61 :: Spec.qp us r := by
  cases r with
  | nil => simp [hexPair, qp_61_single, Spec.qp]
  | cons x r1 =>
    have hx : x ≠ 10 := by intro hx; subst hx; simp at h
    cases r1 with
    | nil => rw [qp_61_x us x hx]; simp only [hexPair]
    | cons y r2 =>
      rw [qp_61_x_y us x y r2 hx, hexPair_cons_cons]
      cases hexval x with
      | none => rfl
      | some hi => cases hexval y <;> rfl

theorem softBreak_blank {c : UInt8} (r : Bytes) (h : isblank c = true) : softBreak (c :: r) = softBreak r := by
  simp [softBreak, h]

theorem softBreak_nonblank {c : UInt8} (r : Bytes) (h : isblank c = false) :
    softBreak (c :: r) = match c :: r with
      | 10 :: t => some t
      | 13 :: 10 :: t => some t
      | _ => none := by
  simp [softBreak, h]
  rfl

theorem softBreak_head {c : UInt8} {r t : Bytes} (h : softBreak (c :: r) = some t) :
    (isblank c = true ∧ softBreak r = some t) ∨ (c = 10 ∧ t = r) ∨ (c = 13 ∧ r = 10 :: t) := by
  by_cases hb : isblank c = true
  · left; exact ⟨hb, by rw [← softBreak_blank r hb]; exact h⟩
  · have hb' : isblank c = false := by simpa using hb
    rw [softBreak_nonblank r hb'] at h
    split at h
    · rename_i t' heq; cases heq; cases h; right; left; exact ⟨rfl, rfl⟩
    · rename_i t' heq; cases heq; cases h; right; right; exact ⟨rfl, rfl⟩
    · contradiction

theorem qp_softBreak_len (us : Bool) : ∀ (r t : Bytes), softBreak r = some t →
    (Spec.qp us t).length ≤ (Spec.qp us r).length
  | [], t, h => by simp [softBreak_nil] at h
  | c :: r, t, h => by
    rcases softBreak_head h with ⟨hb, h'⟩ | ⟨rfl, rfl⟩ | ⟨rfl, rfl⟩
    · have := qp_softBreak_len us r t h'
      rw [qp_ne61 us c r (isspace_ne_61 (isspace_of_isblank c hb))]; simp; omega
    · rw [qp_ne61 us 10 t (by decide)]; simp
    · rw [qp_ne61 us 13 _ (by decide), qp_ne61 us 10 t (by decide)]; simp; omega

theorem isblank_hexval : ∀ c : UInt8, isblank c = true → hexval c = none := by
  apply forall_u8; decide +kernel

theorem hexval_none_of_softBreak {c : UInt8} {r t : Bytes} (h : softBreak (c :: r) = some t) : hexval c = none := by
  rcases softBreak_head h with ⟨hb, _⟩ | ⟨rfl, _⟩ | ⟨rfl, _⟩
  · exact isblank_hexval c hb
  · decide
  · decide

theorem hexPair_none_of_softBreak {r t : Bytes} (h : softBreak r = some t) : hexPair r = none := by
  cases r with
  | nil => rfl
  | cons x r1 =>
    cases r1 with
    | nil => rfl
    | cons y r2 => rw [hexPair_cons_cons, hexval_none_of_softBreak h]

theorem hexval_61 : hexval 61 = none := by decide

theorem hexPair_some {r r' : Bytes} {b : UInt8} (h : hexPair r = some (b, r')) :
    ∃ x y, r = x :: y :: r' ∧ x ≠ 61 ∧ y ≠ 61 := by
  revert h
  fun_cases hexPair r
  -- two bytes that are both hexadecimal digits; two bytes that are not; fewer than two bytes
  case case1 x y r2 hi lo hy hx =>
    intro h
    cases h
    refine ⟨x, y, rfl, ?_, ?_⟩
    · rintro rfl; rw [hexval_61] at hx; contradiction
    · rintro rfl; rw [hexval_61] at hy; contradiction
  all_goals nofun

theorem QpLFOnly_ne61 {c : UInt8} (r : Bytes) (h : c ≠ 61) : QpLFOnly (c :: r) = QpLFOnly r := by
  rw [QpLFOnly]
  intro h'; exact h h'

theorem QpLFOnly_61_eq (r : Bytes) :
    QpLFOnly (61 :: r) = (((softBreak r).isNone || r.head? == some 10) && QpLFOnly r) := by
  rw [QpLFOnly]

/-- `a = b` if `q`, and `b` strictly shorter than `a` otherwise. -/
def QpAgree (q : Bool) (a b : Bytes) : Prop := if q then a = b else b.length < a.length

theorem QpAgree.cons {q : Bool} {a b : Bytes} (x : UInt8) (h : QpAgree q a b) : QpAgree q (x :: a) (x :: b) := by
  cases q
  · exact Nat.succ_lt_succ h
  · exact congrArg (x :: ·) h

theorem QpAgree.le {q : Bool} {a b : Bytes} (h : QpAgree q a b) : b.length ≤ a.length := by
  cases q
  · exact Nat.le_of_lt h
  · exact Nat.le_of_eq (congrArg List.length h).symm

theorem head_ne_lf_of_softBreak_none {r : Bytes} (h : softBreak r = none) : r.head? ≠ some 10 := by
  rintro h10
  cases r with
  | nil => cases h10
  | cons x r1 => cases h10; rw [softBreak_lf] at h; cases h

/-- How the two decoders compare on `s`: equal where every soft line break is a bare LF, and otherwise the RFC reading
is strictly shorter (a soft break with blanks or CR before the LF disappears there and stays here). -/
theorem qp_agree (us : Bool) (s : Bytes) : QpAgree (QpLFOnly s) (Spec.qp us s) (qpRFC us s) := by
  fun_induction qpRFC us s
  -- the end of the text; `=` before a soft line break; `=XY`; any other `=`; a byte other than `=`
  case case1 => rw [Spec.qp]; rfl
  case case2 r t hsb _ ih =>
    rw [QpLFOnly_61_eq, hsb]
    by_cases h10 : r.head? = some 10
    · cases r with
      | nil => cases h10
      | cons x r1 =>
        cases h10
        rw [softBreak_lf] at hsb
        cases hsb
        rw [qp_61_10, QpLFOnly_ne61 t (by decide)]
        exact ih
    · -- the soft break vanishes in the RFC reading; here `=` stays, and what follows it is no shorter
      have hq : (r.head? == some 10) = false := by simpa using h10
      rw [qp_61_of_not_lf us r h10, hexPair_none_of_softBreak hsb, hq]
      exact Nat.lt_succ_of_le (Nat.le_trans ih.le (qp_softBreak_len us r t hsb))
  case case3 r hsb b r' hp _ ih =>
    obtain ⟨x, y, rfl, hx, hy⟩ := hexPair_some hp
    rw [QpLFOnly_61_eq, hsb, qp_61_of_not_lf us _ (head_ne_lf_of_softBreak_none hsb), hp, Option.isNone_none, Bool.true_or,
      Bool.true_and, QpLFOnly_ne61 _ hx, QpLFOnly_ne61 _ hy]
    exact ih.cons b
  case case4 r hsb hp ih =>
    rw [QpLFOnly_61_eq, hsb, qp_61_of_not_lf us _ (head_ne_lf_of_softBreak_none hsb), hp]
    exact ih.cons 61
  case case5 c r hc ih =>
    rw [qp_ne61 us c r hc, QpLFOnly_ne61 r hc]
    exact ih.cons _

theorem qp_eq_qpRFC (us : Bool) (s : Bytes) (h : QpLFOnly s = true) : Spec.qp us s = qpRFC us s := by
  have := qp_agree us s
  rwa [h] at this

theorem qp_eq_qpRFC_iff (us : Bool) (s : Bytes) : Spec.qp us s = qpRFC us s ↔ QpLFOnly s = true := by
  refine ⟨fun h => ?_, qp_eq_qpRFC us s⟩
  cases hq : QpLFOnly s with
  | true => rfl
  | false =>
    have := qp_agree us s
    rw [hq, h] at this
    exact absurd this (Nat.lt_irrefl _)


theorem QpNoCRNoPad_tail {c : UInt8} {r : Bytes} (h : QpNoCRNoPad (c :: r) = true) :
    c ≠ 13 ∧ QpNoCRNoPad r = true := by
  generalize hs : c :: r = s at h
  revert h
  fun_cases QpNoCRNoPad s
  -- the empty text; `=` and a byte after it; any other first byte
  case case1 => cases hs
  case case2 => cases hs; intro h; simp at h; exact ⟨by decide, h.2⟩
  case case3 => cases hs; intro h; simpa using h

theorem softBreak_of_nonblank_noCR {c : UInt8} {r : Bytes} (hb : isblank c = false) (h13 : c ≠ 13) (h10 : c ≠ 10) :
    softBreak (c :: r) = none := by
  rw [softBreak_nonblank r hb]
  split
  · rename_i heq; cases heq; exact absurd rfl h10
  · rename_i heq; cases heq; exact absurd rfl h13
  · rfl

theorem QpLFOnly_of_NoCRNoPad : ∀ s : Bytes, QpNoCRNoPad s = true → QpLFOnly s = true
  | [], _ => rfl
  | c :: r, h => by
    have ⟨_, hr⟩ := QpNoCRNoPad_tail h
    have ih := QpLFOnly_of_NoCRNoPad r hr
    by_cases hc : c = 61
    · subst hc
      rw [QpLFOnly_61_eq, ih]
      cases r with
      | nil => simp [softBreak_nil]
      | cons x r1 =>
        rw [QpNoCRNoPad] at h
        simp at h
        have hx13 := (QpNoCRNoPad_tail h.2).1
        by_cases hx : x = 10
        · subst hx; simp
        · rw [softBreak_of_nonblank_noCR (by simpa using h.1) hx13 hx]; simp
    · rw [QpLFOnly_ne61 r hc]; exact ih

def toTok : Item → Tok
  | .text c => .lit c
  | .word w => .word w.enc w.text

/-- What `scanWords` guarantees of every word it recognises. -/
def WordOK (w : Word) : Prop :=
  (∀ c ∈ w.text, isEncTextChar c = true) ∧ payload w.enc w.text = some w.decoded

theorem wordAt_head {s rest : Bytes} {w : Word} (h : wordAt s = some (w, rest)) : ∃ r1, s = 61 :: 63 :: r1 := by
  unfold wordAt at h
  split at h
  · exact ⟨_, rfl⟩
  · contradiction

theorem wordAt_spec {r1 rest : Bytes} {w : Word} (h : wordAt (61 :: 63 :: r1) = some (w, rest)) :
    ∃ en, r1 = w.charset ++ 63 :: (en ++ 63 :: (w.text ++ 63 :: 61 :: rest)) ∧
      (∀ c ∈ w.charset, isTokenChar c = true) ∧ encodingOf en = some w.enc ∧ WordOK w := by
  generalize hs : 61 :: 63 :: r1 = s at h
  revert h
  fun_cases wordAt s
  case case1 r1' r2 h1 r3 h2 rest' h3 _ _ _ =>
    -- the three cuts succeed and the pieces are not empty
    intro h
    cases hs
    cases he : encodingOf (List.takeWhile isTokenChar r2) with
    | none => simp [he] at h
    | some e =>
      simp only [he, Option.bind_some, Option.map_eq_some_iff] at h
      obtain ⟨d, hd, hw⟩ := h
      cases hw
      refine ⟨r2.takeWhile isTokenChar, ?_, fun _ => List.of_mem_takeWhile, he, ⟨fun _ => List.of_mem_takeWhile, hd⟩⟩
      dsimp only
      rw [← h3, List.takeWhile_append_dropWhile, ← h2, List.takeWhile_append_dropWhile, ← h1,
        List.takeWhile_append_dropWhile]
  all_goals nofun

theorem splitAtQE_append (tx rest : Bytes) (h : ∀ c ∈ tx, c ≠ 63) :
    splitAtQE (tx ++ 63 :: 61 :: rest) = some (tx, rest) := by
  induction tx with
  | nil => simp [splitAtQE]
  | cons c tx ih =>
    have hc : c ≠ 63 := h c (by simp)
    have ih' := ih (fun c hc => h c (by simp [hc]))
    rw [List.cons_append, splitAtQE]
    · rw [ih']; rfl
    · intro h'; simp at h'
    · intro r' h'; exact absurd h' hc

theorem isTokenChar_ne63 : ∀ c : UInt8, isTokenChar c = true → (c != 63) = true := by
  apply forall_u8; decide +kernel

theorem ne_of_isEncTextChar {c d : UInt8} (h : isEncTextChar c = true) (hd : isEncTextChar d = false) : c ≠ d := by
  intro e; rw [e, hd] at h; cases h

theorem encodingOf_some {en : Bytes} {e : Enc} (h : encodingOf en = some e) :
    ∃ c, en = [c] ∧ (((c == 66 || c == 98) = true ∧ e = .B) ∨
      ((c == 66 || c == 98) = false ∧ (c == 81 || c == 113) = true ∧ e = .Q)) := by
  revert h
  fun_cases encodingOf en
  -- one byte `B`/`b`; one byte `Q`/`q`; any other single byte; not a single byte
  case case1 c hb => intro h; cases h; exact ⟨c, rfl, .inl ⟨hb, rfl⟩⟩
  case case2 c hb hq => intro h; cases h; exact ⟨c, rfl, .inr ⟨by simpa using hb, hq, rfl⟩⟩
  all_goals nofun

theorem encodedWord_of_wordAt {r rest : Bytes} {w : Word} (h : wordAt (61 :: 63 :: r) = some (w, rest)) :
    encodedWord r = some (w.enc, w.text, rest) := by
  obtain ⟨en, hs, hcs, hen, hok⟩ := wordAt_spec h
  obtain ⟨c, rfl, hcase⟩ := encodingOf_some hen
  subst hs
  unfold encodedWord
  rw [List.dropWhile_append_stop (p := fun c => c != 63) (fun c hc => isTokenChar_ne63 c (hcs c hc)) (by simp)]
  simp only [List.cons_append, List.nil_append]
  rw [splitAtQE_append _ _ (fun c hc => ne_of_isEncTextChar (hok.1 c hc) (by decide))]
  rcases hcase with ⟨hb, he⟩ | ⟨hb, hq, he⟩
  · simp [hb, he]
  · simp [hb, hq, he]

theorem scanWords_nil (strict a : Bool) : scanWords strict a [] = some [] := by rw [scanWords]

theorem scanWords_cons (strict a : Bool) (c : UInt8) (r : Bytes) :
    scanWords strict a (c :: r) = match (if a then wordAt (c :: r) else none) with
      | some (w, rest) => (scanWords strict false rest).map (Item.word w :: ·)
      | none =>
        if strict && c == 61 && r.head? == some 63 then none
        else (scanWords strict (isLWS c) r).map (Item.text c :: ·) := by
  rw [scanWords]
  split <;> simp [*]

/-- On a value that scans with `strict = true` (the reading of `Spec.scanWords` in which a malformed `=?` makes the whole value
undecodable) the tokeniser of `Spec.rfc2047` finds the same words. -/
theorem scanWords_tokens (s : Bytes) (a : Bool) : ∀ items, scanWords true a s = some items →
    tokens s = some (items.map toTok) ∧ ∀ w, Item.word w ∈ items → WordOK w := by
  fun_induction scanWords true a s
  -- the end of the value; a recognised encoded word; a `=?` that begins none (the strict reading gives up); a byte of text
  case case1 => intro items h; cases h; simp [tokens_nil]
  case case2 a c r w rest hw _ ih =>
    intro items h
    obtain ⟨items', hi, rfl⟩ := Option.map_eq_some_iff.1 h
    have hwa : wordAt (c :: r) = some (w, rest) := by
      split at hw
      · exact hw
      · contradiction
    obtain ⟨r1, hr1⟩ := wordAt_head hwa
    obtain ⟨rfl, rfl⟩ := List.cons.inj hr1
    obtain ⟨_, _, _, _, hok⟩ := wordAt_spec hwa
    obtain ⟨ih1, ih2⟩ := ih _ hi
    refine ⟨?_, ?_⟩
    · rw [tokens_word, encodedWord_of_wordAt hwa]; dsimp only; rw [ih1]; simp [toTok]
    · intro w' hw'
      rcases List.mem_cons.1 hw' with hw' | hw'
      · cases hw'; exact hok
      · exact ih2 w' hw'
  case case3 => intro items h; cases h
  case case4 a c r _ hcond ih =>
    intro items h
    obtain ⟨items', hi, rfl⟩ := Option.map_eq_some_iff.1 h
    obtain ⟨ih1, ih2⟩ := ih _ hi
    refine ⟨?_, fun w' hw' => ih2 w' (by simpa using hw')⟩
    rw [tokens_lit c r (by rintro ⟨rfl, r', rfl⟩; simp at hcond), ih1]; simp [toTok]

theorem noLF_softBreak (r : Bytes) (h : ∀ c ∈ r, c ≠ 10) : softBreak r = none := by
  have hmem : ∀ {t : Bytes}, (10 : UInt8) ∈ t → r.dropWhile isblank = t → False := fun h10 heq =>
    h 10 ((List.dropWhile_sublist isblank).subset (heq ▸ h10)) rfl
  fun_cases softBreak r
  -- after the blanks: LF; CR LF; anything else
  case case1 t heq => exact (hmem (by simp) heq).elim
  case case2 t heq => exact (hmem (by simp) heq).elim
  case case3 => rfl

theorem QpLFOnly_of_noLF : ∀ t : Bytes, (∀ c ∈ t, c ≠ 10) → QpLFOnly t = true
  | [], _ => rfl
  | c :: r, h => by
    have hr : ∀ c ∈ r, c ≠ 10 := fun c hc => h c (by simp [hc])
    have ih := QpLFOnly_of_noLF r hr
    by_cases hc : c = 61
    · subst hc; rw [QpLFOnly_61_eq, ih, noLF_softBreak r hr]; rfl
    · rw [QpLFOnly_ne61 r hc]; exact ih

theorem tokBytes_toTok (it : Item) (hok : ∀ w, it = .word w → WordOK w)
    (hn : ∀ w, it = .word w → w.enc = .B → ∀ b ∈ w.decoded, b ≠ 0) : tokBytes (toTok it) = some it.bytes := by
  cases it with
  | text c => rfl
  | word w =>
    obtain ⟨htx, hp⟩ := hok w rfl
    have hn' := hn w rfl
    obtain ⟨cs, e, tx, d⟩ := w
    cases e with
    | B =>
      simp only [payload] at hp
      simp only [toTok, tokBytes, Item.bytes, hp, Option.map_some]
      rw [cstr_of_no_nul (hn' rfl)]
    | Q =>
      simp only [payload, Option.some.injEq] at hp
      simp only [toTok, tokBytes, Item.bytes]
      rw [qp_eq_qpRFC true tx (QpLFOnly_of_noLF tx (fun c hc => ne_of_isEncTextChar (htx c hc) (by decide))), hp]

theorem nulFree_mem (items : List Item) : nulFree items = true →
    ∀ w, Item.word w ∈ items → w.enc = .B → ∀ b ∈ w.decoded, b ≠ 0 := by
  fun_induction nulFree items
  -- no item; an encoded word first; a byte of text first
  case case1 => intro _ w hw; cases hw
  case case2 w' ts ih =>
    intro h w hw he
    simp only [Bool.and_eq_true] at h
    rcases List.mem_cons.1 hw with hw | hw
    · cases hw
      simpa [he] using h.1
    · exact ih h.2 w hw he
  case case3 it ts hit ih =>
    intro h w hw
    rcases List.mem_cons.1 hw with hw | hw
    · exact absurd hw.symm (hit w)
    · exact ih h w hw

theorem joinWords_nil : joinWords [] = [] := by rw [joinWords]

theorem joinWords_word (t : Item) (ts : List Item) (h : isWordItem t = true) :
    joinWords (t :: ts) = t :: joinWords (afterWord isWordItem isLWSItem ts) := by
  rw [joinWords]
  simp only [h, if_true, afterWord]
  cases hd : ts.dropWhile isLWSItem with
  | nil => simp
  | cons a tl =>
    by_cases ha : isWordItem a = true
    · simp [ha]
    · simp [ha]

theorem joinWords_text (c : UInt8) (ts : List Item) :
    joinWords (.text c :: ts) = .text c :: joinWords ts := by
  rw [joinWords]
  simp [isWordItem]

theorem isSpaceTok_toTok (it : Item) : isSpaceTok (toTok it) = isSpaceItem it := by cases it <;> rfl

theorem isWord_toTok (it : Item) : isWord (toTok it) = isWordItem it := by cases it <;> rfl

theorem isLWS_isspace : ∀ c : UInt8, isLWS c = true → isspace c = true := by
  apply forall_u8; decide +kernel

theorem isLWSItem_space (it : Item) (h : isLWSItem it = true) : isSpaceItem it = true := by
  cases it with
  | text c => exact isLWS_isspace c h
  | word w => simp [isLWSItem] at h

theorem joinOK_cons (t : Item) (ts : List Item) :
    joinOK (t :: ts) = ((if isWordItem t then
      match ts.dropWhile isSpaceItem with
      | a :: _ => !isWordItem a || (ts.takeWhile isSpaceItem).all isLWSItem
      | [] => true
    else true) && joinOK ts) := by
  rw [joinOK]
  rfl

theorem joinOK_tail {t : Item} {ts : List Item} (h : joinOK (t :: ts) = true) : joinOK ts = true := by
  rw [joinOK_cons] at h
  simp only [Bool.and_eq_true] at h
  exact h.2

theorem joinOK_dropWhile (p : Item → Bool) : ∀ ts : List Item, joinOK ts = true → joinOK (ts.dropWhile p) = true
  | [], h => h
  | t :: ts, h => by
    rw [List.dropWhile_cons]
    split
    · exact joinOK_dropWhile p ts (joinOK_tail h)
    · exact h

/-- On `joinOK` items the `isspace` run, which decode.c skips, and the run of linear white space, which `Spec.joinWords` skips, are
the same after every word: they differ only by VT / FF between two words. -/
theorem afterWord_lws {t : Item} {ts : List Item} (h : joinOK (t :: ts) = true) (ht : isWordItem t = true) :
    afterWord isWordItem isLWSItem ts = afterWord isWordItem isSpaceItem ts := by
  refine afterWord_congr isLWSItem_space (fun a ha => by cases a <;> simp_all [isWordItem, isSpaceItem]) fun hS => ?_
  rw [joinOK_cons] at h
  simp only [Bool.and_eq_true] at h
  have h1 := h.1
  cases hd : ts.dropWhile isSpaceItem with
  | nil => simp [hd] at hS
  | cons a b =>
    rw [hd] at h1 hS
    simpa [ht, show isWordItem a = true by simpa using hS] using h1

theorem afterWord_joinOK {sp : Item → Bool} {ts : List Item} (h : joinOK ts = true) :
    joinOK (afterWord isWordItem sp ts) = true := by
  unfold afterWord
  split
  · exact joinOK_dropWhile _ _ h
  · exact h

/-- The two ways of dropping the white space between words agree on `joinOK` items: `dropInterWordSpace` of Spec/Decode.lean
(on `Tok`, `isspace` runs) is `joinWords` of Spec/DecodeRFC.lean (on `Item`, LWS runs) seen through `toTok`. -/
theorem diws_map (items : List Item) : joinOK items = true →
    dropInterWordSpace (items.map toTok) = (joinWords items).map toTok := by
  induction items using afterWord_induction isWordItem isLWSItem with
  | nil => simp [diws_nil, joinWords_nil]
  | cons it ts ih ihw =>
    intro h
    cases it with
    | text c =>
      rw [List.map_cons, joinWords_text, List.map_cons]
      simp only [toTok]
      rw [diws_lit, ih (joinOK_tail h)]
    | word w =>
      rw [List.map_cons, diws_word _ _ (by rfl), joinWords_word _ _ rfl, afterWord_map,
        show isWord ∘ toTok = isWordItem from funext isWord_toTok, show isSpaceTok ∘ toTok = isSpaceItem from funext isSpaceTok_toTok,
        ← afterWord_lws h rfl, ihw (afterWord_joinOK (joinOK_tail h)), List.map_cons]

theorem joinWords_sublist (items : List Item) : (joinWords items).Sublist items := by
  induction items using afterWord_induction isWordItem isLWSItem with
  | nil => rw [joinWords_nil]; exact .slnil
  | cons it ts ih ihw =>
    cases it with
    | text c => rw [joinWords_text]; exact ih.cons_cons _
    | word w => rw [joinWords_word _ _ rfl]; exact (ihw.trans (afterWord_sublist _ _ ts)).cons_cons _

theorem scanWords_strict_lax (s : Bytes) (a : Bool) : ∀ items, scanWords true a s = some items →
    scanWords false a s = some items := by
  fun_induction scanWords true a s
  -- the end of the value; a recognised encoded word; a `=?` that begins none (the strict reading gives up); a byte of text
  case case1 => intro items h; rw [scanWords_nil]; exact h
  case case2 a c r w rest hw _ ih =>
    intro items h
    obtain ⟨items', hi, rfl⟩ := Option.map_eq_some_iff.1 h
    rw [dite_eq_ite] at hw
    rw [scanWords_cons, hw]
    simp only [ih _ hi, Option.map_some]
  case case3 => intro items h; cases h
  case case4 a c r hw _ ih =>
    intro items h
    obtain ⟨items', hi, rfl⟩ := Option.map_eq_some_iff.1 h
    rw [dite_eq_ite] at hw
    rw [scanWords_cons, hw]
    simp [ih _ hi]

theorem rfc2047RFC_eq_perWord (s : Bytes) (h : WellFormed2047 s = true) : rfc2047RFC s = rfc2047PerWord s := by
  unfold WellFormed2047 at h
  unfold rfc2047RFC rfc2047PerWord
  cases hs : scanWords true true s with
  | none => simp [hs] at h
  | some items => rw [scanWords_strict_lax s true items hs]

/-- On well-formed values the reference decoder of `Spec/Decode.lean` is the RFC decoder. -/
theorem rfc2047_eq_RFC (s : Bytes) (h : WellFormed2047 s = true) : Spec.rfc2047 s = rfc2047RFC s := by
  unfold WellFormed2047 at h
  unfold rfc2047RFC
  cases hs : scanWords true true s with
  | none => simp [hs] at h
  | some items =>
    rw [hs] at h
    simp only [Bool.and_eq_true] at h
    obtain ⟨ht, hok⟩ := scanWords_tokens s true items hs
    unfold Spec.rfc2047
    rw [ht]
    dsimp only
    rw [diws_map items h.2, List.mapM_map, List.mapM_eq_some_map (g := Item.bytes)]
    · simp [List.flatMap_def]
    · intro it hit
      have hmem := (joinWords_sublist items).subset hit
      exact tokBytes_toTok it (fun w hw => hok w (hw ▸ hmem))
        (fun w hw => nulFree_mem items h.1 w (hw ▸ hmem))

end Mdsort.Proofs
