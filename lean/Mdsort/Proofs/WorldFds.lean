import Mdsort.Model.Fds
import Mdsort.Proofs.WorldSpine
import Mdsort.Proofs.WorldVerdict
import Mdsort.Proofs.WorldKinds
import Mdsort.Proofs.WorldVal

/-!
# Descriptor hygiene (C13): which descriptors are open when a child is forked

For ARBITRARY results of the calls: the calculus is `Own.wp` of WorldOwnBasic with every result admitted (state = the trace of
calls and results; `wp_sound` reads a run off it).  What a pass knows of a trace is its `Table`: the open descriptors as a list
of handles, each with the kind of the call that returned it - so "a directory stream", "the message's descriptor" are read off
the list and need not be carried beside it.  A call changes a `Table` by one of three lemmas (`Table.opened`, `Table.closed`,
`Table.other`), so the scripts are walked in a calculus whose state is the table alone (`Fds`).  Every script of Model/Scripts
and Model/Main says which entries it adds to or takes from ANY table (`fds_<script>`, a `Fds` statement); the trace comes back
only where the last call matters (`ChildStdin`: `message_get_fd`, `exec()`) and in the loops, which are the rules of WorldSpine
(`table_<script>`: `wp … ForkI` from a trace that has a `Table`; these do not compose by `Fds.bind` / `.seq`, `Fds.run` leads to them).

`Call.opensFd` (Model/Fds.lean) is the same Boolean as `Spec.createsHandle` (Spec/ExecSeq.lean), through which `Spec.Possible`
fixes the VALUE of a new handle; here every result is admitted and the value is never looked at.
-/

namespace Mdsort.Proofs.Own
open Mdsort Mdsort.Model Mdsort.Proofs
open Mdsort.Proofs.World (bind_eq pure_eq ret_bind call_bind' call_bind bind_assoc Calls All Kind)

theorem openFdsBy_snoc (tr : Trace) (x : Call × Res) : openFdsBy (tr ++ [x]) = fdTableStep (openFdsBy tr) x := by
  simp [openFdsBy, List.foldl_append]

theorem closesFd_of_opensFd {c : Call} (hc : c.opensFd = true) : c.closesFd = none := by
  cases c <;> first | rfl | cases hc

theorem openFdsBy_opened {c : Call} (hc : c.opensFd = true) (tr : Trace) (v : Nat) :
    openFdsBy (tr ++ [(c, .ok v)]) = openFdsBy tr ++ [(v, c)] := by
  rw [openFdsBy_snoc]
  simp only [fdTableStep, closesFd_of_opensFd hc, hc, if_true]

theorem openFdsBy_closed {c : Call} {y : Handle} (hc : c.closesFd = some y) (tr : Trace) (r : Res) :
    openFdsBy (tr ++ [(c, r)]) = (openFdsBy tr).eraseP (·.1 == y) := by
  rw [openFdsBy_snoc]
  simp only [fdTableStep, hc]

theorem openFdsBy_other {c : Call} {r : Res} (hc : c.closesFd = none) (hr : c.opensFd = false ∨ ∀ v, r ≠ .ok v) (tr : Trace) :
    openFdsBy (tr ++ [(c, r)]) = openFdsBy tr := by
  rw [openFdsBy_snoc]
  simp only [fdTableStep, hc]
  cases r with
  | ok v =>
    rcases hr with hr | hr
    · simp [hr]
    · exact absurd rfl (hr v)
  | _ => rfl

theorem map_eraseP_fst (l : List (Handle × Call)) (h : Handle) :
    (l.eraseP (·.1 == h)).map (·.1) = (l.map (·.1)).erase h := by
  rw [List.erase_eq_eraseP', List.eraseP_map]
  rfl

/-- The multiset of open descriptors after `tr` is `S`. -/
def FdsAre (tr : Trace) (S : List Handle) : Prop := ∀ h, (openFds tr).count h = S.count h

theorem FdsAre.nil : FdsAre [] [] := fun _ => rfl

theorem FdsAre.congr {tr : Trace} {S S' : List Handle} (h : FdsAre tr S) (hs : ∀ x, S.count x = S'.count x) : FdsAre tr S' :=
  fun x => (h x).trans (hs x)

theorem FdsAre.opened {tr : Trace} {S : List Handle} (h : FdsAre tr S) {c : Call} (hc : c.opensFd = true) (v : Nat) :
    FdsAre (tr ++ [(c, .ok v)]) (S ++ [v]) := by
  intro x
  rw [openFds, openFdsBy_opened hc, List.map_append, List.count_append, List.count_append, ← h x]
  rfl

theorem FdsAre.closed {tr : Trace} {S : List Handle} (h : FdsAre tr S) {c : Call} {y : Handle} (hc : c.closesFd = some y) (r : Res) :
    FdsAre (tr ++ [(c, r)]) (S.erase y) := by
  intro x
  rw [openFds, openFdsBy_closed hc, map_eraseP_fst, List.count_erase, List.count_erase, ← h x]
  rfl

theorem FdsAre.other {tr : Trace} {S : List Handle} (h : FdsAre tr S) {c : Call} {r : Res} (hc : c.closesFd = none)
    (hr : c.opensFd = false ∨ ∀ v, r ≠ .ok v) : FdsAre (tr ++ [(c, r)]) S := by
  intro x
  rw [openFds, openFdsBy_other hc hr]
  exact h x

theorem FdsAre.failed {tr : Trace} {S : List Handle} (h : FdsAre tr S) {c : Call} {r : Res} (hc : c.closesFd = none)
    (hr : ∀ v, r ≠ .ok v) : FdsAre (tr ++ [(c, r)]) S := h.other hc (.inr hr)

def Opened (tr : Trace) (d : Handle) : Prop := ∃ p, (Call.opendir p, Res.ok d) ∈ tr
def OpenedRd (tr : Trace) (m : Handle) : Prop := ∃ d n, (Call.openRd d n, Res.ok m) ∈ tr

def devNull : Bytes := ofString "/dev/null"

/-- The descriptor `s` is the one `exec()` hands to the child as standard input, and why: the call just before the
`fork` is either the successful `open("/dev/null", O_RDONLY|O_CLOEXEC)` that returned `s`, or the successful
`lseek(s, 0, SEEK_SET)` of `message_get_fd` on a descriptor `s` obtained by `fcntl(F_DUPFD_CLOEXEC)` or `mkostemp`. -/
def ChildStdin (tr : Trace) (s : Handle) : Prop :=
  tr.getLast? = some (.openPath devNull, .ok s) ∨
  (∃ r, tr.getLast? = some (.lseek s, r) ∧ r.isErr = false ∧
    ((∃ fd, (Call.dupfd fd, Res.ok s) ∈ tr) ∨ ∃ t, (Call.mkostemp t, Res.ok s) ∈ tr))

/-- The open descriptors at a `fork`: at most two directory streams `ds` (the maildir being walked, and the maildir the
message has been moved to), the descriptor `m` of the message, and the child's standard input `s` - nothing else. -/
def ForkFds (tr : Trace) : Prop :=
  ∃ ds m s, FdsAre tr (ds ++ [m, s]) ∧ ds.length ≤ 2 ∧ (∀ d ∈ ds, Opened tr d) ∧ OpenedRd tr m ∧ ChildStdin tr s

/-- The same with the child's standard input NAMED: the open descriptors at a `fork argv s` are `ds`, `m` and that very
handle `s`, and `s` is what `ChildStdin` says (the `fork` call of the model carries the handle the child `dup2`s onto 0). -/
def ForkFdsOf (tr : Trace) (s : Handle) : Prop :=
  ∃ ds m, FdsAre tr (ds ++ [m, s]) ∧ ds.length ≤ 2 ∧ (∀ d ∈ ds, Opened tr d) ∧ OpenedRd tr m ∧ ChildStdin tr s

theorem ForkFdsOf.forkFds {tr : Trace} {s : Handle} (h : ForkFdsOf tr s) : ForkFds tr := by
  obtain ⟨ds, m, h⟩ := h
  exact ⟨ds, m, s, h⟩

/-- A table: handles, each with the kind of a call that returned it.  The suffix `T` of `dirT`, `chsT`, `ExecT` is this. -/
abbrev Tbl := List (Handle × Kind)

/-- What a pass knows of the descriptor table after `tr`: the open descriptors are the handles of `S` (as a multiset), each
returned by a successful call of `tr` of the kind it stands with; and every entry of the model's own table was born
close-on-exec, from a call of `tr`.
Trap: the kind a handle has in `S` need not be that of the call `openFdsBy` pairs it with - the calls may return a handle
twice, and `fdTableStep` erases the first pair that carries it.  Equal handles are interchangeable in `fds`, so `S` may say of
either which call it came from. -/
structure Table (tr : Trace) (S : Tbl) : Prop where
  fds : FdsAre tr (S.map (·.1))
  src : ∀ p ∈ S, ∃ c, c.kind = p.2 ∧ (c, Res.ok p.1) ∈ tr
  born : ∀ p ∈ openFdsBy tr, p.2.cloexec = true ∧ (p.2, Res.ok p.1) ∈ tr

variable {tr : Trace} {S : Tbl} {c : Call}

theorem Table.nil : Table [] [] := ⟨FdsAre.nil, nofun, nofun⟩

theorem opensFd_of_cloexec (hc : c.cloexec = true) : c.opensFd = true := by
  cases c <;> first | rfl | cases hc

theorem Table.opened (h : Table tr S) (hc : c.cloexec = true) (v : Nat) : Table (tr ++ [(c, .ok v)]) (S ++ [(v, c.kind)]) where
  fds := by simpa using h.fds.opened (opensFd_of_cloexec hc) v
  src p hp := by
    rcases List.mem_append.1 hp with hp | hp
    · exact (h.src p hp).imp fun _ hx => ⟨hx.1, List.mem_append_left _ hx.2⟩
    · cases List.mem_singleton.1 hp
      exact ⟨c, rfl, by simp⟩
  born p hp := by
    rw [openFdsBy_opened (opensFd_of_cloexec hc)] at hp
    rcases List.mem_append.1 hp with hp | hp
    · exact ⟨(h.born p hp).1, List.mem_append_left _ (h.born p hp).2⟩
    · cases List.mem_singleton.1 hp
      exact ⟨hc, by simp⟩

theorem Table.closed {A B : Tbl} {p : Handle × Kind} (h : Table tr (A ++ p :: B)) (hc : c.closesFd = some p.1) (r : Res) :
    Table (tr ++ [(c, r)]) (A ++ B) where
  fds := by
    refine (h.fds.closed hc r).congr fun x => ?_
    simp only [List.count_erase, List.map_append, List.map_cons, List.count_append, List.count_cons]
    split <;> omega
  src q hq := by
    have hq' : q ∈ A ++ p :: B := (List.mem_append.1 hq).elim (List.mem_append_left _) fun hb =>
      List.mem_append_right _ (List.mem_cons_of_mem _ hb)
    exact (h.src q hq').imp fun _ hx => ⟨hx.1, List.mem_append_left _ hx.2⟩
  born q hq := by
    rw [openFdsBy_closed hc] at hq
    exact ⟨(h.born q (List.mem_of_mem_eraseP hq)).1, List.mem_append_left _ (h.born q (List.mem_of_mem_eraseP hq)).2⟩

theorem Table.other {r : Res} (h : Table tr S) (hc : c.closesFd = none) (hr : c.opensFd = false ∨ ∀ v, r ≠ .ok v) :
    Table (tr ++ [(c, r)]) S where
  fds := h.fds.other hc hr
  src p hp := (h.src p hp).imp fun _ hx => ⟨hx.1, List.mem_append_left _ hx.2⟩
  born p hp := by
    rw [openFdsBy_other hc hr] at hp
    exact ⟨(h.born p hp).1, List.mem_append_left _ (h.born p hp).2⟩

theorem Table.perm {S' : Tbl} (h : Table tr S) (hp : S.Perm S') : Table tr S' :=
  ⟨h.fds.congr fun x => (hp.map _).count_eq x, fun p hq => h.src p (hp.mem_iff.2 hq), h.born⟩

theorem Table.opened_of_mem {d : Handle} (h : Table tr S) (hd : (d, Kind.opendir) ∈ S) : Opened tr d := by
  obtain ⟨c, hk, hc⟩ := h.src _ hd
  cases c <;> first | exact ⟨_, hc⟩ | cases hk

theorem Table.openedRd_of_mem {m : Handle} (h : Table tr S) (hm : (m, Kind.openRd) ∈ S) : OpenedRd tr m := by
  obtain ⟨c, hk, hc⟩ := h.src _ hm
  cases c <;> first | exact ⟨_, _, hc⟩ | cases hk

/-- The invariant of every call: a `fork` finds the descriptor table as `ForkFdsOf` says, every entry of it born close-on-exec
(`fopen`, the one creating call without the flag, has been answered by `fclose` before: `table_conf`). -/
def ForkI (tr : Trace) (c : Call) : Prop :=
  ∀ av s, c = .fork av s → ForkFdsOf tr s ∧ ∀ p ∈ openFdsBy tr, p.2.cloexec = true ∧ (p.2, Res.ok p.1) ∈ tr

theorem ForkI.of_not_isFork (h : c.isFork = false) : ForkI tr c := fun av s e => by rw [e] at h; cases h

theorem Table.forkI {D : Tbl} {m s : Handle} {k : Kind} {av : List Bytes} (h : Table tr (D ++ [(m, .openRd), (s, k)]))
    (hD : ∀ p ∈ D, p.2 = .opendir) (hl : D.length ≤ 2) (hs : ChildStdin tr s) : ForkI tr (.fork av s) := by
  rintro _ _ ⟨⟩
  refine ⟨⟨D.map (·.1), m, by simpa using h.fds, by simpa using hl, fun d hd => ?_, h.openedRd_of_mem (by simp), hs⟩,
    h.born⟩
  obtain ⟨p, hp, rfl⟩ := List.mem_map.1 hd
  exact h.opened_of_mem (List.mem_append_left _ (by rw [← hD p hp]; exact hp))

def NoFd (c : Call) : Prop := (!c.isFork && c.closesFd.isNone && !c.opensFd) = true

theorem NoFd.spec (h : NoFd c) : c.isFork = false ∧ c.closesFd = none ∧ c.opensFd = false := by
  simpa [NoFd, and_assoc] using h

/-- The kinds of the calls that are not `NoFd`: `fork`, and every kind that creates or releases a descriptor. -/
def fdKinds : List Kind := [.fork, .close, .closedir, .fclose, .opendir, .openRd, .openExcl, .openPath, .fopen, .dupfd, .mkostemp]

theorem NoFd.of_kind {K : List Kind} (hK : ∀ k ∈ K, k ∉ fdKinds) (h : c.kind ∈ K) : NoFd c := by
  cases c <;> first | rfl | exact (hK _ h (Kind.mem rfl)).elim

/-- Run from any trace whose table is `S`, whatever the calls return: every call finds what `ForkI` says, and at the end the
value and the table satisfy `Q`. -/
def Fds {α} (p : Prog α) (S : Tbl) (Q : α → Tbl → Prop) : Prop :=
  ∀ tr, Table tr S → wp (fun _ _ => True) ForkI p (fun a tr' => ∃ T, Table tr' T ∧ Q a T) tr

variable {α β : Type} {Q : α → Tbl → Prop} {p : Prog α}

theorem Fds.ret {a : α} (h : Q a S) : Fds (.ret a) S Q := fun _ ht => ⟨S, ht, h⟩

theorem Fds.bind {f : α → Prog β} {P : α → Tbl → Prop} {Q : β → Tbl → Prop} (hp : Fds p S P)
    (hf : ∀ a T, P a T → Fds (f a) T Q) : Fds (p.bind f) S Q :=
  fun tr ht => wp_bind_mono (hp tr ht) fun a tr' ⟨T, hT, hP⟩ => hf a T hP tr' hT

/-- `bind` when the table after `p` is a function of its value. -/
theorem Fds.seq {f : α → Prog β} {N : α → Tbl} {Q : β → Tbl → Prop} (hp : Fds p S fun a T => T = N a)
    (hf : ∀ a, Fds (f a) (N a) Q) : Fds (p.bind f) S Q :=
  hp.bind fun a _ h => h ▸ hf a

theorem Fds.mono {P : α → Tbl → Prop} (hp : Fds p S P) (h : ∀ a T, P a T → Q a T) : Fds p S Q :=
  fun tr ht => wp_mono (hp tr ht) fun a _ ⟨T, hT, hP⟩ => ⟨T, hT, h a T hP⟩

/-- What holds of the value whatever the calls return (`val_<script>` of WorldVal). -/
theorem Fds.with_all {P : α → Prop} (hp : Fds p S Q) (ha : All P p) : Fds p S fun a T => Q a T ∧ P a :=
  fun tr ht => wp_mono (wp_with_all (hp tr ht) ha) fun _ _ ⟨⟨T, hT, hQ⟩, hP⟩ => ⟨T, hT, hQ, hP⟩

theorem Fds.perm {S' : Tbl} (hp : S.Perm S') (h : Fds p S' Q) : Fds p S Q := fun tr ht => h tr (ht.perm hp)

/-- On a trace: what the loop rules of WorldSpine, which speak of traces, are given. -/
theorem Fds.run {N : α → Tbl} (h : Fds p S fun a T => T = N a) (ht : Table tr S) :
    wp (fun _ _ => True) ForkI p (fun a tr' => Table tr' (N a)) tr :=
  wp_mono (h tr ht) fun _ _ ⟨_, hT, e⟩ => e ▸ hT

theorem Fds.pass {k : Res → Prog α} (hc : NoFd c) (hk : ∀ r, Fds (k r) S Q) : Fds (.call c k) S Q := fun _ ht =>
  wp_call (.of_not_isFork hc.spec.1) fun r _ => hk r _ (ht.other hc.spec.2.1 (.inl hc.spec.2.2))

theorem Fds.opens {k : Res → Prog α} (hc : c.cloexec = true) (hok : ∀ v, Fds (k (.ok v)) (S ++ [(v, c.kind)]) Q)
    (hno : ∀ r, (∀ v, r ≠ .ok v) → Fds (k r) S Q) : Fds (.call c k) S Q := fun tr ht =>
  wp_call (.of_not_isFork (by cases c <;> first | rfl | cases hc)) fun r _ => by
    have hn := closesFd_of_opensFd (opensFd_of_cloexec hc)
    cases r with
    | ok v => exact hok v _ (ht.opened hc v)
    | _ => exact hno _ (by intro v hv; cases hv) _ (ht.other hn (.inr (by intro v hv; cases hv)))

theorem Fds.opensOr {A : Nat → Prog α} {B : Prog α} (hc : c.cloexec = true) (hok : ∀ v, Fds (A v) (S ++ [(v, c.kind)]) Q)
    (hno : Fds B S Q) : Fds (.call c fun r => match r with | .ok h => A h | _ => B) S Q :=
  .opens hc hok fun r hr => by cases r <;> first | exact hno | exact absurd rfl (hr _)

theorem Fds.close_mid {k : Res → Prog α} {A B : Tbl} {e : Handle × Kind} (hc : c.closesFd = some e.1)
    (hk : ∀ r, Fds (k r) (A ++ B) Q) : Fds (.call c k) (A ++ [e] ++ B) Q := fun tr ht =>
  wp_call (.of_not_isFork (by cases c <;> first | rfl | cases hc)) fun r _ => hk r _ (Table.closed (by simpa using ht) hc r)

/-- The scripts release most descriptors in the reverse order of creation. -/
theorem Fds.close {k : Res → Prog α} {e : Handle × Kind} (hc : c.closesFd = some e.1) (hk : ∀ r, Fds (k r) S Q) :
    Fds (.call c k) (S ++ [e]) Q :=
  .perm (by simp) (.close_mid (A := S) (B := []) hc fun r => .perm (by simp) (hk r))

/-- A script known by the kinds of its calls (`kinds_<script>` of WorldKinds), none of which touches the table. -/
theorem Fds.of_kinds {K : List Kind} (hc : Calls (fun c => c.kind ∈ K) p) (hK : ∀ k ∈ K, k ∉ fdKinds) :
    Fds p S fun _ T => T = S := fun _ ht =>
  wp_mono (wp_of_calls (J := fun tr => Table tr S) (fun _ _ (hc : NoFd _) _ => .of_not_isFork hc.spec.1)
    (fun _ _ _ hc h => h.other hc.spec.2.1 (.inl hc.spec.2.2)) (hc.mono fun _ => NoFd.of_kind hK) (All.trivial p) ht)
    fun _ _ hq => ⟨S, hq.2, rfl⟩

/-- The stream a maildir holds. -/
def dirT (md : Maildir) : Tbl := md.dirH.toList.map (·, .opendir)

theorem dirT_spec (md : Maildir) : (∀ p ∈ dirT md, p.2 = .opendir) ∧ (dirT md).length ≤ 1 := by
  unfold dirT
  cases md.dirH <;> simp

theorem fds_genname (env : PEnv) (md : Maildir) (flags : Option Bytes) (fuel count : Nat) (S : Tbl) :
    Fds (genname env md flags fuel count) S fun g T => T = S ++ g.toList.map fun x => (x.1, .openExcl) := by
  induction fuel generalizing count with
  | zero => exact .ret (by simp)
  | succ fuel ih =>
    rw [World.genname_succ]
    split
    · exact .ret (by simp)
    split
    · exact .ret (by simp)
    refine .opens rfl (fun v => .ret rfl) fun r hr => ?_
    cases r with
    | ok v => exact absurd rfl (hr v)
    | err e =>
      dsimp only
      split
      · exact ih _
      · exact .ret (by simp)
    | _ => exact .ret (by simp)

theorem fds_maildirClose (md : Maildir) (A B : Tbl) : Fds (maildirClose md) (A ++ dirT md ++ B) fun _ T => T = A ++ B := by
  unfold maildirClose dirT
  cases md.dirH with
  | some d => exact .close_mid rfl fun _ => .ret rfl
  | none => exact .ret (by simp)

theorem fds_maildirClose_last (md : Maildir) (S : Tbl) : Fds (maildirClose md) (S ++ dirT md) fun _ T => T = S := by
  simpa using fds_maildirClose md S []

theorem fds_maildirOpendir (md : Maildir) (path : Bytes) (S : Tbl) :
    Fds (maildirOpendir md path) (S ++ dirT md) fun x T => T = S ++ dirT x.1 ∧ x.2 = x.1.dirH.isNone := by
  unfold maildirOpendir dirT
  simp only [bind_eq, pure_eq, call_bind]
  cases md.dirH with
  | some d => exact .close rfl fun _ => .opensOr rfl (fun v => .ret ⟨rfl, rfl⟩) (.ret ⟨by simp, rfl⟩)
  | none => exact .perm (by simp) (.opensOr rfl (fun v => .ret ⟨rfl, rfl⟩) (.ret ⟨by simp, rfl⟩))

theorem fds_maildirOpenDst (path : Bytes) (S : Tbl) :
    Fds (maildirOpenDst path) S fun dst T => T = S ++ dst.toList.flatMap dirT := by
  unfold maildirOpenDst
  split
  · exact .ret (by simp)
  split
  · exact .ret (by simp)
  split
  · exact .ret (by simp)
  simp only [bind_eq, pure_eq]
  refine .bind (.perm (by simp [dirT]) (fds_maildirOpendir _ _ S)) ?_
  rintro ⟨md', failed⟩ T ⟨rfl, hf⟩
  dsimp only at hf ⊢
  subst hf
  cases hd : md'.dirH with
  | none => exact .ret (by simp [dirT, hd])
  | some dh => exact .ret (by simp)

theorem fds_mwTail (newfd : Handle) (body : Bytes) (herr : Bool) (S : Tbl) :
    Fds (World.mwTail newfd body herr) S fun _ T => T = S := by
  unfold World.mwTail
  split
  · exact .ret rfl
  refine .pass rfl fun _ => ?_
  split
  · exact .ret rfl
  refine .pass rfl fun _ => ?_
  split
  · exact .ret rfl
  exact .pass rfl fun _ => .ret rfl

theorem fds_messageWriteP (m : Msg) (fd : Handle) (S : Tbl) : Fds (messageWriteP m fd) S fun _ T => T = S := by
  rw [World.messageWriteP_eq]
  refine .opensOr rfl (fun newfd => .pass rfl fun _ => ?_) (.ret rfl)
  split
  · exact .close rfl fun _ => .ret rfl
  · refine .seq (.of_kinds (World.kinds_hdrs newfd _) (by decide)) fun herr => ?_
    exact .seq (fds_mwTail newfd m.body herr _) fun _ => .close rfl fun _ => .ret rfl

theorem fds_messageSetFile (ms : MsgSt) (dir name : Bytes) (rdfd : Handle) (A B : Tbl) (m : Handle) (hfd : ms.fd = some m) :
    Fds (messageSetFile ms dir name (some rdfd)) (A ++ [(m, .openRd)] ++ B) fun x T =>
      if x.2 = true then x.1.fd = some m ∧ T = A ++ [(m, .openRd)] ++ B else x.1.fd = some rdfd ∧ T = A ++ B := by
  unfold messageSetFile
  split
  · exact .ret ⟨hfd, rfl⟩
  split
  · exact .ret ⟨hfd, rfl⟩
  simp only [bind_eq, pure_eq, call_bind, hfd]
  exact .close_mid rfl fun _ => .ret ⟨rfl, rfl⟩

theorem fds_moveCopy (src dst : Maildir) (ms : MsgSt) (fd : Handle) (dstname : Bytes) (r : Res) (S : Tbl) :
    Fds (World.moveCopy src dst ms fd dstname r) S fun _ T => T = S := by
  unfold World.moveCopy
  split
  · split
    · simp only [bind_eq, pure_eq]
      refine .seq (fds_messageWriteP _ fd S) fun we => ?_
      split
      · exact .ret rfl
      · exact .seq (.of_kinds (World.kinds_maildirUnlink src ms.name) (by decide)) fun _ => .ret rfl
    · exact .ret rfl
  · exact .ret rfl

theorem fds_moveTail (ss : Subdir) (dst : Maildir) (dh fd : Handle) (dstname : Bytes) (mt : Option Nat) (err1 : Bool) (ms : MsgSt)
    (S : Tbl) (k : Kind) : Fds (World.moveTail ss dst dh fd dstname mt err1 ms) (S ++ [(fd, k)]) fun _ T => T = S := by
  cases err1
  · rw [World.moveTail_ok]
    refine .close rfl fun _ => ?_
    cases mt with
    | none => exact .ret rfl
    | some t =>
      refine .pass rfl fun _ => ?_
      split <;> exact .ret rfl
  · rw [World.moveTail_err]
    exact .seq (.of_kinds (World.kinds_maildirUnlink dst dstname) (by decide)) fun _ => .close rfl fun _ => .ret rfl

theorem fds_maildirMove (env : PEnv) (src dst : Maildir) (ms : MsgSt) (S : Tbl) :
    Fds (maildirMove env src dst ms) S fun x T => T = S ∧ x.1.fd = ms.fd := by
  refine (Fds.with_all ?_ (World.val_maildirMove env src dst ms)).mono fun _ _ h => ⟨h.1, h.2.1⟩
  rw [World.maildirMove_eq]
  split
  · exact .ret rfl
  split
  rotate_left
  · exact .ret rfl
  rename_i sh dh _ _
  refine .seq (N := fun _ => S) ?_ fun mt => ?_
  · split
    · exact .pass rfl fun _ => .ret rfl
    · exact .ret rfl
  unfold World.moveRest gennameStart
  simp only [bind_eq, pure_eq, call_bind]
  -- with the literal fuel every `refine` against this goal would evaluate `genname`
  generalize gennameAttempts = fuel
  split
  · exact .ret rfl
  rename_i fl _
  refine .seq (fds_genname env dst (some fl) fuel _ S) fun g => ?_
  cases g with
  | none => exact .ret (by simp)
  | some x =>
  refine .pass rfl fun r => ?_
  exact .seq (fds_moveCopy src dst ms x.1 x.2 r _) fun y => fds_moveTail src.subdir dst dh x.1 x.2 mt y.1 y.2 S _

theorem fds_maildirWrite (env : PEnv) (md : Maildir) (ms : MsgSt) (A : Tbl) (m : Handle) (hfd : ms.fd = some m) :
    Fds (maildirWrite env md ms) (A ++ [(m, .openRd)]) fun x T => ∃ m', x.1.fd = some m' ∧ T = A ++ [(m', .openRd)] := by
  rw [World.maildirWrite_eq]
  unfold gennameStart
  generalize gennameAttempts = fuel
  split
  · exact .ret ⟨m, hfd, rfl⟩
  rename_i fl _
  refine .seq (fds_genname env md (some fl) fuel _ _) fun g => ?_
  cases g with
  | none => exact .ret ⟨m, hfd, by simp⟩
  | some x =>
  refine .seq (fds_messageWriteP _ x.1 _) fun we => .close rfl fun _ => ?_
  refine .seq (N := fun _ => A ++ [(m, .openRd)]) ?_ fun err => ?_
  · split
    · exact .ret rfl
    · exact .of_kinds (World.kinds_maildirUnlink md ms.name) (by decide)
  split
  · exact .seq (.of_kinds (World.kinds_maildirUnlink md x.2) (by decide)) fun _ => .ret ⟨m, hfd, rfl⟩
  split
  · exact .ret ⟨m, hfd, rfl⟩
  refine .opensOr rfl (fun rdfd => ?_) (.ret ⟨m, hfd, rfl⟩)
  refine .bind (fds_messageSetFile _ md.path x.2 rdfd A [(rdfd, .openRd)] m hfd) ?_
  rintro ⟨ms', _ | _⟩ T h
  · exact .ret ⟨rdfd, h⟩
  · obtain ⟨h1, rfl⟩ := h
    exact .close rfl fun _ => .ret ⟨m, h1, rfl⟩

theorem fds_writefd (tmpdir : Bytes) (S : Tbl) : Fds (writefd tmpdir) S fun f T => T = S ++ f.toList.map (·, .mkostemp) := by
  unfold writefd
  simp only [bind_eq, pure_eq, call_bind]
  split
  · exact .ret (by simp)
  refine .opensOr rfl (fun fd => .pass rfl fun _ => ?_) (.ret (by simp))
  split
  · exact .ret rfl
  · exact .close rfl fun _ => .ret (by simp)

theorem fds_tmpCopy (tmpdir : Bytes) (fill : Handle → Prog Bool) (S : Tbl)
    (hfill : ∀ fd, Fds (fill fd) (S ++ [(fd, .mkostemp)]) fun _ T => T = S ++ [(fd, .mkostemp)]) :
    Fds (World.tmpCopy tmpdir fill) S fun f T => T = S ++ f.toList.map (·, .mkostemp) := by
  unfold World.tmpCopy
  refine .seq (fds_writefd tmpdir S) fun f => ?_
  cases f with
  | none => exact .ret rfl
  | some fd =>
    refine .seq (hfill fd) fun e => ?_
    split
    · exact .close rfl fun _ => .ret (by simp)
    · exact .ret rfl

/-- `message_get_fd` delivers a duplicate of the message's descriptor or a temporary copy, rewound by its last call: what
`ChildStdin` asks of the call before a `fork`. -/
theorem table_messageGetFd (env : PEnv) (ms : MsgSt) (part : Option Msg) (dobody : Bool) (tr : Trace) (S : Tbl) (h : Table tr S) :
    wp (fun _ _ => True) ForkI (messageGetFd env ms part dobody)
      (fun res tr' => match res with
        | none => Table tr' S
        | some fd => ∃ k, Table tr' (S ++ [(fd, k)]) ∧ ChildStdin tr' fd) tr := by
  rw [World.messageGetFd_eq]
  refine wp_bind_mono ((?_ : Fds _ S fun f T => ∃ k, (k = .dupfd ∨ k = .mkostemp) ∧ T = S ++ f.toList.map (·, k)) tr h) ?_
  · split
    · split
      · exact .ret ⟨_, .inl rfl, by simp⟩
      · exact (fds_tmpCopy _ _ S fun fd => .of_kinds (World.kinds_writeAll fd _ _) (by decide)).mono fun _ _ h =>
          ⟨_, .inr rfl, h⟩
    · split
      · exact (fds_tmpCopy _ _ S fun fd => fds_messageWriteP _ fd _).mono fun _ _ h => ⟨_, .inr rfl, h⟩
      · split
        · exact .ret ⟨_, .inl rfl, by simp⟩
        · refine .opens rfl (fun v => .ret ⟨_, .inl rfl, rfl⟩) fun r hr => .ret ⟨_, .inl rfl, ?_⟩
          cases r <;> first | exact absurd rfl (hr _) | simp [resHandle]
  · rintro f tr1 ⟨_, hT, k, hk, rfl⟩
    unfold World.rewindFd
    cases f with
    | none => exact (by simpa using hT : Table tr1 S)
    | some fd =>
      refine wp_call (.of_not_isFork rfl) fun r _ => ?_
      have h1 : Table (tr1 ++ [(Call.lseek fd, r)]) (S ++ [(fd, k)]) := hT.other rfl (.inl rfl)
      split
      · rename_i hok
        refine ⟨k, h1, .inr ⟨r, by simp, by simpa [World.isOk_eq_not_isErr] using hok, ?_⟩⟩
        obtain ⟨c, hc, hmem⟩ := h1.src (fd, k) (by simp)
        rcases hk with rfl | rfl
        · cases c <;> first | exact .inl ⟨_, hmem⟩ | cases hc
        · cases c <;> first | exact .inr ⟨_, hmem⟩ | cases hc
      · exact wp_call (.of_not_isFork rfl) fun r2 _ => h1.closed (A := S) (B := []) rfl r2 |>.perm (by simp)

/-- `exec()` when the open descriptors are the directory streams `D`, the message's descriptor and the descriptor handed in, if
any: that one, or else `/dev/null`, opened by the call before, is the child's standard input; `/dev/null` is closed again. -/
theorem table_execP (argv : List Bytes) (fdin : Option Handle) (k : Kind) (tr : Trace) (D : Tbl) (m : Handle)
    (hD : ∀ p ∈ D, p.2 = .opendir) (hl : D.length ≤ 2) (h : Table tr (D ++ [(m, .openRd)] ++ fdin.toList.map (·, k)))
    (hin : ∀ fd, fdin = some fd → ChildStdin tr fd) :
    wp (fun _ _ => True) ForkI (execP argv fdin) (fun _ tr' => Table tr' (D ++ [(m, .openRd)] ++ fdin.toList.map (·, k))) tr := by
  unfold execP
  simp only [bind_eq, pure_eq, call_bind]
  -- up to the `fork`: `/dev/null`, if it is opened, is the last entry
  refine wp_bind_mono (P := fun dn tr' => match dn with
    | none => Table tr' (D ++ [(m, .openRd)] ++ fdin.toList.map (·, k))
    | some devnull => Table tr' (D ++ [(m, .openRd)] ++ fdin.toList.map (·, k) ++ devnull.toList.map (·, .openPath)) ∧
        ForkI tr' (.fork argv (childStdin fdin devnull))) ?_ ?_
  · cases fdin with
    | some fd => exact ⟨by simpa using h, Table.forkI (by simpa [childStdin] using h) hD hl (hin fd rfl)⟩
    | none =>
      refine wp_call_okOr (.of_not_isFork rfl) (fun hn _ => ?_) fun r _ hr => h.other rfl (.inr hr)
      have h1 := h.opened (c := .openPath (ofString "/dev/null")) rfl hn
      -- `execP` spells the path out, `ChildStdin` names it `devNull`
      exact ⟨h1, Table.forkI (by simpa [childStdin] using h1) hD hl (.inl (by simp [devNull, childStdin]))⟩
  · rintro (_ | devnull) tr1 h1
    · exact h1
    · refine wp_call h1.2 fun r _ => Fds.run ?_ (h1.1.other rfl (.inl rfl))
      refine .seq (N := fun _ => D ++ [(m, .openRd)] ++ fdin.toList.map (·, k) ++ devnull.toList.map (·, .openPath)) ?_
        fun res => ?_
      · cases r <;> first | exact .ret rfl | exact .pass rfl fun w => by cases w <;> exact .ret rfl
      · cases devnull with
        | some hn => exact .close rfl fun _ => .ret rfl
        | none => exact .ret (by simp)

/-- One question of evaluation: a `command` condition runs `exec(argv, -1)` - its `fork` finds the directory streams `D`, the
message's descriptor and `/dev/null` -, an `isdirectory` or file-time `date` condition calls `stat`; the table is afterwards
what it was. -/
theorem fds_sysCall (q : Req) (D : Tbl) (m : Handle) (hD : ∀ p ∈ D, p.2 = .opendir) (hl : D.length ≤ 2) :
    Fds (sysCall q) (D ++ [(m, .openRd)]) fun _ T => T = D ++ [(m, .openRd)] := by
  cases q with
  | command av =>
    exact fun tr ht => wp_bind_mono (table_execP _ none .openPath tr D m hD hl (by simpa using ht) nofun) fun _ _ h =>
      ⟨_, by simpa using h, rfl⟩
  | isDir p => exact .pass rfl fun _ => .ret rfl
  | fileTime p f => exact .pass rfl fun _ => .ret rfl

/-- `expr_eval`: every `fork` is the one of a `command` condition; in the run `D` is the stream of the maildir. -/
theorem fds_evalP (env : Env) (e : Expr) (msg : Msg) (fl : MFlags) (D : Tbl) (m : Handle) (hD : ∀ p ∈ D, p.2 = .opendir)
    (hl : D.length ≤ 2) : Fds (evalP env e msg fl) (D ++ [(m, .openRd)]) fun _ T => T = D ++ [(m, .openRd)] := by
  unfold evalP
  generalize evalTop env e msg fl = t
  induction t with
  | ret a => exact .ret rfl
  | ask q k ih => exact .seq (fds_sysCall q D m hD hl) ih

/-- The stream of the maildir the message has been moved to, if the source has changed (`chs`: `ExecSt.chsrc`). -/
def chsT (st : ExecSt) : Tbl := if st.chsrc then dirT st.src else []

/-- While the action list of a message runs, the open descriptors are the stream `d` of the maildir being walked, the stream of
the maildir the message has been moved to, and the message's descriptor. -/
def ExecT (d : Handle) (st : ExecSt) (T : Tbl) : Prop :=
  ∃ m, st.ms.fd = some m ∧ T = [(d, .opendir)] ++ chsT st ++ [(m, .openRd)]

theorem fds_moveBranch (env : PEnv) (mh : Match) (st : ExecSt) (d : Handle) (S : Tbl) (h : ExecT d st S) :
    Fds (World.moveBranch env mh st) S fun x T => ExecT d x.1 T := by
  obtain ⟨m, hfd, rfl⟩ := h
  unfold World.moveBranch
  refine .seq (fds_maildirOpenDst _ _) fun dst => ?_
  cases dst with
  | none => exact .ret ⟨m, hfd, by simp⟩
  | some dst =>
    refine .perm (by simp)
      (.bind (fds_maildirMove env st.src dst st.ms ([(d, .opendir)] ++ chsT st ++ [(m, .openRd)] ++ dirT dst)) ?_)
    rintro ⟨ms', e⟩ _ ⟨rfl, hfd'⟩
    have hm : ms'.fd = some m := hfd'.trans hfd
    dsimp only
    split
    · exact .seq (fds_maildirClose_last dst _) fun _ => .ret ⟨m, hm, rfl⟩
    · split
      · -- the message is now in another maildir: `dst` becomes the source, its stream stands before the message's descriptor
        have newSrc : ([(d, Kind.opendir)] ++ ([(m, Kind.openRd)] ++ dirT dst)).Perm
            ([(d, .opendir)] ++ (dirT dst ++ [(m, .openRd)])) := List.perm_append_comm.append_left _
        unfold chsT
        split
        · refine .perm (by simp) (.seq (fds_maildirClose st.src [(d, .opendir)] ([(m, .openRd)] ++ dirT dst)) fun _ => ?_)
          exact .perm newSrc (.ret ⟨m, hm, rfl⟩)
        · exact .perm newSrc (.ret ⟨m, hm, rfl⟩)
      · exact .seq (fds_maildirClose_last dst _) fun _ => .ret ⟨m, hm, rfl⟩

/-- The part an exec entry refers to: `Spec.execPart mh st.ms` (Spec/ExecSeq.lean, the same body), read off the loop state. -/
def execPart (mh : Match) (st : ExecSt) : Option Msg := if mh.part == 0 then none else st.ms.parts[mh.part - 1]?

theorem execOne_stdin_eq (env : PEnv) (mh : Match) (st : ExecSt) (hty : mh.ty = .exec) (hs : mh.execStdin = true) :
    execOne env mh st =
      (messageGetFd env st.ms (execPart mh st) mh.execBody).bind fun f =>
        match f with
        | none => Prog.ret (st, true)
        | some fd => (execP mh.argv (some fd)).bind fun rc => (call (Call.close fd)).bind fun _ => Prog.ret (st, rc != 0) := by
  rw [World.execOne_exec env mh st hty, if_pos hs, bind_assoc]
  congr 1
  funext f
  cases f <;> rfl

theorem execOne_nostdin_eq (env : PEnv) (mh : Match) (st : ExecSt) (hty : mh.ty = .exec) (hs : mh.execStdin = false) :
    execOne env mh st = (execP mh.argv none).bind fun rc => Prog.ret (st, rc != 0) := by
  rw [World.execOne_exec env mh st hty, if_neg (by simp [hs])]
  rfl

/-- An `exec` action: the descriptor `message_get_fd` delivers, if one is asked for, is the child's standard input and is closed
afterwards. -/
theorem fds_execAction (env : PEnv) (mh : Match) (st : ExecSt) (d : Handle) (S : Tbl) (h : ExecT d st S) (hty : mh.ty = .exec) :
    Fds (execOne env mh st) S fun x T => ExecT d x.1 T := by
  obtain ⟨m, hfd, rfl⟩ := h
  have hD : (∀ p ∈ [(d, Kind.opendir)] ++ chsT st, p.2 = .opendir) ∧ ([(d, Kind.opendir)] ++ chsT st).length ≤ 2 := by
    unfold chsT
    split
    · exact ⟨fun p hp => (List.mem_cons.1 hp).elim (fun e => e ▸ rfl) ((dirT_spec _).1 p),
        Nat.succ_le_succ (dirT_spec _).2⟩
    · simp
  intro tr ht
  cases hs : mh.execStdin with
  | false =>
    rw [execOne_nostdin_eq env mh st hty hs]
    exact wp_bind_mono (table_execP _ none .openPath tr _ m hD.1 hD.2 (by simpa using ht) nofun) fun _ _ h3 =>
      ⟨_, by simpa using h3, m, hfd, rfl⟩
  | true =>
    rw [execOne_stdin_eq env mh st hty hs]
    refine wp_bind_mono (table_messageGetFd env st.ms _ mh.execBody tr _ ht) fun f tr1 hf => ?_
    cases f with
    | none => exact ⟨_, hf, m, hfd, rfl⟩
    | some fd =>
      obtain ⟨k, h1, h2⟩ := hf
      refine wp_bind_mono (table_execP _ (some fd) k tr1 _ m hD.1 hD.2 h1 fun _ e => Option.some.inj e ▸ h2) fun _ _ h3 => ?_
      exact (Fds.close rfl fun _ => .ret ⟨m, hfd, rfl⟩) _ h3

theorem fds_execOne (env : PEnv) (mh : Match) (st : ExecSt) (d : Handle) (S : Tbl) (h : ExecT d st S) :
    Fds (execOne env mh st) S fun x T => ExecT d x.1 T := by
  rcases World.execOne_ty_cases mh.ty with hty | hty | hty | hty | hty | hty
  · rw [World.execOne_move env mh st hty]
    exact fds_moveBranch env mh st d S h
  · rw [World.execOne_discard env mh st hty]
    obtain ⟨m, hfd, rfl⟩ := h
    refine .seq (.of_kinds (World.kinds_maildirUnlink st.src st.ms.name) (by decide)) fun e => .ret ⟨m, ?_, ?_⟩
    · split <;> exact hfd
    · split <;> rfl
  · rw [World.execOne_write env mh st hty]
    obtain ⟨m, hfd, rfl⟩ := h
    exact .bind (fds_maildirWrite env st.src st.ms _ m hfd) fun _ _ h => .ret h
  · rw [World.execOne_reject env mh st hty]
    exact .ret h
  · exact fds_execAction env mh st d S h hty
  · rw [World.execOne_other env mh st hty]
    exact .ret h

theorem fds_matchesExec (env : PEnv) (ml : MatchList) (st : ExecSt) (d : Handle) (S : Tbl) (h : ExecT d st S) :
    Fds (matchesExec env ml st) S fun x T => ∃ m, x.1.ms.fd = some m ∧ T = [(d, .opendir), (m, .openRd)] := by
  -- the end: close the stream of the maildir the message was moved to
  have fin : ∀ (st' : ExecSt) (b : Bool) (T : Tbl), ExecT d st' T →
      Fds (if st'.chsrc = true then (maildirClose st'.src).bind fun _ => Prog.ret (st', b) else Prog.ret (st', b)) T
        fun x T => ∃ m, x.1.ms.fd = some m ∧ T = [(d, .opendir), (m, .openRd)] := by
    rintro st' b _ ⟨m, hfd, rfl⟩
    unfold chsT
    split
    · exact .seq (fds_maildirClose st'.src _ _) fun _ => .ret ⟨m, hfd, rfl⟩
    · exact .ret ⟨m, hfd, rfl⟩
  induction ml generalizing st S with
  | nil =>
    rw [matchesExec_nil]
    exact fin st false S h
  | cons mh rest ih =>
    rw [matchesExec_cons]
    refine .bind (fds_execOne env mh st d S h) fun x T hx => ?_
    split
    · exact fin x.1 true T hx
    · exact ih x.1 T hx

theorem fds_messageParseP (d : Handle) (dir name content : Bytes) (S : Tbl) :
    Fds (messageParseP d dir name content) S fun res T => match res with
      | none => T = S
      | some ms => ∃ fd, ms.fd = some fd ∧ T = S ++ [(fd, .openRd)] := by
  rw [World.messageParseP_eq]
  refine .opensOr rfl (fun fd => ?_) (.ret rfl)
  unfold World.parseTail
  refine .seq (.of_kinds (World.kinds_readAll fd _) (by decide)) fun failed => ?_
  split
  · exact .close rfl fun _ => .ret rfl
  · split
    · split
      · exact .ret ⟨fd, rfl, rfl⟩
      · exact .close rfl fun _ => .ret rfl
    · exact .close rfl fun _ => .ret rfl

theorem fds_freeP (ms : MsgSt) (S : Tbl) (m : Handle) (hfd : ms.fd = some m) :
    Fds (freeP ms) (S ++ [(m, .openRd)]) fun _ T => T = S := by
  unfold freeP
  rw [hfd]
  exact .close rfl fun _ => .ret rfl

theorem fds_afterVerdict (env : PEnv) (md : Maildir) (name : Bytes) (st : MainSt) (ms : MsgSt) (v : Verdict) (d fd : Handle)
    (hfd : ms.fd = some fd) :
    Fds (afterVerdict env md name st ms v) [(d, .opendir), (fd, .openRd)] fun x T => x.2 = md ∧ T = [(d, .opendir)] := by
  cases v with
  | act ml msgs fl =>
    unfold afterVerdict
    dsimp only
    split
    · exact .seq (fds_freeP _ [(d, .opendir)] fd hfd) fun _ => .ret ⟨rfl, rfl⟩
    · refine .bind (fds_matchesExec env ml _ d _ ⟨fd, hfd, rfl⟩) ?_
      rintro x _ ⟨m, hm, rfl⟩
      exact .seq (fds_freeP _ [(d, .opendir)] m hm) fun _ => .ret ⟨rfl, rfl⟩
  | _ => exact .seq (fds_freeP _ [(d, .opendir)] fd hfd) fun _ => .ret ⟨rfl, rfl⟩

theorem fds_processMessage (env : PEnv) (orc : EvalOracles) (expr : Expr) (md : Maildir) (name : Bytes) (st : MainSt) :
    Fds (processMessage env orc expr md name st) (dirT md) fun x T => x.2 = md ∧ T = dirT md := by
  cases hd : md.dirH with
  | none => rw [processMessage_noDir env orc expr md name st hd]; exact .ret ⟨rfl, rfl⟩
  | some d =>
    cases hf : st.files.get md.path name with
    | none => rw [processMessage_unknown env orc expr md name st d hd hf]; exact .ret ⟨rfl, rfl⟩
    | some content =>
      rw [processMessage_eq env orc expr md name st d content hd hf]
      simp only [dirT, hd, Option.toList_some, List.map_cons, List.map_nil]
      refine .bind (fds_messageParseP d md.path name content _) fun pm T hpm => ?_
      cases pm with
      | none => exact .ret ⟨rfl, hpm⟩
      | some ms =>
        obtain ⟨fd, hfd, rfl⟩ := hpm
        unfold afterParse evalMs
        exact .seq (fds_evalP _ expr ms.msg ms.flags [(d, .opendir)] fd (by simp) (by simp)) fun ev =>
          fds_afterVerdict env md name st ms _ d fd hfd

theorem table_walk (env : PEnv) (orc : EvalOracles) (expr : Expr) (fuel : Nat) (md : Maildir) (st : MainSt) (tr : Trace)
    (h : Table tr (dirT md)) :
    wp (fun _ _ => True) ForkI (walk env orc expr fuel md st) (fun x tr' => Table tr' (dirT x.2)) tr :=
  wp_walk (M := fun tr md => Table tr (dirT md)) env orc expr
    (fun _ _ _ _ h => ⟨.of_not_isFork rfl, fun _ => h.other rfl (.inl rfl)⟩)
    (fun _ md _ n st h => wp_mono (fds_processMessage env orc expr md n st _ h) fun _ _ ⟨_, hT, hx, e⟩ => hx ▸ e ▸ hT)
    (fun tr md p h _ => wp_mono (fds_maildirOpendir { md with subdir := .cur, path := p } p [] tr h) fun _ _ ⟨_, hT, e, _⟩ =>
      (e ▸ hT : Table _ ([] ++ _)))
    fuel md st tr h

theorem fds_maildirStdin (env : PEnv) (input : Bytes) : Fds (maildirStdin env input) [] fun x T => T = dirT x.1 := by
  unfold maildirStdin gennameStart
  simp only [bind_eq, pure_eq, call_bind]
  generalize gennameAttempts = fuel
  split
  · exact .ret rfl
  refine .pass rfl fun r => ?_
  cases r with
  | name root =>
    dsimp only
    split
    · exact .ret rfl
    refine .pass rfl fun _ => ?_
    split
    · exact .ret rfl
    · refine .bind (fds_maildirOpendir _ _ []) ?_
      rintro ⟨md2, failed⟩ _ ⟨rfl, -⟩
      dsimp only
      split
      · exact .ret rfl
      · refine .seq (fds_genname env md2 none fuel _ _) fun g => ?_
        cases g with
        | none => exact .ret (by simp)
        | some x =>
          refine .seq (.of_kinds (World.kinds_copyStdin x.1 _ input) (by decide)) fun e1 => ?_
          refine .seq (N := fun _ => [] ++ dirT md2 ++ [(x.1, .openExcl)]) ?_ fun e2 => .close rfl fun _ => .ret rfl
          split
          · exact .ret rfl
          · exact .pass rfl fun _ => .ret rfl
  | _ => exact .ret rfl

theorem fds_closeStdin (fuel : Nat) (md : Maildir) : Fds (closeStdin fuel md) (dirT md) fun _ T => T = [] := by
  unfold closeStdin dirT
  cases md.dirH with
  | none =>
    simp only [bind_eq, pure_eq, call_bind, ret_bind]
    exact .pass rfl fun _ => .pass rfl fun _ => .ret rfl
  | some d =>
    simp only [bind_eq, pure_eq, call_bind, call_bind']
    refine .pass rfl fun _ => .seq (.of_kinds (World.kinds_closeLoop d fuel) (by decide)) fun _ => ?_
    exact .pass rfl fun _ => .pass rfl fun _ => .close (S := []) rfl fun _ => .ret rfl

theorem table_blocks (env : PEnv) (orc : EvalOracles) (input : Bytes) (bs : List ConfBlock) (st : MainSt) (tr : Trace)
    (h : Table tr []) : wp (fun _ _ => True) ForkI (mainP.blocks env orc input bs st) (fun _ tr' => Table tr' []) tr := by
  refine wp_blocks (J := fun tr => Table tr []) env orc input bs (fun b _ st tr h => ?_) st tr h
  refine wp_paths (J := fun tr => Table tr []) (M := fun tr md => Table tr (dirT md)) env orc input b
    (fun _ _ h => (fds_maildirStdin env input).run h) (fun _ _ md h => (fds_closeStdin _ md).run h)
    (fun _ tr root np h => wp_mono (fds_maildirOpendir (maildirOf root np) np [] tr h) ?_)
    (fun tr fuel md st h => table_walk env orc b.expr fuel md st tr h)
    (fun _ _ md h => (fds_maildirClose_last md []).run h) b.paths st tr h
  rintro ⟨md, failed⟩ tr' ⟨_, hT, rfl, hf⟩
  dsimp only at hf ⊢
  split
  · rename_i hfl
    rw [hfl] at hf
    simpa [dirT, Option.isNone_iff_eq_none.1 hf.symm] using hT
  · exact hT

/-- The stream of the configuration file - `fopen`, the one creating call without close-on-exec - is closed by the next call. -/
theorem table_conf (p : Bytes) (h : Handle) (r : Res) : Table [(Call.fopen p, Res.ok h), (Call.fclose h, r)] [] := by
  have e : openFdsBy [(Call.fopen p, Res.ok h), (Call.fclose h, r)] = [] := by
    simp [openFdsBy, fdTableStep, Call.closesFd, Call.opensFd]
  exact ⟨fun x => by rw [openFds, e]; rfl, nofun, by rw [e]; exact nofun⟩

theorem table_mainP (env : PEnv) (orc : EvalOracles) (ok : Bool) (conf : List ConfBlock) (files : Files) (input : Bytes) :
    wp (fun _ _ => True) ForkI (mainP env orc ok conf files input) (fun _ tr' => Table tr' []) [] :=
  wp_mainP (J := fun tr => Table tr []) env orc ok conf files input (fun _ _ h => h) []
    (.of_not_isFork rfl) (fun _ hr => Table.nil.other rfl (.inr hr)) (fun _ => .of_not_isFork rfl)
    (fun h r => table_conf env.confpath h r) fun st tr h => table_blocks env orc input conf st tr h

theorem forkI_mainP (env : PEnv) (orc : EvalOracles) (ok : Bool) (conf : List ConfBlock) (files : Files) (input : Bytes)
    (orcl : Nat → Call → Res) (j : Nat) (argv : List Bytes) (s : Handle) (r : Res)
    (h : (runOracle orcl (mainP env orc ok conf files input) 0 []).2[j]? = some (.fork argv s, r)) :
    ForkI ((runOracle orcl (mainP env orc ok conf files input) 0 []).2.take j) (.fork argv s) :=
  (wp_sound orcl (fun _ _ => True.intro) (table_mainP env orc ok conf files input) 0).2 j (.fork argv s) r (Nat.zero_le _) h

/-- Descriptor hygiene: whatever the calls return, at every `fork argv s` of a run of `main` the open descriptors are as
`ForkFdsOf … s` says. -/
theorem fd_hygiene_of (env : PEnv) (orc : EvalOracles) (ok : Bool) (conf : List ConfBlock) (files : Files) (input : Bytes)
    (orcl : Nat → Call → Res) (j : Nat) (argv : List Bytes) (s : Handle) (r : Res)
    (h : (runOracle orcl (mainP env orc ok conf files input) 0 []).2[j]? = some (.fork argv s, r)) :
    ForkFdsOf ((runOracle orcl (mainP env orc ok conf files input) 0 []).2.take j) s :=
  (forkI_mainP env orc ok conf files input orcl j argv s r h argv s rfl).1

theorem fd_hygiene (env : PEnv) (orc : EvalOracles) (ok : Bool) (conf : List ConfBlock) (files : Files) (input : Bytes)
    (orcl : Nat → Call → Res) (j : Nat) (argv : List Bytes) (s : Handle) (r : Res)
    (h : (runOracle orcl (mainP env orc ok conf files input) 0 []).2[j]? = some (.fork argv s, r)) :
    ForkFds ((runOracle orcl (mainP env orc ok conf files input) 0 []).2.take j) :=
  (fd_hygiene_of env orc ok conf files input orcl j argv s r h).forkFds

/-- Every descriptor open at a `fork` was created by a call whose descriptor has the close-on-exec flag from birth: the stream
of the configuration file (`fopen`, the only creating call without the flag) has been closed before. -/
theorem fd_hygiene_cloexec (env : PEnv) (orc : EvalOracles) (ok : Bool) (conf : List ConfBlock) (files : Files) (input : Bytes)
    (orcl : Nat → Call → Res) (j : Nat) (argv : List Bytes) (s : Handle) (r : Res)
    (h : (runOracle orcl (mainP env orc ok conf files input) 0 []).2[j]? = some (.fork argv s, r)) :
    ∀ p ∈ openFdsBy ((runOracle orcl (mainP env orc ok conf files input) 0 []).2.take j),
      p.2.cloexec = true ∧ (p.2, Res.ok p.1) ∈ (runOracle orcl (mainP env orc ok conf files input) 0 []).2.take j :=
  (forkI_mainP env orc ok conf files input orcl j argv s r h argv s rfl).2

/-! ### where the `fork` of an `exec` action stands in the run of `execOne`, relative to `message_get_fd` (used by Props/C13) -/

theorem nofork_messageGetFd (env : PEnv) (ms : MsgSt) (part : Option Msg) (dobody : Bool) :
    Calls (fun c => c.isFork = false) (messageGetFd env ms part dobody) :=
  (World.kinds_messageGetFd env ms part dobody).mono fun c h => by
    have hK : World.Kind.fork ∉ World.getFdKinds := by decide
    cases c <;> first | rfl | exact (hK h).elim

theorem execP_some_eq (argv : List Bytes) (fd : Handle) :
    ∃ k : Res → Prog Int, execP argv (some fd) = Prog.call (Call.fork argv fd) k := by
  unfold execP
  simp only [bind_eq, pure_eq, call_bind, ret_bind, childStdin]
  exact ⟨_, rfl⟩

/-- With `stdin`: the child is forked right after the calls of `message_get_fd`, and only if it delivered a descriptor. -/
theorem exec_stdin_child (env : PEnv) (mh : Match) (st : ExecSt) (orcl : Nat → Call → Res) (i : Nat) (tr : Trace)
    (hty : mh.ty = .exec) (hs : mh.execStdin = true) :
    ((runOracle orcl (messageGetFd env st.ms (execPart mh st) mh.execBody) i tr).1 = none →
      (runOracle orcl (execOne env mh st) i tr).2 = (runOracle orcl (messageGetFd env st.ms (execPart mh st) mh.execBody) i tr).2 ∧
      (runOracle orcl (execOne env mh st) i tr).1.2 = true) ∧
    (∀ fd, (runOracle orcl (messageGetFd env st.ms (execPart mh st) mh.execBody) i tr).1 = some fd →
      ∃ r rest, (runOracle orcl (execOne env mh st) i tr).2 =
        (runOracle orcl (messageGetFd env st.ms (execPart mh st) mh.execBody) i tr).2 ++ (Call.fork mh.argv fd, r) :: rest) := by
  rw [execOne_stdin_eq env mh st hty hs]
  simp only [runOracle_eq, runO_bind]
  constructor
  · intro hn
    rw [hn]
    simp
  · intro fd hfd
    rw [hfd]
    obtain ⟨k, hk⟩ := execP_some_eq mh.argv fd
    simp only [hk, call_bind', runO_call, runO_bind]
    exact ⟨_, _, (List.append_assoc _ _ _).symm⟩

/-- Without `stdin`: the first call is `open("/dev/null")`; the child is forked right after it, and only if it succeeded. -/
theorem exec_nostdin_child (env : PEnv) (mh : Match) (st : ExecSt) (orcl : Nat → Call → Res) (i : Nat) (tr : Trace)
    (hty : mh.ty = .exec) (hs : mh.execStdin = false) :
    (∀ h, orcl i (.openPath devNull) = .ok h →
      ∃ r rest, (runOracle orcl (execOne env mh st) i tr).2 = tr ++ (Call.openPath devNull, Res.ok h) :: (Call.fork mh.argv h, r) :: rest) ∧
    ((∀ h, orcl i (.openPath devNull) ≠ .ok h) →
      (runOracle orcl (execOne env mh st) i tr).2 = tr ++ [(Call.openPath devNull, orcl i (.openPath devNull))] ∧
      (runOracle orcl (execOne env mh st) i tr).1.2 = true) := by
  rw [execOne_nostdin_eq env mh st hty hs]
  unfold execP
  simp only [runOracle_eq, bind_eq, pure_eq, call_bind, call_bind', runO_call, devNull]
  constructor
  · intro h hh
    rw [hh]
    simp only [ret_bind, call_bind', runO_call, childStdin]
    exact ⟨_, _, rfl⟩
  · intro hne
    cases hh : orcl i (Call.openPath (ofString "/dev/null")) with
    | ok h => exact absurd hh (hne h)
    | err e => simp
    | name n => simp
    | eof => simp

end Mdsort.Proofs.Own
