import Mdsort.Proofs.WorldWholeMsg
import Mdsort.Proofs.EvalEntries

/-!
# A decidable sufficient condition for `WholeNoDiscard`

A rule tree that contains no `discard` action never produces a discard entry, whatever the message:
evaluation appends entries of the types of the tree's leaves only (`evalT_entries`), and interpolation keeps the type of
every entry.
-/

namespace Mdsort.Proofs
open Mdsort Mdsort.Model

def wholeHasDiscard : Expr → Bool
  | .block _ e | .neg _ e | .attachment _ e | .attBlock _ e => wholeHasDiscard e
  | .and _ l r | .or _ l r | .mtch _ l r => wholeHasDiscard l || wholeHasDiscard r
  | .discard _ => true
  | _ => false

theorem whole_leaf_entry {e : Expr} (he : wholeHasDiscard e = false) :
    ∀ n ∈ e.leaves, ∀ x, entryOf n = some x → x.1 ≠ .discard := by
  induction e with
  | block _ e ih | neg _ e ih | attachment _ e ih | attBlock _ e ih => exact ih he
  | and _ l r ihl ihr | or _ l r ihl ihr | mtch _ l r ihl ihr =>
    have h := Bool.or_eq_false_iff.1 he
    exact fun n hn => (List.mem_append.1 hn).elim (ihl h.1 n) (ihr h.2 n)
  | discard => cases he
  | _ =>
    intro n hn x hx
    rw [List.mem_singleton.1 hn] at hx
    cases hx <;> exact fun h => nomatch h

theorem whole_nd_evalT (env : Env) (root : Msg) (e : Expr) (he : wholeHasDiscard e = false)
    (part : Nat) (m : Msg) (st : St) (h : NoDiscard st.ml) :
    (evalT env root e part m st).AllRet fun r => NoDiscard r.2.ml :=
  evalT_entries (K := fun ty _ => ty ≠ .discard) env root e (by decide) (whole_leaf_entry he) part m st h

theorem whole_nd_interp_go (macros : Option (List (Bytes × Bytes))) :
    ∀ (rest : MatchList) (i : Nat) (cur : MatchList) (msgs : Nat → Msg) (r : MatchList × (Nat → Msg)),
      matchesInterpolate.go macros i rest cur msgs = some r → NoDiscard rest → NoDiscard cur → NoDiscard r.1 := by
  intro rest
  induction rest with
  | nil =>
    intro i cur msgs r hr _ hc
    rw [matchesInterpolate.go] at hr
    cases hr
    exact hc
  | cons m0 more ih =>
    intro i cur msgs r hr hrest hc
    rw [matchesInterpolate.go] at hr
    cases hmi : matchInterpolate macros cur i m0 msgs with
    | none => rw [hmi] at hr; cases hr
    | some x =>
      obtain ⟨mh', upd⟩ := x
      rw [hmi] at hr
      dsimp only at hr
      have hty : mh'.ty = m0.ty := congrArg Prod.fst (matchInterpolate_key macros cur i m0 mh' msgs upd hmi)
      refine ih (i + 1) _ _ r hr (fun m hm => hrest m (List.mem_cons_of_mem _ hm)) ?_
      intro m hm
      rcases List.mem_or_eq_of_mem_set hm with h1 | h1
      · exact hc m h1
      · rw [h1, hty]; exact hrest m0 (List.mem_cons_self ..)

theorem whole_evVerdict_nd (env : PEnv) (orc : EvalOracles) (ms : MsgSt) (ev : Tri × St) (h1 : NoDiscard ev.2.ml)
    (ml : MatchList) (msgs : Nat → Msg) (fl : MFlags) (h : evVerdict env orc ms ev = .act ml msgs fl) : NoDiscard ml := by
  obtain ⟨t, est⟩ := ev
  cases t with
  | error => simp only [evVerdict] at h; cases h
  | «nomatch» => simp only [evVerdict] at h; cases h
  | «match» =>
    simp only [evVerdict] at h
    dsimp only at h1
    generalize hmi : matchesInterpolate (msgEnv env orc ms.path) est.ml (partMsg ms.msg ms.parts) = o at h
    cases o with
    | none => dsimp only at h; cases h
    | some x =>
      obtain ⟨ml', msgs'⟩ := x
      dsimp only at h
      injection h with e1 e2 e3
      subst e1
      unfold matchesInterpolate at hmi
      exact whole_nd_interp_go _ est.ml 0 est.ml _ (ml', msgs') hmi h1 h1

theorem whole_msVerdict_nd (env : PEnv) (orc : EvalOracles) (expr : Expr) (he : wholeHasDiscard expr = false) (ms : MsgSt)
    (ml : MatchList) (msgs : Nat → Msg) (fl : MFlags) (h : msVerdict env orc expr ms = .act ml msgs fl) : NoDiscard ml :=
  whole_evVerdict_nd env orc ms _
    (eval_of_evalT (whole_nd_evalT _ ms.msg expr he 0 ms.msg { ml := [], flags := ms.flags } (by intro m hm; cases hm)))
    ml msgs fl h

theorem whole_msVerdictA_nd (env : PEnv) (orc : EvalOracles) (expr : Expr) (he : wholeHasDiscard expr = false) (ms : MsgSt)
    (as : List SysAns) (ml : MatchList) (msgs : Nat → Msg) (fl : MFlags)
    (h : msVerdictA env orc expr ms as = .act ml msgs fl) : NoDiscard ml :=
  whole_evVerdict_nd env orc ms _
    ((whole_nd_evalT (msgEnv env orc ms.path) ms.msg expr he 0 ms.msg { ml := [], flags := ms.flags }
      (by intro m hm; cases hm)).run as) ml msgs fl h

theorem whole_noDiscard_of_syntax (env : PEnv) (orc : EvalOracles) (expr : Expr) (he : wholeHasDiscard expr = false) :
    WholeNoDiscard env orc expr := by
  intro dir name c as ml msgs fl hv
  unfold verdictA at hv
  split at hv
  · exact whole_msVerdictA_nd env orc expr he _ as ml msgs fl hv
  · cases hv

end Mdsort.Proofs
