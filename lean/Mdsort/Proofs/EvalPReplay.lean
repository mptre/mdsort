import Mdsort.Proofs.EvalPTree
import Mdsort.Proofs.WorldOwnBasic

/-!
# `evalP` replays the pure evaluation (C03 at world level)

`evalP_replay`: whatever the calls return, the run of `evalP` is the run of asking, in order, exactly the questions of
the pure evaluation `evalR` with the answers the world gave (`Ask.answers`), and has its value.

Behind it the vocabulary the other `EvalP*` modules share: the calls of evaluation (`EvalCall`, `ExecCall`), answers that agree
with the pure oracles of an environment (`noSys`, `AnsOK`, `Answered`, `Ask.Sat.run`), and environments that agree on what a leaf
that asks nothing reads (`EnvSame`, `eval_same_leaf`).
-/

namespace Mdsort.Model
open Mdsort
open Mdsort.Proofs.Own (runO runO_bind)

/-- The answers the world gives to the questions of `t` when its program starts at call index `i`. -/
def Ask.answers {α} (orcl : Nat → Call → Res) : Ask α → Nat → List SysAns
  | .ret _, _ => []
  | .ask q k, i =>
    (runO orcl (sysCall q) i).1 :: (k (runO orcl (sysCall q) i).1).answers orcl (runO orcl (sysCall q) i).2.2

def askAll : List Req → Prog (List SysAns)
  | [] => .ret []
  | q :: r => (sysCall q).bind fun a => (askAll r).bind fun as => .ret (a :: as)

/-- The middle conjunct: every question of the pure run was answered (none is missing, none is left over). -/
theorem Ask.toProg_replay {α} (t : Ask α) (orcl : Nat → Call → Res) (i : Nat) :
    (runO orcl t.toProg i).1 = (t.run (t.answers orcl i)).1 ∧
    (t.run (t.answers orcl i)).2.length = (t.answers orcl i).length ∧
    runO orcl (askAll (t.run (t.answers orcl i)).2) i =
      (t.answers orcl i, (runO orcl t.toProg i).2.1, (runO orcl t.toProg i).2.2) := by
  induction t generalizing i with
  | ret a => exact ⟨rfl, rfl, rfl⟩
  | ask q k ih =>
    obtain ⟨h1, h2, h3⟩ := ih (runO orcl (sysCall q) i).1 (runO orcl (sysCall q) i).2.2
    simp only [Ask.toProg, Ask.answers, Ask.run, List.headD_cons, List.tail_cons, runO_bind, askAll, List.length_cons]
    refine ⟨h1, by rw [h2], ?_⟩
    rw [h3]
    simp

end Mdsort.Model

namespace Mdsort.Proofs
open Mdsort Mdsort.Model
open Mdsort.Proofs.World (Calls bind_eq pure_eq call_bind)
open Mdsort.Proofs.Own (runO)

theorem evalP_replay (env : Env) (e : Expr) (m : Msg) (fl : MFlags)
    (orcl : Nat → Call → Res) (i : Nat) :
    let as := (evalTop env e m fl).answers orcl i
    (runO orcl (evalP env e m fl) i).1 = (evalR env e m fl as).1 ∧
    (evalR env e m fl as).2.length = as.length ∧
    runO orcl (askAll (evalR env e m fl as).2) i =
      (as, (runO orcl (evalP env e m fl) i).2.1, (runO orcl (evalP env e m fl) i).2.2) :=
  Ask.toProg_replay _ orcl i

def EvalCall (c : Call) : Prop :=
  c = .openPath (ofString "/dev/null") ∨ c.isFork = true ∨ c = .waitpid ∨ (∃ h, c = .close h) ∨ ∃ p, c = .stat p

/-- The calls of util.c `exec(argv, -1)`. -/
def ExecCall (c : Call) : Prop :=
  c = .openPath (ofString "/dev/null") ∨ c.isFork = true ∨ c = .waitpid ∨ ∃ h, c = .close h

theorem execCall_execP (argv : List Bytes) : Calls ExecCall (execP argv none) := by
  unfold execP
  simp only [bind_eq, pure_eq, call_bind]
  -- `open("/dev/null")`, `fork`, `waitpid` if the fork succeeded, `close` if there is a descriptor: the four disjuncts, in order
  refine Calls.bind ⟨.inl rfl, fun r => ?_⟩ fun dn => ?_
  · cases r <;> exact True.intro
  cases dn with
  | none => exact True.intro
  | some devnull =>
    refine ⟨.inr (.inl rfl), fun r => Calls.bind ?_ fun res => ?_⟩
    · cases r with
      | ok _ => exact ⟨.inr (.inr (.inl rfl)), fun w => by cases w <;> exact True.intro⟩
      | _ => exact True.intro
    · cases devnull with
      | some h => exact ⟨.inr (.inr (.inr ⟨h, rfl⟩)), fun _ => True.intro⟩
      | none => exact True.intro

theorem EvalCall.quiet {c : Call} (h : EvalCall c) : c.mutating = false := by
  rcases h with rfl | h | rfl | ⟨_, rfl⟩ | ⟨_, rfl⟩ <;> first | rfl | exact Call.not_mutating_of_isFork h

/-- The environment without its three oracles `command`, `isDir`, `fileTime` (what `processMessage` hands to `evalP`;
`timeFormat` stays).  The environment of a message in a run, `msgEnv` (Proofs/Captures.lean), is of this form:
`noSys_msgEnv` (Proofs/WorldVerdict.lean), by `rfl`. -/
def noSys (env : Env) : Env :=
  { env with command := fun _ => -1, isDir := fun _ => false, fileTime := fun _ => none }

/-- The answer `a` to question `q` is what the pure oracles of `env` say. -/
def AnsOK (env : Env) : Req → SysAns → Prop
  | .command av, a => ansStatus a = env.command av
  | .isDir p, a => ansIsDir a = env.isDir p
  | .fileTime p _, a => ansTimes a = env.fileTime p

def Answered (env : Env) (rq : List Req) (as : List SysAns) : Prop :=
  ∀ (k : Nat) (q : Req), rq[k]? = some q → ∃ a, as[k]? = some a ∧ AnsOK env q a

theorem Answered.cons {env : Env} {q : Req} {rq : List Req} {as : List SysAns} (h : Answered env (q :: rq) as) :
    AnsOK env q (as.headD (.status (-1))) ∧ Answered env rq as.tail := by
  cases as with
  | nil => obtain ⟨a, ha, -⟩ := h 0 q rfl; cases ha
  | cons b rest =>
    refine ⟨?_, fun k q' hk => h (k + 1) q' hk⟩
    obtain ⟨a, ha, hok⟩ := h 0 q rfl
    cases ha
    exact hok

/-- On answers that agree with the oracles of `env`, the pure run follows a path along which `Sat` speaks. -/
theorem _root_.Mdsort.Model.Ask.Sat.run {α} {env : Env} {P : α → Prop} {t : Ask α} (ht : t.Sat (AnsOK env) P) :
    ∀ as : List SysAns, Answered env (t.run as).2 as → P (t.run as).1 := by
  induction t with
  | ret a => exact fun _ _ => ht
  | ask q k ih => exact fun as ha => ih _ (ht _ ha.cons.1) as.tail ha.cons.2

/-- Two environments that agree on every field a node that asks nothing looks at: all but the three oracles and
`timeFormat` (which only the file-time `date` conditions use). -/
structure EnvSame (e1 e2 : Env) : Prop where
  rx : e1.rx = e2.rx
  now : e1.now = e2.now
  strptime : e1.strptime = e2.strptime
  zoneName : e1.zoneName = e2.zoneName
  dryrun : e1.dryrun = e2.dryrun
  path : e1.path = e2.path

theorem envSame_noSys (env : Env) : EnvSame (noSys env) env := ⟨rfl, rfl, rfl, rfl, rfl, rfl⟩

theorem matchesAppend_same {e1 e2 : Env} (h : EnvSame e1 e2) (ml : MatchList) (mh : Match) :
    matchesAppend e1 ml mh = matchesAppend e2 ml mh := by
  unfold matchesAppend; rw [h.path]

theorem exprAppend_same {e1 e2 : Env} (h : EnvSame e1 e2) (mh : Match) (st : St) (ok : Tri) :
    exprAppend e1 mh st ok = exprAppend e2 mh st ok := by
  unfold exprAppend; rw [matchesAppend_same h]

theorem regexHit_same {e1 e2 : Env} (h : EnvSame e1 e2) (ty : MType) (lno part : Nat) (p : Pat) (key val : Bytes) (st : St) :
    regexHit e1 ty lno part p key val st = regexHit e2 ty lno part p key val st := by
  unfold regexHit; rw [h.rx, h.dryrun]

theorem eval_same_leaf {e1 e2 : Env} (h : EnvSame e1 e2) (root : Msg) (e : Expr) (he : asksNothing e = true)
    (part : Nat) (m : Msg) (st : St) : eval e1 root e part m st = eval e2 root e part m st := by
  have := eval_leaf_rel (S := Eq) root he h.rx h.now h.strptime h.zoneName h.path part m (rfl : st = st) rfl (fun _ => rfl)
    (fun ty lno p k v _ => regexHit_same h ty lno part p k v st ▸ ⟨rfl, rfl⟩)
    (fun mh s _ ok hs _ _ => hs ▸ exprAppend_same h mh s ok ▸ ⟨rfl, rfl⟩)
  exact Prod.ext this.1 this.2

end Mdsort.Proofs
