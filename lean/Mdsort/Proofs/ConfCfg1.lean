import Mdsort.Spec.Cfg

/-!
# Parse trees over the regenerated grammar: combinators, and the facts about the table

The theorems `p_*` and `t_*` below are the leaves of every proof about parse trees: "this production is
in the table bison printed for the parse.y of THIS run" and "this symbol is a terminal of it".  Both
lists are checked against `Gen.productions` (Gen/Grammar.lean, regenerated before every build) by one
evaluation each (`table_is_covered`, `terminals_ok`: a terminal is a symbol outside
`Gen.grammarNonterminals`); a `p_*` or `t_*` names its entry by position.
Removing or altering a production of parse.y breaks `table_is_covered`.  The two `error` productions
(error recovery, not modelled) are the only ones without a fact.
-/

namespace Mdsort.Proofs.Cfg
open Mdsort Mdsort.Model Mdsort.Spec Mdsort.Spec.Cfg

theorem roots_ofList (l : List Tree) : (Forest.ofList l).roots = l.map Tree.root := by
  induction l with
  | nil => rfl
  | cons t r ih => simp [Forest.ofList, Forest.roots, ih]

theorem yield_ofList (l : List Tree) : (Forest.ofList l).yield = l.flatMap Tree.yield := by
  induction l with
  | nil => simp [Forest.ofList, Forest.yield]
  | cons t r ih => simp [Forest.ofList, Forest.yield, ih]

theorem ok_ofList (P : List Prod) (l : List Tree) : (Forest.ofList l).ok P = l.all (fun t => t.ok P) := by
  induction l with
  | nil => simp [Forest.ofList, Forest.ok]
  | cons t r ih => simp [Forest.ofList, Forest.ok, ih]

theorem N_root (x : Sym) (l : List Tree) : (N x l).root = x := rfl
theorem T_root (a : Sym) : (T a).root = a := rfl
theorem N_yield (x : Sym) (l : List Tree) : (N x l).yield = l.flatMap Tree.yield := by
  simp [N, Tree.yield, yield_ofList]

theorem T_yield (a : Sym) : (T a).yield = [a] := by simp [T, Tree.yield]
theorem N_ok (P : List Prod) (x : Sym) (l : List Tree) :
    (N x l).ok P = (P.contains (x, l.map Tree.root) && l.all (fun t => t.ok P)) := by
  simp [N, Tree.ok, roots_ofList, ok_ofList]

theorem T_ok (P : List Prod) (a : Sym) : (T a).ok P = isTerminal P a := by simp [T, Tree.ok]

def Parses (P : List Prod) (x : Sym) (t : Tree) (w : List Sym) : Prop := t.ok P = true ∧ t.root = x ∧ t.yield = w

inductive ParsesL (P : List Prod) : List Sym → List Tree → List Sym → Prop
  | nil : ParsesL P [] [] []
  | cons {x : Sym} {t : Tree} {w : List Sym} {xs : List Sym} {ts : List Tree} {ws : List Sym} :
      Parses P x t w → ParsesL P xs ts ws → ParsesL P (x :: xs) (t :: ts) (w ++ ws)

theorem ParsesL.facts {P : List Prod} {xs : List Sym} {ts : List Tree} {w : List Sym} (h : ParsesL P xs ts w) :
    ts.map Tree.root = xs ∧ ts.all (fun t => t.ok P) = true ∧ ts.flatMap Tree.yield = w := by
  induction h with
  | nil => simp
  | cons h1 _ ih =>
    obtain ⟨a, b, c⟩ := h1
    obtain ⟨a', b', c'⟩ := ih
    simp [a, b, c, a', b', c']

theorem Parses.node {P : List Prod} {x : Sym} {xs : List Sym} {ts : List Tree} {w : List Sym}
    (hp : P.contains (x, xs) = true) (h : ParsesL P xs ts w) : Parses P x (N x ts) w := by
  obtain ⟨a, b, c⟩ := h.facts
  refine ⟨?_, rfl, ?_⟩
  · rw [N_ok, a, hp, b]; rfl
  · rw [N_yield, c]

theorem Parses.leaf {P : List Prod} {a : Sym} (h : isTerminal P a = true) : Parses P a (T a) [a] :=
  ⟨by rw [T_ok, h], rfl, T_yield a⟩

theorem Parses.derives {P : List Prod} {x : Sym} {t : Tree} {w : List Sym} (h : Parses P x t w) : Derives P x w :=
  ⟨t, h⟩

theorem _root_.Mdsort.Spec.Cfg.Derives.parses {P : List Prod} {x : Sym} {w : List Sym} (h : Derives P x w) : ∃ t, Parses P x t w := h

theorem Parses.cast {P : List Prod} {x : Sym} {t : Tree} {w w' : List Sym} (h : Parses P x t w) (e : w = w') :
    Parses P x t w' := e ▸ h

/-- A list of symbols derives the concatenation of what each derives. -/
inductive DerivesL (P : List Prod) : List Sym → List Sym → Prop
  | nil : DerivesL P [] []
  | cons {x : Sym} {w : List Sym} {xs : List Sym} {ws : List Sym} :
      Derives P x w → DerivesL P xs ws → DerivesL P (x :: xs) (w ++ ws)

theorem DerivesL.trees {P : List Prod} {xs : List Sym} {w : List Sym} (h : DerivesL P xs w) : ∃ ts, ParsesL P xs ts w := by
  induction h with
  | nil => exact ⟨[], .nil⟩
  | cons h1 _ ih =>
    obtain ⟨t, ht⟩ := h1
    obtain ⟨ts, hts⟩ := ih
    exact ⟨t :: ts, .cons ht hts⟩

theorem _root_.Mdsort.Spec.Cfg.Derives.node {P : List Prod} {x : Sym} {xs : List Sym} {w : List Sym}
    (hp : P.contains (x, xs) = true) (h : DerivesL P xs w) : Derives P x w := by
  obtain ⟨ts, hts⟩ := h.trees
  exact (Parses.node hp hts).derives

theorem _root_.Mdsort.Spec.Cfg.Derives.leaf {P : List Prod} {a : Sym} (h : isTerminal P a = true) : Derives P a [a] := (Parses.leaf h).derives

theorem _root_.Mdsort.Spec.Cfg.Derives.cast {P : List Prod} {x : Sym} {w w' : List Sym} (h : Derives P x w) (e : w = w') : Derives P x w' := e ▸ h

/-- What the parse-tree proofs use of the table, i.e. what the printer writes and the parser model implements. -/
def usedProductions : List Prod := [
  ("grammar", []),
  ("grammar", ["grammar", "macro"]),
  ("grammar", ["grammar", "maildir"]),
  ("macro", ["MACRO", "'='", "STRING"]),
  ("maildir", ["maildir_paths", "exprblock"]),
  ("maildir_paths", ["MAILDIR", "strings"]),
  ("maildir_paths", ["STDIN"]),
  ("exprblock", ["'{'", "exprs", "'}'"]),
  ("exprs", []),
  ("exprs", ["exprs", "expr"]),
  ("expr", ["MATCH", "expr1", "expr2"]),
  ("expr1", ["expr1", "AND", "expr1"]),
  ("expr1", ["expr1", "OR", "expr1"]),
  ("expr1", ["ATTACHMENT", "expr1"]),
  ("expr1", ["NEG", "expr1"]),
  ("expr1", ["expr3"]),
  ("expr2", ["expractions"]),
  ("expr2", ["exprblock"]),
  ("expr3", ["BODY", "pattern"]),
  ("expr3", ["HEADER", "strings", "pattern"]),
  ("expr3", ["DATE", "date_field", "date_cmp", "date_age"]),
  ("expr3", ["NEW"]),
  ("expr3", ["OLD"]),
  ("expr3", ["ALL"]),
  ("expr3", ["ISDIRECTORY", "STRING"]),
  ("expr3", ["COMMAND", "strings"]),
  ("expr3", ["'('", "expr1", "')'"]),
  ("expractions", []),
  ("expractions", ["expractions", "expraction"]),
  ("expraction", ["BREAK"]),
  ("expraction", ["MOVE", "STRING"]),
  ("expraction", ["FLAG", "flag"]),
  ("expraction", ["FLAGS", "STRING"]),
  ("expraction", ["DISCARD"]),
  ("expraction", ["LABEL", "strings"]),
  ("expraction", ["PASS"]),
  ("expraction", ["REJECT"]),
  ("expraction", ["EXEC", "exec_flags", "strings"]),
  ("expraction", ["ATTACHMENT", "exprblock"]),
  ("expraction", ["ADDHEADER", "STRING", "STRING"]),
  ("strings", ["'{'", "stringblock", "'}'"]),
  ("strings", ["STRING"]),
  ("stringblock", []),
  ("stringblock", ["stringblock", "STRING"]),
  ("flag", ["optneg", "NEW"]),
  ("date_field", []),
  ("date_field", ["HEADER"]),
  ("date_field", ["ACCESS"]),
  ("date_field", ["MODIFIED"]),
  ("date_field", ["CREATED"]),
  ("date_cmp", ["'<'"]),
  ("date_cmp", ["'>'"]),
  ("date_age", ["INT", "scalar"]),
  ("$@1", []),
  ("scalar", ["$@1", "SCALAR"]),
  ("exec_flags", []),
  ("exec_flags", ["exec_flags", "exec_flag"]),
  ("exec_flag", ["STDIN"]),
  ("exec_flag", ["BODY"]),
  ("$@2", []),
  ("pattern", ["$@2", "PATTERN"]),
  ("optneg", []),
  ("optneg", ["NEG"])
]

/-- The table has nothing else but the `error` productions, and no production is named that it does not have. -/
theorem table_is_covered :
    Gen.productions.all (fun p => usedProductions.contains p || Gen.errorProductions.contains p) = true ∧
    usedProductions.all (fun p => Gen.productions.contains p) = true ∧
    Gen.errorProductions.all (fun p => p.2.contains "error" && Gen.productions.contains p && !usedProductions.contains p) = true := by
  decide +kernel

theorem used_ok {p : Prod} (i : Nat) (h : usedProductions[i]? = some p) : Gen.productions.contains p = true :=
  List.all_eq_true.1 table_is_covered.2.1 p (List.mem_of_getElem? h)

theorem p_grammar_empty : Gen.productions.contains ("grammar", []) = true := used_ok 0 rfl
theorem p_grammar_grammar_macro : Gen.productions.contains ("grammar", ["grammar", "macro"]) = true := used_ok 1 rfl
theorem p_grammar_grammar_maildir : Gen.productions.contains ("grammar", ["grammar", "maildir"]) = true := used_ok 2 rfl
theorem p_macro_macro_eq_string : Gen.productions.contains ("macro", ["MACRO", "'='", "STRING"]) = true := used_ok 3 rfl
theorem p_maildir_maildir_paths_exprblock : Gen.productions.contains ("maildir", ["maildir_paths", "exprblock"]) = true := used_ok 4 rfl
theorem p_maildir_paths_maildir_strings : Gen.productions.contains ("maildir_paths", ["MAILDIR", "strings"]) = true := used_ok 5 rfl
theorem p_maildir_paths_stdin : Gen.productions.contains ("maildir_paths", ["STDIN"]) = true := used_ok 6 rfl
theorem p_exprblock_lbrace_exprs_rbrace : Gen.productions.contains ("exprblock", ["'{'", "exprs", "'}'"]) = true := used_ok 7 rfl
theorem p_exprs_empty : Gen.productions.contains ("exprs", []) = true := used_ok 8 rfl
theorem p_exprs_exprs_expr : Gen.productions.contains ("exprs", ["exprs", "expr"]) = true := used_ok 9 rfl
theorem p_expr_match_expr1_expr2 : Gen.productions.contains ("expr", ["MATCH", "expr1", "expr2"]) = true := used_ok 10 rfl
theorem p_expr1_expr1_and_expr1 : Gen.productions.contains ("expr1", ["expr1", "AND", "expr1"]) = true := used_ok 11 rfl
theorem p_expr1_expr1_or_expr1 : Gen.productions.contains ("expr1", ["expr1", "OR", "expr1"]) = true := used_ok 12 rfl
theorem p_expr1_attachment_expr1 : Gen.productions.contains ("expr1", ["ATTACHMENT", "expr1"]) = true := used_ok 13 rfl
theorem p_expr1_neg_expr1 : Gen.productions.contains ("expr1", ["NEG", "expr1"]) = true := used_ok 14 rfl
theorem p_expr1_expr3 : Gen.productions.contains ("expr1", ["expr3"]) = true := used_ok 15 rfl
theorem p_expr2_expractions : Gen.productions.contains ("expr2", ["expractions"]) = true := used_ok 16 rfl
theorem p_expr2_exprblock : Gen.productions.contains ("expr2", ["exprblock"]) = true := used_ok 17 rfl
theorem p_expr3_body_pattern : Gen.productions.contains ("expr3", ["BODY", "pattern"]) = true := used_ok 18 rfl
theorem p_expr3_header_strings_pattern : Gen.productions.contains ("expr3", ["HEADER", "strings", "pattern"]) = true := used_ok 19 rfl
theorem p_expr3_date_date_field_date_cmp_date_age : Gen.productions.contains ("expr3", ["DATE", "date_field", "date_cmp", "date_age"]) = true := used_ok 20 rfl
theorem p_expr3_new : Gen.productions.contains ("expr3", ["NEW"]) = true := used_ok 21 rfl
theorem p_expr3_old : Gen.productions.contains ("expr3", ["OLD"]) = true := used_ok 22 rfl
theorem p_expr3_all : Gen.productions.contains ("expr3", ["ALL"]) = true := used_ok 23 rfl
theorem p_expr3_isdirectory_string : Gen.productions.contains ("expr3", ["ISDIRECTORY", "STRING"]) = true := used_ok 24 rfl
theorem p_expr3_command_strings : Gen.productions.contains ("expr3", ["COMMAND", "strings"]) = true := used_ok 25 rfl
theorem p_expr3_lparen_expr1_rparen : Gen.productions.contains ("expr3", ["'('", "expr1", "')'"]) = true := used_ok 26 rfl
theorem p_expractions_empty : Gen.productions.contains ("expractions", []) = true := used_ok 27 rfl
theorem p_expractions_expractions_expraction : Gen.productions.contains ("expractions", ["expractions", "expraction"]) = true := used_ok 28 rfl
theorem p_expraction_break : Gen.productions.contains ("expraction", ["BREAK"]) = true := used_ok 29 rfl
theorem p_expraction_move_string : Gen.productions.contains ("expraction", ["MOVE", "STRING"]) = true := used_ok 30 rfl
theorem p_expraction_flag_flag : Gen.productions.contains ("expraction", ["FLAG", "flag"]) = true := used_ok 31 rfl
theorem p_expraction_flags_string : Gen.productions.contains ("expraction", ["FLAGS", "STRING"]) = true := used_ok 32 rfl
theorem p_expraction_discard : Gen.productions.contains ("expraction", ["DISCARD"]) = true := used_ok 33 rfl
theorem p_expraction_label_strings : Gen.productions.contains ("expraction", ["LABEL", "strings"]) = true := used_ok 34 rfl
theorem p_expraction_pass : Gen.productions.contains ("expraction", ["PASS"]) = true := used_ok 35 rfl
theorem p_expraction_reject : Gen.productions.contains ("expraction", ["REJECT"]) = true := used_ok 36 rfl
theorem p_expraction_exec_exec_flags_strings : Gen.productions.contains ("expraction", ["EXEC", "exec_flags", "strings"]) = true := used_ok 37 rfl
theorem p_expraction_attachment_exprblock : Gen.productions.contains ("expraction", ["ATTACHMENT", "exprblock"]) = true := used_ok 38 rfl
theorem p_expraction_addheader_string_string : Gen.productions.contains ("expraction", ["ADDHEADER", "STRING", "STRING"]) = true := used_ok 39 rfl
theorem p_strings_lbrace_stringblock_rbrace : Gen.productions.contains ("strings", ["'{'", "stringblock", "'}'"]) = true := used_ok 40 rfl
theorem p_strings_string : Gen.productions.contains ("strings", ["STRING"]) = true := used_ok 41 rfl
theorem p_stringblock_empty : Gen.productions.contains ("stringblock", []) = true := used_ok 42 rfl
theorem p_stringblock_stringblock_string : Gen.productions.contains ("stringblock", ["stringblock", "STRING"]) = true := used_ok 43 rfl
theorem p_flag_optneg_new : Gen.productions.contains ("flag", ["optneg", "NEW"]) = true := used_ok 44 rfl
theorem p_date_field_empty : Gen.productions.contains ("date_field", []) = true := used_ok 45 rfl
theorem p_date_field_header : Gen.productions.contains ("date_field", ["HEADER"]) = true := used_ok 46 rfl
theorem p_date_field_access : Gen.productions.contains ("date_field", ["ACCESS"]) = true := used_ok 47 rfl
theorem p_date_field_modified : Gen.productions.contains ("date_field", ["MODIFIED"]) = true := used_ok 48 rfl
theorem p_date_field_created : Gen.productions.contains ("date_field", ["CREATED"]) = true := used_ok 49 rfl
theorem p_date_cmp_lt : Gen.productions.contains ("date_cmp", ["'<'"]) = true := used_ok 50 rfl
theorem p_date_cmp_gt : Gen.productions.contains ("date_cmp", ["'>'"]) = true := used_ok 51 rfl
theorem p_date_age_int_scalar : Gen.productions.contains ("date_age", ["INT", "scalar"]) = true := used_ok 52 rfl
theorem p_mid1_empty : Gen.productions.contains ("$@1", []) = true := used_ok 53 rfl
theorem p_scalar_mid1_scalar : Gen.productions.contains ("scalar", ["$@1", "SCALAR"]) = true := used_ok 54 rfl
theorem p_exec_flags_empty : Gen.productions.contains ("exec_flags", []) = true := used_ok 55 rfl
theorem p_exec_flags_exec_flags_exec_flag : Gen.productions.contains ("exec_flags", ["exec_flags", "exec_flag"]) = true := used_ok 56 rfl
theorem p_exec_flag_stdin : Gen.productions.contains ("exec_flag", ["STDIN"]) = true := used_ok 57 rfl
theorem p_exec_flag_body : Gen.productions.contains ("exec_flag", ["BODY"]) = true := used_ok 58 rfl
theorem p_mid2_empty : Gen.productions.contains ("$@2", []) = true := used_ok 59 rfl
theorem p_pattern_mid2_pattern : Gen.productions.contains ("pattern", ["$@2", "PATTERN"]) = true := used_ok 60 rfl
theorem p_optneg_empty : Gen.productions.contains ("optneg", []) = true := used_ok 61 rfl
theorem p_optneg_neg : Gen.productions.contains ("optneg", ["NEG"]) = true := used_ok 62 rfl

def usedTerminals : List Sym := [
  "'('", "')'", "'<'", "'='", "'>'", "'{'", "'}'", "ACCESS",
  "ADDHEADER", "ALL", "ATTACHMENT", "BODY", "BREAK", "COMMAND", "CREATED", "DATE",
  "DISCARD", "EXEC", "FLAG", "FLAGS", "HEADER", "ISDIRECTORY", "LABEL", "MAILDIR",
  "MATCH", "MODIFIED", "MOVE", "NEW", "OLD", "PASS", "REJECT", "STDIN",
  "INT", "SCALAR", "PATTERN", "MACRO", "STRING", "AND", "OR", "NEG"
]

/-- Every left-hand side of the table is one of bison's nonterminals, and no terminal the proofs use is. -/
theorem terminals_ok :
    Gen.productions.all (fun p => Gen.grammarNonterminals.contains p.1) = true ∧
    usedTerminals.all (fun a => !Gen.grammarNonterminals.contains a) = true := by decide +kernel

theorem terminal_ok {a : Sym} (i : Nat) (h : usedTerminals[i]? = some a) : isTerminal Gen.productions a = true := by
  have ha := List.all_eq_true.1 terminals_ok.2 a (List.mem_of_getElem? h)
  refine List.all_eq_true.2 fun p hp => ?_
  have hp' := List.all_eq_true.1 terminals_ok.1 p hp
  simp only [bne_iff_ne, ne_eq]
  intro e
  rw [e] at hp'
  rw [hp'] at ha
  cases ha

theorem t_lparen : isTerminal Gen.productions "'('" = true := terminal_ok 0 rfl
theorem t_rparen : isTerminal Gen.productions "')'" = true := terminal_ok 1 rfl
theorem t_lt : isTerminal Gen.productions "'<'" = true := terminal_ok 2 rfl
theorem t_eq : isTerminal Gen.productions "'='" = true := terminal_ok 3 rfl
theorem t_gt : isTerminal Gen.productions "'>'" = true := terminal_ok 4 rfl
theorem t_lbrace : isTerminal Gen.productions "'{'" = true := terminal_ok 5 rfl
theorem t_rbrace : isTerminal Gen.productions "'}'" = true := terminal_ok 6 rfl
theorem t_access : isTerminal Gen.productions "ACCESS" = true := terminal_ok 7 rfl
theorem t_addheader : isTerminal Gen.productions "ADDHEADER" = true := terminal_ok 8 rfl
theorem t_all : isTerminal Gen.productions "ALL" = true := terminal_ok 9 rfl
theorem t_attachment : isTerminal Gen.productions "ATTACHMENT" = true := terminal_ok 10 rfl
theorem t_body : isTerminal Gen.productions "BODY" = true := terminal_ok 11 rfl
theorem t_break : isTerminal Gen.productions "BREAK" = true := terminal_ok 12 rfl
theorem t_command : isTerminal Gen.productions "COMMAND" = true := terminal_ok 13 rfl
theorem t_created : isTerminal Gen.productions "CREATED" = true := terminal_ok 14 rfl
theorem t_date : isTerminal Gen.productions "DATE" = true := terminal_ok 15 rfl
theorem t_discard : isTerminal Gen.productions "DISCARD" = true := terminal_ok 16 rfl
theorem t_exec : isTerminal Gen.productions "EXEC" = true := terminal_ok 17 rfl
theorem t_flag : isTerminal Gen.productions "FLAG" = true := terminal_ok 18 rfl
theorem t_flags : isTerminal Gen.productions "FLAGS" = true := terminal_ok 19 rfl
theorem t_header : isTerminal Gen.productions "HEADER" = true := terminal_ok 20 rfl
theorem t_isdirectory : isTerminal Gen.productions "ISDIRECTORY" = true := terminal_ok 21 rfl
theorem t_label : isTerminal Gen.productions "LABEL" = true := terminal_ok 22 rfl
theorem t_maildir : isTerminal Gen.productions "MAILDIR" = true := terminal_ok 23 rfl
theorem t_match : isTerminal Gen.productions "MATCH" = true := terminal_ok 24 rfl
theorem t_modified : isTerminal Gen.productions "MODIFIED" = true := terminal_ok 25 rfl
theorem t_move : isTerminal Gen.productions "MOVE" = true := terminal_ok 26 rfl
theorem t_new : isTerminal Gen.productions "NEW" = true := terminal_ok 27 rfl
theorem t_old : isTerminal Gen.productions "OLD" = true := terminal_ok 28 rfl
theorem t_pass : isTerminal Gen.productions "PASS" = true := terminal_ok 29 rfl
theorem t_reject : isTerminal Gen.productions "REJECT" = true := terminal_ok 30 rfl
theorem t_stdin : isTerminal Gen.productions "STDIN" = true := terminal_ok 31 rfl
theorem t_int : isTerminal Gen.productions "INT" = true := terminal_ok 32 rfl
theorem t_scalar : isTerminal Gen.productions "SCALAR" = true := terminal_ok 33 rfl
theorem t_pattern : isTerminal Gen.productions "PATTERN" = true := terminal_ok 34 rfl
theorem t_macro : isTerminal Gen.productions "MACRO" = true := terminal_ok 35 rfl
theorem t_string : isTerminal Gen.productions "STRING" = true := terminal_ok 36 rfl
theorem t_and : isTerminal Gen.productions "AND" = true := terminal_ok 37 rfl
theorem t_or : isTerminal Gen.productions "OR" = true := terminal_ok 38 rfl
theorem t_neg : isTerminal Gen.productions "NEG" = true := terminal_ok 39 rfl

theorem start_symbol : Gen.grammarStart = "grammar" := by decide

end Mdsort.Proofs.Cfg
