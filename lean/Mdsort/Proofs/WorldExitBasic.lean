import Mdsort.Proofs.WorldWholeWalk
import Mdsort.Proofs.WorldIndependent
import Mdsort.Proofs.LimitsLoop

/-!
# Basics for "exit status 0 of a whole maildir run" (C01) and "dry run predicts the real run" (C06)

The names of every directory stay pairwise distinct through every call (`exit0_Unique`), so the order in which a
directory stream yields its names depends on the SET of names only; `exit0_rem` is what a stream will still yield.
-/

namespace Mdsort.Proofs
open Mdsort Mdsort.Model
open Mdsort.Proofs.World (wpS)

/-- In every directory the names are pairwise distinct: `World.UniqueAt w d` for every `d`. -/
def exit0_Unique (w : World) : Prop := ∀ d es, w.dir d = some es → (es.map (·.1)).Nodup

theorem exit0_unique_step {w : World} (h : exit0_Unique w) (c : Call) (r : Res) : exit0_Unique (stepWorld w c r) :=
  fun d => World.uniqueAt_step (h d) c r

theorem exit0_wpS_unique {α} {p : Prog α} {Q : Bool → α → World → Prop} {b : Bool} {w : World}
    (h : wpS p Q b w) (hu : exit0_Unique w) : wpS p (fun b' a w' => Q b' a w' ∧ exit0_Unique w') b w := by
  induction p generalizing b w with
  | ret a => exact ⟨h, hu⟩
  | call c k ih => exact ⟨ih _ h.1 (exit0_unique_step hu _ _), fun hb ft => ih _ (h.2 hb ft) (exit0_unique_step hu _ _)⟩

theorem exit0_mergeSort_sorted (l : List Bytes) :
    (l.mergeSort fun a b => decide (a ≤ b)).Pairwise fun a b => decide (a ≤ b) = true :=
  List.pairwise_mergeSort (le := fun a b => decide (a ≤ b))
    (fun _ _ _ h1 h2 => decide_eq_true (List.le_trans (of_decide_eq_true h1) (of_decide_eq_true h2)))
    (fun a b => by rcases List.le_total a b with h1 | h1 <;> simp [h1]) l

theorem exit0_mergeSort_perm_eq {l l' : List Bytes} (h : l.Perm l') :
    l.mergeSort (fun a b => decide (a ≤ b)) = l'.mergeSort (fun a b => decide (a ≤ b)) :=
  List.Perm.eq_of_pairwise (le := fun a b => (decide (a ≤ b)) = true)
    (fun _ _ _ _ h1 h2 => List.le_antisymm (of_decide_eq_true h1) (of_decide_eq_true h2))
    (exit0_mergeSort_sorted l) (exit0_mergeSort_sorted l')
    (((List.mergeSort_perm l _).trans h).trans (List.mergeSort_perm l' _).symm)

theorem exit0_sortedNames_congr {es es' : List (Bytes × Nat)} (h : (es.map (·.1)).Perm (es'.map (·.1))) :
    sortedNames es = sortedNames es' := by
  unfold sortedNames
  exact exit0_mergeSort_perm_eq ((h.cons _).cons _)

theorem exit0_sortedNames_of_lookup {w w' : World} {D : Bytes} {es es' : List (Bytes × Nat)}
    (hu : exit0_Unique w) (hu' : exit0_Unique w') (hd : w.dir D = some es) (hd' : w'.dir D = some es')
    (h : ∀ n, (w.lookup D n).isSome = (w'.lookup D n).isSome) : sortedNames es = sortedNames es' := by
  apply exit0_sortedNames_congr
  rw [List.perm_ext_iff_of_nodup (hu D es hd) (hu' D es' hd')]
  intro n
  rw [← World.lookup_isSome_iff hd, ← World.lookup_isSome_iff hd', h n]

/-- The names the directory stream `d` will still yield: `World.streamRest` (WorldResults, same body: `exit0_rem_eq`) under the
name the statements of the `WorldExit*` files use; `exit0_readdir_cases` is `readdir_cases` in these terms, the other lemmas of
`streamRest` are used through `exit0_rem_eq`. -/
def exit0_rem (w : World) (d : Handle) : List Bytes :=
  match w.obj d with
  | .dir p snap pos => (snap.getD (((w.dir p).map sortedNames).getD [])).drop pos
  | _ => []

theorem exit0_rem_eq (w : World) (d : Handle) : exit0_rem w d = World.streamRest w d := rfl

theorem exit0_rem_congr {w w' : World} {d : Handle} {p : Bytes} {snap : Option (List Bytes)} {pos : Nat}
    (ho : w.obj d = .dir p snap pos) (ho' : w'.obj d = .dir p snap pos) (hs : snap = none → w'.dir p = w.dir p) :
    exit0_rem w' d = exit0_rem w d := by
  unfold exit0_rem
  rw [ho, ho']
  cases snap with
  | none => simp only [Option.getD_none]; rw [hs rfl]
  | some names => rfl

/-- `readdir` under at most one fault.  In the third case the stream holds a snapshot from then on: the tail remains
whatever happens to the directory. -/
theorem exit0_readdir_cases (ft : Option Fault) {w : World} {d : Handle} {p : Bytes} {snap : Option (List Bytes)} {pos : Nat}
    (hobj : w.obj d = .dir p snap pos) :
    (∃ e, World.faultResult ft w (.readdir d) = .err e) ∨
    (World.faultResult ft w (.readdir d) = .eof ∧ exit0_rem w d = []) ∨
    (∃ n t names, World.faultResult ft w (.readdir d) = .name n ∧ exit0_rem w d = n :: t ∧
      (stepWorld w (.readdir d) (.name n)).obj d = .dir p (some names) (pos + 1) ∧ names.drop (pos + 1) = t) :=
  World.readdir_cases (World.faultResult_plain ft w rfl) hobj

theorem exit0_filter_del (fs : Files) (d n q : Bytes) (h : d ≠ q) :
    (fs.del d n).filter (fun e => e.1 == q) = fs.filter (fun e => e.1 == q) := by
  unfold Files.del
  rw [List.filter_filter]
  apply List.filter_congr
  intro e _
  by_cases he : e.1 = q
  · have : ¬ e.1 = d := fun e' => h (e'.symm.trans he)
    simp [he]
    exact .inl (fun e' => this (he.trans e'))
  · simp [he]

theorem exit0_filter_put (fs : Files) (d n c q : Bytes) (h : d ≠ q) :
    (fs.put d n c).filter (fun e => e.1 == q) = fs.filter (fun e => e.1 == q) := by
  show (fs.del d n ++ [(d, n, c)]).filter (fun e => e.1 == q) = _
  rw [List.filter_append, exit0_filter_del fs d n q h]
  simp [h]

theorem exit0_get_mem {fs : Files} {D n c : Bytes} (h : fs.get D n = some c) : (D, n, c) ∈ fs := by
  unfold Files.get at h
  simp only [Option.map_eq_some_iff] at h
  obtain ⟨x, hx, rfl⟩ := h
  have h1 := List.find?_some hx
  simp only [Bool.and_eq_true, beq_iff_eq] at h1
  have h2 := List.mem_of_find?_eq_some hx
  obtain ⟨x1, x2, x3⟩ := x
  simp only at h1
  rw [← h1.1, ← h1.2]
  exact h2

theorem exit0_mem_filter_of_get {fs : Files} {D n c : Bytes} (h : fs.get D n = some c) :
    n ∈ (fs.filter (fun e => e.1 == D)).map (·.2.1) :=
  List.mem_map.2 ⟨(D, n, c), List.mem_filter.2 ⟨exit0_get_mem h, beq_self_eq_true D⟩, rfl⟩

theorem exit0_wpS_triv {α} {p : Prog α} {b : Bool} {w : World} : wpS p (fun _ _ _ => True) b w := by
  induction p generalizing b w with
  | ret a => exact trivial
  | call c k ih => exact ⟨ih _, fun _ _ => ih _⟩

theorem exit0_wpS_all {α} {P : α → Prop} {p : Prog α} (h : World.All P p) (b : Bool) (w : World) :
    wpS p (fun _ a _ => P a) b w :=
  World.wpS_of_wp b (World.wp_of_all h)

theorem exit0_processMessage_sticky (env : PEnv) (orc : EvalOracles) (expr : Expr) (md : Maildir) (name : Bytes) (st : MainSt)
    (he : st.error = true) : World.All (fun r => r.1.error = true) (processMessage env orc expr md name st) := by
  rw [processMessage_effect]
  exact Own.all_mapP _ _ fun _ => by simp only [applyTo, MsgEffect.apply, he, Bool.true_or]

theorem exit0_walk_sticky (env : PEnv) (orc : EvalOracles) (expr : Expr) (fuel : Nat) (md : Maildir) (st : MainSt)
    (he : st.error = true) : World.All (fun r => r.1.error = true) (walk env orc expr fuel md st) :=
  Limits.walk_inv Limits.kept_error expr (exit0_processMessage_sticky env orc expr) fuel md st he

end Mdsort.Proofs
