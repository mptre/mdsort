import Mdsort.Proofs.WorldMtime
import Mdsort.Proofs.WorldVal
import Mdsort.Proofs.FlagsTime
import Mdsort.Model.Dest

/-!
# C09: the seen flag after a whole action list

`maildir_move` adjusts the flag set the message carries IN MEMORY (`Model.adjustSeen`, /repo 7589fcb), and every later
action of the same rule that names the file again (`maildir_move`, `maildir_write`) takes the letters from that set.
This file follows that set through `matches_exec`: whatever the calls return, a run that reports no error ends with the
message in `lastSub s0 (visited ml)` carrying `flagsThrough s0 mf (visited ml)` (`matchesExec_flags`), under a generated
name whose flag part is that set (`matchesExec_named`).  Both come from one walk of the scripts, `val_matchesExec`.
-/

namespace Mdsort.Proofs.FlagsSeq
open Mdsort Mdsort.Model Mdsort.Proofs.World

/-- The flag set after the message was taken from `s0` through `subs`, one `maildir_move` each. -/
def flagsThrough (s0 : Subdir) (mf : MFlags) : List Subdir → MFlags
  | [] => mf
  | s :: r => flagsThrough s (adjustSeen s0 s mf) r

def lastSub : Subdir → List Subdir → Subdir
  | s0, [] => s0
  | _, s :: r => lastSub s r

theorem adjustSeen_new_cur (mf : MFlags) : adjustSeen .new .cur mf = ⟨mf.upper ||| 1 <<< 18, mf.lower⟩ := rfl

theorem adjustSeen_cur_new (mf : MFlags) : adjustSeen .cur .new mf = ⟨mf.upper &&& (2 ^ 32 - 1 - 1 <<< 18), mf.lower⟩ := rfl

theorem isSet_adjust_new_cur (mf : MFlags) : flagsIsSet (adjustSeen .new .cur mf) 83 = true := by
  rw [adjustSeen_new_cur, flagsIsSet_setS]
  exact Bool.or_true _

theorem isSet_adjust_cur_new (mf : MFlags) : flagsIsSet (adjustSeen .cur .new mf) 83 = false := by
  rw [adjustSeen_cur_new, flagsIsSet_clrS]
  exact Bool.and_false _

theorem isSet_adjust_other (s d : Subdir) (mf : MFlags) (c : UInt8) (hc : c ≠ 83) :
    flagsIsSet (adjustSeen s d mf) c = flagsIsSet mf c := by
  have h83 : (c == 83) = false := beq_eq_false_iff_ne.2 hc
  cases s <;> cases d
  · rfl
  · rw [adjustSeen_new_cur, flagsIsSet_setS, h83, Bool.or_false]
  · rw [adjustSeen_cur_new, flagsIsSet_clrS, bne, h83, Bool.not_false, Bool.and_true]
  · rfl

theorem valid_adjust (s d : Subdir) (mf : MFlags) (h : MFlags.Valid mf) : MFlags.Valid (adjustSeen s d mf) := by
  cases s <;> cases d
  · exact h
  · rw [adjustSeen_new_cur]; exact ⟨Nat.or_lt_two_pow h.1 (by decide), h.2⟩
  · rw [adjustSeen_cur_new]; exact ⟨Nat.lt_of_le_of_lt Nat.and_le_left h.1, h.2⟩
  · exact h

theorem flagsThrough_other (c : UInt8) (hc : c ≠ 83) : ∀ (subs : List Subdir) (s0 : Subdir) (mf : MFlags),
    flagsIsSet (flagsThrough s0 mf subs) c = flagsIsSet mf c
  | [], _, _ => rfl
  | s :: r, s0, mf => by
    rw [flagsThrough, flagsThrough_other c hc r s, isSet_adjust_other s0 s mf c hc]

theorem flagsThrough_valid : ∀ (subs : List Subdir) (s0 : Subdir) (mf : MFlags), MFlags.Valid mf →
    MFlags.Valid (flagsThrough s0 mf subs)
  | [], _, _, h => h
  | s :: r, s0, mf, h => flagsThrough_valid r s _ (valid_adjust s0 s mf h)

theorem lastSub_of_all : ∀ (r : List Subdir) (s : Subdir), r.all (· == s) = true → lastSub s r = s
  | [], _, _ => rfl
  | x :: t, s, h => by
    rw [List.all_cons, Bool.and_eq_true] at h
    have hx : x = s := by simpa using h.1
    subst hx
    exact lastSub_of_all t x h.2

/-- `S` after the sequence: untouched when the message never changed its subdirectory, otherwise decided by where it
is at the end (the last change of subdirectory was into that one). -/
theorem flagsThrough_S : ∀ (subs : List Subdir) (s0 : Subdir) (mf : MFlags),
    flagsIsSet (flagsThrough s0 mf subs) 83 =
      if subs.all (· == s0) then flagsIsSet mf 83 else (lastSub s0 subs == .cur)
  | [], _, _ => by simp [flagsThrough]
  | s :: r, s0, mf => by
    rw [flagsThrough, flagsThrough_S r s, lastSub, List.all_cons]
    by_cases hs : s = s0
    · subst hs
      rw [adjustSeen_same]
      simp
    · have hne : (s == s0) = false := by simpa using hs
      rw [hne, Bool.false_and]
      simp only [Bool.false_eq_true, if_false]
      split
      · rename_i hall
        rw [lastSub_of_all r s hall]
        cases s0 <;> cases s
        · exact absurd rfl hs
        · rw [isSet_adjust_new_cur]; rfl
        · rw [isSet_adjust_cur_new]; rfl
        · exact absurd rfl hs
      · rfl

theorem all_runPlan {α} {P : α → Prop} (plan : Plan) {p : Prog α} (h : All P p) (w : World) (i : Nat) (hist : List World) :
    P (runPlan plan p w i hist).1 := by
  rw [runPlan_eq]
  exact h.run plan w i

/-- Does `matches_exec` call `maildir_move` for this entry? (`Model.Match.moves` of Model/Dest.) -/
def mover (mh : Match) : Bool := mh.ty == .move || mh.ty == .flag || mh.ty == .flags

/-- One predicate under two names: Model/Dest states `lastPath` with `Match.moves`, this file its own with `mover`. -/
theorem mover_eq_moves : mover = Match.moves := rfl

/-- The subdirectories of the destinations of the move / flag / flags entries, in order. -/
def visited (ml : MatchList) : List Subdir :=
  ml.filterMap fun mh => if mover mh then parseSubdir mh.path else none

/-- (Subdirectory the message is in, flag set it carries) after one entry. -/
def afterEntry (s : Subdir × MFlags) (mh : Match) : Subdir × MFlags :=
  if mover mh then
    match parseSubdir mh.path with
    | some sd => (sd, adjustSeen s.1 sd s.2)
    | none => s
  else s

theorem foldl_afterEntry : ∀ (ml : MatchList) (s0 : Subdir) (mf : MFlags),
    ml.foldl afterEntry (s0, mf) = (lastSub s0 (visited ml), flagsThrough s0 mf (visited ml))
  | [], _, _ => rfl
  | mh :: rest, s0, mf => by
    rw [List.foldl_cons]
    unfold visited
    rw [List.filterMap_cons]
    unfold afterEntry
    by_cases hm : mover mh = true
    · simp only [hm, if_true]
      cases hp : parseSubdir mh.path with
      | none => exact foldl_afterEntry rest s0 mf
      | some sd => exact foldl_afterEntry rest sd _
    · simp only [hm, Bool.false_eq_true, if_false]
      exact foldl_afterEntry rest s0 mf

theorem val_maildirOpenDst (path : Bytes) :
    All (fun r => ∀ d, r = some d → parseSubdir path = some d.subdir) (maildirOpenDst path) := by
  unfold maildirOpenDst
  split
  · intro d h; cases h
  · rename_i sd hsd
    split
    · intro d h; cases h
    · split
      · intro d h; cases h
      · simp only [maildirOpendir, bind_eq, pure_eq, call_bind]
        intro r
        cases r with
        | ok v =>
          intro d h
          cases h
          exact hsd
        | name n => intro d h; simp at h
        | eof => intro d h; simp at h
        | err e => intro d h; simp at h

/-- The message's name is a generated name whose flag part is its flag set written by `message_flags_str`. -/
def Named (env : PEnv) (ms : MsgSt) : Prop :=
  ∃ fl c, flagsStr ms.flags Gen.flagsMax = some fl ∧ ms.name = cand env (some fl) c

theorem msgflags_eq_str (s d : Subdir) (mf : MFlags) : msgflags s d mf = flagsStr (adjustSeen s d mf) Gen.flagsMax := by
  cases s <;> cases d <;> rfl

theorem _root_.Mdsort.Proofs.World.Delivered.named {env : PEnv} {s d : Subdir} {ms ms' : MsgSt} (h : Delivered env s d ms ms') : Named env ms' := by
  obtain ⟨hf, fl, c, h1, h2⟩ := h
  exact ⟨fl, c, by rw [hf, ← msgflags_eq_str]; exact h1, h2⟩

theorem val_moveBranch (env : PEnv) (mh : Match) (st : ExecSt) :
    All (fun r => r.2 = false → ∃ sd, parseSubdir mh.path = some sd ∧ r.1.src.subdir = sd ∧
        Delivered env st.src.subdir sd st.ms r.1.ms) (moveBranch env mh st) := by
  unfold moveBranch
  refine All.bind_mono (val_maildirOpenDst mh.path) fun d hd => ?_
  cases d with
  | none => intro h; cases h
  | some dst =>
    have hp := hd dst rfl
    refine All.bind_mono (val_maildirMove env st.src dst st.ms) fun x hx => ?_
    obtain ⟨ms', e⟩ := x
    cases e with
    | true =>
      simp only [if_true]
      refine All.bind_of_forall _ fun _ => ?_
      intro h; cases h
    | false =>
      have hm : Delivered env st.src.subdir dst.subdir st.ms ms' := hx.2.2.2 rfl
      simp only [Bool.false_eq_true, if_false]
      split
      · split
        · refine All.bind_of_forall _ fun _ => ?_
          intro _; exact ⟨dst.subdir, hp, rfl, hm⟩
        · intro _; exact ⟨dst.subdir, hp, rfl, hm⟩
      · rename_i hne
        have hsub : st.src.subdir = dst.subdir := by
          simp only [Bool.or_eq_true, bne_iff_ne, ne_eq, not_or, Decidable.not_not] at hne
          exact hne.1
        refine All.bind_of_forall _ fun _ => ?_
        intro _; exact ⟨dst.subdir, hp, hsub, hm⟩

/-- Does the entry give the file a new name? -/
def renames (mh : Match) : Bool := mover mh || mh.ty == .label || mh.ty == .addHeader

theorem named_congr {env : PEnv} {a b : MsgSt} (hn : b.name = a.name) (hf : b.flags = a.flags) (h : Named env a) : Named env b := by
  obtain ⟨fl, c, h1, h2⟩ := h
  exact ⟨fl, c, by rw [hf]; exact h1, by rw [hn]; exact h2⟩

/-- What one entry does to the subdirectory the message is in, its flag set and its name. -/
def StepPost (env : PEnv) (mh : Match) (st : ExecSt) (r : ExecSt × Bool) : Prop :=
  r.2 = false →
    (r.1.src.subdir, r.1.ms.flags) = afterEntry (st.src.subdir, st.ms.flags) mh ∧
    (renames mh = true → Named env r.1.ms) ∧
    (renames mh = false → r.1.ms.name = st.ms.name ∧ r.1.ms.flags = st.ms.flags)

theorem StepPost.keep {env : PEnv} {mh : Match} {st : ExecSt} (hm : mover mh = false) (hr : renames mh = false)
    {r : ExecSt × Bool} (h1 : r.1.src.subdir = st.src.subdir) (h2 : r.1.ms.name = st.ms.name)
    (h3 : r.1.ms.flags = st.ms.flags) : StepPost env mh st r := by
  intro _
  refine ⟨?_, fun h => ?_, fun _ => ⟨h2, h3⟩⟩
  · unfold afterEntry
    rw [hm, h1, h3]
    rfl
  · rw [hr] at h; cases h

theorem StepPost.write {env : PEnv} {mh : Match} {st : ExecSt} (hm : mover mh = false) (hr : renames mh = true)
    {r : ExecSt × Bool} (h1 : r.1.src.subdir = st.src.subdir)
    (h : r.2 = false → Delivered env st.src.subdir st.src.subdir st.ms r.1.ms) : StepPost env mh st r := by
  intro hok
  have hmv := h hok
  refine ⟨?_, fun _ => hmv.named, fun h => ?_⟩
  · unfold afterEntry
    rw [hm, h1, hmv.1, adjustSeen_same]
    rfl
  · rw [hr] at h; cases h

theorem StepPost.move {env : PEnv} {mh : Match} {st : ExecSt} (hm : mover mh = true) {r : ExecSt × Bool}
    (h : r.2 = false → ∃ sd, parseSubdir mh.path = some sd ∧ r.1.src.subdir = sd ∧
      Delivered env st.src.subdir sd st.ms r.1.ms) : StepPost env mh st r := by
  intro hok
  obtain ⟨sd, hp, hs, hmv⟩ := h hok
  refine ⟨?_, fun _ => hmv.named, fun h => ?_⟩
  · unfold afterEntry
    rw [hm, if_pos rfl, hp, hs, hmv.1]
  · unfold renames at h
    rw [hm] at h; cases h

theorem mover_iff {mh : Match} : mover mh = true ↔ mh.ty = .move ∨ mh.ty = .flag ∨ mh.ty = .flags := by
  rw [mover, Bool.or_eq_true, Bool.or_eq_true, beq_iff_eq, beq_iff_eq, beq_iff_eq, or_assoc]

theorem renames_iff {mh : Match} (hmv : mover mh = false) : renames mh = true ↔ mh.ty = .label ∨ mh.ty = .addHeader := by
  rw [renames, hmv, Bool.false_or, Bool.or_eq_true, beq_iff_eq, beq_iff_eq]

theorem val_execOne (env : PEnv) (mh : Match) (st : ExecSt) : All (StepPost env mh st) (execOne env mh st) := by
  by_cases hm : mh.ty = .move ∨ mh.ty = .flag ∨ mh.ty = .flags
  · rw [execOne_move env mh st hm]
    exact (val_moveBranch env mh st).mono fun r hr => StepPost.move (mover_iff.2 hm) hr
  have hmv : mover mh = false := Bool.eq_false_iff.2 (mt mover_iff.1 hm)
  by_cases hw : mh.ty = .label ∨ mh.ty = .addHeader
  · rw [execOne_write env mh st hw]
    refine All.bind_mono (val_maildirWrite env st.src st.ms) fun x hx => ?_
    exact StepPost.write hmv ((renames_iff hmv).2 hw) rfl fun hok => (hx.2 hok).2
  -- every other entry leaves the subdirectory, the name and the flag set as they are
  have keep : ∀ r : ExecSt × Bool, r.1.src.subdir = st.src.subdir → r.1.ms.name = st.ms.name → r.1.ms.flags = st.ms.flags →
      StepPost env mh st r :=
    fun _ => StepPost.keep hmv (Bool.eq_false_iff.2 (mt (renames_iff hmv).1 hw))
  rcases execOne_ty_cases mh.ty with hty | hty | hty | hty | hty | hty
  · exact absurd hty hm
  · rw [execOne_discard env mh st hty]
    refine All.bind_of_forall _ fun e => ?_
    refine keep _ ?_ ?_ ?_ <;> cases e <;> rfl
  · exact absurd hty hw
  · rw [execOne_reject env mh st hty]
    exact keep _ rfl rfl rfl
  · rw [execOne_exec env mh st hty]
    refine All.bind_of_forall _ fun fdr => ?_
    split
    · exact keep _ rfl rfl rfl
    · refine All.bind_of_forall _ fun rc => ?_
      split
      · intro _; exact keep _ rfl rfl rfl
      · exact keep _ rfl rfl rfl
  · rw [execOne_other env mh st hty]
    exact keep _ rfl rfl rfl

theorem val_matchesExec (env : PEnv) : ∀ (ml : MatchList) (st : ExecSt),
    All (fun r => r.2 = false →
        (r.1.src.subdir, r.1.ms.flags) = ml.foldl afterEntry (st.src.subdir, st.ms.flags) ∧
        (((∃ mh ∈ ml, renames mh = true) ∨ Named env st.ms) → Named env r.1.ms)) (matchesExec env ml st)
  | [], st => by
    rw [matchesExec_nil]
    have fin : ∀ r : ExecSt × Bool, r = (st, false) → r.2 = false →
        (r.1.src.subdir, r.1.ms.flags) = ([] : MatchList).foldl afterEntry (st.src.subdir, st.ms.flags) ∧
        (((∃ mh ∈ ([] : MatchList), renames mh = true) ∨ Named env st.ms) → Named env r.1.ms) := by
      rintro r rfl _
      refine ⟨rfl, ?_⟩
      rintro (⟨mh, hm, _⟩ | h)
      · cases hm
      · exact h
    split
    · refine All.bind_of_forall _ fun _ => ?_
      exact fin _ rfl
    · exact fin _ rfl
  | mh :: rest, st => by
    rw [matchesExec_cons]
    refine All.bind_mono (val_execOne env mh st) fun x hx => ?_
    obtain ⟨st', e⟩ := x
    cases e with
    | true =>
      simp only [if_true, Own.errTail]
      split
      · refine All.bind_of_forall _ fun _ => ?_
        intro h; cases h
      · intro h; cases h
    | false =>
      simp only [Bool.false_eq_true, if_false]
      obtain ⟨h1, hT, hF⟩ := hx rfl
      refine (val_matchesExec env rest st').mono fun r hr hok => ?_
      obtain ⟨g1, g2⟩ := hr hok
      refine ⟨by rw [List.foldl_cons, ← h1]; exact g1, fun hyp => g2 ?_⟩
      cases hren : renames mh with
      | true => exact .inr (hT hren)
      | false =>
        have h2 := hF hren
        rcases hyp with ⟨m, hm, hmr⟩ | hn
        · rcases List.mem_cons.1 hm with rfl | hm'
          · rw [hren] at hmr; cases hmr
          · exact .inl ⟨m, hm', hmr⟩
        · exact .inr (named_congr h2.1 h2.2 hn)

/-- The statement behind `C09_S_after_sequence`. -/
theorem matchesExec_flags (env : PEnv) (ml : MatchList) (st : ExecSt) :
    All (fun r => r.2 = false →
        r.1.src.subdir = lastSub st.src.subdir (visited ml) ∧
        r.1.ms.flags = flagsThrough st.src.subdir st.ms.flags (visited ml)) (matchesExec env ml st) := by
  refine (val_matchesExec env ml st).mono fun r hr hok => ?_
  have h := (hr hok).1
  rw [foldl_afterEntry] at h
  exact ⟨congrArg Prod.fst h, congrArg Prod.snd h⟩

theorem matchesExec_named (env : PEnv) (ml : MatchList) (st : ExecSt) :
    All (fun r => r.2 = false → ((∃ mh ∈ ml, renames mh = true) ∨ Named env st.ms) → Named env r.1.ms) (matchesExec env ml st) :=
  (val_matchesExec env ml st).mono fun _ hr hok => (hr hok).2

theorem lastSub_snoc : ∀ (l : List Subdir) (s0 s : Subdir), lastSub s0 (l ++ [s]) = s
  | [], _, _ => rfl
  | _ :: r, _, s => lastSub_snoc r _ s

/-- `visited` filters by `Match.moves` and maps; the last entry that moves is the one `lastPath` reads. -/
theorem lastSub_visited (p : Bytes) (sd : Subdir) (hsd : parseSubdir p = some sd) (ml : MatchList) (s0 : Subdir)
    (h : lastPath ml = some p) : lastSub s0 (visited ml) = sd := by
  obtain ⟨e, he, rfl⟩ := Option.map_eq_some_iff.1 h
  obtain ⟨l, hl⟩ := List.getLast?_eq_some_iff.1 he
  have : visited ml = (ml.filter Match.moves).filterMap fun mh => parseSubdir mh.path := by
    rw [visited, mover_eq_moves]
    exact List.filterMap_filter.symm
  rw [this, hl, List.filterMap_append, List.filterMap_cons, hsd]
  exact lastSub_snoc _ s0 sd

end Mdsort.Proofs.FlagsSeq
