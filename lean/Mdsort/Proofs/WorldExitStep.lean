import Mdsort.Proofs.WorldExitBasic

/-!
# One message of a whole run: what is known when no error bit is set

`exit0_StepPost` is the specification of `processMessage` the walk needs: beside the frame (`WholeK`) and the consistency
of the registry, if the returned state has no error flag the message was placed according to the verdict of the rules
(`exit0_Outcome`).  It is read off `whole_processMessage` (every fault plan), for rule trees that ask the operating system
nothing (`asksFree`): in a dry run whatever the actions (nothing moves), in a real run for rules without discard (`exit0_step`).
-/

namespace Mdsort.Proofs
open Mdsort Mdsort.Model
open Mdsort.Proofs.World (wpS wpS_mono wpS_of_wp WholeK)

/-- The directory the rules send the file `n` of `D` (content `c`) to: the directory of the last
move/flag/flags action; `D` itself when they do not act, and in a dry run. -/
def exit0_dest (env : PEnv) (orc : EvalOracles) (expr : Expr) (D n c : Bytes) : Bytes :=
  if env.dryrun = true then D
  else
    match verdict env orc expr D n c with
    | .act ml _ _ => World.finalDir ml D
    | _ => D

/-- The `-> destination` lines the run logs for the file. -/
def exit0_lines (env : PEnv) (orc : EvalOracles) (expr : Expr) (D n c : Bytes) : List Bytes :=
  match verdict env orc expr D n c with
  | .act ml _ _ => inspectLines env ml (D ++ [47] ++ n)
  | _ => []

/-- The file `n` of `D` with content `c` has been placed at the entry `key` with content `c'` as the rules
say, and `lines` are its log lines: no match - it is where it was; actions - in a dry run it is where it
was, in a real run it is in the directory of the last move/flag/flags action with the rewritten content
if there is a label/add-header action (in any case the original or the rewritten content); an error
verdict is excluded. -/
def exit0_Outcome (env : PEnv) (orc : EvalOracles) (expr : Expr) (D n c : Bytes) (key : Bytes × Bytes) (c' : Bytes)
    (lines : List Bytes) : Prop :=
  match verdict env orc expr D n c with
  | .act ml msgs _ =>
    lines = inspectLines env ml (D ++ [47] ++ n) ∧
    (if env.dryrun = true then key = (D, n) ∧ c' = c
     else key.1 = World.finalDir ml D ∧ (World.rewrites ml = true → c' = (messageWrite (msgs 0)).1) ∧
       (c' = c ∨ c' = (messageWrite (msgs 0)).1))
  | .nomatch => key = (D, n) ∧ c' = c ∧ lines = []
  | _ => False

theorem exit0_Outcome.dest {env : PEnv} {orc : EvalOracles} {expr : Expr} {D n c : Bytes} {key : Bytes × Bytes} {c' : Bytes}
    {lines : List Bytes} (h : exit0_Outcome env orc expr D n c key c' lines) : key.1 = exit0_dest env orc expr D n c := by
  unfold exit0_Outcome at h
  unfold exit0_dest
  cases hv : verdict env orc expr D n c with
  | act ml msgs fl =>
    rw [hv] at h
    by_cases hd : env.dryrun = true
    · simp only [hd, if_true] at h ⊢
      rw [h.2.1]
    · simp only [hd] at h ⊢
      exact h.2.1
  | «nomatch» =>
    rw [hv] at h
    rw [h.1]
    split <;> rfl
  | unparsable => rw [hv] at h; exact h.elim
  | error => rw [hv] at h; exact h.elim
  | interpFail => rw [hv] at h; exact h.elim

theorem exit0_Outcome.lines_eq {env : PEnv} {orc : EvalOracles} {expr : Expr} {D n c : Bytes} {key : Bytes × Bytes} {c' : Bytes}
    {lines : List Bytes} (h : exit0_Outcome env orc expr D n c key c' lines) : lines = exit0_lines env orc expr D n c := by
  unfold exit0_Outcome at h
  unfold exit0_lines
  cases hv : verdict env orc expr D n c with
  | act ml msgs fl => rw [hv] at h; exact h.1
  | «nomatch» => rw [hv] at h; exact h.2.2
  | unparsable => rw [hv] at h; exact h.elim
  | error => rw [hv] at h; exact h.elim
  | interpFail => rw [hv] at h; exact h.elim

/-- The registry `fs'` is `fs` with the entry `a` moved to `key` with content `c'`.  The second clause (the registry's list
for any other directory is the same list) is what keeps `exit0_Inv.cnt`, i.e. the fuel bound; the placement needs the first
only. -/
def exit0_FilesUpd (fs : Files) (a key : Bytes × Bytes) (c' : Bytes) (fs' : Files) : Prop :=
  (∀ x : Bytes × Bytes, fs'.get x.1 x.2 = if x = key then some c' else if x = a then none else fs.get x.1 x.2) ∧
  (∀ q, q ≠ a.1 → q ≠ key.1 → fs'.filter (fun e => e.1 == q) = fs.filter (fun e => e.1 == q))

theorem exit0_filesUpd_same {fs : Files} {a : Bytes × Bytes} {c : Bytes} (h : fs.get a.1 a.2 = some c) :
    exit0_FilesUpd fs a a c fs := by
  refine ⟨?_, fun _ _ _ => rfl⟩
  intro x
  by_cases hx : x = a
  · subst hx; simp [h]
  · simp [hx]

theorem exit0_filesUpd_move (fs : Files) (a key : Bytes × Bytes) (c' : Bytes) :
    exit0_FilesUpd fs a key c' ((fs.del a.1 a.2).put key.1 key.2 c') := by
  refine ⟨?_, ?_⟩
  · intro x
    rw [Files.whole_get_put, Files.whole_get_del]
    have e1 : (x.1 = key.1 ∧ x.2 = key.2) ↔ x = key := by
      constructor
      · rintro ⟨h1, h2⟩; exact Prod.ext h1 h2
      · rintro rfl; exact ⟨rfl, rfl⟩
    have e2 : (x.1 = a.1 ∧ x.2 = a.2) ↔ x = a := by
      constructor
      · rintro ⟨h1, h2⟩; exact Prod.ext h1 h2
      · rintro rfl; exact ⟨rfl, rfl⟩
    simp only [e1, e2]
  · intro q h1 h2
    rw [exit0_filter_put _ _ _ _ _ (Ne.symm h2), exit0_filter_del _ _ _ _ (Ne.symm h1)]

/-- What `processMessage` on the registered file `n` (content `c`) of the open maildir `md` establishes. -/
def exit0_StepPost (env : PEnv) (orc : EvalOracles) (expr : Expr) (md : Maildir) (n c : Bytes) (st : MainSt) (w : World)
    (r : MainSt × Maildir) (w' : World) : Prop :=
  r.2 = md ∧ WholeK (md.path, n) w.handles.length w w' ∧ (WholeReg w st.files → WholeReg w' r.1.files) ∧
  (r.1.error = false →
    ∃ key c' lines, exit0_Outcome env orc expr md.path n c key c' lines ∧
      exit0_FilesUpd st.files (md.path, n) key c' r.1.files ∧ r.1.log = st.log ++ lines ∧
      (key ≠ (md.path, n) → w.lookup key.1 key.2 = none) ∧
      ∀ x : Bytes × Bytes, x ≠ (md.path, n) → x ≠ key → w'.lookup x.1 x.2 = w.lookup x.1 x.2)

/-- `processMessage` meets `exit0_StepPost` under at most one fault, for the rules `expr`: what the passes over the loops ask.
(`exit0_step`, the one theorem that establishes it, has it from the every-plan `whole_processMessage`.  `exit0_Outcome` refers to
the pure `verdict`: `exit0_step` is for rule trees that ask the operating system nothing, `asksFree`.) -/
def exit0_StepOK (env : PEnv) (orc : EvalOracles) (expr : Expr) : Prop :=
  ∀ (md : Maildir) (n : Bytes) (st : MainSt) (w : World) (d : Handle) (c : Bytes) (fid : Nat) (b : Bool),
    md.dirH = some d → w.dirPath d = some md.path → pathjoin PATH_MAX md.root (subdirName md.subdir) = some md.path →
    st.files.get md.path n = some c → w.lookup md.path n = some fid → fid < w.nextFid → w.file fid = some ⟨c, c⟩ →
    wpS (processMessage env orc expr md n st) (fun _ r w' => exit0_StepPost env orc expr md n c st w r w') b w

theorem exit0_step (env : PEnv) (orc : EvalOracles) (expr : Expr) (hfree : asksFree expr = true)
    (hnd : env.dryrun = false → WholeNoDiscard env orc expr) : exit0_StepOK env orc expr := by
  intro md n st w d c fid b hd hp hwf hfc hl hlt hf
  refine wpS_mono (wpS_of_wp b (whole_processMessage env orc expr md n st hd hp hwf hfc hl hlt hf hnd)) ?_
  rintro _ r w' ⟨hmd, k, hreg, hdone⟩
  refine ⟨hmd, k, hreg, fun he => ?_⟩
  obtain ⟨as, h⟩ := hdone he
  rw [verdictA_asksFree env orc expr hfree] at h
  unfold exit0_Outcome
  cases hv : verdict env orc expr md.path n c with
  | act ml msgs fl =>
    rw [hv] at h
    obtain ⟨hlog, h2⟩ := h
    by_cases hdry : env.dryrun = true
    · rw [if_pos hdry] at h2
      exact ⟨(md.path, n), c, _, ⟨rfl, by rw [if_pos hdry]; exact ⟨rfl, rfl⟩⟩, by rw [h2.1]; exact exit0_filesUpd_same hfc, hlog,
        fun h => absurd rfl h, h2.2.others⟩
    · rw [if_neg hdry] at h2
      obtain ⟨n', c', -, hfiles, dl, -, -, hrw, hc⟩ := h2
      exact ⟨(World.finalDir ml md.path, n'), c', _, ⟨rfl, by rw [if_neg hdry]; exact ⟨rfl, hrw, hc⟩⟩,
        by rw [hfiles]; exact exit0_filesUpd_move _ _ _ _, hlog, fun hne => dl.fresh (Ne.symm hne), dl.others⟩
  | «nomatch» =>
    rw [hv] at h
    exact ⟨(md.path, n), c, [], ⟨rfl, rfl, rfl⟩, by rw [h.1]; exact exit0_filesUpd_same hfc, by rw [h.2.1, List.append_nil],
      fun h => absurd rfl h, h.2.2.others⟩
  | unparsable => rw [hv] at h; exact h.elim
  | error => rw [hv] at h; exact h.elim
  | interpFail => rw [hv] at h; exact h.elim

end Mdsort.Proofs
