import Mdsort.Proofs.WorldWrite

/-! What is watched while the spool of a stdin run exists: the names bound in one directory (`NamesIn`), and the frame every
action script keeps relative to the world at its start (`InvX`: older handles, the set of directories, the empty spool root),
with the effect of single calls on both. -/

namespace Mdsort.Proofs.World
open Mdsort Mdsort.Model

/-- Directory `sp` exists, its names are distinct and all among `ns`. -/
def NamesIn (w : World) (sp : Bytes) (ns : List Bytes) : Prop :=
  ∃ es, w.dir sp = some es ∧ (es.map (·.1)).Nodup ∧ ∀ e ∈ es, e.1 ∈ ns

theorem NamesIn.congr {w w' : World} {sp : Bytes} {ns : List Bytes} (h : NamesIn w sp ns) (hd : w'.dir sp = w.dir sp) :
    NamesIn w' sp ns := by
  obtain ⟨es, h1, h2, h3⟩ := h
  exact ⟨es, hd.trans h1, h2, h3⟩

theorem NamesIn.mono {w : World} {sp : Bytes} {ns ns' : List Bytes} (h : NamesIn w sp ns) (hs : ∀ n ∈ ns, n ∈ ns') :
    NamesIn w sp ns' := by
  obtain ⟨es, h1, h2, h3⟩ := h
  exact ⟨es, h1, h2, fun e he => hs _ (h3 e he)⟩

theorem namesIn_iff {w : World} {p : Bytes} {ns : List Bytes} :
    NamesIn w p ns ↔ (w.dir p).isSome ∧ UniqueAt w p ∧ ∀ n fid, w.lookup p n = some fid → n ∈ ns := by
  constructor
  · rintro ⟨es, h1, h2, h3⟩
    refine ⟨by rw [h1]; rfl, fun es' h' => by rw [h1] at h'; cases h'; exact h2, fun n fid hl => ?_⟩
    exact h3 (n, fid) (mem_of_lookup h1 hl)
  · rintro ⟨h1, h2, h3⟩
    obtain ⟨es, hes⟩ := Option.isSome_iff_exists.1 h1
    refine ⟨es, hes, h2 es hes, fun e he => ?_⟩
    have : (w.lookup p e.1).isSome := (lookup_isSome_iff hes).2 (List.mem_map.2 ⟨e, he, rfl⟩)
    obtain ⟨fid, hfid⟩ := Option.isSome_iff_exists.1 this
    exact h3 e.1 fid hfid

theorem dir_nil_of_lookup {w : World} {p : Bytes} {es : List (Bytes × Nat)} (hd : w.dir p = some es)
    (h : ∀ n, w.lookup p n = none) : es = [] := by
  cases es with
  | nil => rfl
  | cons e t =>
    have := (lookup_isSome_iff hd).2 (List.mem_map.2 ⟨e, List.mem_cons_self, rfl⟩)
    rw [h e.1] at this
    cases this

/-- The one-name case of `nodup_len2`; the stdin walk needs the bound 2 only. -/
theorem nodup_len1 {l : List Bytes} {a : Bytes} (hn : l.Nodup) (h : ∀ x ∈ l, x = a) : l.length ≤ 1 :=
  hn.length_le_of_subset (l₂ := [a]) fun x hx => List.mem_singleton.2 (h x hx)

theorem nodup_len2 {l : List Bytes} {a b : Bytes} (hn : l.Nodup) (h : ∀ x ∈ l, x = a ∨ x = b) : l.length ≤ 2 :=
  hn.length_le_of_subset (l₂ := [a, b]) fun x hx => by simpa only [List.mem_cons, List.not_mem_nil, or_false] using h x hx

theorem NamesIn.length_le2 {w : World} {sp a b : Bytes} (h : NamesIn w sp [a, b]) :
    ∃ es, w.dir sp = some es ∧ es.length ≤ 2 ∧ ∀ e ∈ es, e.1 = a ∨ e.1 = b := by
  obtain ⟨es, h1, h2, h3⟩ := h
  refine ⟨es, h1, ?_, fun e he => by simpa using h3 e he⟩
  have := nodup_len2 (a := a) (b := b) h2 (by
    intro x hx
    obtain ⟨e, he, rfl⟩ := List.mem_map.1 hx
    simpa using h3 e he)
  simpa using this

/-- Calls that return a new handle (the same calls as `Spec.createsHandle`). -/
def Call.opener : Call → Bool
  | .opendir _ | .openRd .. | .openExcl .. | .openPath _ | .fopen _ | .dupfd _ | .mkostemp _ => true
  | _ => false

/-- The discipline "a script acts only through handles it opened itself", on the program alone: no directory operation; every
handle the program acts on is `≥ N`, provided the handles it is handed by `open`-like calls are; the value returned satisfies
`Q`.  The stdin scripts get this frame from the footprints `Fr1`/`Mid` of the scripts (`InvX.of_fr1`, `Mid.inv`); no statement
is made through `Fresh`. -/
def Fresh {α} (N : Nat) : Prog α → (α → Prop) → Prop
  | .ret a, Q => Q a
  | .call c k, Q => Call.dirOp c = false ∧ (∀ h, Call.subject c = some h → N ≤ h) ∧
      ∀ r, (Call.opener c = true → ∀ v, r = .ok v → N ≤ v) → Fresh N (k r) Q

theorem Fresh.mono {α} {N : Nat} {p : Prog α} {Q Q' : α → Prop} (hp : Fresh N p Q) (h : ∀ a, Q a → Q' a) :
    Fresh N p Q' := by
  induction p with
  | ret a => exact h a hp
  | call c k ih => exact ⟨hp.1, hp.2.1, fun r hr => ih r (hp.2.2 r hr)⟩

theorem opener_result (f : Option Fault) (w : World) (c : Call) (v : Nat) (ho : Call.opener c = true)
    (h : faultResult f w c = .ok v) : v = w.handles.length := by
  rcases (sane_fault ⟨f, rfl⟩).handle (show Spec.createsHandle c = true from ho) with h' | ⟨e, h'⟩
  · exact Res.ok.inj (h.symm.trans h')
  · rw [h'] at h; cases h

/-- The spool of this run: directory stream, path of its `new` directory, root. -/
structure Spool where
  d : Handle
  sp : Bytes
  sr : Bytes

/-- What every script leaves alone, relative to the world `w0` at its start: the handles that existed (but for those in
`X`: the descriptor of the message, which `message_set_file` closes), which directories exist, the (empty) spool root. -/
structure InvX (S : Spool) (X : Handle → Prop) (w0 w : World) : Prop where
  objs : ∀ h, h < w0.handles.length → ¬ X h → w.obj h = w0.obj h
  len : w0.handles.length ≤ w.handles.length
  exist : ∀ q, (w.dir q).isSome = (w0.dir q).isSome
  root : w.dir S.sr = some []

abbrev Inv (S : Spool) (w0 w : World) : Prop := InvX S (fun _ => False) w0 w

theorem InvX.refl {S : Spool} {X : Handle → Prop} {w : World} (hr : w.dir S.sr = some []) : InvX S X w w :=
  ⟨fun _ _ _ => rfl, Nat.le_refl _, fun _ => rfl, hr⟩

theorem InvX.trans {S : Spool} {X : Handle → Prop} {w0 w1 w2 : World} (a : InvX S X w0 w1) (b : InvX S X w1 w2) :
    InvX S X w0 w2 :=
  ⟨fun h hh hx => (b.objs h (Nat.lt_of_lt_of_le hh a.len) hx).trans (a.objs h hh hx), Nat.le_trans a.len b.len,
   fun q => (b.exist q).trans (a.exist q), b.root⟩

theorem InvX.mono {S : Spool} {X X' : Handle → Prop} {w0 w : World} (a : InvX S X w0 w) (h : ∀ x, X x → X' x) :
    InvX S X' w0 w :=
  ⟨fun x hx hn => a.objs x hx (fun hh => hn (h x hh)), a.len, a.exist, a.root⟩

theorem InvX.toX {S : Spool} {w0 w : World} (a : Inv S w0 w) (X : Handle → Prop) : InvX S X w0 w :=
  a.mono (fun _ h => h.elim)

theorem InvX.dirPath {S : Spool} {X : Handle → Prop} {w0 w : World} (a : InvX S X w0 w) {h : Handle} {p : Bytes}
    (hp : w0.dirPath h = some p) (hx : ¬ X h) : w.dirPath h = some p := by
  rw [← hp]; exact dirPath_congr (a.objs h (lt_of_dirPath hp) hx)

theorem InvX.ofSameFs {S : Spool} {X : Handle → Prop} {w0 w : World} (h : SameFs w0 w) (hr : w0.dir S.sr = some []) :
    InvX S X w0 w :=
  ⟨fun x _ _ => h.obj x, by rw [h.handles]; exact Nat.le_refl _, fun q => by rw [h.dir], by rw [h.dir]; exact hr⟩

theorem InvX.step {S : Spool} {X : Handle → Prop} {w0 w : World} (a : InvX S X w0 w) (c : Call) (r : Res)
    (hmk : Call.mkrm c = false) (hsub : ∀ h, Call.subject c = some h → X h ∨ w0.handles.length ≤ h)
    (hroot : (stepWorld w c r).dir S.sr = w.dir S.sr) : InvX S X w0 (stepWorld w c r) := by
  refine ⟨?_, ?_, ?_, by rw [hroot]; exact a.root⟩
  · intro h hh hx
    rw [stepWorld_obj, core_obj w c r h (Nat.lt_of_lt_of_le hh a.len), a.objs h hh hx]
    intro hs
    rcases hsub h hs with h1 | h1
    · exact hx h1
    · omega
  · rw [stepWorld_handles]; exact Nat.le_trans a.len (core_len w c r)
  · intro q
    rw [stepWorld_dir, core_dir_isSome_eq w c r q hmk, a.exist q]

theorem InvX.step_plain {S : Spool} {X : Handle → Prop} {w0 w : World} (a : InvX S X w0 w) (c : Call) (r : Res)
    (hd : Call.dirOp c = false) (hsub : ∀ h, Call.subject c = some h → X h ∨ w0.handles.length ≤ h) :
    InvX S X w0 (stepWorld w c r) :=
  a.step c r (mkrm_of_not_dirOp hd) hsub (dir_of_dirs (core_dirs w c r hd) _)

theorem InvX.close {S : Spool} {X : Handle → Prop} {w0 w : World} (a : InvX S X w0 w) (fd : Handle) (r : Res) (hx : X fd) :
    InvX S X w0 (stepWorld w (.close fd) r) :=
  a.step_plain (.close fd) r rfl (by intro h hh; cases hh; exact .inl hx)

theorem InvX.closedir {S : Spool} {X : Handle → Prop} {w0 w : World} (a : InvX S X w0 w) (fd : Handle) (r : Res) (hx : X fd) :
    InvX S X w0 (stepWorld w (.closedir fd) r) :=
  a.step_plain (.closedir fd) r rfl (by intro h hh; cases hh; exact .inl hx)

theorem InvX.of_fr1 {S : Spool} {X : Handle → Prop} {F : Nat → Prop} {w0 w w' : World} (a : InvX S X w0 w) (fr : Fr1 F w w') :
    InvX S X w0 w' :=
  ⟨fun x hx hX => (fr.objs x (Nat.lt_of_lt_of_le hx a.len)).trans (a.objs x hx hX), Nat.le_trans a.len fr.len,
   fun q => by rw [dir_of_dirs fr.dirs]; exact a.exist q, by rw [dir_of_dirs fr.dirs]; exact a.root⟩

theorem NamesIn.unlinkat {w : World} {sp : Bytes} {ns : List Bytes} (h : NamesIn w sp ns) (d : Handle) (n : Bytes) (r : Res) :
    NamesIn (stepWorld w (.unlinkat d n) r) sp ns := by
  obtain ⟨h1, h2, h3⟩ := namesIn_iff.1 h
  refine namesIn_iff.2 ⟨?_, uniqueAt_step h2 _ r, fun m fid hl => h3 m fid (core_unlinkat_lookup_sub w d n r sp m fid hl)⟩
  rw [stepWorld_dir, core_dir_isSome_eq w _ r sp rfl]
  exact h1

/-- `utimensat` is no directory operation (the instance of `core_dirs`). -/
theorem core_utimensat_dirs (w : World) (d : Handle) (n : Bytes) (a m : Option Nat) (r : Res) :
    (core w (.utimensat d n a m) r).dirs = w.dirs := core_dirs w _ r rfl

theorem wp_triv {α} {p : Prog α} {w : World} : wp NoInv p (fun _ _ => True) w := by
  induction p generalizing w with
  | ret a => exact trivial
  | call c k ih => intro f; exact ⟨trivial, ih _⟩

end Mdsort.Proofs.World
