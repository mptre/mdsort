import Mdsort.Proofs.WorldMove
import Mdsort.Proofs.WorldFootExec
import Mdsort.Proofs.WorldVal

/-! The walk over `execOne` and `matchesExec`; the scripts below `execOne` (destination maildir, temporary file of `exec`) keep
the tracked entry because it is outside their footprint (WorldFootExec). -/

namespace Mdsort.Proofs.World
open Mdsort Mdsort.Model

theorem spec_maildirOpenDst {cs : List Bytes} {p0 n0 : Bytes} {fid0 : Nat} (path : Bytes) {w : World}
    (hg : GoodAt w cs p0 n0 fid0) :
    wp (fun w' => GoodAt w' cs p0 n0 fid0) (maildirOpenDst path)
      (fun r w' => GoodAt w' cs p0 n0 fid0 ∧ ∀ dst, r = some dst → ∀ h, dst.dirH = some h → DirH w' h) w := by
  refine wp_mono (mid_maildirOpenDst path fun _ r => hg.step _ r trivial trivial) ?_
  rintro r w' ⟨m, hdst⟩
  refine ⟨hg.of_mid m, fun dst hr h hh => ?_⟩
  obtain ⟨dh, hdh, hp, hd, -⟩ := hdst dst hr
  cases hdh.symm.trans hh
  exact ⟨_, hp, by rw [m.dirSome]; exact hd⟩

theorem spec_messageGetFd {cs : List Bytes} {p0 n0 : Bytes} {fid0 : Nat} (env : PEnv) (ms : MsgSt) (part : Option Msg)
    (dobody : Bool) {w : World} (hg : GoodAt w cs p0 n0 fid0) :
    wp (fun w' => GoodAt w' cs p0 n0 fid0) (messageGetFd env ms part dobody) (fun _ w' => GoodAt w' cs p0 n0 fid0) w :=
  wp_mono (wp_inv_mono (whole_messageGetFd env ms part dobody) fun _ fr => hg.of_fr1 fr) fun _ _ h => hg.of_fr1 h.1

theorem harmless_execP (argv : List Bytes) (fdin : Option Handle) : Calls Harmless (execP argv fdin) :=
  (kinds_execP argv fdin).mono fun _ => Harmless.of_kind (by decide)

theorem harmless_maildirClose (md : Maildir) : Calls Harmless (maildirClose md) :=
  (kinds_maildirClose md).mono fun _ => Harmless.of_kind (by decide)

theorem nord_maildirOpenDst (path : Bytes) : Calls NotOpenRd (maildirOpenDst path) :=
  (kinds_maildirOpenDst path).mono fun _ => NotOpenRd.of_kind (by decide)

theorem nofs_maildirOpenDst (path : Bytes) : Calls NotFsync (maildirOpenDst path) :=
  (kinds_maildirOpenDst path).mono fun _ => NotFsync.of_kind (by decide)

theorem nord_maildirClose (md : Maildir) : Calls NotOpenRd (maildirClose md) :=
  (kinds_maildirClose md).mono fun _ => NotOpenRd.of_kind (by decide)

theorem nord_messageGetFd (env : PEnv) (ms : MsgSt) (part : Option Msg) (dobody : Bool) :
    Calls NotOpenRd (messageGetFd env ms part dobody) :=
  (kinds_messageGetFd env ms part dobody).mono fun _ => NotOpenRd.of_kind (by decide)

theorem nord_execP (argv : List Bytes) (fdin : Option Handle) : Calls NotOpenRd (execP argv fdin) :=
  (kinds_execP argv fdin).mono fun _ => NotOpenRd.of_kind (by decide)

theorem nord_moveBranch (env : PEnv) (mh : Match) (st : ExecSt) : Calls NotOpenRd (moveBranch env mh st) :=
  (kinds_moveBranch env mh st).mono fun _ => NotOpenRd.of_kind (by decide)

section
variable {J : World → Prop} {N0 fid0 : Nat} {cs : List Bytes}

theorem tracked_moveBranch (hS : Side N0 cs J) (env : PEnv) (mh : Match) (st : ExecSt) {w : World}
    (hT : Tracked J N0 fid0 cs w) (hm : (messageWrite st.ms.msg).1 ∈ cs) :
    wp (Tracked J N0 fid0 cs) (moveBranch env mh st)
      (fun r w' => Tracked J N0 fid0 cs w' ∧ r.1.ms.msg = st.ms.msg) w := by
  obtain ⟨hj, p0, n0, g0, hg, hA⟩ := hT
  unfold moveBranch
  refine wp_bind_mono (wp_inv_mono (wp_both (spec_maildirOpenDst mh.path hg)
    (hS.calls (nord_maildirOpenDst _) (nofs_maildirOpenDst _) hj)) fun _ h => ⟨h.2, h.1.goodN hA⟩) ?_
  rintro d w1 ⟨⟨hg1, hd1⟩, hj1⟩
  cases d with
  | none => exact ⟨⟨hj1, hg1.goodN hA⟩, rfl⟩
  | some dst =>
    dsimp only
    refine wp_bind_mono (wp_inv_mono (wp_both (tracked_maildirMove hS env st.src dst st.ms ⟨hj1, hg1.goodN hA⟩ hm (hd1 dst rfl))
      (wp_of_all (val_maildirMove env st.src dst st.ms))) fun _ h => h.1) ?_
    rintro x w2 ⟨hT2, -, hx, -⟩
    have closeThen : ∀ (md : Maildir) (r : ExecSt × Bool), r.1.ms.msg = st.ms.msg →
        wp (Tracked J N0 fid0 cs) ((maildirClose md).bind fun _ => Prog.ret r)
          (fun r w' => Tracked J N0 fid0 cs w' ∧ r.1.ms.msg = st.ms.msg) w2 := by
      intro md r hr
      refine wp_bind_mono (tracked_harmless hS (harmless_maildirClose md) (nord_maildirClose md) hT2) ?_
      intro _ w3 hT3
      exact ⟨hT3, hr⟩
    split
    · exact closeThen _ _ hx
    · split
      · split
        · exact closeThen _ _ hx
        · exact ⟨hT2, hx⟩
      · exact closeThen _ _ hx

/-- `message_get_fd` when it does not render an attachment into a temporary file (the whole message: a duplicate of its
descriptor; a body: written with `write`, not synced). -/
theorem nofs_messageGetFd (env : PEnv) (ms : MsgSt) (part : Option Msg) (dobody : Bool) (h : dobody = true ∨ part = none) :
    Calls NotFsync (messageGetFd env ms part dobody) := by
  rw [messageGetFd_eq]
  refine Calls.bind ?_ fun fdo => (kinds_rewindFd fdo).mono fun _ => NotFsync.of_kind (by decide)
  have body : ∀ b : Bytes, Calls NotFsync (tmpCopy env.tmpdir fun fd => writeAll fd (b.length + 1) (cstr b)) := fun b =>
    (kinds_tmpCopy _ _ fun fd => kinds_writeAll fd _ _).mono fun _ => NotFsync.of_kind (by decide)
  split
  · split
    · exact Calls.ret _
    · exact body _
  · rename_i hb
    obtain rfl : part = none := h.resolve_left hb
    simp only [Option.isSome_none, Bool.false_eq_true, if_false]
    split
    · exact Calls.ret _
    · exact Calls.step True.intro fun _ => Calls.ret _

/-- The side invariant does not look at `fsync`: every call other than an `openRd` keeps it. -/
def SyncFree (J : World → Prop) : Prop := ∀ w c r, NotOpenRd c → J w → J (stepWorld w c r)

/-- No `exec stdin` of an ATTACHMENT without `body`: that is the one place where `message_write` renders something
other than the message (the part) into a file (a temporary one, never bound to an entry) and syncs it. -/
def NoPartPipe (ml : MatchList) : Prop :=
  ∀ m ∈ ml, m.ty = .exec → m.execStdin = true → m.execBody = true ∨ m.part = 0

/-- `message_get_fd`: the temporary file it may make is no entry of a maildir.  When it renders an attachment it syncs
that file, which a side invariant that looks at `fsync` does not survive (`hpp`). -/
theorem tracked_messageGetFd (hS : Side N0 cs J) (env : PEnv) (ms : MsgSt) (part : Option Msg) (dobody : Bool) {w : World}
    (hT : Tracked J N0 fid0 cs w) (hpp : (dobody = true ∨ part = none) ∨ SyncFree J) :
    wp (Tracked J N0 fid0 cs) (messageGetFd env ms part dobody) (fun _ w' => Tracked J N0 fid0 cs w') w := by
  obtain ⟨hj, p0, n0, g0, hg, hA⟩ := hT
  have hside : wp J (messageGetFd env ms part dobody) (fun _ w' => J w') w := by
    rcases hpp with h | h
    · exact hS.calls (nord_messageGetFd ..) (nofs_messageGetFd env ms part dobody h) hj
    · exact wp_of_calls (nord_messageGetFd ..) h hj
  exact wp_mono (wp_inv_mono (wp_both (spec_messageGetFd env ms part dobody hg) hside)
    fun _ h => ⟨h.2, h.1.goodN hA⟩) fun _ _ h => ⟨h.2, h.1.goodN hA⟩

theorem tracked_execOne (hS : Side N0 cs J) (env : PEnv) (mh : Match) (st : ExecSt) {w : World}
    (hT : Tracked J N0 fid0 cs w) (hm : (messageWrite st.ms.msg).1 ∈ cs) (hnd : mh.ty ≠ .discard)
    (hpp : (mh.ty = .exec → mh.execStdin = true → mh.execBody = true ∨ mh.part = 0) ∨ SyncFree J) :
    wp (Tracked J N0 fid0 cs) (execOne env mh st)
      (fun r w' => Tracked J N0 fid0 cs w' ∧ r.1.ms.msg = st.ms.msg) w := by
  rcases execOne_ty_cases mh.ty with hty | hty | hty | hty | hty | hty
  · rw [execOne_move env mh st hty]
    exact tracked_moveBranch hS env mh st hT hm
  · exact absurd hty hnd
  · rw [execOne_write env mh st hty]
    refine wp_bind_mono (wp_inv_mono (wp_both (tracked_maildirWrite hS env st.src st.ms hT hm)
      (wp_of_all (val_maildirWrite env st.src st.ms))) fun _ h => h.1) ?_
    rintro x w1 ⟨hg1, hx, -⟩
    exact ⟨hg1, hx⟩
  · rw [execOne_reject env mh st hty]
    exact ⟨hT, rfl⟩
  · rw [execOne_exec env mh st hty]
    refine wp_bind_mono (R := fun _ w' => Tracked J N0 fid0 cs w') ?_ ?_
    · split
      · rename_i hst
        refine wp_bind_mono (tracked_messageGetFd hS env st.ms _ mh.execBody hT (hpp.imp_left fun h => ?_)) ?_
        · exact (h hty hst).imp_right fun h0 => by simp [h0]
        · intro f w1 hg1
          exact hg1
      · exact hT
    · intro fdr w1 hg1
      cases fdr with
      | none => exact ⟨hg1, rfl⟩
      | some fd =>
        dsimp only
        refine wp_bind_mono (tracked_harmless hS (harmless_execP _ fd) (nord_execP _ fd) hg1) ?_
        intro rc w2 hg2
        cases fd with
        | none => exact ⟨hg2, rfl⟩
        | some h =>
          refine wp_call_any fun r => ?_
          have hg3 := hg2.step hS (.close h) r trivial trivial
          exact ⟨hg3, hg3, rfl⟩
  · rw [execOne_other env mh st hty]
    exact ⟨hT, rfl⟩

theorem tracked_matchesExec (hS : Side N0 cs J) (env : PEnv) (ml : MatchList) (st : ExecSt) {w : World}
    (hT : Tracked J N0 fid0 cs w) (hm : (messageWrite st.ms.msg).1 ∈ cs) (hnd : ∀ m ∈ ml, m.ty ≠ .discard)
    (hpp : NoPartPipe ml ∨ SyncFree J) :
    wp (Tracked J N0 fid0 cs) (matchesExec env ml st) (fun _ w' => Tracked J N0 fid0 cs w') w := by
  induction ml generalizing st w with
  | nil =>
    rw [matchesExec_nil]
    split
    · refine wp_bind_mono (tracked_harmless hS (harmless_maildirClose _) (nord_maildirClose _) hT) ?_
      intro _ w1 h; exact h
    · exact hT
  | cons mh rest ih =>
    rw [matchesExec_cons]
    unfold Own.errTail
    refine wp_bind_mono (tracked_execOne hS env mh st hT hm (hnd mh (List.mem_cons_self ..))
      (hpp.imp_left fun h => h mh (List.mem_cons_self ..))) ?_
    rintro ⟨st', e⟩ w1 ⟨hg1, hmsg⟩
    dsimp only at hmsg ⊢
    split
    · split
      · refine wp_bind_mono (tracked_harmless hS (harmless_maildirClose _) (nord_maildirClose _) hg1) ?_
        intro _ w2 h; exact h
      · exact hg1
    · exact ih st' hg1 (by rw [hmsg]; exact hm) (fun m hmem => hnd m (List.mem_cons_of_mem _ hmem))
        (hpp.imp_left fun h m hmem => h m (List.mem_cons_of_mem _ hmem))

end

theorem spec_matchesExec {cs : List Bytes} (env : PEnv) (ml : MatchList) (st : ExecSt) {w : World}
    (hgood : Good w cs) (hm : (messageWrite st.ms.msg).1 ∈ cs) (hnd : ∀ m ∈ ml, m.ty ≠ .discard) :
    wp (fun w' => Good w' cs) (matchesExec env ml st) (fun _ w' => Good w' cs) w :=
  have hS : Side 0 cs fun _ => True :=
    { ge := fun _ => Nat.zero_le _, step := fun _ _ _ _ _ _ => trivial, openNew := fun _ _ _ _ _ => trivial,
      write := fun _ _ _ _ _ _ => wp_of_calls (Calls.of_forall (fun _ => trivial) _) (fun _ _ _ _ _ => trivial) trivial }
  wp_mono (wp_inv_mono (tracked_matchesExec hS env ml st ⟨trivial, hgood.goodN⟩ hm hnd (.inr fun _ _ _ _ _ => trivial))
    fun _ h => h.2.good)
    fun _ _ h => h.2.good

theorem matchesExec_history_good {cs : List Bytes} (env : PEnv) (ml : MatchList) (st : ExecSt) (w : World) (plan : Plan)
    (hgood : Good w cs) (hm : (messageWrite st.ms.msg).1 ∈ cs) (hnd : ∀ m ∈ ml, m.ty ≠ .discard) :
    ∀ w' ∈ (runPlan plan (matchesExec env ml st) w 0 []).2.2, Good w' cs := by
  intro w' hw'
  rw [runPlan_eq] at hw'
  simp only [List.nil_append] at hw'
  exact (wp_sound plan (spec_matchesExec env ml st hgood hm hnd) 0).1 w' hw'

end Mdsort.Proofs.World
