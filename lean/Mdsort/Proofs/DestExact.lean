import Mdsort.Model.Dest

/-!
# `Spec.destOK` is exact (bounded check)

`C09_destination_partial` shows that the pinned code is right on `Spec.destOK`.  Here the converse is
checked by evaluation for every sequence of up to 6 actions in which all names are pairwise distinct
and distinct from the message's own maildir and subdirectory (so that no two places coincide by
accident): the model ends in the documented place exactly when `destOK` holds.  `destOK` counts because the set is not
regular: for `j ≥ 1`, `(flag flags)^k flag (flags move)^j` is in it iff `j = k + 1` (an observation, evaluated for `k < 6`,
`j < 9`; no theorem here states it).  The simple sufficient condition `Spec.destSimple` is inside `destOK` for every action
list (`destSimple_sub_destOK`: the leading `flags` actions are split off, `Fresh` holds after them and `Alternating` is
carried through the rest).
-/

namespace Mdsort.Proofs.Dest
open Mdsort Mdsort.Model Mdsort.Spec

/-- The message `/S/old/1`. -/
def genEnv : Env where
  rx := fun _ _ => .nomatch
  command := fun _ => 0
  isDir := fun _ => false
  now := 0
  strptime := fun _ => none
  zoneName := fun _ => none
  fileTime := fun _ => none
  dryrun := false
  path := [47, 83, 47, 111, 108, 100, 47, 49]

/-- The action of kind `k` at position `i`, with a name used nowhere else: `move "/M<i>"`, `flag "F<i>"`. -/
def genAction (k : Fin 3) (i : Nat) : PathAction :=
  match k with
  | 0 => .move [47, 77, 48 + i.toUInt8]
  | 1 => .flag [70, 48 + i.toUInt8]
  | 2 => .flags [70]

def genActions (ks : List (Fin 3)) : List PathAction := ks.zipIdx.map fun x => genAction x.1 x.2

def kindSeqs : Nat → List (List (Fin 3))
  | 0 => [[]]
  | n + 1 => (kindSeqs n).flatMap fun s => [0, 1, 2].map (· :: s)

/-- Does the model put the message where the documentation says? -/
def agrees (ks : List (Fin 3)) : Bool :=
  let a := genActions ks
  finalPlace genEnv [] a == (if a.isEmpty then none else some (destPath ([47, 83], [111, 108, 100]) a))

theorem destOK_exact_upto_6 : ∀ n ∈ List.range 7, ∀ ks ∈ kindSeqs n, agrees ks = destOK (genActions ks) := by
  decide +kernel

theorem destOKFrom_snoc (l : List PathAction) (a : PathAction) (st : DestSt) :
    destOKFrom st (l ++ [a]) = (l.foldl DestSt.step st).okLast a := by
  induction l generalizing st with
  | nil => rfl
  | cons b l ih =>
    cases l with
    | nil => rfl
    | cons c l => exact ih (st.step b)

theorem foldl_step_inv (P : DestSt → Prop) (Q : PathAction → Prop)
    (hstep : ∀ st a, P st → Q a → P (st.step a)) :
    ∀ (l : List PathAction) (st : DestSt), P st → (∀ a ∈ l, Q a) → P (l.foldl DestSt.step st) := by
  intro l
  induction l with
  | nil => intro st h _; exact h
  | cons b l ih =>
    intro st h hq
    exact ih _ (hstep st b h (hq b (by simp))) (fun a ha => hq a (by simp [ha]))

/-- Nothing but `flags` actions so far. -/
def Fresh (st : DestSt) : Prop :=
  st.nMove = 0 ∧ st.nFlag = 0 ∧ st.hasMove = false ∧ st.hasFlag = false ∧ st.last ≠ some .move ∧ st.last ≠ some .flag

/-- While no `flags` action comes between `move` and `flag` actions, each of them takes the entry the
one before it left: the two counters say which kind came last. -/
def Alternating (st : DestSt) : Prop :=
  (st.last = some .move → st.nMove = 1 ∧ st.nFlag = 0) ∧ (st.last = some .flag → st.nFlag = 1 ∧ st.nMove = 0) ∧
    (st.last ≠ some .move → st.last ≠ some .flag → st.nMove = 0 ∧ st.nFlag = 0)

theorem Fresh.step {st : DestSt} {a : PathAction} (h : Fresh st) (ha : a.kind = .flags) : Fresh (st.step a) := by
  cases a with
  | move _ => cases ha
  | flag _ => cases ha
  | flags _ =>
    -- a `flags` action changes `last` only, to `some .flags`
    exact ⟨h.1, h.2.1, h.2.2.1, h.2.2.2.1, nofun, nofun⟩

theorem last_step (st : DestSt) (a : PathAction) : (st.step a).last = some a.kind := by
  fun_cases DestSt.step st a
  -- straight after its own kind the state stays, and says so
  case case1 | case3 => assumption
  all_goals rfl

theorem Alternating.step {st : DestSt} {a : PathAction} (h : Alternating st) (ha : a.kind ≠ .flags) :
    Alternating (st.step a) := by
  obtain ⟨hm, hf, hn⟩ := h
  fun_cases DestSt.step st a
  -- straight after its own kind: the state stays as it is
  case case1 | case3 => exact ⟨hm, hf, hn⟩
  case case5 => exact absurd rfl ha
  case case2 p hl =>
    -- a `move` after a `flag` (one flag entry, which is taken now) or after neither (no entry): one move entry, no flag entry
    have hc : st.nMove + 1 = 1 ∧ st.nFlag - 1 = 0 := by
      by_cases hlf : st.last = some .flag
      · have := hf hlf; omega
      · have := hn hl hlf; omega
    exact ⟨fun _ => hc, nofun, fun e => absurd rfl e⟩
  case case4 q hl =>
    have hc : st.nFlag + 1 = 1 ∧ st.nMove - 1 = 0 := by
      by_cases hlm : st.last = some .move
      · have := hm hlm; omega
      · have := hn hlm hl; omega
    exact ⟨nofun, fun _ => hc, fun _ e => absurd rfl e⟩

theorem Fresh.alternating {st : DestSt} (h : Fresh st) : Alternating st :=
  ⟨fun e => absurd e h.2.2.2.2.1, fun e => absurd e h.2.2.2.2.2, fun _ _ => ⟨h.1, h.2.1⟩⟩

/-- A `move` straight after a `flag` (or the other way round) finds exactly one entry of the other kind: the `flag`
entry is the last one (`last_step`), so `Alternating` after the step says there is one flag entry. -/
theorem okLast_after_other {st : DestSt} {a b : PathAction} (h : Alternating st) (hb : b.kind ≠ .flags)
    (ha : a.kind ≠ .flags) (hne : a.kind ≠ b.kind) : (st.step b).okLast a = true := by
  have hs := h.step hb
  have hl := last_step st b
  cases a with
  | flags _ => exact absurd rfl ha
  | move _ =>
    have hbk : b.kind = .flag := by
      cases b with
      | move _ => exact absurd rfl hne
      | flag _ => rfl
      | flags _ => exact absurd rfl hb
    rw [hbk] at hl
    have hn := (hs.2.1 hl).1
    simp [DestSt.okLast, hl, hn]
  | flag _ =>
    have hbk : b.kind = .move := by
      cases b with
      | move _ => rfl
      | flag _ => exact absurd rfl hne
      | flags _ => exact absurd rfl hb
    rw [hbk] at hl
    have hn := (hs.1 hl).1
    simp [DestSt.okLast, hl, hn]

/-- Only `move` actions (or only `flag` actions) after the `flags` actions: nothing to inherit from, because an action
sets the `has` flag of its own kind only. -/
theorem okLast_one_kind {st : DestSt} (hfr : Fresh st) (w : List PathAction) (a : PathAction) (k : PathKind)
    (hk : k ≠ .flags) (h : ∀ x ∈ w ++ [a], x.kind = k) : (w.foldl DestSt.step st).okLast a = true := by
  have hinv := foldl_step_inv (fun st => (k = .move → st.hasFlag = false) ∧ (k = .flag → st.hasMove = false))
    (fun x => x.kind = k) (by
      intro st x hst hx
      subst hx
      fun_cases DestSt.step st x
      -- straight after its own kind the state stays
      case case1 | case3 => exact hst
      -- a `move` that is entered sets `hasMove` only, a `flag` `hasFlag` only; `flags` is not of kind `k`
      case case2 => exact ⟨fun _ => hst.1 rfl, nofun⟩
      case case4 => exact ⟨nofun, fun _ => hst.2 rfl⟩
      case case5 => exact absurd rfl hk)
    w st ⟨fun _ => hfr.2.2.2.1, fun _ => hfr.2.2.1⟩ (fun x hx => h x (by simp [hx]))
  have ha := h a (by simp)
  cases a with
  | flags _ => exact absurd ha.symm hk
  | move _ => simp [DestSt.okLast, hinv.1 ha.symm]
  | flag _ => simp [DestSt.okLast, hinv.2 ha.symm]

/-- `destSimple`: all `flags` first; then one kind only, or the last two actions of different kinds. -/
theorem destSimple_sub_destOK (actions : List PathAction) (h : destSimple actions = true) : destOK actions = true := by
  have hsplit := (List.takeWhile_append_dropWhile (p := fun a : PathAction => a.kind == .flags) (l := actions)).symm
  have hfl : ∀ a ∈ actions.takeWhile (fun a : PathAction => a.kind == .flags), a.kind = .flags := fun a ha => by
    simpa using List.all_eq_true.1 (List.all_takeWhile (p := fun a : PathAction => a.kind == .flags) (l := actions)) a ha
  simp only [destSimple, Bool.and_eq_true, Bool.or_eq_true, List.all_eq_true] at h
  generalize actions.takeWhile (fun a : PathAction => a.kind == .flags) = fl at hsplit hfl
  generalize actions.dropWhile (fun a : PathAction => a.kind == .flags) = w at hsplit h
  subst hsplit
  obtain ⟨hw, hlast⟩ := h
  have hfresh : ∀ l : List PathAction, (∀ a ∈ l, a.kind = .flags) → Fresh (l.foldl DestSt.step {}) := fun l hl =>
    foldl_step_inv Fresh (fun a => a.kind = .flags) (fun _ _ => Fresh.step) l {} ⟨rfl, rfl, rfl, rfl, by simp, by simp⟩ hl
  rcases List.eq_nil_or_concat w with rfl | ⟨w', a, rfl⟩
  · rcases List.eq_nil_or_concat fl with rfl | ⟨fl', a, rfl⟩
    · rfl
    · rw [List.concat_eq_append] at hfl ⊢
      rw [List.append_nil, destOK, destOKFrom_snoc]
      have ha := hfl a (by simp)
      have hfr := hfresh fl' (fun x hx => hfl x (by simp [hx]))
      cases a <;> simp [PathAction.kind] at ha
      simp [DestSt.okLast, hfr.2.2.1, hfr.2.2.2.1]
  · rw [List.concat_eq_append] at hw hlast ⊢
    rw [destOK, ← List.append_assoc, destOKFrom_snoc, List.foldl_append]
    have hfr := hfresh fl hfl
    have hak : a.kind ≠ .flags := by simpa using hw a (by simp)
    rcases hlast with (hm | hf) | hx
    · exact okLast_one_kind hfr w' a .move (by decide) (fun x hx => by simpa using hm x hx)
    · exact okLast_one_kind hfr w' a .flag (by decide) (fun x hx => by simpa using hf x hx)
    · rcases List.eq_nil_or_concat w' with rfl | ⟨w'', b, rfl⟩
      · exact okLast_one_kind hfr [] a a.kind hak (by simp)
      · rw [List.concat_eq_append] at hw hx ⊢
        simp only [List.reverse_append, List.reverse_cons, List.reverse_nil, List.nil_append, List.cons_append] at hx
        rw [List.foldl_append]
        have hbk : b.kind ≠ .flags := by simpa using hw b (by simp)
        exact okLast_after_other
          (foldl_step_inv Alternating (fun x => x.kind ≠ .flags) (fun _ _ => Alternating.step) w'' _ hfr.alternating
            (fun x hx => by simpa using hw x (by simp [hx])))
          hbk hak (by simpa using hx)

/-- In particular for the 3280 generated sequences of at most 7 actions. -/
theorem destSimple_sub_destOK_upto_7 :
    ∀ n ∈ List.range 8, ∀ ks ∈ kindSeqs n, destSimple (genActions ks) = true → destOK (genActions ks) = true :=
  fun _ _ ks _ => destSimple_sub_destOK (genActions ks)

end Mdsort.Proofs.Dest
