import Mdsort.Proofs.PartiesWitness

/-! Non-vacuity of the exactly-once theorem for copying actions: `label` against `move` on the same
message, the two parties interleaved call by call; evaluated by the kernel. -/

namespace Mdsort.Proofs.Parties.W
open Mdsort Mdsort.Model

/-- The messages the parties of the witnesses may write out. -/
def MW (m : Msg) : Prop := m = labelled ∨ m = msg

/-! ## A = `label` on `a`, B = `move "/d"` on `a`, same maildir -/

def c0 : Shared := Shared.init fs [(partyA, dirH), (partyB1, dirH)]
def c0' : Shared := Shared.init fs [(partyA', dirH), (partyB1, dirH)]

theorem c0_eq : c0 = c0' := by unfold c0 c0'; rw [partyA_eq]

theorem c_checks : startChecksC c0 = true := by decide +kernel

theorem c_startOK : StartOKc MW c0 := by
  refine startOKc_of_checks c0 (fresh_init _ _) c_checks ?_
  intro i ps h
  have hm : ps ∈ c0.parties := List.mem_of_getElem? h
  simp only [c0, Shared.init, List.map_cons, List.map_nil, List.mem_cons, List.not_mem_nil, or_false] at hm
  rcases hm with rfl | rfl
  · exact .inl ⟨env 1, [labelAct], stOf (ofString "a") labelled, .inl rfl, rfl⟩
  · exact .inl ⟨env 2, [moveAct], stOf (ofString "a") msg, .inr rfl, rfl⟩

/-- Round robin, call by call: B's `renameat` comes before A's `unlinkat`; B wins, A rolls its copy back. -/
def schedRR : List Nat := (List.replicate 16 [0, 1]).flatten

/-- A is ahead: it commits (removes the original) before B's `renameat`; A wins, B rolls its placeholder back. -/
def schedAB : List Nat := [0, 1, 0, 1, 0, 1] ++ List.replicate 8 0 ++ List.replicate 10 1 ++ List.replicate 6 0

def labelledBytes : Bytes := ofString "To: u\nX-Label: l\n\nhi\n"

def lostTrace (name : Bytes) (tr : List (Call × Res)) : Bool :=
  tr.all fun x =>
    match x.1 with
    | .renameat .. => x.2.isErr
    | .unlinkat _ n => n != name || x.2.isErr
    | _ => true

theorem rr_facts' : (Hiso c0' schedRR = true ∧ (runSched c0' schedRR).quiescent = true ∧
    (runSched c0' schedRR).parties.map (·.result) = [some true, some false] ∧
    (runSched c0' schedRR).fs.entries = [(ofString "/d/new", ofString "7.2_1.h:2,", 0)] ∧
    (runSched c0' schedRR).fs.content 0 = content) ∧
    ((runSched c0' schedRR).parties.map fun ps => (lostTrace (ofString "a") ps.trace, ps.result)) =
      [(true, some true), (false, some false)] := by decide +kernel

theorem ab_facts' : Hiso c0' schedAB = true ∧ (runSched c0' schedAB).quiescent = true ∧
    (runSched c0' schedAB).parties.map (·.result) = [some false, some true] ∧
    (runSched c0' schedAB).fs.entries = [(ofString "/m/new", nameA, 1)] ∧
    (runSched c0' schedAB).fs.content 1 = labelledBytes ∧
    (runSched c0' schedAB).origin 1 = 0 := by decide +kernel

theorem rr_facts : Hiso c0 schedRR = true ∧ (runSched c0 schedRR).quiescent = true ∧
    (runSched c0 schedRR).parties.map (·.result) = [some true, some false] ∧
    (runSched c0 schedRR).fs.entries = [(ofString "/d/new", ofString "7.2_1.h:2,", 0)] ∧
    (runSched c0 schedRR).fs.content 0 = content := by rw [c0_eq]; exact rr_facts'.1

theorem ab_facts : Hiso c0 schedAB = true ∧ (runSched c0 schedAB).quiescent = true ∧
    (runSched c0 schedAB).parties.map (·.result) = [some false, some true] ∧
    (runSched c0 schedAB).fs.entries = [(ofString "/m/new", nameA, 1)] ∧
    (runSched c0 schedAB).fs.content 1 = labelledBytes ∧
    (runSched c0 schedAB).origin 1 = 0 := by rw [c0_eq]; exact ab_facts'

theorem rr_loser : ((runSched c0 schedRR).parties.map fun ps => (lostTrace (ofString "a") ps.trace, ps.result)) =
    [(true, some true), (false, some false)] := by rw [c0_eq]; exact rr_facts'.2

/-! ## the client needs no isolation hypothesis: two movers and the client of `m0` -/

def NW (n : Bytes) : Prop := ∃ pid flags count, n = genName (env pid) flags count

theorem dec7 : decimalInt 7 = [55] := by decide +kernel

theorem nw_head {n : Bytes} (h : NW n) : n.head? = some 55 := by
  obtain ⟨pid, flags, count, rfl⟩ := h
  simp [genName, env, dec7]

theorem nw_gen (pid : Nat) : GenNames NW (env pid) := fun flags count => ⟨pid, flags, count, rfl⟩

theorem m_startOKc : StartOKc MW m0 := by
  refine startOKc_of_checks m0 (fresh_init _ _) (startChecks_general m_checks) ?_
  intro i ps h
  have hm : ps ∈ m0.parties := List.mem_of_getElem? h
  simp only [m0, Shared.init, List.map_cons, List.map_nil, List.mem_cons, List.not_mem_nil, or_false] at hm
  rcases hm with rfl | rfl | rfl
  · exact .inl ⟨env 1, [moveAct], stOf (ofString "a") msg, .inr rfl, rfl⟩
  · exact .inl ⟨env 2, [moveAct], stOf (ofString "a") msg, .inr rfl, rfl⟩
  · exact .inr (.inr ⟨_, rfl⟩)

theorem m_isoExcept : HisoExcept [2] m0 schedM = true := m_facts.2.1

theorem m_gen (i : Nat) (ps : PState) (h : m0.parties[i]? = some ps) (hi : i ∉ [2]) :
    (∃ env ml st, GenNames NW env ∧ ps.prog = errOf (matchesExec env ml st)) ∨
    (∃ env md rule fuel e, GenNames NW env ∧ ps.prog = scanExec env md rule fuel e) := by
  rcases i with _ | _ | _ | i
  · cases h; exact .inl ⟨env 1, [moveAct], stOf (ofString "a") msg, nw_gen 1, rfl⟩
  · cases h; exact .inl ⟨env 2, [moveAct], stOf (ofString "a") msg, nw_gen 2, rfl⟩
  · simp at hi
  · simp [m0, Shared.init] at h

theorem m_client (i : Nat) (ps : PState) (hi : i ∈ [2]) (h : m0.parties[i]? = some ps) :
    ∃ ops, ps.prog = clientProg ops ∧ ∀ op ∈ ops, op.avoids NW := by
  have : i = 2 := by simpa using hi
  subst this
  cases h
  refine ⟨_, rfl, ?_⟩
  intro op hop
  rw [List.mem_singleton.1 hop]
  refine ⟨fun h => ?_, fun h => ?_⟩
  · have h1 : (ofString "b").head? ≠ some 55 := by decide +kernel
    exact h1 (nw_head h)
  · have h1 : (ofString "b:2,S").head? ≠ some 55 := by decide +kernel
    exact h1 (nw_head h)

end Mdsort.Proofs.Parties.W
