import Mdsort.Proofs.Parties

/-! The directory snapshot of `readdir`: taking it lazily at the first `readdir` of a fresh stream
is the same as storing it in the handle just before that call.  (Used to evaluate concrete
schedules in the kernel: the sorted snapshot `sortedNames` is computed by `List.mergeSort`, which
the kernel cannot unfold, so it is supplied by a proved equation instead.) -/

namespace Mdsort.Proofs.Parties
open Mdsort Mdsort.Model

def withSnap (pb : PState) (d : Handle) (p : Bytes) (names : List Bytes) : PState :=
  { prog := pb.prog, handles := pb.handles.set d (.dir p (some names) 0), trace := pb.trace }

def withParty (s : Shared) (b : Nat) (pb : PState) : Shared :=
  { fs := s.fs, parties := s.parties.set b pb, log := s.log }

def setSnap (s : Shared) (b : Nat) (d : Handle) (p : Bytes) (names : List Bytes) : Shared :=
  match s.parties[b]? with
  | none => s
  | some pb => withParty s b (withSnap pb d p names)

def nextCall (s : Shared) (b : Nat) : Option Call :=
  (s.parties[b]?).bind fun p =>
    match p.prog with
    | .call c _ => some c
    | .ret _ => none

def objAt (s : Shared) (b : Nat) (d : Handle) : Option Obj := (s.parties[b]?).map fun p => p.handles.getD d .closed

theorem handlesDirPath_set_dir (hs : List Obj) (d : Handle) (p : Bytes) (sn sn' : Option (List Bytes)) (pos pos' : Nat)
    (h : hs.getD d .closed = .dir p sn pos) (x : Handle) :
    handlesDirPath (hs.set d (.dir p sn' pos')) x = handlesDirPath hs x := by
  unfold handlesDirPath
  by_cases hx : x = d
  · subst hx
    have hlt : x < hs.length := by
      by_cases hl : x < hs.length
      · exact hl
      · simp [List.getD_eq_getElem?_getD, List.getElem?_eq_none (Nat.le_of_not_lt hl)] at h
    rw [h]
    simp [List.getD_eq_getElem?_getD, hlt]
  · have : ¬ d = x := fun e => hx e.symm
    simp [List.getD_eq_getElem?_getD, this]

theorem inFlight_withSnap (pb : PState) (d : Handle) (p : Bytes) (names : List Bytes)
    (h : pb.handles.getD d .closed = .dir p none 0) : (withSnap pb d p names).inFlight = pb.inFlight := by
  unfold PState.inFlight withSnap
  simp only [handlesDirPath_set_dir pb.handles d p none (some names) 0 0 h]

/-- The three side conditions come as one conjunction so that one kernel evaluation of the concrete state
closes them. -/
theorem readdir_snapshot (s : Shared) (b : Nat) (d : Handle) (p : Bytes) (es : List (Bytes × Nat))
    (h : nextCall s b = some (.readdir d) ∧ objAt s b d = some (.dir p none 0) ∧ s.fs.dir p = some es) :
    stepParty s b = stepParty (setSnap s b d p (sortedNames es)) b := by
  obtain ⟨h1, h2, h3⟩ := h
  cases hpb : s.parties[b]? with
  | none => simp [nextCall, hpb] at h1
  | some pb =>
    cases hprog : pb.prog with
    | ret e => simp [nextCall, hpb, hprog] at h1
    | call c k =>
      have hc : c = .readdir d := by simpa [nextCall, hpb, hprog] using h1
      subst hc
      have hobj : pb.handles.getD d .closed = .dir p none 0 := by simpa [objAt, hpb] using h2
      have hlt : b < s.parties.length := (List.getElem?_eq_some_iff.1 hpb).1
      have hdlt : d < pb.handles.length := by
        by_cases hd : d < pb.handles.length
        · exact hd
        · simp [List.getD_eq_getElem?_getD, List.getElem?_eq_none (Nat.le_of_not_lt hd)] at hobj
      have hs' : setSnap s b d p (sortedNames es) = withParty s b (withSnap pb d p (sortedNames es)) := by
        simp [setSnap, hpb]
      rw [stepParty_call hpb hprog, hs']
      have hpb' : (withParty s b (withSnap pb d p (sortedNames es))).parties[b]? = some (withSnap pb d p (sortedNames es)) := by
        simp [withParty, hlt]
      rw [stepParty_call hpb' (show (withSnap pb d p (sortedNames es)).prog = _ from hprog)]
      have ho : (s.view pb).obj d = .dir p none 0 := hobj
      have ho' : ((withParty s b (withSnap pb d p (sortedNames es))).view (withSnap pb d p (sortedNames es))).obj d =
          .dir p (some (sortedNames es)) 0 := by
        show (pb.handles.set d _).getD d .closed = _
        simp [List.getD_eq_getElem?_getD, hdlt]
      have hdir : (s.view pb).dir p = some es := h3
      have hdir' : ((withParty s b (withSnap pb d p (sortedNames es))).view (withSnap pb d p (sortedNames es))).dir p = some es := h3
      have hpred : predict ((withParty s b (withSnap pb d p (sortedNames es))).view (withSnap pb d p (sortedNames es))) (.readdir d) =
          predict (s.view pb) (.readdir d) := by
        simp only [predict.eq_def, ho, ho', hdir, hdir', Option.map_some, Option.getD_some, Option.getD_none]
      have hview : stepView (withParty s b (withSnap pb d p (sortedNames es))) (withSnap pb d p (sortedNames es)) (.readdir d) =
          stepView s pb (.readdir d) := by
        -- both views list `sortedNames es` from position 0; the result is its head, or the end
        rw [stepView_eq, stepView_eq, hpred]
        have hl : ∀ (sn : Option (List Bytes)), sn = none ∨ sn = some (sortedNames es) →
            sn.getD ((some es).map sortedNames |>.getD []) = sortedNames es := by
          rintro sn (rfl | rfl) <;> rfl
        cases hN : (sortedNames es)[0]? with
        | some n =>
          have hr := World.predict_readdir_name ho (by rw [hdir, hl _ (.inl rfl)]; exact hN)
          rw [hr, World.core_readdir_name ho (by rw [hdir, hl _ (.inl rfl)]; exact hN),
            World.core_readdir_name ho' (by rw [hdir', hl _ (.inr rfl)]; exact hN), hdir, hdir', hl _ (.inl rfl), hl _ (.inr rfl)]
          exact World.setObj_setObj (s.view pb) d _ _
        | none =>
          have hr := World.predict_readdir_eof ho (by rw [hdir, hl _ (.inl rfl)]; exact hN)
          have hlen : (sortedNames es).length ≤ 0 := by simpa using hN
          rw [hr, World.core_readdir_eof ho (by rw [hdir, hl _ (.inl rfl)]; exact hlen),
            World.core_readdir_eof ho' (by rw [hdir', hl _ (.inr rfl)]; exact hlen), hdir, hdir', hl _ (.inl rfl), hl _ (.inr rfl)]
          exact World.setObj_setObj (s.view pb) d _ _
      unfold stepCall
      simp only [hview, stepLocal, stepEvent, hpred, callSrc, callDst, inFlight_withSnap pb d p _ hobj]
      simp [withParty, withSnap, Shared.view, List.set_set, World.lookupE]
      -- left: the file of the first name in flight, looked up in the two views; `lookup` does not read the handle table
      rfl

end Mdsort.Proofs.Parties
