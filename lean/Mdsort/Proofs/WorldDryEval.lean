import Mdsort.Proofs.WorldExitBasic

/-!
# Evaluating a fault-free run in the kernel

`predict` and `applyOk` sort the names of a directory with `List.mergeSort`, which is defined by
well-founded recursion and is not evaluated by the kernel (`decide +kernel` gets stuck at the first
`readdir` of a fresh stream).  `dry_runNone` is the fault-free interpreter with the snapshot of a fresh
stream computed by an insertion sort before `predict` / `stepWorld` look at it; `dry_runNone_eq`: it
computes exactly `runPlan Plan.none`.  It is used for the evaluated witnesses only.  The prefix `dry_` is the one of the
modules `WorldDry*`, not the subject: the run is any fault-free run, with or without `-d`.
-/

namespace Mdsort.Proofs
open Mdsort Mdsort.Model

def dry_insert (a : Bytes) : List Bytes → List Bytes
  | [] => [a]
  | b :: l => if a ≤ b then a :: b :: l else b :: dry_insert a l

def dry_isort : List Bytes → List Bytes
  | [] => []
  | a :: l => dry_insert a (dry_isort l)

theorem dry_insert_perm (a : Bytes) (l : List Bytes) : (dry_insert a l).Perm (a :: l) := by
  induction l with
  | nil => exact List.Perm.refl _
  | cons b l ih =>
    unfold dry_insert
    split
    · exact List.Perm.refl _
    · exact ((ih.cons b).trans (List.Perm.swap a b l))

theorem dry_isort_perm (l : List Bytes) : (dry_isort l).Perm l := by
  induction l with
  | nil => exact List.Perm.refl _
  | cons a l ih => exact (dry_insert_perm a _).trans (ih.cons a)

theorem dry_insert_sorted (a : Bytes) (l : List Bytes) (h : l.Pairwise (fun x y => x ≤ y)) :
    (dry_insert a l).Pairwise (fun x y => x ≤ y) := by
  induction l with
  | nil => simp [dry_insert]
  | cons b l ih =>
    rw [List.pairwise_cons] at h
    unfold dry_insert
    split
    · rename_i hab
      rw [List.pairwise_cons]
      refine ⟨?_, List.pairwise_cons.2 h⟩
      intro x hx
      rcases List.mem_cons.1 hx with rfl | hx
      · exact hab
      · exact List.le_trans hab (h.1 x hx)
    · rename_i hab
      have hba : b ≤ a := by
        rcases List.le_total a b with h1 | h1
        · exact absurd h1 hab
        · exact h1
      rw [List.pairwise_cons]
      refine ⟨?_, ih h.2⟩
      intro x hx
      rcases List.mem_cons.1 ((dry_insert_perm a l).mem_iff.1 hx) with rfl | hx
      · exact hba
      · exact h.1 x hx

theorem dry_isort_sorted (l : List Bytes) : (dry_isort l).Pairwise (fun x y => x ≤ y) := by
  induction l with
  | nil => simp [dry_isort]
  | cons a l ih => exact dry_insert_sorted a _ ih

theorem dry_isort_eq (l : List Bytes) : l.mergeSort (fun a b => decide (a ≤ b)) = dry_isort l := by
  rw [exit0_mergeSort_perm_eq (dry_isort_perm l).symm]
  exact List.mergeSort_of_pairwise ((dry_isort_sorted l).imp fun h => decide_eq_true h)

def dry_sortedNames (es : List (Bytes × Nat)) : List Bytes :=
  dry_isort (([46] : Bytes) :: ([46, 46] : Bytes) :: es.map (fun e => e.1))

theorem dry_sortedNames_eq (es : List (Bytes × Nat)) : sortedNames es = dry_sortedNames es := dry_isort_eq _

def dry_presnap (w : World) : Call → World
  | .readdir d =>
    match w.obj d with
    | .dir p none pos => w.setObj d (.dir p (some (((w.dir p).map dry_sortedNames).getD [])) pos)
    | _ => w
  | _ => w

theorem dry_presnap_dir (w : World) (c : Call) (p : Bytes) : (dry_presnap w c).dir p = w.dir p := by
  unfold dry_presnap
  split
  · split <;> rfl
  · rfl

theorem dry_snap_eq (w : World) (p : Bytes) :
    ((w.dir p).map dry_sortedNames).getD [] = ((w.dir p).map sortedNames).getD [] := by
  cases w.dir p with
  | none => rfl
  | some es => simp [dry_sortedNames_eq]

theorem dry_predict_presnap (w : World) (c : Call) : predict (dry_presnap w c) c = predict w c := by
  cases c with
  | readdir d =>
    unfold dry_presnap
    dsimp only
    cases ho : w.obj d with
    | dir p snap pos =>
      cases snap with
      | none =>
        dsimp only
        have hlt : d < w.handles.length := World.lt_of_obj_ne_closed w d (by rw [ho]; intro h; cases h)
        simp only [predict, World.obj_setObj, hlt, and_self, if_true, ho, Option.getD_some, Option.getD_none, dry_snap_eq]
      | some names => dsimp only
    | file a b c => dsimp only
    | stream a b => dsimp only
    | other => dsimp only
    | closed => dsimp only
  | _ => rfl

theorem dry_step_presnap (w : World) (c : Call) : stepWorld (dry_presnap w c) c (predict w c) = stepWorld w c (predict w c) := by
  cases c with
  | readdir d =>
    unfold dry_presnap
    dsimp only
    cases ho : w.obj d with
    | dir p snap pos =>
      cases snap with
      | none =>
        dsimp only
        have hlt : d < w.handles.length := World.lt_of_obj_ne_closed w d (by rw [ho]; intro h; cases h)
        have ho' : (w.setObj d (.dir p (some (((w.dir p).map dry_sortedNames).getD [])) pos)).obj d =
            .dir p (some (((w.dir p).map sortedNames).getD [])) pos := by
          rw [World.obj_setObj, if_pos ⟨rfl, hlt⟩, dry_snap_eq]
        cases hget : (((w.dir p).map sortedNames).getD [])[pos]? with
        | some n =>
          have hp := World.predict_readdir_name ho hget
          rw [hp, World.stepWorld_eq, World.stepWorld_eq, World.core_readdir_name ho' hget, World.core_readdir_name ho hget,
            World.setObj_setObj]
          rfl
        | none =>
          have hp := World.predict_readdir_eof ho hget
          rw [hp]
          have hge : pos ≥ (((w.dir p).map sortedNames).getD []).length := by
            have := List.getElem?_eq_none_iff.1 hget
            omega
          rw [World.stepWorld_eq, World.stepWorld_eq, World.core_readdir_eof ho' hge, World.core_readdir_eof ho hge,
            World.setObj_setObj]
          rfl
      | some names => dsimp only
    | file a b c => dsimp only
    | stream a b => dsimp only
    | other => dsimp only
    | closed => dsimp only
  | _ => rfl

def dry_runNone {α} : Prog α → World → α × World
  | .ret a, w => (a, w)
  | .call c k, w =>
    let w0 := dry_presnap w c
    let r := predict w0 c
    dry_runNone (k r) (stepWorld w0 c r)

theorem dry_runNone_eq {α} (p : Prog α) (w : World) (i : Nat) (hist : List World) :
    (runPlan Plan.none p w i hist).1 = (dry_runNone p w).1 ∧ (runPlan Plan.none p w i hist).2.1 = (dry_runNone p w).2 := by
  induction p generalizing w i hist with
  | ret a => exact ⟨rfl, rfl⟩
  | call c k ih =>
    have hr : planResult Plan.none i w c = predict w c := rfl
    simp only [runPlan, dry_runNone, hr, dry_predict_presnap, dry_step_presnap]
    exact ih _ _ _ _

end Mdsort.Proofs
