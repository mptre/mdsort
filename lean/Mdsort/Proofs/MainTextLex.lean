import Mdsort.Proofs.ConfWpl
import Mdsort.Proofs.LexAux

/-!
# Diagnostics of the lexer are diagnostics of the parser

Wherever the parser reads a token (`peek` with no lookahead) a diagnostic of the lexer ends the parse, and an error is never
caught.  Every token the lexer returns WITHOUT a diagnostic is clean (`tokClean`); `tkClean`, `laClean`, `treeClean` say the
same of a grammar terminal, of the parser's lookahead and of a tree: the vocabulary of the pass over the parser,
Proofs/ConfSpec1.lean.  The prefix `mt_` marks facts about a configuration as TEXT that C12 and C14 cite.
-/

namespace Mdsort.Proofs.MainText
open Mdsort Mdsort.Model Mdsort.Proofs.Conf

theorem mt_peek_lex_error (cx : PCtx) (pf sf : Bool) (s : ParseSt) (hla : s.la = none)
    (herr : (lex1 pf sf s.afterMacro s.rest).errors > 0) :
    ∃ s', peek cx pf sf s = .err (lexErrLine cx.nl s.afterMacro s.rest) s' := by
  unfold peek
  simp only [hla, herr, if_true]
  exact ⟨_, rfl⟩

/-- An error passes through every continuation (the parser monad has no handler). -/
theorem mt_bind_err {α β : Type} (m : PM α) (f : α → PM β) (s s' : ParseSt) (l : Nat) (h : m s = .err l s') :
    (m >>= f) s = .err l s' := by
  show PM.bind m f s = _
  unfold PM.bind
  rw [h]

def unitValues : List Nat := Gen.scalars.map (·.2)

def tokClean : Token → Bool
  | .pattern _ _ l u => !(l && u)
  | .int n => decide (n < 2 ^ 32)
  | .scalar (some v) => unitValues.contains v
  | .scalar none => false
  | _ => true

/-- `patFlags` only adds diagnostics, and it returns `l` and `u` both set only if both were set on entry or it added one. -/
theorem mt_patFlags_lu (fuel : Nat) (s : Bytes) (i l u : Bool) (e : Nat) :
    e ≤ (patFlags fuel s i l u e).2.2 ∧
    (((patFlags fuel s i l u e).1.2.1 && (patFlags fuel s i l u e).1.2.2) = true →
      (l && u) = true ∨ e < (patFlags fuel s i l u e).2.2) := by
  fun_induction patFlags fuel s i l u e  -- 1 no budget, 2 `i`, 3 `l`, 4 `u`, 5 anything else
  case case1 => exact ⟨Nat.le_refl _, fun h => Or.inl h⟩
  case case2 ih => exact ih
  case case3 fuel i l u e r ih =>
    cases u
    · simp only [Bool.false_eq_true, if_false, Bool.and_false] at ih ⊢
      -- the other flag is not set: the first alternative of the hypothesis of the call is `False`
      exact ⟨ih.1, fun h => Or.inr ((ih.2 h).resolve_left id)⟩
    · simp only [if_true, Bool.and_true] at ih ⊢
      exact ⟨by omega, fun _ => Or.inr (by omega)⟩
  case case4 fuel i l u e r ih =>
    cases l
    · simp only [Bool.false_eq_true, if_false, Bool.false_and] at ih ⊢
      -- the other flag is not set: the first alternative of the hypothesis of the call is `False`
      exact ⟨ih.1, fun h => Or.inr ((ih.2 h).resolve_left id)⟩
    · simp only [if_true, Bool.true_and] at ih ⊢
      exact ⟨by omega, fun _ => Or.inr (by omega)⟩
  case case5 => exact ⟨Nat.le_refl _, fun h => Or.inl h⟩

theorem mt_lexDigits_bound (fuel : Nat) (s : Bytes) (n : Nat) (ovf : Bool) (e : Nat) (h : n < 2 ^ 32) :
    (lexDigits fuel s n ovf e).1 < 2 ^ 32 := by
  fun_induction lexDigits fuel s n ovf e
  -- 1 no budget, 2 a digit after an overflow, 3 the digit that overflows, 4 a digit, 5 no digit, 6 end of input
  case case1 => exact h
  case case2 ih => exact ih h
  case case3 ih => exact ih (Nat.mod_lt _ (by decide))
  case case4 hno ih =>
    apply ih
    simp only [Bool.or_eq_true, decide_eq_true_eq, not_or, Nat.not_le] at hno
    exact hno.2
  case case5 => exact h
  case case6 => exact h

theorem mt_lexTok_clean (pf sf : Bool) (c : UInt8) (r : Bytes) (e0 : Nat)
    (h : (lex1.lexTok pf sf c r e0).errors = 0) : tokClean (lex1.lexTok pf sf c r e0).tok = true := by
  revert h
  fun_cases lex1.lexTok pf sf c r e0  -- the numbering: Proofs/LexAux.lean, `lexTok_suffix`
  -- a pattern with its flags
  case case6 lexeme rest _ i l u rest2 e hpf =>
    intro h
    have hp := mt_patFlags_lu (rest.length + 1) rest false false false 0
    rw [hpf] at hp
    simp only [tokClean, Bool.not_eq_true']
    cases hlu : (l && u)
    · rfl
    · rcases hp.2 hlu with h' | h'
      · cases h'
      · simp only at h h'; omega
  -- an integer
  case case7 n rest e hd =>
    intro _
    have hb := mt_lexDigits_bound (r.length + 2) (c :: r) 0 false 0 (by decide)
    rw [hd] at hb
    simpa [tokClean] using hb
  -- a word that names exactly one unit; a word that is a prefix of several
  case case11 name v hms =>
    intro _
    simp only [tokClean, unitValues, List.contains_iff_mem, List.mem_map]
    have hmem : (name, v) ∈ [(name, v)] := by simp
    rw [← hms] at hmem
    exact ⟨(name, v), (List.mem_filter.1 hmem).1, rfl⟩
  case case12 => intro h; simp at h
  -- every other branch returns a token that `tokClean` accepts whatever it carries
  all_goals exact fun _ => rfl

theorem mt_lex_clean (pf sf am : Bool) (input : Bytes) (h : (lex1 pf sf am input).errors = 0) :
    tokClean (lex1 pf sf am input).tok = true :=
  LexAux.lex1_ind (P := fun _ res => res.errors = 0 → tokClean res.tok = true) pf sf am (fun _ _ _ => rfl) (fun _ _ _ _ _ _ => rfl)
    (fun _ _ _ _ _ => mt_lexTok_clean _ _ _ _ _) (fun _ _ _ _ _ _ _ _ _ ih h => ih (Nat.eq_zero_of_add_eq_zero_right h)) input h

/-- Error class "`l' and `u' flags cannot be combined". -/
theorem mt_lex_pattern_lu (pf sf am : Bool) (input src : Bytes) (i : Bool)
    (h : (lex1 pf sf am input).tok = .pattern src i true true) : (lex1 pf sf am input).errors > 0 := by
  cases he : (lex1 pf sf am input).errors with
  | zero =>
    have := mt_lex_clean pf sf am input he
    rw [h] at this
    cases this
  | succ n => omega

/-- Error class "ambiguous keyword" (a unit that is a prefix of several units, like `m`). -/
theorem mt_lex_unit_ambiguous (pf sf am : Bool) (input : Bytes)
    (h : (lex1 pf sf am input).tok = .scalar none) : (lex1 pf sf am input).errors > 0 := by
  cases he : (lex1 pf sf am input).errors with
  | zero =>
    have := mt_lex_clean pf sf am input he
    rw [h] at this
    cases this
  | succ n => omega

/-- Where a unit is expected, anything but a unit token is a syntax error (an unknown unit is lexed as a
MACRO token): `parseScalar` fails on the line of that token. -/
theorem mt_parseScalar_not_unit (cx : PCtx) (s : ParseSt) (t : Tk) (hla : s.la = some t)
    (ht : ∀ v, t ≠ .scalar (some v)) : parseScalar cx s = .err s.tokLine s := by
  unfold parseScalar
  show PM.bind (peek cx false true) _ s = _
  simp only [PM.bind, peek, hla]
  cases t with
  | scalar v =>
    cases v with
    | none => rfl
    | some v => exact absurd rfl (ht v)
  | _ => rfl

/-- An integer token the lexer returns without a diagnostic is below 2^32 ("integer too large" is the lexer's
diagnostic for the literal: `Proofs.lex_int`; the product `n * unit` is checked by `parseDate`, not here). -/
theorem mt_lex_int_bound (pf sf am : Bool) (input : Bytes) (n : Nat)
    (h : (lex1 pf sf am input).tok = .int n) : (lex1 pf sf am input).errors > 0 ∨ n < 2 ^ 32 := by
  cases he : (lex1 pf sf am input).errors with
  | zero =>
    have := mt_lex_clean pf sf am input he
    rw [h] at this
    right
    simpa [tokClean] using this
  | succ n => left; omega

def tkClean : Tk → Bool
  | .pat p => !(p.lcase && p.ucase)
  | .int n => decide (n < 2 ^ 32)
  | .scalar (some v) => unitValues.contains v
  | .scalar none => false
  | _ => true

theorem mt_tkClean_ofToken (t : Token) (h : tokClean t = true) : tkClean (Tk.ofToken t) = true := by
  cases t with
  | pattern src i l u => simp only [Tk.ofToken, tkClean]; exact h
  | int n => simpa [Tk.ofToken, tkClean, tokClean] using h
  | scalar v =>
    cases v with
    | none => cases h
    | some v => exact h
  | keyword n => rcases ofToken_keyword n with ⟨k, _, e⟩ | e <;> rw [e] <;> rfl
  | char c => rcases ofToken_char c with ⟨_, e⟩ | ⟨_, e⟩ | ⟨_, e⟩ | ⟨_, e⟩ | ⟨_, e⟩ | ⟨_, e⟩ | ⟨_, e⟩ | e <;> rw [e] <;> rfl
  | _ => rfl

def laClean (s : ParseSt) : Prop := ∀ t, s.la = some t → tkClean t = true

/-- Nothing is claimed of the state in which a diagnostic is reported. -/
abbrev AnyErr : ParseSt → Prop := fun _ => True

/-- `p` keeps the lookahead clean and returns a value satisfying `W` (when it returns one).  It stands for itself: the
parser functions are proved for `Conf.Acc` (Proofs/ConfSpec1.lean), which asks for more, and no lemma passes from `Acc` to this. -/
def Safe {α : Type} (p : PM α) (W : α → Prop) : Prop :=
  ∀ s, laClean s → wp p (fun a s' => laClean s' ∧ W a) AnyErr True s

variable {α : Type}

theorem Safe.weaken {p : PM α} {W W' : α → Prop} (h : Safe p W) (hw : ∀ a, W a → W' a) : Safe p W' :=
  fun s hs => wp_mono (h s hs) (fun a _ ⟨h1, h2⟩ => ⟨h1, hw a h2⟩) (fun _ h => h)

theorem laClean_afterLex (cx : PCtx) (pf sf : Bool) (s : ParseSt) (h : (lex1 pf sf s.afterMacro s.rest).errors = 0) :
    laClean (afterLex cx pf sf s) := by
  intro t ht
  simp only [afterLex, Option.some.injEq] at ht
  rw [← ht]
  exact mt_tkClean_ofToken _ (mt_lex_clean pf sf s.afterMacro s.rest h)

/-- An age the grammar can produce from clean tokens. -/
def ageOK (age : Nat) : Prop := ∃ n v, age = n * v ∧ n < 2 ^ 32 ∧ v ∈ unitValues

/-- What `tkClean` of its tokens means for a leaf. -/
def leafClean : Expr → Prop
  | .body _ p => (p.lcase && p.ucase) = false
  | .header _ _ p => (p.lcase && p.ucase) = false
  | .date _ _ _ age => ageOK age
  | _ => True

def treeClean : CTree → Prop
  | .leaf e => leafClean e
  | .block _ b => treeClean b
  | .emptyBlock _ => True
  | .and _ l r => treeClean l ∧ treeClean r
  | .or _ l r => treeClean l ∧ treeClean r
  | .mtch _ l r => treeClean l ∧ treeClean r
  | .neg _ e => treeClean e
  | .attachment _ e => treeClean e
  | .attBlock _ e => treeClean e

end Mdsort.Proofs.MainText
