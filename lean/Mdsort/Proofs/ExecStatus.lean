import Mdsort.Proofs.GenBridge
import Mdsort.Proofs.WorldOwn
import Mdsort.Proofs.EvalLeaves

/-!
# The status of a child: `exec()` (util.c), the `command` condition (expr.c) and the `exec` action (match.c)

* `Model.execStatus` is the tail of `exec()` on the raw wait status (`WIFEXITED` / `WEXITSTATUS` / 127 -> -1 /
  `WIFSIGNALED` -> 128 + signal); this file characterises its sign for EVERY wait status.
* `expr_eval_command` maps the value of `exec()`: `0` match, `< 0` error, `> 0` no match (`commandTri`); `eval_command`
  (Proofs/EvalLeaves.lean) shows that this is exactly what `Model.eval` computes for a `command` node.
* `matches_exec` treats every non-zero value of `exec()` as an error of the message; `execOne_bad_child` shows it on the
  trace of calls (arbitrary call results), also when the command reads the message / the body / a part on standard input.
-/

namespace Mdsort.Proofs

open Mdsort Mdsort.Model
open Mdsort.Proofs.World (bind_eq pure_eq call_bind Calls)
open Mdsort.Proofs.Own

/-- How a wait status reads (`<sys/wait.h>`): exited with a code, killed by a signal, or stopped (the latter is
never reported by `waitpid(pid, &status, 0)`). -/
inductive WaitKind where
  | exited (code : Nat)
  | signaled (sig : Nat)
  | stopped
deriving Repr, DecidableEq

def waitKind (status : Nat) : WaitKind :=
  if wifexited status then .exited (wexitstatus status)
  else if wifsignaled status then .signaled (wtermsig status)
  else .stopped

theorem waitKind_exited_lt {s c : Nat} (h : waitKind s = .exited c) : c < 256 := by
  unfold waitKind at h
  split at h
  · injection h with h; subst h; unfold wexitstatus; omega
  · split at h <;> cases h

theorem waitKind_signaled_range {s g : Nat} (h : waitKind s = .signaled g) : 1 ≤ g ∧ g ≤ 126 := by
  unfold waitKind at h
  split at h
  · cases h
  · rename_i hne
    split at h
    · rename_i hs
      injection h with h; subst h
      simp only [wifexited, wifsignaled, wtermsig, beq_iff_eq, bne_iff_ne, Bool.and_eq_true, ne_eq] at hne hs ⊢
      omega
    · cases h

/-- What the three results `exec()` consumes amount to. -/
inductive ChildOutcome where
  | cannotRun                      -- /dev/null cannot be opened, `fork` failed or `waitpid` failed
  | waited (k : WaitKind)
deriving Repr, DecidableEq

def childOutcome (devnullOk : Bool) (forkRes waitRes : Res) : ChildOutcome :=
  if !devnullOk then .cannotRun
  else match forkRes with
    | .ok _ =>
      match waitRes with
      | .ok status => .waited (waitKind status)
      | _ => .cannotRun
    | _ => .cannotRun

/-- The documented meaning of an outcome for the caller of `exec()`: `0` = ran and exited 0, negative = fatal (could not
be run: no /dev/null, no fork, no waitpid, or the child's `execvp` failed = exit 127), positive = ran and did not exit 0. -/
def outcomeValue : ChildOutcome → Int
  | .cannotRun => -1
  | .waited (.exited c) => if c = 127 then -1 else (c : Int)
  | .waited (.signaled g) => ((128 + g : Nat) : Int)
  | .waited .stopped => 1

theorem execStatus_kind (s : Nat) : execStatus s = outcomeValue (.waited (waitKind s)) := by
  unfold execStatus waitKind
  by_cases he : wifexited s = true
  · have hs : wifsignaled s = false := by
      simp only [wifexited, wifsignaled, beq_iff_eq] at he ⊢
      simp [he]
    simp only [he, hs, if_true, Bool.false_eq_true, if_false, beq_iff_eq, Gen_execFatalExit_eq, Gen_execFatalValue_eq,
      outcomeValue]
  · have he' : wifexited s = false := by simpa using he
    by_cases hs : wifsignaled s = true
    · simp only [he', hs, if_true, Bool.false_eq_true, if_false, Gen_execSignalBase_eq, outcomeValue]
    · have hs' : wifsignaled s = false := by simpa using hs
      simp only [he', hs', Bool.false_eq_true, if_false, Gen_execInitialValue_eq, outcomeValue]

theorem execValue_outcome (d : Bool) (f w : Res) : execValue d f w = outcomeValue (childOutcome d f w) := by
  unfold execValue childOutcome
  cases d
  · rfl
  · cases f <;> try rfl
    cases w <;> try rfl
    simp only [Bool.not_true, Bool.false_eq_true, if_false, execStatus_kind]

theorem commandTri_match_iff (rc : Int) : commandTri rc = .match ↔ rc = 0 := by
  unfold commandTri
  by_cases h : rc = 0
  · simp [h]
  · by_cases h2 : rc < 0 <;> simp [h, h2]

theorem commandTri_error_iff (rc : Int) : commandTri rc = .error ↔ rc < 0 := by
  unfold commandTri
  by_cases h : rc = 0
  · simp [h]
  · by_cases h2 : rc < 0 <;> simp [h, h2]

theorem commandTri_nomatch_iff (rc : Int) : commandTri rc = .nomatch ↔ 0 < rc := by
  unfold commandTri
  by_cases h : rc = 0
  · simp [h]
  · by_cases h2 : rc < 0
    · simp only [beq_iff_eq, h, if_false, h2, if_true, reduceCtorEq, false_iff]; omega
    · simp only [beq_iff_eq, h, if_false, h2, true_iff]; omega

/-- The verdict of a `command` condition for every outcome of the child. -/
def outcomeTri : ChildOutcome → Tri
  | .cannotRun => .error
  | .waited (.exited c) => if c = 0 then .match else if c = 127 then .error else .nomatch
  | .waited (.signaled _) => .nomatch
  | .waited .stopped => .nomatch

theorem commandTri_outcome (o : ChildOutcome) : commandTri (outcomeValue o) = outcomeTri o := by
  cases o with
  | cannotRun => rfl
  | waited k =>
    cases k with
    | exited c =>
      unfold outcomeValue outcomeTri
      by_cases h0 : c = 0
      · subst h0; rfl
      · by_cases h1 : c = 127
        · subst h1; rfl
        · simp only [h0, h1, if_false]
          rw [commandTri_nomatch_iff]; omega
    | signaled g =>
      show commandTri ((128 + g : Nat) : Int) = .nomatch
      rw [commandTri_nomatch_iff]; omega
    | stopped => rfl

theorem eval_command_outcome (env : Env) (root : Msg) (lno : Nat) (argv av : List Bytes) (part : Nat) (m : Msg) (st : St)
    (hav : argv.mapM (interpolate st.ml none) = some av) (d : Bool) (f w : Res) (hrc : env.command av = execValue d f w) :
    eval env root (.command lno argv) part m st = (outcomeTri (childOutcome d f w), st) := by
  rw [eval_command, hav]
  simp only [hrc, execValue_outcome, commandTri_outcome]

theorem outcomeTri_iff (o : ChildOutcome) :
    (outcomeTri o = .match ↔ o = .waited (.exited 0)) ∧
    (outcomeTri o = .error ↔ o = .cannotRun ∨ o = .waited (.exited 127)) ∧
    (outcomeTri o = .nomatch ↔
      (∃ c, o = .waited (.exited c) ∧ c ≠ 0 ∧ c ≠ 127) ∨ (∃ g, o = .waited (.signaled g)) ∨ o = .waited .stopped) := by
  cases o with
  | cannotRun => simp [outcomeTri]
  | waited k =>
    cases k with
    | exited c =>
      unfold outcomeTri
      by_cases h0 : c = 0
      · subst h0; simp
      · by_cases h1 : c = 127 <;> simp [h0, h1]
    | signaled g => simp [outcomeTri]
    | stopped => simp [outcomeTri]

theorem outcomeTri_match_iff (o : ChildOutcome) : outcomeTri o = .match ↔ o = .waited (.exited 0) :=
  (outcomeTri_iff o).1

theorem outcomeTri_error_iff (o : ChildOutcome) : outcomeTri o = .error ↔ o = .cannotRun ∨ o = .waited (.exited 127) :=
  (outcomeTri_iff o).2.1

theorem outcomeTri_nomatch_iff (o : ChildOutcome) :
    outcomeTri o = .nomatch ↔
      (∃ c, o = .waited (.exited c) ∧ c ≠ 0 ∧ c ≠ 127) ∨ (∃ g, o = .waited (.signaled g)) ∨ o = .waited .stopped :=
  (outcomeTri_iff o).2.2

theorem execStatus_eq_zero_iff (s : Nat) : execStatus s = 0 ↔ waitKind s = .exited 0 := by
  rw [← commandTri_match_iff, execStatus_kind, commandTri_outcome, outcomeTri_match_iff, ChildOutcome.waited.injEq]

theorem execStatus_neg_iff (s : Nat) : execStatus s < 0 ↔ waitKind s = .exited 127 := by
  rw [← commandTri_error_iff, execStatus_kind, commandTri_outcome, outcomeTri_error_iff]
  simp only [reduceCtorEq, false_or, ChildOutcome.waited.injEq]

theorem execStatus_pos_iff (s : Nat) :
    0 < execStatus s ↔
      (∃ c, waitKind s = .exited c ∧ c ≠ 0 ∧ c ≠ 127) ∨ (∃ g, waitKind s = .signaled g) ∨ waitKind s = .stopped := by
  rw [← commandTri_nomatch_iff, execStatus_kind, commandTri_outcome, outcomeTri_nomatch_iff]
  simp only [ChildOutcome.waited.injEq]

theorem execStatus_signaled {s g : Nat} (h : waitKind s = .signaled g) : execStatus s = ((128 + g : Nat) : Int) := by
  rw [execStatus_kind, h]
  rfl

theorem execStatus_exited {s c : Nat} (h : waitKind s = .exited c) (hc : c ≠ 127) : execStatus s = (c : Int) := by
  rw [execStatus_kind, h]
  exact if_neg hc

theorem childOutcome_waited_iff (d : Bool) (f w : Res) (k : WaitKind) :
    childOutcome d f w = .waited k ↔ d = true ∧ ∃ pid s, f = .ok pid ∧ w = .ok s ∧ waitKind s = k := by
  unfold childOutcome
  cases d
  · simp
  · cases f <;> simp
    cases w <;> simp

theorem childOutcome_cannotRun_iff (d : Bool) (f w : Res) :
    childOutcome d f w = .cannotRun ↔ d = false ∨ (∀ pid, f ≠ .ok pid) ∨ (∀ s, w ≠ .ok s) := by
  unfold childOutcome
  cases d
  · simp
  · cases f <;> simp
    cases w <;> simp

theorem execP_none_value (argv : List Bytes) (orc : Nat → Call → Res) :
    (runOracle orc (execP argv none) 0 []).1 =
      execValue (match orc 0 (.openPath (ofString "/dev/null")) with | .ok _ => true | _ => false)
        (orc 1 (.fork argv (Own.okHandle (orc 0 (.openPath (ofString "/dev/null")))))) (orc 2 .waitpid) := by
  rw [runOracle_eq, Own.execP_run]
  dsimp only
  cases orc 0 (.openPath (ofString "/dev/null")) <;> rfl

def forkFailed (r : Res) : Prop := ∀ v, r ≠ .ok v

/-- A result of `waitpid` that is not "the child exited with status 0"; a failed `waitpid` is one. -/
def waitBad (r : Res) : Prop := ∀ s, r = .ok s → waitKind s ≠ .exited 0

/-- Somewhere in the trace a `fork` failed or a `waitpid` reported anything but "exited 0". -/
def BadChild (tr : Trace) : Prop :=
  (∃ c r, (c, r) ∈ tr ∧ c.isFork = true ∧ forkFailed r) ∨ (∃ r, (Call.waitpid, r) ∈ tr ∧ waitBad r)

def NoProc : Call → Prop
  | .fork .. | .waitpid => False
  | _ => True

/-- A call that makes a trace `BadChild`. -/
def BadCall (x : Call × Res) : Prop := (x.1.isFork = true ∧ forkFailed x.2) ∨ (x.1 = .waitpid ∧ waitBad x.2)

theorem badChild_iff (tr : Trace) : BadChild tr ↔ ∃ x ∈ tr, BadCall x := by
  constructor
  · rintro (⟨c, r, h, hc, hf⟩ | ⟨r, h, hf⟩)
    · exact ⟨_, h, .inl ⟨hc, hf⟩⟩
    · exact ⟨_, h, .inr ⟨rfl, hf⟩⟩
  · rintro ⟨⟨c, r⟩, h, ⟨hc, hf⟩ | ⟨hc, hf⟩⟩
    · exact .inl ⟨c, r, h, hc, hf⟩
    · cases hc
      exact .inr ⟨r, h, hf⟩

theorem NoProc.not_bad {c : Call} (h : NoProc c) (r : Res) : ¬ BadCall (c, r) := by
  rintro (⟨hc, -⟩ | ⟨hc, -⟩)
  · obtain ⟨_, _, rfl⟩ := Call.isFork_iff.1 hc
    exact h
  · cases hc
    exact h

theorem NoProc.of_kind {K : List World.Kind} (hK : ∀ k ∈ K, k ∉ [.fork, .waitpid]) {c : Call} (h : c.kind ∈ K) : NoProc c := by
  -- `NoProc` is `True` of every constructor but `fork` and `waitpid`, whose kinds `hK` excludes
  cases c <;> first | exact True.intro | exact (hK _ h (World.Kind.mem rfl)).elim

theorem everyRun_noproc {α} {p : Prog α} (hc : Calls NoProc p) : EveryRun p fun _ L => ∀ x ∈ L, ¬ BadCall x :=
  (EveryRun.of_calls hc).mono fun _ _ h x hx => NoProc.not_bad (h x hx) x.2

/-- `fork` and `waitpid` as `exec()` issues them. -/
theorem everyRun_forkWait (argv : List Bytes) (s : Handle) :
    EveryRun (Prog.call (.fork argv s) fun r =>
        match r with
        | .ok _ => Prog.call .waitpid fun w =>
          match w with
          | .ok status => Prog.ret (execStatus status)
          | _ => Prog.ret (-1 : Int)
        | _ => Prog.ret (-1 : Int))
      (fun res L => res = 0 → ∀ x ∈ L, ¬ BadCall x) := by
  intro r
  cases r with
  | ok v =>
    intro w
    cases w with
    | ok st =>
      intro h0
      refine List.forall_mem_cons.2 ⟨?_, List.forall_mem_cons.2 ⟨?_, List.forall_mem_nil _⟩⟩
      · rintro (⟨-, hf⟩ | ⟨hc, -⟩)
        · exact hf v rfl
        · cases hc
      · rintro (⟨hc, -⟩ | ⟨-, hw⟩)
        · cases hc
        · exact hw st rfl ((execStatus_eq_zero_iff st).1 h0)
    | _ => exact fun h => absurd h (by decide)
  | _ => exact fun h => absurd h (by decide)

theorem everyRun_execP (argv : List Bytes) (fdin : Option Handle) :
    EveryRun (execP argv fdin) (fun rc L => rc = 0 → ∀ x ∈ L, ¬ BadCall x) := by
  unfold execP
  simp only [bind_eq, pure_eq, call_bind]
  refine EveryRun.bind ((everyRun_noproc (by repeat' kinds_step)).mono fun dn L1 h1 => ?_)
  cases dn with
  | none => exact fun h => absurd h (by decide)
  | some devnull =>
    refine EveryRun.bind ((everyRun_forkWait argv _).mono fun res L2 h2 => ?_)
    have fin : ∀ L3 : Trace, (∀ x ∈ L3, ¬ BadCall x) → res = 0 → ∀ x ∈ L1 ++ (L2 ++ L3), ¬ BadCall x :=
      fun L3 h3 h0 => List.forall_mem_append.2 ⟨h1, List.forall_mem_append.2 ⟨h2 h0, h3⟩⟩
    -- /dev/null is closed if it was opened here
    cases devnull with
    | none => exact fin [] (List.forall_mem_nil _)
    | some h => exact fun r3 => fin [_] (List.forall_mem_singleton.2 (NoProc.not_bad (c := .close h) True.intro r3))

theorem everyRun_execOne_exec (env : PEnv) (mh : Match) (st : ExecSt) (hty : mh.ty = .exec) :
    EveryRun (execOne env mh st) (fun x L => x.2 = false → ∀ y ∈ L, ¬ BadCall y) := by
  rw [World.execOne_exec env mh st hty]
  -- `message_get_fd` (the whole message, the decoded body or a re-serialised part in a temporary file) neither forks nor waits
  refine EveryRun.bind ((everyRun_noproc (by
    refine World.Calls.ite (World.Calls.bind ?_ fun _ => trivial) trivial
    exact (World.kinds_messageGetFd _ _ _ _).mono fun _ => NoProc.of_kind (by decide))).mono fun fdr L1 h1 => ?_)
  cases fdr with
  | none => exact fun h => nomatch h
  | some fd =>
    refine EveryRun.bind ((everyRun_execP mh.argv fd).mono fun rc L2 h2 => ?_)
    have fin : ∀ L3 : Trace, (∀ y ∈ L3, ¬ BadCall y) → (rc != 0) = false → ∀ y ∈ L1 ++ (L2 ++ L3), ¬ BadCall y :=
      fun L3 h3 h0 => List.forall_mem_append.2 ⟨h1, List.forall_mem_append.2 ⟨h2 (by simpa using h0), h3⟩⟩
    cases fd with
    | none => exact fin [] (List.forall_mem_nil _)
    | some h => exact fun r3 => fin [_] (List.forall_mem_singleton.2 (NoProc.not_bad (c := .close h) True.intro r3))

theorem execOne_bad_child (env : PEnv) (mh : Match) (st : ExecSt) (orc : Nat → Call → Res) (hty : mh.ty = .exec)
    (hb : BadChild (runOracle orc (execOne env mh st) 0 []).2) :
    (runOracle orc (execOne env mh st) 0 []).1.2 = true := by
  rw [runOracle_eq, List.nil_append] at hb
  rw [runOracle_eq]
  obtain ⟨x, hx, hbad⟩ := (badChild_iff _).1 hb
  cases h : (runO orc (execOne env mh st) 0).1.2 with
  | true => rfl
  | false => exact absurd hbad ((everyRun_execOne_exec env mh st hty).runO orc 0 h x hx)

end Mdsort.Proofs
