import Mdsort.Model.Dest
import Mdsort.Proofs.DestSlice

/-!
# C09: destination of a sequence of move / flag / flags actions

`matchesAppend` on the entries of move/flag/flags actions, characterised through the view
`matches_merge` has of the list (type of the last entry, the move entries, the flag entries), and
the invariant that links this view to the counters of `Spec.destOK`.
-/

namespace Mdsort.Proofs.Dest
open Mdsort Mdsort.Model Mdsort.Spec

def ofTy (t : MType) (ml : MatchList) : MatchList := ml.filter (·.ty == t)

theorem ofTy_append (t : MType) (a b : MatchList) : ofTy t (a ++ b) = ofTy t a ++ ofTy t b := by
  simp [ofTy]

theorem ofTy_single (t : MType) (e : Match) : ofTy t [e] = if e.ty = t then [e] else [] := by
  by_cases h : e.ty = t <;> simp [ofTy, h]

theorem ofTy_snoc_same (t : MType) (ml : MatchList) (e : Match) (h : e.ty = t) : ofTy t (ml ++ [e]) = ofTy t ml ++ [e] := by
  rw [ofTy_append, ofTy_single, if_pos h]

theorem ofTy_snoc_other (t : MType) (ml : MatchList) (e : Match) (h : e.ty ≠ t) : ofTy t (ml ++ [e]) = ofTy t ml := by
  rw [ofTy_append, ofTy_single, if_neg h, List.append_nil]

theorem matchesFind_eq (ml : MatchList) (t : MType) : matchesFind ml t = (ofTy t ml).head? :=
  List.head?_filter.symm

theorem ofTy_removeFirst_same (t : MType) (ml : MatchList) : ofTy t (removeFirst ml t) = (ofTy t ml).tail := by
  fun_induction removeFirst ml t with
  | case1 => rfl
  | case2 m r h => simp [ofTy, h]
  | case3 m r h ih =>
    rw [ofTy] at ih ⊢
    simp [ofTy, h, ih]

theorem ofTy_removeFirst_other (t t' : MType) (ht : t' ≠ t) (ml : MatchList) :
    ofTy t' (removeFirst ml t) = ofTy t' ml := by
  fun_induction removeFirst ml t with
  | case1 => rfl
  | case2 m r h =>
    have : (m.ty == t') = false := by
      rw [beq_iff_eq.1 h, beq_eq_false_iff_ne]
      exact fun h => ht h.symm
    simp [ofTy, this]
  | case3 m r h ih =>
    simp only [ofTy] at ih ⊢
    simp [List.filter_cons, ih]

def lastTy (ml : MatchList) : Option MType := ml.getLast?.map (·.ty)

theorem lastTy_snoc (ml : MatchList) (e : Match) : lastTy (ml ++ [e]) = some e.ty := by
  simp [lastTy]

theorem lastTy_eq_some {ml : MatchList} {t : MType} (h : lastTy ml = some t) : ∃ o l, ml = o ++ [l] ∧ l.ty = t := by
  obtain ⟨l, hg, hl⟩ := Option.map_eq_some_iff.1 h
  obtain ⟨o, rfl⟩ := List.getLast?_eq_some_iff.1 hg
  exact ⟨o, l, rfl, hl⟩

/-- The two halves of a destination.  A `move` entry sets the maildir and a `flag` entry the subdirectory; each takes
the other half from an entry of the other kind, and `matches_merge` treats the two alike.  So everything below is said
once for a half `k`: `k.pick a b` is `a` for the maildir half and `b` for the subdirectory half. -/
inductive Half | md | sd

namespace Half

abbrev pick {α : Sort u} : Half → α → α → α
  | md, a, _ => a
  | sd, _, b => b

abbrev other (k : Half) : Half := k.pick sd md
abbrev ty (k : Half) : MType := k.pick .move .flag
abbrev kind (k : Half) : PathKind := k.pick .move .flag
abbrev act (k : Half) (x : Bytes) : PathAction := k.pick (.move x) (.flag x)
abbrev get (k : Half) (e : Match) : Bytes := k.pick e.maildir e.subdir
abbrev set (k : Half) (e : Match) (x : Bytes) : Match := k.pick { e with maildir := x } { e with subdir := x }

theorem forall_of (k : Half) {P : Half → Prop} (h1 : P k) (h2 : P k.other) : ∀ h, P h := by
  cases k <;> intro h <;> cases h <;> assumption

theorem other_ty_ne (k : Half) : k.other.ty ≠ k.ty := by cases k <;> decide

end Half

theorem removeFirst_of_ofTy_nil (t : MType) (ml : MatchList) (h : ofTy t ml = []) : removeFirst ml t = ml := by
  fun_induction removeFirst ml t with
  | case1 => rfl
  | case2 m r hx => simp [ofTy, hx] at h
  | case3 m r hx ih =>
    rw [ofTy, List.filter_cons, if_neg hx] at h
    rw [ih h]

/-- `matches_merge` on a move / flag entry: straight after an entry of its own type it takes that entry's place;
otherwise the oldest entry of the other type (if there is one) leaves the list and hands over its half. -/
theorem merge_half (k : Half) (ml : MatchList) (mh : Match) (hty : mh.ty = k.ty) :
    matchesMerge ml mh =
      if lastTy ml = some k.ty then (ml.dropLast, mh)
      else (removeFirst ml k.other.ty,
        k.other.set mh (((ofTy k.other.ty ml).head?.map k.other.get).getD (k.other.get mh))) := by
  have hm : (mh.ty == MType.move) = k.pick true false := by rw [hty]; cases k <;> rfl
  have hot : (if k.pick true false = true then MType.flag else .move) = k.other.ty := by cases k <;> rfl
  unfold matchesMerge lastTy
  rw [if_neg (by rw [hty]; cases k <;> decide)]
  cases hg : ml.getLast? with
  | none =>
    rw [List.getLast?_eq_none_iff.1 hg]
    cases k <;> rfl
  | some l =>
    simp only [hm, hot, Option.map_some, Option.some.injEq, matchesFind_eq]
    by_cases hl : l.ty = k.ty
    · rw [if_pos (by rw [hty, hl]; exact beq_self_eq_true _), if_pos hl]
    · rw [if_neg (by rw [hty]; simpa using hl), if_neg hl]
      cases hf : (ofTy k.other.ty ml).head? with
      | none =>
        rw [removeFirst_of_ofTy_nil _ ml (List.head?_eq_none_iff.1 hf)]
        cases k <;> rfl
      | some d => cases k <;> rfl

theorem merge_flags (ml : MatchList) (mh : Match) (hty : mh.ty = .flags) : matchesMerge ml mh = (ml, mh) := by
  unfold matchesMerge
  simp [hty]

/-- What `matches_append` needs from the message path: both slices exist, and here they are named, since the destination
is stated with them.  (`PCtx` of EvalList asks for the same two slices with bounds on their lengths instead.) -/
structure Ctx (env : Env) (m0 s0 : Bytes) : Prop where
  hm : pathslice env.path PATH_MAX 0 (-2) = some m0
  hs : pathslice env.path NAME_MAX1 (-2) (-2) = some s0

/-- An empty `mh_maildir` / `mh_subdir` is inferred from the message path. -/
def fill (a b : Bytes) : Bytes := if a.isEmpty then b else a

theorem fill_nil (b : Bytes) : fill [] b = b := rfl
theorem fill_ne (a b : Bytes) (h : a ≠ []) : fill a b = a := by
  cases a with
  | nil => exact absurd rfl h
  | cons x r => rfl

theorem append_of_merge {env : Env} {m0 s0 : Bytes} (ctx : Ctx env m0 s0) (ml ml1 : MatchList) (mh mh1 : Match)
    (md sd : Bytes) (hm : matchesMerge ml mh = (ml1, mh1)) (hp : mh1.ty.isPath = true)
    (hmd : fill mh1.maildir m0 = md) (hsd : fill mh1.subdir s0 = sd) (hfit : md.length + 1 + sd.length < PATH_MAX) :
    matchesAppend env ml mh = (ml1 ++ [{ mh1 with maildir := md, subdir := sd, path := md ++ [47] ++ sd }], false) := by
  have hj : pathjoin PATH_MAX md sd = some (md ++ [47] ++ sd) := by
    rw [pathjoin, if_neg (by simp only [List.length_append, List.length_cons, List.length_nil]; omega)]
  unfold fill at hmd hsd
  unfold matchesAppend
  simp only [hm, hp, ctx.hm, ctx.hs, ← apply_ite some, hmd, hsd, hj, Bool.not_true, Bool.false_eq_true, if_false]

/-- The entry an action leaves in the list. -/
def mkEntry (lno part : Nat) (a : PathAction) (md sd : Bytes) : Match :=
  { pathEntry lno part a with maildir := md, subdir := sd, path := md ++ [47] ++ sd }

theorem isPath_move : MType.isPath .move = true := by decide +kernel
theorem isPath_flag : MType.isPath .flag = true := by decide +kernel
theorem isPath_flags : MType.isPath .flags = true := by decide +kernel

section
variable {env : Env} {m0 s0 : Bytes} (ctx : Ctx env m0 s0) (ml : MatchList) (lno part : Nat)
include ctx

theorem append_flags (fl : Bytes) (hfit : m0.length + 1 + s0.length < PATH_MAX) :
    matchesAppend env ml (pathEntry lno part (.flags fl)) = (ml ++ [mkEntry lno part (.flags fl) m0 s0], false) :=
  append_of_merge ctx _ _ _ _ m0 s0 (merge_flags ml (pathEntry lno part (.flags fl)) rfl) isPath_flags
    (fill_nil m0) (fill_nil s0) hfit

/-- The entry of an action of half `k` with name `x` once it has the other half `y`. -/
def halfEntry (k : Half) (x y : Bytes) : Match := mkEntry lno part (k.act x) (k.pick x y) (k.pick y x)

theorem append_half (k : Half) (x y0 y : Bytes) (ml1 : MatchList)
    (hm : matchesMerge ml (pathEntry lno part (k.act x)) = (ml1, k.other.set (pathEntry lno part (k.act x)) y0))
    (hx : x ≠ []) (hy : fill y0 (k.other.pick m0 s0) = y) (hfit : (k.pick x y).length + 1 + (k.pick y x).length < PATH_MAX) :
    matchesAppend env ml (pathEntry lno part (k.act x)) = (ml1 ++ [halfEntry lno part k x y], false) := by
  cases k
  · exact append_of_merge ctx _ _ _ { pathEntry lno part (.move x) with subdir := y0 } x y hm isPath_move
      (fill_ne x m0 hx) hy hfit
  · exact append_of_merge ctx _ _ _ { pathEntry lno part (.flag x) with maildir := y0 } y x hm isPath_flag hy
      (fill_ne x s0 hx) hfit

end

/-- The kind `destOK` records for an entry of that type (`none`: not a move / flag / flags entry). -/
def kindOf : MType → Option PathKind
  | .move => some .move
  | .flag => some .flag
  | .flags => some .flags
  | _ => none

theorem kindOf_inj {t t' : MType} {k : PathKind} (h : kindOf t = some k) (h' : kindOf t' = some k) : t = t' := by
  -- `kindOf` has an inverse on its range
  have inv : ∀ {t : MType} {k : PathKind}, kindOf t = some k →
      t = match k with | .move => .move | .flag => .flag | .flags => .flags := by
    intro t k h
    revert h
    fun_cases kindOf t
    case case4 => exact nofun
    all_goals
      rintro ⟨⟩
      rfl
  rw [inv h, inv h']

theorem lastMove_snoc (acts : List PathAction) (a : PathAction) :
    lastMove (acts ++ [a]) = match a with | .move p => some p | _ => lastMove acts := by
  induction acts with
  | nil => cases a <;> rfl
  | cons b r ih => cases a <;> cases b <;> simp [lastMove, ih]

theorem lastFlag_snoc (acts : List PathAction) (a : PathAction) :
    lastFlag (acts ++ [a]) = match a with | .flag q => some q | _ => lastFlag acts := by
  induction acts with
  | nil => cases a <;> rfl
  | cons b r ih => cases a <;> cases b <;> simp [lastFlag, ih]

/-- One of the two queues `matches_merge` keeps (the move entries, or the flag entries) against the
counters of `destOK`: `own` the entries, `name` the half they set, `cnt` / `seen` the counters,
`lastName` the name of the last action of that kind; `names`: the names that can occur. -/
structure Queue (names : List Bytes) (name : Match → Bytes) (own : MatchList) (cnt : Nat) (seen : Bool)
    (lastName : Option Bytes) : Prop where
  n : cnt = own.length
  has : seen = lastName.isSome
  z : seen = false → own = []
  l : ∀ d, own.getLast? = some d → lastName = some (name d)
  b : ∀ d ∈ own, name d ∈ names ∧ name d ≠ []

theorem Queue.empty (names : List Bytes) (name : Match → Bytes) : Queue names name [] 0 false none where
  n := rfl
  has := rfl
  z := fun _ => rfl
  l := fun _ h => nomatch h
  b := fun _ h => nomatch h

theorem Queue.none_of_not_has {names name own cnt seen lastName} (q : Queue names name own cnt seen lastName)
    (h : seen = false) : lastName = none := by
  have := q.has
  rw [h] at this
  cases lastName with
  | none => rfl
  | some x => cases this

theorem Queue.push {names name own cnt seen lastName} (q : Queue names name own cnt seen lastName) (e : Match) (x : Bytes)
    (he : name e = x) (hx : x ∈ names ∧ x ≠ []) : Queue names name (own ++ [e]) (cnt + 1) true (some x) where
  n := by rw [q.n]; simp
  has := rfl
  z := fun h => by cases h
  l := fun d hd => by rw [List.getLast?_concat] at hd; cases hd; rw [he]
  b := fun d hd => by
    rcases List.mem_append.1 hd with h | h
    · exact q.b d h
    · have : d = e := by simpa using h
      rw [this, he]; exact hx

theorem Queue.replace {names name o cnt seen lastName} {l : Match} (q : Queue names name (o ++ [l]) cnt seen lastName)
    (e : Match) (x : Bytes) (he : name e = x) (hx : x ∈ names ∧ x ≠ []) : Queue names name (o ++ [e]) cnt seen (some x) where
  n := by rw [q.n]; simp
  has := by
    cases h : seen with
    | true => rfl
    | false => have := q.z h; simp at this
  z := fun h => by have := q.z h; simp at this
  l := fun d hd => by rw [List.getLast?_concat] at hd; cases hd; rw [he]
  b := fun d hd => by
    rcases List.mem_append.1 hd with h | h
    · exact q.b d (List.mem_append_left _ h)
    · have : d = e := by simpa using h
      rw [this, he]; exact hx

theorem Queue.tail {names name own cnt seen lastName} (q : Queue names name own cnt seen lastName) :
    Queue names name own.tail (cnt - 1) seen lastName where
  n := by rw [q.n]; simp
  has := q.has
  z := fun h => by rw [q.z h]; rfl
  l := fun d hd => q.l d (by
    cases own with
    | nil => cases hd
    | cons x r => rw [List.getLast?_cons, show r.getLast? = some d from hd]; rfl)
  b := fun d hd => q.b d (List.mem_of_mem_tail hd)

/-- What an action of the other kind takes over, when the counters say that the place is right (`DestSt.okLast`):
no action of this kind yet, or exactly one entry - which then carries the name of the last action. -/
theorem Queue.head_of_ok {names name own cnt seen lastName} (q : Queue names name own cnt seen lastName)
    (h : seen = true → cnt = 1) : own.head?.map name = lastName := by
  cases hh : seen with
  | false => rw [q.z hh, q.none_of_not_has hh]; rfl
  | true =>
    obtain ⟨d, rfl⟩ := List.length_eq_one_iff.1 (q.n ▸ h hh)
    exact (q.l d rfl).symm

theorem Queue.head_name {names name own cnt seen lastName} (q : Queue names name own cnt seen lastName) (b : Bytes)
    (hb : b ∈ names) :
    (own.head?.map name).getD b ∈ names ∧ fill ((own.head?.map name).getD []) b = (own.head?.map name).getD b := by
  cases own with
  | nil => exact ⟨hb, rfl⟩
  | cons d r =>
    have := q.b d List.mem_cons_self
    exact ⟨this.1, fill_ne _ b this.2⟩

namespace Half

abbrev cnt (k : Half) (st : DestSt) : Nat := k.pick st.nMove st.nFlag
abbrev seen (k : Half) (st : DestSt) : Bool := k.pick st.hasMove st.hasFlag
abbrev lastName (k : Half) (acts : List PathAction) : Option Bytes := k.pick (lastMove acts) (lastFlag acts)

theorem ty_entry (k : Half) (lno part : Nat) (x y : Bytes) : (halfEntry lno part k x y).ty = k.ty := by
  cases k <;> rfl

theorem kindOf_ty (k : Half) : kindOf k.ty = some k.kind := by cases k <;> rfl

theorem lastName_snoc (k : Half) (acts : List PathAction) (x : Bytes) :
    k.lastName (acts ++ [k.act x]) = some x ∧ k.other.lastName (acts ++ [k.act x]) = k.other.lastName acts := by
  cases k <;> exact ⟨by simp [lastName, act, pick, lastMove_snoc, lastFlag_snoc],
    by simp [lastName, act, pick, lastMove_snoc, lastFlag_snoc]⟩

/-- `DestSt.step` for an action of half `k`, in the two cases of `matches_merge`. -/
theorem step_eq (k : Half) (x : Bytes) (st : DestSt) :
    (st.last = some k.kind → st.step (k.act x) = st) ∧
    (st.last ≠ some k.kind → (st.step (k.act x)).last = some k.kind ∧
      k.cnt (st.step (k.act x)) = k.cnt st + 1 ∧ k.seen (st.step (k.act x)) = true ∧
      k.other.cnt (st.step (k.act x)) = k.other.cnt st - 1 ∧ k.other.seen (st.step (k.act x)) = k.other.seen st) := by
  cases k <;> refine ⟨fun h => if_pos h, fun h => ?_⟩ <;>
    rw [DestSt.step, if_neg h] <;> exact ⟨rfl, rfl, rfl, rfl, rfl⟩

theorem okLast_eq (k : Half) (x : Bytes) (st : DestSt) :
    st.okLast (k.act x) = (!k.other.seen st || (st.last != some k.kind && k.other.cnt st == 1)) := by
  cases k <;> rfl

/-- The one place where the halves differ: the maildir comes first in the path. -/
theorem destPath_snoc (k : Half) (m0 s0 x : Bytes) (acts : List PathAction) (y : Bytes)
    (hy : y = (k.other.lastName acts).getD (k.other.pick m0 s0)) :
    destPath (m0, s0) (acts ++ [k.act x]) = k.pick x y ++ [47] ++ k.pick y x := by
  subst hy
  cases k <;> simp [destPath, dest, act, lastName, pick, lastMove_snoc, lastFlag_snoc]

end Half

/-- How the counters of `destOK` describe the match list after the actions `acts`: the kind of the last
entry, and for each half the queue of its entries.  `MD` / `SD`: the maildirs / subdirectories that can occur. -/
structure Inv (MD SD : List Bytes) (ml : MatchList) (acts : List PathAction) (st : DestSt) : Prop where
  last : st.last = (lastTy ml).bind kindOf
  Q : ∀ k : Half, Queue (k.pick MD SD) k.get (ofTy k.ty ml) (k.cnt st) (k.seen st) (k.lastName acts)

theorem Inv.last_iff {MD SD ml acts st} (inv : Inv MD SD ml acts st) (k : Half) :
    st.last = some k.kind ↔ lastTy ml = some k.ty := by
  rw [inv.last]
  constructor
  · intro h
    obtain ⟨t, ht, hk⟩ := Option.bind_eq_some_iff.1 h
    rw [ht, kindOf_inj hk k.kindOf_ty]
  · intro h
    rw [h]
    exact k.kindOf_ty

section step
variable {env : Env} {m0 s0 : Bytes} (ctx : Ctx env m0 s0) {MD SD : List Bytes}
  (hm0 : m0 ∈ MD) (hs0 : s0 ∈ SD)
  (hfits : ∀ md ∈ MD, ∀ sd ∈ SD, md.length + 1 + sd.length < PATH_MAX)
  {ml : MatchList} {acts : List PathAction} {st : DestSt} (inv : Inv MD SD ml acts st) (lno part : Nat)
include ctx hm0 hs0 hfits inv

theorem step_half (k : Half) (x : Bytes) (hx : x ≠ []) (hxN : x ∈ k.pick MD SD) :
    ∃ ml' y, matchesAppend env ml (pathEntry lno part (k.act x)) = (ml' ++ [halfEntry lno part k x y], false) ∧
      Inv MD SD (ml' ++ [halfEntry lno part k x y]) (acts ++ [k.act x]) (st.step (k.act x)) ∧
      (st.okLast (k.act x) = true → y = (k.other.lastName acts).getD (k.other.pick m0 s0)) := by
  have ho : k.other.pick m0 s0 ∈ k.other.pick MD SD := by cases k <;> assumption
  have hfit : ∀ y ∈ k.other.pick MD SD, (k.pick x y).length + 1 + (k.pick y x).length < PATH_MAX := by
    cases k
    · exact fun y hy => hfits x hxN y hy
    · exact fun y hy => hfits y hy x hxN
  have hm := merge_half k ml (pathEntry lno part (k.act x)) (by cases k <;> rfl)
  have hlast : ∀ ml1 y, lastTy (ml1 ++ [halfEntry lno part k x y]) = some k.ty := fun _ _ => by
    rw [lastTy_snoc, k.ty_entry]
  have hnf : ∀ y, (halfEntry lno part k x y).ty ≠ k.other.ty := fun y => by
    rw [k.ty_entry]; exact k.other_ty_ne.symm
  have hown : ∀ y, k.get (halfEntry lno part k x y) = x := fun y => by cases k <;> rfl
  obtain ⟨hs1, hs2⟩ := k.step_eq x st
  obtain ⟨hn1, hn2⟩ := k.lastName_snoc acts x
  by_cases hl : lastTy ml = some k.ty
  · -- straight after an entry of the same type: that entry goes, the other half is the message's
    rw [if_pos hl] at hm
    obtain ⟨o, l, rfl, hlt⟩ := lastTy_eq_some hl
    rw [List.dropLast_concat] at hm
    have hstl := (inv.last_iff k).2 hl
    refine ⟨o, k.other.pick m0 s0, append_half ctx _ lno part k x [] _ o (by rw [hm]; cases k <;> rfl) hx
      (fill_nil _) (hfit _ ho), ?_, ?_⟩
    · rw [hs1 hstl]
      refine ⟨by rw [hstl, hlast]; exact k.kindOf_ty.symm, k.forall_of ?_ ?_⟩
      · have q := inv.Q k
        rw [ofTy_snoc_same _ _ _ hlt] at q
        rw [ofTy_snoc_same _ _ _ (k.ty_entry ..), hn1]
        exact q.replace _ x (hown _) ⟨hxN, hx⟩
      · have q := inv.Q k.other
        rw [ofTy_snoc_other _ _ _ (by rw [hlt]; exact k.other_ty_ne.symm)] at q
        rw [ofTy_snoc_other _ _ _ (hnf _), hn2]
        exact q
    · intro hok
      rw [k.okLast_eq, hstl] at hok
      rw [(inv.Q k.other).none_of_not_has (by simpa using hok)]
      rfl
  · -- otherwise the oldest entry of the other type (if any) goes and gives its half
    rw [if_neg hl, show k.other.get (pathEntry lno part (k.act x)) = [] by cases k <;> rfl] at hm
    have hstl := mt (inv.last_iff k).1 hl
    obtain ⟨hy1, hy2⟩ := (inv.Q k.other).head_name _ ho
    refine ⟨removeFirst ml k.other.ty, _, append_half ctx _ lno part k x _ _ _ hm hx hy2 (hfit _ hy1), ?_, ?_⟩
    · obtain ⟨h1, h2, h3, h4, h5⟩ := hs2 hstl
      refine ⟨by rw [h1, hlast]; exact k.kindOf_ty.symm, k.forall_of ?_ ?_⟩
      · rw [ofTy_snoc_same _ _ _ (k.ty_entry ..), ofTy_removeFirst_other _ _ k.other_ty_ne.symm, hn1, h2, h3]
        exact (inv.Q k).push _ x (hown _) ⟨hxN, hx⟩
      · rw [ofTy_snoc_other _ _ _ (hnf _), ofTy_removeFirst_same, hn2, h4, h5]
        exact (inv.Q k.other).tail
    · intro hok
      rw [k.okLast_eq] at hok
      rw [(inv.Q k.other).head_of_ok fun hh => by simp [hh] at hok; exact hok.2]

theorem step_flags (fl : Bytes) :
    ∃ ml' e, matchesAppend env ml (pathEntry lno part (.flags fl)) = (ml' ++ [e], false) ∧ e.moves = true ∧
      Inv MD SD (ml' ++ [e]) (acts ++ [.flags fl]) (st.step (.flags fl)) ∧
      (st.okLast (.flags fl) = true → e.path = destPath (m0, s0) (acts ++ [.flags fl])) := by
  refine ⟨ml, mkEntry lno part (.flags fl) m0 s0, append_flags ctx ml lno part fl (hfits m0 hm0 s0 hs0), rfl, ?_, ?_⟩
  · refine ⟨by show some PathKind.flags = _; rw [lastTy_snoc]; rfl, fun k => ?_⟩
    rw [ofTy_snoc_other _ _ _ (by cases k <;> exact nofun),
      show k.lastName (acts ++ [.flags fl]) = k.lastName acts by cases k <;> simp [lastMove_snoc, lastFlag_snoc]]
    exact inv.Q k
  · intro hok
    have hh : st.hasMove = false ∧ st.hasFlag = false := by
      simpa [DestSt.okLast] using hok
    show m0 ++ [47] ++ s0 = _
    simp only [destPath, dest, lastMove_snoc, lastFlag_snoc, (inv.Q .md).none_of_not_has hh.1,
      (inv.Q .sd).none_of_not_has hh.2, Option.getD_none]

end step

def ActOK (MD SD : List Bytes) (a : PathAction) : Prop := ∀ (k : Half) (x : Bytes), a = k.act x → x ≠ [] ∧ x ∈ k.pick MD SD

theorem step_any {env : Env} {m0 s0 : Bytes} (ctx : Ctx env m0 s0) {MD SD : List Bytes}
    (hm0 : m0 ∈ MD) (hs0 : s0 ∈ SD)
    (hfits : ∀ md ∈ MD, ∀ sd ∈ SD, md.length + 1 + sd.length < PATH_MAX)
    {ml : MatchList} {acts : List PathAction} {st : DestSt} (inv : Inv MD SD ml acts st) (lno part : Nat)
    (a : PathAction) (ha : ActOK MD SD a) :
    ∃ ml' e, matchesAppend env ml (pathEntry lno part a) = (ml' ++ [e], false) ∧ e.moves = true ∧
      Inv MD SD (ml' ++ [e]) (acts ++ [a]) (st.step a) ∧
      (st.okLast a = true → e.path = destPath (m0, s0) (acts ++ [a])) := by
  have half : ∀ (k : Half) (x : Bytes), ActOK MD SD (k.act x) →
      ∃ ml' e, matchesAppend env ml (pathEntry lno part (k.act x)) = (ml' ++ [e], false) ∧ e.moves = true ∧
        Inv MD SD (ml' ++ [e]) (acts ++ [k.act x]) (st.step (k.act x)) ∧
        (st.okLast (k.act x) = true → e.path = destPath (m0, s0) (acts ++ [k.act x])) := by
    intro k x hx
    obtain ⟨ml', y, h1, h2, h3⟩ := step_half ctx hm0 hs0 hfits inv lno part k x (hx k x rfl).1 (hx k x rfl).2
    exact ⟨ml', _, h1, by cases k <;> rfl, h2, fun hok => (k.destPath_snoc m0 s0 x acts y (h3 hok)).symm⟩
  cases a with
  | move p => exact half .md p ha
  | flag q => exact half .sd q ha
  | flags fl => exact step_flags ctx hm0 hs0 hfits inv lno part fl

theorem lastPath_snoc (ml : MatchList) (e : Match) (he : e.moves = true) : lastPath (ml ++ [e]) = some e.path := by
  unfold lastPath
  rw [List.filter_append]
  have : List.filter Match.moves [e] = [e] := by simp [he]
  rw [this, List.getLast?_concat]
  rfl

theorem kindOf_of_not_moves {e : Match} (h : e.moves = false) : kindOf e.ty = none := by
  unfold Match.moves at h
  cases hty : e.ty <;> simp [hty] at h <;> rfl

theorem inv_init (MD SD : List Bytes) (ml0 : MatchList) (h0 : ∀ e ∈ ml0, e.moves = false) :
    Inv MD SD ml0 [] {} := by
  refine ⟨?_, fun k => ?_⟩
  · show none = _
    cases hl : lastTy ml0 with
    | none => rfl
    | some t =>
      obtain ⟨o, l, rfl, rfl⟩ := lastTy_eq_some hl
      exact (kindOf_of_not_moves (h0 l (by simp))).symm
  · have : ofTy k.ty ml0 = [] := List.filter_eq_nil_iff.2 fun e he hty => by
      have := kindOf_of_not_moves (h0 e he)
      rw [beq_iff_eq.1 hty, k.kindOf_ty] at this
      cases this
    rw [this]
    cases k <;> exact Queue.empty _ _

theorem Half.mem_names (k : Half) (actions : List PathAction) (x : Bytes) (h : k.act x ∈ actions) :
    x ∈ k.pick (moveNames actions) (flagNames actions) := by
  induction actions with
  | nil => cases h
  | cons a r ih =>
    rcases List.mem_cons.1 h with h1 | h2
    · subst h1; cases k <;> simp [moveNames, flagNames]
    · have := ih h2
      cases k <;> cases a <;> simp [moveNames, flagNames, this]

theorem lastPath_none (ml0 : MatchList) (h0 : ∀ e ∈ ml0, e.moves = false) : lastPath ml0 = none := by
  unfold lastPath
  have : ml0.filter Match.moves = [] := by
    rw [List.filter_eq_nil_iff]
    intro e he hm
    rw [h0 e he] at hm
    cases hm
  rw [this]
  rfl

theorem fits_of_destFits {m0 s0 : Bytes} {actions : List PathAction}
    (hfit : destFits PATH_MAX (m0, s0) actions = true) :
    ∀ md ∈ m0 :: moveNames actions, ∀ sd ∈ s0 :: flagNames actions, md.length + 1 + sd.length < PATH_MAX := by
  intro md hmd sd hsd
  unfold destFits at hfit
  rw [List.all_eq_true] at hfit
  have h1 := hfit md hmd
  rw [List.all_eq_true] at h1
  exact of_decide_eq_true (h1 sd hsd)

/-- A message `root/sub/name` is in maildir `root` and subdirectory `sub` (`slices`). -/
theorem Ctx.of_path {env : Env} {root sub name : Bytes} {actions : List PathAction}
    (hpath : env.path = root ++ [47] ++ sub ++ [47] ++ name) (hroot : root ≠ []) (hsub : (47 : UInt8) ∉ sub)
    (hname : (47 : UInt8) ∉ name) (hsubl : sub.length < NAME_MAX1)
    (hfit : destFits PATH_MAX (root, sub) actions = true) : Ctx env root sub := by
  have hrl : root.length < PATH_MAX := by
    have := fits_of_destFits hfit root List.mem_cons_self sub List.mem_cons_self
    omega
  have hs := slices root sub name hroot hsub hname PATH_MAX NAME_MAX1 hrl hsubl
  exact ⟨by rw [hpath]; exact hs.1, by rw [hpath]; exact hs.2⟩

theorem actOK_of_wf (m0 s0 : Bytes) {actions : List PathAction} (hwf : actionsWF actions = true) :
    ∀ a ∈ actions, ActOK (m0 :: moveNames actions) (s0 :: flagNames actions) a := by
  unfold actionsWF at hwf
  rw [Bool.and_eq_true, List.all_eq_true, List.all_eq_true] at hwf
  rintro a ha k x rfl
  have hx := k.mem_names actions x ha
  refine ⟨?_, by cases k <;> exact List.mem_cons_of_mem _ hx⟩
  rintro rfl
  cases k
  · exact absurd (hwf.1 _ hx) (by decide)
  · exact absurd (hwf.2 _ hx) (by decide)

/-- `appendAll` on a non-empty list, stated here so that proofs rewrite with it: the equation Lean derives for the
definition on demand (`rw [appendAll]`) is slow to derive, its `match` being on `matchesAppend ..`.  `by rfl` and not a
term `rfl`: for the latter Lean first tests whether the sides agree by reducible unfolding alone, which is slow too. -/
theorem appendAll_cons (env : Env) (ml : MatchList) (mh : Match) (rest : List Match) :
    appendAll env ml (mh :: rest) =
      match matchesAppend env ml mh with
      | (_, true) => none
      | (ml', false) => appendAll env ml' rest := by
  rfl

/-- Entries of actions with their line numbers ("labelled" in the names below), all for the same part. -/
def entries (part : Nat) (ls : List (Nat × PathAction)) : List Match := ls.map fun x => pathEntry x.1 part x.2

theorem appendAll_dest_labelled {env : Env} {m0 s0 : Bytes} (ctx : Ctx env m0 s0) {MD SD : List Bytes}
    (hm0 : m0 ∈ MD) (hs0 : s0 ∈ SD)
    (hfits : ∀ md ∈ MD, ∀ sd ∈ SD, md.length + 1 + sd.length < PATH_MAX) (part : Nat) :
    ∀ (ls : List (Nat × PathAction)) (ml : MatchList) (acts : List PathAction) (st : DestSt),
      Inv MD SD ml acts st → (∀ x ∈ ls, ActOK MD SD x.2) → ls ≠ [] → destOKFrom st (ls.map (·.2)) = true →
      ∃ ml', appendAll env ml (entries part ls) = some ml' ∧
        lastPath ml' = some (destPath (m0, s0) (acts ++ ls.map (·.2))) := by
  intro ls
  induction ls with
  | nil => intro ml acts st _ _ hne; exact absurd rfl hne
  | cons x rest ih =>
    intro ml acts st inv hact _ hok
    obtain ⟨ml', e, happ, hmoves, inv', hlast⟩ :=
      step_any ctx hm0 hs0 hfits inv x.1 part x.2 (hact x List.mem_cons_self)
    have hcons : appendAll env ml (entries part (x :: rest)) = appendAll env (ml' ++ [e]) (entries part rest) := by
      rw [entries, List.map_cons, appendAll_cons, happ]
      rfl
    rw [hcons]
    cases rest with
    | nil => exact ⟨ml' ++ [e], rfl, by rw [lastPath_snoc _ _ hmoves, hlast hok]; rfl⟩
    | cons y rest' =>
      obtain ⟨ml'', h1, h2⟩ := ih (ml' ++ [e]) (acts ++ [x.2]) (st.step x.2) inv'
        (fun z hz => hact z (List.mem_cons_of_mem _ hz)) (List.cons_ne_nil _ _) hok
      exact ⟨ml'', h1, by rw [h2, List.append_assoc]; rfl⟩

theorem appendAll_labelled_of_ctx {env : Env} {m0 s0 : Bytes} (ctx : Ctx env m0 s0) (ml0 : MatchList) (part : Nat)
    (ls : List (Nat × PathAction)) (hne : ls ≠ []) (hwf : actionsWF (ls.map (·.2)) = true)
    (hfit : destFits PATH_MAX (m0, s0) (ls.map (·.2)) = true)
    (hml0 : ∀ e ∈ ml0, e.moves = false) (hok : destOK (ls.map (·.2)) = true) :
    ∃ ml', appendAll env ml0 (entries part ls) = some ml' ∧
      lastPath ml' = some (destPath (m0, s0) (ls.map (·.2))) := by
  have hact : ∀ x ∈ ls, ActOK (m0 :: moveNames (ls.map (·.2))) (s0 :: flagNames (ls.map (·.2))) x.2 :=
    fun x hx => actOK_of_wf m0 s0 hwf x.2 (List.mem_map_of_mem hx)
  exact appendAll_dest_labelled ctx List.mem_cons_self List.mem_cons_self (fits_of_destFits hfit) part ls ml0 [] {}
    (inv_init _ _ ml0 hml0) hact hne hok

theorem finalPlace_of_ctx {env : Env} {m0 s0 : Bytes} (ctx : Ctx env m0 s0) (ml0 : MatchList)
    (actions : List PathAction) (hwf : actionsWF actions = true) (hfit : destFits PATH_MAX (m0, s0) actions = true)
    (hml0 : ∀ e ∈ ml0, e.moves = false) (hok : destOK actions = true) :
    finalPlace env ml0 actions = if actions.isEmpty then none else some (destPath (m0, s0) actions) := by
  unfold finalPlace
  cases actions with
  | nil =>
    show lastPath ml0 = none
    exact lastPath_none ml0 hml0
  | cons a rest =>
    have hsnd : ((a :: rest).map fun x => (0, x)).map (·.2) = a :: rest := by
      simp [Function.comp_def]
    obtain ⟨ml', h1, h2⟩ := appendAll_labelled_of_ctx ctx ml0 0 ((a :: rest).map fun x => (0, x)) (by simp)
      (by rw [hsnd]; exact hwf) (by rw [hsnd]; exact hfit) hml0 (by rw [hsnd]; exact hok)
    rw [hsnd] at h2
    have hent : entries 0 ((a :: rest).map fun x => (0, x)) = (a :: rest).map (pathEntry 0 0) := by
      simp [entries, Function.comp_def]
    rw [← hent, h1]
    exact h2

/-- On `destOK` the pinned code puts the message where mdsort.conf(5) says (the statement of
`C09_destination_partial`): for a message `root/sub/name` and well-formed actions that fit `PATH_MAX`. -/
theorem finalPlace_eq_dest (env : Env) (root sub name : Bytes) (ml0 : MatchList) (actions : List PathAction)
    (hpath : env.path = root ++ [47] ++ sub ++ [47] ++ name)
    (hroot : root ≠ []) (hsub : (47 : UInt8) ∉ sub) (hname : (47 : UInt8) ∉ name)
    (hsubl : sub.length < NAME_MAX1)
    (hwf : actionsWF actions = true) (hfit : destFits PATH_MAX (root, sub) actions = true)
    (hml0 : ∀ e ∈ ml0, e.moves = false) (hok : destOK actions = true) :
    finalPlace env ml0 actions = if actions.isEmpty then none else some (destPath (root, sub) actions) :=
  finalPlace_of_ctx (Ctx.of_path hpath hroot hsub hname hsubl hfit) ml0 actions hwf hfit hml0 hok

end Mdsort.Proofs.Dest
