import Mdsort.Model.L0.Buffer
import Mdsort.Proofs.Basics

/-!
# L0 primitives: safety and their list-level meaning

`HasNul b i`: some NUL lies at or after index `i` inside the object.  Under it every `<string.h>` primitive
returns `.ok` and its result is described on `b.view i` (the list the L1 models work on).

The reading side of a proof is the cursor `Buf.At b j s` (the reader at `j` sees `s`): it moves with `At.drop`,
`At.dropWhile`, and a loop goes by `HasNul.induction`, by `HasNul.strong_induction` when it jumps, or is an instance of
`HasNul.scan`.  The writing side is `d.slice 0 k`, the bytes before the write position `k` (`set_push`, `writeAt_push`,
`set_nul_view`).  A window `[j, e)` that is no C string is read from the left with `slice_uncons`.

Names, in all `L0*` modules.  In namespace `Mdsort.L0`, `f_eq` is the UNFOLDING equation of a one-byte loop `f` of the
index level (see "Unfolding" below).  The list-level lemmas of `Basics` and `Scanners` use the same short names for the
CLOSED FORM of the list function `f` (`Proofs.strchr_eq`, `Proofs.scanKey_eq`, `Proofs.skipLine_eq`); here they are always
written with `Proofs.` in front, also where both occur in one `rw`.  `f_spec` is an equation
`L0.f .. = .ok e` for a primitive or a helper loop, with `e` in list vocabulary (a closed form, or the list model's helper
of the same name).  `f_refines` compares a function of mdsort's sources as a whole with the list model's function of that
name: an equation where the function only reads, `∃ r, L0.f .. = .ok r ∧ R r (Model.f ..)` where it writes, allocates or
returns a structure (`R`: an `l0r_..Rel` relation or an abstraction function).  The prefix `l0r_` marks the vocabulary of
that comparison (abstraction functions, relations, `l0r_lineLen`), facts about a list model alone that are stated in the
shape the comparison meets them in (`l0r_stage1`, `l0r_countSlash_split`, `l0r_unfoldLoop_cons`), and the comparing
theorems of the `L0Refine*` modules; those of L0Decode, L0Message and L0Unfold have none.
-/

namespace Mdsort.L0
open Mdsort

@[simp] theorem bind_ok {α β} (a : α) (f : α → M β) : (Except.ok a >>= f) = f a := rfl
@[simp] theorem bind_error {α β} (e : Fault) (f : α → M β) : ((Except.error e : M α) >>= f) = .error e := rfl
@[simp] theorem pure_eq {α} (a : α) : (pure a : M α) = .ok a := rfl

theorem takeWhile_congr_mem {α} {p q : α → Bool} {l : List α} (h : ∀ x ∈ l, p x = q x) :
    l.takeWhile p = l.takeWhile q := by
  induction l with
  | nil => rfl
  | cons x r ih =>
    rw [List.takeWhile_cons, List.takeWhile_cons, h x (by simp), ih fun y hy => h y (by simp [hy])]

namespace Buf

def HasNul (b : Buf) (i : Nat) : Prop := ∃ k, i ≤ k ∧ b.get? k = .ok 0

theorem get?_of_lt {b : Buf} {i : Nat} (h : i < b.size) : b.get? i = .ok (b.bytes[i]'h) := by
  unfold get?; unfold size at h; simp [h]

theorem get?_eq_ok_iff {b : Buf} {i : Nat} {c : UInt8} :
    b.get? i = .ok c ↔ ∃ h : i < b.bytes.size, b.bytes[i] = c := by
  unfold get?
  split
  · rename_i h; simp [h]
  · rename_i h; simp [h]

theorem HasNul.lt {b : Buf} {i : Nat} (h : b.HasNul i) : i < b.size := by
  obtain ⟨k, hk, hg⟩ := h
  have := lt_of_get? hg
  omega

theorem HasNul.mono {b : Buf} {i j : Nat} (h : b.HasNul j) (hij : i ≤ j) : b.HasNul i := by
  obtain ⟨k, hk, hg⟩ := h
  exact ⟨k, by omega, hg⟩

theorem HasNul.succ {b : Buf} {i : Nat} {c : UInt8} (h : b.HasNul i) (hg : b.get? i = .ok c) (hc : c ≠ 0) :
    b.HasNul (i + 1) := by
  obtain ⟨k, hk, hk0⟩ := h
  refine ⟨k, ?_, hk0⟩
  rcases Nat.lt_or_ge i k with h1 | h1
  · omega
  · have : k = i := by omega
    subst this
    rw [hg] at hk0
    cases hk0
    exact absurd rfl hc

theorem Terminated.size_pos {b : Buf} (h : b.Terminated) : 0 < b.size := by
  unfold Terminated at h
  unfold size
  rcases Nat.eq_zero_or_pos b.bytes.size with h0 | h0
  · have : b.bytes = #[] := Array.eq_empty_of_size_eq_zero h0
    rw [this] at h; simp at h
  · exact h0

theorem Terminated.last {b : Buf} (h : b.Terminated) : b.get? (b.size - 1) = .ok 0 := by
  have hp := h.size_pos
  unfold Terminated at h
  rw [Array.back?_eq_getElem?] at h
  rw [get?_eq_ok_iff]
  unfold size at hp ⊢
  refine ⟨by omega, ?_⟩
  rw [Array.getElem?_eq_getElem (by omega)] at h
  exact Option.some.inj h

theorem Terminated.hasNul {b : Buf} (h : b.Terminated) {i : Nat} (hi : i < b.size) : b.HasNul i :=
  ⟨b.size - 1, by omega, h.last⟩

theorem Terminated.hasNul0 {b : Buf} (h : b.Terminated) : b.HasNul 0 := h.hasNul h.size_pos

theorem ofBytes_terminated (s : Bytes) : (ofBytes s).Terminated := by
  unfold Terminated ofBytes
  simp

theorem view_of_get? {b : Buf} {i : Nat} {c : UInt8} (hg : b.get? i = .ok c) :
    b.view i = if c = 0 then [] else c :: b.view (i + 1) := by
  obtain ⟨hi, hc⟩ := get?_eq_ok_iff.mp hg
  unfold view
  have hl : i < b.bytes.toList.length := by simpa using hi
  rw [List.drop_eq_getElem_cons hl]
  have : b.bytes.toList[i] = c := by simpa using hc
  rw [this]
  unfold cstr
  by_cases h0 : c = 0
  · simp [h0]
  · simp [h0]

theorem view_nul {b : Buf} {i : Nat} (hg : b.get? i = .ok 0) : b.view i = [] := by
  rw [view_of_get? hg]; simp

theorem view_cons {b : Buf} {i : Nat} {c : UInt8} (hg : b.get? i = .ok c) (hc : c ≠ 0) :
    b.view i = c :: b.view (i + 1) := by
  rw [view_of_get? hg]; simp [hc]

theorem view_no_nul (b : Buf) (i : Nat) : ∀ x ∈ b.view i, x ≠ 0 := cstr_no_nul _

/-- A loop's own test for the terminator does not change where it stops. -/
theorem view_takeWhile_nz (b : Buf) (i : Nat) (p : UInt8 → Bool) :
    (b.view i).takeWhile (fun x => x != 0 && p x) = (b.view i).takeWhile p :=
  takeWhile_congr_mem fun x hx => by simp [view_no_nul b i x hx]

theorem view_dropWhile_nz (b : Buf) (i : Nat) (p : UInt8 → Bool) :
    (b.view i).dropWhile (fun x => x != 0 && p x) = (b.view i).dropWhile p := by
  rw [← List.drop_length_takeWhile, view_takeWhile_nz, List.drop_length_takeWhile]

theorem HasNul.cases {b : Buf} {i : Nat} (h : b.HasNul i) :
    (b.get? i = .ok 0 ∧ b.view i = []) ∨
    (∃ c, c ≠ 0 ∧ b.get? i = .ok c ∧ b.view i = c :: b.view (i + 1) ∧ b.HasNul (i + 1)) := by
  have hg := get?_of_lt h.lt
  by_cases h0 : b.bytes[i]'h.lt = 0
  · left
    rw [h0] at hg
    exact ⟨hg, view_nul hg⟩
  · right
    exact ⟨_, h0, hg, view_cons hg h0, h.succ hg h0⟩

/-- Induction along a C string for loops that may jump ahead: every later position inside it is available. -/
theorem HasNul.strong_induction {b : Buf} {motive : ∀ i, b.HasNul i → Prop}
    (step : ∀ i (h : b.HasNul i), (∀ j (hj : b.HasNul j), i < j → motive j hj) → motive i h)
    {i : Nat} (h : b.HasNul i) : motive i h := by
  generalize hn : b.size - i = n
  induction n using Nat.strongRecOn generalizing i with
  | _ n ih =>
    refine step i h fun j hj hij => ih (b.size - j) ?_ hj rfl
    have := hj.lt
    omega

theorem HasNul.induction {b : Buf} {motive : ∀ i, b.HasNul i → Prop}
    (nul : ∀ i (h : b.HasNul i), b.get? i = .ok 0 → b.view i = [] → motive i h)
    (cons : ∀ i c (h : b.HasNul i) (h' : b.HasNul (i + 1)), c ≠ 0 → b.get? i = .ok c →
      b.view i = c :: b.view (i + 1) → motive (i + 1) h' → motive i h)
    {i : Nat} (h : b.HasNul i) : motive i h := by
  induction h using HasNul.strong_induction with
  | step i h ih =>
    rcases h.cases with ⟨hg, hv⟩ | ⟨c, hc, hg, hv, h'⟩
    · exact nul i h hg hv
    · exact cons i c h h' hc hg hv (ih _ h' (Nat.lt_succ_self i))

theorem HasNul.add {b : Buf} {i : Nat} (h : b.HasNul i) :
    ∀ k, k ≤ (b.view i).length → b.HasNul (i + k) ∧ b.view (i + k) = (b.view i).drop k := by
  intro k
  induction k with
  | zero => intro _; exact ⟨h, by simp⟩
  | succ k ih =>
    intro hk
    obtain ⟨hn, hv⟩ := ih (by omega)
    rcases hn.cases with ⟨_, he⟩ | ⟨c, hc, hg, hcons, hn'⟩
    · rw [he] at hv
      have : ((b.view i).drop k).length = 0 := by rw [← hv]; rfl
      simp at this; omega
    · refine ⟨by simpa [Nat.add_assoc] using hn', ?_⟩
      have : b.view (i + (k + 1)) = (b.view (i + k)).drop 1 := by
        rw [hcons]; simp [Nat.add_assoc]
      rw [this, hv]; simp

theorem view_ofBytes (s : Bytes) : (ofBytes s).view 0 = cstr s := by
  unfold view ofBytes cstr
  simp
  induction s with
  | nil => simp
  | cons x r ih =>
    by_cases hx : x = 0
    · simp [hx]
    · simp [hx, ih]

theorem view_ofBytes_of_no_nul {s : Bytes} (h : ∀ x ∈ s, x ≠ 0) : (ofBytes s).view 0 = s := by
  rw [view_ofBytes, cstr_of_no_nul h]

theorem size_ofBytes (s : Bytes) : (ofBytes s).size = s.length + 1 := by
  simp [ofBytes, size]

theorem size_of_set {b b' : Buf} {i : Nat} {v : UInt8} (h : b.set i v = .ok b') : b'.size = b.size := by
  unfold set at h
  split at h
  · cases h; simp [size]
  · cases h

theorem set_ok {b : Buf} {i : Nat} (v : UInt8) (h : i < b.size) : b.set i v = .ok ⟨b.bytes.setIfInBounds i v⟩ := by
  unfold set; unfold size at h; simp [h]

theorem get?_set {b b' : Buf} {i : Nat} {v : UInt8} (h : b.set i v = .ok b') (j : Nat) :
    b'.get? j = if j = i then .ok v else b.get? j := by
  unfold set at h
  split at h
  · rename_i hi
    cases h
    unfold get?
    by_cases hj : j = i
    · subst hj; simp [hi]
    · simp only [hj, if_false, Array.size_setIfInBounds]
      split
      · rename_i hjs
        rw [Array.getElem_setIfInBounds (by simpa using hjs)]
        simp [Ne.symm hj]
      · rfl
  · cases h

theorem set_oob {b : Buf} {i : Nat} (v : UInt8) (h : ¬ i < b.size) : b.set i v = .error (.oob i) := by
  unfold set
  unfold size at h
  simp only [h, if_false]

theorem get?_set_self {b b' : Buf} {i : Nat} {v : UInt8} (h : b.set i v = .ok b') : b'.get? i = .ok v := by
  rw [get?_set h, if_pos rfl]

theorem terminated_of_last {b : Buf} (h : b.get? (b.size - 1) = .ok 0) : b.Terminated := by
  obtain ⟨hlt, hv⟩ := get?_eq_ok_iff.mp h
  unfold Terminated
  rw [Array.back?_eq_getElem?]
  unfold size at hv hlt
  rw [Array.getElem?_eq_getElem hlt, hv]

theorem terminated_of_set_nul {b b' : Buf} {i : Nat} (ht : b.Terminated) (h : b.set i 0 = .ok b') : b'.Terminated := by
  refine terminated_of_last ?_
  rw [size_of_set h, get?_set h]
  split
  · rfl
  · exact ht.last

theorem terminated_of_set {b b' : Buf} {i : Nat} {v : UInt8} (ht : b.Terminated) (hi : i + 1 < b.size)
    (h : b.set i v = .ok b') : b'.Terminated := by
  refine terminated_of_last ?_
  rw [size_of_set h, get?_set h, if_neg (by omega)]
  exact ht.last


theorem slice_eq (b : Buf) (i j : Nat) : b.slice i j = (b.bytes.toList.take j).drop i := by
  simp [slice, Array.toList_extract, List.drop_take]

theorem slice_self (b : Buf) (i : Nat) : b.slice i i = [] := by
  rw [slice_eq]; simp

theorem length_slice {b : Buf} {i j : Nat} (hj : j ≤ b.size) : (b.slice i j).length = j - i := by
  rw [slice_eq]; unfold size at hj; simp; omega

theorem take_slice (b : Buf) {i j : Nat} (h : i ≤ j) : (b.slice 0 j).take i = b.slice 0 i := by
  rw [slice_eq, slice_eq, List.drop_zero, List.drop_zero, List.take_take, Nat.min_eq_left h]

theorem slice_cons {b : Buf} {i j : Nat} {c : UInt8} (hg : b.get? i = .ok c) (hij : i < j) :
    b.slice i j = c :: b.slice (i + 1) j := by
  obtain ⟨hi, hc⟩ := get?_eq_ok_iff.mp hg
  rw [slice_eq, slice_eq]
  have hl : i < (b.bytes.toList.take j).length := by simp; omega
  rw [List.drop_eq_getElem_cons hl]
  congr 1
  simp [← hc]

theorem slice_eq_nil {b : Buf} {j e : Nat} (he : e ≤ b.size) (h : b.slice j e = []) : e ≤ j := by
  have := length_slice (i := j) he
  rw [h] at this
  simp at this
  omega

theorem slice_uncons {b : Buf} {j e : Nat} {c : UInt8} {r : Bytes} (he : e ≤ b.size)
    (h : b.slice j e = c :: r) : j < e ∧ b.get? j = .ok c ∧ b.slice (j + 1) e = r := by
  have hlt : j < e := by
    have := length_slice (i := j) he
    rw [h] at this
    simp at this
    omega
  have hg := get?_of_lt (show j < b.size by omega)
  rw [slice_cons hg hlt] at h
  cases h
  exact ⟨hlt, hg, rfl⟩

theorem slice_snoc {b : Buf} {k : Nat} {c : UInt8} (hg : b.get? k = .ok c) :
    b.slice 0 (k + 1) = b.slice 0 k ++ [c] := by
  obtain ⟨hi, hc⟩ := get?_eq_ok_iff.mp hg
  rw [slice_eq, slice_eq]
  simp only [List.drop_zero]
  rw [List.take_succ_eq_append_getElem (by simpa using hi)]
  simp [← hc]

theorem slice_of_set {b b' : Buf} {k j : Nat} {v : UInt8} (h : b.set k v = .ok b') (hj : j ≤ k) :
    b'.slice 0 j = b.slice 0 j := by
  unfold set at h
  split at h
  · cases h
    rw [slice_eq, slice_eq]
    simp only [Array.toList_setIfInBounds, List.drop_zero]
    exact List.take_set_of_le hj
  · cases h

theorem HasNul.slice_view {b : Buf} {i : Nat} (h : b.HasNul i) :
    ∀ k, k ≤ (b.view i).length → b.slice i (i + k) = (b.view i).take k := by
  intro k
  induction k generalizing i with
  | zero => intro _; simp [slice_self]
  | succ k ih =>
    intro hk
    rcases h.cases with ⟨_, hv⟩ | ⟨c, hc, hg, hv, hn'⟩
    · rw [hv] at hk; simp at hk
    · rw [slice_cons hg (by omega), hv]
      have := ih hn' (by rw [hv] at hk; simpa using hk)
      rw [show i + (k + 1) = i + 1 + k by omega, this]
      simp

theorem cstr_append_nul_eq_cstr (a r : Bytes) : cstr (a ++ 0 :: r) = cstr a :=
  List.takeWhile_append_cons_of_neg a r rfl

theorem cstr_append_nul (a r : Bytes) (ha : ∀ x ∈ a, x ≠ 0) : cstr (a ++ 0 :: r) = a :=
  (cstr_append_nul_eq_cstr a r).trans (cstr_of_no_nul ha)

theorem view_of_nul_at {b : Buf} {n : Nat} (hg : b.get? n = .ok 0) : b.view 0 = cstr (b.slice 0 n) := by
  obtain ⟨hi, hc⟩ := get?_eq_ok_iff.mp hg
  unfold view
  rw [slice_eq]
  simp only [List.drop_zero]
  have hl : n < b.bytes.toList.length := by simpa using hi
  conv => lhs; rw [← List.take_append_drop n b.bytes.toList, List.drop_eq_getElem_cons hl]
  have : b.bytes.toList[n] = 0 := by simpa using hc
  rw [this, cstr_append_nul_eq_cstr]

theorem toList_ofBytes (s : Bytes) : (ofBytes s).bytes.toList = s ++ [0] := by simp [ofBytes]

theorem eq_of_toList {a b : Buf} (h : a.bytes.toList = b.bytes.toList) : a = b := by
  cases a; cases b; simp only [mk.injEq]; exact Array.toList_inj.mp h


/-- A cursor into a C string: the reader at index `j` sees `s`.  Straight-line code is followed by moving the cursor;
the list it carries is what the list model has left to read. -/
structure At (b : Buf) (j : Nat) (s : Bytes) : Prop where
  hasNul : b.HasNul j
  view : b.view j = s

theorem HasNul.at {b : Buf} {i : Nat} (h : b.HasNul i) : b.At i (b.view i) := ⟨h, rfl⟩

namespace At
variable {b : Buf} {j : Nat} {s : Bytes}

/-- The byte under the cursor; the terminator when nothing is left. -/
theorem get? (c : b.At j s) : b.get? j = .ok (s.headD 0) := by
  rcases c.hasNul.cases with ⟨hg, hv⟩ | ⟨x, _, hg, hv, _⟩
  · rw [hg, ← c.view, hv]; rfl
  · rw [hg, ← c.view, hv]; rfl

theorem no_nul (c : b.At j s) : ∀ x ∈ s, x ≠ 0 := c.view ▸ view_no_nul b j

theorem drop (c : b.At j s) (k : Nat) (hk : k ≤ s.length) : b.At (j + k) (s.drop k) :=
  have h := c.hasNul.add k (c.view ▸ hk)
  ⟨h.1, c.view ▸ h.2⟩

theorem tail {x : UInt8} {r : Bytes} (c : b.At j (x :: r)) : b.At (j + 1) r :=
  c.drop 1 (Nat.le_add_left 1 _)

theorem next (c : b.At j s) (h : s.headD 0 ≠ 0) : b.At (j + 1) (s.drop 1) := by
  cases s with
  | nil => exact absurd rfl h
  | cons x r => exact c.tail

theorem dropWhile (c : b.At j s) (p : UInt8 → Bool) : b.At (j + (s.takeWhile p).length) (s.dropWhile p) :=
  List.drop_length_takeWhile p s ▸ c.drop _ (List.takeWhile_prefix p).length_le

/-- Two cursors into the same C string end at the same terminator. -/
theorem end_eq {j' : Nat} {s' : Bytes} (c : b.At j s) (c' : b.At j' s') (h1 : j ≤ j') (h2 : j' ≤ j + s.length) :
    j' + s'.length = j + s.length := by
  have := (c.drop (j' - j) (by omega)).view
  rw [show j + (j' - j) = j' by omega, c'.view] at this
  rw [this, List.length_drop]
  omega

theorem slice (c : b.At j s) : b.slice j (j + s.length) = s := by
  rw [c.hasNul.slice_view s.length (by rw [c.view]; exact Nat.le_refl _), c.view, List.take_length]

end At

theorem HasNul.get?_end {b : Buf} {i : Nat} (h : b.HasNul i) : b.get? (i + (b.view i).length) = .ok 0 := by
  rw [(h.at.drop _ (Nat.le_refl _)).get?, List.drop_length]; rfl

theorem HasNul.get?_view {b : Buf} {i : Nat} (h : b.HasNul i) (k : Nat) (hk : k < (b.view i).length) :
    b.get? (i + k) = .ok ((b.view i)[k]) := by
  rw [(h.at.drop k (Nat.le_of_lt hk)).get?, List.headD_eq_head?_getD, List.head?_drop, List.getElem?_eq_getElem hk]; rfl

/-- A loop that steps forward while `p` holds of the byte read, and otherwise answers `g` of the position and the byte,
stops after the longest `p`-prefix of the view: on the first byte of the rest, or on the terminator. -/
theorem HasNul.scan {α : Type} {b : Buf} {f : Nat → M α} {g : Nat → UInt8 → M α} {p : UInt8 → Bool} (hp : p 0 = false)
    (step : ∀ i c, b.get? i = .ok c → f i = if p c then f (i + 1) else g i c) {i : Nat} (h : b.HasNul i) :
    f i = g (i + ((b.view i).takeWhile p).length) (((b.view i).dropWhile p).headD 0) := by
  induction h using HasNul.induction with
  | nul i h hg hv => rw [step i 0 hg, hp, hv]; rfl
  | cons i c h h' hc hg hv ih =>
    rw [step i c hg, hv]
    by_cases hpc : p c = true
    · rw [if_pos hpc, ih, List.takeWhile_cons_of_pos hpc, List.dropWhile_cons_of_pos hpc, List.length_cons,
        Nat.add_right_comm, Nat.add_assoc]
    · rw [if_neg hpc, List.takeWhile_cons_of_neg hpc, List.dropWhile_cons_of_neg hpc]; rfl

/-- `scan` for a loop whose own test mentions the terminator: on the view that part of the test is vacuous. -/
theorem HasNul.scan_nz {α : Type} {b : Buf} {f : Nat → M α} {g : Nat → UInt8 → M α} (p : UInt8 → Bool)
    (step : ∀ i c, b.get? i = .ok c → f i = if c != 0 && p c then f (i + 1) else g i c) {i : Nat} (h : b.HasNul i) :
    f i = g (i + ((b.view i).takeWhile p).length) (((b.view i).dropWhile p).headD 0) := by
  rw [h.scan (p := fun c => c != 0 && p c) rfl step, view_takeWhile_nz, view_dropWhile_nz]

/-- The loop of `strchr` for a non-NUL byte `c`: `none` if the view has no `c`, else the index of the first. -/
theorem HasNul.scan_chr {b : Buf} {f : Nat → M (Option Nat)} (c : UInt8) (hc : c ≠ 0)
    (step : ∀ i x, b.get? i = .ok x →
      f i = if x == c then .ok (some i) else if x == 0 then .ok none else f (i + 1))
    {i : Nat} (h : b.HasNul i) :
    f i = .ok (match (b.view i).dropWhile (· != c) with
      | [] => none
      | _ :: _ => some (i + ((b.view i).takeWhile (· != c)).length)) := by
  -- the model tests for `c` first and for the terminator second; `scan` wants the test for going on first
  rw [h.scan_nz (f := f) (g := fun j x => if x == c then .ok (some j) else .ok none) (· != c) fun j x hg => by
    rw [step j x hg]
    by_cases h1 : x = c <;> by_cases h2 : x = 0 <;> simp [h1, h2]]
  cases hd : (b.view i).dropWhile (· != c) with
  | nil => simp [Ne.symm hc]
  | cons y t => simp [List.eq_of_dropWhile_ne_eq_cons hd]

end Buf

open Buf

/-! Unfolding.  Every loop of the model reads with `match h : b.get? i with` (the equation `h` is what `decreasing_by`
needs).  The arms of the equation that `rw [f]` leaves do not mention `h`, so `rw` rewrites a hypothesis
`hg : b.get? i = .ok c`, or the specification of a callee, into the discriminant (`simp only [hg]` does not), and a bare
`simp only` then reduces the match on `.ok c` where the arm has to be rewritten further: `rw [f, hg]` is how a loop is
unfolded.  A loop that reads one byte and tests it gets that step as a lemma `f_eq hg` all the same, because `HasNul.scan`
takes it as a term. -/

theorem strend_eq {b : Buf} {i : Nat} {c : UInt8} (hg : b.get? i = .ok c) :
    strend b i = if c == 0 then .ok i else strend b (i + 1) := by
  rw [strend]; split <;> simp_all

theorem strchr_eq {b : Buf} {i : Nat} {x : UInt8} (c : UInt8) (hg : b.get? i = .ok x) :
    strchr b i c = if x == c then .ok (some i) else if x == 0 then .ok none else strchr b (i + 1) c := by
  rw [strchr]; split <;> simp_all

theorem skipBlanks_eq {b : Buf} {i : Nat} {c : UInt8} (hg : b.get? i = .ok c) :
    skipBlanks b i = if isblank c then skipBlanks b (i + 1) else .ok i := by
  rw [skipBlanks]; split <;> simp_all

theorem readCStr_eq {b : Buf} {i : Nat} {c : UInt8} (acc : Bytes) (hg : b.get? i = .ok c) :
    readCStr b i acc = if c == 0 then .ok acc else readCStr b (i + 1) (acc ++ [c]) := by
  rw [readCStr]; split <;> simp_all

theorem strend_spec {b : Buf} {i : Nat} (h : b.HasNul i) : strend b i = .ok (i + (b.view i).length) := by
  rw [h.scan (f := strend b) (g := fun j _ => .ok j) (p := (· != 0)) rfl fun _ c hg => by
    rw [strend_eq hg, bne]; cases c == 0 <;> rfl,
    List.takeWhile_eq_self fun x hx => by simpa using view_no_nul b i x hx]

theorem strlen_spec {b : Buf} {i : Nat} (h : b.HasNul i) : strlen b i = .ok (b.view i).length := by
  unfold strlen; rw [strend_spec h]; simp

theorem strchr_spec {b : Buf} {i : Nat} (h : b.HasNul i) (c : UInt8) (hc : c ≠ 0) :
    strchr b i c = .ok (match (b.view i).dropWhile (· != c) with
      | [] => none
      | _ :: _ => some (i + ((b.view i).takeWhile (· != c)).length)) :=
  h.scan_chr c hc fun _ _ => strchr_eq c

theorem strncmpEq_spec {a p : Buf} (n : Nat) : ∀ {i j : Nat}, a.HasNul i → p.HasNul j →
    strncmpEq a i p j n = .ok (decide ((a.view i).take n = (p.view j).take n)) := by
  induction n with
  | zero => intro i j _ _; simp [strncmpEq]
  | succ n ih =>
    intro i j ha hp
    rw [strncmpEq]
    rcases ha.cases with ⟨hga, hva⟩ | ⟨x, hx, hga, hva, ha'⟩ <;>
    rcases hp.cases with ⟨hgp, hvp⟩ | ⟨y, hy, hgp, hvp, hp'⟩
    · simp [hga, hgp, hva, hvp]
    · simp only [hga, hgp, hva, hvp]
      have : (0 : UInt8) ≠ y := fun h => hy h.symm
      simp [this]
    · simp only [hga, hgp, hva, hvp]
      simp [hx]
    · simp only [hga, hgp, hva, hvp]
      by_cases hxy : x = y
      · subst hxy
        simp only [bne_self_eq_false, Bool.false_eq_true, if_false, beq_iff_eq, hx]
        rw [ih ha' hp']
        simp
      · simp [hxy]

/-- What `strncmp(s, p, strlen(p)) == 0` decides. -/
theorem take_eq_iff_startsWith (s p : Bytes) : decide (s.take p.length = p.take p.length) = startsWith s p := by
  simp only [List.take_length, startsWith]
  rw [Bool.eq_iff_iff]
  simp only [decide_eq_true_eq, List.isPrefixOf_iff_prefix]
  exact ⟨fun h => h ▸ List.take_prefix _ _, fun h => (List.prefix_iff_eq_take.mp h).symm⟩

theorem startsWithLit_spec {b : Buf} {i : Nat} (h : b.HasNul i) (lit : Bytes) (hl : ∀ x ∈ lit, x ≠ 0) :
    startsWithLit b i lit = .ok (startsWith (b.view i) lit) := by
  unfold startsWithLit
  rw [strncmpEq_spec _ h (ofBytes_terminated lit).hasNul0, view_ofBytes_of_no_nul hl, take_eq_iff_startsWith]

theorem strstr_spec {b : Buf} {i : Nat} (h : b.HasNul i) (lit : Bytes) (hl : ∀ x ∈ lit, x ≠ 0) (hne : lit ≠ []) :
    strstr b i lit = .ok ((findSub lit (b.view i)).map (i + ·)) := by
  have hemp : lit.isEmpty = false := by cases lit <;> simp_all
  induction h using HasNul.induction with
  | nul i h hg hv =>
    rw [strstr, hg, startsWithLit_spec h lit hl, hv]
    have : startsWith [] lit = false := by
      cases lit with
      | nil => exact absurd rfl hne
      | cons a r => simp [startsWith]
    rw [this]
    simp [findSub, hemp]
  | cons i x h h' hx hg hv ih =>
    rw [strstr, hg, startsWithLit_spec h lit hl, hv]
    simp only [findSub, startsWith]
    by_cases hp : lit.isPrefixOf (x :: b.view (i + 1)) = true
    · simp [hp]
    · simp only [hp, beq_iff_eq, hx, if_false, Bool.false_eq_true]
      rw [ih]
      cases findSub lit (b.view (i + 1)) with
      | none => simp
      | some k => simp; omega

theorem skipBlanks_spec {b : Buf} {i : Nat} (h : b.HasNul i) :
    skipBlanks b i = .ok (i + Mdsort.nspaces (b.view i)) :=
  h.scan (g := fun i _ => .ok i) rfl fun _ _ => skipBlanks_eq

theorem nspaces_spec {b : Buf} {i : Nat} (h : b.HasNul i) : nspaces b i = .ok (Mdsort.nspaces (b.view i)) := by
  unfold nspaces; rw [skipBlanks_spec h]; simp

theorem nspaces_le (s : Bytes) : Mdsort.nspaces s ≤ s.length :=
  (List.takeWhile_prefix _).length_le

theorem readCStr_spec {b : Buf} {i : Nat} (h : b.HasNul i) (acc : Bytes) :
    readCStr b i acc = .ok (acc ++ b.view i) := by
  induction h using HasNul.induction generalizing acc with
  | nul i h hg hv => rw [readCStr_eq acc hg, hv]; simp
  | cons i c h h' hc hg hv ih =>
    rw [readCStr_eq acc hg, if_neg (by simpa using hc), ih, hv]
    simp

/-- `strchr_spec` in `idxOf?` form, as `Model.b64idx` looks a byte up in the base64 alphabet. -/
theorem strchr_idx {b : Buf} {i : Nat} (h : b.HasNul i) (c : UInt8) (hc : c ≠ 0) :
    strchr b i c = .ok (((b.view i).idxOf? c).map (i + ·)) := by
  induction h using HasNul.induction with
  | nul i h hg hv =>
    rw [strchr_eq c hg, hv]
    have : (0 : UInt8) ≠ c := fun h => hc h.symm
    simp [this]
  | cons i x h h' hx hg hv ih =>
    rw [strchr_eq c hg, hv, List.idxOf?_cons]
    by_cases hxc : x = c
    · simp [hxc]
    · simp only [beq_iff_eq, hxc, hx, if_false]
      rw [ih]
      cases (b.view (i + 1)).idxOf? c with
      | none => simp
      | some k => simp; omega

theorem strnlen_spec {b : Buf} (n : Nat) : ∀ {i : Nat}, b.HasNul i →
    strnlen b i n = .ok (min n (b.view i).length) := by
  induction n with
  | zero => intro i _; simp [strnlen]
  | succ n ih =>
    intro i h
    rw [strnlen]
    rcases h.cases with ⟨hg, hv⟩ | ⟨x, hx, hg, hv, hn'⟩
    · simp [hg, hv]
    · simp only [hg, hv, beq_iff_eq, hx, if_false, ih hn']
      simp

namespace Buf

/-! What has been written so far is `d.slice 0 k`, the bytes before the write position `k`. -/

theorem slice_all (b : Buf) : b.slice 0 b.size = b.bytes.toList := by
  rw [slice_eq, List.drop_zero]
  exact List.take_of_length_le (by simp [size])

theorem set_push {d : Buf} {k : Nat} (c : UInt8) (hk : k < d.size) :
    ∃ d', d.set k c = .ok d' ∧ d'.size = d.size ∧ d'.slice 0 (k + 1) = d.slice 0 k ++ [c] :=
  have h := set_ok c hk
  ⟨_, h, size_of_set h, by rw [slice_snoc (get?_set_self h), slice_of_set h (Nat.le_refl _)]⟩

theorem writeAt_push (s : Bytes) : ∀ (d : Buf) (k : Nat), k + s.length ≤ d.size →
    ∃ d', d.writeAt k s = .ok d' ∧ d'.size = d.size ∧ d'.slice 0 (k + s.length) = d.slice 0 k ++ s := by
  induction s with
  | nil => intro d k _; exact ⟨d, rfl, rfl, by simp⟩
  | cons c cs ih =>
    intro d k h
    obtain ⟨d1, h1, hs1, hp1⟩ := set_push (d := d) (k := k) c (by simp at h; omega)
    obtain ⟨d2, h2, hs2, hp2⟩ := ih d1 (k + 1) (by simp at h; omega)
    refine ⟨d2, by rw [writeAt, h1]; exact h2, hs2.trans hs1, ?_⟩
    rw [List.length_cons, ← Nat.add_assoc, Nat.add_right_comm, hp2, hp1, List.append_assoc]
    rfl

theorem set_nul_view {d : Buf} {k : Nat} (hk : k < d.size) :
    ∃ d', d.set k 0 = .ok d' ∧ d'.size = d.size ∧ d'.HasNul 0 ∧ d'.view 0 = cstr (d.slice 0 k) :=
  have h := set_ok 0 hk
  ⟨_, h, size_of_set h, ⟨k, Nat.zero_le _, get?_set_self h⟩,
    by rw [view_of_nul_at (get?_set_self h), slice_of_set h (Nat.le_refl _)]⟩

end Buf

/-- The copy loop of `strndup` is `memcpy` of the first `m` bytes of the view. -/
theorem copyN_eq_writeAt {src : Buf} (m : Nat) : ∀ {i : Nat} (dst : Buf) (k : Nat), src.HasNul i →
    m ≤ (src.view i).length →
    copyN src i dst k m = (dst.writeAt k ((src.view i).take m)).map fun d => (d, k + m) := by
  induction m with
  | zero => intro i dst k _ _; rfl
  | succ m ih =>
    intro i dst k h hm
    rw [copyN]
    rcases h.cases with ⟨_, hv⟩ | ⟨x, hx, hg, hv, hn'⟩
    · rw [hv] at hm; simp at hm
    · rw [hg, hv, List.take_succ_cons, Buf.writeAt]
      simp only [beq_iff_eq, hx, if_false]
      cases dst.set k x with
      | error e => rfl
      | ok dst' =>
        simp only
        rw [ih dst' (k + 1) hn' (by rw [hv] at hm; simpa using hm), Nat.add_right_comm k 1 m, Nat.add_assoc]

theorem malloc_size (n : Nat) : (Buf.malloc n).size = n := by simp [Buf.malloc, Buf.size]

theorem strndup_spec {s : Buf} {i : Nat} (h : s.HasNul i) (n : Nat) :
    strndup s i n = .ok (Buf.ofBytes ((s.view i).take n)) := by
  unfold strndup
  rw [strnlen_spec n h, bind_ok, copyN_eq_writeAt _ _ 0 h (Nat.min_le_right _ _)]
  have htk : (s.view i).take (min n (s.view i).length) = (s.view i).take n := by
    rw [List.take_eq_take_iff]; simp
  have hlen : ((s.view i).take n).length = min n (s.view i).length := List.length_take
  rw [htk]
  -- the copy fills all but the last of the `strnlen + 1` bytes, the terminator the last
  obtain ⟨d, hw, hsz, hsl⟩ := Buf.writeAt_push ((s.view i).take n) (Buf.malloc (min n (s.view i).length + 1)) 0
    (by rw [malloc_size, hlen]; omega)
  rw [malloc_size] at hsz
  obtain ⟨d', hs, hsz', hp⟩ := Buf.set_push (d := d) (k := 0 + min n (s.view i).length) 0 (by omega)
  rw [hw]
  simp only [Except.map, bind_ok, hs]
  congr 1
  apply Buf.eq_of_toList
  rw [Buf.toList_ofBytes, ← Buf.slice_all, hsz', hsz, ← Nat.zero_add (min _ _ + 1), ← Nat.add_assoc, hp, ← hlen, hsl,
    Buf.slice_self]
  rfl

theorem strdup_spec {s : Buf} {i : Nat} (h : s.HasNul i) : strdup s i = .ok (Buf.ofBytes (s.view i)) := by
  have := strndup_spec h (s.view i).length
  unfold strndup at this
  rw [strnlen_spec _ h] at this
  unfold strdup
  rw [strlen_spec h]
  simp only [Nat.min_self, List.take_length] at this
  exact this

end Mdsort.L0
