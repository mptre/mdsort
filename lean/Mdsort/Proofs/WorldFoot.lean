import Mdsort.Proofs.WorldScripts
import Mdsort.Proofs.WorldKinds

/-!
# Footprints, and `message_write` once

The footprint relations of the scripts that change no directory (`Fr1`: any set of files; `FrW`: one file, nothing else at
all) and `message_write` described by the strongest relation between the world at its start and the world after any of its
calls (`MW`: the footprint `FrW`, and the one file `Written`).  It is walked once, for every relation `R` of admissible
results that are `Sane`; what the concerns need of it - a tracked entry stays bound (`spec_messageWriteP`), the footprints of
`maildir_move` / `maildir_write` (`MW.fr`, `FrW.fr1`), durable content (`MW.di`, WorldCrash), the statement of ExecSeqBasic for every
possible result - is `wp_inv_mono`/`wp_mono` of that walk and an implication between relations that mentions no program.

## The relations "relative to the world at the start"

Each says what a script has NOT done between the world `w0` at its start and a later world `w`; each is kept by a class of calls
(`Fr1.step`, `Mid.step`, `WholeK.step`, `Keeps.step`, `Fr.step`).  From the one that says most:

* `SameFs w0 w` (WorldScripts): only the trace differs.  Failed calls that release nothing, `fstatat` (`SameFs.of_core`).
* `FrW fid w0 w`: no directory, no time, no older handle, no file but `fid`, no new file id: the footprint of `message_write`.
* `Fr1 S w0 w`: the list of directories is the same, no older handle, no file that existed other than those in `S`; new
  files and handles are free.  A script that touches no directory is stated with it (the temporary-file scripts and `exec()`
  in WorldFootExec, with `S = NewS w0`).  `FrW.fr1`; `Fr1.of_frW` composes them.
* `Mid w0 w L` (WorldMid): directories keep existing but their ENTRIES change, and `L` says exactly to what; no file that
  existed and no older handle is touched.  The middle of `maildir_move` / `maildir_write`.  `Mid.frame` carries it across the
  `Fr1` of a sub-script, `Mid.of_same` across `SameFs`; its net effect on one entry is `Delta` (`Mid.delta_same`,
  `Mid.delta_moved`).
* `WholeK a H w0 w` (WorldWholeBasic): one direction only - an entry other than `a` that was bound stays bound to its file,
  a free name may become bound; files that existed keep their content; handles below the cut `H`.  What survives a whole
  action, and a run.  `WholeK.of_mid`, `WholeK.of_fr1`.
* `Keeps A w0 w` (below): `WholeK` for a set `A` of entries and without handles or directories: what the C09 walks
  (WorldMtime) and the footprint of `maildir_move` carry.
* `Fr cs p0 n0 fid0 w0 w` (WorldScripts): `Fr1` without its clause about files, with a tracked entry `GoodAt` instead; only the
  tracked walk's `spec_messageWriteP` is stated with it (`FrW.fr`).

A frame is stated with the first of these that holds (no entry changes: `Fr1`, or `FrW` for one file; entries change: `Mid`
with its `L` written out) and the weaker ones are read off by the conversions named.
-/

namespace Mdsort.Proofs.World
open Mdsort Mdsort.Model

abbrev NoInv : World → Prop := fun _ => True

theorem whole_wp_noInv {α} {I : World → Prop} {p : Prog α} {Q : α → World → Prop} {w : World}
    (h : wp I p Q w) : wp NoInv p Q w := wp_inv_mono h fun _ _ => trivial

/-- Frame of a script that changes no directory, relative to the world at its start:
`S` holds of the ids of the files it may write. -/
structure Fr1 (S : Nat → Prop) (w0 w : World) : Prop where
  dirs : w.dirs = w0.dirs
  objs : ∀ h, h < w0.handles.length → w.obj h = w0.obj h
  len : w0.handles.length ≤ w.handles.length
  nextFid : w0.nextFid ≤ w.nextFid
  files : ∀ g, g < w0.nextFid → ¬ S g → w.file g = w0.file g

theorem Fr1.refl (S : Nat → Prop) (w : World) : Fr1 S w w :=
  ⟨rfl, fun _ _ => rfl, Nat.le_refl _, Nat.le_refl _, fun _ _ _ => rfl⟩

theorem Fr1.step {S : Nat → Prop} {w0 w : World} (fr : Fr1 S w0 w) (c : Call) (r : Res)
    (hd : Call.dirOp c = false) (hsub : ∀ h, Call.subject c = some h → w0.handles.length ≤ h)
    (hfs : ∀ g, g < w0.nextFid → ¬ S g → fileSafe w g c) : Fr1 S w0 (stepWorld w c r) := by
  refine ⟨?_, ?_, ?_, ?_, ?_⟩
  · simp [core_dirs w c r hd, fr.dirs]
  · intro h hh
    rw [stepWorld_obj, core_obj w c r h (Nat.lt_of_lt_of_le hh fr.len), fr.objs h hh]
    intro hs
    have := hsub h hs
    omega
  · simpa using Nat.le_trans fr.len (core_len w c r)
  · simpa using Nat.le_trans fr.nextFid (core_nextFid w c r)
  · intro g hg hS
    rw [stepWorld_file, core_file w c r g (Nat.lt_of_lt_of_le hg fr.nextFid) (hfs g hg hS), fr.files g hg hS]

theorem Fr1.trans {S : Nat → Prop} {w0 w1 w2 : World} (a : Fr1 S w0 w1) (b : Fr1 S w1 w2) : Fr1 S w0 w2 :=
  ⟨b.dirs.trans a.dirs, fun h hh => (b.objs h (Nat.lt_of_lt_of_le hh a.len)).trans (a.objs h hh),
   Nat.le_trans a.len b.len, Nat.le_trans a.nextFid b.nextFid,
   fun g hg hS => (b.files g (Nat.lt_of_lt_of_le hg a.nextFid) hS).trans (a.files g hg hS)⟩

/-- State while the stream `N` on file `fid` is being written: the state of the walk of `message_write` (`wpg_hdrs`,
`wpg_mwTail`). -/
structure WSt1 (w0 : World) (N : Handle) (fid : Nat) (w : World) (f : File) (buf : Bytes) : Prop where
  fr : Fr1 (fun g => g = fid) w0 w
  obj : w.obj N = .stream fid buf
  file : w.file fid = some f

theorem WSt1.lt {w0 N fid w f buf} (s : WSt1 w0 N fid w f buf) : N < w.handles.length :=
  lt_of_obj_ne_closed w N (by simp [s.obj])

theorem WSt1.safe {w0 N fid w f buf} (s : WSt1 w0 N fid w f buf) {g : Nat} (hg : ¬ g = fid) :
    objFid (w.obj N) ≠ some g := by
  simp only [s.obj, objFid, ne_eq, Option.some.injEq]
  exact fun h => hg h.symm

theorem WSt1.err {w0 N fid w f buf} (s : WSt1 w0 N fid w f buf)
    (hN : w0.handles.length ≤ N) (c : Call) (e : String)
    (hd : Call.dirOp c = false) (hsub : ∀ h, Call.subject c = some h → h = N)
    (hr : Call.released c = none) (hfs : ∀ g, ¬ g = fid → fileSafe w g c) :
    WSt1 w0 N fid (stepWorld w c (.err e)) f buf := by
  have hc := core_fail w e hr
  refine ⟨s.fr.step c _ hd (fun h hh => by rw [hsub h hh]; exact hN) (fun g _ hg => hfs g hg), ?_, ?_⟩
  · rw [stepWorld_obj, hc]; exact s.obj
  · rw [stepWorld_file, hc]; exact s.file

theorem WSt1.fprintf {w0 N fid w f buf} (s : WSt1 w0 N fid w f buf)
    (hN : w0.handles.length ≤ N) (data : Bytes) :
    WSt1 w0 N fid (stepWorld w (.fprintf N data) (.ok data.length)) f (buf ++ data) := by
  have hc := core_fprintf_ok s.obj data
  refine ⟨s.fr.step _ _ rfl (fun h hh => by cases hh; exact hN) (fun g _ hg => s.safe hg), ?_, ?_⟩
  · rw [stepWorld_obj, hc]; simp [obj_setObj, s.lt]
  · rw [stepWorld_file, hc]; simpa using s.file

theorem WSt1.fflush {w0 N fid w f buf} (s : WSt1 w0 N fid w f buf)
    (hN : w0.handles.length ≤ N) (v : Nat) :
    WSt1 w0 N fid (stepWorld w (.fflush N) (.ok v)) { f with data := f.data ++ buf } [] := by
  have hc := core_fflush_ok s.obj s.file v
  refine ⟨s.fr.step _ _ rfl (fun h hh => by cases hh; exact hN) (fun g _ hg => s.safe hg), ?_, ?_⟩
  · rw [stepWorld_obj, hc]; simp [obj_setObj, s.lt]
  · rw [stepWorld_file, hc]; simp [file_setFile]

theorem WSt1.fsync {w0 N fid w f buf} (s : WSt1 w0 N fid w f buf) (v : Nat) :
    WSt1 w0 N fid (stepWorld w (.fsync N) (.ok v)) { f with durable := f.data } buf := by
  have hc := core_fsync_stream_ok s.obj s.file v
  refine ⟨s.fr.step _ _ rfl (fun h hh => by cases hh) (fun g _ hg => s.safe hg), ?_, ?_⟩
  · rw [stepWorld_obj, hc]; simpa using s.obj
  · rw [stepWorld_file, hc]; simp [file_setFile]

structure FrW (fid : Nat) (w0 w : World) : Prop where
  dirs : w.dirs = w0.dirs
  mtimes : w.mtimes = w0.mtimes
  files : ∀ g, g < w0.nextFid → g ≠ fid → w.file g = w0.file g
  objs : ∀ h, h < w0.handles.length → w.obj h = w0.obj h
  len : w0.handles.length ≤ w.handles.length
  nextFid : w.nextFid = w0.nextFid

theorem FrW.refl (fid : Nat) (w : World) : FrW fid w w :=
  ⟨rfl, rfl, fun _ _ _ => rfl, fun _ _ => rfl, Nat.le_refl _, rfl⟩

/-- File `f` on the way from `f0` to "`f0` with `c` appended and synced": data is only appended; the durable content is
the old one until the one `fsync`, which comes when exactly `c` has been appended. -/
def Written (f0 : File) (c : Bytes) (f : File) : Prop :=
  f0.data <+: f.data ∧ (f.durable = f0.durable ∨ f.durable = f0.data ++ c ∧ f.durable <+: f.data)

theorem Written.refl (f0 : File) (c : Bytes) : Written f0 c f0 := ⟨List.prefix_refl _, .inl rfl⟩

theorem Written.append {f0 f : File} {c : Bytes} (h : Written f0 c f) (s : Bytes) : Written f0 c { f with data := f.data ++ s } :=
  ⟨h.1.trans (List.prefix_append _ _), h.2.imp_right fun h2 => ⟨h2.1, h2.2.trans (List.prefix_append _ _)⟩⟩

theorem Written.sync {f0 f : File} {c : Bytes} (h : f.data = f0.data ++ c) : Written f0 c { f with durable := f.data } :=
  ⟨h ▸ List.prefix_append _ _, .inr ⟨h, List.prefix_refl _⟩⟩

/-- After every call of `message_write(m, fd)`, `fd` on file `fid` that held `f0` at the start `w0`: nothing but `fid`
and newer handles has changed, and `fid` is on its way to `f0` with the rendered message `c` appended and synced. -/
structure MW (fid : Nat) (f0 : File) (c : Bytes) (w0 w : World) : Prop where
  fr : FrW fid w0 w
  file : ∃ f, w.file fid = some f ∧ Written f0 c f

theorem FrW.fr1 {fid : Nat} {w0 w : World} (fr : FrW fid w0 w) : Fr1 (fun g => g = fid) w0 w :=
  ⟨fr.dirs, fr.objs, fr.len, Nat.le_of_eq fr.nextFid.symm, fun g hg hne => fr.files g hg hne⟩

theorem FrW.fr {cs : List Bytes} {p0 n0 : Bytes} {fid0 fid : Nat} {w0 w : World} (fr : FrW fid w0 w)
    (hg : GoodAt w0 cs p0 n0 fid0) (hne : fid ≠ fid0) : Fr cs p0 n0 fid0 w0 w := by
  obtain ⟨hl, hlt, f, hf, h1, h2⟩ := hg
  exact ⟨⟨by rw [lookup_of_dirs fr.dirs]; exact hl, by rw [fr.nextFid]; exact hlt, f,
    by rw [fr.files fid0 hlt (Ne.symm hne)]; exact hf, h1, h2⟩, fr.dirs, fr.objs, fr.len, Nat.le_of_eq fr.nextFid.symm⟩

section
variable {R : World → Call → Res → Prop} (hR : ∀ {w c r}, R w c r → Sane w c r)
include hR

/-- The header lines go to the stream's buffer: the file is as it was after every call. -/
theorem wpg_hdrs (w0 : World) (newfd : Handle) (fid : Nat) (f : File)
    (hN : w0.handles.length ≤ newfd) (hs : List Hdr) {w : World} {buf : Bytes}
    (s : WSt1 w0 newfd fid w f buf) :
    wpg R (fun w' => Fr1 (fun g => g = fid) w0 w' ∧ w'.file fid = some f) (messageWriteP.hdrs newfd hs)
      (fun err w' => ∃ buf', WSt1 w0 newfd fid w' f buf' ∧ (err = false → buf' = buf ++ hs.flatMap hdrLine)) w := by
  induction hs generalizing w buf with
  | nil =>
    rw [hdrs_nil]
    exact ⟨buf, s, by simp⟩
  | cons h rest ih =>
    rw [hdrs_cons]
    intro r hr
    rcases (hR hr).fprintf _ _ rfl with rfl | ⟨e, rfl⟩
    · have s1 := s.fprintf hN (hdrLine h)
      refine ⟨⟨s1.fr, s1.file⟩, ?_⟩
      simp only [isOk, if_true]
      refine wpg_mono (ih s1) ?_
      rintro err w' ⟨buf', s', hb⟩
      exact ⟨buf', s', fun he => by simp [hb he, List.flatMap_cons]⟩
    · have s1 := s.err hN (.fprintf newfd (hdrLine h)) e rfl (by intro _ h; cases h; rfl) rfl (fun g hg => s.safe hg)
      exact ⟨⟨s1.fr, s1.file⟩, buf, s1, by intro h; cases h⟩

theorem wpg_mwTail {w0 N fid w f buf} (s : WSt1 w0 N fid w f buf)
    (hN : w0.handles.length ≤ N) (body : Bytes) (herr : Bool) :
    wpg R (fun w' => Fr1 (fun g => g = fid) w0 w' ∧ ∃ f', w'.file fid = some f' ∧ Written f (buf ++ ([10] ++ body)) f')
      (mwTail N body herr)
      (fun err w' => ∃ f' buf', WSt1 w0 N fid w' f' buf' ∧ Written f (buf ++ ([10] ++ body)) f' ∧
        (err = false → herr = false ∧ f'.data = f.data ++ buf ++ [10] ++ body ∧ f'.durable = f'.data ∧ buf' = [])) w := by
  unfold mwTail
  split
  · exact ⟨f, buf, s, .refl _ _, by intro h; cases h⟩
  · rename_i hherr
    intro r hr
    rcases (hR hr).fprintf _ _ rfl with rfl | ⟨e, rfl⟩
    · have s1 := s.fprintf hN ([10] ++ body)
      refine ⟨⟨s1.fr, f, s1.file, .refl _ _⟩, ?_⟩
      simp only [isOk, Bool.not_true, Bool.false_eq_true, if_false]
      intro r hr
      rcases (hR hr).plain rfl with ⟨v, rfl⟩ | ⟨e, rfl⟩
      · have s2 := s1.fflush hN v
        have hw2 : Written f (buf ++ ([10] ++ body)) { f with data := f.data ++ (buf ++ ([10] ++ body)) } :=
          (Written.refl f _).append _
        refine ⟨⟨s2.fr, _, s2.file, hw2⟩, ?_⟩
        simp only [Bool.not_true, Bool.false_eq_true, if_false]
        intro r hr
        rcases (hR hr).plain rfl with ⟨v', rfl⟩ | ⟨e, rfl⟩
        · have s3 := s2.fsync v'
          have hw3 : Written f (buf ++ ([10] ++ body))
              { ({ f with data := f.data ++ (buf ++ ([10] ++ body)) } : File) with durable := f.data ++ (buf ++ ([10] ++ body)) } :=
            Written.sync (f := { f with data := f.data ++ (buf ++ ([10] ++ body)) }) rfl
          refine ⟨⟨s3.fr, _, s3.file, hw3⟩, _, _, s3, hw3, ?_⟩
          intro _
          refine ⟨by simpa using hherr, ?_, rfl, rfl⟩
          simp [List.append_assoc]
        · have s3 := s2.err hN (.fsync N) e rfl (by intro _ h; cases h) rfl (fun g hg => s2.safe hg)
          exact ⟨⟨s3.fr, _, s3.file, hw2⟩, _, _, s3, hw2, by intro h; simp at h⟩
      · have s2 := s1.err hN (.fflush N) e rfl (by intro _ h; cases h; rfl) rfl (fun g hg => s1.safe hg)
        exact ⟨⟨s2.fr, _, s2.file, .refl _ _⟩, _, _, s2, .refl _ _, by intro h; simp at h⟩
    · have s1 := s.err hN (.fprintf N ([10] ++ body)) e rfl (by intro _ h; cases h; rfl) rfl (fun g hg => s.safe hg)
      exact ⟨⟨s1.fr, _, s1.file, .refl _ _⟩, _, _, s1, .refl _ _, by intro h; simp at h⟩

theorem wpg_written (m : Msg) (fd : Handle) {w : World} {fid off : Nat} {wr : Bool} {f0 : File}
    (ho : w.obj fd = .file fid off wr) (hf : w.file fid = some f0) :
    wpg R (fun w' => Fr1 (fun g => g = fid) w w' ∧ ∃ f, w'.file fid = some f ∧ Written f0 (messageWrite m).1 f)
      (messageWriteP m fd)
      (fun err w' => ∃ f, w'.file fid = some f ∧
          (err = false → f.data = f0.data ++ (messageWrite m).1 ∧ f.durable = f.data)) w := by
  have same : ∀ {w' : World}, Fr1 (fun g => g = fid) w w' → w'.file fid = some f0 →
      Fr1 (fun g => g = fid) w w' ∧ ∃ f, w'.file fid = some f ∧ Written f0 (messageWrite m).1 f :=
    fun fr h => ⟨fr, f0, h, .refl _ _⟩
  rw [messageWriteP_eq]
  intro r hr
  have fr1 := (Fr1.refl (fun g => g = fid) w).step (.dupfd fd) r rfl (by intro _ h; cases h) (fun _ _ _ => trivial)
  rcases (hR hr).handle rfl with rfl | ⟨e, rfl⟩
  rotate_left
  · have hf1 : (stepWorld w (.dupfd fd) (.err e)).file fid = some f0 := by
      rw [stepWorld_file, core_fail w (c := .dupfd fd) e rfl]; exact hf
    exact ⟨same fr1 hf1, f0, hf1, by intro h; cases h⟩
  have hc1 := core_dupfd_ok ho w.handles.length
  generalize hw1 : stepWorld w (.dupfd fd) (.ok w.handles.length) = w1 at fr1 ⊢
  have ho1 : w1.obj w.handles.length = .file fid off wr := by
    rw [← hw1, stepWorld_obj, hc1]; simp [obj_newHandle]
  have hf1 : w1.file fid = some f0 := by
    rw [← hw1, stepWorld_file, hc1]; simpa using hf
  refine ⟨same fr1 hf1, ?_⟩
  dsimp only
  intro r hr
  have fr2 := fr1.step (.fdopen w.handles.length) r rfl (by intro _ h; cases h; exact Nat.le_refl _) (fun _ _ _ => trivial)
  rcases (hR hr).plain rfl with ⟨v, rfl⟩ | ⟨e, rfl⟩
  rotate_left
  · have hf2 : (stepWorld w1 (.fdopen w.handles.length) (.err e)).file fid = some f0 := by
      rw [stepWorld_file, core_fail w1 (c := .fdopen w.handles.length) e rfl]; exact hf1
    refine ⟨same fr2 hf2, ?_⟩
    simp only [isOk, Bool.not_false, if_true]
    refine wpg_call_any fun r3 => ?_
    have fr3 := fr2.step (.close w.handles.length) r3 rfl
      (by intro _ h; cases h; exact Nat.le_refl _) (fun _ _ _ => trivial)
    have hf3 : (stepWorld (stepWorld w1 (.fdopen w.handles.length) (.err e)) (.close w.handles.length) r3).file fid = some f0 := by
      rw [stepWorld_file, core_close]; exact hf2
    exact ⟨same fr3 hf3, f0, hf3, by intro h; cases h⟩
  have hc2 := core_fdopen_ok ho1 v
  have s2 : WSt1 w w.handles.length fid (stepWorld w1 (.fdopen w.handles.length) (.ok v)) f0 [] := by
    refine ⟨fr2, ?_, ?_⟩
    · rw [stepWorld_obj, hc2]; simp [obj_setObj, lt_of_obj_ne_closed w1 w.handles.length (by simp [ho1])]
    · rw [stepWorld_file, hc2]; simpa using hf1
  refine ⟨same s2.fr s2.file, ?_⟩
  simp only [isOk, Bool.not_true, Bool.false_eq_true, if_false]
  refine wpg_bind_mono (wpg_inv_mono (wpg_hdrs hR w w.handles.length fid f0 (Nat.le_refl _) (sortById m.headers) s2)
    fun _ h => same h.1 h.2) ?_
  rintro herr w3 ⟨buf3, s3, hbuf3⟩
  -- the tail appends `buf3 ++ [10] ++ body`, which is the rendered message when the header lines went through
  have hren : herr = false → buf3 ++ ([10] ++ m.body) = (messageWrite m).1 := by
    intro hh; rw [hbuf3 hh, render_eq]; simp [List.append_assoc]
  have tail : wpg R (fun w' => Fr1 (fun g => g = fid) w w' ∧ ∃ f, w'.file fid = some f ∧ Written f0 (messageWrite m).1 f)
      (mwTail w.handles.length m.body herr)
      (fun err w' => ∃ f' buf', WSt1 w w.handles.length fid w' f' buf' ∧ Written f0 (messageWrite m).1 f' ∧
        (err = false → herr = false ∧ f'.data = f0.data ++ buf3 ++ [10] ++ m.body ∧ f'.durable = f'.data ∧ buf' = [])) w3 := by
    cases herr with
    | true => exact ⟨f0, buf3, s3, .refl _ _, by intro h; cases h⟩
    | false =>
      rw [← hren rfl]
      exact wpg_mwTail hR s3 (Nat.le_refl _) m.body false
  refine wpg_bind_mono tail ?_
  rintro err1 w4 ⟨f4, buf4, s4, hw4, h4⟩
  refine wpg_call_any fun r3 => ?_
  have fr5 := s4.fr.step (.fclose w.handles.length) r3 rfl (by intro _ h; cases h; exact Nat.le_refl _)
    (fun g _ hg => s4.safe hg)
  have hc5 := core_fclose_stream s4.obj s4.file r3
  by_cases he : r3.isErr = true
  · have hf5 : (stepWorld w4 (.fclose w.handles.length) r3).file fid = some f4 := by
      rw [stepWorld_file, hc5]; simpa [he] using s4.file
    refine ⟨⟨fr5, f4, hf5, hw4⟩, f4, hf5, ?_⟩
    cases r3 <;> simp [Res.isErr] at he
    intro h; simp at h
  · have hf5 : (stepWorld w4 (.fclose w.handles.length) r3).file fid = some { f4 with data := f4.data ++ buf4 } := by
      rw [stepWorld_file, hc5]; simp [he, file_setFile]
    refine ⟨⟨fr5, _, hf5, hw4.append _⟩, _, hf5, ?_⟩
    intro hE
    have he1 : err1 = false := (Bool.or_eq_false_iff.1 hE).1
    obtain ⟨hherr, hd, hdur, hb⟩ := h4 he1
    subst hb
    simp only [List.append_nil]
    refine ⟨?_, hdur⟩
    rw [hd, ← hren hherr]
    simp [List.append_assoc]

omit hR in
/-- No call of `message_write` makes a file or sets a time: by the constructors of its calls alone. -/
theorem ids_messageWriteP (m : Msg) (fd : Handle) (w : World) :
    wpg R (fun w' => w'.mtimes = w.mtimes ∧ w'.nextFid = w.nextFid) (messageWriteP m fd)
      (fun _ w' => w'.mtimes = w.mtimes ∧ w'.nextFid = w.nextFid) w := by
  refine wpg_mono (wpg_of_calls (kinds_messageWriteP m fd) (All.trivial' _) ?_ ⟨rfl, rfl⟩) fun _ _ h => h.1
  intro w' c r hk h
  have hq : Call.isUtimens c = false ∧ Call.creates c = false := by
    have hK : ∀ k ∈ mwKinds, k ∉ [Kind.utimensat, .openExcl, .mkostemp] := by decide
    cases c <;> first | exact ⟨rfl, rfl⟩ | exact (hK _ hk (Kind.mem rfl)).elim
  exact ⟨by rw [stepWorld_mtimes, core_mtimes _ _ _ hq.1]; exact h.1,
    by rw [stepWorld_nextFid, core_nextFid_eq _ _ _ hq.2]; exact h.2⟩

theorem wpg_messageWriteP (m : Msg) (fd : Handle) {w : World} {fid off : Nat} {wr : Bool} {f0 : File}
    (ho : w.obj fd = .file fid off wr) (hf : w.file fid = some f0) :
    wpg R (MW fid f0 (messageWrite m).1 w) (messageWriteP m fd)
      (fun err w' => (∃ f, w'.file fid = some f ∧
          (err = false → f.data = f0.data ++ (messageWrite m).1 ∧ f.durable = f.data)) ∧ MW fid f0 (messageWrite m).1 w w') w := by
  -- the two walks together: times and ids (`ids_messageWriteP`), and the footprint `Fr1` with the file `Written` (`wpg_written`)
  have both := wpg_both (ids_messageWriteP (R := R) m fd w) (wpg_written hR m fd ho hf)
  -- as an invariant they are `MW`: `FrW` takes `mtimes`, `nextFid` from the first and the rest from `Fr1`
  have mw : ∀ w', (w'.mtimes = w.mtimes ∧ w'.nextFid = w.nextFid) ∧
      Fr1 (fun g => g = fid) w w' ∧ (∃ f, w'.file fid = some f ∧ Written f0 (messageWrite m).1 f) →
      MW fid f0 (messageWrite m).1 w w' :=
    fun _ ⟨⟨hmt, hnf⟩, fr, hfile⟩ =>
      ⟨{ dirs := fr.dirs, mtimes := hmt, files := fun g hg hne => fr.files g hg hne, objs := fr.objs, len := fr.len,
         nextFid := hnf }, hfile⟩
  exact wpg_inv_post (wpg_mono (wpg_inv_mono both mw) fun _ _ h => h.2) ⟨.refl fid w, f0, hf, .refl _ _⟩

end

theorem traj_messageWriteP (m : Msg) (fd : Handle) {w : World} {fid off : Nat} {wr : Bool} {f0 : File}
    (ho : w.obj fd = .file fid off wr) (hf : w.file fid = some f0) :
    wp (MW fid f0 (messageWrite m).1 w) (messageWriteP m fd)
      (fun err w' => (∃ f, w'.file fid = some f ∧
          (err = false → f.data = f0.data ++ (messageWrite m).1 ∧ f.durable = f.data)) ∧ MW fid f0 (messageWrite m).1 w w') w :=
  wp_of_wpg (wpg_messageWriteP sane_fault m fd ho hf)

theorem spec_messageWriteP {cs : List Bytes} {p0 n0 : Bytes} {fid0 : Nat} (m : Msg) (fd : Handle) {w : World}
    {fid off : Nat} {wr : Bool} {f0 : File}
    (hg : GoodAt w cs p0 n0 fid0) (ho : w.obj fd = .file fid off wr) (hne : fid ≠ fid0) (hf : w.file fid = some f0) :
    wp (fun w' => GoodAt w' cs p0 n0 fid0) (messageWriteP m fd)
      (fun err w' => Fr cs p0 n0 fid0 w w' ∧ ∃ f, w'.file fid = some f ∧
          (err = false → f.data = f0.data ++ (messageWrite m).1 ∧ f.durable = f.data)) w :=
  wp_mono (wp_inv_mono (traj_messageWriteP m fd ho hf) fun _ h => (h.fr.fr hg hne).good) fun _ _ h => ⟨h.2.fr.fr hg hne, h.1⟩

structure Keeps (A : Bytes → Bytes → Prop) (w0 w : World) : Prop where
  look : ∀ q m fid, ¬ A q m → w0.lookup q m = some fid → w.lookup q m = some fid
  file : ∀ g, g < w0.nextFid → w.file g = w0.file g
  next : w0.nextFid ≤ w.nextFid

theorem Keeps.refl (A : Bytes → Bytes → Prop) (w : World) : Keeps A w w :=
  ⟨fun _ _ _ _ h => h, fun _ _ => rfl, Nat.le_refl _⟩

theorem Keeps.step {A : Bytes → Bytes → Prop} {w0 w : World} (k : Keeps A w0 w) (c : Call) (r : Res)
    (hd : ∀ q m fid, ¬ A q m → w0.lookup q m = some fid → w.lookup q m = some fid → dirSafe w q m c)
    (hf : ∀ g, g < w0.nextFid → fileSafe w g c) : Keeps A w0 (stepWorld w c r) := by
  refine ⟨?_, ?_, ?_⟩
  · intro q m fid hA h0
    have h1 := k.look q m fid hA h0
    rw [stepWorld_lookup]
    exact core_lookup w c r q m fid h1 (hd q m fid hA h0 h1)
  · intro g hg
    rw [stepWorld_file, core_file w c r g (Nat.lt_of_lt_of_le hg k.next) (hf g hg)]
    exact k.file g hg
  · rw [stepWorld_nextFid]
    exact Nat.le_trans k.next (core_nextFid w c r)

theorem Keeps.of_same {A : Bytes → Bytes → Prop} {w0 w w' : World} (k : Keeps A w0 w) (h : SameFs w w') : Keeps A w0 w' := by
  refine ⟨?_, ?_, ?_⟩
  · intro q m fid hA h0; rw [h.lookup]; exact k.look q m fid hA h0
  · intro g hg; rw [h.file]; exact k.file g hg
  · rw [h.nextFid]; exact k.next

theorem Keeps.mono {A B : Bytes → Bytes → Prop} {w0 w : World} (k : Keeps A w0 w) (hab : ∀ q m, A q m → B q m) : Keeps B w0 w :=
  ⟨fun q m fid hB h0 => k.look q m fid (fun hA => hB (hab q m hA)) h0, k.file, k.next⟩

end Mdsort.Proofs.World
