import Mdsort.Model.Main
import Mdsort.Proofs.WorldOwnBasic
import Mdsort.Proofs.WorldEqns

/-!
# The loops above `processMessage`

`walk`, the paths of a block, the blocks and `mainP` in call/bind normal form, and for each loop ONE
rule of `Own.wp R I` (WorldOwnBasic: arbitrary call results, the state is the trace), generic in the
invariant `I` of the calls (the passes under `World.wp`/`wpS` walk the loops themselves): a pass over a whole run says
what it knows about the scripts the loops call (`processMessage`, `maildirOpendir`, `maildirClose`,
`maildirStdin`, `closeStdin`) and gets the loops from here.  `M tr md` is what the pass maintains
while the maildir `md` is open, `J tr` what it maintains between two maildirs; a whole run ends in any postcondition that
holds of the exit status of the final loop state (`wp_mainP`).
-/

namespace Mdsort.Proofs
open Mdsort Mdsort.Model

/-- `maildir_skip`: the path is not selected in this mode. -/
def skipPath (env : PEnv) (p : Bytes) : Bool := (env.stdinMode && !isStdinPath p) || (!env.stdinMode && isStdinPath p)

/-- The loop state when the walk over the stdin spool starts. -/
def spooledSt (st : MainSt) (md : Maildir) (input : Bytes) : Option Bytes → MainSt
  | some n => { st with files := st.files.put md.path n input }
  | none => st

/-- The maildir `main` opens for a configured path. -/
def maildirOf (root np : Bytes) : Maildir :=
  { root := root, path := np, dirH := none, subdir := .new, walk := true, stdin := false }

/-- The bound on the length of the walk over a maildir, as `mainP` computes it (Model/Main.lean) from the number `n` of files
registered under `new` and `cur`, plus the ghost `env.extraFuel`.  Each `readdir` costs one: a listing returns `.`, `..`,
its files and the end, so `new` then `cur` need `n + 6` (`hfu` in `exit0_paths_gen`; the model allows 8, two to spare); a file
that a rule moves from `new` to `cur` of the same maildir is listed again, which `2 * n` covers. -/
def walkFuel (env : PEnv) (st : MainSt) (root np : Bytes) : Nat :=
  2 * (st.files.filter fun e => e.1 == np || e.1 == (root ++ [47] ++ subdirName .cur)).length + 8 + env.extraFuel

end Mdsort.Proofs

namespace Mdsort.Proofs.Own
open Mdsort Mdsort.Model Mdsort.Proofs
open Mdsort.Proofs.World (bind_eq pure_eq call_bind)
-- the passes of this namespace name these two units of WorldEqns without a prefix
export Mdsort.Proofs.World (mainK mainP_eq)

theorem walk_zero (env : PEnv) (orc : EvalOracles) (expr : Expr) (md : Maildir) (st : MainSt) :
    walk env orc expr 0 md st = .ret ({ st with fuelOut := true }, md) := rfl

/-- The body of the walk after `readdir` returned `r`. -/
def walkK (env : PEnv) (orc : EvalOracles) (expr : Expr) (fuel : Nat) (md : Maildir) (st : MainSt) (r : Res) :
    Prog (MainSt × Maildir) :=
  match r with
  | .name n =>
    if n == [46] || n == [46, 46] then walk env orc expr fuel md st
    else (processMessage env orc expr md n st).bind fun x => walk env orc expr fuel x.2 x.1
  | .eof =>
    if md.stdin then .ret (st, md)
    else
      match md.subdir with
      | .cur => .ret (st, md)
      | .new =>
        match pathjoin PATH_MAX md.root (subdirName .cur) with
        | none => .ret ({ st with error := true }, md)
        | some p =>
          (maildirOpendir { md with subdir := .cur, path := p } p).bind fun x =>
            if x.2 then .ret ({ st with error := true }, x.1) else walk env orc expr fuel x.1 st
  | _ => .ret ({ st with error := true }, md)

theorem walk_succ (env : PEnv) (orc : EvalOracles) (expr : Expr) (fuel : Nat) (md : Maildir) (st : MainSt) :
    walk env orc expr (fuel + 1) md st =
      match md.dirH with
      | none => .ret (st, md)
      | some d => .call (.readdir d) (fun r => walkK env orc expr fuel md st r) := by
  rw [walk]
  unfold walkK
  cases md.dirH with
  | none => rfl
  | some d =>
    dsimp only
    simp only [bind_eq, pure_eq, call_bind]
    rfl

theorem paths_nil (env : PEnv) (orc : EvalOracles) (input : Bytes) (b : ConfBlock) (st : MainSt) :
    mainP.blocks.paths env orc input b [] st = .ret st := rfl

theorem paths_cons (env : PEnv) (orc : EvalOracles) (input : Bytes) (b : ConfBlock) (p : Bytes) (more : List Bytes)
    (st : MainSt) :
    mainP.blocks.paths env orc input b (p :: more) st =
      if skipPath env p then mainP.blocks.paths env orc input b more st
      else if isStdinPath p then
        (maildirStdin env input).bind fun x =>
          if x.2.1 then (closeStdin (stdinFuel env) x.1).bind fun fo =>
            mainP.blocks.paths env orc input b more (orFuel { st with error := true } fo)
          else
            (walk env orc b.expr (stdinFuel env) x.1 (spooledSt st x.1 input x.2.2)).bind fun y =>
              (closeStdin (stdinFuel env) y.2).bind fun fo => mainP.blocks.paths env orc input b more (orFuel y.1 fo)
      else
        match strlcpyFits PATH_MAX p, pathjoin PATH_MAX p (subdirName .new) with
        | some root, some np =>
          (maildirOpendir (maildirOf root np) np).bind fun x =>
            if x.2 then mainP.blocks.paths env orc input b more { st with error := true }
            else
              (walk env orc b.expr (walkFuel env st root np) x.1 st).bind fun y =>
                (maildirClose y.2).bind fun _ => mainP.blocks.paths env orc input b more y.1
        | _, _ => mainP.blocks.paths env orc input b more { st with error := true } := by
  rw [mainP.blocks.paths]
  unfold skipPath
  split
  · rfl
  · split
    · rfl
    · rfl

theorem blocks_nil (env : PEnv) (orc : EvalOracles) (input : Bytes) (st : MainSt) :
    mainP.blocks env orc input [] st = .ret st := rfl

theorem blocks_cons (env : PEnv) (orc : EvalOracles) (input : Bytes) (b : ConfBlock) (rest : List ConfBlock) (st : MainSt) :
    mainP.blocks env orc input (b :: rest) st =
      (mainP.blocks.paths env orc input b b.paths st).bind fun st' => mainP.blocks env orc input rest st' := rfl

variable {R : Call → Res → Prop} {I : Trace → Call → Prop} {M : Trace → Maildir → Prop} {J : Trace → Prop}

/-- The walk over one maildir keeps `M`: `hmsg` is asked for the trace that ends with the `readdir`
that returned the name, `hcur` for the reopening on `cur` (whether it fails or not; the stdin spool has no `cur`). -/
theorem wp_walk (env : PEnv) (orc : EvalOracles) (expr : Expr)
    (hread : ∀ tr md d, md.dirH = some d → M tr md → I tr (.readdir d) ∧ ∀ r, M (tr ++ [(.readdir d, r)]) md)
    (hmsg : ∀ tr md d n st, M (tr ++ [(.readdir d, .name n)]) md →
      wp R I (processMessage env orc expr md n st) (fun x tr' => M tr' x.2) (tr ++ [(.readdir d, .name n)]))
    (hcur : ∀ tr md p, M tr md → md.stdin = false →
      wp R I (maildirOpendir { md with subdir := .cur, path := p } p) (fun x tr' => M tr' x.1) tr)
    (fuel : Nat) (md : Maildir) (st : MainSt) (tr : Trace) (h : M tr md) :
    wp R I (walk env orc expr fuel md st) (fun x tr' => M tr' x.2) tr := by
  induction fuel generalizing md st tr with
  | zero => exact h
  | succ fuel ih =>
    rw [walk_succ]
    split
    · exact h
    rename_i d hd
    refine wp_call (hread tr md d hd h).1 fun r _ => ?_
    have h1 := (hread tr md d hd h).2 r
    unfold walkK
    split
    · split
      · exact ih _ _ _ h1
      · exact wp_bind (wp_mono (hmsg tr md d _ st h1) fun x _ hx => ih _ _ _ hx)
    · split
      · exact h1
      · rename_i hs
        split
        · exact h1
        · split
          · exact h1
          · refine wp_bind (wp_mono (hcur _ _ _ h1 (by simpa using hs)) fun x _ hx => ?_)
            split
            · exact hx
            · exact ih _ _ _ hx
    · exact h1

/-- The paths of one block keep `J`.  In stdin mode only `/dev/stdin` (`isStdinPath`) is selected, else only the other paths:
the scripts of a mode are asked for in that mode only. -/
theorem wp_paths (env : PEnv) (orc : EvalOracles) (input : Bytes) (b : ConfBlock)
    (hstdin : env.stdinMode = true → ∀ tr, J tr → wp R I (maildirStdin env input) (fun x tr' => M tr' x.1) tr)
    (hcloseS : env.stdinMode = true → ∀ tr md, M tr md → wp R I (closeStdin (stdinFuel env) md) (fun _ tr' => J tr') tr)
    (hopen : env.stdinMode = false → ∀ tr root np, J tr →
      wp R I (maildirOpendir (maildirOf root np) np) (fun x tr' => if x.2 = true then J tr' else M tr' x.1) tr)
    (hwalk : ∀ tr fuel md st, M tr md → wp R I (walk env orc b.expr fuel md st) (fun y tr' => M tr' y.2) tr)
    (hclose : env.stdinMode = false → ∀ tr md, M tr md → wp R I (maildirClose md) (fun _ tr' => J tr') tr)
    (ps : List Bytes) (st : MainSt) (tr : Trace) (h : J tr) :
    wp R I (mainP.blocks.paths env orc input b ps st) (fun _ tr' => J tr') tr := by
  induction ps generalizing st tr with
  | nil => rw [paths_nil]; exact h
  | cons p more ih =>
    rw [paths_cons]
    split
    · exact ih _ _ h
    rename_i hsk
    split
    · rename_i hs
      have hm : env.stdinMode = true := by
        cases hm : env.stdinMode
        · exact absurd (by simp [skipPath, hm, hs]) hsk
        · rfl
      refine wp_bind (wp_mono (hstdin hm tr h) fun x _ hx => ?_)
      split
      · exact wp_bind (wp_mono (hcloseS hm _ _ hx) fun _ _ h2 => ih _ _ h2)
      · refine wp_bind (wp_mono (hwalk _ _ _ _ hx) fun y _ hy => ?_)
        exact wp_bind (wp_mono (hcloseS hm _ _ hy) fun _ _ h3 => ih _ _ h3)
    · rename_i hs
      have hm : env.stdinMode = false := by
        cases hm : env.stdinMode
        · rfl
        · exact absurd (by simp [skipPath, hm, hs]) hsk
      split
      · refine wp_bind (wp_mono (hopen hm tr _ _ h) fun x _ hx => ?_)
        split
        · rename_i hf
          exact ih _ _ (by rwa [if_pos hf] at hx)
        · rename_i hf
          rw [if_neg hf] at hx
          refine wp_bind (wp_mono (hwalk _ _ _ _ hx) fun y _ hy => ?_)
          exact wp_bind (wp_mono (hclose hm _ _ hy) fun _ _ h3 => ih _ _ h3)
      · exact ih _ _ h

theorem wp_blocks (env : PEnv) (orc : EvalOracles) (input : Bytes) (bs : List ConfBlock)
    (hpaths : ∀ b ∈ bs, ∀ st tr, J tr →
      wp R I (mainP.blocks.paths env orc input b b.paths st) (fun _ tr' => J tr') tr)
    (st : MainSt) (tr : Trace) (h : J tr) :
    wp R I (mainP.blocks env orc input bs st) (fun _ tr' => J tr') tr := by
  induction bs generalizing st tr with
  | nil => rw [blocks_nil]; exact h
  | cons b rest ih =>
    rw [blocks_cons]
    refine wp_bind (wp_mono (hpaths b (List.mem_cons_self ..) st tr h) fun st' _ h' => ?_)
    exact ih (fun b' hb' => hpaths b' (List.mem_cons_of_mem _ hb')) _ _ h'

theorem wp_mainK (env : PEnv) (orc : EvalOracles) (ok : Bool) (conf : List ConfBlock) (files : Files) (input : Bytes)
    {Q : Nat × MainSt → Trace → Prop} (hfin : ∀ st tr, J tr → Q (exitStatus env st, st) tr)
    (hblocks : ∀ st tr, J tr → wp R I (mainP.blocks env orc input conf st) (fun _ tr' => J tr') tr)
    (tr : Trace) (h : J tr) : wp R I (mainK env orc ok conf files input) Q tr := by
  unfold mainK
  split
  · exact hfin _ _ h
  · split
    · exact hfin _ _ h
    · exact wp_bind (wp_mono (hblocks _ _ h) fun _ _ h' => hfin _ _ h')

theorem wp_mainP (env : PEnv) (orc : EvalOracles) (ok : Bool) (conf : List ConfBlock) (files : Files) (input : Bytes)
    {Q : Nat × MainSt → Trace → Prop} (hfin : ∀ st tr, J tr → Q (exitStatus env st, st) tr)
    (tr : Trace) (hfopen : I tr (.fopen env.confpath))
    (hfail : ∀ r, (∀ h, r ≠ .ok h) → J (tr ++ [(.fopen env.confpath, r)]))
    (hfclose : ∀ h, I (tr ++ [(.fopen env.confpath, .ok h)]) (.fclose h))
    (hconf : ∀ h r, J (tr ++ [(.fopen env.confpath, .ok h)] ++ [(.fclose h, r)]))
    (hblocks : ∀ st tr', J tr' → wp R I (mainP.blocks env orc input conf st) (fun _ tr'' => J tr'') tr') :
    wp R I (mainP env orc ok conf files input) Q tr := by
  rw [mainP_eq]
  exact wp_call_okOr hfopen
    (fun h _ => wp_call (hfclose h) fun r _ => wp_mainK env orc ok conf files input hfin hblocks _ (hconf h r))
    fun r _ hr => hfin _ _ (hfail r hr)

end Mdsort.Proofs.Own

/-! ## a condition on calls through the loops

`walk`, the paths of a block, the blocks and `mainP` issue `readdir`, `fopen`, `fclose` themselves and run
`maildirOpendir`, `maildirClose` and - in stdin mode only - `maildirStdin`, `closeStdin`.  A condition `Q` that admits these
kinds and holds of the calls of `processMessage` holds of all calls of `mainP`: the loop rules at the invariant `True`
(`World.Calls` is `Own.wp` with nothing said about the trace, `calls_iff_wp`). -/

namespace Mdsort.Proofs.World
open Mdsort Mdsort.Model Mdsort.Proofs
open Mdsort.Proofs.Own (calls_iff_wp wp_walk wp_paths wp_blocks wp_mainP)

/-- The kinds of the loops' own calls and of `maildirOpendir`, `maildirClose`. -/
def loopKinds : List Kind := [.fopen, .fclose, .readdir, .closedir, .opendir]

/-- The kinds of `maildirStdin` and `closeStdin`. -/
def spoolKinds : List Kind := [.rewinddir, .readdir, .unlinkat, .rmdir] ++ stdinKinds

variable {Q : Call → Prop} {env : PEnv} {orc : EvalOracles} {input : Bytes}

theorem calls_walk {e : Expr} (hK : ∀ c, c.kind ∈ loopKinds → Q c)
    (hpm : ∀ md n st, Calls Q (processMessage env orc e md n st)) (fuel : Nat) (md : Maildir) (st : MainSt) :
    Calls Q (walk env orc e fuel md st) :=
  (calls_iff_wp (tr := [])).2 <|
    wp_walk (M := fun _ _ => True) env orc e
      (fun _ _ _ _ _ => ⟨hK _ (Kind.mem rfl), fun _ => trivial⟩)
      (fun _ md _ n st _ => calls_iff_wp.1 (hpm md n st))
      (fun _ _ _ _ _ => calls_iff_wp.1 ((kinds_maildirOpendir _ _).of_kinds hK (by decide))) fuel md st [] trivial

theorem calls_paths {b : ConfBlock} (hK : ∀ c, c.kind ∈ loopKinds → Q c)
    (hS : env.stdinMode = true → ∀ c, c.kind ∈ spoolKinds → Q c)
    (hpm : ∀ md n st, Calls Q (processMessage env orc b.expr md n st)) (ps : List Bytes) (st : MainSt) :
    Calls Q (mainP.blocks.paths env orc input b ps st) :=
  (calls_iff_wp (tr := [])).2 <|
    wp_paths (M := fun _ _ => True) (J := fun _ => True) env orc input b
      (fun hm _ _ => calls_iff_wp.1 ((kinds_maildirStdin _ _).of_kinds (hS hm) (by decide)))
      (fun hm _ _ _ => calls_iff_wp.1 ((kinds_closeStdin _ _).of_kinds (hS hm) (by decide)))
      (fun _ _ _ _ _ => Own.wp_mono (calls_iff_wp.1 ((kinds_maildirOpendir _ _).of_kinds hK (by decide)))
        fun _ _ _ => by split <;> trivial)
      (fun _ fuel md st _ => calls_iff_wp.1 (calls_walk hK hpm fuel md st))
      (fun _ _ _ _ => calls_iff_wp.1 ((kinds_maildirClose _).of_kinds hK (by decide))) ps st [] trivial

theorem calls_blocks {bs : List ConfBlock} (hK : ∀ c, c.kind ∈ loopKinds → Q c)
    (hS : env.stdinMode = true → ∀ c, c.kind ∈ spoolKinds → Q c)
    (hpm : ∀ b ∈ bs, ∀ md n st, Calls Q (processMessage env orc b.expr md n st)) (st : MainSt) :
    Calls Q (mainP.blocks env orc input bs st) :=
  (calls_iff_wp (tr := [])).2 <|
    wp_blocks (J := fun _ => True) env orc input bs
      (fun b hb st _ _ => calls_iff_wp.1 (calls_paths hK hS (hpm b hb) b.paths st)) st [] trivial

theorem calls_mainP {conf : List ConfBlock} (hK : ∀ c, c.kind ∈ loopKinds → Q c)
    (hS : env.stdinMode = true → ∀ c, c.kind ∈ spoolKinds → Q c)
    (hpm : ∀ b ∈ conf, ∀ md n st, Calls Q (processMessage env orc b.expr md n st)) (ok : Bool) (files : Files) :
    Calls Q (mainP env orc ok conf files input) :=
  (calls_iff_wp (tr := [])).2 <|
    wp_mainP (J := fun _ => True) env orc ok conf files input (fun _ _ _ => trivial) []
      (hK _ (Kind.mem rfl)) (fun _ _ => trivial) (fun _ => hK _ (Kind.mem rfl)) (fun _ _ => trivial)
      (fun st _ _ => calls_iff_wp.1 (calls_blocks hK hS hpm st))

end Mdsort.Proofs.World
