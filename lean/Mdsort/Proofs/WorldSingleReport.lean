import Mdsort.Proofs.WorldEqns

/-! C01, "a failure is reported": every failed call of `matches_exec`, except at the sites whose
failure mdsort ignores or recovers from, makes `matches_exec` return an error.  The argument is
purely about the control flow of the scripts (it holds for every result the calls can have). -/

namespace Mdsort.Proofs.World
open Mdsort Mdsort.Model

/-- Sites whose failure mdsort does not look at (findings F17b, F17c, F17d of KNOWN_FINDINGS.txt): every `close`, every
`closedir`, and the `fstatat` of `maildir_move` (the only `fstatat` of `matches_exec`). -/
def ignoredSite : Call → Bool
  | .close _ | .closedir _ | .fstatat .. => true
  | _ => false

/-- Failures mdsort recovers from: `EEXIST` of the exclusive create in `maildir_genname` (the next
name is tried), `EXDEV` of the rename in `maildir_move` (the message is copied instead). -/
def handledErr : Call → String → Bool
  | .openExcl .., e => e == "EEXIST"
  | .renameat .., e => e == "EXDEV"
  | _, _ => false

/-- The result is a failure that must be reported. -/
def bad (c : Call) : Res → Bool
  | .err e => !(ignoredSite c || handledErr c e)
  | _ => false

/-- After a failure that must be reported every leaf satisfies `E` ("is an error"). -/
def Rep {α} (E : α → Prop) : Prog α → Prop
  | .ret _ => True
  | .call c k => ∀ r, (bad c r = true → All E (k r)) ∧ Rep E (k r)

theorem Rep.ret {α} {E : α → Prop} (a : α) : Rep E (Prog.ret a) := trivial

theorem Rep.call {α} {E : α → Prop} {c : Call} {k : Res → Prog α}
    (he : ∀ e, bad c (.err e) = true → All E (k (.err e))) (hk : ∀ r, Rep E (k r)) : Rep E (.call c k) := by
  intro r
  refine ⟨fun hb => ?_, hk r⟩
  cases r <;> first | exact he _ hb | (simp [bad] at hb)

theorem Rep.bind {α β} {EA : α → Prop} {EB : β → Prop} {p : Prog α} {f : α → Prog β}
    (hp : Rep EA p) (he : ∀ a, EA a → All EB (f a)) (hf : ∀ a, Rep EB (f a)) : Rep EB (p.bind f) := by
  induction p with
  | ret a => exact hf a
  | call c k ih =>
    intro r
    exact ⟨fun hb => All.bind_mono ((hp r).1 hb) he, ih r (hp r).2⟩

theorem Rep.mono {α} {E E' : α → Prop} {p : Prog α} (hp : Rep E p) (h : ∀ a, E a → E' a) : Rep E' p := by
  induction p with
  | ret a => trivial
  | call c k ih => intro r; exact ⟨fun hb => All.mono ((hp r).1 hb) h, ih r (hp r).2⟩

/-- The calls a run issues from call index `i` on, with their results. -/
def callsFrom {α} (plan : Plan) : Prog α → World → Nat → List (Call × Res)
  | .ret _, _, _ => []
  | .call c k, w, i =>
    (c, faultResult (plan i) w c) :: callsFrom plan (k (faultResult (plan i) w c)) (stepWorld w c (faultResult (plan i) w c)) (i + 1)

theorem run_trace {α} (plan : Plan) (p : Prog α) (w : World) (i : Nat) :
    (run plan p w i).2.1.trace = w.trace ++ callsFrom plan p w i := by
  induction p generalizing w i with
  | ret a => simp [run, callsFrom]
  | call c k ih => simp [run, callsFrom, ih, stepWorld_trace]

theorem run_trace_drop {α} (plan : Plan) (p : Prog α) (w : World) (i : Nat) :
    (run plan p w i).2.1.trace.drop w.trace.length = callsFrom plan p w i := by
  rw [run_trace]; simp

theorem callsFrom_fault {α} (plan : Plan) (p : Prog α) (w : World) (i j : Nat) (c : Call) (r : Res) (e : String)
    (hget : (callsFrom plan p w i)[j]? = some (c, r)) (hp : plan (i + j) = some (.fail e)) : r = .err e := by
  induction p generalizing w i j with
  | ret a => simp [callsFrom] at hget
  | call c' k ih =>
    cases j with
    | zero =>
      simp only [callsFrom, List.getElem?_cons_zero, Option.some.injEq, Prod.mk.injEq] at hget
      rw [← hget.2]
      simp only [Nat.add_zero] at hp
      rw [hp, faultResult_fail]
    | succ j =>
      simp only [callsFrom, List.getElem?_cons_succ] at hget
      exact ih _ _ (i + 1) j hget (by rw [← hp]; congr 1; omega)

theorem Rep.sound {α} {E : α → Prop} (plan : Plan) {p : Prog α} (hp : Rep E p) (w : World) (i : Nat)
    (hb : ∃ x ∈ callsFrom plan p w i, bad x.1 x.2 = true) : E (run plan p w i).1 := by
  induction p generalizing w i with
  | ret a => simp [callsFrom] at hb
  | call c k ih =>
    obtain ⟨x, hx, hbx⟩ := hb
    simp only [callsFrom, List.mem_cons] at hx
    rcases hx with rfl | hx
    · exact ((hp _).1 hbx).run plan _ _
    · exact ih _ (hp _).2 _ _ ⟨x, hx, hbx⟩

theorem Rep.call_never {α} {E : α → Prop} {c : Call} {k : Res → Prog α}
    (hc : ignoredSite c = true) (hk : ∀ r, Rep E (k r)) : Rep E (.call c k) :=
  Rep.call (fun e hb => by simp [bad, hc] at hb) hk

theorem Rep.call_err {α} {E : α → Prop} {c : Call} {k : Res → Prog α}
    (he : ∀ e, All E (k (.err e))) (hk : ∀ r, Rep E (k r)) : Rep E (.call c k) :=
  Rep.call (fun e _ => he e) hk

theorem rep_genname (env : PEnv) (md : Maildir) (flags : Option Bytes) (fuel count : Nat) :
    Rep (fun r => r = none) (genname env md flags fuel count) := by
  induction fuel generalizing count with
  | zero => exact trivial
  | succ fuel ih =>
    rw [genname_succ]
    split
    · exact trivial
    split
    · exact trivial
    refine Rep.call ?_ fun r => ?_
    · -- the create failed with something else than EEXIST
      intro e hb
      have h : (e == "EEXIST") = false := by simpa [bad, ignoredSite, handledErr] using hb
      simp only [h]
      exact rfl
    · cases r with
      | err e =>
        dsimp only
        split
        · exact ih _  -- EEXIST: the next name is tried
        · exact trivial
      | _ => exact trivial

theorem rep_maildirOpendir (md : Maildir) (path : Bytes) :
    Rep (fun r => r.2 = true) (maildirOpendir md path) := by
  unfold maildirOpendir
  simp only [bind_eq, pure_eq, call_bind]
  have tail : Rep (fun r : Maildir × Bool => r.2 = true)
      (Prog.call (Call.opendir path) fun r =>
        match r with
        | Res.ok h => Prog.ret (({ md with dirH := some h } : Maildir), false)
        | _ => Prog.ret (({ md with dirH := none } : Maildir), true)) := by
    refine Rep.call_err (fun e => rfl) ?_
    intro r; cases r <;> exact trivial
  split
  · exact Rep.call_never rfl fun _ => tail
  · exact tail

theorem rep_maildirOpenDst (path : Bytes) : Rep (fun r => r = none) (maildirOpenDst path) := by
  unfold maildirOpenDst
  split
  · exact trivial
  split
  · exact trivial
  split
  · exact trivial
  simp only [bind_eq, pure_eq]
  refine Rep.bind (rep_maildirOpendir _ _) ?_ ?_
  · rintro ⟨md, failed⟩ h
    simp only at h
    subst h
    exact rfl
  · rintro ⟨md, failed⟩
    dsimp only
    split <;> exact trivial

theorem rep_maildirUnlink (md : Maildir) (name : Bytes) : Rep (fun r => r = true) (maildirUnlink md name) := by
  rw [maildirUnlink_eq]
  split
  · exact trivial
  · exact Rep.call_err (fun e => rfl) fun _ => trivial

theorem rep_maildirClose {E : Unit → Prop} (md : Maildir) : Rep E (maildirClose md) := by
  unfold maildirClose
  split
  · simp only [bind_eq, pure_eq, call_bind]
    exact Rep.call_never rfl fun _ => trivial
  · exact trivial

/-- A script all of whose sites are ignored (`Rep (fun _ => False) p`: after none of its failures anything is asked of the
value) in front of `f`. -/
theorem Rep.bind_ignored {α β} {E : β → Prop} {p : Prog α} {f : α → Prog β} (hp : Rep (fun _ => False) p)
    (hf : ∀ a, Rep E (f a)) : Rep E (p.bind f) :=
  Rep.bind hp (fun _ h => h.elim) hf

theorem rep_closeRet {α} {E : α → Prop} (md : Maildir) (x : α) : Rep E ((maildirClose md).bind fun _ => Prog.ret x) :=
  Rep.bind_ignored (rep_maildirClose md) fun _ => trivial

theorem rep_messageSetFile {E : MsgSt × Bool → Prop} (ms : MsgSt) (dir name : Bytes) (fd : Option Handle) :
    Rep E (messageSetFile ms dir name fd) := by
  unfold messageSetFile
  split
  · exact trivial
  split
  · exact trivial
  split
  · simp only [bind_eq, pure_eq, call_bind]
    split
    · exact Rep.call_never rfl fun _ => trivial
    · exact trivial
  · exact trivial

theorem rep_hdrs (newfd : Handle) (hs : List Hdr) : Rep (fun r => r = true) (messageWriteP.hdrs newfd hs) := by
  induction hs with
  | nil => rw [hdrs_nil]; exact trivial
  | cons h rest ih =>
    rw [hdrs_cons]
    refine Rep.call_err (fun e => rfl) fun r => ?_
    split
    · exact ih
    · exact trivial

/-- Body, `fflush`, `fsync`: each is checked. -/
theorem rep_mwTail (newfd : Handle) (body : Bytes) (herr : Bool) : Rep (fun r => r = true) (mwTail newfd body herr) := by
  unfold mwTail
  split
  · exact trivial
  refine Rep.call_err (fun e => rfl) fun r => ?_
  split
  · exact trivial
  refine Rep.call_err (fun e => rfl) fun r => ?_
  split
  · exact trivial
  exact Rep.call_err (fun e => rfl) fun _ => trivial

theorem rep_messageWriteP (m : Msg) (fd : Handle) : Rep (fun r => r = true) (messageWriteP m fd) := by
  rw [messageWriteP_eq]
  refine Rep.call_err (fun e => rfl) fun r => ?_
  cases r with
  | ok newfd =>
    dsimp only
    refine Rep.call_err ?_ fun r2 => ?_
    · -- `fdopen` failed: the descriptor is closed, error
      intro e
      simp only [isOk, Bool.not_false, if_true]
      exact fun _ => rfl
    split
    · exact Rep.call_never rfl fun _ => trivial
    -- an error of the header lines or of the tail survives the `fclose`
    refine Rep.bind (rep_hdrs newfd _) ?_ fun herr => ?_
    · rintro _ rfl
      exact fun _ => rfl
    refine Rep.bind (rep_mwTail ..) ?_ fun err1 => ?_
    · rintro _ rfl
      exact fun _ => rfl
    refine Rep.call_err ?_ fun _ => trivial
    intro e
    simp [isOk]
    exact rfl
  | _ => exact trivial

/-- The roll-back of `maildir_move` returns an error whatever its calls return. -/
theorem all_moveTail_err (ss : Subdir) (dst : Maildir) (dh fd : Handle) (dstname : Bytes) (mt : Option Nat) (ms : MsgSt) :
    All (fun r => r.2 = true) (moveTail ss dst dh fd dstname mt true ms) := by
  rw [moveTail_err]
  exact All.bind_of_forall _ fun _ _ => rfl

theorem rep_moveTail (ss : Subdir) (dst : Maildir) (dh fd : Handle) (dstname : Bytes) (mt : Option Nat) (err1 : Bool)
    (ms : MsgSt) : Rep (fun r => r.2 = true) (moveTail ss dst dh fd dstname mt err1 ms) := by
  cases err1
  · rw [moveTail_ok]
    refine Rep.call_never rfl fun _ => ?_
    cases mt with
    | none => exact trivial
    | some t =>
      refine Rep.call_err (fun e => rfl) fun r => ?_
      split <;> exact trivial
  · -- the value is an error already: nothing is asked of the `unlinkat` of the roll-back
    rw [moveTail_err]
    refine Rep.bind (EA := fun _ => True) ((rep_maildirUnlink _ _).mono fun _ _ => trivial) (fun _ _ _ => rfl) fun _ => ?_
    exact Rep.call_never rfl fun _ => trivial

/-- What `maildir_move` does with the result of the rename: the first component is its `err1`. -/
theorem rep_moveCopy (src dst : Maildir) (ms : MsgSt) (fd : Handle) (dstname : Bytes) (r : Res) :
    Rep (fun x => x.1 = true) (moveCopy src dst ms fd dstname r) := by
  unfold moveCopy
  split
  · split
    · refine Rep.bind (rep_messageWriteP _ _) (by rintro _ rfl; exact rfl) fun we => ?_
      split
      · exact trivial
      · exact Rep.bind (rep_maildirUnlink _ _) (by rintro _ rfl; exact rfl) fun _ => trivial
    · exact trivial
  · exact trivial

theorem rep_moveRest (env : PEnv) (src dst : Maildir) (ms : MsgSt) (sh dh : Handle) (mt : Option Nat) :
    Rep (fun r => r.2 = true) (moveRest env src dst ms sh dh mt) := by
  unfold moveRest gennameStart
  -- with the literal fuel, checking the next step against the goal would unfold `genname`
  generalize gennameAttempts = fuel
  split
  · exact trivial
  simp only [bind_eq, pure_eq, call_bind]
  refine Rep.bind (rep_genname _ _ _ _ _) (by rintro _ rfl; exact rfl) fun g => ?_
  cases g with
  | none => exact trivial
  | some x =>
    refine Rep.call ?_ fun r => ?_
    · -- the rename failed with something else than EXDEV: `moveCopy` returns `(true, ms)`, the roll-back follows
      intro e hb
      have h : (e == "EXDEV") = false := by simpa [bad, ignoredSite, handledErr] using hb
      simp only [moveCopy, h, Bool.false_eq_true, if_false, pure_eq, ret_bind]
      exact all_moveTail_err ..
    · refine Rep.bind (rep_moveCopy ..) ?_ fun y => rep_moveTail ..
      rintro ⟨_, ms1⟩ rfl
      exact all_moveTail_err ..

theorem rep_maildirMove (env : PEnv) (src dst : Maildir) (ms : MsgSt) :
    Rep (fun r => r.2 = true) (maildirMove env src dst ms) := by
  rw [maildirMove_eq]
  split
  · exact trivial
  split
  · -- both directory handles are there; the `fstatat` is an ignored site
    refine Rep.bind_ignored ?_ fun mt => rep_moveRest ..
    split
    · exact Rep.call_never rfl fun _ => trivial
    · exact trivial
  · exact trivial

theorem rep_maildirWrite (env : PEnv) (md : Maildir) (ms : MsgSt) :
    Rep (fun r => r.2 = true) (maildirWrite env md ms) := by
  rw [maildirWrite_eq]
  unfold gennameStart
  -- with the literal fuel, checking the next step against the goal would unfold `genname`
  generalize gennameAttempts = fuel
  split
  · exact trivial
  refine Rep.bind (rep_genname _ _ _ _ _) (by rintro _ rfl; exact rfl) fun g => ?_
  cases g with
  | none => exact trivial
  | some x =>
    obtain ⟨fd, name⟩ := x
    dsimp only
    refine Rep.bind (rep_messageWriteP _ _) ?_ fun we => ?_
    · -- `message_write` failed: close, remove the new name, error
      rintro _ rfl
      simp only [if_true, ret_bind]
      exact fun _ => All.bind_of_forall _ fun _ => rfl
    refine Rep.call_never rfl fun _ => ?_
    refine Rep.bind (EA := fun e => e = true) ?_ ?_ fun err => ?_
    · split
      · exact trivial
      · exact rep_maildirUnlink _ _
    · -- the old name could not be removed: remove the new name, error
      rintro _ rfl
      simp only [if_true]
      exact All.bind_of_forall _ fun _ => rfl
    split
    · -- the value is an error already: nothing is asked of the `unlinkat` of the roll-back
      exact Rep.bind (EA := fun _ => True) ((rep_maildirUnlink _ _).mono fun _ _ => trivial) (fun _ _ => rfl) fun _ => trivial
    split
    · exact trivial
    refine Rep.call_err (fun e => rfl) fun r => ?_
    cases r with
    | ok rdfd =>
      dsimp only
      refine Rep.bind_ignored (rep_messageSetFile _ _ _ _) fun x => ?_
      split
      · exact Rep.call_never rfl fun _ => trivial
      · exact trivial
    | _ => exact trivial

theorem rep_writefd (tmpdir : Bytes) : Rep (fun r => r = none) (writefd tmpdir) := by
  unfold writefd
  split
  · exact trivial
  simp only [bind_eq, pure_eq, call_bind]
  refine Rep.call_err (fun e => rfl) fun r => ?_
  cases r with
  | ok fd =>
    dsimp only
    refine Rep.call_err ?_ fun r2 => ?_
    · intro e
      simp only [isOk]
      intro _; exact rfl
    · split
      · exact trivial
      · exact Rep.call_never rfl fun _ => trivial
  | _ => exact trivial

theorem rep_writeAll (fd : Handle) (fuel : Nat) (data : Bytes) : Rep (fun r => r = true) (writeAll fd fuel data) := by
  induction fuel generalizing data with
  | zero => exact trivial
  | succ fuel ih =>
    unfold writeAll
    split
    · exact trivial
    simp only [bind_eq, pure_eq, call_bind]
    refine Rep.call_err (fun e => rfl) fun r => ?_
    cases r with
    | ok n =>
      dsimp only
      split
      · exact trivial  -- everything is written
      · exact ih _
    | _ => exact trivial

theorem rep_tmpCopy (tmpdir : Bytes) (fill : Handle → Prog Bool) (hfill : ∀ fd, Rep (fun r => r = true) (fill fd)) :
    Rep (fun r => r = none) (tmpCopy tmpdir fill) := by
  unfold tmpCopy
  refine Rep.bind (rep_writefd _) ?_ ?_
  · rintro _ rfl; exact rfl
  · intro f
    cases f with
    | none => exact trivial
    | some fd =>
      dsimp only
      refine Rep.bind (hfill fd) ?_ ?_
      · rintro _ rfl
        simp only [if_true]
        intro _; exact rfl
      · intro e
        split
        · exact Rep.call_never rfl fun _ => trivial
        · exact trivial

theorem rep_messageGetFd (env : PEnv) (ms : MsgSt) (part : Option Msg) (dobody : Bool) :
    Rep (fun r => r = none) (messageGetFd env ms part dobody) := by
  rw [messageGetFd_eq]
  refine Rep.bind (EA := fun r => r = none) ?_ ?_ ?_
  · split
    · split
      · exact trivial
      · exact rep_tmpCopy _ _ fun _ => rep_writeAll _ _ _
    · split
      · exact rep_tmpCopy _ _ fun _ => rep_messageWriteP _ _
      · split
        · exact trivial
        · exact Rep.call_err (fun e => rfl) fun _ => trivial
  · rintro _ rfl; exact rfl
  · intro fdo
    cases fdo with
    | none => exact trivial
    | some fd =>
      unfold rewindFd
      refine Rep.call_err ?_ fun r => ?_
      · intro e
        simp only [isOk]
        intro _; exact rfl
      · split
        · exact trivial
        · exact Rep.call_never rfl fun _ => trivial

theorem all_execP_tail (devnull : Option Handle) (a : Int) (ha : a ≠ 0) :
    All (fun rc : Int => rc ≠ 0)
      (match devnull with
        | some h => Prog.call (Call.close h) fun _ => Prog.ret a
        | none => Prog.ret a) := by
  cases devnull with
  | some h => intro _; exact ha
  | none => exact ha

theorem rep_execP_tail (devnull : Option Handle) (a : Int) :
    Rep (fun rc : Int => rc ≠ 0)
      (match devnull with
        | some h => Prog.call (Call.close h) fun _ => Prog.ret a
        | none => Prog.ret a) := by
  cases devnull with
  | some h => exact Rep.call_never rfl fun _ => trivial
  | none => exact trivial

theorem rep_execP (argv : List Bytes) (fdin : Option Handle) : Rep (fun rc => rc ≠ 0) (execP argv fdin) := by
  unfold execP
  simp only [bind_eq, pure_eq, call_bind]
  refine Rep.bind (EA := fun dn => dn = none) ?_ ?_ ?_
  · split
    · exact trivial
    · refine Rep.call_err (fun e => rfl) fun r => ?_
      cases r <;> exact trivial
  · rintro _ rfl
    show (-1 : Int) ≠ 0
    decide
  · intro dn
    cases dn with
    | none => exact trivial
    | some devnull =>
      dsimp only
      have tailAll := all_execP_tail devnull
      have tailRep := rep_execP_tail devnull
      refine Rep.call_err ?_ ?_
      · intro e
        exact tailAll (-1) (by decide)
      · intro r
        refine Rep.bind (EA := fun res => res ≠ 0) ?_ (fun a ha => tailAll a ha) tailRep
        cases r with
        | ok _ =>
          dsimp only
          refine Rep.call_err ?_ ?_
          · intro e
            show (-1 : Int) ≠ 0
            decide
          · intro ws
            cases ws with
            | ok status => exact trivial
            | _ => exact trivial
        | _ => exact trivial

theorem rep_moveBranch (env : PEnv) (mh : Match) (st : ExecSt) :
    Rep (fun r => r.2 = true) (moveBranch env mh st) := by
  unfold moveBranch
  refine Rep.bind (rep_maildirOpenDst _) ?_ ?_
  · rintro _ rfl; exact rfl
  · intro d
    cases d with
    | none => exact trivial
    | some dst =>
      dsimp only
      refine Rep.bind (rep_maildirMove _ _ _ _) ?_ ?_
      · rintro ⟨ms', e⟩ h
        simp only at h
        subst h
        simp only [if_true]
        exact All.bind_of_forall _ fun _ => rfl
      · rintro ⟨ms', e⟩
        dsimp only
        split
        · exact rep_closeRet _ _
        · split
          · split
            · exact rep_closeRet _ _
            · exact trivial
          · exact rep_closeRet _ _

theorem rep_execOne (env : PEnv) (mh : Match) (st : ExecSt) : Rep (fun r => r.2 = true) (execOne env mh st) := by
  unfold execOne
  simp only [bind_eq, pure_eq, call_bind]
  split
  -- `move`, `flag`, `flags`: three arms of the `match` with the same program, `moveBranch`
  · exact rep_moveBranch env mh st
  · exact rep_moveBranch env mh st
  · exact rep_moveBranch env mh st
  · -- `discard`
    refine Rep.bind (rep_maildirUnlink _ _) ?_ fun _ => trivial
    rintro _ rfl; exact rfl
  · -- `label`
    refine Rep.bind (rep_maildirWrite _ _ _) ?_ fun _ => trivial
    rintro ⟨ms', e⟩ h; exact h
  · -- `add-header`
    refine Rep.bind (rep_maildirWrite _ _ _) ?_ fun _ => trivial
    rintro ⟨ms', e⟩ h; exact h
  · -- `reject`: no call
    exact trivial
  · -- `exec`: the temporary file, then the child
    refine Rep.bind (EA := fun fdr => fdr = none) ?_ ?_ ?_
    · split
      · refine Rep.bind (rep_messageGetFd _ _ _ _) ?_ fun _ => trivial
        rintro _ rfl; exact rfl
      · exact trivial
    · rintro _ rfl; exact rfl
    · intro fdr
      cases fdr with
      | none => exact trivial
      | some fd =>
        dsimp only
        refine Rep.bind (rep_execP _ fd) ?_ ?_
        · intro rc hrc
          cases fd with
          | some h => intro _; show (rc != 0) = true; simpa using hrc
          | none => show (rc != 0) = true; simpa using hrc
        · intro rc
          cases fd with
          | some h => exact Rep.call_never rfl fun _ => trivial
          | none => exact trivial
  · -- every other type: no action
    exact trivial

theorem rep_matchesExec (env : PEnv) (ml : MatchList) (st : ExecSt) :
    Rep (fun r => r.2 = true) (matchesExec env ml st) := by
  induction ml generalizing st with
  | nil =>
    rw [matchesExec_nil]
    split
    · exact rep_closeRet _ _
    · exact trivial
  | cons mh rest ih =>
    rw [matchesExec_cons]
    refine Rep.bind (rep_execOne env mh st) ?_ ?_
    · -- an error of the entry: the changed source maildir is closed, error
      rintro ⟨st', e⟩ rfl
      simp only [if_true, Own.errTail]
      split
      · exact All.bind_of_forall _ fun _ => rfl
      · exact rfl
    · rintro ⟨st', e⟩
      dsimp only
      split
      · unfold Own.errTail
        split
        · exact rep_closeRet _ _
        · exact trivial
      · exact ih _

end Mdsort.Proofs.World

namespace Mdsort.Proofs
open Mdsort Mdsort.Model

/-- C01, "a failure is reported" (`C01_fault_reported`), for EVERY fault plan; the call may fail because the plan injects a
failure there or because the file system says so. -/
theorem exec_failure_reported (env : PEnv) (ml : MatchList) (st : ExecSt) (w : World) (plan : Plan)
    (c : Call) (e : String)
    (hmem : (c, Res.err e) ∈ (runPlan plan (matchesExec env ml st) w 0 []).2.1.trace.drop w.trace.length)
    (hsite : World.ignoredSite c = false) (herr : World.handledErr c e = false) :
    (runPlan plan (matchesExec env ml st) w 0 []).1.2 = true := by
  rw [World.runPlan_eq] at hmem ⊢
  rw [World.run_trace_drop] at hmem
  exact (World.rep_matchesExec env ml st).sound plan w 0 ⟨_, hmem, by simp [World.bad, hsite, herr]⟩

/-- In terms of the plan: the failure injected at call number `i` (counted from the start of `matches_exec`) is
reported. -/
theorem exec_fault_reported (env : PEnv) (ml : MatchList) (st : ExecSt) (w : World) (plan : Plan)
    (i : Nat) (c : Call) (r : Res) (e : String)
    (hget : ((runPlan plan (matchesExec env ml st) w 0 []).2.1.trace.drop w.trace.length)[i]? = some (c, r))
    (hp : plan i = some (.fail e)) (hsite : World.ignoredSite c = false) (herr : World.handledErr c e = false) :
    (runPlan plan (matchesExec env ml st) w 0 []).1.2 = true := by
  obtain rfl : r = .err e := by
    rw [World.runPlan_eq, World.run_trace_drop] at hget
    exact World.callsFrom_fault plan _ w 0 i c r e hget (by simpa using hp)
  exact exec_failure_reported env ml st w plan c e (List.mem_of_getElem? hget) hsite herr

end Mdsort.Proofs
