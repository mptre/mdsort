import Mdsort.Proofs.WorldCountMove
import Mdsort.Proofs.WorldFootWrite

/-!
# `maildir_write` (label, add-header) under every fault plan, counting the faults

The guarantee `WriteC` is read off the footprint `foot_maildirWrite` (WorldFootWrite), whose walk counts the faults (`wpC`).
-/

namespace Mdsort.Proofs.World
open Mdsort Mdsort.Model

/-- `WriteC` without its last clause: its every-plan half as a predicate of its own.  No theorem says that `maildir_write` satisfies
it (`count_maildirWrite` proves `WriteC`, which the action list reads); it is proved of the unchanged world only (`.unchanged`). -/
def WholeWritePost (H : Nat) (w : World) (md : Maildir) (ms : MsgSt) (r : MsgSt × Bool) (w' : World) : Prop :=
  WholeK (md.path, ms.name) H w w' ∧
  (∀ h, h < w.handles.length → ms.fd ≠ some h → w'.obj h = w.obj h) ∧
  ∃ nb, Located w' r.1 nb ∧ (nb = (md.path, ms.name) ∨ lk w nb = none) ∧
    r.1.msg = ms.msg ∧
    (r.1.content = ms.content ∨ r.1.content = (messageWrite ms.msg).1) ∧
    (r.2 = true → r.1.fd = ms.fd) ∧
    (r.2 = false → nb = (md.path, r.1.name) ∧ r.1.content = (messageWrite ms.msg).1 ∧
      ∃ rd, r.1.fd = some rd ∧ w.handles.length ≤ rd ∧ rd < w'.handles.length)

theorem WholeWritePost.unchanged {H : Nat} {w w' : World} {md : Maildir} {ms : MsgSt}
    (hL : Located w ms (md.path, ms.name)) (hH : H ≤ w.handles.length) (m : Mid w w' (lk w)) :
    WholeWritePost H w md ms (ms, true) w' :=
  ⟨WholeK.of_mid_same m hH, fun h hh _ => m.objs h hh, _, hL.of_mid m rfl, .inl rfl, rfl, .inl rfl, fun _ => rfl,
    by intro h; cases h⟩

/-- The guarantee of `maildir_write` for a run during which the count of faults went from `n0` to `n`: what holds
under every plan, and the exact change of the entries (`Delta`) unless two faults were injected - and whenever the write
succeeds. -/
def WriteC (H : Nat) (w : World) (md : Maildir) (ms : MsgSt) (n0 n : Nat) (r : MsgSt × Bool) (w' : World) : Prop :=
  ∃ nb, Located w' r.1 nb ∧
    (∀ h, h < w.handles.length → ms.fd ≠ some h → w'.obj h = w.obj h) ∧
    r.1.msg = ms.msg ∧
    (r.1.content = ms.content ∨ r.1.content = (messageWrite ms.msg).1) ∧
    (r.2 = true → r.1.fd = ms.fd) ∧
    (r.2 = false → nb = (md.path, r.1.name) ∧ r.1.content = (messageWrite ms.msg).1 ∧
      ∃ rd, r.1.fd = some rd ∧ w.handles.length ≤ rd ∧ rd < w'.handles.length) ∧
    WholeK (md.path, ms.name) H w w' ∧ (nb = (md.path, ms.name) ∨ lk w nb = none) ∧
    (n < n0 + 2 ∨ r.2 = false → Delta w w' (md.path, ms.name) nb)

/-- The frame and the ghost location hold in the world the footprint describes (`w6` below: before the final `close`) and
survive the `close` of the message's previous descriptor. -/
theorem count_maildirWrite (env : PEnv) {H : Nat} {w : World} {md : Maildir} {ms : MsgSt} {sh : Handle}
    (hsh : md.dirH = some sh) (hps : w.dirPath sh = some md.path)
    (hL : Located w ms (md.path, ms.name)) (hH : H ≤ w.handles.length) (hfd : ∀ h, ms.fd = some h → H ≤ h) (n0 : Nat) :
    wpC (fun w' => WholeK (md.path, ms.name) H w w') (maildirWrite env md ms) (WriteC H w md ms n0) n0 w := by
  have hL0 := hL
  obtain ⟨hloc, fid0, hlk, hlt, hf⟩ := hL
  have frame : ∀ {w' : World}, FootX w (md.path, ms.name) ms w' → WholeK (md.path, ms.name) H w w' := by
    rintro w' ⟨s, w6, hs, m, hu⟩
    have k6 := FootI.wholeK ⟨s, hs, m⟩ hH
    rcases hu with rfl | ⟨old, r7, hold, rfl⟩
    · exact k6
    · exact k6.step (.close old) r7 rfl (by intro h hh; cases hh; exact hfd old hold) (fun _ _ => trivial)
  refine wpC_mono (wpC_inv_mono (foot_maildirWrite env md ms hsh hps (dir_isSome_of_lookup hlk) n0) fun _ h => frame h) ?_
  rintro n r w' ⟨s, w6, hs, m, hu, any, out⟩
  have k := frame ⟨s, w6, hs, m, hu⟩
  have out := out ⟨fid0, hlk⟩
  have h6 : ∃ nb, Located w6 r.1 nb ∧ (nb = (md.path, ms.name) ∨ lk w nb = none) ∧
      (n < n0 + 2 ∨ r.2 = false → Delta w w6 (md.path, ms.name) nb) ∧
      (r.1.content = ms.content ∨ r.1.content = (messageWrite ms.msg).1) ∧
      (r.2 = false → nb = (md.path, r.1.name) ∧ r.1.content = (messageWrite ms.msg).1) := by
    have old : ∀ {L : Ent → Option Nat}, Mid w w6 L → L (md.path, ms.name) = lk w (md.path, ms.name) → r = (ms, true) →
        Located w6 r.1 (md.path, ms.name) := fun m' hL hr => hr ▸ hL0.of_mid m' hL
    cases s with
    | same => exact ⟨_, old m rfl out, .inl rfl, fun _ => m.delta_same _, by rw [out]; exact .inl rfl, by rw [out]; nofun⟩
    | stray b N =>
      have hab : ((md.path, ms.name) : Ent) ≠ b := by rintro rfl; rw [hs] at hlk; cases hlk
      exact ⟨_, old m (if_neg hab) out.1, .inl rfl,
        fun h => h.elim (fun h => by have := out.2; omega) (by rw [out.1]; nofun), by rw [out.1]; exact .inl rfl, by rw [out.1]; nofun⟩
    | moved b g =>
      obtain ⟨fl, c, rfl⟩ := any.new _ rfl
      obtain ⟨hl, hc, hlt6, hf6⟩ := out
      exact ⟨_, ⟨hl, g, (m.look _).trans (if_pos rfl), hlt6, by rw [hc]; exact hf6⟩, .inr hs,
        fun _ => m.delta_moved fun _ => hs, .inr hc, fun he => by
          obtain ⟨g', hg'⟩ := (any.ok he).2.1
          exact ⟨by rw [← (Foot.moved.inj hg').1], hc⟩⟩
  obtain ⟨nb, hL6, hfree, hd6, hcont, hfin⟩ := h6
  have hrd : r.2 = false → ∃ rd, r.1.fd = some rd ∧ w.handles.length ≤ rd ∧ rd < w6.handles.length :=
    fun he => (any.ok he).2.2.2
  rcases hu with rfl | ⟨old, r7, hold, rfl⟩
  · exact ⟨nb, hL6, fun h hh _ => m.objs h hh, any.msg, hcont, fun he => any.fd he,
      fun he => ⟨(hfin he).1, (hfin he).2, hrd he⟩, k, hfree, hd6⟩
  · obtain ⟨hl, fid, hlk6, hlt6, hf6⟩ := hL6
    have hf7 := file_step hf6 hlt6 (.close old) r7 trivial
    refine ⟨nb, ⟨hl, fid, (lk_step w6 _ r7 rfl nb).trans hlk6, hf7.2, hf7.1⟩, ?_, any.msg, hcont, fun he => any.fd he, ?_, k, hfree,
      fun hn => (hd6 hn).step (.close old) r7 rfl (fun _ _ => trivial)⟩
    · intro h hh hne
      rw [stepWorld_obj, core_obj w6 (.close old) r7 h (Nat.lt_of_lt_of_le hh m.len), m.objs h hh]
      simp only [Call.subject, ne_eq, Option.some.injEq]
      intro hc
      exact hne (by rw [hold, hc])
    · intro he
      obtain ⟨rd, h1, h2, h3⟩ := hrd he
      exact ⟨(hfin he).1, (hfin he).2, rd, h1, h2, Nat.lt_of_lt_of_le h3 (core_len w6 (.close old) r7)⟩

end Mdsort.Proofs.World
