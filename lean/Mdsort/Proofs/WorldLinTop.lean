import Mdsort.Proofs.WorldLin
import Mdsort.Proofs.WorldSingle

/-!
# Loss-freedom and no-duplication BY LINEAGE, in the terms of `runPlan`

* `exec_no_loss_exact`: one action list, every fault plan, after every call: an entry bound to a file that DESCENDS
  FROM the message's file holds a complete stage, visibly and durably.
* `exec_no_duplicate_lineage_single_fault`: at most one fault: at the end EXACTLY ONE entry descends from the
  message's file.
-/

namespace Mdsort.Proofs
open Mdsort Mdsort.Model
open Mdsort.Proofs.World (LG LinPre Hist)

/-- The combined invariant at the start of an action list: the message's entry is bound to `fid`, the message
being processed (`l0.cur`) descends from what `fid` descends from. -/
theorem start_lg {w : World} {st : ExecSt} {orig : Bytes} (hs : Start w st orig) (l0 : Lin) {fid fc : Nat}
    (hfid : w.lookup st.src.path st.ms.name = some fid) (hcur : l0.cur = some fc) (hfc : l0.org fc = l0.org fid) :
    fid < w.nextFid ∧ LG w l0 w.nextFid l0.org (l0.org fid) fid (stages st.ms orig) w := by
  obtain ⟨fid', hl', hf'⟩ := hs.bound
  have hff : fid' = fid := by rw [hfid] at hl'; exact (Option.some.inj hl').symm
  subst hff
  have hlt : fid' < w.nextFid := hs.freshIds _ (World.mem_files_of_file hf')
  have hpre : LinPre w l0 w.nextFid l0.org w := by
    have := LinPre.start (l0 := l0) (Hist.refl w)
    rwa [World.linAt_self] at this
  refine ⟨hlt, ⟨hpre, ⟨fc, by rw [World.linAt_self]; exact hcur, by rw [World.linAt_self]; exact hfc⟩, ?_⟩,
    st.src.path, st.ms.name, fid', ⟨hfid, hlt, _, hf', by simp [stages], by simp [stages]⟩, .inl rfl⟩
  intro g h1 h2
  omega

/-- Loss-freedom by lineage, one action list, EVERY fault plan: after every call some entry is bound to a file `g`
that descends from the message's file (`(lineage ..).org g = l0.org fid`) and whose visible and durable contents are
complete stages of the message. -/
theorem exec_no_loss_exact (env : PEnv) (ml : MatchList) (st : ExecSt) (w : World) (orig : Bytes) (plan : Plan)
    (hs : Start w st orig) (hd : NoDiscard ml) (l0 : Lin) (fid fc : Nat)
    (hfid : w.lookup st.src.path st.ms.name = some fid) (hcur : l0.cur = some fc) (hfc : l0.org fc = l0.org fid) :
    ∀ w' ∈ (runPlan plan (matchesExec env ml st) w 0 []).2.2,
      ∃ p n g f, w'.lookup p n = some g ∧ (lineage w l0 (traceSince w w')).org g = l0.org fid ∧ w'.file g = some f ∧
        f.data ∈ stages st.ms orig ∧ f.durable ∈ stages st.ms orig := by
  intro w' hw'
  rw [World.runPlan_eq] at hw'
  simp only [List.nil_append] at hw'
  obtain ⟨hlt, hL⟩ := start_lg hs l0 hfid hcur hfc
  have h := (World.wp_sound plan (World.lin_matchesExec env ml st hL (by simp [stages]) hd) 0).1 w' hw'
  obtain ⟨p, n, g, ⟨h1, _, f, h3, h4, h5⟩, ho⟩ := h.lgood hlt rfl
  exact ⟨p, n, g, f, h1, ho, h3, h4, h5⟩

/-- The same at the end of the run (which is `w` itself when the list issues no call). -/
theorem exec_final_lg (env : PEnv) (ml : MatchList) (st : ExecSt) (w : World) (orig : Bytes) (plan : Plan)
    (hs : Start w st orig) (hd : NoDiscard ml) (l0 : Lin) (fid fc : Nat)
    (hfid : w.lookup st.src.path st.ms.name = some fid) (hcur : l0.cur = some fc) (hfc : l0.org fc = l0.org fid) :
    LG w l0 w.nextFid l0.org (l0.org fid) fid (stages st.ms orig) (runPlan plan (matchesExec env ml st) w 0 []).2.1 := by
  rw [World.runPlan_eq]
  obtain ⟨_, hL⟩ := start_lg hs l0 hfid hcur hfc
  exact (World.wp_sound plan (World.lin_matchesExec env ml st hL (by simp [stages]) hd) 0).2

/-- No duplicate by lineage, at most one fault: in a world whose entries are bound to existing files and in which
the message's file has no second link, after the run EXACTLY ONE entry is bound to a file that descends from the
message's file `fid` (every file that existed being its own origin, the message being the one that is open). -/
theorem exec_no_duplicate_lineage_single_fault (env : PEnv) (ml : MatchList) (st : ExecSt) (w : World) (orig : Bytes) (plan : Plan)
    (hs : StartAt w st orig) (hd : NoDiscard ml) (hp : World.SingleFault plan) (fid : Nat)
    (hfid : w.lookup st.src.path st.ms.name = some fid)
    (hwf : ∀ q m g, w.lookup q m = some g → g < w.nextFid)
    (hnl : ∀ q m, w.lookup q m = some fid → (q, m) = (st.src.path, st.ms.name)) :
    let r := runPlan plan (matchesExec env ml st) w 0 []
    ∃ p n g, r.2.1.lookup p n = some g ∧ (lineage w { cur := some fid, org := id } (traceSince w r.2.1)).org g = fid ∧
      ∀ q m g', r.2.1.lookup q m = some g' →
        (lineage w { cur := some fid, org := id } (traceSince w r.2.1)).org g' = fid → (q, m) = (p, n) := by
  intro r
  obtain ⟨p, n, fidE, -, hlkE, -, -, hcase, hoth⟩ := exec_single_fault_exactly_once env ml st w orig plan hs hd hp
  have hLG := exec_final_lg env ml st w orig plan hs.start hd { cur := some fid, org := id } fid fid hfid rfl rfl
  have hlt : fid < w.nextFid := hwf _ _ _ hfid
  obtain ⟨p', n', g', hg', ho'⟩ := hLG.lgood hlt rfl
  -- every entry that descends from `fid` is the message's entry
  have uniq : ∀ q m g'', r.2.1.lookup q m = some g'' →
      (lineage w { cur := some fid, org := id } (traceSince w r.2.1)).org g'' = fid → (q, m) = (p, n) := by
    intro q m g'' hl'' ho''
    by_cases h1 : (q, m) = (p, n)
    · exact h1
    · exfalso
      by_cases h2 : (q, m) = (st.src.path, st.ms.name)
      · rcases hcase with hc | ⟨_, hc⟩
        · exact h1 (h2.trans hc.symm)
        · cases h2
          rw [hc] at hl''
          cases hl''
      · have hw : w.lookup q m = some g'' := by rw [← hoth q m h1 h2]; exact hl''
        have hglt := hwf q m g'' hw
        have hold : (lineage w { cur := some fid, org := id } (traceSince w r.2.1)).org g'' = g'' := hLG.1.1.old g'' hglt
        rw [hold] at ho''
        subst ho''
        exact h2 (hnl q m hw)
  have hpn := uniq p' n' g' hg'.1 ho'
  have h1 : p' = p := (Prod.mk.inj hpn).1
  have h2 : n' = n := (Prod.mk.inj hpn).2
  rw [h1, h2] at hg'
  exact ⟨p, n, g', hg'.1, ho', uniq⟩

end Mdsort.Proofs
