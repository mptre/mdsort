import Mdsort.Proofs.WorldEqns

/-!
# Which calls each script can issue

Many arguments about the scripts need, of a script, only a bound on the calls it can issue: "never opens a file for
reading", "never forks", "never syncs".  Almost all such conditions look at the constructor of the call only.  So each
script is walked once, here, for the list of constructors (`Kind`s) it can issue (`kinds_<script>`); a condition `Q` on calls
comes with one lemma `Q.of_kind` saying which kinds it admits, and `Calls Q <script>` is then `Calls.mono` and a comparison of
two lists of kinds.

Two conditions look at an argument as well - the name of an exclusive create (`NameQ`), the vector of a `fork`
(`ForkArgv`).  The scripts that issue such a call (`maildir_genname`, `exec()` and what runs them) state both together with
their kinds (`issues_<script>`); `kinds_<script>`, where something uses it, is the first component.
-/

namespace Mdsort.Proofs.Parties
open Mdsort Mdsort.Model

/-- The name `maildir_genname` tries when its 32-bit counter has the value `count`; with the unreduced count of increments
`c` of the model it is `World.cand env flags c` (WorldEqns) `= genName env flags (c % gennameWrap)` (`cand_eq_genName` below). -/
def genName (env : PEnv) (flags : Option Bytes) (count : Nat) : Bytes :=
  decimalInt env.now ++ [46] ++ decimal env.pid ++ [95] ++ decimal count ++ [46] ++ env.host ++ flags.getD []

def GenNames (N : Bytes → Prop) (env : PEnv) : Prop := ∀ flags count, N (genName env flags count)

def NameQ (N : Bytes → Prop) : Call → Prop
  | .openExcl _ n => N n
  | _ => True

end Mdsort.Proofs.Parties

namespace Mdsort.Proofs
open Mdsort Mdsort.Model

def ForkArgv (A : List Bytes → Prop) : Call → Prop
  | .fork av _ => A av
  | _ => True

end Mdsort.Proofs

namespace Mdsort.Proofs.World
open Mdsort Mdsort.Model
open Mdsort.Proofs.Parties (genName GenNames NameQ)

/-- The constructor of a `Call`. -/
inductive Kind where
  | opendir | readdir | rewinddir | closedir | openRd | openExcl | openPath | fopen | read | write | fsync | close | dupfd
  | fdopen | fprintf | fflush | fclose | renameat | unlinkat | unlink | fstatat | stat | utimensat | lseek | mkostemp
  | mkdtemp | mkdir | rmdir | fork | waitpid
deriving DecidableEq, Repr

def _root_.Mdsort.Model.Call.kind : Call → Kind
  | .opendir .. => .opendir | .readdir .. => .readdir | .rewinddir .. => .rewinddir | .closedir .. => .closedir
  | .openRd .. => .openRd | .openExcl .. => .openExcl | .openPath .. => .openPath | .fopen .. => .fopen
  | .read .. => .read | .write .. => .write | .fsync .. => .fsync | .close .. => .close | .dupfd .. => .dupfd
  | .fdopen .. => .fdopen | .fprintf .. => .fprintf | .fflush .. => .fflush | .fclose .. => .fclose
  | .renameat .. => .renameat | .unlinkat .. => .unlinkat | .unlink .. => .unlink | .fstatat .. => .fstatat
  | .stat .. => .stat | .utimensat .. => .utimensat | .lseek .. => .lseek | .mkostemp .. => .mkostemp
  | .mkdtemp .. => .mkdtemp | .mkdir .. => .mkdir | .rmdir .. => .rmdir | .fork .. => .fork | .waitpid => .waitpid

/-- Membership in a list of kinds by evaluation, for the kind of a call whose arguments are variables (which `decide`
does not take). -/
theorem Kind.mem {k : Kind} {K : List Kind} (h : K.elem k = true) : k ∈ K := List.mem_of_elem_eq_true h

variable {α : Type} {K K' : List Kind} {N : Bytes → Prop} {A : List Bytes → Prop} {p : Prog α}

theorem _root_.Mdsort.Proofs.Parties.NameQ.of_kind (hK : .openExcl ∉ K) {c : Call} (h : c.kind ∈ K) : NameQ N c := by
  cases c <;> first | exact True.intro | exact (hK h).elim

theorem _root_.Mdsort.Proofs.ForkArgv.of_kind (hK : .fork ∉ K) {c : Call} (h : c.kind ∈ K) : ForkArgv A c := by
  cases c <;> first | exact True.intro | exact (hK h).elim

theorem Calls.ret {Q : Call → Prop} (a : α) : Calls Q (Prog.ret a) := True.intro

theorem Calls.step {Q : Call → Prop} {c : Call} {k : Res → Prog α} (h : Q c) (hk : ∀ r, Calls Q (k r)) :
    Calls Q (Prog.call c k) := ⟨h, hk⟩

theorem Calls.ite {Q : Call → Prop} {b : Prop} [Decidable b] {p q : Prog α} (hp : Calls Q p) (hq : Calls Q q) :
    Calls Q (if b then p else q) := by
  split
  · exact hp
  · exact hq

/-- How the condition a sub-script was walked for relates to the condition of the script that runs it; each of the three
is decided on the two lists of kinds.  `sub`: kinds in more kinds.  `plain`: the sub-script neither creates nor forks, the
script that runs it may.  `weaken`: both may. -/
theorem Kind.sub (hK : ∀ k ∈ K, k ∈ K') (c : Call) (h : c.kind ∈ K) : c.kind ∈ K' := hK _ h

theorem Kind.plain (hK : ∀ k ∈ K, k ∈ K' ∧ k ≠ .openExcl ∧ k ≠ .fork) (c : Call) (h : c.kind ∈ K) :
    c.kind ∈ K' ∧ NameQ N c ∧ ForkArgv A c :=
  ⟨(hK _ h).1, .of_kind (fun hm => (hK _ hm).2.1 rfl) h, .of_kind (fun hm => (hK _ hm).2.2 rfl) h⟩

theorem Kind.weaken (hK : ∀ k ∈ K, k ∈ K') (c : Call) (h : c.kind ∈ K ∧ NameQ N c ∧ ForkArgv A c) :
    c.kind ∈ K' ∧ NameQ N c ∧ ForkArgv A c := ⟨hK _ h.1, h.2⟩

theorem Calls.sub (h : Calls (fun c => c.kind ∈ K) p) (hK : ∀ k ∈ K, k ∈ K') : Calls (fun c => c.kind ∈ K') p :=
  h.mono (Kind.sub hK)

theorem Calls.of_kinds {Q : Call → Prop} (h : Calls (fun c => c.kind ∈ K) p) (hQ : ∀ c, c.kind ∈ K' → Q c)
    (hK : ∀ k ∈ K, k ∈ K') : Calls Q p :=
  h.mono fun c hc => hQ c (hK _ hc)

/-- One step of the walk over a script in `Prog.ret` / `Prog.call` / `Prog.bind` form with the `match`es and `if`s of its
control flow.  A leaf issues nothing.  At a call the condition on it is discharged and the walk goes on under the
continuation: in a `kinds_` lemma the kind is looked up in the list (`Kind.mem`); in an `issues_` lemma an ordinary call also
creates nothing and forks nothing; a condition defined by cases on the call reduces to `True`.  A `bind` and an `if` are walked on both sides (`Calls.ite` before `split`: it does not rewrite the goal); a
`match` is split. -/
macro "kinds_step" : tactic =>
  `(tactic| first
      | (with_reducible exact Calls.ret _)
      | ((with_reducible refine Calls.step ?_ fun _ => ?_)
         first | exact Kind.mem rfl | exact ⟨Kind.mem rfl, True.intro, True.intro⟩ | exact True.intro)
      | (with_reducible refine Calls.bind ?_ fun _ => ?_)
      | (with_reducible refine Calls.ite ?_ ?_)
      | split
      | (dsimp only; split))

/-- A branch that runs a sub-script (or the script itself, in an induction) whose calls are known by the lemma `h`: that lemma,
if it is about the program of the goal, and whichever of the comparisons `Kind.sub`, `Kind.plain`, `Kind.weaken` relates its
condition to the goal's.  `apply` and not `refine`: a lemma about another program then fails when the two programs are compared,
before the elaborator looks for a way to make the types agree. -/
macro "kinds_sub" h:term : tactic =>
  `(tactic| ((with_reducible apply Calls.mono $h) <;>
      first | exact Kind.sub (by decide) | exact Kind.plain (by decide) | exact Kind.weaken (by decide)))

/-- The walk: `kinds_step` as long as it applies, the lemmas `subs` of the sub-scripts where it does not (`kinds_step` fails at
once on a sub-script: none of its shapes matches). -/
macro "kinds_walk" "[" subs:term,* "]" : tactic =>
  `(tactic| repeat' (first | kinds_step $[| kinds_sub $subs]*))

theorem cand_eq_genName (env : PEnv) (flags : Option Bytes) (c : Nat) : cand env flags c = genName env flags (c % gennameWrap) :=
  rfl

theorem issues_genname (env : PEnv) (hN : GenNames N env) (md : Maildir) (flags : Option Bytes) (fuel count : Nat) :
    Calls (fun c => c.kind ∈ [.openExcl] ∧ NameQ N c ∧ ForkArgv A c) (genname env md flags fuel count) :=
  (calls_genname env md flags fuel count).mono fun _ ⟨_, k, _, hc⟩ =>
    hc ▸ ⟨Kind.mem rfl, cand_eq_genName env flags k ▸ hN flags (k % gennameWrap), True.intro⟩

theorem kinds_genname (env : PEnv) (md : Maildir) (flags : Option Bytes) (fuel count : Nat) :
    Calls (fun c => c.kind ∈ [.openExcl]) (genname env md flags fuel count) :=
  (issues_genname (N := fun _ => True) (A := fun _ => True) env (fun _ _ => True.intro) md flags fuel count).mono fun _ h => h.1

theorem kinds_maildirOpendir (md : Maildir) (path : Bytes) :
    Calls (fun c => c.kind ∈ [.closedir, .opendir]) (maildirOpendir md path) := by
  unfold maildirOpendir
  simp only [bind_eq, pure_eq, call_bind]
  kinds_walk []

theorem kinds_maildirClose (md : Maildir) : Calls (fun c => c.kind ∈ [.closedir]) (maildirClose md) := by
  unfold maildirClose
  simp only [bind_eq, pure_eq, call_bind]
  kinds_walk []

theorem kinds_maildirOpenDst (path : Bytes) : Calls (fun c => c.kind ∈ [.closedir, .opendir]) (maildirOpenDst path) := by
  unfold maildirOpenDst
  simp only [bind_eq, pure_eq]
  kinds_walk [kinds_maildirOpendir _ _]

theorem kinds_maildirUnlink (md : Maildir) (name : Bytes) : Calls (fun c => c.kind ∈ [.unlinkat]) (maildirUnlink md name) := by
  unfold maildirUnlink
  simp only [bind_eq, pure_eq, call_bind]
  kinds_walk []

theorem calls_hdrs (newfd : Handle) (hs : List Hdr) :
    Calls (fun c => ∃ line, c = .fprintf newfd line) (messageWriteP.hdrs newfd hs) := by
  induction hs with
  | nil => exact Calls.ret _
  | cons h rest ih =>
    unfold messageWriteP.hdrs
    simp only [bind_eq, pure_eq, call_bind]
    refine Calls.step ⟨_, rfl⟩ fun r => ?_
    split
    · exact ih
    · exact Calls.ret _

theorem kinds_hdrs (newfd : Handle) (hs : List Hdr) : Calls (fun c => c.kind ∈ [.fprintf]) (messageWriteP.hdrs newfd hs) :=
  (calls_hdrs newfd hs).mono fun _ ⟨_, h⟩ => h ▸ Kind.mem rfl

def mwKinds : List Kind := [.dupfd, .fdopen, .close, .fprintf, .fflush, .fsync, .fclose]

theorem kinds_messageWriteP (m : Msg) (fd : Handle) : Calls (fun c => c.kind ∈ mwKinds) (messageWriteP m fd) := by
  rw [messageWriteP_eq]
  unfold mwTail
  kinds_walk [kinds_hdrs _ _]

theorem kinds_messageSetFile (ms : MsgSt) (dir name : Bytes) (fd : Option Handle) :
    Calls (fun c => c.kind ∈ [.close]) (messageSetFile ms dir name fd) := by
  unfold messageSetFile
  simp only [bind_eq, pure_eq, call_bind]
  kinds_walk []

theorem kinds_messageSetFileMoved (ms : MsgSt) (s d : Subdir) (dir name : Bytes) :
    Calls (fun c => c.kind ∈ []) (messageSetFileMoved ms s d dir name) := by
  unfold messageSetFileMoved
  simp only [pure_eq]
  kinds_walk []

theorem kinds_moveTail (ss : Subdir) (dst : Maildir) (dh fd : Handle) (dstname : Bytes) (mt : Option Nat) (err1 : Bool) (ms : MsgSt) :
    Calls (fun c => c.kind ∈ [.unlinkat, .close, .utimensat]) (moveTail ss dst dh fd dstname mt err1 ms) := by
  unfold moveTail
  simp only [bind_eq, pure_eq, call_bind]
  kinds_walk [kinds_maildirUnlink _ _, kinds_messageSetFileMoved _ _ _ _ _]

def moveKinds : List Kind := [.fstatat, .openExcl, .renameat, .unlinkat, .utimensat] ++ mwKinds

theorem kinds_moveCopy (src dst : Maildir) (ms : MsgSt) (fd : Handle) (dstname : Bytes) (r : Res) :
    Calls (fun c => c.kind ∈ .unlinkat :: mwKinds) (moveCopy src dst ms fd dstname r) := by
  unfold moveCopy
  simp only [bind_eq, pure_eq]
  kinds_walk [kinds_messageWriteP _ _, kinds_maildirUnlink _ _]

theorem issues_moveRest (env : PEnv) (hN : GenNames N env) (src dst : Maildir) (ms : MsgSt) (sh dh : Handle) (mt : Option Nat) :
    Calls (fun c => c.kind ∈ moveKinds ∧ NameQ N c ∧ ForkArgv A c) (moveRest env src dst ms sh dh mt) := by
  unfold moveRest gennameStart
  simp only [bind_eq, pure_eq, call_bind]
  -- a literal fuel would be evaluated each time the program is matched against a lemma
  generalize gennameAttempts = fuel
  kinds_walk [issues_genname env hN _ _ _ _, kinds_moveCopy _ _ _ _ _ _, kinds_moveTail _ _ _ _ _ _ _ _]

theorem issues_maildirMove (env : PEnv) (hN : GenNames N env) (src dst : Maildir) (ms : MsgSt) :
    Calls (fun c => c.kind ∈ moveKinds ∧ NameQ N c ∧ ForkArgv A c) (maildirMove env src dst ms) := by
  rw [maildirMove_eq]
  kinds_walk [issues_moveRest env hN _ _ _ _ _ _]

theorem issues_moveBranch (env : PEnv) (hN : GenNames N env) (mh : Match) (st : ExecSt) :
    Calls (fun c => c.kind ∈ [.closedir, .opendir] ++ moveKinds ∧ NameQ N c ∧ ForkArgv A c) (moveBranch env mh st) := by
  unfold moveBranch
  kinds_walk [kinds_maildirOpenDst _, issues_maildirMove env hN _ _ _, kinds_maildirClose _]

theorem kinds_moveBranch (env : PEnv) (mh : Match) (st : ExecSt) :
    Calls (fun c => c.kind ∈ [.closedir, .opendir] ++ moveKinds) (moveBranch env mh st) :=
  (issues_moveBranch (N := fun _ => True) (A := fun _ => True) env (fun _ _ => True.intro) mh st).mono fun _ h => h.1

def writeKinds : List Kind := [.openExcl, .unlinkat, .openRd] ++ mwKinds

theorem issues_maildirWrite (env : PEnv) (hN : GenNames N env) (md : Maildir) (ms : MsgSt) :
    Calls (fun c => c.kind ∈ writeKinds ∧ NameQ N c ∧ ForkArgv A c) (maildirWrite env md ms) := by
  rw [maildirWrite_eq]
  unfold gennameStart
  generalize gennameAttempts = fuel
  kinds_walk [issues_genname env hN _ _ _ _, kinds_messageWriteP _ _, kinds_maildirUnlink _ _,
    kinds_messageSetFile _ _ _ _]

theorem kinds_writefd (tmpdir : Bytes) : Calls (fun c => c.kind ∈ [.mkostemp, .unlink, .close]) (writefd tmpdir) := by
  unfold writefd
  simp only [bind_eq, pure_eq, call_bind]
  kinds_walk []

theorem kinds_writeAll (fd : Handle) (fuel : Nat) (data : Bytes) : Calls (fun c => c.kind ∈ [.write]) (writeAll fd fuel data) := by
  induction fuel generalizing data with
  | zero => exact Calls.ret _
  | succ fuel ih =>
    unfold writeAll
    simp only [bind_eq, pure_eq, call_bind]
    kinds_walk [ih _]

theorem kinds_rewindFd (fdo : Option Handle) : Calls (fun c => c.kind ∈ [.lseek, .close]) (rewindFd fdo) := by
  unfold rewindFd
  kinds_walk []

theorem kinds_tmpCopy (tmpdir : Bytes) (fill : Handle → Prog Bool) (h : ∀ fd, Calls (fun c => c.kind ∈ K) (fill fd)) :
    Calls (fun c => c.kind ∈ [.mkostemp, .unlink, .close] ++ K) (tmpCopy tmpdir fill) := by
  unfold tmpCopy
  refine Calls.bind ((kinds_writefd tmpdir).sub fun k hk => List.mem_append_left _ hk) fun f => ?_
  cases f with
  | none => exact Calls.ret _
  | some fd =>
    refine Calls.bind ((h fd).sub fun k hk => List.mem_append_right _ hk) fun e => ?_
    split
    · exact Calls.step (Kind.mem rfl) fun _ => Calls.ret _
    · exact Calls.ret _

def getFdKinds : List Kind := [.mkostemp, .unlink, .write, .lseek] ++ mwKinds

theorem kinds_messageGetFd (env : PEnv) (ms : MsgSt) (part : Option Msg) (dobody : Bool) :
    Calls (fun c => c.kind ∈ getFdKinds) (messageGetFd env ms part dobody) := by
  rw [messageGetFd_eq]
  refine Calls.bind ?_ fun fdo => (kinds_rewindFd fdo).sub (by decide)
  split
  · split
    · exact Calls.ret _
    · exact (kinds_tmpCopy _ _ fun fd => kinds_writeAll fd _ _).sub (by decide)
  · split
    · exact (kinds_tmpCopy _ _ fun fd => kinds_messageWriteP _ fd).sub (by decide)
    · split
      · exact Calls.ret _
      · exact Calls.step (Kind.mem rfl) fun _ => Calls.ret _

theorem issues_execP (argv : List Bytes) (fdin : Option Handle) (h : A argv) :
    Calls (fun c => c.kind ∈ [.openPath, .fork, .waitpid, .close] ∧ NameQ N c ∧ ForkArgv A c) (execP argv fdin) := by
  have fork (s : Handle) (k : Res → Prog Int) (hk : ∀ r, Calls _ (k r)) :
      Calls (fun c => c.kind ∈ [.openPath, .fork, .waitpid, .close] ∧ NameQ N c ∧ ForkArgv A c) (.call (.fork argv s) k) :=
    Calls.step ⟨Kind.mem rfl, True.intro, h⟩ hk
  unfold execP
  simp only [bind_eq, pure_eq, call_bind]
  repeat' (first | (with_reducible refine fork _ _ fun _ => ?_) | kinds_step)

theorem kinds_execP (argv : List Bytes) (fdin : Option Handle) :
    Calls (fun c => c.kind ∈ [.openPath, .fork, .waitpid, .close]) (execP argv fdin) :=
  (issues_execP (N := fun _ => True) (A := fun _ => True) argv fdin True.intro).mono fun _ h => h.1

def execKinds : List Kind := [.closedir, .opendir, .openRd, .openPath, .fork, .waitpid] ++ getFdKinds ++ moveKinds

theorem issues_execOne (env : PEnv) (hN : GenNames N env) (mh : Match) (st : ExecSt) (h : mh.ty = .exec → A mh.argv) :
    Calls (fun c => c.kind ∈ execKinds ∧ NameQ N c ∧ ForkArgv A c) (execOne env mh st) := by
  rcases execOne_ty_cases mh.ty with hty | hty | hty | hty | hty | hty
  · rw [execOne_move env mh st hty]
    exact (issues_moveBranch env hN mh st).mono (Kind.weaken (by decide))
  · rw [execOne_discard env mh st hty]
    kinds_walk [kinds_maildirUnlink _ _]
  · rw [execOne_write env mh st hty]
    kinds_walk [issues_maildirWrite env hN _ _]
  · rw [execOne_reject env mh st hty]
    exact Calls.ret _
  · rw [execOne_exec env mh st hty]
    kinds_walk [kinds_messageGetFd _ _ _ _, issues_execP _ _ (h hty)]
  · rw [execOne_other env mh st hty]
    exact Calls.ret _

theorem issues_matchesExec (env : PEnv) (hN : GenNames N env) (ml : MatchList) (st : ExecSt)
    (h : ∀ mh ∈ ml, mh.ty = .exec → A mh.argv) :
    Calls (fun c => c.kind ∈ execKinds ∧ NameQ N c ∧ ForkArgv A c) (matchesExec env ml st) := by
  induction ml generalizing st with
  | nil =>
    rw [matchesExec_nil]
    kinds_walk [kinds_maildirClose _]
  | cons mh rest ih =>
    rw [matchesExec_cons]
    unfold Own.errTail
    kinds_walk [issues_execOne env hN mh st (h mh (List.mem_cons_self ..)), kinds_maildirClose _,
      ih _ fun m hm => h m (List.mem_cons_of_mem _ hm)]

theorem kinds_readAll (fd : Handle) (fuel : Nat) : Calls (fun c => c.kind ∈ [.read]) (readAll fd fuel) := by
  induction fuel with
  | zero => exact Calls.ret _
  | succ fuel ih =>
    unfold readAll
    simp only [bind_eq, pure_eq, call_bind]
    kinds_walk [ih]

theorem kinds_messageParseP (d : Handle) (dir name content : Bytes) :
    Calls (fun c => c.kind ∈ [.openRd, .read, .close]) (messageParseP d dir name content) := by
  rw [messageParseP_eq]
  unfold parseTail
  kinds_walk [kinds_readAll _ _]

theorem wr_eq_writeAll (fd : Handle) (fuel : Nat) (chunk : Bytes) : copyStdin.wr fd fuel chunk = writeAll fd fuel chunk := by
  induction fuel generalizing chunk with
  | zero => rfl
  | succ fuel ih =>
    unfold copyStdin.wr writeAll
    simp only [ih]
    rfl

theorem kinds_wr (fd : Handle) (fuel : Nat) (chunk : Bytes) : Calls (fun c => c.kind ∈ [.write]) (copyStdin.wr fd fuel chunk) :=
  wr_eq_writeAll fd fuel chunk ▸ kinds_writeAll fd fuel chunk

theorem kinds_copyStdin (fd : Handle) (fuel : Nat) (input : Bytes) :
    Calls (fun c => c.kind ∈ [.read, .write]) (copyStdin fd fuel input) := by
  induction fuel generalizing input with
  | zero => exact Calls.ret _
  | succ fuel ih =>
    unfold copyStdin
    simp only [bind_eq, pure_eq, call_bind]
    kinds_walk [ih _, kinds_wr _ _ _]

def stdinKinds : List Kind := [.mkdtemp, .mkdir, .closedir, .opendir, .openExcl, .read, .write, .fsync, .close]

theorem kinds_maildirStdin (env : PEnv) (input : Bytes) : Calls (fun c => c.kind ∈ stdinKinds) (maildirStdin env input) := by
  unfold maildirStdin gennameStart
  simp only [bind_eq, pure_eq, call_bind]
  generalize gennameAttempts = fuel
  kinds_walk [kinds_genname env _ _ _ _, kinds_maildirOpendir _ _, kinds_copyStdin _ _ _]

theorem kinds_closeLoop (d : Handle) (fuel : Nat) : Calls (fun c => c.kind ∈ [.readdir, .unlinkat]) (closeStdin.loop d fuel) := by
  induction fuel with
  | zero => exact Calls.ret _
  | succ fuel ih =>
    unfold closeStdin.loop
    simp only [bind_eq, pure_eq, call_bind]
    kinds_walk [ih]

theorem kinds_closeStdin (fuel : Nat) (md : Maildir) :
    Calls (fun c => c.kind ∈ [.rewinddir, .readdir, .unlinkat, .rmdir, .closedir]) (closeStdin fuel md) := by
  unfold closeStdin
  simp only [bind_eq, pure_eq, call_bind]
  kinds_walk [kinds_closeLoop _ _]

end Mdsort.Proofs.World
