import Mdsort.Proofs.EvalAtt

/-!
# `C03_eval_refines_spec_wide` / `C03_eval_refines_spec` as corollaries of `C03_eval_refines_spec_att_wide`

On a tree without attachment nodes (`wfTree`) the grammar shape `parseRuleAW` recognises is the one
`parseRuleW` recognises, `evalRulesA` on the message itself computes what `evalRules` computes (every
action tagged with part 0, `leaks` never set), and `InDomain` implies `InDomainA`.  The shape with
`pass` / `break` last (`parseRule`) is a special case of `parseRuleW` (`parseBlockW_of_parseBlock`).
-/

namespace Mdsort.Proofs
open Mdsort Mdsort.Model Mdsort.Spec

theorem att_dom_of_wfTree : ∀ (e : Expr), wfTree e = true → ∀ L : Nat,
    wfTreeA false e = true ∧ maxSubdirA e = maxSubdir e ∧ movesFitA L e = movesFit L e ∧
      flagsKeepSeenA e = flagsKeepSeen e := by
  intro e
  induction e with
  | block _ e ih | neg _ e ih =>
    intro h L
    exact ih h L
  | and _ l r ihl ihr | or _ l r ihl ihr | mtch _ l r ihl ihr =>
    intro h L
    simp only [wfTree, Bool.and_eq_true] at h
    obtain ⟨a1, a2, a3, a4⟩ := ihl h.1 L
    obtain ⟨b1, b2, b3, b4⟩ := ihr h.2 L
    simp only [wfTreeA, maxSubdirA, maxSubdir, movesFitA, movesFit, flagsKeepSeenA, flagsKeepSeen, a1, a2, a3, a4, b1, b2,
      b3, b4, Bool.and_self, and_self]
  | attachment _ c _ => intro h; simp [wfTree] at h
  | attBlock _ c _ => intro h; simp [wfTree] at h
  | _ =>
    intro h L
    exact ⟨h, rfl, rfl, rfl⟩

theorem att_wfTree_of_inDomain {env : Env} {e : Expr} (h : InDomain env e = true) : wfTree e = true := by
  unfold InDomain at h
  simp only [Bool.and_eq_true] at h
  exact h.1.1

theorem att_inDomainA_of_inDomain {env : Env} {e : Expr} (h : InDomain env e = true) : InDomainA env e = true := by
  have hw := att_wfTree_of_inDomain h
  have hd := att_dom_of_wfTree e hw
  have hmf : ∀ L, movesFitA L e = movesFit L e := fun L => (hd L).2.2.1
  unfold InDomain at h
  unfold InDomainA
  rw [(hd 0).1, (hd 0).2.2.2, (hd 0).2.1]
  cases hm : pathslice env.path PATH_MAX 0 (-2) with
  | none => simp [hm] at h
  | some m0 =>
    cases hs : pathslice env.path NAME_MAX1 (-2) (-2) with
    | none => simp [hm, hs] at h
    | some s0 =>
      simp only [hm, hs, hw] at h ⊢
      simp only [hmf]
      exact h

theorem att_parseActAW_plain {a : Expr} (h : isActionExpr a = true) : parseActAW a = some (.plain a) := by
  cases a <;> simp [isActionExpr] at h <;> simp [parseActAW, isActionExpr]

theorem att_parseChainAW_plain : ∀ (e : Expr),
    (∀ a ∈ (andChain e).filter (fun x => (isCtlExpr x).isNone), isActionExpr a = true) →
    parseChainAW e = some (((andChain e).filter fun x => (isCtlExpr x).isNone).map ActA.plain) := by
  -- one element: skipped if it is `pass` / `break`, a plain action otherwise
  have one : ∀ x : Expr, (∀ a ∈ [x].filter (fun x => (isCtlExpr x).isNone), isActionExpr a = true) →
      (if (isCtlExpr x).isSome then some [] else (parseActAW x).map fun a => [a]) =
        some (([x].filter fun x => (isCtlExpr x).isNone).map ActA.plain) := by
    intro x h
    cases hx : isCtlExpr x with
    | some c => simp [hx]
    | none =>
      have hax : isActionExpr x = true := h x (by simp [hx])
      simp [hx, att_parseActAW_plain hax]
  intro e
  induction e with
  | and lno l r ihl _ =>
    intro h
    rw [andChain, List.filter_append] at h ⊢
    have hr := one r fun a ha => h a (List.mem_append_right _ ha)
    rw [parseChainAW, ihl fun a ha => h a (List.mem_append_left _ ha), List.map_append]
    dsimp only
    split
    · rename_i hc
      rw [if_pos hc] at hr
      rw [← Option.some.inj hr, List.append_nil]
    · rename_i hc
      rw [if_neg hc] at hr
      cases ha : parseActAW r with
      | none => rw [ha] at hr; cases hr
      | some a =>
        rw [ha] at hr
        rw [← Option.some.inj hr]
  | _ =>
    intro h
    rw [att_andChain_leaf _ (by intro _ _ _ hh; cases hh)] at h ⊢
    rw [att_parseChainAW_leaf _ (by intro _ _ _ hh; cases hh)]
    exact one _ h

theorem att_parseRuleAW_of_splitActsW (lno : Nat) (c rhs : Expr) (as : List Expr) (ctl : Ctl) (hc : isCond c = true)
    (hnb : ∀ l e, rhs ≠ .block l e) (hsp : splitActsW (andChain rhs) = some (as, ctl)) :
    parseRuleAW (.mtch lno c rhs) = some (.acts lno c (as.map ActA.plain) ctl) := by
  rw [parseRuleAW_acts lno c rhs hc hnb]
  revert hsp
  generalize hxs : andChain rhs = xs
  fun_cases splitActsW xs with
  | case1 => nofun
  | case2 ctl' hctl as' hcond =>
    intro h
    obtain ⟨h1, rfl⟩ := Prod.mk.inj (Option.some.inj h)
    subst h1 hxs
    simp only [Bool.and_eq_true, List.all_eq_true] at hcond
    rw [hctl, att_parseChainAW_plain _ hcond.2]
  | case3 => nofun

theorem att_condValA_eq {α : Type} (cx : PartCtx α) (k : Nat) (m : α) : ∀ (c : Expr), wfTree c = true →
    condValA cx c k m = condVal (cx.v k m) c := by
  intro c
  induction c with
  | and _ l r ihl ihr | or _ l r ihl ihr =>
    intro h
    simp only [wfTree, Bool.and_eq_true] at h
    simp only [condValA, condVal, ihl h.1, ihr h.2]
    cases condVal (cx.v k m) l <;> rfl
  | neg _ e ih =>
    intro h
    simp only [wfTree] at h
    simp only [condValA, condVal, ih h]
    cases condVal (cx.v k m) e <;> rfl
  | attachment _ c _ => intro h; simp [wfTree] at h
  | _ => intro _; simp only [condValA, condVal]

def att_tag0 (as : List Expr) : List (Nat × Expr) := as.map fun a => (0, a)

/-- A state of the run of `Spec/Rules.lean` against the state of the run with parts on the message itself. -/
def RunRel (run : Run) (runA : RunA) : Prop :=
  runA.pend = att_tag0 run.pend ∧ runA.crosses = run.crosses ∧ runA.leaks = false

/-- The same for the outcomes of the two runs (the pending lists are compared unless the outcome is an error). -/
def OutRel (o : BRes × Run) (oA : BRes × RunA) : Prop :=
  oA.1 = o.1 ∧ oA.2.crosses = o.2.crosses ∧ oA.2.leaks = false ∧ (o.1 ≠ .err → oA.2.pend = att_tag0 o.2.pend)

theorem RunRel.length {run : Run} {runA : RunA} (h : RunRel run runA) : runA.pend.length = run.pend.length := by
  rw [h.1, att_tag0, List.length_map]

/-- From a point of the rule list of a block on: the rules that follow, in the two specifications, from related states. -/
def BridgeRest {α : Type} (cx : PartCtx α) (aerr : Expr → Bool) (root : α) (rest : List Rule) (restA : List RuleA) : Prop :=
  ∀ (nested outerPass : Bool) (start : Nat) (passSeen : Bool) (run : Run) (runA : RunA), RunRel run runA →
    OutRel (evalRules (cx.v 0 root) aerr nested outerPass start rest passSeen run)
      (evalRulesA cx aerr nested outerPass start 0 root restA passSeen runA)

theorem BridgeRest.nil {α : Type} (cx : PartCtx α) (aerr : Expr → Bool) (root : α) : BridgeRest cx aerr root [] [] := by
  intro nested outerPass start passSeen run runA hrel
  rw [evalRules, evalRulesA]
  refine ⟨?_, ?_, hrel.2.2, fun _ => hrel.1⟩
  · simp only [hrel.length]
  · simp only [hrel.length, hrel.2.1]

/-- By the induction principle Lean derives from `parseRuleW` / `parseRulesW` (`#check @parseRuleW.mutual_induct`): one case
per arm of the two definitions, in the order of the text of `Spec/Rules.lean`; the comment at each bullet names the arm.  What
a rule, or the rules of an OR chain, put in front of `BridgeRest`. -/
theorem att_bridge {α : Type} (cx : PartCtx α) (aerr : Expr → Bool) (root : α) :
    (∀ e r, parseRuleW e = some r → wfTree e = true → ∃ rA, parseRuleAW e = some rA ∧
      ∀ rest restA, BridgeRest cx aerr root rest restA → BridgeRest cx aerr root (r :: rest) (rA :: restA)) ∧
    (∀ e rs, parseRulesW e = some rs → wfTree e = true → ∃ rsA, parseRulesAW e = some rsA ∧
      ∀ rest restA, BridgeRest cx aerr root rest restA → BridgeRest cx aerr root (rs ++ rest) (rsA ++ restA)) := by
  refine parseRuleW.mutual_induct _ _ ?_ ?_ ?_ ?_ ?_ ?_ ?_
  -- `parseRuleW` on `match c rhs`: `c` is no condition (`none`)
  · intro lno c rhs hc r h
    rw [parseRuleW.eq_def] at h
    simp only [hc, if_true] at h
    cases h
  -- `parseRuleW`: `rhs` is a nested block
  · intro lno c hc l e ih r h hwx
    have hc' : isCond c = true := by simpa using hc
    simp only [parseRuleW, hc', Bool.not_true, Bool.false_eq_true, if_false, Option.map_eq_some_iff] at h
    obtain ⟨rs', hpr, rfl⟩ := h
    simp only [wfTree, Bool.and_eq_true] at hwx
    obtain ⟨rsA', hpA, hE⟩ := ih rs' hpr hwx.2
    have hE' := hE [] [] (BridgeRest.nil cx aerr root)
    rw [List.append_nil, List.append_nil] at hE'
    refine ⟨.blk lno c rsA', by simp [parseRuleAW, hc', hpA], fun rest restA hrest => ?_⟩
    · intro nested outerPass start passSeen run runA hrel
      rw [evalRules, evalRulesA, att_condValA_eq cx 0 root c hwx.1]
      cases condVal (cx.v 0 root) c with
      | error => exact ⟨rfl, hrel.2.1, hrel.2.2, fun h => absurd rfl h⟩
      | «nomatch» => exact hrest _ _ _ _ _ _ hrel
      | «match» =>
        dsimp only
        have hin := hE' true (outerPass || passSeen) run.pend.length false run runA hrel
        rw [hrel.length]
        rcases h1 : evalRules (cx.v 0 root) aerr true (outerPass || passSeen) run.pend.length rs' false run
          with ⟨b, run1⟩
        rcases h2 : evalRulesA cx aerr true (outerPass || passSeen) run.pend.length 0 root rsA' false runA
          with ⟨bA, runA1⟩
        rw [h1, h2] at hin
        obtain ⟨e1, e2, e3, e4⟩ := hin
        simp only at e1 e2 e3 e4
        subst e1
        cases bA with
        | err => exact ⟨rfl, e2, e3, fun h => absurd rfl h⟩
        | matched => exact ⟨rfl, e2, e3, fun _ => e4 (by decide)⟩
        | _ => exact hrest _ _ _ _ _ _ ⟨e4 (by decide), e2, e3⟩
  -- `parseRuleW`: `rhs` is an action list
  · intro lno c rhs hc hnb r h hwx
    have hc' : isCond c = true := by simpa using hc
    rw [parseRuleW.eq_2 _ _ _ hnb] at h
    simp only [hc', Bool.not_true, Bool.false_eq_true, if_false, Option.map_eq_some_iff] at h
    obtain ⟨⟨as, ctl⟩, hsp, rfl⟩ := h
    simp only [wfTree, Bool.and_eq_true] at hwx
    refine ⟨.acts lno c (as.map ActA.plain) ctl,
      att_parseRuleAW_of_splitActsW lno c rhs as ctl hc' (fun l e hh => hnb l e hh) hsp, fun rest restA hrest => ?_⟩
    · intro nested outerPass start passSeen run runA hrel
      rw [evalRules, evalRulesA, att_condValA_eq cx 0 root c hwx.1]
      cases condVal (cx.v 0 root) c with
      | error => exact ⟨rfl, hrel.2.1, hrel.2.2, fun h => absurd rfl h⟩
      | «nomatch» => exact hrest _ _ _ _ _ _ hrel
      | «match» =>
        dsimp only
        obtain ⟨a1, a2⟩ := att_evalActsA_plain cx aerr (outerPass || passSeen) 0 root as runA
        by_cases hany : as.any aerr = true
        · obtain ⟨r1, h1, h2, h3⟩ := a1 hany
          simp only [hany, if_true, h1]
          exact ⟨rfl, by rw [h2]; exact hrel.2.1, by rw [h3]; exact hrel.2.2, fun h => absurd rfl h⟩
        · have hany' : as.any aerr = false := by simpa using hany
          have hrel1 : RunRel { run with pend := run.pend ++ as }
              { runA with pend := runA.pend ++ as.map fun a => (0, a) } :=
            ⟨by simp [att_tag0, hrel.1], hrel.2.1, hrel.2.2⟩
          simp only [hany', Bool.false_eq_true, if_false, a2 hany']
          cases ctl with
          | pass => exact hrest _ _ _ _ _ _ hrel1
          | brk => exact ⟨rfl, by simp [hrel.2.1], hrel.2.2, fun _ => hrel1.1⟩
          | none => exact ⟨rfl, hrel.2.1, hrel.2.2, fun _ => hrel1.1⟩
  -- `parseRuleW` on a node that is no `match` (`none`)
  · intro x hx r h
    rw [parseRuleW.eq_3 x hx] at h
    cases h
  -- `parseRulesW` on `or l r`: the rules of `l`, then the rule `r`, then the rest
  · intro lno l r ls x hr hl ihl ihr rs h hw
    rw [parseRulesW, hl, hr] at h
    obtain rfl := Option.some.inj h
    simp only [wfTree, Bool.and_eq_true] at hw
    obtain ⟨lsA, hlA, hlE⟩ := ihl ls hl hw.1
    obtain ⟨xA, hxA, hxE⟩ := ihr x hr hw.2
    refine ⟨lsA ++ [xA], by rw [parseRulesAW, hlA, hxA], fun rest restA hrest => ?_⟩
    rw [List.append_assoc, List.append_assoc]
    exact hlE _ _ (hxE rest restA hrest)
  -- `parseRulesW` on `or l r`: one side does not parse (`none`)
  · intro lno l r hno _ _ rs h
    rw [parseRulesW] at h
    split at h
    · exact (hno _ _ ‹_› ‹_›).elim
    · cases h
  -- `parseRulesW` on a node that is no `or`: one rule
  · intro e hne ih rs h hw
    rw [parseRulesW.eq_2 e hne] at h
    obtain ⟨x, hx, rfl⟩ := Option.map_eq_some_iff.1 h
    obtain ⟨xA, hxA, hxE⟩ := ih x hx hw
    exact ⟨[xA], by rw [parseRulesAW.eq_2 e hne, hxA]; rfl, hxE⟩

/-- `C03_eval_refines_spec_wide`: `att_eval_refines_spec_wide` on the rules `att_bridge` gives for the same tree. -/
theorem eval_refines_spec_wide (env : Env) (root : Msg) (f : MFlags) (e : Expr) (rules : List Spec.Rule)
    (hp : Spec.parseBlockW e = some rules) (hd : InDomainW env e = true)
    (hc : (Spec.evalBlock (valuation env root f) actionErr rules).crosses = false) :
    let o := Spec.evalBlock (valuation env root f) actionErr rules
    let r := eval env root e 0 root { ml := [], flags := f }
    r.1 = o.res ∧ (o.res = .match → Spec.planOf (mlKeys r.2.ml) = Spec.planOf (o.actions.filterMap Spec.actKey)) := by
  simp only [InDomainW, Bool.and_eq_true] at hd
  obtain ⟨hd, hplaced⟩ := hd
  have hw := att_wfTree_of_inDomain hd
  cases e with
  | block lno e' =>
    simp only [Spec.parseBlockW] at hp
    simp only [wfTree] at hw
    obtain ⟨rsA, hpA, hE⟩ := (att_bridge (partCtx env root f) actionErr root).2 e' rules hp hw
    have hE := hE [] [] (BridgeRest.nil _ _ _)
    rw [List.append_nil, List.append_nil] at hE
    have hpA : Spec.parseBlockAW (.block lno e') = some rsA := hpA
    have hrel := hE false false 0 false { pend := [], crosses := false } { pend := [], crosses := false, leaks := false }
      ⟨rfl, rfl, rfl⟩
    have hv : (partCtx env root f).v 0 root = valuation env root f := rfl
    rw [hv] at hrel
    have hout : (Spec.evalBlockA (partCtx env root f) actionErr root rsA).res =
          (Spec.evalBlock (valuation env root f) actionErr rules).res ∧
        (Spec.evalBlockA (partCtx env root f) actionErr root rsA).crosses =
          (Spec.evalBlock (valuation env root f) actionErr rules).crosses ∧
        (Spec.evalBlockA (partCtx env root f) actionErr root rsA).leaks = false ∧
        ((Spec.evalBlock (valuation env root f) actionErr rules).res = .match →
          (Spec.evalBlockA (partCtx env root f) actionErr root rsA).actions =
            att_tag0 (Spec.evalBlock (valuation env root f) actionErr rules).actions) := by
      unfold Spec.evalBlockA Spec.evalBlock
      rcases h1 : Spec.evalRules (valuation env root f) actionErr false false 0 rules false { pend := [], crosses := false }
        with ⟨b, run1⟩
      rcases h2 : Spec.evalRulesA (partCtx env root f) actionErr false false 0 0 root rsA false
        { pend := [], crosses := false, leaks := false } with ⟨bA, runA1⟩
      rw [h1, h2] at hrel
      obtain ⟨e1, e2, e3, e4⟩ := hrel
      simp only at e1 e2 e3 e4
      subst e1
      cases bA with
      | err => exact ⟨rfl, e2, e3, fun h => by cases h⟩
      | matched => exact ⟨rfl, e2, e3, fun _ => e4 (by decide)⟩
      | _ => exact ⟨rfl, e2, e3, fun h => by cases h⟩
    obtain ⟨o1, o2, o3, o4⟩ := hout
    have hatt := att_eval_refines_spec_wide env root f (.block lno e') rsA hpA
      (by simp [InDomainAW, att_inDomainA_of_inDomain hd, hplaced]) (by rw [o2]; exact hc) o3
    intro o r
    obtain ⟨n1, n2⟩ := hatt
    refine ⟨n1.trans o1, fun hm => ?_⟩
    have hm' : (Spec.evalBlockA (partCtx env root f) actionErr root rsA).res = .match := by rw [o1]; exact hm
    have h3 := planOf_of_planP (n2 hm')
    rw [mlKeysP_eq, ← keysOf_eq_map, ← mlKeys_eq, att_filterMap_drop, o4 hm] at h3
    have hmap : (att_tag0 o.actions).map (·.2) = o.actions := by
      simp [att_tag0, Function.comp_def]
    rw [hmap] at h3
    exact h3
  | _ => simp [Spec.parseBlockW] at hp

theorem filter_noctl_actions : ∀ (as : List Expr), (∀ a ∈ as, isActionExpr a = true) →
    as.filter (fun x => (isCtlExpr x).isNone) = as := by
  intro as h
  rw [List.filter_eq_self]
  intro a ha
  rw [att_isCtl_of_action (h a ha)]
  rfl

theorem splitActsW_of_splitActs {l as : List Expr} {ctl : Ctl} (h : splitActs l = some (as, ctl)) :
    splitActsW l = some (as, ctl) ∧ placedOK l = true ∧ (∀ y ∈ l, ctlPlaced y = true) := by
  rcases splitActs_spec h with ⟨rfl, rfl, hne, hact⟩ | ⟨hctl, xc, rfl, hcx, hact⟩
  · have hnc : ∀ x ∈ l, isCtlExpr x = Option.none := fun x hx => att_isCtl_of_action (hact x hx)
    refine ⟨?_, placedOK_noctl l hnc, fun y hy => ctlPlaced_of_action (hact y hy)⟩
    unfold splitActsW
    rw [ctlOfList_noctl l hnc]
    have hemp : l.isEmpty = false := by cases l <;> simp at hne ⊢
    simp only [filter_noctl_actions l hact, hemp, Bool.not_false, Bool.true_and]
    have : l.all isActionExpr = true := by simpa using hact
    simp [this]
  · have hnc : ∀ x ∈ as, isCtlExpr x = Option.none := fun x hx => att_isCtl_of_action (hact x hx)
    have hxc : (isCtlExpr xc).isSome = true := by rw [hcx]; rfl
    refine ⟨?_, placedOK_ctl_last as xc hnc hxc, ?_⟩
    · unfold splitActsW
      have hctlv : ctlOfList (as ++ [xc]) = some ctl := ctlOfList_ctl_last as xc ctl hnc hcx
      have hxn : (isCtlExpr xc).isNone = false := by rw [hcx]; rfl
      have hall : as.all isActionExpr = true := by simpa using hact
      simp [hctlv, List.filter_append, filter_noctl_actions as hact, hxn, hall]
    · intro y hy
      rcases List.mem_append.1 hy with hy | hy
      · exact ctlPlaced_of_action (hact y hy)
      · simp only [List.mem_singleton] at hy
        subst hy
        exact ctlPlaced_of_isCtl hcx

/-- By the induction principle Lean derives from `parseRule` / `parseRules` (`#check @parseRule.mutual_induct`): one case
per arm of the two definitions, in the order of the text of `Spec/Rules.lean`; the comment at each bullet names the arm. -/
theorem widen_rules :
    (∀ e r, parseRule e = some r → parseRuleW e = some r ∧ ctlPlaced e = true) ∧
    (∀ e rs, parseRules e = some rs → parseRulesW e = some rs ∧ ctlPlaced e = true) := by
  refine parseRule.mutual_induct _ _ ?_ ?_ ?_ ?_ ?_ ?_ ?_
  -- `parseRule` on `match c rhs`: `c` is no condition (`none`)
  · intro lno c rhs hc r h
    rw [parseRule.eq_def] at h
    simp only [hc, if_true] at h
    cases h
  -- `parseRule`: `rhs` is a nested block
  · intro lno c hc l e ih r h
    have hc' : isCond c = true := by simpa using hc
    simp only [parseRule, hc', Bool.not_true, Bool.false_eq_true, if_false, Option.map_eq_some_iff] at h
    obtain ⟨rs, h1, rfl⟩ := h
    obtain ⟨g1, g2⟩ := ih rs h1
    simp [parseRuleW, hc', g1, ctlPlaced, g2, ctlPlaced_of_isCond c hc']
  -- `parseRule`: `rhs` is an action list
  · intro lno c rhs hc hnb r h
    have hc' : isCond c = true := by simpa using hc
    rw [parseRule.eq_2 _ _ _ hnb] at h
    simp only [hc', Bool.not_true, Bool.false_eq_true, if_false, Option.map_eq_some_iff] at h
    obtain ⟨⟨as, ctl⟩, hsp, rfl⟩ := h
    obtain ⟨g1, g2, g3⟩ := splitActsW_of_splitActs hsp
    refine ⟨?_, ctlPlaced_mtch hc' (fun l e hh => hnb l e hh) (ctlPlaced_of_andChain rhs g3) g2⟩
    rw [parseRuleW.eq_2 _ _ _ hnb]
    simp [hc', g1]
  -- `parseRule` on a node that is no `match` (`none`)
  · intro x hx r h
    rw [parseRule.eq_3 x hx] at h
    cases h
  -- `parseRules` on `or l r`: both sides parse
  · intro lno l r ls x hr hl ihl ihr rs h
    rw [parseRules, hl, hr] at h
    cases h
    obtain ⟨g1, g2⟩ := ihl ls hl
    obtain ⟨k1, k2⟩ := ihr x hr
    simp [parseRulesW, g1, k1, ctlPlaced, g2, k2]
  -- `parseRules` on `or l r`: one side does not (`none`)
  · intro lno l r hno _ _ rs h
    rw [parseRules] at h
    split at h
    · exact (hno _ _ ‹_› ‹_›).elim
    · cases h
  -- `parseRules` on a node that is no `or`: one rule
  · intro e hne ih rs h
    rw [parseRules.eq_2 e hne] at h
    obtain ⟨x, hx, rfl⟩ := Option.map_eq_some_iff.1 h
    obtain ⟨g1, g2⟩ := ih x hx
    exact ⟨by rw [parseRulesW.eq_2 e hne, g1]; rfl, g2⟩

theorem parseBlockW_of_parseBlock {e : Expr} {rs : List Rule} (h : parseBlock e = some rs) :
    parseBlockW e = some rs ∧ ctlPlaced e = true := by
  cases e with
  | block lno e' =>
    simp only [parseBlock] at h
    obtain ⟨g1, g2⟩ := widen_rules.2 e' rs h
    exact ⟨by simpa [parseBlockW] using g1, by simpa [ctlPlaced] using g2⟩
  | _ => simp [parseBlock] at h

/-- The statement of `C03_eval_refines_spec`: `pass` / `break` last. -/
theorem eval_refines_spec (env : Env) (root : Msg) (f : MFlags) (e : Expr) (rules : List Spec.Rule)
    (hp : Spec.parseBlock e = some rules) (hd : InDomain env e = true)
    (hl : (Spec.evalBlock (valuation env root f) actionErr rules).crosses = false) :
    let o := Spec.evalBlock (valuation env root f) actionErr rules
    let r := eval env root e 0 root { ml := [], flags := f }
    r.1 = o.res ∧ (o.res = .match → Spec.planOf (mlKeys r.2.ml) = Spec.planOf (o.actions.filterMap Spec.actKey)) := by
  obtain ⟨hpw, hpl⟩ := parseBlockW_of_parseBlock hp
  exact eval_refines_spec_wide env root f e rules hpw (by simp [InDomainW, hd, hpl]) hl

end Mdsort.Proofs
