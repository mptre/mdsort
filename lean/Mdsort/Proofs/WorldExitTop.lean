import Mdsort.Proofs.WorldExitMain
import Mdsort.Proofs.World

/-!
# Exit status 0 of a whole maildir run (C01), in the terms of `runPlan`; a decidable form of the hypotheses
-/

namespace Mdsort.Proofs
open Mdsort Mdsort.Model

theorem exit0_main_runPlan (C : exit0_Ctx) (hG : exit0_Good C) (hm : C.env.stdinMode = false) (hsyn : C.env.syntaxOnly = false)
    (confOk : Bool) (conf : List ConfBlock) (input : Bytes) (hdirs : C.dirs = exit0_dirsOf conf)
    (hstep : ∀ b ∈ conf, exit0_StepOK C.env C.orc b.expr) (hreg : WholeReg C.w0 C.files0)
    (plan : Plan) (hp : World.SingleFault plan)
    (he : (runPlan plan (mainP C.env C.orc confOk conf C.files0 input) C.w0 0 []).1.2.error = false) :
    exit0_Inv C [] none (runPlan plan (mainP C.env C.orc confOk conf C.files0 input) C.w0 0 []).1.2
      (runPlan plan (mainP C.env C.orc confOk conf C.files0 input) C.w0 0 []).2.1 := by
  rw [World.runPlan_eq] at he ⊢
  obtain ⟨b', h⟩ := World.wpS_sound plan (exit0_mainP C hG hm hsyn confOk conf input hdirs hstep hreg true) hp.budget
  exact h he

/-- The standard fuel suffices for a run that ends without the error flag (maildir mode, at most one fault,
`exit0_Good`): no `readdir` loop of the model stopped for lack of fuel. -/
theorem exit0_main_fuel (C : exit0_Ctx) (hG : exit0_Good C) (hm : C.env.stdinMode = false) (hsyn : C.env.syntaxOnly = false)
    (confOk : Bool) (conf : List ConfBlock) (input : Bytes) (hdirs : C.dirs = exit0_dirsOf conf)
    (hstep : ∀ b ∈ conf, exit0_StepOK C.env C.orc b.expr) (hreg : WholeReg C.w0 C.files0)
    (plan : Plan) (hp : World.SingleFault plan)
    (he : (runPlan plan (mainP C.env C.orc confOk conf C.files0 input) C.w0 0 []).1.2.error = false) :
    (runPlan plan (mainP C.env C.orc confOk conf C.files0 input) C.w0 0 []).1.2.fuelOut = false := by
  rw [World.runPlan_eq] at he ⊢
  obtain ⟨b', h⟩ := World.wpS_sound plan
    (exit0_mainP_gen C hG hm hsyn confOk conf input hdirs hstep hreg (NF := False) False.elim False.elim False.elim true False.elim) hp.budget
  exact (h.1 he).2.2.1

theorem exit0_status_zero (env : PEnv) (orc : EvalOracles) (confOk : Bool) (conf : List ConfBlock) (files : Files) (input : Bytes)
    (w : World) (plan : Plan) (hm : env.stdinMode = false)
    (h0 : (runPlan plan (mainP env orc confOk conf files input) w 0 []).1.1 = 0) :
    (runPlan plan (mainP env orc confOk conf files input) w 0 []).1.2.error = false := by
  have h := exit_status_table env orc confOk conf files input w plan
  dsimp only at h
  rw [h] at h0
  unfold exitStatus at h0
  simp only [hm, Bool.false_eq_true, if_false] at h0
  cases he : (runPlan plan (mainP env orc confOk conf files input) w 0 []).1.2.error with
  | false => rfl
  | true => rw [he] at h0; simp at h0

/-- The registered file `n` of `D` (content `c`) is where the rules `e` put it: no match - bound as
before to a file with its content; actions - an entry of the directory of the last move/flag/flags action
is bound to a file that holds, visibly and durably, the rewritten message if there is a label/add-header
action, and in any case the original or the rewritten bytes; an error verdict is excluded. -/
def exit0_Placed (env : PEnv) (orc : EvalOracles) (e : Expr) (D n c : Bytes) (st : MainSt) (w' : World) : Prop :=
  match verdict env orc e D n c with
  | .act ml msgs _ =>
    ∃ n' fid c', st.files.get (World.finalDir ml D) n' = some c' ∧ w'.lookup (World.finalDir ml D) n' = some fid ∧
      w'.file fid = some ⟨c', c'⟩ ∧ (World.rewrites ml = true → c' = (messageWrite (msgs 0)).1) ∧
      (c' = c ∨ c' = (messageWrite (msgs 0)).1)
  | .nomatch => ∃ fid, st.files.get D n = some c ∧ w'.lookup D n = some fid ∧ w'.file fid = some ⟨c, c⟩
  | _ => False

/-- Exit status 0 of a whole run (maildir mode, real run, rules without discard that ask the operating system
nothing - no `command`, `isdirectory`, file-time `date` condition -, at most one fault,
no message visited twice): every message of the initial registry in a configured maildir is where the
rules put it, and the log is the reference log. -/
theorem exit0_main_exit0 (env : PEnv) (orc : EvalOracles) (confOk : Bool) (conf : List ConfBlock) (files : Files) (input : Bytes)
    (w : World) (plan : Plan) (hm : env.stdinMode = false) (hsyn : env.syntaxOnly = false) (hdry : env.dryrun = false)
    (hfree : ∀ b ∈ conf, asksFree b.expr = true)
    (hnd : ∀ b ∈ conf, WholeNoDiscard env orc b.expr) (hreg : WholeReg w files)
    (hG : exit0_Good ⟨env, orc, exit0_dirsOf conf, files, w⟩) (hp : World.SingleFault plan)
    (h0 : (runPlan plan (mainP env orc confOk conf files input) w 0 []).1.1 = 0) :
    (∀ D e n c, (D, e) ∈ exit0_dirsOf conf → files.get D n = some c →
      exit0_Placed env orc e D n c (runPlan plan (mainP env orc confOk conf files input) w 0 []).1.2
        (runPlan plan (mainP env orc confOk conf files input) w 0 []).2.1) ∧
    (runPlan plan (mainP env orc confOk conf files input) w 0 []).1.2.log =
      exit0_refDirs ⟨env, orc, exit0_dirsOf conf, files, w⟩ (exit0_dirsOf conf) := by
  have he := exit0_status_zero env orc confOk conf files input w plan hm h0
  have hinv := exit0_main_runPlan ⟨env, orc, exit0_dirsOf conf, files, w⟩ hG hm hsyn confOk conf input rfl
    (fun b hb => exit0_step env orc b.expr (hfree b hb) fun _ => hnd b hb) hreg plan hp he
  obtain ⟨hpl, hlog⟩ := exit0_final hG hreg hinv
  refine ⟨?_, hlog⟩
  intro D e n c hmem hc
  obtain ⟨key, c', lines, fid, hout, hget, hl, hf⟩ := hpl D e n c hmem hc
  unfold exit0_Placed
  unfold exit0_Outcome at hout
  dsimp only at hout
  cases hv : verdict env orc e D n c with
  | act ml msgs fl =>
    rw [hv] at hout
    simp only [hdry, Bool.false_eq_true, if_false] at hout
    obtain ⟨_, hk, h1, h2⟩ := hout
    refine ⟨key.2, fid, c', ?_, ?_, hf, h1, h2⟩
    · rw [← hk]; exact hget
    · rw [← hk]; exact hl
  | «nomatch» =>
    rw [hv] at hout
    obtain ⟨hk, hcc, _⟩ := hout
    subst hcc
    rw [hk] at hget hl
    exact ⟨fid, hget, hl, hf⟩
  | unparsable => rw [hv] at hout; exact hout.elim
  | error => rw [hv] at hout; exact hout.elim
  | interpFail => rw [hv] at hout; exact hout.elim

def exit0_uniqueOk (w : World) : Bool := w.dirs.all fun d => decide ((d.2.map (·.1)).Nodup)

theorem exit0_unique_of_ok {w : World} (h : exit0_uniqueOk w = true) : exit0_Unique w := by
  intro d es hd
  unfold exit0_uniqueOk at h
  rw [List.all_eq_true] at h
  exact of_decide_eq_true (h (d, es) (World.mem_dirs_of_dir hd))

def exit0_listedOk (C : exit0_Ctx) : Bool :=
  C.dirs.all fun de => ((C.w0.dir de.1).getD []).all fun x => !isDot x.1 && (C.files0.get de.1 x.1).isSome

theorem exit0_listed_of_ok {C : exit0_Ctx} (h3 : exit0_listedOk C = true) :
    ∀ D e, (D, e) ∈ C.dirs → ∀ n, (C.w0.lookup D n).isSome → isDot n = false ∧ (C.files0.get D n).isSome := by
  intro D e hmem n hn
  unfold exit0_listedOk at h3
  rw [List.all_eq_true] at h3
  have h5 := h3 (D, e) hmem
  cases hd : C.w0.dir D with
  | none =>
    rw [World.lookup_of_dir_none hd] at hn
    cases hn
  | some es =>
    simp only [hd, Option.getD_some] at h5
    rw [List.all_eq_true] at h5
    obtain ⟨x, hx, rfl⟩ := List.mem_map.1 ((World.lookup_isSome_iff hd).1 hn)
    have := h5 x hx
    simp only [Bool.and_eq_true, Bool.not_eq_true'] at this
    exact this

def exit0_norevOk (C : exit0_Ctx) : Bool :=
  (List.range C.dirs.length).all fun i =>
    match C.dirs[i]? with
    | none => true
    | some de => C.files0.all fun x =>
        !(x.1 == de.1) || !(((C.dirs.drop (i + 1)).map (·.1)).contains (exit0_dest C.env C.orc de.2 de.1 x.2.1 x.2.2))

def exit0_goodOk (C : exit0_Ctx) : Bool :=
  decide ((C.dirs.map (·.1)).Nodup) && exit0_uniqueOk C.w0 && exit0_listedOk C && exit0_norevOk C

theorem exit0_good_of_ok {C : exit0_Ctx} (h : exit0_goodOk C = true) : exit0_Good C := by
  unfold exit0_goodOk at h
  simp only [Bool.and_eq_true, decide_eq_true_eq] at h
  obtain ⟨⟨⟨h1, h2⟩, h3⟩, h4⟩ := h
  refine ⟨h1, exit0_unique_of_ok h2, exit0_listed_of_ok h3, ?_⟩
  · intro pre D e post hs n c hc hmem
    unfold exit0_norevOk at h4
    rw [List.all_eq_true] at h4
    have hlen : pre.length < C.dirs.length := by rw [hs]; simp
    have h5 := h4 pre.length (List.mem_range.2 hlen)
    have hget : C.dirs[pre.length]? = some (D, e) := by rw [hs]; simp
    rw [hget] at h5
    dsimp only at h5
    rw [List.all_eq_true] at h5
    have h6 := h5 (D, n, c) (exit0_get_mem hc)
    have hdrop : C.dirs.drop (pre.length + 1) = post := by rw [hs]; simp
    rw [hdrop] at h6
    simp only [beq_self_eq_true, Bool.not_true, Bool.false_or, Bool.not_eq_true'] at h6
    have hcon := List.contains_iff_mem.2 hmem
    rw [h6] at hcon
    cases hcon

/-- A simple sufficient form of `exit0_Good.norev`: every message stays in its directory or is sent to
a directory that is not configured at all. -/
theorem exit0_good_of_outside {C : exit0_Ctx} (h1 : (C.dirs.map (·.1)).Nodup) (h2 : exit0_uniqueOk C.w0 = true)
    (h3 : exit0_listedOk C = true)
    (h4 : ∀ D e n c, (D, e) ∈ C.dirs → C.files0.get D n = some c →
      exit0_dest C.env C.orc e D n c = D ∨ exit0_dest C.env C.orc e D n c ∉ C.dirs.map (·.1)) : exit0_Good C := by
  refine ⟨h1, exit0_unique_of_ok h2, exit0_listed_of_ok h3, ?_⟩
  · intro pre D e post hs n c hc hmem
    have hD : (D, e) ∈ C.dirs := by rw [hs]; simp
    have hn := h1
    rw [hs, List.map_append, List.map_cons, List.nodup_append] at hn
    rcases h4 D e n c hD hc with h | h
    · rw [h] at hmem
      exact (List.nodup_cons.1 hn.2.1).1 hmem
    · apply h
      rw [hs, List.map_append, List.map_cons]
      exact List.mem_append_right _ (List.mem_cons_of_mem _ hmem)

end Mdsort.Proofs
