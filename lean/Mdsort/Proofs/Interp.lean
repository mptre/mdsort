import Mdsort.Model.Eval
import Mdsort.Spec.Interp
import Mdsort.Proofs.Basics

/-!
# C12: `interpolate` is one pass of token substitution

`TokStep s` relates what the C scanner (`isBackref`, `isMacro`) finds at the head of a template to the first token of
`Spec.itokens`; every template of the documented syntax makes such a step (`tokStep`), so the loop `interpolate.go` is the
substitution of the token list, each captured text read as a C string (`interpolate_eq_interp`; `interpolate_eq_spec` when
the captures hold no NUL).  On a digit string `strtoul` is `Spec.inumber` (`strtoul_digit`).
-/

namespace Mdsort.Proofs
open Mdsort Mdsort.Model

/-- The capture lists available to an entry: the interpolating patterns (header / body
conditions) recorded after the last `match` sentinel that precedes it, in order; none if
there is no sentinel. -/
def ruleCaps (before : MatchList) : List (List Bytes) :=
  match (before.reverse.findIdx? (·.ty == .mtch)) with
  | none => []
  | some k => (((before.reverse.take k).reverse).filter (·.ty.isInterp)).map fun m => m.subs.map (·.str)

/-- Captured texts and macro values are C strings. -/
def NulFree (before : MatchList) (macros : Option (List (Bytes × Bytes))) : Prop :=
  (∀ m ∈ before, ∀ s ∈ m.subs, (0 : UInt8) ∉ s.str) ∧ (∀ ms, macros = some ms → ∀ kv ∈ ms, (0 : UInt8) ∉ kv.2)

theorem matchBackref_eq (before : MatchList) (br : Backref) :
    matchBackref before br = ((ruleCaps before)[br.mi]?).bind (fun gs => gs[br.si]?) := by
  unfold matchBackref ruleCaps
  dsimp only
  cases h : before.reverse.findIdx? (·.ty == .mtch) with
  | none => simp
  | some k =>
    simp only [List.getElem?_map]
    cases h2 : (List.filter (·.ty.isInterp) (List.take k before.reverse).reverse)[br.mi]? with
    | none => simp
    | some m =>
      simp only [Option.map_some, Option.bind_some, List.getElem?_map]
      cases m.subs[br.si]? <;> simp

theorem strtoulDigits_inumber (s : Bytes) (acc n : Nat) :
    ∃ k, strtoulDigits s acc n = ((Spec.inumber s acc).1, n + k) ∧ s.drop k = (Spec.inumber s acc).2 ∧
      (∀ d r, s = d :: r → isdigit d = true → 1 ≤ k) := by
  fun_induction strtoulDigits s acc n with
  | case1 c r acc n hc ih =>
    obtain ⟨k, h1, h2, _⟩ := ih
    refine ⟨k + 1, ?_, ?_, fun _ _ _ _ => Nat.le_add_left 1 k⟩
    · simp only [Spec.inumber, hc, if_true, h1]
      congr 1
      omega
    · simp only [Spec.inumber, hc, if_true, List.drop_succ_cons, h2]
  | case2 c r acc n hc =>
    refine ⟨0, by simp [Spec.inumber, hc], by simp [Spec.inumber, hc], ?_⟩
    intro d r' h hd
    cases h
    exact absurd hd hc
  | case3 => exact ⟨0, by simp [Spec.inumber]⟩

/-- A digit is no white space and no sign: `strtoul` starts converting at once. -/
theorem isdigit_not_space_sign : ∀ d : UInt8, isdigit d = true → isspace d = false ∧ d ≠ 45 ∧ d ≠ 43 := by
  apply forall_u8; decide +kernel

theorem strtoul_digit (d : UInt8) (r : Bytes) (hd : isdigit d = true) :
    ∃ k, 1 ≤ k ∧ (d :: r).drop k = (Spec.inumber (d :: r) 0).2 ∧
      strtoul (d :: r) =
        (if (Spec.inumber (d :: r) 0).1 > 2147483647 then none else some (Spec.inumber (d :: r) 0).1, k) := by
  obtain ⟨k, h1, h2, h3⟩ := strtoulDigits_inumber (d :: r) 0 0
  have hk : 1 ≤ k := h3 d r rfl hd
  refine ⟨k, hk, h2, ?_⟩
  obtain ⟨hsp, h45, h43⟩ := isdigit_not_space_sign d hd
  have hk0 : (k == 0) = false := by cases k <;> simp at hk ⊢
  -- The sign test of `strtoul` is a `match` on the literals `45 :: _`, `43 :: _`, which Lean compiles to the matcher
  -- `strtoul.match_1`.  On `d :: r` its third arm applies because `d ≠ 45`, `d ≠ 43`: hypotheses, which `simp` cannot use to
  -- reduce a matcher, and a `split` on the unfolded `strtoul` would fork its whole body three ways.  So the value of the
  -- matcher is shown once, apart, and `simp` rewrites with it.
  have hm : strtoul.match_1 (fun _ => Bool × Nat) (d :: r) (fun _ => (true, 1)) (fun _ => (false, 1))
      (fun _ => (false, 0)) = (false, 0) := by
    split
    · rename_i h; cases h; exact absurd rfl h45
    · rename_i h; cases h; exact absurd rfl h43
    · rfl
  unfold strtoul
  simp only [List.takeWhile_cons, hsp, Bool.false_eq_true, if_false, List.length_nil, List.drop_zero, hm, h1,
    Nat.zero_add, hk0]
  split <;> rfl

open Spec in
/-- What `isBackref` / `isMacro` say at the head of a non-empty template of the documented
syntax, in terms of its first token and the suffix that remains. -/
inductive TokStep (s : Bytes) : Prop
  | invalidRef : itokens s = .invalid → isBackref s = .inr true → TokStep s
  | invalidMacro : itokens s = .invalid → isBackref s = .inr false → isMacro s = .inr true → TokStep s
  | ref (n p g : Nat) : 1 ≤ n → isBackref s = .inl (n, ⟨p, g⟩) →
      itokens s = (itokens (s.drop n)).cons (.ref p g) → TokStep s
  | mac (n : Nat) (name : Bytes) : 1 ≤ n → isBackref s = .inr false → isMacro s = .inl (n, name) →
      itokens s = (itokens (s.drop n)).cons (.macro name) → TokStep s
  | lit (c : UInt8) (r : Bytes) : s = c :: r → isBackref s = .inr false → isMacro s = .inr false →
      itokens s = (itokens r).cons (.lit c) → TokStep s

theorem tokStep_digit (d : UInt8) (r1 : Bytes) (hd : isdigit d = true)
    (hdom : Spec.itokens (92 :: d :: r1) ≠ .undefined) : TokStep (92 :: d :: r1) := by
  obtain ⟨k, hk, hdrop, hst⟩ := strtoul_digit d r1 hd
  have e := Spec.itokens.eq_2 d r1
  rw [if_pos hd] at e
  -- the `let`s of `itokens` for the first number
  dsimp only at e
  have hd1 : ∀ n, List.drop (1 + n) (92 :: d :: r1) = List.drop n (d :: r1) := by
    intro n; rw [Nat.add_comm, List.drop_succ_cons]
  by_cases hv' : (Spec.inumber (d :: r1) 0).fst > Spec.intMax
  · rw [if_pos hv'] at e
    have hv : (Spec.inumber (d :: r1) 0).fst > 2147483647 := hv'
    exact .invalidRef e (by simp [isBackref, hd, hst, hv])
  · rw [if_neg hv'] at e
    have hv : ¬ (Spec.inumber (d :: r1) 0).fst > 2147483647 := hv'
    -- what follows the first number
    split at e
    · -- `.` and a further byte: `\N.M` if that byte is a digit, outside the documented syntax otherwise
      rename_i d2 r2 heq
      split at e
      · rename_i hd2
        obtain ⟨k2, hk2, hdrop2, hst2⟩ := strtoul_digit d2 r2 hd2
        split at e
        · rename_i hv2'
          have hv2 : (Spec.inumber (d2 :: r2) 0).fst > 2147483647 := hv2'
          exact .invalidRef e (by simp [isBackref, hd, hst, hv, hd1, hdrop, heq, hst2, hv2])
        · rename_i hv2'
          have hv2 : ¬ (Spec.inumber (d2 :: r2) 0).fst > 2147483647 := hv2'
          refine .ref (1 + k + 1 + k2) (Spec.inumber (d :: r1) 0).fst (Spec.inumber (d2 :: r2) 0).fst (by omega) (by simp [isBackref, hd, hst, hv, hd1, hdrop, heq, hst2, hv2]) ?_
          rw [e]
          have : 1 + k + 1 + k2 = 1 + (k + (k2 + 1)) := by omega
          rw [this, hd1, ← List.drop_drop, hdrop, heq, List.drop_succ_cons, hdrop2]
      · exact absurd e hdom
    · -- `.` at the end of the template: outside the documented syntax
      exact absurd e hdom
    · -- `\.`: the back-reference `\N` of the first pattern, the dot is text
      rename_i r2 heq
      refine .ref (1 + k + 1) 0 (Spec.inumber (d :: r1) 0).fst (by omega) (by simp [isBackref, hd, hst, hv, hd1, hdrop, heq]) ?_
      rw [e]
      have : 1 + k + 1 = 1 + (k + 1) := by omega
      rw [this, hd1, ← List.drop_drop, hdrop, heq, List.drop_succ_cons, List.drop_zero]
    · -- anything else: the back-reference `\N` of the first pattern
      rename_i h1 h2 h3
      refine .ref (1 + k) 0 (Spec.inumber (d :: r1) 0).fst (by omega) ?_ ?_
      · simp [isBackref, hd, hst, hv, hd1, hdrop]
        split
        · rename_i after heq
          cases after with
          | nil => exact absurd heq h2
          | cons d2 r2 => exact absurd heq (h1 d2 r2)
        · rename_i tl heq
          exact absurd heq (h3 tl)
        · rfl
      · rw [e, hd1, hdrop]

theorem isBackref_ne (c : UInt8) (r : Bytes) (hc : c ≠ 92) : isBackref (c :: r) = .inr false := by
  unfold isBackref
  split
  · rename_i h; cases h; exact absurd rfl hc
  · rfl

theorem isMacro_ne (c : UInt8) (r : Bytes) (hc : c ≠ 36) : isMacro (c :: r) = .inr false := by
  unfold isMacro
  split
  · rename_i h; cases h; exact absurd rfl hc
  · rfl

theorem isMacro_ne_brace (c e : UInt8) (r : Bytes) (he : e ≠ 123) : isMacro (c :: e :: r) = .inr false := by
  unfold isMacro
  split
  · rename_i h; cases h; exact absurd rfl he
  · rfl

/-- Interpolation looks at the preceding entries only through the back-references of the template: two lists that
resolve every back-reference alike give the same text - and a template without a backslash contains none. -/
theorem interpolate_go_congr (b1 b2 : MatchList) (macros : Option (List (Bytes × Bytes))) :
    ∀ (fuel : Nat) (s out : Bytes), (∀ br, (92 : UInt8) ∈ s → matchBackref b1 br = matchBackref b2 br) →
      interpolate.go b1 macros fuel s out = interpolate.go b2 macros fuel s out := by
  intro fuel
  induction fuel with
  | zero => intro s out _; rfl
  | succ f ih =>
    intro s out h
    cases s with
    | nil => rfl
    | cons c r =>
      have hdrop : ∀ n br, (92 : UInt8) ∈ (c :: r).drop n → matchBackref b1 br = matchBackref b2 br :=
        fun n br hm => h br (List.mem_of_mem_drop hm)
      rw [interpolate.go, interpolate.go]
      by_cases hc : c = 92
      · simp only [h _ (hc ▸ List.mem_cons_self), ih _ _ (hdrop _), ih r _ (hdrop 1)]
      · simp only [isBackref_ne c r hc, ih _ _ (hdrop _), ih r _ (hdrop 1)]

theorem interpolate_congr_backref (b1 b2 : MatchList) (macros : Option (List (Bytes × Bytes))) (t : Bytes)
    (h : ∀ br, (92 : UInt8) ∈ t → matchBackref b1 br = matchBackref b2 br) :
    interpolate b1 macros t = interpolate b2 macros t :=
  interpolate_go_congr b1 b2 macros _ _ _ h

theorem tokStep (s : Bytes) (hne : s ≠ []) (hdom : Spec.itokens s ≠ .undefined) : TokStep s := by
  cases s with
  | nil => exact absurd rfl hne
  | cons c r =>
    by_cases hc : c = 92
    · subst hc
      cases r with
      | nil => exact .lit 92 [] rfl rfl rfl (Spec.itokens.eq_4 _ _ (by intros; contradiction) (by intros; contradiction))
      | cons d r1 =>
        by_cases hd : isdigit d = true
        · exact tokStep_digit d r1 hd hdom
        · refine .lit 92 (d :: r1) rfl (by simp [isBackref, hd]) (isMacro_ne _ _ (by decide)) ?_
          rw [Spec.itokens.eq_2, if_neg hd]
    · have hB := isBackref_ne c r hc
      by_cases hc2 : c = 36
      · subst hc2
        cases r with
        | nil => exact .lit 36 [] rfl hB rfl (Spec.itokens.eq_4 _ _ (by intros; contradiction) (by intros; contradiction))
        | cons e r1 =>
          by_cases he : e = 123
          · subst he
            have e := Spec.itokens.eq_3 r1
            split at e
            · rename_i hlen
              exact .invalidMacro e hB (by simp [isMacro, hlen])
            · rename_i hlen
              refine .mac ((List.takeWhile (fun x => x != 125) r1).length + 3) (List.takeWhile (fun x => x != 125) r1) (by omega) hB
                (by simp [isMacro, hlen]) ?_
              rw [e]
              simp only [List.drop_succ_cons]
          · exact .lit 36 (e :: r1) rfl hB (isMacro_ne_brace _ _ _ he)
              (Spec.itokens.eq_4 _ _ (by intros; contradiction) (by intro r1 _ h; cases h; exact he rfl))
      · exact .lit c r rfl hB (isMacro_ne _ _ hc2)
          (Spec.itokens.eq_4 _ _ (by intro _ _ h _; exact hc h) (by intro _ h _; exact hc2 h))

/-- What a token list evaluates to (errors and the undocumented syntax: `none`). -/
def tokOut (caps : List (List Bytes)) (macros : Option (List (Bytes × Bytes))) : Spec.IToks → Option Bytes
  | .ok ts => (ts.mapM (Spec.isubst caps macros)).map List.flatten
  | _ => none

theorem itoks_cons_ne_undefined (t : Spec.ITok) (x : Spec.IToks) (h : x.cons t ≠ .undefined) : x ≠ .undefined := by
  cases x <;> simp_all [Spec.IToks.cons]

theorem tokOut_cons (caps : List (List Bytes)) (macros : Option (List (Bytes × Bytes))) (t : Spec.ITok)
    (x : Spec.IToks) (hx : x ≠ .undefined) :
    tokOut caps macros (x.cons t) =
      (Spec.isubst caps macros t).bind fun b => (tokOut caps macros x).map (b ++ ·) := by
  cases x with
  | ok ts =>
    simp only [Spec.IToks.cons, tokOut, List.mapM_cons]
    cases Spec.isubst caps macros t <;> cases List.mapM (Spec.isubst caps macros) ts <;> simp
  | invalid => cases Spec.isubst caps macros t <;> simp [Spec.IToks.cons, tokOut]
  | undefined => exact absurd rfl hx

theorem interp_eq_tokOut (caps : List (List Bytes)) (macros : Option (List (Bytes × Bytes))) (t : Bytes)
    (h : Spec.itokens t ≠ .undefined) :
    Spec.interp caps macros t = some (tokOut caps macros (Spec.itokens t)) := by
  unfold Spec.interp
  cases h' : Spec.itokens t with
  | ok ts => rfl
  | invalid => rfl
  | undefined => exact absurd h' h

/-- What a back-reference finds in the capture lists read as C strings. -/
theorem ruleCaps_cstr_get (before : MatchList) (p g : Nat) :
    ((((ruleCaps before).map (·.map cstr))[p]?).bind fun gs => gs[g]?) = (matchBackref before ⟨p, g⟩).map cstr := by
  rw [matchBackref_eq, List.getElem?_map]
  cases (ruleCaps before)[p]? with
  | none => rfl
  | some gs => simp only [Option.map_some, Option.bind_some, List.getElem?_map]

theorem interp_go_eq (before : MatchList) (macros : Option (List (Bytes × Bytes))) :
    ∀ (fuel : Nat) (s out : Bytes), s.length ≤ fuel → Spec.itokens s ≠ .undefined →
      interpolate.go before macros fuel s out =
        (tokOut ((ruleCaps before).map (·.map cstr)) macros (Spec.itokens s)).map (out ++ ·) := by
  intro fuel
  induction fuel with
  | zero =>
    intro s out h2 _
    have : s = [] := List.eq_nil_of_length_eq_zero (by omega)
    subst this
    simp [interpolate.go, Spec.itokens, tokOut]
  | succ f ih =>
    intro s out h2 hdom
    cases s with
    | nil => simp [interpolate.go, Spec.itokens, tokOut]
    | cons c r =>
      simp only [List.length_cons] at h2
      have hlen : ∀ k, 1 ≤ k → (List.drop k (c :: r)).length ≤ f := by
        intro k hk; simp only [List.length_drop, List.length_cons]; omega
      unfold interpolate.go
      cases tokStep (c :: r) (by simp) hdom with
      | invalidRef e hB => simp [hB, e, tokOut]
      | invalidMacro e hB hM => simp [hB, hM, e, tokOut]
      | ref k p g hk hB e =>
        have hd' := itoks_cons_ne_undefined _ _ (e ▸ hdom)
        simp only [hB, e, tokOut_cons _ _ _ _ hd', Spec.isubst, ruleCaps_cstr_get]
        cases hm : matchBackref before ⟨p, g⟩ with
        | none => simp
        | some sub =>
          simp only [Option.map_some, Option.bind_some, Option.map_map]
          rw [ih _ _ (hlen k hk) hd']
          congr 1; funext x; simp
      | mac k name hk hB hM e =>
        have hd' := itoks_cons_ne_undefined _ _ (e ▸ hdom)
        simp only [hB, hM, e, tokOut_cons _ _ _ _ hd', Spec.isubst]
        cases macros with
        | none => simp
        | some ms =>
          simp only [Option.bind_some]
          cases hf : ms.find? (fun kv => kv.1 == name) with
          | none => simp
          | some kv =>
            obtain ⟨k', v⟩ := kv
            simp only [Option.map_some, Option.bind_some, Option.map_map]
            rw [ih _ _ (hlen k hk) hd']
            congr 1; funext x; simp
      | lit c' r' hs hB hM e =>
        cases hs
        have hd' := itoks_cons_ne_undefined _ _ (e ▸ hdom)
        simp only [hB, hM, e, tokOut_cons _ _ _ _ hd', Spec.isubst, Option.bind_some, Option.map_map]
        rw [ih _ _ (by omega) hd']
        congr 1; funext x; simp

/-- `interpolate` is the substitution of the tokens of the template, with every captured text read as a C string. -/
theorem interpolate_eq_interp (before : MatchList) (macros : Option (List (Bytes × Bytes))) (t : Bytes)
    (hdom : Spec.itokens t ≠ .undefined) :
    Spec.interp ((ruleCaps before).map (·.map cstr)) macros t = some (interpolate before macros t) := by
  rw [interp_eq_tokOut _ _ _ hdom]
  unfold interpolate
  rw [interp_go_eq before macros t.length t [] (Nat.le_refl _) hdom]
  cases tokOut ((ruleCaps before).map (·.map cstr)) macros (Spec.itokens t) <;> simp

theorem mem_ruleCaps {before : MatchList} {gs : List Bytes} (h : gs ∈ ruleCaps before) :
    ∃ m ∈ before, gs = m.subs.map (·.str) := by
  unfold ruleCaps at h
  split at h
  · cases h
  · obtain ⟨m, hm, rfl⟩ := List.mem_map.1 h
    exact ⟨m, List.mem_reverse.1 (List.mem_of_mem_take (List.mem_reverse.1 (List.mem_filter.1 hm).1)), rfl⟩

theorem matchBackref_mem (before : MatchList) (br : Backref) (sub : Bytes)
    (h : matchBackref before br = some sub) : ∃ m ∈ before, ∃ s ∈ m.subs, s.str = sub := by
  rw [matchBackref_eq] at h
  obtain ⟨gs, hgs, hsub⟩ := Option.bind_eq_some_iff.1 h
  obtain ⟨m, hm, rfl⟩ := mem_ruleCaps (List.mem_of_getElem? hgs)
  obtain ⟨s, hs, rfl⟩ := List.mem_map.1 (List.mem_of_getElem? hsub)
  exact ⟨m, hm, s, hs, rfl⟩

theorem ruleCaps_cstr (before : MatchList) (h : ∀ m ∈ before, ∀ s ∈ m.subs, (0 : UInt8) ∉ s.str) :
    (ruleCaps before).map (·.map cstr) = ruleCaps before := by
  refine (List.map_congr_left (g := id) fun gs hgs => ?_).trans (List.map_id _)
  obtain ⟨m, hm, rfl⟩ := mem_ruleCaps hgs
  rw [List.map_map]
  exact List.map_congr_left fun s hs => cstr_of_no_nul fun b hb hb0 => h m hm s hs (hb0 ▸ hb)

theorem interpolate_eq_spec (before : MatchList) (macros : Option (List (Bytes × Bytes))) (t : Bytes)
    (hdom : Spec.itokens t ≠ .undefined) (hn : NulFree before macros) :
    Spec.interp (ruleCaps before) macros t = some (interpolate before macros t) := by
  rw [← ruleCaps_cstr before hn.1]
  exact interpolate_eq_interp before macros t hdom

theorem matchInterpolate_add_isSome (macros : Option (List (Bytes × Bytes))) (before : MatchList) (ss : List Bytes) (b1 b2 : Bytes) :
    (matchInterpolate.add macros before ss b1).isSome = (matchInterpolate.add macros before ss b2).isSome := by
  induction ss generalizing b1 b2 with
  | nil => simp [matchInterpolate.add]
  | cons s r ih =>
    simp only [matchInterpolate.add]
    cases interpolate before macros s with
    | none => rfl
    | some v => exact ih _ _

theorem label_interpolation_ignores_message (macros : Option (List (Bytes × Bytes))) (ml : MatchList) (i : Nat)
    (mh : Match) (hty : mh.ty = .label) (msgs1 msgs2 : Nat → Msg) :
    (matchInterpolate macros ml i mh msgs1).isSome = (matchInterpolate macros ml i mh msgs2).isSome := by
  unfold matchInterpolate
  simp only [hty]
  have := matchInterpolate_add_isSome macros (ml.take i) mh.strings
  have key : ∀ (b1 b2 : Bytes) (f1 f2 : Bytes → Match × Option (Nat × Msg)),
      (match matchInterpolate.add macros (ml.take i) mh.strings b1 with
        | none => none | some lab => some (f1 lab)).isSome =
      (match matchInterpolate.add macros (ml.take i) mh.strings b2 with
        | none => none | some lab => some (f2 lab)).isSome := by
    intro b1 b2 f1 f2
    have h := this b1 b2
    cases h1 : matchInterpolate.add macros (ml.take i) mh.strings b1 <;>
      cases h2 : matchInterpolate.add macros (ml.take i) mh.strings b2 <;>
      simp [h1, h2] at h ⊢
  exact key _ _ _ _

end Mdsort.Proofs
