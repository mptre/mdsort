import Mdsort.Proofs.WorldStdinMsg
import Mdsort.Proofs.WorldStdinClose

/-! `maildir_walk` over the spool: the directory stream yields `.`, `..` and the one spooled name; that name is processed
exactly once (`spec_walk_sp`).  Then `maildir_close` of the spool at the end of a stdin run, under every fault plan
(`closeStdin_keeps`) and without faults (`closeStdin_clean`). -/

namespace Mdsort.Proofs.World
open Mdsort Mdsort.Model

/-- Facts about the spool that hold at every point of the walk. -/
structure WalkBase (S : Spool) (w0 w : World) : Prop where
  inv : InvX S (fun h => S.d ≤ h) w0 w
  dOpen : ∃ snap pos, w.obj S.d = .dir S.sp snap pos
  names : ∃ a b, (95 : UInt8) ∈ a ∧ (95 : UInt8) ∈ b ∧ NamesIn w S.sp [a, b]

theorem SpoolAll.toBase {S : Spool} {w0 w w' : World} (b : WalkBase S w0 w) (a : SpoolAll S w w') : WalkBase S w0 w' := by
  obtain ⟨snap, pos, ho⟩ := b.dOpen
  have hlt : S.d < w.handles.length := lt_of_obj_ne_closed w S.d (by simp [ho])
  refine ⟨b.inv.trans (a.1.mono (fun x hx => Nat.le_of_lt hx)), ⟨snap, pos, ?_⟩, a.2⟩
  rw [a.1.objs S.d hlt (Nat.lt_irrefl _)]; exact ho

theorem WalkBase.readdir {S : Spool} {w0 w : World} (b : WalkBase S w0 w) (r : Res)
    (ho : ∃ snap pos, (stepWorld w (.readdir S.d) r).obj S.d = .dir S.sp snap pos) :
    WalkBase S w0 (stepWorld w (.readdir S.d) r) := by
  obtain ⟨x, y, hx, hy, hn⟩ := b.names
  have hdirs : (stepWorld w (.readdir S.d) r).dirs = w.dirs := core_dirs _ _ _ rfl
  refine ⟨b.inv.step_plain (.readdir S.d) r rfl ?_, ho, x, y, hx, hy, hn.congr (dir_of_dirs hdirs _)⟩
  intro h hh
  cases hh
  exact .inl (Nat.le_refl _)

theorem Pending.readdir {S : Spool} {name0 input : Bytes} {fid0 : Nat} {w : World} {st : MainSt}
    (p : Pending S name0 input fid0 w st) (r : Res) : Pending S name0 input fid0 (stepWorld w (.readdir S.d) r) st := by
  have hdirs : (stepWorld w (.readdir S.d) r).dirs = w.dirs := core_dirs _ _ _ rfl
  refine ⟨by rw [dir_of_dirs hdirs]; exact p.dir, ?_, ?_, p.files, by rw [dir_of_dirs hdirs]; exact p.root⟩
  · rw [stepWorld_file, core_file w (.readdir S.d) r fid0 p.fid trivial]; exact p.file
  · rw [stepWorld_nextFid, core_nextFid_eq w (.readdir S.d) r rfl]; exact p.fid

theorem Done.step {S : Spool} {env : PEnv} {orc : EvalOracles} {expr : Expr} {input name0 : Bytes} {w : World}
    (h : Done S env orc expr input name0 w) (c : Call) (r : Res) (hc : Harmless c) :
    Done S env orc expr input name0 (stepWorld w c r) := by
  obtain ⟨fl, as, h1, h2⟩ := h
  exact ⟨fl, as, h1, h2.step c r hc⟩

theorem spec_walk_sp (S : Spool) (hS : SpoolShape S) (env : PEnv) (orc : EvalOracles) (expr : Expr) (name0 input : Bytes)
    (fid0 : Nat) (h95 : (95 : UInt8) ∈ name0) (w0 : World) (fuel : Nat) (st : MainSt) {w : World}
    (base : WalkBase S w0 w)
    (hnames : ∀ x ∈ streamRest w S.d, x = [46] ∨ x = [46, 46] ∨ x = name0)
    (hnodup : (streamRest w S.d).Nodup)
    (hfuel : (streamRest w S.d).length < fuel)
    (hp : name0 ∈ streamRest w S.d → Pending S name0 input fid0 w st)
    (hq : name0 ∉ streamRest w S.d → st.error = false → Done S env orc expr input name0 w) :
    wp NoInv (walk env orc expr fuel (spoolMd S) st)
      (fun r w' => r.2 = spoolMd S ∧ WalkBase S w0 w' ∧
        (r.1.error = false → Done S env orc expr input name0 w')) w := by
  induction fuel generalizing w st with
  | zero => exact absurd hfuel (Nat.not_lt_zero _)
  | succ fuel ih =>
    obtain ⟨snap, pos, hobj⟩ := base.dOpen
    have hnd := notDot_of_mem h95
    unfold walk
    simp only [spoolMd, bind_eq, pure_eq, call_bind]
    intro ft
    refine ⟨trivial, ?_⟩
    have base' := base.readdir (faultResult ft w (.readdir S.d)) (obj_dir_keep _ _ rfl hobj)
    rcases readdir_cases (faultResult_plain ft w rfl) hobj with ⟨e, he⟩ | ⟨he, hrem⟩ | ⟨n, t, names, he, hrem, hobj', hdrop⟩
    · rw [he] at base' ⊢
      exact ⟨rfl, base', nofun⟩
    · rw [he] at base' ⊢
      exact ⟨rfl, base', fun h => (hq (by rw [hrem]; exact List.not_mem_nil) h).step _ _ trivial⟩
    · rw [he] at base' ⊢
      have hrem1 : streamRest (stepWorld w (.readdir S.d) (.name n)) S.d = t := by rw [streamRest_of_obj hobj', hdrop]
      rw [hrem] at hnames hnodup hfuel hp hq
      have hnames1 : ∀ x ∈ t, x = [46] ∨ x = [46, 46] ∨ x = name0 := fun x hx => hnames x (List.mem_cons_of_mem _ hx)
      have hfuel1 : t.length < fuel := by simpa using hfuel
      obtain ⟨hnt, hnodup1⟩ := List.nodup_cons.1 hnodup
      dsimp only
      by_cases hdot : (n == [46] || n == [46, 46]) = true
      · simp only [hdot, if_true]
        have hne : name0 ≠ n := by
          simp only [Bool.or_eq_true, beq_iff_eq] at hdot
          rcases hdot with h | h
          · rw [h]; exact hnd.1
          · rw [h]; exact hnd.2
        refine ih st base' (by rw [hrem1]; exact hnames1) (by rw [hrem1]; exact hnodup1) (by rw [hrem1]; exact hfuel1) ?_ ?_
        · rw [hrem1]
          exact fun h => (hp (List.mem_cons_of_mem _ h)).readdir _
        · rw [hrem1]
          exact fun h he' => (hq (fun hm => h ((List.mem_cons.1 hm).resolve_left hne)) he').step _ _ trivial
      · simp only [hdot]
        obtain rfl : n = name0 := by
          rcases hnames n (List.mem_cons_self ..) with h | h | h
          · simp [h] at hdot
          · simp [h] at hdot
          · exact h
        have P1 := (hp (List.mem_cons_self ..)).readdir (.name n)
        refine wp_bind_mono (spec_processMessage_sp S hS env orc expr st n input fid0 (dirPath_of_obj hobj') P1 h95) ?_
        rintro ⟨st', md'⟩ w2 ⟨hmd, all2, hdone⟩
        dsimp only at hmd hdone ⊢
        subst hmd
        have hobj2 : w2.obj S.d = .dir S.sp (some names) (pos + 1) := by
          rw [all2.1.objs S.d (lt_of_obj_ne_closed _ S.d (by simp [hobj'])) (Nat.lt_irrefl _)]; exact hobj'
        have hrem2 : streamRest w2 S.d = t := by rw [streamRest_of_obj hobj2, hdrop]
        refine ih st' (all2.toBase base') (by rw [hrem2]; exact hnames1) (by rw [hrem2]; exact hnodup1)
          (by rw [hrem2]; exact hfuel1) ?_ ?_
        · rw [hrem2]
          exact fun h => absurd h hnt
        · exact fun _ => hdone

theorem GoodAt.rmdir {w : World} {cs : List Bytes} {p n : Bytes} {fid : Nat} (hg : GoodAt w cs p n fid) (q : Bytes) (r : Res) :
    GoodAt (stepWorld w (.rmdir q) r) cs p n fid := by
  rcases core_rmdir w q r with hc | ⟨hq, hc⟩
  · exact hg.of_same (SameFs.of_core hc)
  · obtain ⟨h1, h2, f, h3, h4, h5⟩ := hg
    refine ⟨?_, by rw [stepWorld_nextFid, hc]; exact h2, f, by rw [stepWorld_file, hc]; exact h3, h4, h5⟩
    rw [stepWorld_lookup, hc, lookup_rmdir w q p n hq]
    exact h1

theorem closeLoop_keeps (S : Spool) {cs : List Bytes} {p n : Bytes} {fid : Nat} (hne : p ≠ S.sp) (fuel : Nat) {w : World}
    (hg : GoodAt w cs p n fid) (hd : ∃ snap pos, w.obj S.d = .dir S.sp snap pos) :
    wp NoInv (closeStdin.loop S.d fuel) (fun _ w' => GoodAt w' cs p n fid) w := by
  induction fuel generalizing w with
  | zero => exact hg
  | succ fuel ih =>
    obtain ⟨snap, pos, hobj⟩ := hd
    unfold closeStdin.loop
    simp only [bind_eq, pure_eq, call_bind]
    refine wp_call_any fun r => ⟨trivial, ?_⟩
    have hg1 := hg.step (.readdir S.d) r trivial trivial
    obtain ⟨snap1, pos1, hobj1⟩ := obj_dir_keep (.readdir S.d) r rfl hobj
    generalize stepWorld w (.readdir S.d) r = w1 at hg1 hobj1 ⊢
    split
    · split
      · exact ih hg1 ⟨_, _, hobj1⟩
      · rename_i nm _
        refine wp_call_any fun r2 => ⟨trivial, ?_⟩
        refine ih (hg1.step (.unlinkat S.d nm) r2 ?_ trivial) (obj_dir_keep (.unlinkat S.d nm) r2 rfl hobj1)
        simp only [dirSafe, dirPath_of_obj hobj1, Option.some.injEq]
        rintro ⟨h, -⟩
        exact hne h.symm
    · exact hg1

/-- `maildir_close` of the spool, under every fault plan, leaves an entry outside the spool alone. -/
theorem closeStdin_keeps (S : Spool) {cs : List Bytes} {p n : Bytes} {fid : Nat} (hne : p ≠ S.sp) (fuel : Nat) {w : World}
    (hg : GoodAt w cs p n fid) (hd : ∃ snap pos, w.obj S.d = .dir S.sp snap pos) :
    wp NoInv (closeStdin fuel (spoolMd S)) (fun _ w' => GoodAt w' cs p n fid) w := by
  obtain ⟨snap, pos, hobj⟩ := hd
  unfold closeStdin
  simp only [spoolMd, bind_eq, pure_eq, call_bind]
  refine wp_call_any fun r => ⟨trivial, ?_⟩
  have hg1 := hg.step (.rewinddir S.d) r trivial trivial
  have hd1 := obj_dir_keep (.rewinddir S.d) r rfl hobj
  refine wp_bind_mono (closeLoop_keeps S hne fuel hg1 hd1) ?_
  intro _ w2 hg2
  refine wp_call_any fun r1 => ⟨trivial, ?_⟩
  have hg3 := hg2.rmdir S.sp r1
  refine wp_call_any fun r2 => ⟨trivial, ?_⟩
  have hg4 := hg3.rmdir S.sr r2
  refine wp_call_any fun r3 => ⟨trivial, ?_⟩
  exact hg4.step _ _ trivial trivial

/-- The state in which `maildir_close` is entered, relative to the world `w0` before the spool was made: no stream, and only
empty directories the maildir names have been added; or the stream is open on the spool, which holds at most 61 names, none
of them `.` or `..`.  61: the loop of `maildir_close` has the allowance `stdinFuel env ≥ 64`, its stream yields the names and
`.`, `..` (`length_sortedNames`: + 2), and `spec_closeLoop` wants the allowance strictly above that (the last `readdir`, which
returns the end): 61 + 2 < 64.  The walk leaves at most two names (`WalkBase.names`). -/
def CleanPre (w0 w : World) (md : Maildir) : Prop :=
  (md.dirH = none ∧ Extra w0 w fun q => q = md.path ∨ q = md.root) ∨
  (∃ d es, md.dirH = some d ∧ w.dirPath d = some md.path ∧ w.dir md.path = some es ∧
    es.length ≤ 61 ∧ (∀ e ∈ es, (95 : UInt8) ∈ e.1) ∧ w.dir md.root = some [] ∧
    ∀ q, q ≠ md.path → q ≠ md.root → (w.dir q).isSome → (w0.dir q).isSome)

/-- `maildir_close` without faults: with the stream open the loop empties the spool; then, stream or not, the two `rmdir`
remove what `maildir_stdin` had made. -/
theorem closeStdin_clean {w0 w : World} {md : Maildir} (h : CleanPre w0 w md) (fuel : Nat) (hfuel : 64 ≤ fuel) :
    wpN (closeStdin fuel md) (fun _ w' => ∀ q, (w'.dir q).isSome → (w0.dir q).isSome) w := by
  unfold closeStdin
  rcases h with ⟨hmd, hx⟩ | ⟨d, es, hmd, hdp, hsp, hlen, hnm, hr, hq⟩
  · simp only [bind_eq, pure_eq, call_bind, hmd, ret_bind]
    apply wpN_call
    have h3 := hx.rmdir md.path (R := fun q => q = md.root) fun _ h => h
    generalize stepWorld w (.rmdir md.path) (predict w (.rmdir md.path)) = w3 at h3 ⊢
    apply wpN_call
    exact (h3.rmdir md.root fun _ h => .inl h).none
  · simp only [bind_eq, pure_eq, call_bind, hmd]
    apply wpN_call
    obtain ⟨snap, pos, ho⟩ := obj_of_dirPath hdp
    have hc := core_rewinddir_ok ho 0
    have ho1 : (stepWorld w (.rewinddir d) (.ok 0)).obj d = .dir md.path none 0 := by
      rw [stepWorld_obj, hc]; simp [obj_setObj, lt_of_obj_ne_closed w d (by simp [ho])]
    have hdir1 : ∀ q, (stepWorld w (.rewinddir d) (.ok 0)).dir q = w.dir q := by
      intro q; rw [stepWorld_dir, hc]; rfl
    rw [show predict w (.rewinddir d) = .ok 0 from rfl]
    generalize stepWorld w (.rewinddir d) (.ok 0) = w1 at ho1 hdir1 ⊢
    have hrem1 : streamRest w1 d = sortedNames es := by simp [streamRest, ho1, hdir1, hsp]
    refine wpN_bind_mono (spec_closeLoop d md.path w1 fuel ho1 (by rw [hrem1, length_sortedNames]; omega)
      (fun _ _ => rfl) ?_) ?_
    · intro es' hd' e he
      rw [hdir1, hsp] at hd'
      cases hd'
      exact ⟨by rw [hrem1]; exact mem_sortedNames es e he, notDot_of_mem (hnm e he)⟩
    · rintro _ w2 ⟨hemp, hoth⟩
      have hx : Extra w0 w2 fun q => q = md.path ∨ q = md.root := by
        intro q hq2
        by_cases hq1 : q = md.path
        · subst hq1
          obtain ⟨es2, hes2⟩ := Option.isSome_iff_exists.1 hq2
          exact .inr ⟨.inl rfl, by rw [hes2, hemp es2 hes2]⟩
        · rw [hoth q hq1, hdir1] at hq2 ⊢
          by_cases hq3 : q = md.root
          · exact .inr ⟨.inr hq3, by rw [hq3]; exact hr⟩
          · exact .inl (hq q hq1 hq3 hq2)
      apply wpN_call
      have h3 := hx.rmdir md.path (R := fun q => q = md.root) fun _ h => h
      generalize stepWorld w2 (.rmdir md.path) (predict w2 (.rmdir md.path)) = w3 at h3 ⊢
      apply wpN_call
      have h4 := h3.rmdir md.root (R := fun _ => False) fun _ h => .inl h
      generalize stepWorld w3 (.rmdir md.root) (predict w3 (.rmdir md.root)) = w4 at h4 ⊢
      apply wpN_call
      exact (h4.dirs (core_dirs w4 (.closedir d) (predict w4 (.closedir d)) rfl)).none

end Mdsort.Proofs.World
