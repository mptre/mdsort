import Mdsort.Model.Header
import Mdsort.Spec.Message
import Mdsort.Proofs.Basics

/-! `unfoldheader` computes `Spec.unfold`: newlines dropped, and the TABs that start a line (C10).  mdsort.conf(5) says nothing
about folding; `Spec.unfold` is the same behaviour written line-wise, not a documented one. -/


namespace Mdsort.Proofs
open Mdsort Mdsort.Model

theorem valueLines_cons (c : UInt8) (r cur : Bytes) :
    Spec.valueLines (c :: r) cur =
      if c == 10 then cur :: Spec.valueLines r [] else Spec.valueLines r (cur ++ [c]) := by
  rw [Spec.valueLines]

theorem valueLines_eq (s cur : Bytes) :
    Spec.valueLines s cur =
      (cur ++ s.takeWhile (· != 10)) ::
        (match s.dropWhile (· != 10) with
         | [] => []
         | _ :: rest => Spec.valueLines rest []) := by
  fun_induction Spec.valueLines s cur with
  -- end of the value; a newline; any other byte
  | case1 cur => simp
  | case2 c r cur hc ih =>
    obtain rfl : c = 10 := by simpa using hc
    simp
  | case3 c r cur hc ih =>
    have h2 : (c != 10) = true := by simpa using hc
    rw [ih]
    simp [h2]

theorem tab_ne_nl (x : UInt8) (h : (x == 9) = true) : (x != 10) = true := by
  rw [eq_of_beq h]; decide

theorem dropWhile_tab_takeWhile (s : Bytes) :
    (s.dropWhile (· == 9)).takeWhile (· != 10) = (s.takeWhile (· != 10)).dropWhile (· == 9) :=
  List.dropWhile_takeWhile_comm tab_ne_nl s

theorem dropWhile_tab_dropWhile (s : Bytes) :
    (s.dropWhile (· == 9)).dropWhile (· != 10) = s.dropWhile (· != 10) :=
  List.dropWhile_dropWhile_of_imp tab_ne_nl s

theorem unfoldLoop_eq (s : Bytes) :
    unfoldLoop s = ((Spec.valueLines s []).map fun l => l.dropWhile (fun c => c == 9)).flatten := by
  fun_induction unfoldLoop s with
  -- the empty value; the last line (no newline left); a line with more behind it
  | case1 => rfl
  | case2 c r s1 line h =>
    rw [dropWhile_tab_dropWhile] at h
    rw [valueLines_eq, h]
    simp [line, s1, dropWhile_tab_takeWhile]
  | case3 c r s1 line x rest' h _ ih =>
    rw [dropWhile_tab_dropWhile] at h
    rw [valueLines_eq, h, ih]
    simp [line, s1, dropWhile_tab_takeWhile]

theorem unfoldHeader_eq_spec (v : Bytes) : unfoldHeader v = Spec.unfold v := by
  unfold unfoldHeader Spec.unfold
  split
  · exact unfoldLoop_eq v
  · rfl

theorem valueLines_no_nl (s cur : Bytes) (hcur : (10 : UInt8) ∉ cur) :
    ∀ l ∈ Spec.valueLines s cur, (10 : UInt8) ∉ l := by
  fun_induction Spec.valueLines s cur with
  -- end of the value; a newline; any other byte
  | case1 cur => simpa using hcur
  | case2 c r cur hc ih => exact List.forall_mem_cons.2 ⟨hcur, ih (by simp)⟩
  | case3 c r cur hc ih =>
    apply ih
    simp only [List.mem_append, List.mem_singleton, not_or]
    exact ⟨hcur, fun h => hc (by simp [h])⟩

theorem unfoldHeader_no_newline (v : Bytes) : (10 : UInt8) ∉ unfoldHeader v := by
  rw [unfoldHeader_eq_spec]
  unfold Spec.unfold
  split
  · intro hmem
    simp only [List.mem_flatten, List.mem_map] at hmem
    obtain ⟨l, ⟨l0, hl0, rfl⟩, hin⟩ := hmem
    have := valueLines_no_nl v [] (by simp) l0 hl0
    exact this ((List.dropWhile_sublist _).subset hin)
  · rename_i h
    intro hmem
    apply h
    simpa using hmem

end Mdsort.Proofs
