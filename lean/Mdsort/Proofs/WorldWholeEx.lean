import Mdsort.Proofs.WorldWholeWalk
import Mdsort.Proofs.WorldWholeSyntax
import Mdsort.Proofs.WorldSingleEx

/-!
# Whole-run loss-freedom: a two-message example

Maildir `/m` with `new/1.h` = `A: b\n\nx` and `new/2.h` = `A: c\n\ny`; the configuration
`maildir "/m" { match all flag "cur" label "x" }` (no discard).
-/

namespace Mdsort.Proofs
open Mdsort Mdsort.Model

def wholeExOrig2 : Bytes := [65, 58, 32, 99, 10, 10, 121]
def wholeExName2 : Bytes := [50, 46, 104]

/-- The world before `main` starts: the two messages in `/m/new`, `/m/cur` empty, no descriptor open
beyond 0-2. -/
def wholeExWorld : World :=
  { dirs := [(exNew, [(exName, 0), (wholeExName2, 1)]), (exCur, [])],
    files := [(0, ⟨exOrig, exOrig⟩), (1, ⟨wholeExOrig2, wholeExOrig2⟩)], nextFid := 2,
    handles := [.other, .other, .other], devs := [], trace := [] }

/-- The same with `/m/new` open at handle 3 (the situation at the start of the walk). -/
def wholeExWorldW : World := { wholeExWorld with handles := [.other, .other, .other, .dir exNew none 0] }

def wholeExFiles : Files := [(exNew, exName, exOrig), (exNew, wholeExName2, wholeExOrig2)]

/-- `match all flag "cur" label "x"`. -/
def wholeExExpr : Expr := .mtch 1 (.all 1) (.and 1 (.flag 1 [99, 117, 114]) (.label 1 [[120]]))

def wholeExConf : List ConfBlock := [{ paths := [[47, 109]], expr := wholeExExpr }]

def wholeExOrc : EvalOracles := { rx := fun _ _ => .nomatch, strptime := fun _ => none, zoneName := fun _ => none }

def wholeExSt : MainSt := { files := wholeExFiles, error := false, reject := false, log := [] }

theorem wholeEx_reg : WholeReg wholeExWorld wholeExFiles := whole_reg_of_ok (by decide)

theorem wholeEx_regW : WholeReg wholeExWorldW wholeExSt.files := whole_reg_of_ok (by decide)

theorem wholeEx_mdOk : WholeMdOk wholeExWorldW exMd := by
  refine ⟨?_, by decide⟩
  intro d hd
  cases hd
  decide

theorem wholeEx_nd : ∀ b ∈ wholeExConf, WholeNoDiscard exEnv wholeExOrc b.expr := by
  intro b hb
  simp only [wholeExConf, List.mem_singleton] at hb
  subst hb
  exact whole_noDiscard_of_syntax _ _ _ (by decide)

theorem wholeEx_clean : WholeClean wholeExWorldW := wholeClean_of_ok (by decide)

/-- `match all flag "cur"` -/
def dry_f21Expr : Expr := .mtch 1 (.all 1) (.flag 1 [99, 117, 114])

/-- `maildir "/m" { match all flag "cur" }` -/
def dry_f21Conf : List ConfBlock := [{ paths := [[47, 109]], expr := dry_f21Expr }]

end Mdsort.Proofs
