import Mdsort.Proofs.ExecSeqBasic
import Mdsort.Proofs.WorldExec

/-!
# The scripts that keep the message's descriptor

The scripts of `matches_exec` that do NOT replace the message's descriptor (`maildir_move`, the
destination maildir, `message_get_fd`, `exec`), against arbitrary possible results: the file the
descriptor refers to and every handle that existed are untouched (`spec_X`, in `wpo`).
-/

namespace Mdsort.Proofs.ExecSeq
open Mdsort Mdsort.Model Mdsort.Spec Mdsort.Proofs.World

/-- The calls that put data into a file. -/
def Call.puts : Call → Bool
  | .write .. | .fprintf .. | .fsync .. | .fflush .. | .fclose .. => true
  | _ => false

def FreshSafe (N0 : Nat) (c : Call) : Prop :=
  (∀ h, Call.subject c = some h → N0 ≤ h) ∧ Call.puts c = false

theorem FreshSafe.fileSafe {N0 : Nat} {c : Call} (h : FreshSafe N0 c) (w : World) (fid : Nat) : fileSafe w fid c := by
  have h2 := h.2
  -- `fileSafe` restricts only the five calls of `Call.puts`, which `h2` excludes; for every other call it is `True`
  cases c <;> first | trivial | (simp [Call.puts] at h2)

theorem Frm.calls {α} {fid0 : Nat} {c0 : Bytes} {w0 : World} {p : Prog α} (hc : Calls (FreshSafe w0.handles.length) p)
    {w : World} (fr : Frm fid0 c0 w0 w) : wpo p (fun _ w' => Frm fid0 c0 w0 w') w :=
  wpo_mono (wpo_of_wpg (wpg_of_calls hc (All.trivial' p) (fun _ c r hc fr => fr.step c r hc.1 (hc.fileSafe _ _)) fr))
    fun _ _ h => h.1

theorem freshSafe_nosubject {N0 : Nat} {c : Call} (hs : Call.subject c = none) (hw : Call.puts c = false) :
    FreshSafe N0 c := ⟨(by intro h hh; rw [hs] at hh; cases hh), hw⟩

theorem freshSafe_subject {N0 : Nat} {c : Call} {fd : Handle} (hs : Call.subject c = some fd)
    (hw : Call.puts c = false) (h : N0 ≤ fd) : FreshSafe N0 c :=
  ⟨(by intro x hx; rw [hs] at hx; cases hx; exact h), hw⟩

theorem calls_maildirUnlink (N0 : Nat) (md : Maildir) (name : Bytes) : Calls (FreshSafe N0) (maildirUnlink md name) := by
  rw [maildirUnlink_eq]
  split
  · exact trivial
  · exact ⟨freshSafe_nosubject rfl rfl, fun _ => trivial⟩

theorem calls_maildirClose (N0 : Nat) (md : Maildir) (h : ∀ d, md.dirH = some d → N0 ≤ d) :
    Calls (FreshSafe N0) (maildirClose md) := by
  unfold maildirClose
  simp only [bind_eq, pure_eq, call_bind]
  split
  · rename_i d hd
    exact ⟨freshSafe_subject rfl rfl (h d hd), fun _ => trivial⟩
  · trivial

/-- The protected file is older than a script that changes no directory and writes only files made since. -/
theorem Frm.of_fr1 {fid0 : Nat} {c0 : Bytes} {w0 w1 w : World} (fr : Frm fid0 c0 w0 w1) (h : Fr1 (NewS w1) w1 w) :
    Frm fid0 c0 w0 w :=
  ⟨⟨Nat.lt_of_lt_of_le fr.file.lt h.nextFid, by rw [h.files fid0 fr.file.lt (Nat.not_le.2 fr.file.lt)]; exact fr.file.file⟩,
    fun x hx => (h.objs x (Nat.lt_of_lt_of_le hx fr.len)).trans (fr.objs x hx), Nat.le_trans fr.len h.len,
    Nat.le_trans fr.nextFid h.nextFid⟩

theorem Frm.of_mid {fid0 : Nat} {c0 : Bytes} {w0 w1 w : World} {L : Ent → Option Nat} (fr : Frm fid0 c0 w0 w1) (m : Mid w1 w L) :
    Frm fid0 c0 w0 w :=
  ⟨⟨Nat.lt_of_lt_of_le fr.file.lt m.nextFid, by rw [m.files fid0 fr.file.lt]; exact fr.file.file⟩,
    fun x hx => (m.objs x (Nat.lt_of_lt_of_le hx fr.len)).trans (fr.objs x hx), Nat.le_trans fr.len m.len,
    Nat.le_trans fr.nextFid m.nextFid⟩

theorem spec_maildirOpenDst {fid0 : Nat} {c0 : Bytes} {w0 : World} (path : Bytes) {w : World} (fr : Frm fid0 c0 w0 w) :
    wpo (maildirOpenDst path)
      (fun r w' => Frm fid0 c0 w0 w' ∧ ∀ dst, r = some dst → ∃ h, dst.dirH = some h ∧ w0.handles.length ≤ h ∧ h < w'.handles.length) w := by
  refine wpo_mono (wpo_of_wpg (wpg_maildirOpenDst sane_possible path (I := fun _ => True) fun _ _ => trivial)) ?_
  rintro r w' ⟨m, hdst⟩
  refine ⟨fr.of_mid m, fun dst hr => ?_⟩
  obtain ⟨dh, hdh, -, -, hlo, hhi, -⟩ := hdst dst hr
  exact ⟨dh, hdh, Nat.le_trans fr.len hlo, hhi⟩

theorem calls_moveTail {N0 : Nat} {fd : Handle} (hfd : N0 ≤ fd) (ss : Subdir) (dst : Maildir) (dh : Handle) (dstname : Bytes)
    (mt : Option Nat) (err1 : Bool) (ms : MsgSt) : Calls (FreshSafe N0) (moveTail ss dst dh fd dstname mt err1 ms) := by
  have hclose : FreshSafe N0 (.close fd) := freshSafe_subject rfl rfl hfd
  cases err1 with
  | true =>
    rw [moveTail_err]
    exact Calls.bind (calls_maildirUnlink N0 dst dstname) fun _ => ⟨hclose, fun _ => trivial⟩
  | false =>
    rw [moveTail_ok]
    refine ⟨hclose, fun _ => ?_⟩
    cases mt with
    | none => exact trivial
    | some t =>
      refine ⟨freshSafe_nosubject rfl rfl, fun r => ?_⟩
      dsimp only
      split <;> exact trivial

theorem spec_maildirMove (env : PEnv) (src dst : Maildir) (ms : MsgSt) {fid0 : Nat} {c0 : Bytes} {w0 w : World}
    (fr : Frm fid0 c0 w0 w) :
    wpo (maildirMove env src dst ms) (fun _ w' => Frm fid0 c0 w0 w') w := by
  rw [maildirMove_eq]
  split
  · exact fr
  split
  rotate_left
  · exact fr
  rename_i sh dh _ _
  refine wpo_bind_mono (R := fun _ w' => Frm fid0 c0 w0 w') ?_ ?_
  · split
    · intro r _
      exact fr.step _ r (by intro _ h; cases h) trivial
    · exact fr
  intro mt w1 fr1
  unfold moveRest gennameStart
  -- with the literal fuel every `wpo` goal below would be evaluated into `genname`
  generalize gennameAttempts = fuel
  split
  · exact fr1
  rename_i fl _
  simp only [bind_eq, pure_eq, call_bind]
  refine wpo_bind_mono (spec_genname env dst (some fl) fid0 c0 w0 fuel _ fr1) ?_
  rintro g w2 ⟨fr2, hnew⟩
  cases g with
  | none => exact fr2
  | some x =>
  obtain ⟨fd, dstname⟩ := x
  obtain ⟨d, p2, fid, hd, nf, hlt, hfdN⟩ := hnew fd dstname rfl
  have hfne : fid ≠ fid0 := Nat.ne_of_gt hlt
  dsimp only
  intro r _
  have fr3 := fr2.step (.renameat sh ms.name dh dstname) r (by intro _ h; cases h) trivial
  have hobj3 : (stepWorld w2 (.renameat sh ms.name dh dstname) r).obj fd = .file fid 0 true := by
    rw [stepWorld_obj, core_obj w2 _ _ fd nf.fdLt (by simp [Call.subject])]; exact nf.obj
  have hfile3 : (stepWorld w2 (.renameat sh ms.name dh dstname) r).file fid = some ⟨[], []⟩ := by
    rw [stepWorld_file, core_file w2 (.renameat sh ms.name dh dstname) r fid nf.fidLt trivial]; exact nf.file
  generalize stepWorld w2 (.renameat sh ms.name dh dstname) r = w3 at fr3 hobj3 hfile3
  refine wpo_bind_mono (R := fun _ w' => Frm fid0 c0 w0 w') ?_ fun x w4 fr4 =>
    Frm.calls (calls_moveTail hfdN _ _ _ _ _ _ _) fr4
  unfold moveCopy
  split
  · split
    · simp only [bind_eq, pure_eq]
      refine wpo_bind_mono (spec_messageWriteP ms.msg fd fr3 hobj3 hfne hfile3) ?_
      rintro we w4 ⟨fd4, -⟩
      split
      · exact fd4.fr
      · exact wpo_bind_mono (Frm.calls (calls_maildirUnlink _ src ms.name) fd4.fr) fun _ _ fr5 => fr5
    · exact fr3
  · exact fr3

theorem spec_messageGetFd {fid0 : Nat} {c0 : Bytes} (env : PEnv) (ms : MsgSt) (part : Option Msg) (dobody : Bool) {w : World}
    (fa : FileAt w fid0 c0) :
    wpo (messageGetFd env ms part dobody)
      (fun r w' => Frm fid0 c0 w w' ∧ ∀ fd, r = some fd →
        w.handles.length ≤ fd ∧
        (∃ rr, w'.trace.getLast? = some (.lseek fd, rr) ∧ rr.isErr = false) ∧
        (dobody = true → ∃ body fid off f, getBody (part.getD ms.msg) = some body ∧ w'.obj fd = .file fid off true ∧
            w.nextFid ≤ fid ∧ w'.file fid = some f ∧ f.data = cstr body) ∧
        (dobody = false → part = none → ∃ mfd, ms.fd = some mfd ∧ w'.obj fd = w.obj mfd)) w := by
  refine wpo_mono (wpo_of_wpg (wpg_messageGetFd sane_possible env ms part dobody)) ?_
  rintro r w' ⟨fr, h⟩
  refine ⟨(Frm.refl fa).of_fr1 fr, fun fd hfd => ?_⟩
  obtain ⟨h1, h2, h3, h4⟩ := h fd hfd
  refine ⟨h1, h2, h3, fun hb hp => ?_⟩
  obtain ⟨mfd, hm, ho⟩ := h4 hb hp
  -- `wpg_messageGetFd` gives this conjunct only where the results are possible ones (`R ⊆ Possible`); here `R` is `Possible`
  exact ⟨mfd, hm, ho fun h => h⟩

theorem spec_execP {fid0 : Nat} {c0 : Bytes} {w0 : World} (argv : List Bytes) (fdin : Option Handle) {w : World} (fr : Frm fid0 c0 w0 w) :
    wpo (execP argv fdin) (fun _ w' => Frm fid0 c0 w0 w') w :=
  wpo_mono (wpo_of_wpg (wpg_execP sane_possible argv fdin (Fr1.refl _ w))) fun _ _ h => fr.of_fr1 h

end Mdsort.Proofs.ExecSeq
