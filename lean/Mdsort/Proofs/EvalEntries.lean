import Mdsort.Proofs.EvalPTree

/-!
# Which entries evaluation leaves in the match list

Every entry of the list was appended for a leaf of the rule tree (or a `match` node) and has the type and the strings of
that node (`entryOf`): `matches_merge` / `matches_append` amend `maildir`, `subdir`, `path` only, the dry run `key` and
`val`; `block`, `neg`, `stat` and `command` only remove entries.  So a property `K` of type and strings that holds for
the leaves of the tree holds for every entry of the list (`evalT_entries`), whatever the answers of the operating system.
-/

namespace Mdsort.Proofs
open Mdsort Mdsort.Model Mdsort.Spec

def Entries (K : MType → List Bytes → Prop) (ml : MatchList) : Prop := ∀ m ∈ ml, K m.ty m.strings

variable {K : MType → List Bytes → Prop}

theorem Entries.sub {a b : MatchList} (h : Entries K b) (hs : ∀ m ∈ a, m ∈ b) : Entries K a :=
  fun m hm => h m (hs m hm)

theorem Entries.snoc {a : MatchList} {x : Match} (h : Entries K a) (hx : K x.ty x.strings) : Entries K (a ++ [x]) := by
  intro m hm
  rcases List.mem_append.1 hm with h1 | h1
  · exact h m h1
  · rw [List.mem_singleton.1 h1]; exact hx

theorem Entries.append (env : Env) {ml : MatchList} {mh : Match} (h : Entries K ml) (hm : K mh.ty mh.strings) :
    Entries K (matchesAppend env ml mh).1 := by
  obtain ⟨md, sd, p, hx⟩ := matchesAppend_snoc env ml mh
  obtain ⟨md1, sd1, he⟩ := matchesMerge_entry ml mh
  rw [hx]
  exact (h.sub (matchesMerge_res ml mh).sub).snoc (by rw [he]; exact hm)

theorem Entries.exprAppend (env : Env) {mh : Match} {st : St} (ok : Tri) (h : Entries K st.ml)
    (hm : K mh.ty mh.strings) : Entries K (exprAppend env mh st ok).2.ml :=
  h.append env hm

theorem Entries.regexHit (env : Env) (ty : MType) (lno part : Nat) (p : Pat) (key val : Bytes) {st : St}
    (h : Entries K st.ml) (hty : K ty []) : Entries K (regexHit env ty lno part p key val st).2.ml := by
  unfold Proofs.regexHit
  cases env.rx p val with
  | «nomatch» => exact h
  | error => exact h
  | ok groups => exact h.snoc hty

theorem Entries.dateOutcome (env : Env) (lno : Nat) (cmp : DateCmp) (age part : Nat) {st : St}
    (x : Option (Option (Int × Bytes))) (h : Entries K st.ml) (hty : K .date []) :
    Entries K (dateOutcome env lno cmp age part st x).2.ml :=
  (dateOutcome_rel (S := fun s s' => s' = s ∧ Entries K s.ml) rfl lno cmp age part ⟨rfl, h⟩
    (fun p k v => ⟨rfl, rfl, h.regexHit env .date lno part p k v hty⟩) x).2.2

theorem Entries.eval_leaf (env : Env) (root : Msg) {e : Expr} (he : asksNothing e = true)
    (hK : ∀ x, entryOf e = some x → K x.1 x.2) (part : Nat) (m : Msg) {st : St} (h : Entries K st.ml) :
    Entries K (eval env root e part m st).2.ml :=
  (eval_leaf_rel (S := fun s s' => s' = s ∧ Entries K s.ml) root he rfl rfl rfl rfl rfl part m ⟨rfl, h⟩ rfl (fun _ => ⟨rfl, h⟩)
    (fun ty lno p k v hx => ⟨rfl, rfl, h.regexHit env ty lno part p k v (hK _ hx)⟩)
    (fun mh s s' ok hs _ hx => by cases hs.1; exact ⟨rfl, rfl, hs.2.exprAppend env ok (hK _ hx)⟩)).2.2

theorem Entries.evalT_leaf (env : Env) (root : Msg) {e : Expr} (he : e.isLeaf = true)
    (hK : ∀ x, entryOf e = some x → K x.1 x.2) (part : Nat) (m : Msg) {st : St} (h : Entries K st.ml) :
    (evalT env root e part m st).AllRet fun r => Entries K r.2.ml := by
  rcases Expr.leaf_cases he with hn | ⟨lno, f, cmp, age, rfl, hf⟩ | ⟨lno, path, rfl⟩ | ⟨lno, argv, rfl⟩
  · rw [Model.evalT_leaf env root hn]
    exact Entries.eval_leaf env root hn hK part m h
  · rw [evalT_fileDate env root lno hf]
    exact fun a _ => h.dateOutcome env lno cmp age part _ (hK (.date, []) rfl)
  -- `stat`, `command`: the state is left as it was
  · rw [evalT_stat]
    split
    · exact h
    · exact fun _ _ => h
  · rw [evalT_command]
    split
    · exact h
    · exact fun _ _ => h

theorem evalT_entries (env : Env) (root : Msg) (e : Expr) (hm : K .mtch [])
    (he : ∀ n ∈ e.leaves, ∀ x, entryOf n = some x → K x.1 x.2) (part : Nat) (m : Msg) (st : St) (h : Entries K st.ml) :
    (evalT env root e part m st).AllRet fun r => Entries K r.2.ml :=
  -- `IsEvalT.sat` for `I := Entries K`: kept when entries are removed, kept by the `match` entry, kept by every leaf
  (evalT_isEvalT env root).sat (I := Entries K) (fun _ _ hb hs => hb.sub hs) (fun _ _ _ hI => hI.append env hm) e
    (fun n hn part m _ hI => Entries.evalT_leaf env root (Expr.isLeaf_of_mem_leaves hn) (he n hn) part m hI) part m st h

end Mdsort.Proofs
