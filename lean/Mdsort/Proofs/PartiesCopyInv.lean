import Mdsort.Proofs.PartiesMovers
import Mdsort.Proofs.PartiesCopyScripts

/-! One call on the abstract file system, seen from the handle table (`DirsFrom`).  Then the global invariant `CInv` of any
number of mdsort parties (every action kind, listing parties) and the client under `H_iso`, and the context `StepCtx` of one
step with the facts every field's preservation starts from.

The lineage of `CInv` is `originIn` (Model/Parties): read from the GLOBAL history, a file gets an origin other than itself
when its copy is committed.  `Model.origin` (Model/Lineage, used for C01 / C02) follows the trace of ONE run and gives a new
file, when it is created, the origin of the message the last `openRd` opened.  No theorem relates the two, and a party of C17
does not issue that `openRd` (parsing is left out of `scanExec`). -/

namespace Mdsort.Proofs.Parties
open Mdsort Mdsort.Model
open Mdsort.Proofs.World
open Mdsort.Proofs.Own

/-- Every directory handle in `w'` was one in `w` (same path) or is on an existing directory of `w`. -/
def DirsFrom (w w' : World) : Prop := ∀ d p, w'.dirPath d = some p → w.dirPath d = some p ∨ (w.dir p).isSome

theorem dirsFrom_handles {w w' : World} (h : w'.handles = w.handles) : DirsFrom w w' := by
  intro d p hd
  left
  simpa [World.dirPath, World.obj, h] using hd

theorem dirsFrom_set {w w' : World} {h : Handle} {o : Obj} (hh : w'.handles = w.handles.set h o)
    (ho : ∀ p sn pos, o = .dir p sn pos → w.dirPath h = some p) : DirsFrom w w' := by
  intro d p hd
  left
  have hobj : w'.obj d = if d = h ∧ h < w.handles.length then o else w.obj d := by
    have := obj_setObj w h d o
    simpa [World.obj, World.setObj, hh] using this
  unfold World.dirPath at hd
  rw [hobj] at hd
  split at hd
  · rename_i q sn pos heq
    cases hd
    split at heq
    · rename_i hc
      rw [hc.1]
      exact ho _ _ _ heq
    · simp [World.dirPath, heq]
  · cases hd

theorem dirsFrom_new {w w' : World} {o : Obj} (hh : w'.handles = w.handles ++ [o])
    (ho : ∀ p sn pos, o = .dir p sn pos → (w.dir p).isSome) : DirsFrom w w' := by
  intro d p hd
  have hobj : w'.obj d = if d = w.handles.length then o else w.obj d := by
    have := obj_newHandle w d o
    simpa [World.obj, World.newHandle, hh] using this
  unfold World.dirPath at hd
  rw [hobj] at hd
  split at hd
  · rename_i q sn pos heq
    cases hd
    split at heq
    · exact .inr (ho _ _ _ heq)
    · exact .inl (by simp [World.dirPath, heq])
  · cases hd

theorem core_dirsFrom (w : World) (c : Call) (r : Res) : DirsFrom w (core w c r) := by
  core_cases w c r
  case dirPos ho _ => exact dirsFrom_set rfl (by rintro _ _ _ ⟨⟩; simp only [World.dirPath, ho])
  case handle ho => exact dirsFrom_new rfl ho
  case closedir | close | fcloseOnly | read | writeFile | writeStream | fprintfFile | fprintfStream | fdopen | fflush | fclose =>
    exact dirsFrom_set rfl (by rintro _ _ _ ⟨⟩)
  case openExcl => exact dirsFrom_new (by simp only [World.newHandle, handles_bind]; rfl) (by rintro _ _ _ ⟨⟩)
  case mkostemp => exact dirsFrom_new rfl (by rintro _ _ _ ⟨⟩)
  case renameat | unlinkat => exact dirsFrom_handles (by simp only [handles_bind, handles_unbind])
  all_goals exact dirsFrom_handles rfl

def CAllowed : Call → Prop
  | .read _ | .fopen _ | .mkdtemp _ | .mkdir _ | .rmdir _ => False
  | _ => True

theorem callowed_of_copyI {M : Msg → Prop} {tr : Trace} {c : Call} (h : CopyI M tr c) : CAllowed c := by
  -- `CAllowed` is `True` but at the five calls where `CopyI` is `False`
  cases c <;> first | exact True.intro | exact h.elim

theorem callowed_of_client {c : Call} (h : IsClientCall c) : CAllowed c := by
  -- `renameat`, `unlinkat`: `True`; every other call is no client call
  cases c <;> first | exact True.intro | exact h.elim

theorem callowed_not_rmdir {c : Call} (h : CAllowed c) : ∀ q, c ≠ .rmdir q := by
  intro q e; subst e; exact h.elim

/-- A party follows the protocol `CopyI` as long as its results are among `R` (with at most one name in flight), or is the
client.  `R = PredR`: `LocalOKc`; rename-only parties on one device: `R` without `EXDEV` and `M` empty (`PartiesExactly`). -/
def LocalOKr (R : Call → Res → Prop) (M : Msg → Prop) (ps : PState) : Prop :=
  (inFlightH ps.trace).length ≤ 1 ∧
  (wp R (CopyI M) ps.prog (fun _ tr => inFlightH tr = []) ps.trace ∨
   (Calls IsClientCall ps.prog ∧ inFlightH ps.trace = []))

/-- `LocalOKr` at the results the abstract file system predicts, written out: the form the field `CInv.localOk` has. -/
def LocalOKc (M : Msg → Prop) (ps : PState) : Prop :=
  (inFlightH ps.trace).length ≤ 1 ∧
  (wp PredR (CopyI M) ps.prog (fun _ tr => inFlightH tr = []) ps.trace ∨
   (Calls IsClientCall ps.prog ∧ inFlightH ps.trace = []))

theorem localOKc_eq (M : Msg → Prop) (ps : PState) : LocalOKc M ps = LocalOKr PredR M ps := rfl

variable {R : Call → Res → Prop}

theorem localOKr_I {M : Msg → Prop} {ps : PState} {c : Call} {k : Res → Prog Bool} (h : LocalOKr R M ps)
    (hc : ps.prog = .call c k) : CopyI M ps.trace c ∨ (IsClientCall c ∧ inFlightH ps.trace = []) := by
  rcases h.2 with hw | ⟨hcl, h0⟩
  · rw [hc] at hw; exact .inl hw.1
  · rw [hc] at hcl; exact .inr ⟨hcl.1, h0⟩

theorem localOKr_allowed {M : Msg → Prop} {ps : PState} {c : Call} {k : Res → Prog Bool} (h : LocalOKr R M ps)
    (hc : ps.prog = .call c k) : CAllowed c := by
  rcases localOKr_I h hc with h | ⟨h, _⟩
  · exact callowed_of_copyI h
  · exact callowed_of_client h

theorem copyI_create_nil {M : Msg → Prop} {ps : PState} {c : Call} {k : Res → Prog Bool} (h : LocalOKr R M ps)
    (hc : ps.prog = .call c k) (hk : isCreate c = true) : inFlightH ps.trace = [] := by
  cases c <;> simp [isCreate] at hk
  rcases localOKr_I h hc with h | ⟨h, _⟩
  · exact h
  · exact h.elim

theorem localOKr_step {M : Msg → Prop} {ps : PState} {c : Call} {k : Res → Prog Bool} (h : LocalOKr R M ps)
    (hc : ps.prog = .call c k) (r : Res) (hr : R c r) (hs : List Obj) :
    LocalOKr R M { prog := k r, handles := hs, trace := ps.trace ++ [(c, r)] } := by
  refine ⟨?_, ?_⟩
  · show (inFlightH (ps.trace ++ [(c, r)])).length ≤ 1
    rw [inFlightH_snoc]
    rcases inFlightUpd_cases (inFlightH ps.trace) c r with hle | ⟨d, n, v, rfl, _, he⟩
    · exact Nat.le_trans hle.length_le h.1
    · rw [he, copyI_create_nil h hc rfl]; simp
  · rcases h.2 with hw | ⟨hcl, h0⟩
    · left
      rw [hc] at hw
      exact hw.2 _ hr
    · right
      rw [hc] at hcl
      refine ⟨hcl.2 _, ?_⟩
      show inFlightH (ps.trace ++ [(c, r)]) = []
      rw [inFlightH_snoc, h0, client_upd_nil hcl.1]

def NoFlight (s : Shared) (x : Bytes × Bytes) : Prop := ∀ (i : Nat) (ps : PState), s.parties[i]? = some ps → x ∉ ps.inFlight

/-- File `g` was created during the run and no entry holds it. -/
def Unb (s0 s : Shared) (g : Nat) : Prop :=
  s0.fs.nextFid ≤ g ∧ g < s.fs.nextFid ∧ ∀ p n, s.fs.lookup p n ≠ some g

/-- The descriptors a party holds on the file `g` of its name in flight, and the content of `g`:
what reached the file and what the stream still buffers are together the bytes handed to the stream. -/
def WrOK (ps : PState) (g : Nat) (fs : World) : Prop :=
  ∃ f, fs.file g = some f ∧
    (∀ h, (locOf ps.trace).fd = some h → ∃ off wr, ps.handles.getD h .closed = .file g off wr) ∧
    (∀ h, (locOf ps.trace).dup = some h → (∃ off wr, ps.handles.getD h .closed = .file g off wr) ∧ (locOf ps.trace).fd ≠ some h) ∧
    (∀ h, (locOf ps.trace).st = some h → ∃ buf, ps.handles.getD h .closed = .stream g buf ∧ f.data ++ buf = (locOf ps.trace).wr) ∧
    ((locOf ps.trace).st = none → f.data = (locOf ps.trace).wr)

/-- The temporary files of a party are not entries of any directory. -/
def TmpOK (s0 s : Shared) (ps : PState) : Prop :=
  (∀ h ∈ (locOf ps.trace).tmp, ∃ g off wr, ps.handles.getD h .closed = .file g off wr ∧ Unb s0 s g) ∧
  (∀ h ∈ (locOf ps.trace).tst, ∃ g buf, ps.handles.getD h .closed = .stream g buf ∧ Unb s0 s g)

/-- File `g` is a message: it descends from an initial file and is that file, untouched, or a complete
copy written by a party. -/
def Settled (M : Msg → Prop) (s0 s : Shared) (g : Nat) : Prop :=
  (∃ p0 n0, s0.fs.lookup p0 n0 = some (originIn s.log g)) ∧
  ((g < s0.fs.nextFid ∧ originIn s.log g = g) ∨
   (s0.fs.nextFid ≤ g ∧ ∃ m f, M m ∧ s.fs.file g = some f ∧ f.data = (messageWrite m).1))

/-- The invariant of a run from `s0`, in three groups.
File system: `nextLe`, `boundLt` (ids are allocated in order, bound ids are allocated), `inj` (no file has two
entries), `files` (initial files keep their content).
Parties: `localOk` (protocol `CopyI` or client), `dirsOk` / `resolves` (directory handles, and those of names in
flight, resolve to existing directories), `flightBound` (a name in flight is an entry, holding a file created in
the run), `disjoint` (no name is in flight for two parties), `writing` (`WrOK`: what the file of a name in flight
holds), `tmpOk` (temporary files are no entries).
Lineage, for entries in nobody's flight: `settled` (each is a message), `once` (no two descend from the same
initial file), `kept` (every initial file has such a descendant or was removed outright). -/
structure CInv (M : Msg → Prop) (s0 s : Shared) : Prop where
  nextLe : s0.fs.nextFid ≤ s.fs.nextFid
  boundLt : ∀ (p n : Bytes) (f : Nat), s.fs.lookup p n = some f → f < s.fs.nextFid
  inj : ∀ (p n p' n' : Bytes) (f : Nat), s.fs.lookup p n = some f → s.fs.lookup p' n' = some f → p = p' ∧ n = n'
  dirsOk : ∀ (i : Nat) (ps : PState) (d : Handle) (p : Bytes), s.parties[i]? = some ps →
    handlesDirPath ps.handles d = some p → (s.fs.dir p).isSome
  resolves : ∀ (i : Nat) (ps : PState) (x : Handle × Bytes), s.parties[i]? = some ps → x ∈ inFlightH ps.trace →
    (handlesDirPath ps.handles x.1).isSome
  localOk : ∀ (i : Nat) (ps : PState), s.parties[i]? = some ps → LocalOKc M ps
  flightBound : ∀ (i : Nat) (ps : PState) (x : Bytes × Bytes), s.parties[i]? = some ps → x ∈ ps.inFlight →
    ∃ f, s.fs.lookup x.1 x.2 = some f ∧ s0.fs.nextFid ≤ f
  disjoint : ∀ (i j : Nat) (ps qs : PState) (x : Bytes × Bytes), i ≠ j → s.parties[i]? = some ps → s.parties[j]? = some qs →
    x ∈ ps.inFlight → x ∉ qs.inFlight
  writing : ∀ (i : Nat) (ps : PState) (x : Bytes × Bytes) (g : Nat), s.parties[i]? = some ps → x ∈ ps.inFlight →
    s.fs.lookup x.1 x.2 = some g → WrOK ps g s.fs
  tmpOk : ∀ (i : Nat) (ps : PState), s.parties[i]? = some ps → TmpOK s0 s ps
  files : ∀ f, f < s0.fs.nextFid → s.fs.file f = s0.fs.file f
  settled : ∀ (p n : Bytes) (g : Nat), s.fs.lookup p n = some g → NoFlight s (p, n) → Settled M s0 s g
  once : ∀ (p n : Bytes) (g : Nat) (p' n' : Bytes) (g' : Nat), s.fs.lookup p n = some g → s.fs.lookup p' n' = some g' →
    NoFlight s (p, n) → NoFlight s (p', n') → originIn s.log g = originIn s.log g' → p = p' ∧ n = n'
  kept : ∀ (p0 n0 : Bytes) (f0 : Nat), s0.fs.lookup p0 n0 = some f0 →
    (∃ p n g, s.fs.lookup p n = some g ∧ NoFlight s (p, n) ∧ originIn s.log g = f0) ∨ (∃ e ∈ s.log, e.destroysRoot f0 = true)

theorem originIn_snoc (log : List Event) (e : Event) (g : Nat) :
    originIn (log ++ [e]) g = if (e.commits && e.flightFid == some g) = true then e.srcRoot.getD g else originIn log g := by
  simp [originIn, List.foldl_append, originStep]

theorem originIn_snoc_same (log : List Event) (e : Event) (g : Nat) (h : e.commits = false ∨ e.flightFid ≠ some g) :
    originIn (log ++ [e]) g = originIn log g := by
  rw [originIn_snoc]
  rcases h with h | h
  · simp [h]
  · have : (e.flightFid == some g) = false := by simpa using h
    simp [this]

/-- One isolated step under the invariant: party `a` in local state `ps` issues `c` (continuation `k`); `lt0`:
the initial entries hold allocated files.  `x.hL` (the entries after the step) is the rewrite everything uses;
`x.proto` what the protocol says of `c`, `x.isoF` isolation as facts, `x.shape` what `ps` has in flight.
A primed `StepCtx.f'` (`boundLt'`, `inj'`, ... `kept'`) proves field `f` of `CInv` for the state after the step;
`cinv_step` collects them. -/
structure StepCtx (M : Msg → Prop) (s0 s : Shared) (a : Nat) (ps : PState) (c : Call) (k : Res → Prog Bool) : Prop where
  inv : CInv M s0 s
  hp : s.parties[a]? = some ps
  hc : ps.prog = .call c k
  iso : isoStep s a = true
  lt0 : ∀ (p n : Bytes) (f : Nat), s0.fs.lookup p n = some f → f < s0.fs.nextFid

variable {M : Msg → Prop} {s0 s : Shared} {a : Nat} {ps : PState} {c : Call} {k : Res → Prog Bool}

theorem StepCtx.loc (x : StepCtx M s0 s a ps c k) : LocalOKr PredR M ps :=
  localOKc_eq M ps ▸ x.inv.localOk a ps x.hp

theorem StepCtx.allowed (x : StepCtx M s0 s a ps c k) : CAllowed c := localOKr_allowed x.loc x.hc

theorem StepCtx.proto (x : StepCtx M s0 s a ps c k) :
    CopyI M ps.trace c ∨ (IsClientCall c ∧ inFlightH ps.trace = []) := localOKr_I x.loc x.hc

theorem StepCtx.hpar (x : StepCtx M s0 s a ps c k) (i : Nat) :
    (stepCall s a ps c k).parties[i]? = if i = a then some (stepLocal s ps c k) else s.parties[i]? :=
  stepCall_party s a i ps c k x.hp

theorem StepCtx.party (x : StepCtx M s0 s a ps c k) {i : Nat} {q : PState} (hq : (stepCall s a ps c k).parties[i]? = some q) :
    (a = i ∧ q = stepLocal s ps c k) ∨ (i ≠ a ∧ s.parties[i]? = some q) :=
  stepCall_party_cases x.hp hq

theorem StepCtx.hdst (x : StepCtx M s0 s a ps c k) :
    ∀ y, callDst (s.view ps) c = some y → ((s.view ps).dir y.1).isSome := by
  intro y hy
  obtain ⟨d, hd⟩ := dst_dirPath hy
  exact x.inv.dirsOk a ps d y.1 x.hp hd

theorem StepCtx.hL (x : StepCtx M s0 s a ps c k) (q m : Bytes) :
    (stepCall s a ps c k).fs.lookup q m =
      if isOk (predict (s.view ps) c) = true ∧ callDst (s.view ps) c = some (q, m) then boundBy (s.view ps) c
      else if isOk (predict (s.view ps) c) = true ∧ callSrc (s.view ps) c = some (q, m) then none
      else s.fs.lookup q m :=
  step_lookup (s.view ps) c q m x.hdst

theorem stepCall_nextge : s.fs.nextFid ≤ (stepCall s a ps c k).fs.nextFid :=
  core_nextFid (s.view ps) c _

/-- The names in flight as the trace has them (`Event.pending` is "there are some") and resolved through the handle table
(`Event.flight`) are empty together: `resolves`.  So `destroysRoot`, stated with `pending`, and `commits`, stated with
`flight`, split the successful unlinks of a party between them. -/
theorem StepCtx.shape (x : StepCtx M s0 s a ps c k) :
    (inFlightH ps.trace = [] ∧ ps.inFlight = []) ∨
    ∃ d n p, inFlightH ps.trace = [(d, n)] ∧ handlesDirPath ps.handles d = some p ∧ ps.inFlight = [(p, n)] := by
  have hlen := x.loc.1
  match hF : inFlightH ps.trace, hlen with
  | [], _ => exact .inl ⟨rfl, inFlight_of_nil hF⟩
  | [(d, n)], _ =>
    obtain ⟨p, hp⟩ := Option.isSome_iff_exists.1 (x.inv.resolves a ps (d, n) x.hp (by rw [hF]; exact List.mem_singleton.2 rfl))
    exact .inr ⟨d, n, p, rfl, hp, inFlight_of_singleton hF hp⟩
  | _ :: _ :: _, hl => simp at hl

theorem StepCtx.flight_of_mem (x : StepCtx M s0 s a ps c k) {d : Handle} {n : Bytes} (h : (d, n) ∈ inFlightH ps.trace) :
    ∃ p, handlesDirPath ps.handles d = some p ∧ ps.inFlight = [(p, n)] := by
  rcases x.shape with ⟨h0, _⟩ | ⟨d', n', p', hF, hp', hfl⟩
  · rw [h0] at h; cases h
  · rw [hF] at h
    obtain ⟨rfl, rfl⟩ : d = d' ∧ n = n' := by simpa using h
    exact ⟨p', hp', hfl⟩

theorem StepCtx.flight_eq (x : StepCtx M s0 s a ps c k) {y : Bytes × Bytes} (h : y ∈ ps.inFlight) : ps.inFlight = [y] := by
  rcases x.shape with ⟨_, h0⟩ | ⟨_, _, _, _, _, hfl⟩
  · rw [h0] at h; cases h
  · rw [hfl] at h ⊢
    rw [List.mem_singleton.1 h]

theorem StepCtx.isoF (x : StepCtx M s0 s a ps c k) :
    (∀ i q y, i ≠ a → s.parties[i]? = some q → y ∈ q.inFlight →
      callSrc (s.view ps) c ≠ some y ∧ (c.isRename = true → callDst (s.view ps) c ≠ some y)) ∧
    (c.isRename = true → ∀ y ∈ ps.inFlight, callSrc (s.view ps) c ≠ some y) :=
  iso_facts x.hp x.hc x.iso

theorem StepCtx.dst_not_foreign (x : StepCtx M s0 s a ps c k) (i : Nat) (q : PState) (y : Bytes × Bytes)
    (hi : i ≠ a) (hq : s.parties[i]? = some q) (hy : y ∈ q.inFlight) :
    ¬ (isOk (predict (s.view ps) c) = true ∧ callDst (s.view ps) c = some (y.1, y.2)) := by
  rintro ⟨hok, hd⟩
  obtain ⟨f, hf, _⟩ := x.inv.flightBound i q y hq hy
  rcases dst_kind hd with hk | hk
  · obtain ⟨z, hz, hnone, _, _⟩ := create_ok hk hok
    rw [hd] at hz; cases hz
    rw [show (s.view ps).lookup y.1 y.2 = s.fs.lookup y.1 y.2 from rfl, hf] at hnone; cases hnone
  · exact (x.isoF.1 i q y hi hq hy).2 hk hd

theorem StepCtx.src_not_foreign (x : StepCtx M s0 s a ps c k) (i : Nat) (q : PState) (y : Bytes × Bytes)
    (hi : i ≠ a) (hq : s.parties[i]? = some q) (hy : y ∈ q.inFlight) :
    callSrc (s.view ps) c ≠ some (y.1, y.2) := (x.isoF.1 i q y hi hq hy).1

theorem StepCtx.foreign_lookup (x : StepCtx M s0 s a ps c k) (i : Nat) (q : PState) (y : Bytes × Bytes)
    (hi : i ≠ a) (hq : s.parties[i]? = some q) (hy : y ∈ q.inFlight) :
    (stepCall s a ps c k).fs.lookup y.1 y.2 = s.fs.lookup y.1 y.2 := by
  rw [x.hL, if_neg (x.dst_not_foreign i q y hi hq hy), if_neg (fun h => x.src_not_foreign i q y hi hq hy h.2)]

end Mdsort.Proofs.Parties
