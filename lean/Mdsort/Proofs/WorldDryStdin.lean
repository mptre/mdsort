import Mdsort.Proofs.WorldFrameWalk
import Mdsort.Proofs.WorldOwnWorld

/-!
# Dry run in stdin mode (`-d -`): every call is one of the spool's own calls (C05)

`DrySpoolCall env cm sa tr c` describes completely what a call `c` of a run with `-d` and `-` can be when the trace so far
is `tr`: the configuration file; the spool, on the paths / handles / descriptors the run itself obtained from `mkdtemp` of
the template below TMPDIR (and `rmdir ""`: after a failed `mkdtemp` the maildir has empty paths and `maildir_close` still
calls `rmdir` on them); `read` and `close` of any descriptor; `open("/dev/null")`, `fork`, `waitpid` if the rules have a
`command` condition (`cm`), `stat` if they have an `isdirectory` or file-time `date` condition (`sa`).  Nothing else: no
`renameat`, `unlink`, `utimensat`, `mkostemp`, `fprintf`, no `opendir` of a configured maildir or a destination; no process
for an ACTION.
The statement is proved for ARBITRARY results of the calls (`runOracle`), hence for every fault plan.
-/

namespace Mdsort.Proofs
open Mdsort Mdsort.Model

def dry_IsRoot (tr : List (Call × Res)) (root : Bytes) : Prop := ∃ t, (Call.mkdtemp t, Res.name root) ∈ tr

/-- `p` is `root/new` for a directory `root` that `mkdtemp` returned in `tr`: the spool proper. -/
def dry_IsNew (tr : List (Call × Res)) (p : Bytes) : Prop :=
  ∃ root, dry_IsRoot tr root ∧ pathjoin PATH_MAX root (subdirName .new) = some p

def dry_IsDir (tr : List (Call × Res)) (d : Handle) : Prop := ∃ p, dry_IsNew tr p ∧ (Call.opendir p, Res.ok d) ∈ tr

def dry_IsFd (tr : List (Call × Res)) (fd : Handle) : Prop :=
  ∃ d n, dry_IsDir tr d ∧ (Call.openExcl d n, Res.ok fd) ∈ tr

def DrySpoolCall (env : PEnv) (cm sa : Bool) (tr : List (Call × Res)) : Call → Prop
  | .openPath p => cm = true ∧ p = ofString "/dev/null"
  | .fork _ _ => cm = true
  | .waitpid => cm = true
  | .stat _ => sa = true
  | .fopen p => p = env.confpath
  | .fclose h => (Call.fopen env.confpath, Res.ok h) ∈ tr
  | .mkdtemp t => pathjoin PATH_MAX env.tmpdir (ofString "mdsort-XXXXXXXX") = some t
  | .mkdir p => dry_IsNew tr p
  | .opendir p => dry_IsNew tr p
  | .openExcl d _ => dry_IsDir tr d
  | .write fd _ => dry_IsFd tr fd
  | .fsync fd => dry_IsFd tr fd
  | .read _ => True
  | .close _ => True
  | .readdir d => dry_IsDir tr d
  | .rewinddir d => dry_IsDir tr d
  | .closedir d => dry_IsDir tr d
  | .openRd d _ => dry_IsDir tr d
  | .unlinkat d n => dry_IsDir tr d ∧ (Call.readdir d, Res.name n) ∈ tr
  | .rmdir p => p = [] ∨ dry_IsRoot tr p ∨ dry_IsNew tr p
  | _ => False

theorem DrySpoolCall.kinds {env : PEnv} {cm sa : Bool} {tr : List (Call × Res)} {c : Call} (h : DrySpoolCall env cm sa tr c) :
    (c.isFork = true → cm = true) ∧ (c.mutating = true →
      (∃ t, c = .mkdtemp t ∧ pathjoin PATH_MAX env.tmpdir (ofString "mdsort-XXXXXXXX") = some t) ∨
      (∃ p, c = .mkdir p ∧ dry_IsNew tr p) ∨
      (∃ d n, c = .openExcl d n ∧ dry_IsDir tr d) ∨
      (∃ fd data, c = .write fd data ∧ dry_IsFd tr fd) ∨
      (∃ d n, c = .unlinkat d n ∧ dry_IsDir tr d ∧ (Call.readdir d, Res.name n) ∈ tr) ∨
      (∃ p, c = .rmdir p ∧ (p = [] ∨ dry_IsRoot tr p ∨ dry_IsNew tr p))) := by
  cases c
  case mkdtemp t => exact ⟨nofun, fun _ => .inl ⟨t, rfl, h⟩⟩
  case mkdir p => exact ⟨nofun, fun _ => .inr (.inl ⟨p, rfl, h⟩)⟩
  case openExcl d n => exact ⟨nofun, fun _ => .inr (.inr (.inl ⟨d, n, rfl, h⟩))⟩
  case write fd data => exact ⟨nofun, fun _ => .inr (.inr (.inr (.inl ⟨fd, data, rfl, h⟩)))⟩
  case unlinkat d n => exact ⟨nofun, fun _ => .inr (.inr (.inr (.inr (.inl ⟨d, n, rfl, h⟩))))⟩
  case rmdir p => exact ⟨nofun, fun _ => .inr (.inr (.inr (.inr (.inr ⟨p, rfl, h⟩))))⟩
  case fork => exact ⟨fun _ => h, nofun⟩
  -- not admitted by `DrySpoolCall`
  case dupfd | fdopen | fprintf | fflush | renameat | unlink | fstatat | utimensat | lseek | mkostemp => exact h.elim
  -- admitted, neither a `fork` nor mutating
  all_goals exact ⟨nofun, nofun⟩

theorem dry_IsRoot.mono {tr : List (Call × Res)} {root : Bytes} (h : dry_IsRoot tr root) (L : List (Call × Res)) : dry_IsRoot (tr ++ L) root := by
  obtain ⟨t, ht⟩ := h
  exact ⟨t, List.mem_append_left _ ht⟩

theorem dry_IsNew.mono {tr : List (Call × Res)} {p : Bytes} (h : dry_IsNew tr p) (L : List (Call × Res)) : dry_IsNew (tr ++ L) p := by
  obtain ⟨root, hr, hp⟩ := h
  exact ⟨root, hr.mono L, hp⟩

theorem dry_IsDir.mono {tr : List (Call × Res)} {d : Handle} (h : dry_IsDir tr d) (L : List (Call × Res)) : dry_IsDir (tr ++ L) d := by
  obtain ⟨p, hp, hm⟩ := h
  exact ⟨p, hp.mono L, List.mem_append_left _ hm⟩

theorem dry_IsFd.mono {tr : List (Call × Res)} {fd : Handle} (h : dry_IsFd tr fd) (L : List (Call × Res)) : dry_IsFd (tr ++ L) fd := by
  obtain ⟨d, n, hd, hm⟩ := h
  exact ⟨d, n, hd.mono L, List.mem_append_left _ hm⟩

end Mdsort.Proofs

namespace Mdsort.Proofs.Own
open Mdsort Mdsort.Model Mdsort.Proofs
open Mdsort.Proofs.World (bind_eq pure_eq ret_bind call_bind' call_bind)

variable {R : Call → Res → Prop} {cm sa : Bool}

/-- What is known about the maildir of a stdin session. -/
structure DryMd (tr : Trace) (md : Maildir) : Prop where
  stdin : md.stdin = true
  dir : ∀ d, md.dirH = some d → dry_IsDir tr d
  path : md.path = [] ∨ dry_IsNew tr md.path
  root : md.root = [] ∨ dry_IsRoot tr md.root

theorem DryMd.mono {tr : Trace} {md : Maildir} (h : DryMd tr md) (L : Trace) : DryMd (tr ++ L) md :=
  ⟨h.stdin, fun d hd => (h.dir d hd).mono L, h.path.imp id (fun x => x.mono L), h.root.imp id (fun x => x.mono L)⟩

theorem dry_genname (env : PEnv) (md : Maildir) (flags : Option Bytes) (fuel count : Nat) (tr : Trace)
    (hmd : ∀ d, md.dirH = some d → dry_IsDir tr d) :
    wp R (DrySpoolCall env cm sa) (genname env md flags fuel count)
      (fun res tr' => ∀ h name, res = some (h, name) → dry_IsFd tr' h) tr := by
  induction fuel generalizing count tr with
  | zero => unfold genname; intro _ _ h; cases h
  | succ fuel ih =>
    rw [World.genname_succ]
    split
    · intro _ _ h; cases h
    split
    · intro _ _ h; cases h
    rename_i d hd
    refine wp_call (hmd d hd) fun r _ => ?_
    cases r with
    | ok h =>
      intro h' name e
      cases e
      exact ⟨d, _, (hmd d hd).mono _, List.mem_concat_self⟩
    | err e =>
      dsimp only
      split
      · exact ih _ _ (fun d' hd' => (hmd d' hd').mono _)
      · intro _ _ h; cases h
    | name n => intro _ _ h; cases h
    | eof => intro _ _ h; cases h

theorem dry_wr (env : PEnv) (fd : Handle) (fuel : Nat) (chunk : Bytes) (tr : Trace) (h : dry_IsFd tr fd) :
    wp R (DrySpoolCall env cm sa) (copyStdin.wr fd fuel chunk) (fun _ _ => True) tr := by
  induction fuel generalizing chunk tr with
  | zero => unfold copyStdin.wr; exact True.intro
  | succ fuel ih =>
    unfold copyStdin.wr
    simp only [bind_eq, pure_eq, call_bind]
    split
    · exact True.intro
    · refine wp_call_okOr h (fun nw _ => ?_) fun _ _ _ => True.intro
      split
      · exact True.intro
      · exact ih _ _ (h.mono _)

theorem dry_copyStdin (env : PEnv) (fd : Handle) (fuel : Nat) (input : Bytes) (tr : Trace) (h : dry_IsFd tr fd) :
    wp R (DrySpoolCall env cm sa) (copyStdin fd fuel input) (fun _ _ => True) tr := by
  induction fuel generalizing input tr with
  | zero => unfold copyStdin; exact True.intro
  | succ fuel ih =>
    unfold copyStdin
    simp only [bind_eq, pure_eq, call_bind]
    refine wp_call_okOr True.intro (fun nr _ => ?_) fun _ _ _ => True.intro
    split
    · exact True.intro
    · refine wp_bind_ext (dry_wr env fd _ _ _ (h.mono _)) ?_
      intro e L _
      split
      · exact True.intro
      · exact ih _ _ ((h.mono _).mono _)

theorem dry_md0 (tr : Trace) :
    DryMd tr { root := [], path := [], dirH := none, subdir := .new, walk := true, stdin := true } :=
  ⟨rfl, (fun _ h => by cases h), .inl rfl, .inl rfl⟩

theorem dry_maildirStdin (env : PEnv) (input : Bytes) (tr : Trace) :
    wp R (DrySpoolCall env cm sa) (maildirStdin env input) (fun r tr' => DryMd tr' r.1) tr := by
  unfold maildirStdin gennameStart maildirOpendir
  simp only [bind_eq, pure_eq, call_bind, call_bind']
  generalize gennameAttempts = fuel
  split
  · exact dry_md0 _
  rename_i tmpl htmpl
  refine wp_call htmpl fun r _ => ?_
  cases r with
  | name root =>
    dsimp only
    have hroot : dry_IsRoot (tr ++ [(Call.mkdtemp tmpl, Res.name root)]) root := ⟨tmpl, List.mem_concat_self⟩
    generalize tr ++ [(Call.mkdtemp tmpl, Res.name root)] = tr1 at hroot ⊢
    split
    · exact ⟨rfl, (fun _ h => by cases h), .inl rfl, .inr hroot⟩
    rename_i p hp
    have hnew : dry_IsNew tr1 p := ⟨root, hroot, hp⟩
    refine wp_call hnew fun r2 _ => ?_
    have hmd1 : ∀ tr' (dh : Option Handle), (∀ d, dh = some d → dry_IsDir (tr1 ++ tr') d) →
        DryMd (tr1 ++ tr') { root := root, path := p, dirH := dh, subdir := .new, walk := true, stdin := true } :=
      fun tr' dh hdh => ⟨rfl, hdh, .inr (hnew.mono _), .inr (hroot.mono _)⟩
    split
    · exact hmd1 _ none (fun _ h => by cases h)
    · refine wp_call (hnew.mono _) fun r3 _ => ?_
      cases r3 with
      | ok h =>
        simp only [ret_bind, Bool.false_eq_true, if_false]
        have hdir : dry_IsDir (tr1 ++ [(Call.mkdir p, r2)] ++ [(Call.opendir p, Res.ok h)]) h :=
          ⟨p, (hnew.mono _).mono _, List.mem_concat_self⟩
        refine wp_bind_ext (dry_genname env _ none fuel _ _ ?_) ?_
        · intro d hd
          cases hd
          exact hdir
        intro g L hg
        have hmd2 := hmd1 ([(Call.mkdir p, r2)] ++ [(Call.opendir p, Res.ok h)] ++ L) (some h)
          (fun d hd => by cases hd; simpa [List.append_assoc] using hdir.mono L)
        cases g with
        | none => exact wp_ret (by simpa [List.append_assoc] using hmd2)
        | some x =>
          obtain ⟨fd, name⟩ := x
          dsimp only
          have hfd := hg fd name rfl
          refine wp_bind_ext (dry_copyStdin env fd _ input _ hfd) ?_
          intro e1 L2 _
          have fin : ∀ (tr' : Trace) (e2 : Bool),
              wp R (DrySpoolCall env cm sa) (Prog.call (Call.close fd) fun r3 =>
                Prog.ret (({ root := root, path := p, dirH := some h, subdir := .new, walk := true, stdin := true } : Maildir),
                  e2 || !isOk r3, some name)) (fun r tr' => DryMd tr' r.1)
                (tr1 ++ [(Call.mkdir p, r2)] ++ [(Call.opendir p, Res.ok h)] ++ L ++ L2 ++ tr') := by
            intro tr' e2
            refine wp_call True.intro fun r3 _ => ?_
            have := ((hmd2.mono L2).mono tr').mono [(Call.close fd, r3)]
            exact wp_ret (by simpa [List.append_assoc] using this)
          split
          · simpa using fin [] true
          · refine wp_call (hfd.mono _) fun r4 _ => ?_
            exact fin [(Call.fsync fd, r4)] _
      | err e =>
        simp only [ret_bind, if_true]
        exact wp_ret (by simpa [List.append_assoc] using hmd1 [(Call.mkdir p, r2), (Call.opendir p, Res.err e)] none (fun _ h => by cases h))
      | name n =>
        simp only [ret_bind, if_true]
        exact wp_ret (by simpa [List.append_assoc] using hmd1 [(Call.mkdir p, r2), (Call.opendir p, Res.name n)] none (fun _ h => by cases h))
      | eof =>
        simp only [ret_bind, if_true]
        exact wp_ret (by simpa [List.append_assoc] using hmd1 [(Call.mkdir p, r2), (Call.opendir p, Res.eof)] none (fun _ h => by cases h))
  | ok v => exact dry_md0 _
  | err e => exact dry_md0 _
  | eof => exact dry_md0 _

theorem dry_processMessage (env : PEnv) (orc : EvalOracles) (expr : Expr) (md : Maildir) (name : Bytes) (st : MainSt)
    (hd : env.dryrun = true) (hcm : hasCommand expr = true → cm = true)
    (hsa : (hasIsDir expr = true ∨ hasFileDate expr = true) → sa = true) (tr : Trace) (hmd : DryMd tr md) :
    wp R (DrySpoolCall env cm sa) (processMessage env orc expr md name st) (fun r _ => r.2 = md) tr := by
  cases hdir : md.dirH with
  | none =>
    rw [processMessage_noDir env orc expr md name st hdir]
    exact rfl
  | some d =>
    refine wp_mono (wp_of_calls (J := fun tr => dry_IsDir tr d) ?_ (fun tr c r _ h => dry_IsDir.mono h [(c, r)])
      (calls_processMessage_dry env orc expr md name st hd) (all_processMessage_md env orc expr md name st)
      (hmd.dir d hdir)) fun _ _ h => h.1
    rintro tr' c ⟨d', hd', hc'⟩ hj
    cases hdir.symm.trans hd'
    rcases hc' with (⟨nm, rfl⟩ | ⟨fd, rfl⟩ | ⟨fd, rfl⟩) | ⟨h1, rfl | hfk | rfl | ⟨h, rfl⟩⟩ | ⟨h1, p, rfl⟩
    · exact hj
    · exact True.intro
    · exact True.intro
    · exact ⟨hcm h1, rfl⟩
    · obtain ⟨_, _, rfl⟩ := Call.isFork_iff.1 hfk
      exact hcm h1
    · exact hcm h1
    · exact True.intro
    · exact hsa h1

theorem dry_walk (env : PEnv) (orc : EvalOracles) (expr : Expr) (hd : env.dryrun = true)
    (hcm : hasCommand expr = true → cm = true) (hsa : (hasIsDir expr = true ∨ hasFileDate expr = true) → sa = true)
    (fuel : Nat) (md : Maildir)
    (st : MainSt) (tr : Trace) (hmd : DryMd tr md) :
    wp R (DrySpoolCall env cm sa) (walk env orc expr fuel md st) (fun r tr' => DryMd tr' r.2) tr := by
  refine wp_walk env orc expr (fun _ _ d hdir h => ⟨h.dir d hdir, fun _ => h.mono _⟩) ?_
    (fun _ _ _ h hs => absurd h.stdin (by simp [hs])) fuel md st tr hmd
  intro tr md d n st h
  refine wp_mono (wp_ext (dry_processMessage env orc expr md n st hd hcm hsa _ h)) ?_
  rintro x _ ⟨hx, L, rfl⟩
  exact hx ▸ h.mono L

theorem dry_closeLoop (env : PEnv) (d : Handle) (fuel : Nat) (tr : Trace) (hdir : dry_IsDir tr d) :
    wp R (DrySpoolCall env cm sa) (closeStdin.loop d fuel) (fun _ _ => True) tr := by
  induction fuel generalizing tr with
  | zero => unfold closeStdin.loop; exact True.intro
  | succ fuel ih =>
    unfold closeStdin.loop
    simp only [bind_eq, pure_eq, call_bind]
    refine wp_call hdir fun r _ => ?_
    cases r with
    | name n =>
      dsimp only
      split
      · exact ih _ (hdir.mono _)
      · refine wp_call ⟨hdir.mono _, List.mem_concat_self⟩ fun r2 _ => ?_
        exact ih _ ((hdir.mono _).mono _)
    | ok v => exact True.intro
    | err e => exact True.intro
    | eof => exact True.intro

theorem dry_closeStdin (env : PEnv) (fuel : Nat) (md : Maildir) (tr : Trace) (hmd : DryMd tr md) :
    wp R (DrySpoolCall env cm sa) (closeStdin fuel md) (fun _ _ => True) tr := by
  have hpath : ∀ L, DrySpoolCall env cm sa (tr ++ L) (.rmdir md.path) :=
    fun L => hmd.path.imp id (fun h => .inr (dry_IsNew.mono h L))
  have hroot : ∀ L, DrySpoolCall env cm sa (tr ++ L) (.rmdir md.root) :=
    fun L => hmd.root.imp id (fun h => .inl (dry_IsRoot.mono h L))
  cases hdir : md.dirH with
  | none =>
    unfold closeStdin
    simp only [bind_eq, pure_eq, call_bind, hdir, ret_bind]
    refine wp_call (by simpa using hpath []) fun r1 _ => ?_
    refine wp_call (hroot _) fun r2 _ => ?_
    exact True.intro
  | some d =>
    have hd := hmd.dir d hdir
    unfold closeStdin
    simp only [bind_eq, pure_eq, call_bind, call_bind', hdir]
    refine wp_call hd fun r0 _ => ?_
    refine wp_bind_ext (dry_closeLoop env d fuel _ (hd.mono _)) ?_
    intro _ L _
    refine wp_call (by simpa [List.append_assoc] using hpath ([(Call.rewinddir d, r0)] ++ L)) fun r1 _ => ?_
    refine wp_call (by simpa [List.append_assoc] using hroot ([(Call.rewinddir d, r0)] ++ L ++ [(Call.rmdir md.path, r1)]))
      fun r2 _ => ?_
    refine wp_call (((hd.mono _).mono _).mono _ |>.mono _) fun r3 _ => ?_
    exact True.intro

theorem dry_paths (env : PEnv) (orc : EvalOracles) (input : Bytes) (b : ConfBlock) (hd : env.dryrun = true)
    (hm : env.stdinMode = true) (hcm : hasCommand b.expr = true → cm = true)
    (hsa : (hasIsDir b.expr = true ∨ hasFileDate b.expr = true) → sa = true) (ps : List Bytes) (st : MainSt) (tr : Trace) :
    wp R (DrySpoolCall env cm sa) (mainP.blocks.paths env orc input b ps st) (fun _ _ => True) tr :=
  wp_paths (J := fun _ => True) (M := DryMd) env orc input b
    (fun _ tr _ => dry_maildirStdin env input tr) (fun _ tr md h => dry_closeStdin env _ md tr h)
    (fun h => absurd hm (by simp [h])) (fun tr fuel md st h => dry_walk env orc b.expr hd hcm hsa fuel md st tr h)
    (fun h => absurd hm (by simp [h])) ps st tr True.intro

theorem dry_blocks (env : PEnv) (orc : EvalOracles) (input : Bytes) (hd : env.dryrun = true) (hm : env.stdinMode = true)
    (bs : List ConfBlock) (hcm : ∀ b ∈ bs, hasCommand b.expr = true → cm = true)
    (hsa : ∀ b ∈ bs, (hasIsDir b.expr = true ∨ hasFileDate b.expr = true) → sa = true) (st : MainSt) (tr : Trace) :
    wp R (DrySpoolCall env cm sa) (mainP.blocks env orc input bs st) (fun _ _ => True) tr :=
  wp_blocks (J := fun _ => True) env orc input bs
    (fun b hb st tr _ => dry_paths env orc input b hd hm (hcm b hb) (hsa b hb) b.paths st tr) st tr True.intro

theorem dry_mainP (env : PEnv) (orc : EvalOracles) (ok : Bool) (conf : List ConfBlock) (files : Files) (input : Bytes)
    (hd : env.dryrun = true) (hm : env.stdinMode = true) :
    wp R (DrySpoolCall env (confHasCommand conf) (confHasStat conf)) (mainP env orc ok conf files input) (fun _ _ => True) [] := by
  refine wp_mainP (J := fun _ => True) env orc ok conf files input (fun _ _ h => h) [] rfl (fun _ _ => True.intro)
    (fun h => List.mem_concat_self (xs := [])) (fun _ _ => True.intro) fun st tr _ => ?_
  exact dry_blocks env orc input hd hm conf
    (fun b hb h => by simp only [confHasCommand, List.any_eq_true]; exact ⟨b, hb, h⟩)
    (fun b hb h => by simp only [confHasStat, List.any_eq_true, Bool.or_eq_true]; exact ⟨b, hb, h⟩) st tr

end Mdsort.Proofs.Own

namespace Mdsort.Proofs
open Mdsort Mdsort.Model

/-- `-d -` against arbitrary call results: every call is one of the spool's own calls. -/
theorem dry_stdin_calls (env : PEnv) (orc : EvalOracles) (ok : Bool) (conf : List ConfBlock) (files : Files) (input : Bytes)
    (hd : env.dryrun = true) (hm : env.stdinMode = true) (orcl : Nat → Call → Res) :
    ∀ i c r, (runOracle orcl (mainP env orc ok conf files input) 0 []).2[i]? = some (c, r) →
      DrySpoolCall env (confHasCommand conf) (confHasStat conf)
        ((runOracle orcl (mainP env orc ok conf files input) 0 []).2.take i) c := by
  intro i c r hget
  exact (Own.wp_sound (R := fun _ _ => True) orcl (fun _ _ => True.intro)
    (Own.dry_mainP env orc ok conf files input hd hm) 0).2 i c r (Nat.zero_le _) hget

/-- The same for a run on the abstract file system under any fault plan. -/
theorem dry_stdin_calls_plan (env : PEnv) (orc : EvalOracles) (ok : Bool) (conf : List ConfBlock) (files : Files) (input : Bytes)
    (w : World) (plan : Plan) (hd : env.dryrun = true) (hm : env.stdinMode = true) :
    ∀ i c r, ((runPlan plan (mainP env orc ok conf files input) w 0 []).2.1.trace.drop w.trace.length)[i]? = some (c, r) →
      DrySpoolCall env (confHasCommand conf) (confHasStat conf)
        (((runPlan plan (mainP env orc ok conf files input) w 0 []).2.1.trace.drop w.trace.length).take i) c :=
  Own.wp_plan_calls (Own.dry_mainP env orc ok conf files input hd hm) plan w

end Mdsort.Proofs
