import Mdsort.Proofs.WorldExitInv
import Mdsort.Proofs.WorldDirsSame

/-!
# The fault-free dry run, message by message; what the walk of `WorldExitWalk`/`WorldExitMain` carries for it

(`dryT_`: the dry run is total - under `dryT_Hyp` it ends without the error flag.)

Without faults (`wpS` with the budget spent: every call returns `predict`) `message_parse` of a bound, readable file
succeeds whenever path, name and flag suffix are acceptable (`dryT_parse`), so a dry run leaves the error flag of a
message without an error verdict as it was (`dryT_processMessage`).  `dryT_Hyp C` is what the dry run is assumed to
find; `dryT_Quiet b st` is what the fault-free dry run maintains beside `exit0_Inv`.  The loops are walked in
`WorldExitWalk` and `WorldExitMain`, for an arbitrary proposition `NF` with `NF → dryT_Hyp C wr`: `NF := False` is the run
under at most one fault, `NF := True` the fault-free dry run.
-/

namespace Mdsort.Proofs
open Mdsort Mdsort.Model
open Mdsort.Proofs.World (wpS wpS_mono wpS_bind_mono wpS_and wpS_call_spent bind_eq pure_eq call_bind)

theorem dryT_readAll (fd : Handle) (fid : Nat) (f : File) :
    ∀ (fuel : Nat) (w : World) (off : Nat) (wr : Bool), w.obj fd = .file fid off wr → w.file fid = some f →
      off ≤ f.data.length → (off = f.data.length → 1 ≤ fuel) → (off < f.data.length → 2 ≤ fuel) →
      wpS (readAll fd fuel) (fun _ failed _ => failed = false) false w := by
  intro fuel
  induction fuel with
  | zero =>
    intro w off wr _ _ hle h1 h2
    rcases Nat.lt_or_eq_of_le hle with h | h
    · have := h2 h; omega
    · have := h1 h; omega
  | succ fuel ih =>
    intro w off wr ho hf hle h1 h2
    unfold readAll
    simp only [bind_eq, pure_eq, call_bind]
    refine wpS_call_spent ?_
    rw [World.predict_read ho hf]
    dsimp only
    by_cases hz : f.data.length - off = 0
    · simp only [hz, beq_self_eq_true, if_true]
      rfl
    · have hz' : (f.data.length - off == 0) = false := by simpa using hz
      simp only [hz', Bool.false_eq_true, if_false]
      have hlt : fd < w.handles.length := World.lt_of_obj_ne_closed w fd (by rw [ho]; intro h; cases h)
      have hc : World.core w (.read fd) (.ok (f.data.length - off)) = w.setObj fd (.file fid f.data.length wr) := by
        have h3 : off + (f.data.length - off) = f.data.length := by omega
        rw [World.core_read_ok ho hf _ (Nat.le_of_eq h3) (.inl (by omega)), h3]
      refine ih _ f.data.length wr ?_ ?_ (Nat.le_refl _) (fun _ => ?_) (fun h => absurd h (Nat.lt_irrefl _))
      · rw [World.stepWorld_obj, hc, World.obj_setObj]; simp [hlt]
      · rw [World.stepWorld_file, hc]; exact hf
      · have : off < f.data.length := by omega
        have := h2 this
        omega

/-- `content` need not be what the file holds: without a fault the model's `read` returns all remaining bytes at once
(`predict_read`), so two iterations of `readAll` suffice whatever its fuel `content.length + 2` is. -/
theorem dryT_parse (d : Handle) (dir name content : Bytes) {w : World} {fid : Nat} {f : File}
    (hp : w.dirPath d = some dir) (hl : w.lookup dir name = some fid) (hf : w.file fid = some f)
    (hok : ∃ p n mf, pathjoin PATH_MAX dir name = some p ∧ strlcpyFits NAME_MAX1 name = some n ∧ flagsParse n = some mf) :
    wpS (messageParseP d dir name content) (fun _ pm _ => pm.isSome = true) false w := by
  obtain ⟨p, n, mf, h1, h2, h3⟩ := hok
  unfold messageParseP
  simp only [bind_eq, pure_eq, call_bind]
  refine wpS_call_spent ?_
  rw [World.predict_openRd hp hl]
  dsimp only
  have hc := World.core_openRd_ok hp hl w.handles.length
  have ho1 : (stepWorld w (.openRd d name) (.ok w.handles.length)).obj w.handles.length = .file fid 0 false := by
    rw [World.stepWorld_obj, hc, World.obj_newHandle]; simp
  have hf1 : (stepWorld w (.openRd d name) (.ok w.handles.length)).file fid = some f := by
    rw [World.stepWorld_file, hc]; exact hf
  refine wpS_bind_mono (dryT_readAll w.handles.length fid f (content.length + 2) _ 0 false ho1 hf1 (Nat.zero_le _)
    (fun _ => by omega) (fun _ => by omega)) ?_
  intro _ failed w2 hfailed
  subst hfailed
  simp only [Bool.false_eq_true, if_false, h1, h2, h3]
  rfl

theorem dryT_parsable (env : PEnv) (orc : EvalOracles) (expr : Expr) (dir name content : Bytes)
    (hv : (verdict env orc expr dir name content).isErr = false) :
    ∃ p n mf, pathjoin PATH_MAX dir name = some p ∧ strlcpyFits NAME_MAX1 name = some n ∧ flagsParse n = some mf := by
  unfold verdict fileMs at hv
  cases h1 : pathjoin PATH_MAX dir name with
  | none => simp [h1, Verdict.isErr] at hv
  | some p =>
    cases h2 : strlcpyFits NAME_MAX1 name with
    | none => simp [h1, h2, Verdict.isErr] at hv
    | some n =>
      cases h3 : flagsParse n with
      | none => simp [h1, h2, h3, Verdict.isErr] at hv
      | some mf => exact ⟨p, n, mf, rfl, rfl, h3⟩

theorem dryT_processMessage (env : PEnv) (orc : EvalOracles) (expr : Expr) (hfree : asksFree expr = true) (hdry : env.dryrun = true)
    (md : Maildir) (n : Bytes)
    (st : MainSt) {w : World} {d : Handle} {c : Bytes} {fid : Nat} {f : File}
    (hd : md.dirH = some d) (hp : w.dirPath d = some md.path) (hfc : st.files.get md.path n = some c)
    (hl : w.lookup md.path n = some fid) (hf : w.file fid = some f)
    (hv : (verdict env orc expr md.path n c).isErr = false) :
    wpS (processMessage env orc expr md n st) (fun _ r _ => r.1.error = st.error) false w := by
  rw [processMessage_eq env orc expr md n st d c hd hfc]
  refine wpS_bind_mono (wpS_and (dryT_parse d md.path n c hp hl hf (dryT_parsable env orc expr md.path n c hv))
    (exit0_wpS_all (all_messageParseP_as d md.path n c) false w)) ?_
  rintro b1 pm w1 ⟨hsome, hpa⟩
  cases pm with
  | none => cases hsome
  | some ms =>
    have hmv := msVerdict_of_parsed env orc expr md.path n c ms hpa
    rw [afterParse_asksFree env orc expr hfree, hmv]
    have hfreeP : ∀ (ms' : MsgSt) (r : MainSt × Maildir), r.1.error = st.error →
        wpS ((freeP ms').bind fun _ => Prog.ret r) (fun _ r _ => r.1.error = st.error) b1 w1 := by
      intro ms' r hr
      exact exit0_wpS_all (P := fun x : MainSt × Maildir => x.1.error = st.error)
        (World.All.bind_of_forall (P := fun x : MainSt × Maildir => x.1.error = st.error) (freeP ms')
          (f := fun _ => Prog.ret r) (fun _ => hr)) b1 w1
    cases hvd : verdict env orc expr md.path n c with
    | unparsable => rw [hvd] at hv; cases hv
    | error => rw [hvd] at hv; cases hv
    | interpFail => rw [hvd] at hv; cases hv
    | «nomatch» => simp only [afterVerdict]; exact hfreeP ms (st, md) rfl
    | act ml msgs fl =>
      simp only [afterVerdict, hdry, if_true]
      exact hfreeP _ ({ st with log := st.log ++ inspectLines env ml ms.path }, md) rfl

/-- What the dry run is assumed to find: the configured directories exist in `wr` (the world the passes compare every later
world with, `DirsSame wr`: the one the run starts in), and no registered message of a configured directory has an error
verdict. -/
structure dryT_Hyp (C : exit0_Ctx) (wr : World) : Prop where
  dry : C.env.dryrun = true
  dirs : ∀ D ∈ C.dirs.map (·.1), (wr.dir D).isSome = true
  verd : ∀ D e n c, (D, e) ∈ C.dirs → C.files0.get D n = some c → (verdict C.env C.orc e D n c).isErr = false

theorem dryT_predict_readdir {w : World} {d : Handle} {p : Bytes} {snap : Option (List Bytes)} {pos : Nat}
    (ho : w.obj d = .dir p snap pos) (e : String) : World.faultResult none w (.readdir d) ≠ .err e :=
  World.predict_readdir_ne_err ho e

/-- Budget spent, error flag clear. -/
def dryT_Quiet (b : Bool) (st : MainSt) : Prop := b = false ∧ st.error = false

theorem dryT_Quiet.call {NF : Prop} {b b' : Bool} {st : MainSt} {ft : Option Fault}
    (hq : NF → dryT_Quiet b st) (hb : b = false → ft = none ∧ b' = false) (nf : NF) : ft = none ∧ dryT_Quiet b' st :=
  ⟨(hb (hq nf).1).1, (hb (hq nf).1).2, (hq nf).2⟩

theorem dryT_Quiet.not_of_err {NF : Prop} {b : Bool} {st : MainSt} (hq : NF → dryT_Quiet b st) (he : st.error = true) : ¬ NF :=
  fun nf => by
    have := (hq nf).2
    rw [he] at this
    cases this

/-- A program that ends with the error flag meets every specification of the passes: they say something only when the
flag is clear, or in the fault-free dry run (which is excluded here). -/
theorem exit0_wpS_stuck {α} {err : α → Bool} {p : Prog α} (h : World.All (fun r => err r = true) p) {NF : Prop} (hnf : ¬ NF)
    {A B : Bool → α → World → Prop} (b : Bool) (w : World) :
    wpS p (fun b' r w' => (err r = false → A b' r w') ∧ (NF → B b' r w')) b w :=
  wpS_mono (exit0_wpS_all h b w) fun _ r _ h => ⟨fun he => (by rw [h] at he; cases he), fun nf => absurd nf hnf⟩

/-- `hfree`: `verdict` (in `dryT_Hyp.verd`) is the verdict of the pure evaluator. -/
theorem dryT_msg {C : exit0_Ctx} {wr : World} (hH : dryT_Hyp C wr) {e : Expr} (hfree : asksFree e = true) {md : Maildir} {n : Bytes} (st : MainSt) {w : World} {d : Handle}
    {c : Bytes} {fid : Nat} {f : File} {b : Bool} (hb : b = false)
    (hmem : (md.path, e) ∈ C.dirs) (hc : C.files0.get md.path n = some c) (hd : md.dirH = some d)
    (hp : w.dirPath d = some md.path) (hfc : st.files.get md.path n = some c) (hl : w.lookup md.path n = some fid)
    (hf : w.file fid = some f) :
    wpS (processMessage C.env C.orc e md n st) (fun _ r _ => r.1.error = st.error) b w := by
  subst hb
  exact dryT_processMessage C.env C.orc e hfree hH.dry md n st hd hp hfc hl hf (hH.verd md.path e n c hmem hc)

theorem dryT_opendir {C : exit0_Ctx} {NF : Prop} {wr w : World} (hH : NF → dryT_Hyp C wr) (hs : DirsSame wr w) {p : Bytes} {e : Expr}
    (hmem : (p, e) ∈ C.dirs) {ft : Option Fault} (hft : NF → ft = none) {er : String}
    (he : World.faultResult ft w (.opendir p) = .err er) : ¬ NF := by
  intro nf
  have hdp : (w.dir p).isSome = true := by
    rw [hs p]
    exact (hH nf).dirs p (List.mem_map.2 ⟨(p, e), hmem, rfl⟩)
  rw [hft nf, World.faultResult_none, World.predict_opendir hdp] at he
  cases he

def dryT_Fits (p : Bytes) : Prop :=
  (strlcpyFits PATH_MAX p).isSome = true ∧ (pathjoin PATH_MAX p (subdirName .new)).isSome = true

theorem dryT_cur_of_new (p : Bytes) (h : (pathjoin PATH_MAX p (subdirName .new)).isSome = true) :
    (pathjoin PATH_MAX p (subdirName .cur)).isSome = true := by
  unfold pathjoin at h ⊢
  simp only [subdirName, List.length_append, List.length_cons, List.length_nil] at h ⊢
  split at h
  · cases h
  · rename_i hge
    simp only [hge, if_false]
    rfl

end Mdsort.Proofs
