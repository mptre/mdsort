import Mdsort.Model.L0.Decode
import Mdsort.Proofs.L0Basic
import Mdsort.Proofs.Safety

/-!
# L0 decoders: no fault, and refinement of the list model

For every source with a NUL at or after the start index each decoder returns `.ok`, and what it returns is what
the L1 model (`Model/Decode.lean`) computes on the view of the source.
-/

namespace Mdsort.L0
open Mdsort Mdsort.L0.Buf

theorem base64Alphabet_no_nul : ∀ x ∈ Gen.base64Alphabet, x ≠ 0 := by decide

theorem b64Idx_spec (c : UInt8) (hc : c ≠ 0) : b64Idx c = .ok (Model.b64idx c) := by
  unfold b64Idx base64Lit
  rw [strchr_idx (ofBytes_terminated _).hasNul0 c hc, view_ofBytes_of_no_nul base64Alphabet_no_nul]
  unfold Model.b64idx
  cases Gen.base64Alphabet.idxOf? c with
  | none => rfl
  | some k => simp

/-- `t[i]` for the statement of invariants (not an access of the C code). -/
def peek (t : Buf) (i : Nat) : UInt8 := t.bytes.getD i 0

theorem peek_of_get? {t : Buf} {i : Nat} {c : UInt8} (h : t.get? i = .ok c) : peek t i = c := by
  obtain ⟨hi, hc⟩ := get?_eq_ok_iff.mp h
  simp [peek, Array.getD, hi, hc]

theorem get?_peek {t : Buf} {i : Nat} (hi : i < t.size) : t.get? i = .ok (peek t i) := by
  have h := get?_of_lt hi
  rw [h, peek_of_get? h]

/-- The L1 state an L0 state stands for.  The list model's pending byte `pend` is `target[tarindex]`, the byte being
assembled with `|=`; in state 0 nothing is pending, and once `tarindex` has reached `targsize` the C code writes no byte
there and insists that what it would have written is 0 (`nextbyte != 0` is an error in `b64Step`), hence the 0. -/
def absB64 (n : Nat) (st : B64) : Model.B64St :=
  { state := st.state, out := st.target.slice 0 st.tarindex,
    pend := if st.state = 0 then 0 else if st.tarindex < n then peek st.target st.tarindex else 0 }

theorem orAt_push {t : Buf} {k : Nat} (v : UInt8) (hk : k < t.size) :
    ∃ t', orAt t k v = .ok t' ∧ t'.size = t.size ∧ t'.slice 0 (k + 1) = t.slice 0 k ++ [peek t k ||| v] := by
  unfold orAt
  rw [get?_peek hk]
  exact set_push _ hk

/-- States 1 and 2 of `b64_pton`: complete `target[k]` with the bits `top`, then start `target[k + 1]` with `nb` if there is
room for it; without room `nb` must be zero. -/
theorem b64Step_or_next (n s' : Nat) (hs' : s' ≠ 0) (t : Buf) (k : Nat) (top nb : UInt8) (hkn : k < n) (hn : n ≤ t.size) :
    ∃ r, (match orAt t k top with
          | .error e => (.error e : M (Option B64))
          | .ok t1 =>
            if k + 1 < n then
              match t1.set (k + 1) nb with
              | .error e => .error e
              | .ok t' => .ok (some { state := s', tarindex := k + 1, target := t' })
            else if nb != 0 then .ok none
            else .ok (some { state := s', tarindex := k + 1, target := t1 })) = .ok r ∧
      r.map (absB64 n) =
        (if k + 1 < n then some { state := s', out := t.slice 0 k ++ [peek t k ||| top], pend := nb }
         else if nb != 0 then none
         else some { state := s', out := t.slice 0 k ++ [peek t k ||| top], pend := nb }) ∧
      ∀ x, r = some x → x.tarindex ≤ n ∧ x.target.size = t.size := by
  obtain ⟨t', ho, hsz, hout⟩ := orAt_push (t := t) top (show k < t.size by omega)
  rw [ho]
  by_cases hk1 : k + 1 < n
  · simp only [hk1, if_true]
    obtain ⟨t2, hs2⟩ : ∃ t2, t'.set (k + 1) nb = .ok t2 := ⟨_, set_ok nb (show k + 1 < t'.size by omega)⟩
    rw [hs2]
    refine ⟨_, rfl, ?_, ?_⟩
    · simp only [Option.map_some, absB64, Option.some.injEq, Model.B64St.mk.injEq, true_and]
      refine ⟨by rw [slice_of_set hs2 (Nat.le_refl _), hout], ?_⟩
      simp [hs', hk1, peek_of_get? (get?_set_self hs2)]
    · intro x hx; cases hx; exact ⟨Nat.le_of_lt hk1, by rw [size_of_set hs2, hsz]⟩
  · simp only [hk1, if_false]
    by_cases hnb : (nb != 0) = true
    · simp only [hnb, if_true]
      exact ⟨none, rfl, rfl, by simp⟩
    · simp only [hnb]
      refine ⟨_, rfl, ?_, ?_⟩
      · simp only [bne_iff_ne, ne_eq, Decidable.not_not] at hnb
        simp [absB64, hout, hk1, hs', hnb]
      · intro x hx; cases hx; exact ⟨by simp; omega, hsz⟩

theorem b64Step_refines (n : Nat) (st : B64) (v : UInt8) (hinv : st.tarindex ≤ n) (hn : n ≤ st.target.size) :
    ∃ r, b64Step n st v = .ok r ∧ r.map (absB64 n) = Model.b64step n (absB64 n st) v ∧
      ∀ s', r = some s' → s'.tarindex ≤ n ∧ s'.target.size = st.target.size := by
  obtain ⟨state, k, t⟩ := st
  simp only at hinv hn
  have hlen : (t.slice 0 k).length = k := by rw [length_slice (by omega)]; omega
  unfold b64Step Model.b64step
  simp only [absB64, hlen]
  by_cases hk : k ≥ n
  · refine ⟨none, ?_, ?_, by simp⟩
    · split <;> simp [hk]
    · split <;> simp [hk]
  · have hkn : k < n := by omega
    have hks : k < t.size := by omega
    match state with
    | 0 =>
      simp only [hk, if_false]
      have hs := set_ok (b := t) (v <<< 2) hks
      rw [hs]
      refine ⟨_, rfl, ?_, ?_⟩
      · simp only [Option.map_some, absB64, Option.some.injEq, Model.B64St.mk.injEq, true_and]
        refine ⟨slice_of_set hs (Nat.le_refl _), ?_⟩
        simp [hkn, peek_of_get? (get?_set_self hs)]
      · intro s' hs'; cases hs'; exact ⟨hinv, size_of_set hs⟩
    | 1 =>
      simp only [hk, if_false, Nat.succ_ne_zero, hkn, if_true]
      exact b64Step_or_next n 2 (by decide) t k _ _ hkn hn
    | 2 =>
      simp only [hk, if_false, Nat.succ_ne_zero, hkn, if_true]
      exact b64Step_or_next n 3 (by decide) t k _ _ hkn hn
    | s + 3 =>
      simp only [hk, if_false]
      obtain ⟨t', ho, hsz, hout⟩ := orAt_push (t := t) v hks
      rw [ho]
      refine ⟨_, rfl, ?_, ?_⟩
      · simp only [Option.map_some, absB64, Option.some.injEq, Model.B64St.mk.injEq, true_and]
        simp [hout, hkn]
      · intro s' hs'; cases hs'; exact ⟨by simp; omega, hsz⟩

/-- How the outcome of the L0 main loop stands for that of the L1 loop (`B64P1`: the first phase of `b64_pton`, before the
padding is looked at). -/
def RelP1 (n : Nat) (src : Buf) (sz : Nat) : B64P1 → Model.B64P1 → Prop
  | .err, .err => True
  | .eos s, .eos s1 => absB64 n s = s1 ∧ s.tarindex ≤ n ∧ s.target.size = sz
  | .pad s q, .pad s1 r => absB64 n s = s1 ∧ src.view q = r ∧ src.HasNul q ∧ s.tarindex ≤ n ∧ s.target.size = sz
  | _, _ => False

theorem b64Loop_refines (n : Nat) (src : Buf) {i : Nat} (h : src.HasNul i) (st : B64)
    (hinv : st.tarindex ≤ n) (hn : n ≤ st.target.size) :
    ∃ r, b64Loop n src i st = .ok r ∧
      RelP1 n src st.target.size r (Model.b64loop n (src.view i) (absB64 n st)) := by
  induction h using HasNul.induction generalizing st with
  | nul i h hg hv =>
    rw [b64Loop, hg, hv]
    exact ⟨_, rfl, by simp [Model.b64loop, RelP1, hinv]⟩
  | cons i c h hn' hc hg hv ih =>
    rw [b64Loop, hg, hv]
    simp only [beq_iff_eq, hc, if_false, Model.b64loop]
    by_cases hsp : isspace c = true
    · simp only [hsp, if_true]
      exact ih st hinv hn
    · simp only [hsp, Bool.false_eq_true, if_false]
      by_cases hp : c = Gen.pad64
      · simp only [hp, if_true]
        exact ⟨_, rfl, by simp [RelP1, hinv, hn']⟩
      · simp only [hp, if_false]
        rw [b64Idx_spec c hc]
        cases hidx : Model.b64idx c with
        | none => exact ⟨_, rfl, by simp [RelP1]⟩
        | some v =>
          obtain ⟨r, hr, habs, hsz⟩ := b64Step_refines n st v hinv hn
          simp only [hr]
          cases r with
          | none =>
            simp only [Option.map_none] at habs
            rw [← habs]
            exact ⟨_, rfl, by simp [RelP1]⟩
          | some st' =>
            simp only [Option.map_some] at habs
            rw [← habs]
            obtain ⟨h1, h2⟩ := hsz st' rfl
            have := ih st' h1 (by omega)
            rw [h2] at this
            exact this

theorem skipSpaces_eq {src : Buf} {q : Nat} {ch : UInt8} (hg : src.get? q = .ok ch) :
    skipSpaces src q = if ch != 0 && isspace ch then skipSpaces src (q + 1) else .ok q := by
  rw [skipSpaces]; split <;> simp_all

theorem onlySpaces_eq {src : Buf} {q : Nat} {ch : UInt8} (hg : src.get? q = .ok ch) :
    onlySpaces src q = if ch == 0 then .ok true else if !isspace ch then .ok false else onlySpaces src (q + 1) := by
  rw [onlySpaces]; split <;> simp_all

theorem skipSpaces_spec {src : Buf} {q : Nat} (h : src.HasNul q) :
    skipSpaces src q = .ok (q + ((src.view q).takeWhile isspace).length) :=
  h.scan_nz (g := fun i _ => .ok i) isspace fun _ _ => skipSpaces_eq

theorem onlySpaces_spec {src : Buf} {q : Nat} (h : src.HasNul q) :
    onlySpaces src q = .ok ((src.view q).all isspace) := by
  induction h using HasNul.induction with
  | nul q h hg hv => rw [onlySpaces_eq hg]; simp [hv]
  | cons q c h hn' hc hg hv ih =>
    rw [onlySpaces_eq hg, hv]
    by_cases hsp : isspace c = true
    · simp only [beq_iff_eq, hc, if_false, hsp, Bool.not_true, Bool.false_eq_true, List.all_cons, Bool.true_and]
      exact ih
    · simp [hc, hsp]

theorem b64Tail_refines (n : Nat) (st : B64) (src : Buf) {q : Nat} (h : src.HasNul q)
    (hs : st.state ≠ 0) (hinv : st.tarindex ≤ n) (hn : n ≤ st.target.size) :
    ∃ r, b64Tail n st src q = .ok r ∧
      r.map (fun p => p.2.slice 0 p.1) = Model.b64tail n (absB64 n st) (src.view q) ∧
      ∀ p, r = some p → p.1 ≤ n ∧ p.2.size = st.target.size := by
  unfold b64Tail Model.b64tail
  rw [onlySpaces_spec h]
  have hlen : (st.target.slice 0 st.tarindex).length = st.tarindex := by rw [length_slice (by omega)]; omega
  cases hall : (src.view q).all isspace with
  | false => exact ⟨none, rfl, by simp, by simp⟩
  | true =>
    simp only [if_true, absB64, hlen, hs, if_false]
    by_cases hk : st.tarindex < n
    · simp only [hk, if_true, decide_true, Bool.true_and]
      rw [get?_peek (by omega)]
      simp only
      by_cases hp : (peek st.target st.tarindex != 0) = true
      · simp only [hp, if_true]; exact ⟨none, rfl, by simp, by simp⟩
      · simp only [hp, Bool.false_eq_true, if_false]
        exact ⟨_, rfl, by simp, by intro p hp; cases hp; exact ⟨hinv, rfl⟩⟩
    · simp only [hk, if_false, decide_false, Bool.false_and, Bool.false_eq_true]
      exact ⟨_, rfl, by simp, by intro p hp; cases hp; exact ⟨hinv, rfl⟩⟩

theorem b64pton_refines (src : Buf) {i : Nat} (h : src.HasNul i) (target : Buf) (n : Nat) (hn : n ≤ target.size) :
    ∃ r, b64pton src i target n = .ok r ∧
      r.map (fun p => p.2.slice 0 p.1) = Model.b64pton (src.view i) n ∧
      ∀ p, r = some p → p.1 ≤ n ∧ p.2.size = target.size := by
  unfold b64pton Model.b64pton
  obtain ⟨r, hr, hrel⟩ := b64Loop_refines n src h { state := 0, tarindex := 0, target := target } (Nat.zero_le _) hn
  have habs0 : absB64 n { state := 0, tarindex := 0, target := target } = Model.B64St.init := by
    simp [absB64, Model.B64St.init, slice_self]
  rw [habs0] at hrel
  rw [hr]
  generalize Model.b64loop n (src.view i) Model.B64St.init = r1 at hrel
  match r, r1, hrel with
  | .err, .err, _ => exact ⟨none, rfl, rfl, by simp⟩
  | .eos s, .eos s1, ⟨ha, hk, hsz⟩ =>
    subst ha
    simp only [absB64]
    by_cases hs : (s.state != 0) = true
    · simp only [hs, if_true]; exact ⟨none, rfl, rfl, by simp⟩
    · simp only [hs, Bool.false_eq_true, if_false]
      exact ⟨_, rfl, by simp, by intro p hp; cases hp; exact ⟨hk, hsz⟩⟩
  | .pad s q, .pad s1 r', ⟨ha, hv, hq, hk, hsz⟩ =>
    subst ha hv
    have hsz : s.target.size = target.size := hsz
    simp only
    rw [get?_of_lt hq.lt]
    simp only [absB64]
    match hst : s.state with
    | 0 => exact ⟨none, rfl, rfl, by simp⟩
    | 1 => exact ⟨none, rfl, rfl, by simp⟩
    | 2 =>
      simp only
      have c2 := hq.at.dropWhile isspace
      rw [skipSpaces_spec hq]
      simp only
      rw [c2.get?]
      cases hd : (src.view q).dropWhile isspace with
      | nil =>
        have : ((0 : UInt8) != Gen.pad64) = true := by decide
        simp only [List.headD_nil, this, if_true]
        exact ⟨none, rfl, rfl, by simp⟩
      | cons c rest =>
        rw [hd] at c2
        simp only [List.headD_cons]
        by_cases hp : c = Gen.pad64
        · simp only [hp, bne_self_eq_false, Bool.false_eq_true, if_false, beq_self_eq_true, if_true]
          have := b64Tail_refines n s src c2.tail.hasNul (by omega) hk (by omega)
          rw [c2.tail.view] at this
          simp only [absB64, hst] at this
          rw [hsz] at this
          exact this
        · have : (c != Gen.pad64) = true := by simpa using hp
          simp only [this, if_true, beq_iff_eq, hp, if_false]
          exact ⟨none, rfl, rfl, by simp⟩
    | k + 3 =>
      simp only
      have := b64Tail_refines n s src hq (by omega) hk (by omega)
      simp only [absB64, hst] at this
      rw [hsz] at this
      exact this

/-- `base64_decode`: no fault - in particular `dec[n] = '\0'` is inside the `strlen + 1` bytes allocated - and the
bytes `dec[0, n)` are the L1 result; the result is NUL-terminated at `n`. -/
theorem base64Decode_refines (s : Buf) {i : Nat} (h : s.HasNul i) :
    ∃ r, base64Decode s i = .ok r ∧
      r.map (fun p => p.1.slice 0 p.2) = Model.base64DecodeRaw (s.view i) ∧
      ∀ p, r = some p → p.1.get? p.2 = .ok 0 := by
  unfold base64Decode Model.base64DecodeRaw
  rw [strlen_spec h]
  simp only
  obtain ⟨r, hr, hmap, hb⟩ := b64pton_refines s h (Buf.malloc ((s.view i).length + 1)) ((s.view i).length + 1)
    (by rw [malloc_size]; exact Nat.le_refl _)
  rw [hr]
  cases r with
  | none => exact ⟨none, rfl, by simpa using hmap, by simp⟩
  | some p =>
    obtain ⟨n, dec⟩ := p
    obtain ⟨hn, hsz⟩ := hb _ rfl
    simp only [Option.map_some] at hmap
    have hfit := Proofs.b64_fits (s.view i) (dec.slice 0 n) (by unfold Model.base64DecodeRaw; exact hmap.symm)
    rw [length_slice (by rw [hsz, malloc_size]; exact hn)] at hfit
    have hlt : n < dec.size := by rw [hsz, malloc_size]; omega
    have hset := set_ok (b := dec) 0 hlt
    simp only [hset]
    refine ⟨_, rfl, ?_, ?_⟩
    · simp only [Option.map_some]; rw [← hmap]; congr 1; exact slice_of_set hset (Nat.le_refl _)
    · intro p hp; cases hp; exact get?_set_self hset

/-- What the caller of `base64_decode` reads from the result as a C string. -/
theorem base64Decode_cstr (s : Buf) {i : Nat} (h : s.HasNul i) :
    ∃ r, base64Decode s i = .ok r ∧
      r.map (fun p => p.1.view 0) = Model.base64Decode (s.view i) ∧
      ∀ p, r = some p → p.1.HasNul 0 := by
  obtain ⟨r, hr, hmap, hnul⟩ := base64Decode_refines s h
  refine ⟨r, hr, ?_, ?_⟩
  · unfold Model.base64Decode
    rw [← hmap]
    cases r with
    | none => rfl
    | some p => simp only [Option.map_some]; rw [view_of_nul_at (hnul p rfl)]
  · intro p hp
    exact ⟨p.2, Nat.zero_le _, hnul p hp⟩

/-- The L0 model files do not import the list models, so `htoa` is defined in both. -/
theorem htoa_eq (c : UInt8) : htoa c = Model.htoa c := rfl

/-- The loop over the window `[base, base + len)`, by cases on what is left of it: the list model's patterns. -/
theorem qpLoop_refines (ds : Bool) (b : Buf) (base len : Nat) (hb : base + len ≤ b.size) (i : Nat) (out : Bytes) :
    qpLoop ds b base len i out = .ok (Model.qpLoop ds (b.slice (base + i) (base + len)) out) := by
  generalize hw : b.slice (base + i) (base + len) = w
  generalize hn : w.length = n
  induction n using Nat.strongRecOn generalizing w i out with
  | _ n ih =>
    rw [qpLoop, Model.qpLoop.eq_def]
    match w, hw with
    | [], hw =>
      have := slice_eq_nil hb hw
      rw [if_neg (by omega)]
    | c :: r, hw =>
      obtain ⟨hlt, hg, hr⟩ := slice_uncons hb hw
      rw [if_pos (by omega), hg]
      simp only
      have hn' : r.length < n := by rw [← hn]; exact Nat.lt_succ_self _
      by_cases h1 : (c == 95 && ds) = true
      · simp only [h1, if_true]
        exact ih _ hn' (i + 1) _ r hr rfl
      simp only [h1, Bool.false_eq_true, if_false]
      by_cases h2 : (c != 61) = true
      · simp only [h2, if_true]
        exact ih _ hn' (i + 1) _ r hr rfl
      simp only [h2, Bool.false_eq_true, if_false]
      match r, hr, hn' with
      | [], hr, _ =>
        have := slice_eq_nil hb hr
        rw [if_pos (by simp; omega)]
      | d :: r', hr, hn' =>
        obtain ⟨hlt1, hg1, hr1⟩ := slice_uncons hb hr
        rw [if_neg (by simp; omega), show b.get? (base + (i + 1)) = .ok d from hg1]
        simp only
        by_cases h4 : (d == 10) = true
        · simp only [h4, if_true]
          exact ih _ (by simp at hn'; omega) (i + 2) _ r' hr1 rfl
        simp only [h4, Bool.false_eq_true, if_false]
        -- no escape after all: the `=` is kept and the loop goes on with the byte after it
        have hfall := ih _ hn' (i + 1) (out ++ [61]) (d :: r') hr rfl
        match r', hr1, hfall with
        | [], hr1, hfall =>
          have := slice_eq_nil hb hr1
          rw [if_pos (by simp; omega)]
          exact hfall
        | l :: r'', hr1, hfall =>
          obtain ⟨hlt2, hg2, hr2⟩ := slice_uncons hb hr1
          rw [if_neg (by simp; omega), show b.get? (base + (i + 2)) = .ok l from hg2]
          simp only [htoa_eq]
          cases hd : Model.htoa d with
          | none => exact hfall
          | some hi =>
            cases hl : Model.htoa l with
            | none => exact hfall
            | some lo => exact ih _ (by simp at hn'; omega) (i + 3) _ r'' hr2 rfl

theorem quotedPrintableDecode_refines (s : Buf) {i : Nat} (h : s.HasNul i) :
    quotedPrintableDecode s i = .ok (Model.qpDecodeRaw (s.view i)) := by
  unfold quotedPrintableDecode Model.qpDecodeRaw
  rw [strlen_spec h]
  simp only
  have hend := lt_of_get? h.get?_end
  rw [qpLoop_refines false s i _ (by omega) 0 []]
  rw [Nat.add_zero, h.slice_view _ (Nat.le_refl _), List.take_length]

theorem skipIsspace_eq {b : Buf} {p : Nat} {c : UInt8} (hg : b.get? p = .ok c) :
    skipIsspace b p = if isspace c then skipIsspace b (p + 1) else .ok p := by
  rw [skipIsspace]; split <;> simp_all

theorem skipIsspace_spec {b : Buf} {p : Nat} (h : b.HasNul p) :
    skipIsspace b p = .ok (p + ((b.view p).takeWhile isspace).length) :=
  h.scan (g := fun i _ => .ok i) rfl fun _ _ => skipIsspace_eq

theorem rfc2047SkipSpace_refines {s : Buf} {es : Nat} {v : Bytes} (c : s.At es v) :
    ∃ r, rfc2047SkipSpace s es = .ok r ∧ s.At r (Model.rfc2047SkipSpace v) := by
  unfold rfc2047SkipSpace Model.rfc2047SkipSpace
  rw [strstr_spec c.hasNul [61, 63] (by decide) (by decide), c.view]
  cases hf : findSub [61, 63] v with
  | none => exact ⟨es, rfl, c⟩
  | some k =>
    simp only [Option.map_some, skipIsspace_spec c.hasNul, c.view, Nat.add_left_cancel_iff, beq_iff_eq]
    have hk := Proofs.SafetyAux.findSub_le hf
    split
    · rename_i he; exact ⟨_, rfl, he ▸ c.drop k (by omega)⟩
    · exact ⟨es, rfl, c⟩

/-- How the result of the L0 word decoder stands for the L1 one: same bytes, and the index is where the L1 suffix starts. -/
def RelWord (s : Buf) : Option (Bytes × Nat) → Option (Bytes × Bytes) → Prop
  | none, none => True
  | some (w, rest), some (w', rest') => w = w' ∧ s.HasNul rest ∧ s.view rest = rest'
  | _, _ => False

theorem rfc2047Word_refines (s : Buf) {es : Nat} (h : s.HasNul es) :
    ∃ r, rfc2047Word s es = .ok r ∧ RelWord s r (Model.rfc2047Word (s.view es)) := by
  unfold rfc2047Word Model.rfc2047Word
  rw [strchr_spec h 63 (by decide), Proofs.strchr_eq]
  have c1 := h.at.dropWhile (· != 63)
  generalize (s.view es).dropWhile (· != 63) = q at c1 ⊢
  generalize es + ((s.view es).takeWhile (· != 63)).length = j at c1 ⊢
  cases q with
  | nil => exact ⟨none, rfl, trivial⟩
  | cons x q1 =>
    -- `es += 1`: the encoding letter, then `?`
    have c2 := c1.tail
    simp only [List.drop_succ_cons, List.drop_zero]
    rw [c2.get?]
    cases q1 with
    | nil => exact ⟨none, rfl, trivial⟩
    | cons enc es2 =>
      have henc : enc ≠ 0 := c2.no_nul enc (by simp)
      have c3 : s.At (j + 2) es2 := c2.tail
      simp only [List.headD_cons, beq_iff_eq, henc, if_false]
      rw [c3.get?]
      cases es2 with
      | nil => exact ⟨none, rfl, trivial⟩
      | cons d es3 =>
        by_cases hd63 : d = 63
        · subst hd63
          have c4 : s.At (j + 3) es3 := c3.tail
          simp only [List.headD_cons, bne_self_eq_false, Bool.false_eq_true, if_false]
          rw [strstr_spec c4.hasNul [63, 61] (by decide) (by decide), c4.view]
          cases hf : findSub [63, 61] es3 with
          | none => exact ⟨none, rfl, trivial⟩
          | some k =>
            simp only [Option.map_some]
            have hk := Proofs.SafetyAux.findSub_le hf
            simp only [List.length_cons, List.length_nil] at hk
            rw [Nat.add_sub_cancel_left]
            -- the payload is `es3.take k`, the rest begins after `?=`
            have c5 : s.At (j + 3 + k + 2) (es3.drop (k + 2)) := c4.drop (k + 2) (by omega)
            by_cases h66 : toupper enc = 66
            · simp only [h66]
              rw [strndup_spec c4.hasNul k, c4.view]
              simp only
              have htxt : (ofBytes (es3.take k)).view 0 = es3.take k :=
                view_ofBytes_of_no_nul fun x hx => c4.no_nul x (List.mem_of_mem_take hx)
              obtain ⟨r, hr, hmap, hnul⟩ := base64Decode_cstr (ofBytes (es3.take k)) (ofBytes_terminated _).hasNul0
              rw [htxt] at hmap
              rw [hr]
              cases r with
              | none =>
                simp only [Option.map_none] at hmap
                rw [← hmap]
                exact ⟨none, rfl, trivial⟩
              | some p =>
                obtain ⟨dst, n⟩ := p
                simp only [Option.map_some] at hmap
                rw [← hmap]
                simp only
                rw [readCStr_spec (hnul _ rfl)]
                exact ⟨_, rfl, by simp, c5.hasNul, c5.view⟩
            · by_cases h81 : toupper enc = 81
              · simp only [h81]
                rw [qpLoop_refines true s (j + 3) k (Nat.le_of_lt (c4.drop k (by omega)).hasNul.lt) 0 []]
                simp only
                rw [Nat.add_zero, c4.hasNul.slice_view k (by rw [c4.view]; omega), c4.view]
                exact ⟨_, rfl, rfl, c5.hasNul, c5.view⟩
              · -- any other letter: both sides are `none`; the `match` on the numeral has to be taken apart on each side
                generalize toupper enc = t at h66 h81
                split
                · exact absurd rfl h66
                · exact absurd rfl h81
                · split
                  · exact absurd rfl h66
                  · exact absurd rfl h81
                  · exact ⟨none, rfl, trivial⟩
        · have hne : (d != 63) = true := by simpa using hd63
          simp only [List.headD_cons, hne, if_true]
          refine ⟨none, rfl, ?_⟩
          split
          · rename_i es3' heq
            exact absurd (List.cons.inj heq).1 hd63
          · trivial

theorem rfc2047Loop_refines (s : Buf) {es : Nat} (h : s.HasNul es) (out : Bytes) :
    rfc2047Loop s es out = .ok (Model.rfc2047Loop (s.view es) out) := by
  induction h using HasNul.strong_induction generalizing out with
  | step es h ih =>
    have c := h.at
    rw [rfc2047Loop, c.get?]
    simp only
    generalize s.view es = v at c ⊢
    cases v with
    | nil => rw [Model.rfc2047Loop]; rfl
    | cons x r =>
      have hx : x ≠ 0 := c.no_nul x (by simp)
      rw [List.headD_cons, if_neg (by simpa using hx), startsWithLit_spec c.hasNul [61, 63] (by decide), c.view]
      by_cases hsw : startsWith (x :: r) [61, 63] = true
      · obtain ⟨es', h'⟩ : ∃ es', x :: r = 61 :: 63 :: es' := by
          simp only [startsWith, List.isPrefixOf_iff_prefix] at hsw
          obtain ⟨t, ht⟩ := hsw
          exact ⟨t, ht.symm⟩
        cases h'
        have c2 : s.At (es + 2) es' := c.drop 2 (by simp)
        obtain ⟨w, hw, hrel⟩ := rfc2047Word_refines s c2.hasNul
        rw [c2.view] at hrel
        rw [Model.rfc2047Loop]
        simp only [hsw]
        rw [hw]
        generalize Model.rfc2047Word es' = w1 at hrel
        match w, w1, hrel with
        | none, none, _ => rfl
        | some (wd, rest), some (_, _), ⟨rfl, hnr, rfl⟩ =>
          obtain ⟨q, hq, cq⟩ := rfc2047SkipSpace_refines hnr.at
          have := rfc2047Word_ge hw
          have := rfc2047SkipSpace_ge hq
          simp only
          rw [hq]
          simp only
          rw [ih _ cq.hasNul (by omega), cq.view]
      · have hsw' : startsWith (x :: r) [61, 63] = false := by simpa using hsw
        simp only [hsw']
        rw [ih _ c.tail.hasNul (Nat.lt_succ_self _), c.tail.view, Model.rfc2047Loop]
        -- the list model's clause for "any other byte" overlaps the one for `=?`: its equation asks that the text is no `=?..`
        intro es' h61 h63
        rw [h61, h63] at hsw'
        simp [startsWith] at hsw'

theorem rfc2047Decode_refines (s : Buf) {i : Nat} (h : s.HasNul i) :
    rfc2047Decode s i = .ok (Model.rfc2047DecodeRaw (s.view i)) := by
  unfold rfc2047Decode Model.rfc2047DecodeRaw
  rw [strlen_spec h]
  simp only
  rw [rfc2047Loop_refines s h]
  cases Model.rfc2047Loop (s.view i) [] with
  | some out => rfl
  | none => simp only; rw [readCStr_spec h]; simp

end Mdsort.L0
