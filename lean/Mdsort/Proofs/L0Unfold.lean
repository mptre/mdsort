import Mdsort.Proofs.L0Message

/-!
# L0 `unfoldheader` refines the list model

Tabs, end of line and the copy of one line (`skipTabs_spec`, `lineEnd_spec`, `copyRange_spec`), then the loop: no write
leaves the `strlen + 1` bytes of the copy, and the C string left in it is `Model.unfoldHeader` of the view of the source.
-/

namespace Mdsort.L0
open Mdsort Mdsort.L0.Buf

theorem skipTabs_spec {b : Buf} {i : Nat} (h : b.HasNul i) :
    skipTabs b i = .ok (i + ((b.view i).takeWhile (· == 9)).length) :=
  h.scan (g := fun i _ => .ok i) rfl fun _ _ => skipTabs_eq

theorem lineEnd_spec {s : Buf} {i : Nat} (h : s.HasNul i) :
    lineEnd s i = .ok (i + ((s.view i).takeWhile (· != 10)).length) := by
  unfold lineEnd
  rw [strchr_spec h 10 (by decide)]
  have hsplit := List.length_takeWhile_add_length_dropWhile (· != 10) (s.view i)
  cases hd : (s.view i).dropWhile (· != 10) with
  | nil =>
    rw [hd] at hsplit
    simp only [List.length_nil, Nat.add_zero] at hsplit
    simp only
    rw [strend_spec h, hsplit]
  | cons x r => rfl

/-- `while (str != end) dec[i++] = *str++;` over the first `n` bytes the cursor sees: every write inside `dec` while they
fit, and they join what has been written. -/
theorem copyRange_spec {s : Buf} (n : Nat) : ∀ {j : Nat} {v : Bytes} (dec : Buf) (k : Nat), s.At j v → n ≤ v.length →
    k + n ≤ dec.size →
    ∃ dec', copyRange s j (j + n) dec k = .ok (dec', k + n) ∧ dec'.size = dec.size ∧
      dec'.slice 0 (k + n) = dec.slice 0 k ++ v.take n := by
  induction n with
  | zero =>
    intro j v dec k _ _ _
    refine ⟨dec, ?_, rfl, by simp⟩
    rw [copyRange, if_neg (show ¬ j < j + 0 by omega)]
    rfl
  | succ n ih =>
    intro j v dec k c hn hk
    match v, c, hn with
    | x :: r, c, hn =>
      obtain ⟨d1, h1, hs1, hp1⟩ := set_push (d := dec) (k := k) x (by omega)
      obtain ⟨d2, h2, hs2, hp2⟩ := ih d1 (k + 1) c.tail (Nat.le_of_succ_le_succ hn) (by omega)
      rw [copyRange, if_pos (by omega), c.get?]
      simp only [List.headD_cons, h1]
      rw [Nat.add_right_comm j] at h2
      rw [Nat.add_right_comm k, Nat.add_assoc] at h2 hp2
      exact ⟨d2, h2, hs2.trans hs1, by rw [hp2, hp1, List.take_succ_cons, List.append_assoc]; rfl⟩

/-- One round of the list model's loop: the tabs are passed over, the line is kept, and on after its newline. -/
theorem l0r_unfoldLoop_cons (c : UInt8) (r : Bytes) :
    Model.unfoldLoop (c :: r) =
      ((c :: r).dropWhile (· == 9)).takeWhile (· != 10) ++
        match ((c :: r).dropWhile (· == 9)).dropWhile (· != 10) with
        | [] => []
        | _ :: rest => Model.unfoldLoop rest := by
  rw [Model.unfoldLoop.eq_def]
  simp only
  split <;> simp_all

/-- What the loop of `unfoldheader` leaves in the copy: while the bytes written plus the bytes still to read fit below
`dec`'s size every write is inside `dec`, and the final index leaves room for the terminator. -/
theorem unfoldLoop_refines (s : Buf) {str : Nat} (h : s.HasNul str) (dec : Buf) (k : Nat)
    (hk : k + (s.view str).length < dec.size) :
    ∃ dec' k', unfoldLoop s str dec k = .ok (dec', k') ∧ dec'.size = dec.size ∧ k' < dec.size ∧
      dec'.slice 0 k' = dec.slice 0 k ++ Model.unfoldLoop (s.view str) := by
  induction h using HasNul.strong_induction generalizing dec k with
  | step str h ih =>
    have c0 := h.at
    rw [unfoldLoop, c0.get?]
    simp only
    generalize s.view str = v at c0 hk ⊢
    cases v with
    | nil => exact ⟨dec, k, rfl, rfl, by omega, by rw [Model.unfoldLoop]; simp⟩
    | cons x r =>
      -- the cursor after the tabs, and at the end of the line
      have c1 := c0.dropWhile (· == 9)
      have c2 := c1.dropWhile (· != 10)
      have hl1 := List.length_takeWhile_add_length_dropWhile (· == 9) (x :: r)
      have hl2 := List.length_takeWhile_add_length_dropWhile (· != 10) ((x :: r).dropWhile (· == 9))
      obtain ⟨dec', hcp, hsz, hcs⟩ := copyRange_spec _ dec k c1 (List.takeWhile_prefix (· != 10)).length_le (by omega)
      rw [List.headD_cons, if_neg (by simpa using c0.no_nul x (by simp)), skipTabs_spec c0.hasNul, c0.view]
      simp only
      rw [lineEnd_spec c1.hasNul, c1.view]
      simp only
      rw [hcp]
      simp only
      rw [c2.get?, l0r_unfoldLoop_cons]
      rw [List.take_length_takeWhile] at hcs
      generalize ((x :: r).dropWhile (· == 9)).takeWhile (· != 10) = line at hcs hl2 c2 ⊢
      cases hd : ((x :: r).dropWhile (· == 9)).dropWhile (· != 10) with
      | nil => exact ⟨dec', _, rfl, hsz, by omega, by rw [hcs]; simp⟩
      | cons y rest =>
        obtain rfl : y = 10 := List.eq_of_dropWhile_ne_eq_cons hd
        rw [hd] at c2 hl2
        obtain ⟨d2, k2, hr, hsz2, hk2, hs2⟩ := ih _ c2.tail.hasNul (by omega) dec' (k + line.length)
          (by rw [hsz, c2.tail.view]; simp only [List.length_cons] at hl1 hl2 hk; omega)
        exact ⟨d2, k2, hr, hsz2.trans hsz, hsz ▸ hk2, by rw [hs2, hcs, c2.tail.view, List.append_assoc]⟩

theorem l0r_unfoldLoop_sublist (l : Bytes) : (Model.unfoldLoop l).Sublist l := by
  generalize hn : l.length = n
  induction n using Nat.strongRecOn generalizing l with
  | _ n ih =>
    cases l with
    | nil => rw [Model.unfoldLoop]; exact .slnil
    | cons c r =>
      rw [l0r_unfoldLoop_cons]
      refine .trans ?_ (List.dropWhile_sublist (· == 9))
      have hs := List.takeWhile_append_dropWhile (p := (· != 10)) (l := (c :: r).dropWhile (· == 9))
      have hl := (List.dropWhile_sublist (· == 9) (l := c :: r)).length_le
      rw [← hs] at hl
      generalize ((c :: r).dropWhile (· == 9)).takeWhile (· != 10) = line at hs hl ⊢
      cases hd : ((c :: r).dropWhile (· == 9)).dropWhile (· != 10) with
      | nil => rw [← hs, hd]; exact .refl _
      | cons y rest =>
        rw [hd] at hs hl
        rw [← hs]
        simp only [List.length_append, List.length_cons] at hl hn
        exact (List.Sublist.refl line).append ((ih _ (by omega) rest rfl).cons y)

/-- `unfoldheader`: every write into the `strlen + 1` bytes of the copy is inside it, including the final
`dec[i] = '\0'`, and the C string it returns is the list model's unfolding of the view of its argument. -/
theorem unfoldHeader_refines (s : Buf) {i : Nat} (h : s.HasNul i) :
    ∃ d, unfoldHeader s i = .ok d ∧ d.HasNul 0 ∧ d.view 0 = Model.unfoldHeader (s.view i) ∧
      d.size = (s.view i).length + 1 := by
  unfold unfoldHeader Model.unfoldHeader
  rw [strdup_spec h]
  simp only
  rw [strchr_spec h 10 (by decide)]
  cases hd : (s.view i).dropWhile (· != 10) with
  | nil =>
    have htw := List.takeWhile_append_dropWhile (p := (· != 10)) (l := s.view i)
    rw [hd, List.append_nil] at htw
    -- no newline: every byte of the view is in the prefix without one
    have hno : (s.view i).contains 10 = false := by
      refine Bool.eq_false_iff.mpr fun hc => ?_
      have hmem : (10 : UInt8) ∈ (s.view i).takeWhile (· != 10) := by
        rw [htw]
        exact List.contains_iff_mem.mp hc
      exact absurd (List.of_mem_takeWhile hmem) (by decide)
    rw [hno]
    exact ⟨_, rfl, (ofBytes_terminated _).hasNul0, view_ofBytes_of_no_nul (view_no_nul s i), size_ofBytes _⟩
  | cons x q =>
    obtain rfl : x = 10 := List.eq_of_dropWhile_ne_eq_cons hd
    have hyes : (s.view i).contains 10 = true :=
      List.contains_iff_mem.mpr ((List.dropWhile_sublist _).subset (hd ▸ List.mem_cons_self))
    rw [hyes, if_pos rfl]
    obtain ⟨d, k, hl, hsz, hk, hsl⟩ := unfoldLoop_refines s h (ofBytes (s.view i)) 0 (by rw [size_ofBytes]; omega)
    rw [hl]
    simp only
    obtain ⟨d', hset, hsz', hn', hv'⟩ := set_nul_view (d := d) (k := k) (by omega)
    refine ⟨d', hset, hn', ?_, by rw [hsz', hsz, size_ofBytes]⟩
    rw [hv', hsl, slice_self, List.nil_append]
    exact cstr_of_no_nul fun x hx => view_no_nul s i x ((l0r_unfoldLoop_sublist _).subset hx)

end Mdsort.L0
