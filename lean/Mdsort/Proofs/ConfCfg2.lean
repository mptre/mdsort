import Mdsort.Proofs.ConfCfg1
import Mdsort.Proofs.MainTextLex

/-!
# Derivations of the token-level non-terminals; what remains to be read from a parser state

`Rem s ks`: from parser state `s`, the kinds of the tokens still to come are `ks` - the lookahead token
if one is held, then what the lexer model delivers up to the end of the text (`Lexes`).
`Back s0 s w`: whatever remains from `s`, `w` followed by it remains from `s0` - i.e. between `s0` and
`s` the parser consumed tokens of the kinds `w`.
-/

namespace Mdsort.Proofs.Cfg
open Mdsort Mdsort.Model Mdsort.Spec Mdsort.Spec.Cfg Mdsort.Proofs.Conf Mdsort.Proofs.MainText

abbrev GP : List Prod := Gen.productions

theorem stringBlock_fold (l : List Bytes) : ∀ (t : Tree) (w : List Sym), Parses GP "stringblock" t w →
    Parses GP "stringblock" (l.foldl (fun t _ => N "stringblock" [t, T "STRING"]) t) (w ++ l.map fun _ => "STRING") := by
  induction l with
  | nil => intro t w h; simpa using h
  | cons b r ih =>
    intro t w h
    have h1 : Parses GP "stringblock" (N "stringblock" [t, T "STRING"]) (w ++ ["STRING"]) :=
      (Parses.node p_stringblock_stringblock_string (.cons h (.cons (.leaf t_string) .nil))).cast (by simp)
    exact (ih _ _ h1).cast (by simp)

theorem stringBlock_parses (l : List Bytes) : Parses GP "stringblock" (stringBlockTree l) (l.map fun _ => "STRING") :=
  (stringBlock_fold l _ _ (Parses.node p_stringblock_empty .nil)).cast (by simp)

theorem strsToks_kinds (l : List Bytes) : (strsToks l).map ptokKind = "'{'" :: ((l.map fun _ => "STRING") ++ ["'}'"]) := by
  simp [strsToks, ptokKind, List.map_map, Function.comp_def]

theorem strings_parses (l : List Bytes) : Parses GP "strings" (stringsTree l) ((strsToks l).map ptokKind) :=
  (Parses.node p_strings_lbrace_stringblock_rbrace
    (.cons (.leaf t_lbrace) (.cons (stringBlock_parses l) (.cons (.leaf t_rbrace) .nil)))).cast
    (by rw [strsToks_kinds]; simp)

theorem pattern_parses : Parses GP "pattern" patternTree ["PATTERN"] :=
  Parses.node p_pattern_mid2_pattern (.cons (Parses.node p_mid2_empty .nil) (.cons (.leaf t_pattern) .nil))

theorem scalar_parses : Parses GP "scalar" scalarTree ["SCALAR"] :=
  Parses.node p_scalar_mid1_scalar (.cons (Parses.node p_mid1_empty .nil) (.cons (.leaf t_scalar) .nil))

theorem condLeaf_parses (e : Expr) (h : isCondLeaf e = true) :
    Parses GP "expr3" (condLeafTree e) ((condLeafToks e).map ptokKind) := by
  cases e <;> simp only [isCondLeaf, Bool.false_eq_true] at h
  case all => exact Parses.node p_expr3_all (.cons (.leaf t_all) .nil)
  case new => exact Parses.node p_expr3_new (.cons (.leaf t_new) .nil)
  case old => exact Parses.node p_expr3_old (.cons (.leaf t_old) .nil)
  case body l p =>
    exact Parses.node p_expr3_body_pattern (.cons (.leaf t_body) (.cons pattern_parses .nil))
  case header l ns p =>
    exact (Parses.node p_expr3_header_strings_pattern
      (.cons (.leaf t_header) (.cons (strings_parses ns) (.cons pattern_parses .nil)))).cast
      (by simp [condLeafToks, ptokKind, kwSym])
  case date l f c age =>
    have hf : Parses GP "date_field"
        (N "date_field" (match f with | .header => [] | .access => [T "ACCESS"] | .modified => [T "MODIFIED"] | .created => [T "CREATED"]))
        ((match f with | .header => [] | .access => [PTok.kw .access] | .modified => [PTok.kw .modified]
                       | .created => [PTok.kw .created]).map ptokKind) := by
      cases f
      · exact Parses.node p_date_field_empty .nil
      · exact Parses.node p_date_field_access (.cons (.leaf t_access) .nil)
      · exact Parses.node p_date_field_modified (.cons (.leaf t_modified) .nil)
      · exact Parses.node p_date_field_created (.cons (.leaf t_created) .nil)
    have hc : Parses GP "date_cmp" (N "date_cmp" [T (match c with | .lt => "'<'" | .gt => "'>'")])
        [ptokKind (match c with | .lt => PTok.lt | .gt => PTok.gt)] := by
      cases c
      · exact Parses.node p_date_cmp_lt (.cons (.leaf t_lt) .nil)
      · exact Parses.node p_date_cmp_gt (.cons (.leaf t_gt) .nil)
    have ha : Parses GP "date_age" (N "date_age" [T "INT", scalarTree]) ["INT", "SCALAR"] :=
      Parses.node p_date_age_int_scalar (.cons (.leaf t_int) (.cons scalar_parses .nil))
    exact (Parses.node p_expr3_date_date_field_date_cmp_date_age
      (.cons (.leaf t_date) (.cons hf (.cons hc (.cons ha .nil))))).cast
      (by cases f <;> cases c <;> rfl)
  case stat l p =>
    exact Parses.node p_expr3_isdirectory_string (.cons (.leaf t_isdirectory) (.cons (.leaf t_string) .nil))
  case command l a =>
    exact (Parses.node p_expr3_command_strings (.cons (.leaf t_command) (.cons (strings_parses a) .nil))).cast
      (by simp [condLeafToks, ptokKind, kwSym])

theorem execFlags_parses (si bo : Bool) :
    Parses GP "exec_flags" (execFlagsTree si bo)
      (((if si then [PTok.kw .stdin] else []) ++ (if bo then [PTok.kw .body] else [])).map ptokKind) := by
  have h0 : Parses GP "exec_flags" (N "exec_flags" []) [] := Parses.node p_exec_flags_empty .nil
  have hs : Parses GP "exec_flag" (N "exec_flag" [T "STDIN"]) ["STDIN"] :=
    Parses.node p_exec_flag_stdin (.cons (.leaf t_stdin) .nil)
  have hb : Parses GP "exec_flag" (N "exec_flag" [T "BODY"]) ["BODY"] :=
    Parses.node p_exec_flag_body (.cons (.leaf t_body) .nil)
  cases si <;> cases bo <;> simp only [execFlagsTree, if_true, if_false, Bool.false_eq_true]
  · exact h0
  · exact (Parses.node p_exec_flags_exec_flags_exec_flag (.cons h0 (.cons hb .nil))).cast (by simp [ptokKind, kwSym])
  · exact (Parses.node p_exec_flags_exec_flags_exec_flag (.cons h0 (.cons hs .nil))).cast (by simp [ptokKind, kwSym])
  · exact (Parses.node p_exec_flags_exec_flags_exec_flag
      (.cons ((Parses.node p_exec_flags_exec_flags_exec_flag (.cons h0 (.cons hs .nil)))) (.cons hb .nil))).cast
      (by simp [ptokKind, kwSym])

theorem actLeaf_parses (e : Expr) (h : e.leafAction = true) :
    Parses GP "expraction" (actLeafTree e) ((actLeafToks e).map ptokKind) := by
  cases e <;> simp only [Expr.leafAction, Bool.false_eq_true] at h
  case move l p => exact Parses.node p_expraction_move_string (.cons (.leaf t_move) (.cons (.leaf t_string) .nil))
  case flag l sub =>
    have ho : Parses GP "optneg" (N "optneg" (if sub == curStr then [T "NEG"] else []))
        ((if sub == curStr then [PTok.bang] else []).map ptokKind) := by
      split
      · exact Parses.node p_optneg_neg (.cons (.leaf t_neg) .nil)
      · exact Parses.node p_optneg_empty .nil
    have hfl := Parses.node p_flag_optneg_new (.cons ho (.cons (.leaf t_new) .nil))
    exact (Parses.node p_expraction_flag_flag (.cons (.leaf t_flag) (.cons hfl .nil))).cast
      (by simp [actLeafToks, ptokKind, kwSym])
  case flags l f => exact Parses.node p_expraction_flags_string (.cons (.leaf t_flags) (.cons (.leaf t_string) .nil))
  case discard => exact Parses.node p_expraction_discard (.cons (.leaf t_discard) .nil)
  case brk => exact Parses.node p_expraction_break (.cons (.leaf t_break) .nil)
  case pass => exact Parses.node p_expraction_pass (.cons (.leaf t_pass) .nil)
  case reject => exact Parses.node p_expraction_reject (.cons (.leaf t_reject) .nil)
  case label l ls =>
    exact (Parses.node p_expraction_label_strings (.cons (.leaf t_label) (.cons (strings_parses ls) .nil))).cast
      (by simp [actLeafToks, ptokKind, kwSym])
  case exec l si bo a =>
    exact (Parses.node p_expraction_exec_exec_flags_strings
      (.cons (.leaf t_exec) (.cons (execFlags_parses si bo) (.cons (strings_parses a) .nil)))).cast
      (by simp [actLeafToks, ptokKind, kwSym])
  case addHeader l k v =>
    exact Parses.node p_expraction_addheader_string_string
      (.cons (.leaf t_addheader) (.cons (.leaf t_string) (.cons (.leaf t_string) .nil)))

theorem ofName_inv {n : String} {k : Kw} (h : Kw.ofName n = some k) : n = kwSym k := by
  revert h
  -- one branch per name: it returns the keyword of that name
  fun_cases Kw.ofName n <;> intro h <;> cases h
  all_goals exact eq_of_beq ‹_›

theorem charSym_values : charSym 123 = "'{'" ∧ charSym 125 = "'}'" ∧ charSym 40 = "'('" ∧ charSym 41 = "')'" ∧
    charSym 60 = "'<'" ∧ charSym 62 = "'>'" ∧ charSym 61 = "'='" := by decide

/-- The terminal a token of the parser model (`Model.Tk`) is; `other` stands for what no rule mentions. -/
def tkKind : Tk → Sym
  | .eof => "$end" | .neg => "NEG" | .str _ => "STRING" | .pat _ => "PATTERN" | .int _ => "INT"
  | .scalar _ => "SCALAR" | .macro _ => "MACRO" | .kw k => kwSym k
  | .lbrace => "'{'" | .rbrace => "'}'" | .lparen => "'('" | .rparen => "')'" | .lt => "'<'" | .gt => "'>'" | .eq => "'='"
  | .other _ => "?"

def isOther : Tk → Bool
  | .other _ => true
  | _ => false

/-- `Tk.ofToken` keeps the kind of every token a rule can mention. -/
theorem kind_ofToken (tok : Token) (h : isOther (Tk.ofToken tok) = false) : tokenKind tok = tkKind (Tk.ofToken tok) := by
  cases tok with
  | keyword n =>
    rcases ofToken_keyword n with ⟨k, hk, e⟩ | e <;> rw [e] at h ⊢
    · exact ofName_inv hk
    · cases h
  | char c =>
    rcases ofToken_char c with ⟨rfl, e⟩ | ⟨rfl, e⟩ | ⟨rfl, e⟩ | ⟨rfl, e⟩ | ⟨rfl, e⟩ | ⟨rfl, e⟩ | ⟨rfl, e⟩ | e <;> rw [e] at h ⊢
    -- the seven characters the grammar mentions; any other gives `.other c`, which `h` excludes
    iterate 7 rfl
    cases h
  | _ => rfl

theorem kwSym_not_mode (k : Kw) : (kwSym k == "PATTERN") = false ∧ (kwSym k == "SCALAR") = false := by
  cases k <;> decide

/-! ## The lexer returns a PATTERN only in pattern mode and a SCALAR only in unit mode -/

def modeFit (pf sf : Bool) : Token → Bool
  | .pattern .. => pf
  | .scalar _ => sf
  | _ => true

theorem lexTok_modeFit (pf sf : Bool) (c : UInt8) (r : Bytes) (e0 : Nat) :
    modeFit pf sf (lex1.lexTok pf sf c r e0).tok = true := by
  fun_cases lex1.lexTok pf sf c r e0  -- the numbering: Proofs/LexAux.lean, `lexTok_suffix`
  -- a PATTERN (6) is returned under `pf` only, a SCALAR (11, 12) under `sf` only
  case case6 | case11 | case12 => assumption
  all_goals rfl

theorem lex1_modeFit (pf sf am : Bool) (input : Bytes) : modeFit pf sf (lex1 pf sf am input).tok = true :=
  LexAux.lex1_ind (P := fun _ res => modeFit pf sf res.tok = true) pf sf am (fun _ _ => rfl) (fun _ _ _ _ _ => rfl)
    (fun _ _ _ _ _ => lexTok_modeFit _ _ _ _ _) (fun _ _ _ _ _ _ _ _ _ ih => ih) input

def Rem (s : ParseSt) (ts : List Sym) : Prop :=
  match s.la with
  | none => Lexes s.afterMacro s.rest ts
  | some t => (t = .eof ∧ ts = []) ∨
      (t ≠ .eof ∧ isOther t = false ∧ ∃ ks, ts = tkKind t :: ks ∧ Lexes s.afterMacro s.rest ks)

def Back (s0 s : ParseSt) (w : List Sym) : Prop := ∀ ts, Rem s ts → Rem s0 (w ++ ts)

theorem Back.refl (s : ParseSt) : Back s s [] := fun _ h => h

theorem Back.trans {s0 s1 s2 : ParseSt} {w1 w2 : List Sym} (h1 : Back s0 s1 w1) (h2 : Back s1 s2 w2) :
    Back s0 s2 (w1 ++ w2) := by
  intro ts h
  rw [List.append_assoc]
  exact h1 _ (h2 _ h)

theorem Back.cast {s0 s : ParseSt} {w w' : List Sym} (h : Back s0 s w) (e : w = w') : Back s0 s w' := e ▸ h

theorem Back.macros {s0 s : ParseSt} {w : List Sym} (h : Back s0 s w) (ms : List Macro) : Back s0 { s with macros := ms } w :=
  fun ts hr => h ts hr

theorem tkKind_mode (t : Tk) : ((tkKind t == "PATTERN") = match t with | .pat _ => true | _ => false) ∧
    ((tkKind t == "SCALAR") = match t with | .scalar _ => true | _ => false) := by
  cases t with
  | kw k => exact ⟨(kwSym_not_mode k).1, (kwSym_not_mode k).2⟩
  | _ => simp [tkKind]

theorem afterLex_afterMacro (cx : PCtx) (pf sf : Bool) (s : ParseSt) :
    (afterLex cx pf sf s).afterMacro = isMacroTok (lex1 pf sf s.afterMacro s.rest).tok := by
  unfold afterLex
  cases (lex1 pf sf s.afterMacro s.rest).tok <;> rfl

/-- Un-reading the lookahead: the state before the lexer call that produced it.  `hmode` and `heof` are the side conditions of
`Spec.Cfg.Lexes.tok` and `.done`: a call is made in pattern / unit mode exactly when it returns a PATTERN / SCALAR, and the call
that returns the end of input in the plain mode. -/
theorem back_unpeek (cx : PCtx) (pf sf : Bool) (s : ParseSt) (hla : s.la = none)
    (herr : (lex1 pf sf s.afterMacro s.rest).errors = 0)
    (hmode : isOther (Tk.ofToken (lex1 pf sf s.afterMacro s.rest).tok) = false →
      (lex1 pf sf s.afterMacro s.rest).tok ≠ .eof →
      pf = (tkKind (Tk.ofToken (lex1 pf sf s.afterMacro s.rest).tok) == "PATTERN") ∧
      sf = (tkKind (Tk.ofToken (lex1 pf sf s.afterMacro s.rest).tok) == "SCALAR"))
    (heof : (lex1 pf sf s.afterMacro s.rest).tok = .eof → pf = false ∧ sf = false) :
    Back s (afterLex cx pf sf s) [] := by
  intro ts hrem
  simp only [Rem, afterLex_la, afterLex_rest, afterLex_afterMacro] at hrem
  show Rem s ([] ++ ts)
  simp only [List.nil_append, Rem, hla]
  rcases hrem with ⟨he, hts⟩ | ⟨hne, hno, ks, hts, hlex⟩
  · have htok := (ofToken_eof _).1 he
    obtain ⟨rfl, rfl⟩ := heof htok
    subst hts
    exact Lexes.done _ _ htok herr
  · have htok : (lex1 pf sf s.afterMacro s.rest).tok ≠ .eof := fun h => hne ((ofToken_eof _).2 h)
    obtain ⟨h1, h2⟩ := hmode hno htok
    have hk := kind_ofToken _ hno
    have := Lexes.tok s.afterMacro pf sf s.rest ks herr htok (by rw [hk]; exact h1) (by rw [hk]; exact h2) hlex
    rw [hk] at this
    rw [hts]
    exact this

theorem ofToken_pat {tok : Token} {p : Pat} (h : Tk.ofToken tok = .pat p) : ∃ a b c d, tok = .pattern a b c d := by
  revert h
  fun_cases Tk.ofToken tok <;> intro h <;> cases h
  exact ⟨_, _, _, _, rfl⟩

theorem ofToken_scalar {tok : Token} {v : Option Nat} (h : Tk.ofToken tok = .scalar v) : tok = .scalar v := by
  revert h
  fun_cases Tk.ofToken tok <;> intro h <;> cases h
  rfl

theorem plain_mode (am : Bool) (rest : Bytes) :
    (tkKind (Tk.ofToken (lex1 false false am rest).tok) == "PATTERN") = false ∧
    (tkKind (Tk.ofToken (lex1 false false am rest).tok) == "SCALAR") = false := by
  have hf := lex1_modeFit false false am rest
  obtain ⟨h1, h2⟩ := tkKind_mode (Tk.ofToken (lex1 false false am rest).tok)
  rw [h1, h2]
  generalize (lex1 false false am rest).tok = tok at hf
  constructor
  · cases ht : Tk.ofToken tok with
    | pat p => obtain ⟨a, b, c, d, rfl⟩ := ofToken_pat ht; cases hf
    | _ => rfl
  · cases ht : Tk.ofToken tok with
    | scalar v => rw [ofToken_scalar ht] at hf; cases hf
    | _ => rfl

variable {α : Type} {Q : α → ParseSt → Prop} {s s0 : ParseSt} {w0 : List Sym}

/-- When `p` returns it has consumed tokens of kinds `w` with `G w`.  It stands for itself: the parser functions are proved
for `Conf.Acc` (Proofs/ConfSpec1.lean), which asks for more, and no lemma passes from `Acc` to this. -/
def Uses (p : PM α) (G : List Sym → Prop) : Prop :=
  ∀ (s0 s : ParseSt) (w0 : List Sym), Back s0 s w0 → wp p (fun _ s' => ∃ w, G w ∧ Back s0 s' (w0 ++ w)) AnyErr True s

theorem Uses.weaken {p : PM α} {G G' : List Sym → Prop} (h : Uses p G) (hw : ∀ w, G w → G' w) : Uses p G' :=
  fun s0 s w0 hb => wp_mono (h s0 s w0 hb) (fun _ _ ⟨w, h1, h2⟩ => ⟨w, hw w h1, h2⟩) (fun _ h => h)

/-- For the left-recursive non-terminals (`exec_flags`, `expr1 AND ..`, `exprs`, `expractions`, `grammar`), which the parser
reads in a loop from left to right: what a loop consumes is no derivation of its own but extends whatever `x` was read
before. -/
def Extends (x : Sym) (w : List Sym) : Prop := ∀ pre, Derives GP x pre → Derives GP x (pre ++ w)

theorem Extends.nil (x : Sym) : Extends x [] := fun pre h => h.cast (by simp)

end Mdsort.Proofs.Cfg
