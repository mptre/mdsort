import Mdsort.Proofs.WorldFrameWalk
import Mdsort.Proofs.WorldFaults
import Mdsort.Proofs.WorldOwnWorld

/-!
# No directory is created or removed by a run in maildir mode

`mkdir`, `mkdtemp` and `rmdir` are issued by the stdin spool only.  `Call.mkrm c = false`: `c` is none of them;
then the set of existing directories is the same before and after the call, whatever it returns
(`dirsSame_step`).  Every call of `processMessage` satisfies the frame condition `FramedW`
(`Own.framedW_processMessage`), which excludes the three calls whatever the calls return: so the directories that exist at its
end are those of its start (`dirsSame_processMessage`, in `wpS`, where the passes over the main loop, WorldExitWalk and
WorldExitMain, need it; they take the loops' own calls by `dirsSame_step`).
-/

namespace Mdsort.Proofs
open Mdsort Mdsort.Model
open Mdsort.Proofs.World (wpS wpS_mono)

def DirsSame (w w' : World) : Prop := ∀ q, (w'.dir q).isSome = (w.dir q).isSome

theorem DirsSame.refl (w : World) : DirsSame w w := fun _ => rfl

theorem DirsSame.trans {a b c : World} (h1 : DirsSame a b) (h2 : DirsSame b c) : DirsSame a c :=
  fun q => (h2 q).trans (h1 q)

theorem dirsSame_step (w : World) (c : Call) (r : Res) (h : World.Call.mkrm c = false) : DirsSame w (stepWorld w c r) :=
  fun q => by rw [World.stepWorld_dir]; exact World.core_dir_isSome_eq w c r q h

/-- `mkdir`, `mkdtemp`, `rmdir` are no `readdir`, `Framed` excludes them for every name, and they are mutating: `FramedW` has
no case for them. -/
theorem mkrm_of_framedW (tr : List (Call × Res)) (c : Call) (h : FramedW tr c) : World.Call.mkrm c = false := by
  have excluded : (∀ d, c ≠ .readdir d) → (∀ n, ¬ Framed n tr c) → c.mutating = true → False := by
    intro h1 h2 h3
    rcases h with ⟨d, hd⟩ | h
    · exact h1 d hd
    · split at h
      · exact h2 _ h
      · rw [h3] at h; cases h
  cases c with
  | mkdir p => exact (excluded (fun _ => nofun) (fun _ => id) rfl).elim
  | mkdtemp t => exact (excluded (fun _ => nofun) (fun _ => id) rfl).elim
  | rmdir p => exact (excluded (fun _ => nofun) (fun _ => id) rfl).elim
  | _ => rfl

/-- Any trace whose last `readdir` returned `name` will do for `framedW_processMessage`; this is the shortest, written `[] ++ [..]`
as `lastName_readdir` states it. -/
theorem dirsSame_processMessage (env : PEnv) (orc : EvalOracles) (expr : Expr) (md : Maildir) (name : Bytes) (st : MainSt) (b : Bool)
    (w : World) : wpS (processMessage env orc expr md name st) (fun _ _ w' => DirsSame w w') b w :=
  wpS_mono (World.wpS_of_wp b (Own.wp_world (C := fun _ w' => DirsSame w w')
      (fun tr w1 c _ hi hc => hc.trans (dirsSame_step w1 c _ (mkrm_of_framedW tr c hi)))
      (Own.framedW_processMessage env orc expr md name st ([] ++ [(.readdir 0, .name name)]) (Own.lastName_readdir _ _ _))
      (DirsSame.refl w)))
    fun _ _ _ ⟨_, hc⟩ => hc

end Mdsort.Proofs
