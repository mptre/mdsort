import Mdsort.Proofs.Parties
import Mdsort.Proofs.WorldFs
import Mdsort.Proofs.WorldResults

/-! The effect of one predicted call on the directory entries of the shared file system, read off the table of the calls that
change entries (`openExcl_state`, `renameat_state`, `unlinkat_state`, `rmdir_state`, `created`: namespace `Parties`, module
`WorldResults`). -/

namespace Mdsort.Proofs.Parties
open Mdsort Mdsort.Model
open Mdsort.Proofs.World

/-- The file a successful call binds its target entry to. -/
def boundBy (w : World) : Call → Option Nat
  | .renameat d1 n1 _ _ => w.lookupE ((w.dirPath d1).map fun p => (p, n1))
  | .openExcl .. => some w.nextFid
  | _ => none

theorem lookup_created (w : World) (p n : Bytes) (hd : (w.dir p).isSome) : (created w p n).lookup p n = some w.nextFid := by
  unfold created
  rw [lookup_newHandle, lookup_bind _ _ _ _ _ _ (by exact hd)]
  exact if_pos ⟨rfl, rfl⟩

/-- Every entry but the one a successful call binds: gone if it is the source of the call, else as before.
No condition on the call. -/
theorem step_lookup_ne (w : World) (c : Call) (q m : Bytes)
    (hb : ¬ (isOk (predict w c) = true ∧ callDst w c = some (q, m))) :
    (core w c (predict w c)).lookup q m =
      if isOk (predict w c) = true ∧ callSrc w c = some (q, m) then none else w.lookup q m := by
  by_cases hop : Call.dirOp c = false
  · -- a call with a source entry (`renameat`, `unlinkat`) is a `dirOp`
    have h2 : callSrc w c = none := by
      cases c
      case renameat | unlinkat => cases hop
      all_goals rfl
    simp only [h2, and_false, if_false, reduceCtorEq]
    exact lookup_of_dirs (core_dirs w c _ hop) q m
  cases c <;> simp [Call.dirOp] at hop
  · rename_i d n
    rcases openExcl_state w d n with ⟨p, hp, hl, hpr, hco⟩ | ⟨e, hpr⟩
    · rw [hpr, hco]
      unfold created
      rw [lookup_newHandle, lookup_bind_ne]
      · simp [callSrc]; rfl
      · rintro ⟨rfl, rfl⟩
        exact hb ⟨by simp [hpr, isOk], by simp [callDst, hp]⟩
    · rw [hpr, core_fail w e rfl]; simp [isOk]
  · rename_i d1 n1 d2 n2
    rcases renameat_state w d1 n1 d2 n2 with ⟨p1, p2, f, hp1, hp2, hl, hpr, hco⟩ | ⟨e, hpr, _, _⟩
    · rw [hpr, hco, lookup_bind_ne, lookup_unbind]
      · simp only [isOk, callSrc, hp1, Option.map_some, Option.some.injEq, Prod.mk.injEq, true_and]
        by_cases h : q = p1 ∧ m = n1
        · obtain ⟨rfl, rfl⟩ := h; simp
        · have : ¬ (p1 = q ∧ n1 = m) := fun ⟨a, b⟩ => h ⟨a.symm, b.symm⟩
          simp [h, this]
      · rintro ⟨rfl, rfl⟩
        exact hb ⟨by simp [hpr, isOk], by simp [callDst, hp2]⟩
    · rw [hpr, core_fail w e rfl]; simp [isOk]
  · rename_i d n
    rcases unlinkat_state w d n with ⟨p, f, hp, hl, hpr, hco⟩ | ⟨_, hpr⟩
    · rw [hpr, hco, lookup_unbind]
      simp only [isOk, callSrc, hp, Option.map_some, Option.some.injEq, Prod.mk.injEq, true_and]
      by_cases h : q = p ∧ m = n
      · obtain ⟨rfl, rfl⟩ := h; simp
      · have : ¬ (p = q ∧ n = m) := fun ⟨a, b⟩ => h ⟨a.symm, b.symm⟩
        simp [h, this]
    · rw [hpr, core_fail w _ rfl]; simp [isOk]
  · -- mkdtemp
    simp only [callSrc, and_false, if_false, reduceCtorEq]
    exact lookup_append_dir w _ q m
  · -- mkdir
    simp only [callSrc, and_false, if_false, reduceCtorEq]
    exact lookup_append_dir w _ q m
  · -- rmdir
    rename_i p
    simp only [callSrc, and_false, if_false, reduceCtorEq]
    rcases rmdir_state w p with ⟨hd, hpr, hc⟩ | ⟨-, e, hpr⟩
    · rw [hpr, hc]
      exact lookup_rmdir w p q m hd
    · rw [hpr, core_fail w _ rfl]

theorem step_lookup (w : World) (c : Call) (q m : Bytes) (hd : ∀ x, callDst w c = some x → (w.dir x.1).isSome) :
    (core w c (predict w c)).lookup q m =
      if isOk (predict w c) = true ∧ callDst w c = some (q, m) then boundBy w c
      else if isOk (predict w c) = true ∧ callSrc w c = some (q, m) then none
      else w.lookup q m := by
  by_cases hb : isOk (predict w c) = true ∧ callDst w c = some (q, m)
  · rw [if_pos hb]
    obtain ⟨hok, hdst⟩ := hb
    have hdq : (w.dir q).isSome := hd (q, m) hdst
    cases c <;> simp [callDst] at hdst
    · rename_i d n
      obtain ⟨p, hp, rfl, rfl⟩ := hdst
      rcases openExcl_state w d n with ⟨p', hp', hl, hpr, hco⟩ | ⟨e, hpr⟩
      · rw [hp] at hp'; cases hp'
        rw [hpr, hco, lookup_created w p n hdq]; rfl
      · rw [hpr] at hok; cases hok
    · rename_i d1 n1 d2 n2
      obtain ⟨p, hp, rfl, rfl⟩ := hdst
      rcases renameat_state w d1 n1 d2 n2 with ⟨p1, p2, f, hp1, hp2, hl, hpr, hco⟩ | ⟨e, hpr, _, _⟩
      · rw [hp] at hp2; cases hp2
        rw [hpr, hco, lookup_bind _ _ _ _ _ _ (by rw [dir_unbind_isSome]; exact hdq), if_pos ⟨rfl, rfl⟩]
        simp [boundBy, World.lookupE, hp1, hl]
      · rw [hpr] at hok; cases hok
  · rw [if_neg hb]; exact step_lookup_ne w c q m hb

end Mdsort.Proofs.Parties
