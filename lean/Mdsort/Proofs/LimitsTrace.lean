import Mdsort.Proofs.LimitsMain

/-!
# What the simulation means for the traces of calls

`callsFrom` / `valueFrom` are the two components of `Own.runO` read from call index `i` (`callsFrom_eq`, `valueFrom_eq`: their
rules are those of `Own.runO`); they are definitions of their own because the statements of `Props/C18.lean` are written
with them.
-/

namespace Mdsort.Proofs.Limits
open Mdsort Mdsort.Model Mdsort.Proofs.World

def callsFrom {α} (orc : Nat → Call → Res) (p : Prog α) (i : Nat) : List (Call × Res) := (runOracle orc p i []).2
def valueFrom {α} (orc : Nat → Call → Res) (p : Prog α) (i : Nat) : α := (runOracle orc p i []).1

theorem callsFrom_eq {α} (orc : Nat → Call → Res) (p : Prog α) (i : Nat) : callsFrom orc p i = (Own.runO orc p i).2.1 := by
  rw [callsFrom, Own.runOracle_eq]
  rfl

theorem valueFrom_eq {α} (orc : Nat → Call → Res) (p : Prog α) (i : Nat) : valueFrom orc p i = (Own.runO orc p i).1 := by
  rw [valueFrom, Own.runOracle_eq]

theorem runOracle_eq_from {α} (orc : Nat → Call → Res) (p : Prog α) (i : Nat) (tr : List (Call × Res)) :
    runOracle orc p i tr = (valueFrom orc p i, tr ++ callsFrom orc p i) := by
  rw [callsFrom_eq, valueFrom_eq, Own.runOracle_eq]

@[simp] theorem callsFrom_ret {α} (orc : Nat → Call → Res) (a : α) (i : Nat) : callsFrom orc (Prog.ret a) i = [] := rfl
@[simp] theorem valueFrom_ret {α} (orc : Nat → Call → Res) (a : α) (i : Nat) : valueFrom orc (Prog.ret a) i = a := rfl

theorem callsFrom_call {α} (orc : Nat → Call → Res) (c : Call) (k : Res → Prog α) (i : Nat) :
    callsFrom orc (Prog.call c k) i = (c, orc i c) :: callsFrom orc (k (orc i c)) (i + 1) := by
  simp only [callsFrom_eq, Own.runO_call]

theorem valueFrom_call {α} (orc : Nat → Call → Res) (c : Call) (k : Res → Prog α) (i : Nat) :
    valueFrom orc (Prog.call c k) i = valueFrom orc (k (orc i c)) (i + 1) := by
  simp only [valueFrom_eq, Own.runO_call]

theorem callsFrom_bind {α β} (orc : Nat → Call → Res) (p : Prog α) (f : α → Prog β) (i : Nat) :
    callsFrom orc (p.bind f) i = callsFrom orc p i ++ callsFrom orc (f (valueFrom orc p i)) (i + (callsFrom orc p i).length) := by
  simp only [callsFrom_eq, valueFrom_eq, Own.runO_bind, ← Own.runO_index]

theorem valueFrom_bind {α β} (orc : Nat → Call → Res) (p : Prog α) (f : α → Prog β) (i : Nat) :
    valueFrom orc (p.bind f) i = valueFrom orc (f (valueFrom orc p i)) (i + (callsFrom orc p i).length) := by
  simp only [callsFrom_eq, valueFrom_eq, Own.runO_bind, ← Own.runO_index]

theorem _root_.Mdsort.Proofs.World.All.valueFrom {α} {P : α → Prop} {p : Prog α} (h : All P p) (orc : Nat → Call → Res) (i : Nat) :
    P (valueFrom orc p i) :=
  valueFrom_eq orc p i ▸ Own.all_runO h orc i

theorem _root_.Mdsort.Proofs.World.Calls.callsFrom {α} {Q : Call → Prop} {p : Prog α} (h : Calls Q p) (orc : Nat → Call → Res)
    (i : Nat) : ∀ x ∈ callsFrom orc p i, Q x.1 :=
  callsFrom_eq orc p i ▸ Own.calls_runO_mem h orc i

theorem Sim.trace {α} {S : Prog α → Prop} {p q : Prog α} (h : Sim S p q) (orc : Nat → Call → Res) : ∀ i,
    (valueFrom orc p i = valueFrom orc q i ∧ callsFrom orc p i = callsFrom orc q i) ∨
      ∃ (pre : List (Call × Res)) (p' q' : Prog α), S p' ∧
        callsFrom orc p i = pre ++ callsFrom orc p' (i + pre.length) ∧
        callsFrom orc q i = pre ++ callsFrom orc q' (i + pre.length) ∧
        valueFrom orc p i = valueFrom orc p' (i + pre.length) := by
  induction h with
  | ret a => intro i; exact .inl ⟨rfl, rfl⟩
  | call c k k' _ ih =>
    intro i
    rcases ih (orc i c) (i + 1) with ⟨h1, h2⟩ | ⟨pre, p', q', hs, h1, h2, h3⟩
    · left
      simp only [callsFrom_call, valueFrom_call, h1, h2, and_self]
    · right
      refine ⟨(c, orc i c) :: pre, p', q', hs, ?_, ?_, ?_⟩
      · rw [callsFrom_call, h1]
        simp only [List.cons_append, List.length_cons]
        congr 3
        omega
      · rw [callsFrom_call, h2]
        simp only [List.cons_append, List.length_cons]
        congr 3
        omega
      · rw [valueFrom_call, h3]
        simp only [List.length_cons]
        congr 1
        omega
  | stop p q hs =>
    intro i
    exact .inr ⟨[], p, q, hs, by simp, by simp, by simp⟩

/-- For a unit of work (or any function below it): after the common prefix `pre` the run under the smaller limits only
releases descriptors (`rels`); if anything differs, the value is an error value. -/
theorem Sim.trace_relErr {α} {E : α → Prop} {p q : Prog α} (h : Sim (RelErr E) p q) (orc : Nat → Call → Res) (i : Nat) :
    ∃ (pre rels : List (Call × Res)), callsFrom orc p i = pre ++ rels ∧ pre <+: callsFrom orc q i ∧
      (∀ x ∈ rels, x.1.isRelease = true) ∧
      ((valueFrom orc p i = valueFrom orc q i ∧ rels = [] ∧ pre = callsFrom orc q i) ∨ E (valueFrom orc p i)) := by
  rcases h.trace orc i with ⟨h1, h2⟩ | ⟨pre, p', q', hs, h1, h2, h3⟩
  · exact ⟨callsFrom orc q i, [], by simp [h2], List.prefix_refl _, by simp, .inl ⟨h1, rfl, rfl⟩⟩
  · refine ⟨pre, callsFrom orc p' (i + pre.length), h1, ?_, ?_, .inr ?_⟩
    · rw [h2]; exact List.prefix_append _ _
    · exact fun x hx => hs.1.callsFrom orc _ x hx
    · rw [h3]; exact hs.2.valueFrom orc _

/-- For the whole run: after the common prefix `pre` the run under the smaller limits releases (`rels`) what the unit that
overflowed holds, goes on with the next unit (`rest`), and ends in `Err`. -/
theorem Sim.trace_stopped {α : Type} {Err : α → Prop} {p q : Prog α}
    (h : Sim (Stopped Err) p q) (orc : Nat → Call → Res) (i : Nat) :
    (valueFrom orc p i = valueFrom orc q i ∧ callsFrom orc p i = callsFrom orc q i) ∨
      ∃ (pre rels rest : List (Call × Res)), callsFrom orc p i = pre ++ rels ++ rest ∧ pre <+: callsFrom orc q i ∧
        (∀ x ∈ rels, x.1.isRelease = true) ∧ Err (valueFrom orc p i) := by
  rcases h.trace orc i with h1 | ⟨pre, p', q', ⟨β, rel, k, rfl, hrel, hall⟩, h1, h2, h3⟩
  · exact .inl h1
  · right
    refine ⟨pre, callsFrom orc rel (i + pre.length),
      callsFrom orc (k (valueFrom orc rel (i + pre.length))) (i + pre.length + (callsFrom orc rel (i + pre.length)).length),
      ?_, ?_, ?_, ?_⟩
    · rw [h1, callsFrom_bind, List.append_assoc]
    · rw [h2]; exact List.prefix_append _ _
    · exact fun x hx => hrel.callsFrom orc _ x hx
    · rw [h3, valueFrom_bind]
      exact (hall.valueFrom orc _).valueFrom orc _

end Mdsort.Proofs.Limits
