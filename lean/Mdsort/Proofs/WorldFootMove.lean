import Mdsort.Proofs.WorldMid
import Mdsort.Proofs.WorldFaults
import Mdsort.Proofs.WorldVal

/-! The footprint of `maildir_move` under EVERY fault plan, with the faults counted and with NO assumption on the message (its
entry may be unbound: after a `discard`).  At every point of the script, and at its end, the directory entries are those of the
start (`same`), those plus ONE placeholder under a fresh name (`stray`), or those with the message's entry replaced by the
fresh name (`moved`): `Foot`, read through `Mid` (WorldMid), which also says that directories, older handles and older
files are as they were.  What is claimed only of a message whose entry was bound (`SrcBound`) sits behind that hypothesis
inside the post. -/

namespace Mdsort.Proofs.World
open Mdsort Mdsort.Model

/-- What a successful exclusive create of `n` in `p` makes of `wk`, field by field: where the new file is (as
`NewFile` says) and everything that did not change. -/
structure Created (wk w2 : World) (n p : Bytes) : Prop where
  obj : ∀ h, h < wk.handles.length → w2.obj h = wk.obj h
  fd : w2.obj wk.handles.length = .file wk.nextFid 0 true
  len : w2.handles.length = wk.handles.length + 1
  nextFid : w2.nextFid = wk.nextFid + 1
  look : ∀ q m, ¬(q = p ∧ m = n) → w2.lookup q m = wk.lookup q m
  bound : (wk.dir p).isSome → w2.lookup p n = some wk.nextFid
  dir : ∀ q, (w2.dir q).isSome = (wk.dir q).isSome
  file : ∀ g, g ≠ wk.nextFid → w2.file g = wk.file g
  newFile : w2.file wk.nextFid = some ⟨[], []⟩
  mtimes : w2.mtimes = wk.mtimes

theorem created_of_openExcl {wk : World} {d : Handle} {n p : Bytes} (hp : wk.dirPath d = some p) (hl : wk.lookup p n = none) :
    Created wk (stepWorld wk (.openExcl d n) (.ok wk.handles.length)) n p := by
  have hc := core_openExcl_ok hp hl wk.handles.length
  refine ⟨?_, ?_, ?_, ?_, ?_, ?_, ?_, ?_, ?_, ?_⟩
  · intro h hh
    rw [stepWorld_obj, hc, obj_newHandle]
    simp only [len_bind, len_setFile, obj_bind, obj_setFile]
    rw [if_neg (Nat.ne_of_lt hh)]
    rfl
  · rw [stepWorld_obj, hc, obj_newHandle]
    simp
  · rw [stepWorld_handles, hc]
    simp
  · rw [stepWorld_nextFid, hc]
    simp
  · intro q m hne
    rw [stepWorld_lookup, hc, lookup_newHandle, lookup_bind_ne _ _ _ _ _ _ hne, lookup_setFile]
    rfl
  · intro hdir
    rw [stepWorld_lookup, hc, lookup_newHandle, lookup_bind _ _ _ _ _ _ (by exact hdir)]
    simp
  · intro q
    rw [stepWorld_dir, hc, dir_newHandle, dir_bind_isSome, dir_setFile]
    rfl
  · intro g hg
    rw [stepWorld_file, hc, file_newHandle, file_bind, file_setFile, if_neg hg]
    rfl
  · rw [stepWorld_file, hc, file_newHandle, file_bind, file_setFile, if_pos rfl]
  · rw [stepWorld_mtimes, hc, mtimes_newHandle, mtimes_bind, mtimes_setFile]

inductive Foot where
  | same
  | stray (b : Ent) (N : Nat)
  | moved (b : Ent) (g : Nat)

/-- The entries the footprint stands for, relative to `w`; `a` is the entry of the message. -/
def Foot.ents (w : World) (a : Ent) : Foot → Ent → Option Nat
  | .same => lk w
  | .stray b N => fun x => if x = b then some N else lk w x
  | .moved b g => fun x => if x = b then some g else if x = a then none else lk w x

def Foot.new : Foot → Option Ent
  | .same => none
  | .stray b _ => some b
  | .moved b _ => some b

/-- The new name was free.  Which file it is bound to is said by `MoveOut` / `WriteOut`, for a message whose entry was bound
(`SrcBound`). -/
def Foot.Ok (w : World) : Foot → Prop
  | .same => True
  | .stray b _ => lk w b = none
  | .moved b _ => lk w b = none

/-- The invariant of the walk: after every call the world is the start with one of the three footprints. -/
def FootI (w : World) (a : Ent) (w' : World) : Prop := ∃ s : Foot, s.Ok w ∧ Mid w w' (s.ents w a)

section
variable {w w' : World} {a : Ent} {s : Foot}

theorem Foot.ents_old (hs : s.Ok w) {x : Ent} {fid : Nat} (hx : x ≠ a) (h : lk w x = some fid) : s.ents w a x = some fid := by
  cases s with
  | same => exact h
  | stray b N =>
    have : x ≠ b := by rintro rfl; rw [hs] at h; cases h
    simp only [Foot.ents, this, if_false]; exact h
  | moved b g =>
    have : x ≠ b := by rintro rfl; rw [hs] at h; cases h
    simp only [Foot.ents, this, hx, if_false]; exact h

theorem Foot.ents_new {x : Ent} {fid : Nat} (h : s.ents w a x = some fid) : s.new = some x ∨ lk w x = some fid := by
  cases s with
  | same => exact .inr h
  | stray b N =>
    by_cases hx : x = b
    · exact .inl (by rw [hx]; rfl)
    · simp only [Foot.ents, hx, if_false] at h; exact .inr h
  | moved b g =>
    by_cases hx : x = b
    · exact .inl (by rw [hx]; rfl)
    · simp only [Foot.ents, hx, if_false] at h
      split at h
      · cases h
      · exact .inr h

end

def SrcBound (w : World) (a : Ent) : Prop := ∃ g, lk w a = some g

/-- What is known of the result of `maildir_move` whether or not the message's entry was bound: the new name is a candidate
of `maildir_genname` in the destination (`new`; its one reader is the stdin delivery: a candidate contains `_`, `cand_has95`,
so it is no name of the spool); after a success it is the message's name and the old entry is gone (or is that name:
the name of a message that has been discarded can be generated again). -/
structure MoveAny (env : PEnv) (ms : MsgSt) (a : Ent) (pd : Bytes) (r : MsgSt × Bool) (w' : World) (s : Foot) : Prop where
  msg : r.1.msg = ms.msg
  fd : r.1.fd = ms.fd
  new : ∀ b, s.new = some b → ∃ fl c, b = (pd, cand env fl c)
  ok : r.2 = false → (∃ fl c, r.1.name = cand env fl c) ∧ (∀ b, s.new = some b → b = (pd, r.1.name)) ∧
    (lk w' a = none ∨ a = (pd, r.1.name))

/-- The exact result of `maildir_move` by footprint, for a message whose entry was bound.  `n0`, `n`: the count of injected
faults before and after; `mt`: the time the `fstatat` gave.  `n0 + 2` (here, in `WriteOut`, and as `n < n0 + 2` in `MoveC` / `WriteC` /
`ExecC`): for such a message a placeholder stays behind only after two faults - one makes the script fail, a second makes the
`unlinkat` of the roll-back fail. -/
def MoveOut (w : World) (a : Ent) (dst : Maildir) (ms : MsgSt) (mt : Option Nat) (n0 n : Nat)
    (r : MsgSt × Bool) (w' : World) : Foot → Prop
  | .same => r = (ms, true)
  | .stray _ _ => r = (ms, true) ∧ n0 + 2 ≤ n
  | .moved b g => r.1.loc = some (dst.path, b.2) ∧
      ((lk w a = some g ∧ r.1.content = ms.content) ∨
        (g = w.nextFid ∧ g < w'.nextFid ∧ w'.file g = some ⟨(messageWrite ms.msg).1, (messageWrite ms.msg).1⟩ ∧
          r.1.content = (messageWrite ms.msg).1)) ∧
      (r.2 = false → (∀ t, mt = some t → w'.mtime g = t) ∧ (mt = none → w'.mtimes = w.mtimes))

def MoveFoot (env : PEnv) (w : World) (a : Ent) (dst : Maildir) (ms : MsgSt) (pd : Bytes) (mt : Option Nat) (n0 n : Nat)
    (r : MsgSt × Bool) (w' : World) : Prop :=
  ∃ s : Foot, s.Ok w ∧ Mid w w' (s.ents w a) ∧ MoveAny env ms a pd r w' s ∧ (SrcBound w a → MoveOut w a dst ms mt n0 n r w' s)

theorem MoveFoot.footI {env : PEnv} {w : World} {a : Ent} {dst : Maildir} {ms : MsgSt} {pd : Bytes} {mt : Option Nat}
    {n0 n : Nat} {r : MsgSt × Bool} {w' : World} (h : MoveFoot env w a dst ms pd mt n0 n r w') : FootI w a w' := by
  obtain ⟨s, h1, h2, -, -⟩ := h
  exact ⟨s, h1, h2⟩

section
variable {env : PEnv} {w : World} {a : Ent} {dst : Maildir} {ms : MsgSt} {dh fd : Handle} {pd nm : Bytes} {mt : Option Nat} {n0 : Nat}

/-- The roll-back: the placeholder is removed, or - by one more fault - stays behind. -/
theorem foot_tail_err (ss : Subdir) {w3 : World} {N n3 : Nat} (hdh : dst.dirH = some dh)
    (hnm : ∃ fl c, nm = cand env fl c) (hfree : lk w (pd, nm) = none)
    (m3 : Mid w w3 (fun x => if x = (pd, nm) then some N else lk w x)) (hpd3 : w3.dirPath dh = some pd)
    (hfd : w.handles.length ≤ fd) (hc : SrcBound w a → n0 < n3) :
    wpC (FootI w a) (moveTail ss dst dh fd nm mt true ms) (MoveFoot env w a dst ms pd mt n0) n3 w3 := by
  rw [moveTail_err, maildirUnlink_eq, hdh]
  simp only [call_bind', ret_bind]
  refine wpC_call_res rfl fun r n4 hr => ?_
  have hn34 : n3 ≤ n4 := by rcases hr with ⟨-, rfl⟩ | ⟨rfl, -⟩ <;> omega
  rcases unlinkat_cases (hr.elim (fun h => .inl h.1) fun h => h.2) with ⟨e, rfl, hpe⟩ | ⟨rfl, -⟩
  · -- the roll-back failed: that took a fault, since the placeholder is bound
    have hn4 : n4 = n3 + 1 := by
      rcases hr with ⟨h, -⟩ | ⟨h, -⟩
      · have := hpe h pd hpd3
        rw [m3.at_new] at this
        cases this
      · exact h
    have m4 := m3.err (.unlinkat dh nm) e rfl
    refine ⟨⟨.stray (pd, nm) N, hfree, m4⟩, wpC_call_any fun r2 n5 hn5 => ?_⟩
    have m5 := m4.step (.close fd) r2 rfl (by intro h hh; cases hh; exact hfd) (fun _ _ => trivial)
    obtain ⟨fl, c, hfc⟩ := hnm
    exact ⟨⟨.stray (pd, nm) N, hfree, m5⟩, .stray (pd, nm) N, hfree, m5,
      ⟨rfl, rfl, fun b hb => by cases hb; exact ⟨fl, c, by rw [hfc]⟩, nofun⟩,
      fun hb => ⟨rfl, by have := hc hb; omega⟩⟩
  · have m4 := m3.unlink_new hfree hpd3 0
    refine ⟨⟨.same, trivial, m4⟩, wpC_call_any fun r2 n5 _ => ?_⟩
    have m5 := m4.step (.close fd) r2 rfl (by intro h hh; cases hh; exact hfd) (fun _ _ => trivial)
    exact ⟨⟨.same, trivial, m5⟩, .same, trivial, m5, ⟨rfl, rfl, nofun, nofun⟩, fun _ => rfl⟩

/-- The end of a `maildir_move` that has not failed so far, from any footprint `s` (for a message whose entry was bound it is
`moved`). -/
theorem foot_tail_ok (ss : Subdir) {w3 : World} {s : Foot} {ms' : MsgSt} {n3 : Nat}
    (hs : s.Ok w) (m3 : Mid w w3 (s.ents w a))
    (hmsg : ms'.msg = ms.msg) (hfdm : ms'.fd = ms.fd) (hloc : ms'.loc = some (dst.path, nm))
    (hnm : ∃ fl c, nm = cand env fl c) (hnew : ∀ b, s.new = some b → b = (pd, nm))
    (hgone : lk w3 a = none ∨ a = (pd, nm))
    (hpd3 : w3.dirPath dh = some pd) (hne : dh ≠ fd) (hfd : w.handles.length ≤ fd) (hmt : w3.mtimes = w.mtimes)
    (hex : SrcBound w a → ∃ g, s = .moved (pd, nm) g ∧ w3.lookup pd nm = some g ∧
      ((lk w a = some g ∧ ms'.content = ms.content) ∨
        (g = w.nextFid ∧ g < w3.nextFid ∧ w3.file g = some ⟨(messageWrite ms.msg).1, (messageWrite ms.msg).1⟩ ∧
          ms'.content = (messageWrite ms.msg).1))) :
    wpC (FootI w a) (moveTail ss dst dh fd nm mt false ms') (MoveFoot env w a dst ms pd mt n0) n3 w3 := by
  -- what a world `w5` reached by calls that change neither entries nor files gives for a result `r`
  have fin : ∀ (w5 : World) (r : MsgSt × Bool) (n : Nat), Mid w w5 (s.ents w a) → (∀ x, lk w5 x = lk w3 x) →
      (∀ g f, g < w3.nextFid → w3.file g = some f → w5.file g = some f) → w3.nextFid ≤ w5.nextFid →
      r.1.msg = ms'.msg → r.1.fd = ms'.fd → r.1.loc = ms'.loc → r.1.content = ms'.content → (r.2 = false → r.1.name = nm) →
      (r.2 = false → ∀ g, w3.lookup pd nm = some g → (∀ t, mt = some t → w5.mtime g = t) ∧ (mt = none → w5.mtimes = w.mtimes)) →
      MoveFoot env w a dst ms pd mt n0 n r w5 := by
    intro w5 r n m5 hlk hfile hnf h1 h2 h3 h4 h5 h6
    obtain ⟨fl, c, hfc⟩ := hnm
    refine ⟨s, hs, m5, ⟨h1.trans hmsg, h2.trans hfdm, fun b hb => ⟨fl, c, by rw [hnew b hb, hfc]⟩, fun hr => ?_⟩, fun hb => ?_⟩
    · rw [h5 hr]
      exact ⟨⟨fl, c, hfc⟩, hnew, by rw [hlk]; exact hgone⟩
    · obtain ⟨g, rfl, hl, hcont⟩ := hex hb
      refine ⟨by rw [h3, hloc], ?_, fun hr => h6 hr g hl⟩
      rw [h4]
      rcases hcont with h | ⟨hg, hlt, hf, hc⟩
      · exact .inl h
      · exact .inr ⟨hg, Nat.lt_of_lt_of_le hlt hnf, hfile g _ hlt hf, hc⟩
  rw [moveTail_ok]
  refine wpC_call_any fun rc n4 _ => ?_
  have m4 := m3.step (.close fd) rc rfl (by intro h hh; cases hh; exact hfd) (fun _ _ => trivial)
  have hlk4 : ∀ x, lk (stepWorld w3 (.close fd) rc) x = lk w3 x := lk_step w3 _ rc rfl
  have hf4 : ∀ g f, g < w3.nextFid → w3.file g = some f → (stepWorld w3 (.close fd) rc).file g = some f :=
    fun g f hg hf => (file_step hf hg (.close fd) rc trivial).1
  have hnf4 : w3.nextFid ≤ (stepWorld w3 (.close fd) rc).nextFid := core_nextFid w3 _ rc
  have hmt4 : (stepWorld w3 (.close fd) rc).mtimes = w.mtimes := (core_mtimes w3 _ rc rfl).trans hmt
  have hpd4 := dirPath_step hpd3 (.close fd) rc fun h => hne (Option.some.inj h).symm
  refine ⟨⟨s, hs, m4⟩, ?_⟩
  generalize stepWorld w3 (.close fd) rc = w4 at m4 hlk4 hf4 hnf4 hmt4 hpd4 ⊢
  obtain ⟨f2, f1, -, f3, f4, f5'⟩ := setFileMoved_val ms' ss dst.subdir dst.path nm
  have f5 := fun h => (f5' h).2
  cases mt with
  | none =>
    exact fin w4 _ n4 m4 hlk4 hf4 hnf4 f1 f2 f3 f4 f5 fun _ _ _ => ⟨nofun, fun _ => hmt4⟩
  | some t =>
    refine wpC_call_res rfl fun r2 n5 hr => ?_
    have m5 := m4.step (.utimensat dh nm none (some t)) r2 rfl nofun (fun _ _ => trivial)
    have hlk5 : ∀ x, lk (stepWorld w4 (.utimensat dh nm none (some t)) r2) x = lk w3 x :=
      fun x => (lk_step w4 _ r2 rfl x).trans (hlk4 x)
    have hf5 : ∀ g f, g < w3.nextFid → w3.file g = some f →
        (stepWorld w4 (.utimensat dh nm none (some t)) r2).file g = some f :=
      fun g f hg hf => (file_step (hf4 g f hg hf) (Nat.lt_of_lt_of_le hg hnf4) (.utimensat dh nm none (some t)) r2 trivial).1
    have hnf5 : w3.nextFid ≤ (stepWorld w4 (.utimensat dh nm none (some t)) r2).nextFid :=
      Nat.le_trans hnf4 (core_nextFid w4 _ r2)
    refine ⟨⟨s, hs, m5⟩, ?_⟩
    rcases utimensat_cases (hr.elim (fun h => .inl h.1) fun h => h.2) with ⟨e, rfl⟩ | ⟨rfl, p, fid, hp, hl⟩
    · exact fin _ (ms', true) n5 m5 hlk5 hf5 hnf5 rfl rfl rfl rfl nofun nofun
    · refine fin _ _ n5 m5 hlk5 hf5 hnf5 f1 f2 f3 f4 f5 fun _ g hg => ⟨fun t' ht' => ?_, nofun⟩
      cases ht'
      obtain rfl : p = pd := Option.some.inj (hp.symm.trans hpd4)
      have hg4 : w4.lookup p nm = some g := (hlk4 (p, nm)).trans hg
      obtain rfl : fid = g := Option.some.inj (hl.symm.trans hg4)
      rw [stepWorld_mtime, core_utimensat_ok hp hl none t 0, mtime_setMtime, if_pos rfl]

/-- The placeholder `(pd, nm) ↦ w.nextFid` that a successful `maildir_genname` has made in the directory of `dh`, its
descriptor `fd`, and what else is known in the world `w2` after it. -/
structure Placed (env : PEnv) (w : World) (dh : Handle) (pd : Bytes) (fd : Handle) (nm : Bytes) (w2 : World) : Prop where
  cand : ∃ fl c, nm = cand env fl c
  free : lk w (pd, nm) = none
  mid : Mid w w2 (fun x => if x = (pd, nm) then some w.nextFid else lk w x)
  mtimes : w2.mtimes = w.mtimes
  next : w.nextFid < w2.nextFid
  obj : w2.obj fd = .file w.nextFid 0 true
  file : w2.file w.nextFid = some ⟨[], []⟩
  fdGe : w.handles.length ≤ fd
  ne : dh ≠ fd

theorem foot_genname (env : PEnv) (md : Maildir) (flags : Option Bytes) (a : Ent) {w w1 : World} {dh : Handle} {pd : Bytes}
    (hdh : md.dirH = some dh) (hpd : w.dirPath dh = some pd) (hdd : (w.dir pd).isSome) (hs1 : SameFs w w1) (fuel count : Nat) :
    wp (FootI w a) (genname env md flags fuel count)
      (fun g w2 => (g = none ∧ SameFs w w2) ∨ ∃ fd nm, g = some (fd, nm) ∧ Placed env w dh pd fd nm w2) w1 := by
  refine wp_mono (spec_gen env md flags dh pd hdh (FootI w a) hpd
    (fun w' hs => ⟨.same, trivial, (Mid.refl w).of_same hs⟩)
    (fun wk n hs hl => ⟨.stray (pd, n) wk.nextFid, (hs.lookup pd n).symm.trans hl,
      ((Mid.refl w).of_same hs).create (by rw [hs.dirPath]; exact hpd) hl (by rw [hs.dir]; exact hdd) _⟩)
    fuel count hs1) ?_
  rintro g w2 (⟨rfl, hs⟩ | ⟨wk, c, hs, -, -, hl, rfl, rfl⟩)
  · exact .inl ⟨rfl, hs⟩
  have hpk : wk.dirPath dh = some pd := by rw [hs.dirPath]; exact hpd
  have cr := created_of_openExcl hpk hl
  refine .inr ⟨_, _, rfl, ⟨_, _, rfl⟩, (hs.lookup pd _).symm.trans hl, ?_, cr.mtimes.trans hs.mtimes, ?_, ?_, ?_,
    by rw [hs.handles]; exact Nat.le_refl _, Nat.ne_of_lt (lt_of_dirPath hpk)⟩
  · rw [← hs.nextFid]
    exact ((Mid.refl w).of_same hs).create hpk hl (by rw [hs.dir]; exact hdd) wk.handles.length
  · rw [← hs.nextFid, cr.nextFid]; exact Nat.lt_succ_self _
  · rw [← hs.nextFid]; exact cr.fd
  · rw [← hs.nextFid]; exact cr.newFile

theorem Placed.bound {env : PEnv} {w : World} {dh : Handle} {pd : Bytes} {fd : Handle} {nm : Bytes} {w2 : World}
    (P : Placed env w dh pd fd nm w2) {a : Ent} {w' : World}
    (m : Mid w w' (fun x => if x = (pd, nm) then some w.nextFid else lk w x)) (hb : SrcBound w a) :
    ∃ g0, w'.lookup a.1 a.2 = some g0 := by
  obtain ⟨g0, hg0⟩ := hb
  have hab : a ≠ (pd, nm) := by
    intro h; rw [h, P.free] at hg0; cases hg0
  exact ⟨g0, (m.at_old hab).trans hg0⟩

theorem foot_moveRest (env : PEnv) (src dst : Maildir) (ms : MsgSt) (sh dh : Handle) (mt : Option Nat) {w : World} {ps pd : Bytes}
    (hsh : src.dirH = some sh) (hdh : dst.dirH = some dh) (hps : w.dirPath sh = some ps) (hpd : w.dirPath dh = some pd)
    (hdd : (w.dir pd).isSome) {n0 n' : Nat} (hn : n0 ≤ n') {w1 : World} (hs1 : SameFs w w1) :
    wpC (FootI w (ps, ms.name)) (moveRest env src dst ms sh dh mt) (MoveFoot env w (ps, ms.name) dst ms pd mt n0) n' w1 := by
  have same : ∀ {n : Nat} {w' : World}, SameFs w w' → MoveFoot env w (ps, ms.name) dst ms pd mt n0 n (ms, true) w' := fun hs =>
    ⟨.same, trivial, (Mid.refl w).of_same hs, ⟨rfl, rfl, nofun, nofun⟩, fun _ => rfl⟩
  unfold moveRest gennameStart
  -- with the literal fuel, checking the next step against the goal would unfold `genname`
  generalize gennameAttempts = fuel
  simp only [bind_eq, pure_eq, call_bind]
  split
  · exact same hs1
  rename_i fl _
  refine wpC_bind_mono (wpC_of_wp (foot_genname env dst (some fl) (ps, ms.name) hdh hpd hdd hs1 fuel _) n') ?_
  rintro n1 g w2 ⟨hn1, (⟨rfl, hs⟩ | ⟨fd, nm, rfl, P⟩)⟩
  · exact same hs
  dsimp only
  -- `id`: `obtain` on `P` itself would clear it; `P.bound` is used below
  obtain ⟨hnm, hfree, m2, hmt2, hN2, ho2, hf2, hfd, hne⟩ := id P
  have hps2 := m2.dirPath hps
  have hpd2 := m2.dirPath hpd
  have hdir2 : (w2.dir pd).isSome := by rw [m2.dirSome]; exact hdd
  refine wpC_call_res rfl fun r n2 hr => ?_
  have hn12 : n1 ≤ n2 := by rcases hr with ⟨-, rfl⟩ | ⟨rfl, -⟩ <;> omega
  have hmt3 : (stepWorld w2 (.renameat sh ms.name dh nm) r).mtimes = w.mtimes := (core_mtimes w2 _ r rfl).trans hmt2
  have hpd3 := dirPath_step hpd2 (.renameat sh ms.name dh nm) r (by intro h; cases h)
  rcases renameat_cases (hr.elim (fun h => .inl h.1) fun h => h.2) with ⟨e, rfl⟩ | ⟨rfl, p1, p2, fidS, hp1, hp2, hlS⟩
  · -- the rename failed
    have m3 := m2.err (.renameat sh ms.name dh nm) e rfl
    have hps3 := dirPath_step hps2 (.renameat sh ms.name dh nm) (.err e) (by intro h; cases h)
    refine ⟨⟨.stray (pd, nm) w.nextFid, hfree, m3⟩, ?_⟩
    have hcore := core_fail w2 (c := .renameat sh ms.name dh nm) e rfl
    have ho3 : (stepWorld w2 (.renameat sh ms.name dh nm) (.err e)).obj fd = .file w.nextFid 0 true := by
      rw [stepWorld_obj, hcore]; exact ho2
    have hf3 : (stepWorld w2 (.renameat sh ms.name dh nm) (.err e)).file w.nextFid = some ⟨[], []⟩ := by
      rw [stepWorld_file, hcore]; exact hf2
    have hN3 : w.nextFid < (stepWorld w2 (.renameat sh ms.name dh nm) (.err e)).nextFid := by
      rw [stepWorld_nextFid, hcore]; exact hN2
    -- a failure other than EXDEV of a rename whose source is bound is a fault
    have hcnt : (e == "EXDEV") = false → SrcBound w (ps, ms.name) → n1 < n2 := by
      intro hx hb
      obtain ⟨g0, hl2⟩ := P.bound m2 hb
      rcases hr with ⟨h, -⟩ | ⟨rfl, -⟩
      · exfalso
        rcases predict_renameat_bound (n2 := nm) hps2 hpd2 hl2 with h' | h' <;> rw [h'] at h <;> cases h
        simp at hx
      · exact Nat.lt_succ_self _
    generalize stepWorld w2 (.renameat sh ms.name dh nm) (.err e) = w3 at m3 hmt3 hpd3 hps3 ho3 hf3 hN3 ⊢
    by_cases hx : (e == "EXDEV") = true
    · -- across devices: copy, then unlink the source
      simp only [moveCopy, hx, if_true, bind_eq, pure_eq, bind_assoc]
      refine wpC_bind_mono (wpC_of_wp_clean (wp_inv_mono (traj_messageWriteP ms.msg fd ho3 hf3)
        (fun _ h => (⟨.stray (pd, nm) w.nextFid, hfree,
          m3.frame h.fr.fr1 (fun g hg => by subst hg; exact Nat.le_refl _)⟩ : FootI w (ps, ms.name) _)))
        (clean_messageWriteP ms.msg fd) n2) ?_
      rintro n3 we w4 ⟨hn3, ⟨⟨f, hf4, hcont⟩, mw⟩, hclean⟩
      have fr1 := mw.fr.fr1
      have m4 := m3.frame fr1 (fun g hg => by subst hg; exact Nat.le_refl _)
      have hmt4 := mw.fr.mtimes.trans hmt3
      have hpd4 : w4.dirPath dh = some pd := by rw [← hpd3]; exact dirPath_congr (fr1.objs dh (lt_of_dirPath hpd3))
      have hps4 : w4.dirPath sh = some ps := by rw [← hps3]; exact dirPath_congr (fr1.objs sh (lt_of_dirPath hps3))
      have hN4 : w.nextFid < w4.nextFid := Nat.lt_of_lt_of_le hN3 fr1.nextFid
      cases we with
      | true =>
        simp only [if_true, ret_bind]
        exact foot_tail_err _ hdh hnm hfree m4 hpd4 hfd fun _ => by have := hclean rfl; omega
      | false =>
        simp only [Bool.false_eq_true, if_false, maildirUnlink_eq, hsh, call_bind', ret_bind]
        refine wpC_call_res rfl fun ru n4 hru => ?_
        have hn34 : n3 ≤ n4 := by rcases hru with ⟨-, rfl⟩ | ⟨rfl, -⟩ <;> omega
        have hmt5 : (stepWorld w4 (.unlinkat sh ms.name) ru).mtimes = w.mtimes := (core_mtimes w4 _ ru rfl).trans hmt4
        have hpd5 := dirPath_step hpd4 (.unlinkat sh ms.name) ru (by intro h; cases h)
        rcases unlinkat_cases (hru.elim (fun h => .inl h.1) fun h => h.2) with ⟨e', rfl, hpe⟩ | ⟨rfl, p, fidY, hp, hlY⟩
        · have m5 := m4.err (.unlinkat sh ms.name) e' rfl
          refine ⟨⟨.stray (pd, nm) w.nextFid, hfree, m5⟩, ?_⟩
          simp only [isOk, Bool.not_false, if_true]
          refine foot_tail_err _ hdh hnm hfree m5 hpd5 hfd fun hb => ?_
          -- the source is bound, so the failure is a fault
          obtain ⟨g0, hl4⟩ := P.bound m4 hb
          rcases hru with ⟨h, -⟩ | ⟨rfl, -⟩
          · have := hpe h ps hps4
            rw [hl4] at this; cases this
          · omega
        · obtain rfl : p = ps := Option.some.inj (hp.symm.trans hps4)
          simp only [isOk, Bool.not_true, Bool.false_eq_true, if_false]
          have m5 := m4.unlink hp hlY 0
          have hf5 := file_step hf4 hN4 (.unlinkat sh ms.name) (.ok 0) trivial
          generalize stepWorld w4 (.unlinkat sh ms.name) (.ok 0) = w5 at m5 hmt5 hpd5 hf5 ⊢
          by_cases hab : ((p, ms.name) : Ent) = (pd, nm)
          · -- the message's own (unbound) name was generated again: its placeholder has been removed
            have m5' : Mid w w5 (Foot.same.ents w (p, ms.name)) := m5.congr fun x => by
              by_cases hx : x = (p, ms.name)
              · subst hx; simp only [if_true, Foot.ents]; rw [hab, hfree]
              · have : x ≠ (pd, nm) := hab ▸ hx
                simp only [hx, this, if_false, Foot.ents]
            refine ⟨⟨.same, trivial, m5'⟩, ?_⟩
            refine foot_tail_ok _ (s := .same) trivial m5' rfl rfl rfl hnm nofun (.inr hab) hpd5 hne hfd hmt5 fun hb => ?_
            obtain ⟨g0, hg0⟩ := hb
            rw [hab, hfree] at hg0; cases hg0
          · have hba : ((pd, nm) : Ent) ≠ (p, ms.name) := fun h => hab h.symm
            have m5' : Mid w w5 ((Foot.moved (pd, nm) w.nextFid).ents w (p, ms.name)) := m5.congr fun x => by
              by_cases hx : x = (pd, nm)
              · subst hx; simp only [hba, if_false, if_true, Foot.ents]
              · simp only [hx, if_false, Foot.ents]
            refine ⟨⟨.moved (pd, nm) w.nextFid, hfree, m5'⟩, ?_⟩
            refine foot_tail_ok _ (s := .moved (pd, nm) w.nextFid) hfree m5' rfl rfl rfl hnm (fun b hb => by cases hb; rfl)
              (.inl (by rw [m5.look]; simp only [if_true])) hpd5 hne hfd hmt5 fun _ => ⟨w.nextFid, rfl, ?_, .inr ⟨rfl, hf5.2, ?_, rfl⟩⟩
            · have := m5'.look (pd, nm)
              simp only [Foot.ents, if_true] at this
              exact this
            · rw [hf5.1, File.eq_of_written (hcont rfl).1 (hcont rfl).2]
    · simp only [moveCopy, hx, Bool.false_eq_true, if_false, bind_eq, pure_eq, ret_bind]
      exact foot_tail_err _ hdh hnm hfree m3 hpd3 hfd fun hb => by have := hcnt (by simpa using hx) hb; omega
  · -- the rename succeeded
    obtain rfl : p1 = ps := Option.some.inj (hp1.symm.trans hps2)
    obtain rfl : p2 = pd := Option.some.inj (hp2.symm.trans hpd2)
    have m3 := m2.rename hp1 hp2 hlS hdir2 0 (n2 := nm)
    have m3' : Mid w (stepWorld w2 (.renameat sh ms.name dh nm) (.ok 0)) ((Foot.moved (p2, nm) fidS).ents w (p1, ms.name)) :=
      m3.congr fun x => by
        by_cases hx : x = (p2, nm)
        · simp only [hx, if_true, Foot.ents]
        · simp only [hx, if_false, Foot.ents]
    have hfid : ((p1, ms.name) : Ent) ≠ (p2, nm) → lk w (p1, ms.name) = some fidS := fun hab =>
      ((m2.at_old hab).symm.trans hlS)
    refine ⟨⟨.moved (p2, nm) fidS, hfree, m3'⟩, ?_⟩
    simp only [moveCopy, pure_eq, ret_bind]
    refine foot_tail_ok _ (s := .moved (p2, nm) fidS) hfree m3' rfl rfl rfl hnm (fun b hb => by cases hb; rfl) ?_ hpd3 hne hfd hmt3 fun hb => ?_
    · by_cases hab : ((p1, ms.name) : Ent) = (p2, nm)
      · exact .inr hab
      · left
        rw [m3'.look]
        simp only [Foot.ents, hab, if_false, if_true]
    · have hab : ((p1, ms.name) : Ent) ≠ (p2, nm) := by
        obtain ⟨g0, hg0⟩ := hb
        intro h; rw [h, hfree] at hg0; cases hg0
      refine ⟨fidS, rfl, ?_, .inl ⟨hfid hab, rfl⟩⟩
      have := m3'.look (p2, nm)
      simp only [Foot.ents, if_true] at this
      exact this

end

theorem foot_maildirMove (env : PEnv) (src dst : Maildir) (ms : MsgSt) {sh dh : Handle} {w : World} {ps pd : Bytes}
    (hsh : src.dirH = some sh) (hdh : dst.dirH = some dh) (hps : w.dirPath sh = some ps) (hpd : w.dirPath dh = some pd)
    (hdd : (w.dir pd).isSome) (n0 : Nat) :
    wpC (FootI w (ps, ms.name)) (maildirMove env src dst ms)
      (fun n r w' => ∃ mt, MoveFoot env w (ps, ms.name) dst ms pd mt n0 n r w') n0 w := by
  rw [maildirMove_eq]
  split
  · exact ⟨none, .same, trivial, Mid.refl w, ⟨rfl, rfl, nofun, nofun⟩, fun _ => rfl⟩
  simp only [hsh, hdh]
  split
  · simp only [call_bind', ret_bind]
    refine wpC_call_any fun r n1 hn1 => ?_
    have hs1 := sameFs_fstatat w sh ms.name r
    refine ⟨⟨.same, trivial, (Mid.refl w).of_same hs1⟩, ?_⟩
    exact wpC_mono (foot_moveRest env src dst ms sh dh (statMtime r) hsh hdh hps hpd hdd hn1 hs1) fun _ _ _ h => ⟨statMtime r, h⟩
  · simp only [ret_bind]
    exact wpC_mono (foot_moveRest env src dst ms sh dh none hsh hdh hps hpd hdd (Nat.le_refl _) (SameFs.refl w)) fun _ _ _ h => ⟨none, h⟩

end Mdsort.Proofs.World
