import Mdsort.Proofs.EvalPTree
import Mdsort.Proofs.Captures
import Mdsort.Model.Inspect

/-! For C06.  (1) Evaluation under `-d` and without it agree up to the key and value a dry run records in each entry
(`eraseKV`; `Insp.eval_er`: evaluation commutes with forgetting them).  (2) Without `-d`, `matches_inspect` prints one
`-> destination` line per action entry (`destLines`).  The explanations a dry run adds: Proofs/InspectTrue.lean. -/

namespace Mdsort.Proofs
open Mdsort Mdsort.Model

/-- Forget the two fields that only a dry run fills in (`mh_key`, `mh_val`). -/
def eraseKV (ml : MatchList) : MatchList := ml.map fun m => { m with key := none, val := none }

def flipDry (env : Env) : Env := { env with dryrun := !env.dryrun }

/-- Interpolation looks at types and captures (`capKey`), which stay. -/
theorem capKey_eraseKV (ml : MatchList) : (eraseKV ml).map capKey = ml.map capKey := by
  rw [eraseKV, List.map_map]
  rfl

namespace Insp

def erase1 (m : Match) : Match := { m with key := none, val := none }

theorem eraseKV_map (ml : MatchList) : eraseKV ml = ml.map erase1 := rfl
@[simp] theorem erase1_idem (m : Match) : erase1 (erase1 m) = erase1 m := rfl
@[simp] theorem erase1_ty (m : Match) : (erase1 m).ty = m.ty := rfl
@[simp] theorem erase1_subs (m : Match) : (erase1 m).subs = m.subs := rfl
@[simp] theorem erase1_maildir (m : Match) : (erase1 m).maildir = m.maildir := rfl
@[simp] theorem erase1_subdir (m : Match) : (erase1 m).subdir = m.subdir := rfl
@[simp] theorem eraseKV_nil : eraseKV [] = [] := rfl
@[simp] theorem eraseKV_cons (m : Match) (ml : MatchList) : eraseKV (m :: ml) = erase1 m :: eraseKV ml := rfl
@[simp] theorem eraseKV_append (a b : MatchList) : eraseKV (a ++ b) = eraseKV a ++ eraseKV b := by
  simp [eraseKV_map]
@[simp] theorem eraseKV_idem (ml : MatchList) : eraseKV (eraseKV ml) = eraseKV ml := by
  simp [eraseKV_map]
theorem eraseKV_length (ml : MatchList) : (eraseKV ml).length = ml.length := by simp [eraseKV_map]
theorem eraseKV_take (ml : MatchList) (n : Nat) : eraseKV (ml.take n) = (eraseKV ml).take n := by
  simp [eraseKV_map]
theorem eraseKV_dropLast (ml : MatchList) : eraseKV ml.dropLast = (eraseKV ml).dropLast := by
  simp [eraseKV_map]
theorem eraseKV_getLast? (ml : MatchList) : (eraseKV ml).getLast? = ml.getLast?.map erase1 := by
  simp [eraseKV_map]
theorem matchesFind_erase (ml : MatchList) (t : MType) :
    matchesFind (eraseKV ml) t = (matchesFind ml t).map erase1 := by
  unfold matchesFind
  rw [eraseKV_map, List.find?_map]
  rfl

theorem eraseKV_filter_ty (ml : MatchList) (p : MType → Bool) :
    (eraseKV ml).filter (fun m => p m.ty) = eraseKV (ml.filter (fun m => p m.ty)) := by
  rw [eraseKV_map, List.filter_map]
  rfl

theorem matchesRemove_erase (ml : MatchList) (t : MType) :
    matchesRemove (eraseKV ml) t = (eraseKV (matchesRemove ml t).1, (matchesRemove ml t).2) := by
  unfold matchesRemove
  simp only
  rw [eraseKV_filter_ty ml (fun ty => ty != t), eraseKV_filter_ty _ (fun ty => ty.isAction), eraseKV_length]

theorem removeFirst_erase (ml : MatchList) (t : MType) :
    removeFirst (eraseKV ml) t = eraseKV (removeFirst ml t) := by
  fun_induction removeFirst ml t with
  | case1 => rfl
  | case2 m r h => simp only [eraseKV_cons, removeFirst, erase1_ty, h, ↓reduceIte]
  | case3 m r h ih => simp only [eraseKV_cons, removeFirst, erase1_ty, h, Bool.false_eq_true, ↓reduceIte, ih]

theorem matchesMerge_erase (ml : MatchList) (mh : Match) :
    matchesMerge (eraseKV ml) (erase1 mh) = (eraseKV (matchesMerge ml mh).1, erase1 (matchesMerge ml mh).2) := by
  unfold matchesMerge
  simp only [erase1_ty, eraseKV_getLast?, matchesFind_erase, removeFirst_erase]
  by_cases h1 : (mh.ty != .move && mh.ty != .flag) = true
  · simp only [h1, ↓reduceIte]
  · simp only [h1, Bool.false_eq_true, ↓reduceIte]
    cases ml.getLast? with
    | none => rfl
    | some last =>
      simp only [Option.map_some, erase1_ty]
      by_cases h2 : (last.ty == mh.ty) = true
      · simp only [h2, ↓reduceIte, eraseKV_dropLast]
      · simp only [h2, Bool.false_eq_true, ↓reduceIte]
        by_cases h3 : (mh.ty == .move) = true
        · simp only [h3, ↓reduceIte]
          cases matchesFind ml .flag with
          | none => rfl
          | some dup => rfl
        · simp only [h3, Bool.false_eq_true, ↓reduceIte]
          cases matchesFind ml .move with
          | none => rfl
          | some dup => rfl

theorem matchesAppend_erase (env : Env) (ml : MatchList) (mh : Match) :
    matchesAppend env (eraseKV ml) (erase1 mh) = (eraseKV (matchesAppend env ml mh).1, (matchesAppend env ml mh).2) := by
  unfold matchesAppend
  rw [matchesMerge_erase]
  generalize matchesMerge ml mh = r
  obtain ⟨ml1, mh1⟩ := r
  obtain ⟨ty, lno, part, maildir, subdir, path, subs, key, val, argv, strings, hkey, hval, pat, es, eb⟩ := mh1
  dsimp only [erase1]
  by_cases h1 : (!ty.isPath) = true
  · simp only [h1, ↓reduceIte, eraseKV_append, eraseKV_cons, eraseKV_nil]; rfl
  · simp only [h1, Bool.false_eq_true, ↓reduceIte]
    generalize (if maildir.isEmpty = true then pathslice env.path PATH_MAX 0 (-2) else some maildir) = md
    cases md with
    | none => simp only [eraseKV_append, eraseKV_cons, eraseKV_nil]; rfl
    | some maildir =>
      dsimp only
      generalize (if subdir.isEmpty = true then pathslice env.path NAME_MAX1 (-2) (-2) else some subdir) = sd
      cases sd with
      | none => simp only [eraseKV_append, eraseKV_cons, eraseKV_nil]; rfl
      | some subdir =>
        dsimp only
        cases pathjoin PATH_MAX maildir subdir with
        | none => simp only [eraseKV_append, eraseKV_cons, eraseKV_nil]; rfl
        | some p => simp only [eraseKV_append, eraseKV_cons, eraseKV_nil]; rfl

theorem interpolate_erase (b : MatchList) (macros : Option (List (Bytes × Bytes))) (s : Bytes) :
    interpolate (eraseKV b) macros s = interpolate b macros s :=
  interpolate_congr _ _ macros (capKey_eraseKV b) s

/-- Two environments that differ at most in the dry-run option. -/
structure EnvAgree (e1 e2 : Env) : Prop where
  rx : e1.rx = e2.rx
  command : e1.command = e2.command
  isDir : e1.isDir = e2.isDir
  now : e1.now = e2.now
  strptime : e1.strptime = e2.strptime
  zoneName : e1.zoneName = e2.zoneName
  fileTime : e1.fileTime = e2.fileTime
  timeFormat : e1.timeFormat = e2.timeFormat
  path : e1.path = e2.path

/-! One run is compared with its own image: the run without `-d` (`noDry`) from the state without the display fields (`erSt`; `erR`
for a result).  Every leaf: `eval_er_leaf` (its first case, the leaves that ask nothing, through `eval_leaf_rel`; the three that ask one by
one); the composite nodes by `IsEvalT.walk`; all with the state relation `s = erSt s'` (`eval_er`). -/

def noDry (env : Env) : Env := { env with dryrun := false }
def erSt (st : St) : St := { st with ml := eraseKV st.ml }
def erR (r : Tri × St) : Tri × St := (r.1, erSt r.2)

/-- An entry as `eval` builds it: key and value not yet set. -/
theorem matchesAppend_er (env : Env) (ml : MatchList) (mh : Match) (h : erase1 mh = mh) :
    matchesAppend (noDry env) (eraseKV ml) mh = (eraseKV (matchesAppend env ml mh).1, (matchesAppend env ml mh).2) := by
  -- `matches_append` reads the path of the environment only, which `noDry` keeps
  rw [← matchesAppend_erase, h]; rfl

theorem exprAppend_er (env : Env) (mh : Match) (h : erase1 mh = mh) (st : St) (ok : Tri) :
    exprAppend (noDry env) mh (erSt st) ok = erR (exprAppend env mh st ok) := by
  simp only [exprAppend, erSt, matchesAppend_er env st.ml mh h]; rfl

theorem regexHit_er (env : Env) (ty : MType) (lno part : Nat) (p : Pat) (key val : Bytes) (st : St) :
    regexHit (noDry env) ty lno part p key val (erSt st) = erR (regexHit env ty lno part p key val st) := by
  unfold regexHit
  rw [show (noDry env).rx = env.rx from rfl]
  rcases env.rx p val with _ | _ | groups
  · rfl
  · rfl
  · simp only [erR, erSt, eraseKV_append]
    cases env.dryrun <;> rfl

theorem sameVerdict_iff {r r' : Tri × St} : SameVerdict (fun s s' => s = erSt s') r r' ↔ r = erR r' :=
  ⟨fun h => Prod.ext h.1 h.2, fun h => h ▸ ⟨rfl, rfl⟩⟩

theorem blockPost_er (r : Tri × St) : blockPost (erR r) = erR (blockPost r) := by
  obtain ⟨ev, s1⟩ := r
  cases ev
  all_goals
    simp only [blockPost, erR, erSt, matchesFind_erase, matchesRemove_erase, Option.isSome_map]
  · split
    · rfl
    · split <;> rfl
  · split
    · rfl
    · split <;> rfl

theorem negPost_er (n : Nat) (r : Tri × St) : negPost n (erR r) = erR (negPost n r) := by
  obtain ⟨ev, s1⟩ := r
  cases ev
  · simp only [negPost, erR, erSt, eraseKV_take]
  · rfl
  · rfl

theorem eval_er_leaf (env : Env) (root : Msg) (n : Expr) (hn : n.isLeaf = true) (part : Nat) (m : Msg) (st : St) :
    eval (noDry env) root n part m (erSt st) = erR (eval env root n part m st) := by
  rcases Expr.leaf_cases hn with ha | ⟨lno, f, cmp, age, rfl, hf⟩ | ⟨lno, path, rfl⟩ | ⟨lno, argv, rfl⟩
  · exact sameVerdict_iff.mp (eval_leaf_rel (e1 := noDry env) (e2 := env) (S := fun s s' => s = erSt s') root ha rfl rfl rfl
      rfl rfl part m rfl rfl (fun _ => rfl)
      (fun ty lno p k v _ => sameVerdict_iff.mpr (regexHit_er env ty lno part p k v st))
      (fun mh s s' ok hs hm _ => hs ▸ sameVerdict_iff.mpr (exprAppend_er env mh hm s' ok)))
  · -- the instant and its text are computed from fields that `noDry` leaves alone
    rw [date_fields, date_fields, show dateInstant (noDry env) m f = dateInstant env m f by cases f <;> rfl]
    exact sameVerdict_iff.mp (dateOutcome_rel (e1 := noDry env) (e2 := env) (S := fun s s' => s = erSt s') rfl lno cmp age part
      rfl (fun p k v => sameVerdict_iff.mpr (regexHit_er env .date lno part p k v st)) _)
  · have ha := matchesAppend_er env st.ml { ty := .stat, lno := lno, part := part, strings := [path] } rfl
    simp only [eval, erSt, ha, erR, ← eraseKV_dropLast, interpolate_erase]
    rfl
  · have ha := matchesAppend_er env st.ml { ty := .command, lno := lno, part := part, strings := argv } rfl
    simp only [eval, erSt, ha, erR, ← eraseKV_dropLast]
    rw [show interpolate (eraseKV (matchesAppend env st.ml _).1.dropLast) none = interpolate _ none from
      funext fun s => interpolate_erase _ none s]
    rfl

theorem eval_er (env : Env) (root : Msg) (e : Expr) (part : Nat) (m : Msg) (st : St) :
    eval (noDry env) root e part m (erSt st) = erR (eval env root e part m st) := by
  obtain ⟨r', h1, h2⟩ := (eval_isEvalT (noDry env) root).walk (eval_isEvalT env root) (S := fun s s' => s = erSt s')
    (R := fun t t' => ∃ r', t' = .ret r' ∧ t = .ret (erR r'))
    (fun hr => ⟨_, rfl, congrArg _ (sameVerdict_iff.mp hr)⟩)
    (fun {t t' k k'} ht hk _ => by
      obtain ⟨r', rfl, rfl⟩ := ht
      exact hk _ r' (sameVerdict_iff.mpr rfl))
    (fun hr => sameVerdict_iff.mpr (sameVerdict_iff.mp hr ▸ blockPost_er _))
    (fun {st st' r r'} hS hr => sameVerdict_iff.mpr (by
      rw [hS, sameVerdict_iff.mp hr, show (erSt st').ml.length = st'.ml.length from eraseKV_length _]
      exact negPost_er _ _))
    (fun {st st'} lno part hS => .inl (by
      rw [hS, show (erSt st').ml = eraseKV st'.ml from rfl, matchesAppend_er env st'.ml (sentinel lno part) rfl]
      exact ⟨rfl, rfl⟩))
    e (fun n hn part m st st' hS => ⟨_, rfl, congrArg _ (hS ▸ eval_er_leaf env root n (Expr.isLeaf_of_mem_leaves hn) part m st')⟩)
    part m (erSt st) st rfl
  cases h1
  exact Ask.ret.inj h2

end Insp

/-- `Props.C06_same_plan`. -/
theorem eval_dryrun_same (env : Env) (root : Msg) (e : Expr) (part : Nat) (m : Msg) (st : St) :
    (eval (flipDry env) root e part m st).1 = (eval env root e part m st).1 ∧
    eraseKV (eval (flipDry env) root e part m { st with ml := eraseKV st.ml }).2.ml = eraseKV (eval env root e part m st).2.ml ∧
    (eval (flipDry env) root e part m st).2.flags = (eval env root e part m st).2.flags := by
  have h1 : Insp.erR (eval (flipDry env) root e part m st) = Insp.erR (eval env root e part m st) := by
    rw [← Insp.eval_er, ← Insp.eval_er]; rfl
  have h2 : Insp.erR (eval (flipDry env) root e part m (Insp.erSt st)) = Insp.erR (eval env root e part m st) := by
    rw [← Insp.eval_er, ← Insp.eval_er,
      show Insp.erSt (Insp.erSt st) = Insp.erSt st from congrArg (St.mk · st.flags) (Insp.eraseKV_idem st.ml)]
    rfl
  have e1 := congrArg (fun r : Tri × St => r.1) h1
  have e2 := congrArg (fun r : Tri × St => r.2.ml) h2
  have e3 := congrArg (fun r : Tri × St => r.2.flags) h1
  exact ⟨e1, e2, e3⟩

/-- The `-> destination` lines of `matches_inspect`: one per action entry, in order, naming its label or its interpolated
destination path (`Props.C06_lines_are_actions`). -/
def destLines (stdinMode : Bool) (path : Bytes) (ml : MatchList) : List Bytes :=
  (ml.filter (·.ty.isAction)).map fun mh =>
    (if stdinMode then ofString "<stdin>" else path) ++ ofString " -> " ++
      (match mh.ty.info.label with
       | some l => l.toUTF8.toList
       | none => mh.path) ++ [10]

namespace Insp

theorem inspect_go_false (width : Bytes → Nat → Nat) (home confpath : Bytes) (stdinMode : Bool) (path : Bytes)
    (rest pending : MatchList) (out : Bytes) :
    matchesInspect.go width home confpath stdinMode false path rest pending out =
      out ++ (destLines stdinMode path rest).flatten := by
  induction rest generalizing pending out with
  | nil => rw [matchesInspect.go, destLines, List.filter_nil, List.map_nil, List.flatten_nil, List.append_nil]
  | cons mh more ih =>
    rw [matchesInspect.go]
    by_cases h : mh.ty.isAction = true
    · simp only [h, Bool.not_true, Bool.false_eq_true, if_false, Bool.not_false, if_true]
      rw [ih]
      simp only [destLines, List.filter_cons, h, if_true, List.map_cons, List.flatten_cons, List.append_assoc]
      -- the two sides name the label or the path by two `match` expressions of the same text
      cases mh.ty.info.label <;> rfl
    · simp only [h, Bool.not_false, if_true]
      rw [ih]
      simp only [destLines, List.filter_cons, h, Bool.false_eq_true, if_false]

end Insp

theorem inspect_lines_are_actions (width : Bytes → Nat → Nat) (home confpath : Bytes) (stdinMode : Bool) (path : Bytes) (ml : MatchList) :
    matchesInspect width home confpath stdinMode false path ml = (destLines stdinMode path ml).flatten := by
  unfold matchesInspect
  rw [Insp.inspect_go_false]; simp

end Mdsort.Proofs
