import Mdsort.Proofs.Header

/-!
# `message_set_header` with any C-string value (C08; the replacement of line breaks is /repo 4ac7c48)

`message_set_header` turns every `'\n'` / `'\r'` of the value into a space before it updates the table
(`Model.headerSafe`, `Model.setHeader`).  What can still distinguish the value from one without leading blanks is that
run of blanks, which a reader drops (`seen`, Proofs/HeaderReparse.lean); so the printed table reads back as the settings
with the leading blanks of every value removed.

`applySets` is `applySetsRaw` of Proofs/Header.lean at the values `headerSafe` leaves (`applySets_eq_raw`), and the two theorems
are `rewrite_preserves_seen` and `second_write_same` at those values.
-/

namespace Mdsort.Proofs
open Mdsort Mdsort.Model

theorem headerSafe_no_nl (v : Bytes) : (10 : UInt8) ∉ headerSafe v := by
  unfold headerSafe
  intro h
  obtain ⟨c, _, hc⟩ := List.mem_map.1 h
  split at hc
  · cases hc
  · rename_i hn
    subst hc
    simp at hn

theorem headerSafe_no_nul (v : Bytes) (h : ∀ c ∈ v, c ≠ 0) : ∀ c ∈ headerSafe v, c ≠ 0 := by
  unfold headerSafe
  intro c hc
  obtain ⟨d, hd, rfl⟩ := List.mem_map.1 hc
  split
  · decide
  · exact h d hd

/-- Any NUL-free value, once its line breaks are spaces, is blanks followed by one line. -/
theorem valOk_headerSafe (v : Bytes) (h : ∀ c ∈ v, c ≠ 0) : ValOk (headerSafe v) := by
  refine ⟨headerSafe_no_nul v h, (headerSafe v).takeWhile isblank, (headerSafe v).dropWhile isblank, [], ?_, ?_, ?_,
    List.head?_dropWhile_neg isblank _, ?_⟩
  · simp
  · intro c hc; exact List.of_mem_takeWhile hc
  · intro hm; exact headerSafe_no_nl v ((List.dropWhile_sublist _).subset hm)
  · intro c hc; cases hc

/-- Apply a sequence of header settings as `message_set_header` does them (label / add-header, in order). -/
def applySets (m : Msg) : List (Bytes × Bytes) → Msg
  | [] => m
  | (k, v) :: rest => applySets (setHeader m k v) rest

/-- The settings with the values as `message_set_header` stores them. -/
def safeKvs (kvs : List Fld) : List Fld := kvs.map fun kv => (kv.1, headerSafe kv.2)

theorem applySets_eq_raw (m : Msg) (kvs : List Fld) : applySets m kvs = applySetsRaw m (safeKvs kvs) := by
  induction kvs generalizing m with
  | nil => rfl
  | cons kv rest ih =>
    obtain ⟨k, v⟩ := kv
    simp only [applySets, safeKvs, List.map_cons, applySetsRaw, setHeader]
    exact ih _

/-- The hypothesis on a setting: a field name that keeps the line structure and a value without NUL (every C string). -/
def SetRes (kv : Fld) : Prop := KeyOk kv.1 ∧ ∀ c ∈ kv.2, c ≠ 0

/-- The statement of `C08_rewrite_preserves_seen` (Props/C08.lean, where it is explained): `rewrite_preserves_seen` at the
values `headerSafe` leaves, which are `ValOk` whatever the C string was (`valOk_headerSafe`). -/
theorem rewrite_preserves_any (m : Bytes) (kvs : List Fld) (hwf : Spec.WF m) (hk : ∀ kv ∈ kvs, SetRes kv) :
    Spec.rewriteOk m ((safeKvs kvs).map seen) (messageWrite (applySets (parseMessage m) kvs)).1 = true := by
  rw [applySets_eq_raw]
  apply rewrite_preserves_seen m _ hwf
  intro kv hkv
  obtain ⟨kv0, h0, rfl⟩ := List.mem_map.1 hkv
  exact ⟨(hk kv0 h0).1, valOk_headerSafe _ (hk kv0 h0).2⟩

theorem second_write_same_any (m : Bytes) (kvs : List Fld) :
    let w := messageWrite (applySets (parseMessage m) kvs)
    (messageWrite w.2).1 = w.1 := by
  rw [applySets_eq_raw]
  exact second_write_same m (safeKvs kvs)

end Mdsort.Proofs
