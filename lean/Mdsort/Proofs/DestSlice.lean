import Mdsort.Proofs.LimitsSetters
import Mdsort.Proofs.Basics

/-!
# `pathslice` on a message path `root/sub/name`

`pathslice(path, buf, bufsiz, 0, -2)` is the maildir and `pathslice(path, buf, bufsiz, -2, -2)` the
subdirectory of a message, for every non-empty `root`, absolute or relative, of any number of components, empty ones
included (theorem `slices`), as long as `sub` and `name` contain no `/` and the result fits.
What the loop writes (`Limits.sliceOut`) is said by counting slashes: a range that has begun copies the path up to a
slash (`sliceOut_range`, `upto`), a single component is what follows a slash (`sliceOut_single`, `past`).  A leading
slash makes the path one component shorter and puts one more slash in front of each component, so absolute and relative
paths are one case (`ideal`).  That the slice is accepted when it fits is `Limits.pathslice_exact`.
-/

namespace Mdsort.Proofs.Dest
open Mdsort Mdsort.Model Mdsort.Proofs.Limits

/-- `p` up to its `(k + 1)`-th slash. -/
def upto : Nat → Bytes → Bytes
  | _, [] => []
  | 0, x :: r => if x != 47 then x :: upto 0 r else []
  | k + 1, x :: r => if x != 47 then x :: upto (k + 1) r else 47 :: upto k r

/-- What follows the `k`-th slash of `p`. -/
def past : Nat → Bytes → Bytes
  | 0, p => p
  | _ + 1, [] => []
  | k + 1, x :: r => if x != 47 then past (k + 1) r else past k r

theorem upto_dropWhile (k : Nat) (r : Bytes) :
    upto k r = r.takeWhile (· != 47) ++ upto k (r.dropWhile (· != 47)) := by
  induction r with
  | nil => cases k <;> rfl
  | cons x r ih =>
    by_cases hx : (x != 47) = true
    · cases k <;> simp only [upto, List.takeWhile_cons, List.dropWhile_cons, hx, if_true, List.cons_append] <;> rw [← ih]
    · simp only [List.takeWhile_cons, List.dropWhile_cons, hx, Bool.false_eq_true, if_false, List.nil_append]

theorem past_dropWhile (k : Nat) (r : Bytes) : past (k + 1) r = past (k + 1) (r.dropWhile (· != 47)) := by
  induction r with
  | nil => rfl
  | cons x r ih =>
    by_cases hx : (x != 47) = true
    · simp only [past, List.dropWhile_cons, hx, if_true]
      exact ih
    · simp only [List.dropWhile_cons, hx, Bool.false_eq_true, if_false]

/-- A non-empty rest after a component begins with the slash. -/
theorem dropWhile_slash {r : Bytes} {x : UInt8} {r' : Bytes} (h : r.dropWhile (· != 47) = x :: r') : x = 47 := by
  have := List.head?_dropWhile_not (· != 47) r
  rw [h] at this
  simpa using this

theorem countSlash_cons (x : UInt8) (a : Bytes) : countSlash (x :: a) = (if x != 47 then 0 else 1) + countSlash a := by
  by_cases hx : x = 47 <;> simp [countSlash, hx] <;> omega

theorem upto_count (a rest : Bytes) : upto (countSlash a) (a ++ 47 :: rest) = a := by
  induction a with
  | nil => rfl
  | cons x a ih =>
    rw [countSlash_cons, List.cons_append]
    by_cases hx : (x != 47) = true
    · rw [if_pos hx, Nat.zero_add]
      cases h : countSlash a <;> simp only [upto, hx, if_true] <;> rw [← h, ih]
    · rw [if_neg hx, Nat.add_comm]
      simp only [upto, hx, Bool.false_eq_true, if_false, ih]
      simp only [bne_iff_ne, ne_eq, Decidable.not_not] at hx
      rw [hx]

theorem past_count (a rest : Bytes) : past (countSlash a + 1) (a ++ 47 :: rest) = rest := by
  induction a with
  | nil => simp [past, countSlash]
  | cons x a ih =>
    rw [countSlash_cons, List.cons_append]
    by_cases hx : (x != 47) = true
    · rw [if_pos hx, Nat.zero_add]
      simp only [past, hx, if_true, ih]
    · rw [if_neg hx, Nat.add_comm 1]
      simp only [past, hx, Bool.false_eq_true, if_false, ih]

theorem sliceOut_done (ir : Bool) (b e : Int) : ∀ (n i : Nat) (p : Bytes) (isabs : Bool), e < (i : Int) →
    sliceOut ir b e n i p isabs = [] := by
  intro n i p isabs h
  fun_induction sliceOut ir b e n i p isabs with
  | case1 => rfl
  | case2 => rfl
  | case3 n i c r isabs ih =>
    rw [decide_eq_false (p := (i : Int) ≤ e) (by omega), Bool.and_false, if_neg Bool.false_ne_true, ih (by omega)]
    rfl

/-- A range that has begun: components `i` to `i + k` are copied as they stand. -/
theorem sliceOut_range (e : Int) : ∀ (n k i : Nat) (c : UInt8) (r : Bytes) (isabs : Bool),
    e = (i : Int) + k → k < n → (isabs = true → c = 47) → sliceOut true 0 e n i (c :: r) isabs = c :: upto k r := by
  intro n
  induction n with
  | zero => intro k i c r isabs _ hk; omega
  | succ n ih =>
    intro k i c r isabs he hk habs
    have hc : (decide ((0 : Int) ≤ (i : Int)) && decide ((i : Int) ≤ e)) = true := by
      rw [Bool.and_eq_true, decide_eq_true_eq, decide_eq_true_eq]
      omega
    -- in front of the component the loop writes `/` after a slash and the first byte of a leading name: `c` either way
    have hlead : (if (isabs && true) = true then [47] else if (!isabs) = true then [c] else ([] : Bytes)) = [c] := by
      cases isabs
      · rfl
      · rw [habs rfl]
        rfl
    rw [sliceOut, if_pos hc, hlead, upto_dropWhile k r]
    cases hd : r.dropWhile (· != 47) with
    | nil => cases n <;> cases k <;> simp [sliceOut, upto]
    | cons x r' =>
      cases dropWhile_slash hd
      cases k with
      | zero =>
        rw [sliceOut_done _ _ _ _ _ _ _ (by omega)]
        simp [upto]
      | succ k =>
        rw [ih k (i + 1) 47 r' true (by omega) (by omega) fun _ => rfl]
        simp [upto]

/-- A single component further on: what stands between the slash in front of it and the next one. -/
theorem sliceOut_single (e : Int) : ∀ (n k i : Nat) (c : UInt8) (r : Bytes) (isabs : Bool),
    e = (i : Int) + (k + 1 : Nat) → k + 1 < n →
    sliceOut false e e n i (c :: r) isabs = (past (k + 1) r).takeWhile (· != 47) := by
  intro n
  induction n with
  | zero => intro k i c r isabs _ hk; omega
  | succ n ih =>
    intro k i c r isabs he hk
    have hc : decide (e ≤ (i : Int)) = false := decide_eq_false (by omega)
    rw [sliceOut, hc, Bool.false_and, if_neg Bool.false_ne_true, List.nil_append, past_dropWhile k r]
    cases hd : r.dropWhile (· != 47) with
    | nil => cases n <;> rfl
    | cons x r' =>
      cases dropWhile_slash hd
      cases k with
      | succ k =>
        rw [ih k (i + 1) 47 r' true (by omega) (by omega)]
        simp [past]
      | zero =>
        obtain ⟨m, rfl⟩ : ∃ m, n = m + 1 := ⟨n - 1, by omega⟩
        have hc' : (decide (e ≤ ((i + 1 : Nat) : Int)) && decide (((i + 1 : Nat) : Int) ≤ e)) = true := by
          rw [Bool.and_eq_true, decide_eq_true_eq, decide_eq_true_eq]
          omega
        rw [sliceOut, if_pos hc', sliceOut_done _ _ _ _ _ _ _ (by omega)]
        simp [past]

/-- `sliceIdeal` after `isabs`, `ncomps`, `isrange` and the resolved `beg`, `end` are known. -/
def idealRun (path : Bytes) (isabs : Bool) (ncomps : Int) (isrange : Bool) (beg1 end1 : Int) : Option Bytes :=
  if beg1 < 0 || beg1 > end1 || end1 < 0 || end1 ≥ ncomps then none
  else some (sliceOut isrange beg1 end1 ncomps.toNat 0 path isabs)

theorem idealRun_eq (path : Bytes) (isabs : Bool) (ncomps : Int) (isrange : Bool) (b1 e1 : Int)
    (hv : 0 ≤ b1 ∧ b1 ≤ e1 ∧ e1 < ncomps) :
    idealRun path isabs ncomps isrange b1 e1 = some (sliceOut isrange b1 e1 ncomps.toNat 0 path isabs) := by
  have hc : (decide (b1 < 0) || decide (b1 > e1) || decide (e1 < 0) || decide (e1 ≥ ncomps)) = false := by
    simp only [Bool.or_eq_false_iff, decide_eq_false_iff_not]
    omega
  rw [idealRun, if_neg (by rw [hc]; exact Bool.false_ne_true)]

/-- `isabs` of `pathslice`. -/
def isAbs (path : Bytes) : Bool :=
  match path with
  | 47 :: _ => true
  | _ => false

theorem isAbs_cons (x : UInt8) (t : Bytes) : isAbs (x :: t) = !(x != 47) := by
  unfold isAbs
  split
  · rename_i heq
    injection heq with h1 _
    rw [h1]
    rfl
  · rename_i h
    have : x ≠ 47 := fun hx => h t (hx ▸ rfl)
    simp [this]

theorem sliceIdeal_maildir (path : Bytes) :
    sliceIdeal path 0 (-2) =
      idealRun path (isAbs path) ((if isAbs path then 0 else 1) + (countSlash path : Int)) true 0
        ((if isAbs path then 0 else 1) + (countSlash path : Int) + (-2) - 1) := rfl

theorem sliceIdeal_subdir (path : Bytes) :
    sliceIdeal path (-2) (-2) =
      idealRun path (isAbs path) ((if isAbs path then 0 else 1) + (countSlash path : Int)) false
        ((if isAbs path then 0 else 1) + (countSlash path : Int) + (-2) - 0)
        ((if isAbs path then 0 else 1) + (countSlash path : Int) + (-2) - 0) := rfl

theorem countSlash_append (a b : Bytes) : countSlash (a ++ b) = countSlash a + countSlash b := by
  simp [countSlash]

theorem countSlash_noslash (c : Bytes) (h : (47 : UInt8) ∉ c) : countSlash c = 0 := by
  unfold countSlash
  rw [List.length_eq_zero_iff, List.filter_eq_nil_iff]
  intro x hx hx'
  have : x = 47 := by simpa using hx'
  exact h (this ▸ hx)

theorem ideal (root sub name : Bytes) (hroot : root ≠ []) (hsub : (47 : UInt8) ∉ sub) (hname : (47 : UInt8) ∉ name) :
    sliceIdeal (root ++ [47] ++ sub ++ [47] ++ name) 0 (-2) = some root ∧
    sliceIdeal (root ++ [47] ++ sub ++ [47] ++ name) (-2) (-2) = some sub := by
  obtain ⟨c, a, rfl⟩ := List.exists_cons_of_ne_nil hroot
  have hpath : (c :: a) ++ [47] ++ sub ++ [47] ++ name = c :: (a ++ 47 :: (sub ++ 47 :: name)) := by simp
  -- the first byte of `root` is a slash (counted, with no component in front of it) or begins a component (not counted):
  -- either way there are three more components than slashes in the rest of `root`
  have hn : (if isAbs (c :: (a ++ 47 :: (sub ++ 47 :: name))) then 0 else 1) +
      (countSlash (c :: (a ++ 47 :: (sub ++ 47 :: name))) : Int) = (countSlash a : Int) + 3 := by
    rw [isAbs_cons, countSlash_cons, countSlash_append, countSlash_cons, countSlash_append, countSlash_cons,
      countSlash_noslash sub hsub, countSlash_noslash name hname]
    cases c != 47 <;> simp <;> omega
  have habs : isAbs (c :: (a ++ 47 :: (sub ++ 47 :: name))) = true → c = 47 := by
    rw [isAbs_cons]
    simp
  have hsub' : (sub ++ 47 :: name).takeWhile (· != 47) = sub :=
    List.takeWhile_append_stop (fun x hx => bne_iff_ne.2 fun h => hsub (h ▸ hx)) (fun x hx => by cases hx; rfl)
  rw [hpath, sliceIdeal_maildir, sliceIdeal_subdir, hn]
  constructor
  · rw [idealRun_eq _ _ _ _ _ _ (by omega),
      sliceOut_range _ _ (countSlash a) 0 c _ _ (by omega) (by omega) habs, upto_count]
  · rw [idealRun_eq _ _ _ _ _ _ (by omega), sliceOut_single _ _ (countSlash a) 0 c _ _ (by omega) (by omega), past_count, hsub']

theorem slices (root sub name : Bytes) (hroot : root ≠ []) (hsub : (47 : UInt8) ∉ sub)
    (hname : (47 : UInt8) ∉ name) (b1 b2 : Nat) (h1 : root.length < b1) (h2 : sub.length < b2) :
    pathslice (root ++ [47] ++ sub ++ [47] ++ name) b1 0 (-2) = some root ∧
    pathslice (root ++ [47] ++ sub ++ [47] ++ name) b2 (-2) (-2) = some sub := by
  obtain ⟨hm, hs⟩ := ideal root sub name hroot hsub hname
  rw [pathslice_exact, pathslice_exact, hm, hs]
  exact ⟨if_pos h1, if_pos h2⟩

end Mdsort.Proofs.Dest
