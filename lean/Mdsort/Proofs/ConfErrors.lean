import Mdsort.Proofs.ConfSpec2
import Mdsort.Proofs.MainTextMacros

/-!
# Classes of invalid configurations: each is rejected, whatever else the file contains

Tree level: every node of every block of an accepted configuration satisfies the side conditions
(`node_*`), so a configuration whose tree has the defect anywhere is not accepted.  Token / string
level: a second `stdin`, an undefined or misplaced macro, an unused macro.
-/

namespace Mdsort.Proofs.Conf
open Mdsort Mdsort.Model Mdsort.Spec

def AcceptedNode (home : Bytes) (defs : List (Bytes × Bytes)) (rx : Pat → Bool) (input : Bytes) (t : CTree) : Prop :=
  ∃ blocks b, parseConfig home defs rx input = .ok blocks ∧ b ∈ blocks ∧ t ∈ nodes b.tree

theorem accepted_block {home : Bytes} {defs : List (Bytes × Bytes)} {rx : Pat → Bool} {input : Bytes} {blocks : List PBlock}
    (h : parseConfig home defs rx input = .ok blocks) : ∀ b ∈ blocks, blockOK rx b = true :=
  (parseConfigFull_spec home defs rx input).2.2 blocks h

theorem accepted_node_wf {home : Bytes} {defs : List (Bytes × Bytes)} {rx : Pat → Bool} {input : Bytes} {t : CTree}
    (h : AcceptedNode home defs rx input t) : ∃ k, wfK rx k t = true := by
  obtain ⟨blocks, b, hok, hb, ht⟩ := h
  exact wf_nodes rx b.tree .block (blockOK_parts (accepted_block hok b hb)).1 t ht

theorem node_rule {home : Bytes} {defs : List (Bytes × Bytes)} {rx : Pat → Bool} {input : Bytes} {l : Nat} {c r : CTree}
    (h : AcceptedNode home defs rx input (.mtch l c r)) :
    (isBlock r = true ∧ r.countActions > 0) ∨
    (isBlock r = false ∧ r.countActions ≥ 1 ∧
      (r.countActions > 1 → r.countLeaf Expr.isDiscard = 0 ∧ r.countLeaf Expr.isReject = 0)) := by
  obtain ⟨k, hk⟩ := accepted_node_wf h
  rcases (wfK_mtch.1 hk).2.2 with ⟨hb, hc⟩ | ⟨ha, hal⟩
  · exact Or.inl ⟨isBlock_of_wf_block _ _ hb, hc⟩
  · refine Or.inr ⟨not_isBlock_of_wf_acts _ _ ha, wf_acts_count ha, fun hgt => ?_⟩
    simp only [aloneOK, Bool.or_eq_true, decide_eq_true_eq, Bool.and_eq_true, beq_iff_eq] at hal
    rcases hal with hal | hal
    · omega
    · exact hal

theorem node_date {home : Bytes} {defs : List (Bytes × Bytes)} {rx : Pat → Bool} {input : Bytes} {l : Nat} {f : DateField}
    {c : DateCmp} {age : Nat} (h : AcceptedNode home defs rx input (.leaf (.date l f c age))) : age < 2 ^ 32 := by
  obtain ⟨k, hk⟩ := accepted_node_wf h
  simpa [leafOK] using (wfK_leaf.1 hk).2

theorem node_exec {home : Bytes} {defs : List (Bytes × Bytes)} {rx : Pat → Bool} {input : Bytes} {l : Nat} {si bo : Bool}
    {argv : List Bytes} (h : AcceptedNode home defs rx input (.leaf (.exec l si bo argv))) : bo = true → si = true := by
  obtain ⟨k, hk⟩ := accepted_node_wf h
  intro hbo
  simpa [leafOK, hbo] using (wfK_leaf.1 hk).2

theorem node_body {home : Bytes} {defs : List (Bytes × Bytes)} {rx : Pat → Bool} {input : Bytes} {l : Nat} {p : Pat}
    (h : AcceptedNode home defs rx input (.leaf (.body l p))) : rx p = true := by
  obtain ⟨k, hk⟩ := accepted_node_wf h
  exact (wfK_leaf.1 hk).2

theorem node_header {home : Bytes} {defs : List (Bytes × Bytes)} {rx : Pat → Bool} {input : Bytes} {l : Nat} {ns : List Bytes}
    {p : Pat} (h : AcceptedNode home defs rx input (.leaf (.header l ns p))) : rx p = true := by
  obtain ⟨k, hk⟩ := accepted_node_wf h
  exact (wfK_leaf.1 hk).2

theorem node_attBlock {home : Bytes} {defs : List (Bytes × Bytes)} {rx : Pat → Bool} {input : Bytes} {l : Nat} {b : CTree}
    (h : AcceptedNode home defs rx input (.attBlock l b)) : b.countActions ≤ b.countLeaf Expr.isExec := by
  obtain ⟨k, hk⟩ := accepted_node_wf h
  exact (wfK_attBlock.1 hk).2.2.2

theorem second_stdin (cx : PCtx) (fuel : Nat) (blocks : List PBlock) (s : ParseSt) (hla : s.la = some (.kw .stdin))
    (hany : blocks.any (fun b => b.paths.any isStdinStr) = true) :
    parseTop cx (fuel + 1) blocks s = .err s.tokLine { s with la := none } := by
  unfold parseTop
  show PM.bind (peek cx false false) _ s = _
  simp only [PM.bind, peek, hla]
  show PM.bind shift _ s = _
  simp only [PM.bind, shift, hla, hany, if_true]
  rfl

theorem exec_option_repeated (cx : PCtx) (fuel : Nat) (si bo : Bool) (s : ParseSt) :
    (s.la = some (.kw .stdin) → si = true → parseExecFlags cx (fuel + 1) si bo s = .err s.tokLine { s with la := none }) ∧
    (s.la = some (.kw .body) → bo = true → parseExecFlags cx (fuel + 1) si bo s = .err s.tokLine { s with la := none }) := by
  constructor
  · intro hla hsi
    subst hsi
    unfold parseExecFlags
    show PM.bind (peek cx false false) _ s = _
    simp only [PM.bind, peek, hla]
    show PM.bind shift _ s = _
    simp only [PM.bind, shift, hla, if_true]
    rfl
  · intro hla hbo
    subst hbo
    unfold parseExecFlags
    show PM.bind (peek cx false false) _ s = _
    simp only [PM.bind, peek, hla]
    show PM.bind shift _ s = _
    simp only [PM.bind, shift, hla, if_true]
    rfl

theorem macro_redefined (ms : List Macro) (name value : Bytes) (lno : Nat) :
    (isPathMacro name = true → macrosInsert ms name value lno false = none) ∧
    ((∃ m ∈ ms, m.name = name) → (∀ m ∈ ms, m.name = name → m.sticky = false) → macrosInsert ms name value lno false = none) := by
  constructor
  · intro h; simp [macrosInsert, h]
  · intro ⟨m, hm, hn⟩ hns
    exact MainText.mt_insert_twice ms name value lno false (List.any_eq_true.2 ⟨m, hm, by simpa using hn⟩)
      (fun x hx hxn => .inl (hns x hx hxn))

/-- A macro reference `${name}` (after text without `$`) that cannot be expanded - an undefined macro,
or `path` outside an action - makes the expansion fail. -/
theorem expandMacros_bad_ref (action : Bool) (ms : List Macro) (name post : Bytes)
    (hname : (125 : UInt8) ∉ name)
    (hbad : (isPathMacro name = true ∧ action = false) ∨ (isPathMacro name = false ∧ ∀ m ∈ ms, m.name ≠ name)) :
    ∀ (pre acc : Bytes) (fuel : Nat), (36 : UInt8) ∉ pre → pre.length < fuel →
      expandMacros action fuel (pre ++ 36 :: 123 :: (name ++ 125 :: post)) ms acc = none := by
  intro pre acc fuel hpre hf
  obtain ⟨f, rfl⟩ : ∃ f, fuel = pre.length + (f + 1) := ⟨fuel - pre.length - 1, by omega⟩
  rw [MainText.mt_expand_skip action _ ms pre acc _ hpre]
  have him := ((MainText.mt_ismacro_refAt _).2.2 name post (MainText.mt_refAt_written name post hname)).1
  rcases hbad with ⟨hp, ha⟩ | ⟨hnp, hundef⟩
  · subst ha
    simp only [expandMacros, him, hp, if_true, Bool.false_eq_true, if_false]
  · have hfind : macrosUse ms name = none := by
      rw [MainText.mt_macrosUse, macroValue, List.find?_eq_none.2 fun m hm => by simpa using hundef m hm]
      rfl
    simp only [expandMacros, him, hnp, hfind, Bool.false_eq_true, if_false]

theorem expandMacros_undefined (action : Bool) (ms : List Macro) (name post : Bytes)
    (hname : (125 : UInt8) ∉ name) (hnp : isPathMacro name = false) (hundef : ∀ m ∈ ms, m.name ≠ name)
    (pre acc : Bytes) (fuel : Nat) (hpre : (36 : UInt8) ∉ pre) (hf : pre.length < fuel) :
    expandMacros action fuel (pre ++ 36 :: 123 :: (name ++ 125 :: post)) ms acc = none :=
  expandMacros_bad_ref action ms name post hname (Or.inr ⟨hnp, hundef⟩) pre acc fuel hpre hf

/-- `${path}` outside an action (maildir paths, header names, `isdirectory`, `command`, macro values)
makes the expansion fail. -/
theorem expandMacros_path_wrong_context (ms : List Macro) (post pre acc : Bytes) (fuel : Nat)
    (hpre : (36 : UInt8) ∉ pre) (hf : pre.length < fuel) :
    expandMacros false fuel (pre ++ 36 :: 123 :: ([112, 97, 116, 104] ++ 125 :: post)) ms acc = none :=
  expandMacros_bad_ref false ms [112, 97, 116, 104] post (by decide) (Or.inl ⟨by decide, rfl⟩) pre acc fuel hpre hf

theorem unused_macro_rejected (home : Bytes) (defs : List (Bytes × Bytes)) (rx : Pat → Bool) (input : Bytes) (ms : List Macro)
    (blocks : List PBlock) (s : ParseSt) (m : Macro)
    (hd : macrosOfDefs defs [] = some ms)
    (hp : parseTop { nl := countNl input, home := home, rxOk := rx } (input.length + 1) [] { rest := input, macros := ms } = .ok blocks s)
    (hu : firstUnused s.macros = some m) :
    parseConfig home defs rx input = .error m.lno := by
  simp only [parseConfig, parseConfigFull, hd, hp, hu]

/-! ## Concrete witnesses (for the non-vacuity examples) -/

def isOkNonempty : ParseResult → Bool
  | .ok (_ :: _) => true
  | _ => false

def isErrorAt (l : Nat) : ParseResult → Bool
  | .error l' => l == l'
  | _ => false

theorem ok_of_isOkNonempty {r : ParseResult} (h : isOkNonempty r = true) : ∃ b bs, r = .ok (b :: bs) := by
  cases r with
  | ok blocks => cases blocks with
    | nil => cases h
    | cons b bs => exact ⟨b, bs, rfl⟩
  | _ => cases h

theorem error_of_isErrorAt {r : ParseResult} {l : Nat} (h : isErrorAt l r = true) : r = .error l := by
  cases r <;> simp_all [isErrorAt]

theorem acceptedNode_of_ok {home : Bytes} {defs : List (Bytes × Bytes)} {rx : Pat → Bool} {input : Bytes}
    (h : isOkNonempty (parseConfig home defs rx input) = true) : ∃ t, AcceptedNode home defs rx input t := by
  obtain ⟨b, bs, hr⟩ := ok_of_isOkNonempty h
  exact ⟨b.tree, b :: bs, b, hr, by simp, nodes_self _⟩

end Mdsort.Proofs.Conf
