import Mdsort.Model.Lineage
import Mdsort.Proofs.WorldWrite
import Mdsort.Proofs.WorldExec

/-!
# Lineage (Model/Lineage.lean) along a run, and `matches_exec` by lineage

The lineage of a world `w` reached from `w0` is read from the trace recorded in `w` (`linAt`), so invariants that
mention it are ordinary predicates on worlds and the calculus of WorldHoare applies unchanged.

`LinPre` is kept by EVERY call, `LinCur` by every call that is not a successful `openRd` and by a successful `openRd` of a
file that descends from `f0`; `LinInv` = `LinPre ∧ LinCur` is a side invariant of the walk of WorldWrite / WorldMove /
WorldExec (`LinInv.side`): the entry that walk follows is bound to a file that DESCENDS FROM the message (`LG`, `LGood`).
-/

namespace Mdsort.Proofs.World
open Mdsort Mdsort.Model

theorem replay_append (w : World) (a b : List (Call × Res)) : replay w (a ++ b) = replay (replay w a) b := by
  induction a generalizing w with
  | nil => rfl
  | cons x rest ih => obtain ⟨c, r⟩ := x; simp only [List.cons_append, replay]; exact ih _

theorem lineage_append (w : World) (l : Lin) (a b : List (Call × Res)) :
    lineage w l (a ++ b) = lineage (replay w a) (lineage w l a) b := by
  induction a generalizing w l with
  | nil => rfl
  | cons x rest ih => obtain ⟨c, r⟩ := x; simp only [List.cons_append, replay, lineage]; exact ih _ _

theorem lineage_snoc (w : World) (l : Lin) (tr : List (Call × Res)) (c : Call) (r : Res) :
    lineage w l (tr ++ [(c, r)]) = linStep (replay w tr) c r (lineage w l tr) := by
  rw [lineage_append]; rfl

theorem replay_snoc (w : World) (tr : List (Call × Res)) (c : Call) (r : Res) :
    replay w (tr ++ [(c, r)]) = stepWorld (replay w tr) c r := by
  rw [replay_append]; rfl

/-- `w` was reached from `w0` by calls: its trace extends that of `w0`, and replaying the extension from `w0` gives `w`. -/
def Hist (w0 w : World) : Prop := ∃ tr, w.trace = w0.trace ++ tr ∧ replay w0 tr = w

theorem Hist.refl (w : World) : Hist w w := ⟨[], by simp, rfl⟩

theorem Hist.since {w0 w : World} {tr : List (Call × Res)} (h1 : w.trace = w0.trace ++ tr) : traceSince w0 w = tr := by
  unfold traceSince; rw [h1]; simp

theorem Hist.step {w0 w : World} (h : Hist w0 w) (c : Call) (r : Res) : Hist w0 (stepWorld w c r) := by
  obtain ⟨tr, h1, h2⟩ := h
  refine ⟨tr ++ [(c, r)], ?_, ?_⟩
  · rw [stepWorld_trace, h1, List.append_assoc]
  · rw [replay_snoc, h2]

theorem Hist.trans {w0 w1 w2 : World} (a : Hist w0 w1) (b : Hist w1 w2) : Hist w0 w2 := by
  obtain ⟨t1, h1, h2⟩ := a
  obtain ⟨t2, h3, h4⟩ := b
  exact ⟨t1 ++ t2, by rw [h3, h1, List.append_assoc], by rw [replay_append, h2, h4]⟩

/-- The lineage in `w`, started with `l0` in `w0`. -/
def linAt (w0 : World) (l0 : Lin) (w : World) : Lin := lineage w0 l0 (traceSince w0 w)

theorem linAt_self (w0 : World) (l0 : Lin) : linAt w0 l0 w0 = l0 := by
  unfold linAt traceSince; simp [lineage]

theorem linAt_step {w0 w : World} (l0 : Lin) (h : Hist w0 w) (c : Call) (r : Res) :
    linAt w0 l0 (stepWorld w c r) = linStep w c r (linAt w0 l0 w) := by
  obtain ⟨tr, h1, h2⟩ := h
  have hs : traceSince w0 (stepWorld w c r) = tr ++ [(c, r)] :=
    Hist.since (by rw [stepWorld_trace, h1, List.append_assoc])
  unfold linAt
  rw [hs, Hist.since h1, lineage_snoc, h2]

/-- Restarting the lineage at an intermediate world. -/
theorem linAt_trans {w0 w1 w2 : World} (l0 : Lin) (a : Hist w0 w1) (b : Hist w1 w2) :
    linAt w0 l0 w2 = linAt w1 (linAt w0 l0 w1) w2 := by
  obtain ⟨t1, h1, h2⟩ := a
  obtain ⟨t2, h3, h4⟩ := b
  unfold linAt
  rw [Hist.since h1, Hist.since h3, Hist.since (w0 := w0) (w := w2) (tr := t1 ++ t2) (by rw [h3, h1, List.append_assoc]),
    lineage_append, h2]

theorem createsFile_of_not_creates {c : Call} (h : Call.creates c = false) (w : World) (r : Res) : createsFile w c r = false := by
  cases c <;> first | rfl | (simp [Call.creates] at h)

theorem core_nextFid_creates (w : World) (c : Call) (r : Res) :
    (core w c r).nextFid = if createsFile w c r then w.nextFid + 1 else w.nextFid := by
  by_cases hc : Call.creates c = false
  · rw [core_nextFid_eq w c r hc, createsFile_of_not_creates hc]; rfl
  · cases c <;> try (exact absurd rfl hc)
    · rename_i d n
      cases r with
      | ok v =>
        cases hp : w.dirPath d with
        | none => rw [core_openExcl_taken (by intro p hp'; rw [hp] at hp'; cases hp')]; simp only [createsFile, hp]; rfl
        | some p =>
          cases hl : w.lookup p n with
          | none => rw [core_openExcl_ok hp hl]; simp [createsFile, hp, hl]
          | some x =>
            rw [core_openExcl_taken (by intro p' hp'; rw [hp] at hp'; cases hp'; rw [hl]; nofun)]
            simp only [createsFile, hp, hl]; rfl
      | _ => rfl
    · rename_i t
      cases r with
      | ok v => rw [core_mkostemp_ok]; simp [createsFile]
      | _ => rfl

theorem linStep_org_ne (w : World) (c : Call) (r : Res) (l : Lin) (g : Nat) (h : g ≠ w.nextFid) :
    (linStep w c r l).org g = l.org g := by
  unfold linStep
  dsimp only
  split <;> split <;> simp [h]

theorem linStep_org_lt (w : World) (c : Call) (r : Res) (l : Lin) (g : Nat) (h : g < w.nextFid) :
    (linStep w c r l).org g = l.org g := linStep_org_ne w c r l g (Nat.ne_of_lt h)

theorem linStep_cur_none (w : World) (c : Call) (r : Res) (l : Lin) (h : openedFile w c r = none) :
    (linStep w c r l).cur = l.cur := by
  simp only [linStep, h]
  split <;> rfl

theorem linStep_cur_some (w : World) (c : Call) (r : Res) (l : Lin) (g : Nat) (h : openedFile w c r = some g) :
    (linStep w c r l).cur = some g := by
  simp only [linStep, h]

theorem linStep_org_new (w : World) (c : Call) (r : Res) (l : Lin) (fc : Nat) (hc : createsFile w c r = true)
    (hcur : l.cur = some fc) : (linStep w c r l).org w.nextFid = l.org fc := by
  unfold linStep
  dsimp only
  rw [hc]
  split <;> simp [hcur]

theorem openedFile_none_of_ne {c : Call} (h : ∀ d n, c ≠ .openRd d n) (w : World) (r : Res) : openedFile w c r = none := by
  cases c <;> first | rfl | exact absurd rfl (h _ _)

theorem createsFile_openRd (w : World) (d : Handle) (n : Bytes) (r : Res) : createsFile w (.openRd d n) r = false := rfl

/-- Relative to the start `w0` (lineage `l0` there) and a reference point with `N0` files: `w` was reached from `w0`,
no file has disappeared from the numbering, and every file below `N0` has the origin `o0` says.  `N0` and `o0` are what is
kept of the world at the reference point (its number of files, the origins there); that world is no parameter, so that the
invariant is a predicate on the moving world alone, and `o0` is no function of `(w0, l0, N0)`: what a file descends from
depends on the calls that led to it, not on how many files there are. -/
structure LinPre (w0 : World) (l0 : Lin) (N0 : Nat) (o0 : Nat → Nat) (w : World) : Prop where
  hist : Hist w0 w
  n0 : N0 ≤ w.nextFid
  old : ∀ g, g < N0 → (linAt w0 l0 w).org g = o0 g

theorem LinPre.step {w0 : World} {l0 : Lin} {N0 : Nat} {o0 : Nat → Nat} {w : World} (h : LinPre w0 l0 N0 o0 w)
    (c : Call) (r : Res) : LinPre w0 l0 N0 o0 (stepWorld w c r) := by
  refine ⟨h.hist.step c r, ?_, ?_⟩
  · rw [stepWorld_nextFid]; exact Nat.le_trans h.n0 (core_nextFid w c r)
  · intro g hg
    rw [linAt_step l0 h.hist, linStep_org_lt _ _ _ _ _ (Nat.lt_of_lt_of_le hg h.n0)]
    exact h.old g hg

/-- The reference point itself. -/
theorem LinPre.start {w0 : World} {l0 : Lin} {w : World} (h : Hist w0 w) :
    LinPre w0 l0 w.nextFid (linAt w0 l0 w).org w := ⟨h, Nat.le_refl _, fun _ _ => rfl⟩

/-- A later reference point. -/
theorem LinPre.restart {w0 : World} {l0 : Lin} {N0 : Nat} {o0 : Nat → Nat} {w : World} (h : LinPre w0 l0 N0 o0 w) :
    LinPre w0 l0 w.nextFid (linAt w0 l0 w).org w := LinPre.start h.hist

/-- The message being processed descends from `f0`, and so does every file made since the reference point `N0`. -/
structure LinCur (w0 : World) (l0 : Lin) (N0 f0 : Nat) (w : World) : Prop where
  cur : ∃ fc, (linAt w0 l0 w).cur = some fc ∧ (linAt w0 l0 w).org fc = f0
  new : ∀ g, N0 ≤ g → g < w.nextFid → (linAt w0 l0 w).org g = f0

theorem LinCur.step {w0 : World} {l0 : Lin} {N0 f0 : Nat} {o0 : Nat → Nat} {w : World} (hp : LinPre w0 l0 N0 o0 w)
    (h : LinCur w0 l0 N0 f0 w) (c : Call) (r : Res)
    (ho : ∀ g, openedFile w c r = some g → (linAt w0 l0 w).org g = f0) : LinCur w0 l0 N0 f0 (stepWorld w c r) := by
  obtain ⟨fc, hcur, hfc⟩ := h.cur
  have hstep := linAt_step l0 hp.hist c r
  -- the origin after the call, of a file that descended from `f0` or is the new one
  have horg : ∀ g, (linAt w0 l0 w).org g = f0 → (linAt w0 l0 (stepWorld w c r)).org g = f0 := by
    intro g hg
    rw [hstep]
    by_cases hn : g = w.nextFid
    · by_cases hc : createsFile w c r = true
      · rw [hn, linStep_org_new w c r _ fc hc hcur]; exact hfc
      · have hc' : createsFile w c r = false := by simpa using hc
        unfold linStep
        dsimp only
        rw [hc']
        split <;> exact hg
    · rw [linStep_org_ne _ _ _ _ _ hn]; exact hg
  refine ⟨?_, ?_⟩
  · cases hop : openedFile w c r with
    | none => exact ⟨fc, by rw [hstep, linStep_cur_none _ _ _ _ hop]; exact hcur, horg fc hfc⟩
    | some g => exact ⟨g, by rw [hstep, linStep_cur_some _ _ _ _ g hop], horg g (ho g hop)⟩
  · intro g hg1 hg2
    rw [stepWorld_nextFid, core_nextFid_creates] at hg2
    by_cases hlt : g < w.nextFid
    · exact horg g (h.new g hg1 hlt)
    · have hc : createsFile w c r = true := by
        cases hcf : createsFile w c r with
        | true => rfl
        | false => rw [hcf] at hg2; simp at hg2; omega
      rw [hc] at hg2
      simp only [if_true] at hg2
      have hgeq : g = w.nextFid := by omega
      rw [hgeq, hstep, linStep_org_new w c r _ fc hc hcur]
      exact hfc

def LinInv (w0 : World) (l0 : Lin) (N0 : Nat) (o0 : Nat → Nat) (f0 : Nat) (w : World) : Prop :=
  LinPre w0 l0 N0 o0 w ∧ LinCur w0 l0 N0 f0 w

theorem LinInv.step {w0 : World} {l0 : Lin} {N0 f0 : Nat} {o0 : Nat → Nat} {w : World} (h : LinInv w0 l0 N0 o0 f0 w)
    (c : Call) (r : Res) (ho : ∀ g, openedFile w c r = some g → (linAt w0 l0 w).org g = f0) :
    LinInv w0 l0 N0 o0 f0 (stepWorld w c r) := ⟨h.1.step c r, h.2.step h.1 c r ho⟩

theorem NotOpenRd.ne {c : Call} (h : NotOpenRd c) : ∀ d n, c ≠ .openRd d n := by
  intro d n e; subst e; exact h

theorem LinInv.step_other {w0 : World} {l0 : Lin} {N0 f0 : Nat} {o0 : Nat → Nat} {w : World} (h : LinInv w0 l0 N0 o0 f0 w)
    (c : Call) (r : Res) (hc : NotOpenRd c) : LinInv w0 l0 N0 o0 f0 (stepWorld w c r) :=
  h.step c r (by intro g hg; rw [openedFile_none_of_ne hc.ne] at hg; cases hg)

theorem LinInv.org_of {w0 : World} {l0 : Lin} {N0 f0 : Nat} {o0 : Nat → Nat} {w : World} (h : LinInv w0 l0 N0 o0 f0 w)
    {fid0 : Nat} (h0 : fid0 < N0) (ho : o0 fid0 = f0) {g : Nat} (hg : g = fid0 ∨ N0 ≤ g) (hlt : g < w.nextFid) :
    (linAt w0 l0 w).org g = f0 := by
  rcases hg with rfl | hg
  · rw [h.1.old g h0]; exact ho
  · exact h.2.new g hg hlt

/-- `L`ineage and `G`ood: the lineage invariant together with the tracked entry: some entry is bound to a complete version held by a file
that descends from the message (`LG.lgood`). -/
def LG (w0 : World) (l0 : Lin) (N0 : Nat) (o0 : Nat → Nat) (f0 fid0 : Nat) (cs : List Bytes) (w : World) : Prop :=
  LinInv w0 l0 N0 o0 f0 w ∧ GoodN N0 fid0 w cs

/-- `Good` by lineage: some entry is bound to a file that DESCENDS FROM `f0` and whose visible and durable contents are both in
`cs`. -/
def LGood (w0 : World) (l0 : Lin) (f0 : Nat) (cs : List Bytes) (w : World) : Prop :=
  ∃ p n g, GoodAt w cs p n g ∧ (linAt w0 l0 w).org g = f0

theorem LG.lgood {w0 : World} {l0 : Lin} {N0 : Nat} {o0 : Nat → Nat} {f0 fid0 : Nat} {cs : List Bytes} {w : World}
    (h : LG w0 l0 N0 o0 f0 fid0 cs w) (h0 : fid0 < N0) (ho : o0 fid0 = f0) : LGood w0 l0 f0 cs w := by
  obtain ⟨hli, p, n, g, hg, hA⟩ := h
  exact ⟨p, n, g, hg, hli.org_of h0 ho hA hg.2.1⟩

section
variable {w0 : World} {l0 : Lin} {N0 : Nat} {o0 : Nat → Nat} {f0 fid0 : Nat} {cs : List Bytes}

theorem LinInv.syncFree : SyncFree (LinInv w0 l0 N0 o0 f0) := fun _ c r hc h => h.step_other c r hc

/-- A file made since the reference point descends from the message, so opening it keeps the lineage invariant. -/
theorem LinInv.side : Side N0 cs (LinInv w0 l0 N0 o0 f0) where
  ge h := h.1.n0
  step _ c r hc _ h := h.step_other c r hc
  write m fd _ _ _ h := wp_of_calls (nord_messageWriteP m fd) LinInv.syncFree h
  openNew d n r h hnew := by
    refine h.step (.openRd d n) r fun g hg => ?_
    cases r with
    | ok v =>
      simp only [openedFile, Option.bind_eq_some_iff] at hg
      obtain ⟨p, hp, hl⟩ := hg
      obtain ⟨h1, h2⟩ := hnew p g hp hl
      exact h.2.new g h1 h2
    | err e => cases hg
    | name x => cases hg
    | eof => cases hg

theorem lg_harmless {α} {p : Prog α} (hc : Calls Harmless p) (hn : Calls NotOpenRd p)
    {w : World} (h : LG w0 l0 N0 o0 f0 fid0 cs w) :
    wp (LG w0 l0 N0 o0 f0 fid0 cs) p (fun _ w' => LG w0 l0 N0 o0 f0 fid0 cs w') w :=
  tracked_harmless LinInv.side hc hn h

theorem lin_matchesExec (env : PEnv) (ml : MatchList) (st : ExecSt) {w : World}
    (hL : LG w0 l0 N0 o0 f0 fid0 cs w) (hm : (messageWrite st.ms.msg).1 ∈ cs) (hnd : ∀ m ∈ ml, m.ty ≠ .discard) :
    wp (LG w0 l0 N0 o0 f0 fid0 cs) (matchesExec env ml st) (fun _ w' => LG w0 l0 N0 o0 f0 fid0 cs w') w :=
  tracked_matchesExec LinInv.side env ml st hL hm hnd (.inr LinInv.syncFree)

end

end Mdsort.Proofs.World
