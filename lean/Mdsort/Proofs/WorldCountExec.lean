import Mdsort.Proofs.WorldSingleList
import Mdsort.Proofs.WorldCountWrite

/-!
# `matches_exec` under EVERY fault plan and under at most one fault

Entry and list are walked once, counting the faults (`wpC`); the statements for every plan (`whole_*`) and for at most one
fault (`sf_*`) are read off.
-/

namespace Mdsort.Proofs.World
open Mdsort Mdsort.Model

/-- Relative to the world `w0` and the entry `a0` the action list started with: the ghost location
of the message names an entry - `a0`, or one that was free in `w0` - bound to a file that holds the
ghost content; the message's descriptor and, once the source has changed, the source directory's
handle are at or above the cut `H`; the header set is `msg0` and the content the original `c0` or the
rewritten message. -/
structure WholeSt (w0 : World) (a0 : Ent) (H : Nat) (msg0 : Msg) (c0 : Bytes) (w : World) (st : ExecSt) : Prop where
  loc : ∃ nb, Located w st.ms nb ∧ (nb = a0 ∨ lk w0 nb = none)
  fdCut : ∀ h, st.ms.fd = some h → H ≤ h
  chs : st.chsrc = true → ∀ h, st.src.dirH = some h → H ≤ h
  msg : st.ms.msg = msg0
  content : st.ms.content = c0 ∨ st.ms.content = (messageWrite msg0).1

theorem WholeK.fresh_back {a : Ent} {H : Nat} {w0 w1 : World} (k : WholeK a H w0 w1) {nb : Ent} (h : lk w1 nb = none) :
    nb = a ∨ lk w0 nb = none := by
  by_cases hna : nb = a
  · exact .inl hna
  · right
    cases h0 : lk w0 nb with
    | none => rfl
    | some fid => rw [k.look nb fid hna h0] at h; cases h

theorem WholeSt.step {w0 : World} {a0 : Ent} {H : Nat} {msg0 : Msg} {c0 : Bytes} {w : World} {st : ExecSt}
    (s : WholeSt w0 a0 H msg0 c0 w st) (c : Call) (r : Res) (hd : Call.dirOp c = false) (hfs : ∀ g, fileSafe w g c) :
    WholeSt w0 a0 H msg0 c0 (stepWorld w c r) st := by
  obtain ⟨nb, hL, hnb⟩ := s.loc
  exact ⟨⟨nb, hL.step c r hd hfs, hnb⟩, s.fdCut, s.chs, s.msg, s.content⟩

theorem WholeSt.entry {w0 : World} {a0 : Ent} {H : Nat} {msg0 : Msg} {c0 : Bytes} {w : World} {st : ExecSt} {sh : Handle} {fid : Nat}
    (s : WholeSt w0 a0 H msg0 c0 w st) (hA : At w st sh fid) :
    (st.src.path, st.ms.name) = a0 ∨ lk w0 (st.src.path, st.ms.name) = none := by
  obtain ⟨nb, ⟨hl, _⟩, hnb⟩ := s.loc
  rw [hA.hloc] at hl
  cases hl
  exact hnb

/-- A state described relative to the start `w` of one entry, seen from the start `w0` of the list. -/
theorem WholeSt.trans {w0 : World} {a0 : Ent} {H : Nat} {msg0 : Msg} {c0 : Bytes} {w w' : World} {st st' : ExecSt} {sh : Handle}
    {fid : Nat}
    (s : WholeSt w0 a0 H msg0 c0 w st) (k : WholeK a0 H w0 w) (hA : At w st sh fid)
    (s' : WholeSt w (st.src.path, st.ms.name) H st.ms.msg st.ms.content w' st') : WholeSt w0 a0 H msg0 c0 w' st' := by
  obtain ⟨nb, hL, hnb⟩ := s'.loc
  refine ⟨⟨nb, hL, ?_⟩, s'.fdCut, s'.chs, s'.msg.trans s.msg, ?_⟩
  · rcases hnb with rfl | h
    · exact s.entry hA
    · exact k.fresh_back h
  · rcases s'.content with h | h
    · rw [h]; exact s.content
    · right; rw [h, s.msg]

theorem Located.whole_fr1 {w w' : World} {ms : MsgSt} {nb : Ent} (h : Located w ms nb) (fr : Fr1 (NewS w) w w') :
    Located w' ms nb := by
  obtain ⟨hl, fid, hlk, hlt, hf⟩ := h
  refine ⟨hl, fid, ?_, Nat.lt_of_lt_of_le hlt fr.nextFid, ?_⟩
  · unfold lk; rw [lookup_of_dirs fr.dirs]; exact hlk
  · rw [fr.files fid hlt (by simp only [NewS]; omega)]; exact hf

/-- The guarantee of one entry, relative to its own start `w`, for a run during which the count of faults went from `n0` to
`n`: the one for every plan, and the exact one unless two faults were injected - and whenever the entry succeeds. -/
def ExecC (H : Nat) (w : World) (mh : Match) (st : ExecSt) (n0 n : Nat) (r : ExecSt × Bool) (w' : World) : Prop :=
  (WholeK (st.src.path, st.ms.name) H w w' ∧ WholeSt w (st.src.path, st.ms.name) H st.ms.msg st.ms.content w' r.1 ∧
    (r.2 = false → ∃ sh' fid', At w' r.1 sh' fid')) ∧
  (n < n0 + 2 ∨ r.2 = false → ExecPost w mh st r w')

theorem count_closeRet {α} {a : Ent} {H : Nat} {w0 w : World} {Q : Nat → α → World → Prop} (md : Maildir) {d : Handle}
    (hd : md.dirH = some d) (x : α) (k : WholeK a H w0 w) (hH : H ≤ d) {n : Nat}
    (hpost : ∀ r n', n ≤ n' → WholeK a H w0 (stepWorld w (.closedir d) r) → Q n' x (stepWorld w (.closedir d) r)) :
    wpC (fun w' => WholeK a H w0 w') ((maildirClose md).bind fun _ => Prog.ret x) Q n w := by
  rw [maildirClose_some hd]
  simp only [call_bind', ret_bind]
  refine wpC_call_any fun r n' hn => ?_
  have k1 := k.step (.closedir d) r rfl (by intro h hh; cases hh; exact hH) (fun _ _ => trivial)
  exact ⟨k1, hpost r n' hn k1⟩

theorem count_moveBranch (env : PEnv) (mh : Match) (st : ExecSt) {H : Nat} {w : World} {sh : Handle} {fid : Nat}
    (hA : At w st sh fid) (hS : WholeSt w (st.src.path, st.ms.name) H st.ms.msg st.ms.content w st) (hHw : H ≤ w.handles.length)
    (hpt : isPathTy mh.ty = true) (n0 : Nat) :
    wpC (fun w' => WholeK (st.src.path, st.ms.name) H w w') (moveBranch env mh st) (ExecC H w mh st n0) n0 w := by
  have hshlt : sh < w.handles.length := lt_of_dirPath hA.hps
  unfold moveBranch
  refine wpC_bind_mono (wpC_of_wp (mid_maildirOpenDst mh.path
    fun p r => (WholeK.refl _ w hHw).step (.opendir p) r rfl (by intro _ h; cases h) (fun _ _ => trivial)) n0) ?_
  rintro n1 d w1 ⟨hn1, m1, hd⟩
  have k1 : WholeK (st.src.path, st.ms.name) H w w1 := WholeK.of_mid_same m1 hHw
  have hL1 : Located w1 st.ms (st.src.path, st.ms.name) := hA.located.of_mid m1 rfl
  cases d with
  | none =>
    exact ⟨⟨k1, ⟨⟨_, hL1, .inl rfl⟩, hS.fdCut, hS.chs, rfl, .inl rfl⟩, by intro h; cases h⟩,
      fun _ => ⟨_, hL1, m1.delta_same _, rfl, .inl rfl, by intro h; cases h⟩⟩
  | some dst =>
    obtain ⟨dh, hdh, hpd1, hdd, dhlo, dhhi, hwf, hdp⟩ := hd dst rfl
    dsimp only
    have hps1 := m1.dirPath hA.hps
    have hdd1 : (w1.dir dst.path).isSome := by rw [m1.dirSome]; exact hdd
    have hHw1 : H ≤ w1.handles.length := Nat.le_trans hHw m1.len
    refine wpC_bind_mono (wpC_inv_mono (count_maildirMove env hA.hsh hdh hps1 hpd1 hdd1 hL1 hHw1 n1)
      (fun _ h => k1.trans h (.inl rfl) (Nat.le_refl _))) ?_
    rintro n2 ⟨ms', e⟩ w2 ⟨nb, hloc2, hobjs, hmsg, hfd, hcont, hnb, k12, hfresh, hd12⟩
    simp only at hloc2 hmsg hfd hcont hnb
    have k2 : WholeK (st.src.path, st.ms.name) H w w2 := k1.trans k12 (.inl rfl) (Nat.le_refl _)
    have hnb0 : nb = (st.src.path, st.ms.name) ∨ lk w nb = none := hfresh.elim .inl k1.fresh_back
    have hfdc : ∀ h, ms'.fd = some h → H ≤ h := by
      intro h hh; rw [hfd] at hh; exact hS.fdCut h hh
    have hHdh : H ≤ dh := Nat.le_trans hHw dhlo
    have d02 : ∀ n, n2 ≤ n → n < n0 + 2 ∨ e = false → Delta w w2 (st.src.path, st.ms.name) nb := fun n h1 h2 =>
      (m1.delta_same _).trans (hd12 (h2.imp (fun h => by omega) id))
    have hdir : dst.path = stepDir mh st.src.path := by
      unfold stepDir
      simp [hpt, hdp]
    have hrw : isRewriteTy mh.ty = true → ms'.content = (messageWrite st.ms.msg).1 := by
      intro h; rw [path_not_rewrite hpt] at h; cases h
    cases e with
    | true =>
      simp only [if_true]
      refine count_closeRet dst hdh _ k2 hHdh ?_
      intro r n3 hn3 k3
      have hloc3 := hloc2.step (.closedir dh) r rfl (fun _ => trivial)
      exact ⟨⟨k3, ⟨⟨nb, hloc3, hnb0⟩, hfdc, hS.chs, hmsg, hcont⟩, by intro h; cases h⟩,
        fun hn => ⟨nb, hloc3, (d02 n3 hn3 (.inl (hn.resolve_right nofun))).step _ r rfl (fun _ _ => trivial), hmsg, hcont,
          by intro h; cases h⟩⟩
    | false =>
      simp only [Bool.false_eq_true, if_false]
      have hnb' := hnb rfl
      subst hnb'
      have hlen2 : w.handles.length ≤ w2.handles.length := Nat.le_trans m1.len k12.len
      split
      · -- the message is now in another directory: it becomes the source
        obtain ⟨fid2, hA2⟩ := hA.moved true hdh (by rw [← hpd1]; exact dirPath_congr (hobjs dh dhhi)) hwf hloc2 hfd hlen2
          (fun h hh => Nat.ne_of_lt (Nat.lt_of_lt_of_le (hA.mfd h hh).1 dhlo))
        have hS2 : WholeSt w (st.src.path, st.ms.name) H st.ms.msg st.ms.content w2
            { src := dst, chsrc := true, ms := ms', reject := st.reject } :=
          ⟨⟨_, hA2.located, hnb0⟩, hfdc, fun _ h hh => by rw [hdh] at hh; cases hh; exact hHdh, hmsg, hcont⟩
        split
        · rename_i hchs
          refine count_closeRet st.src hA.hsh _ k2 (hS.chs hchs sh hA.hsh) ?_
          intro r n3 hn3 k3
          have hA3 := hA2.closedir sh r (Nat.ne_of_lt (Nat.lt_of_lt_of_le hshlt dhlo))
          exact ⟨⟨k3, hS2.step _ r rfl (fun _ => trivial), fun _ => ⟨_, _, hA3⟩⟩,
            fun _ => ExecPost.ok hA3 ((d02 n3 hn3 (.inr rfl)).step _ r rfl (fun _ _ => trivial)) hmsg hcont hdir hrw⟩
        · exact ⟨⟨k2, hS2, fun _ => ⟨_, _, hA2⟩⟩, fun _ => ExecPost.ok hA2 (d02 n2 (Nat.le_refl _) (.inr rfl)) hmsg hcont hdir hrw⟩
      · -- same maildir and subdirectory: the source stays
        rename_i hsame
        have hpath : dst.path = st.src.path := path_eq_of_same hsame hA.wf hwf
        rw [hpath] at hloc2 hnb0 d02
        obtain ⟨fid2, hA2⟩ := hA.moved st.chsrc hA.hsh
          (by rw [← hps1]; exact dirPath_congr (hobjs sh (Nat.lt_of_lt_of_le hshlt m1.len))) hA.wf hloc2 hfd hlen2
          (fun h hh => (hA.mfd h hh).2)
        have hS2 : WholeSt w (st.src.path, st.ms.name) H st.ms.msg st.ms.content w2
            { src := st.src, chsrc := st.chsrc, ms := ms', reject := st.reject } :=
          ⟨⟨_, hA2.located, hnb0⟩, hfdc, hS.chs, hmsg, hcont⟩
        refine count_closeRet dst hdh _ k2 hHdh ?_
        intro r n3 hn3 k3
        have hA3 := hA2.closedir dh r (Ne.symm (Nat.ne_of_lt (Nat.lt_of_lt_of_le hshlt dhlo)))
        exact ⟨⟨k3, hS2.step _ r rfl (fun _ => trivial), fun _ => ⟨_, _, hA3⟩⟩,
          fun _ => ExecPost.ok hA3 ((d02 n3 hn3 (.inr rfl)).step (.closedir dh) r rfl (fun _ _ => trivial)) hmsg hcont
            (hpath.symm.trans hdir) hrw⟩

theorem count_execOne (env : PEnv) (mh : Match) (st : ExecSt) {H : Nat} {w : World} {sh : Handle} {fid : Nat}
    (hA : At w st sh fid) (hS : WholeSt w (st.src.path, st.ms.name) H st.ms.msg st.ms.content w st) (hHw : H ≤ w.handles.length)
    (hnd : mh.ty ≠ .discard) (n0 : Nat) :
    wpC (fun w' => WholeK (st.src.path, st.ms.name) H w w') (execOne env mh st) (ExecC H w mh st n0) n0 w := by
  by_cases hpt : isPathTy mh.ty = true
  · rw [execOne_move env mh st (isPathTy_iff.1 hpt)]
    exact count_moveBranch env mh st hA hS hHw hpt n0
  by_cases hrt : isRewriteTy mh.ty = true
  · -- label, add-header
    rw [execOne_write env mh st (isRewriteTy_iff.1 hrt)]
    refine wpC_bind_mono (count_maildirWrite env hA.hsh hA.hps hA.located hHw hS.fdCut n0) ?_
    rintro n1 ⟨ms', e⟩ w1 ⟨nb, hloc1, hobjs, hmsg, hcont, herr, hfin, k1, hfresh, hd⟩
    simp only at hloc1 hmsg hcont herr hfin
    cases e with
    | true =>
      refine ⟨⟨k1, ⟨⟨nb, hloc1, hfresh⟩, ?_, hS.chs, hmsg, hcont⟩, by intro h; cases h⟩,
        fun hn => ⟨nb, hloc1, hd hn, hmsg, hcont, by intro h; cases h⟩⟩
      intro h hh
      rw [herr rfl] at hh
      exact hS.fdCut h hh
    | false =>
      obtain ⟨hnb, hc, rd, hrd, hrdlo, hrdhi⟩ := hfin rfl
      subst hnb
      obtain ⟨fid1, hA1⟩ := hA.rewritten hobjs hloc1 hrd hrdlo hrdhi
      refine ⟨⟨k1, ⟨⟨_, hA1.located, hfresh⟩, ?_, hS.chs, hmsg, hcont⟩, fun _ => ⟨_, _, hA1⟩⟩,
        fun hn => ExecPost.ok hA1 (hd hn) hmsg hcont (by unfold stepDir; simp [hpt]) (fun _ => hc)⟩
      intro h hh
      rw [hrd] at hh
      cases hh
      exact Nat.le_trans hHw hrdlo
  by_cases hty : mh.ty = .exec
  · refine wpC_mono (wpC_of_wp (wp_inv_mono (whole_execOne_exec env mh st hty)
      (fun _ fr => (WholeK.refl _ w hHw).of_fr1 fr (fun g hg => hg))) n0) ?_
    rintro n1 ⟨st', e⟩ w1 ⟨-, fr, hst⟩
    simp only [Prod.mk.injEq, and_true] at hst
    subst hst
    have hA1 := hA.frame fr
    refine ⟨⟨(WholeK.refl _ w hHw).of_fr1 fr (fun g hg => hg), ⟨⟨_, hA1.located, .inl rfl⟩, hS.fdCut, hS.chs, rfl, .inl rfl⟩,
      fun _ => ⟨_, _, hA1⟩⟩, fun _ => ?_⟩
    cases e with
    | true =>
      exact ⟨_, hA1.located, (Delta.refl w _).frame fr (fun g hg => hg), rfl, .inl rfl, by intro h; cases h⟩
    | false =>
      refine ExecPost.ok hA1 ((Delta.refl w _).frame fr (fun g hg => hg)) rfl (.inl rfl) ?_ ?_
      · unfold stepDir; simp [hpt]
      · intro h; exact absurd h hrt
  obtain ⟨st', hprog, h1, h2, h3⟩ := execOne_quiet env mh st hpt hrt hty hnd
  rw [hprog]
  have hA' : At w st' sh fid := hA.congr h1 h2
  refine ⟨⟨WholeK.refl _ w hHw,
      ⟨?_, by rw [h2]; exact hS.fdCut, by rw [h1, h3]; exact hS.chs, by rw [h2], by rw [h2]; exact .inl rfl⟩,
      fun _ => ⟨_, _, hA'⟩⟩, fun _ => ExecPost.same hA h1 h2 (by simpa using hpt) (by simpa using hrt)⟩
  rw [h2]; exact hS.loc

/-- The state at the start of a walk that has no handle to protect (cut 0). -/
theorem At.wholeSt {w : World} {st : ExecSt} {sh : Handle} {fid : Nat} (hA : At w st sh fid) :
    WholeSt w (st.src.path, st.ms.name) 0 st.ms.msg st.ms.content w st :=
  ⟨⟨_, hA.located, .inl rfl⟩, fun _ _ => Nat.zero_le _, fun _ _ _ => Nat.zero_le _, rfl, .inl rfl⟩

/-- `ListPost` holds whenever the list succeeds, whatever the number of faults: the list stops at the first error, and an entry
that succeeds has changed the entries exactly.  Every entry is walked relative to its own start; the frames compose
(`WholeK.trans`, `WholeSt.trans`). -/
theorem count_execList (env : PEnv) (ml : MatchList) {H : Nat} (hnd : ∀ m ∈ ml, m.ty ≠ .discard) (n0 : Nat) :
    ∀ (st : ExecSt) {w : World} {sh : Handle} {fid n : Nat}, At w st sh fid →
      WholeSt w (st.src.path, st.ms.name) H st.ms.msg st.ms.content w st → H ≤ w.handles.length → n0 ≤ n →
      wpC (fun w' => WholeK (st.src.path, st.ms.name) H w w') (execList env ml st)
        (fun n' r w' => (WholeK (st.src.path, st.ms.name) H w w' ∧
            WholeSt w (st.src.path, st.ms.name) H st.ms.msg st.ms.content w' r.1) ∧
          (n' < n0 + 2 ∨ r.2 = false → ListPost w ml st r w')) n w := by
  induction ml with
  | nil =>
    intro st w sh fid n hA hS hHw _
    exact ⟨⟨WholeK.refl _ w hHw, hS⟩,
      fun _ => ⟨_, hA.located, Delta.refl w _, rfl, .inl rfl, fun _ => ⟨⟨sh, fid, hA⟩, rfl, nofun⟩⟩⟩
  | cons mh rest ih =>
    intro st w sh fid n hA hS hHw hn
    unfold execList
    refine wpC_bind_mono (wpC_le (count_execOne env mh st hA hS hHw (hnd mh (List.mem_cons_self ..)) n)) ?_
    rintro n1 ⟨st1, e⟩ w1 ⟨hn1, ⟨k1, hS1, hok⟩, hex⟩
    cases e with
    | true =>
      refine ⟨⟨k1, hS1⟩, fun h => ?_⟩
      obtain ⟨nb, hloc1, d01, hmsg1, hcont1, -⟩ := hex (.inl (by have := h.resolve_right nofun; omega))
      exact ⟨nb, hloc1, d01, hmsg1, hcont1, nofun⟩
    | false =>
      obtain ⟨sh1, fid1, hA1⟩ := hok rfl
      simp only [Bool.false_eq_true, if_false]
      have hb := hS1.entry hA1
      refine wpC_mono (wpC_inv_mono (ih (fun m hm => hnd m (List.mem_cons_of_mem _ hm)) st1 hA1
        ⟨⟨_, hA1.located, .inl rfl⟩, hS1.fdCut, hS1.chs, rfl, .inl rfl⟩ (Nat.le_trans hHw k1.len) (Nat.le_trans hn hn1))
        fun _ k => k1.trans k hb (Nat.le_refl _)) ?_
      rintro n2 r w2 ⟨⟨k2, hS2⟩, hlist⟩
      exact ⟨⟨k1.trans k2 hb (Nat.le_refl _), hS1.trans k1 hA1 hS2⟩, fun h => ListPost.cons (hex (.inr rfl)) (hlist h)⟩

theorem count_matchesExec (env : PEnv) (ml : MatchList) (st : ExecSt) {H : Nat} {w : World} {sh : Handle} {fid : Nat}
    (hA : At w st sh fid) (hS : WholeSt w (st.src.path, st.ms.name) H st.ms.msg st.ms.content w st) (hHw : H ≤ w.handles.length)
    (hnd : ∀ m ∈ ml, m.ty ≠ .discard) (n0 : Nat) :
    wpC (fun w' => WholeK (st.src.path, st.ms.name) H w w') (matchesExec env ml st)
      (fun n r w' => (WholeK (st.src.path, st.ms.name) H w w' ∧
          WholeSt w (st.src.path, st.ms.name) H st.ms.msg st.ms.content w' r.1) ∧
        (n < n0 + 2 ∨ r.2 = false → FinalPost w ml st r w')) n0 w := by
  rw [matchesExec_eq]
  refine wpC_bind_mono (count_execList env ml hnd n0 st hA hS hHw (Nat.le_refl _)) ?_
  rintro n1 x w1 ⟨⟨k1, hS1⟩, hlist⟩
  unfold finish
  split
  · rename_i hchs
    cases hd : x.1.src.dirH with
    | none =>
      unfold maildirClose
      simp only [hd]
      exact ⟨⟨k1, hS1⟩, fun h => (hlist h).final⟩
    | some d =>
      refine count_closeRet x.1.src hd _ k1 (hS1.chs hchs d hd) ?_
      intro r n2 hn2 k2
      exact ⟨⟨k2, hS1.step _ r rfl (fun _ => trivial)⟩,
        fun h => (hlist (h.imp (fun h => by omega) id)).final.step _ r rfl (fun _ => trivial)⟩
  · exact ⟨⟨k1, hS1⟩, fun h => (hlist h).final⟩

theorem whole_matchesExec (env : PEnv) (ml : MatchList) (st : ExecSt) {H : Nat} {w : World} {sh : Handle} {fid : Nat}
    (hA : At w st sh fid) (hS : WholeSt w (st.src.path, st.ms.name) H st.ms.msg st.ms.content w st) (hHw : H ≤ w.handles.length)
    (hnd : ∀ m ∈ ml, m.ty ≠ .discard) :
    wp (fun w' => WholeK (st.src.path, st.ms.name) H w w') (matchesExec env ml st)
      (fun r w' => (WholeK (st.src.path, st.ms.name) H w w' ∧
          WholeSt w (st.src.path, st.ms.name) H st.ms.msg st.ms.content w' r.1) ∧ (r.2 = false → FinalPost w ml st r w')) w :=
  wp_mono (wp_of_wpC (count_matchesExec env ml st hA hS hHw hnd 0)) fun _ _ ⟨_, h⟩ => ⟨h.1, fun he => h.2 (.inr he)⟩

theorem sf_execList (env : PEnv) (ml : MatchList) (st : ExecSt) {w : World} {sh : Handle} {fid : Nat}
    (hA : At w st sh fid) (hnd : ∀ m ∈ ml, m.ty ≠ .discard) (b : Bool) :
    wpS (execList env ml st) (fun _ => ListPost w ml st) b w :=
  wpS_mono (wpS_of_wpC (count_execList env ml hnd (if b = true then 0 else 1) st hA hA.wholeSt (Nat.zero_le _)
    (Nat.le_refl _))) fun b' _ _ h => h.2 (.inl (by cases b <;> cases b' <;> decide))

theorem sf_matchesExec (env : PEnv) (ml : MatchList) (st : ExecSt) {w : World} {sh : Handle} {fid : Nat}
    (hA : At w st sh fid) (hnd : ∀ m ∈ ml, m.ty ≠ .discard) (b : Bool) :
    wpS (matchesExec env ml st) (fun _ => FinalPost w ml st) b w :=
  wpS_mono (wpS_of_wpC (count_matchesExec env ml st hA hA.wholeSt (Nat.zero_le _) hnd
    (if b = true then 0 else 1))) fun b' _ _ h => h.2 (.inl (by cases b <;> cases b' <;> decide))

end Mdsort.Proofs.World
