import Mdsort.Proofs.PartiesFs
import Mdsort.Proofs.WorldOwn

/-! C17 on schedules: at most one party removes a given entry; what a party touches is its own. -/

namespace Mdsort.Proofs.Parties
open Mdsort Mdsort.Model
open Mdsort.Proofs.World
open Mdsort.Proofs.Own (wp wp_sound NoI LostU lostU_execOne)

theorem lost_step (w : World) (c : Call) (q m : Bytes) (hs : callSrc w c = some (q, m)) (h : w.lookup q m = none) :
    predict w c = .err "ENOENT" ∨ (c.isRename = true ∧ (predict w c = .err "EXDEV" ∨ predict w c = .err "EBADF")) := by
  cases c <;> simp [callSrc] at hs
  · rename_i d1 n1 d2 n2
    obtain ⟨p, hp, rfl, rfl⟩ := hs
    rcases renameat_state w d1 n1 d2 n2 with ⟨p1, p2, f, hp1, hp2, hl, hpr, hco⟩ | ⟨e, hpr, he, _⟩
    · rw [hp] at hp1; cases hp1
      rw [h] at hl; cases hl
    · rw [hpr]
      rcases he with rfl | rfl | rfl
      · exact .inl rfl
      · exact .inr ⟨rfl, .inl rfl⟩
      · exact .inr ⟨rfl, .inr rfl⟩
  · rename_i d n
    obtain ⟨p, hp, rfl, rfl⟩ := hs
    rcases unlinkat_state w d n with ⟨p', f, hp', hl, hpr, hco⟩ | ⟨_, hpr⟩
    · rw [hp] at hp'; cases hp'
      rw [h] at hl; cases hl
    · exact .inl hpr

def NoRebind (x : Bytes × Bytes) (log : List Event) : Prop := ∀ e ∈ log, e.binds x = false

/-- In this history, once a removal of `x` succeeded every later attempt is a lost race. -/
def WinnerFirst (x : Bytes × Bytes) (log : List Event) : Prop :=
  log.Pairwise fun e1 e2 => e1.removes x = true → e2.attempts x = true → e2.lost = true

def WinnerInv (x : Bytes × Bytes) (s : Shared) : Prop :=
  NoRebind x s.log → ((∃ e ∈ s.log, e.removes x = true) → s.fs.lookup x.1 x.2 = none) ∧ WinnerFirst x s.log

theorem stepEvent_lost (s : Shared) (i : Nat) (p : PState) (c : Call) (x : Bytes × Bytes)
    (ha : (stepEvent s i p c).attempts x = true) (hl : s.fs.lookup x.1 x.2 = none) : (stepEvent s i p c).lost = true := by
  have hs : callSrc (s.view p) c = some (x.1, x.2) := by
    simpa [Event.attempts, stepEvent] using ha
  have := lost_step (s.view p) c x.1 x.2 hs (by simpa using hl)
  simp only [Event.lost, stepEvent, Bool.or_eq_true, Bool.and_eq_true, beq_iff_eq]
  rcases this with h | ⟨h1, h | h⟩
  · exact .inl h
  · exact .inr ⟨h1, .inl h⟩
  · exact .inr ⟨h1, .inr h⟩

theorem winnerInv_step (x : Bytes × Bytes) (s : Shared) (i : Nat) (h : WinnerInv x s) : WinnerInv x (stepParty s i) := by
  apply stepParty_cases (P := WinnerInv x) h
  intro p c k hp hc hnr
  have hnr0 : NoRebind x s.log := fun e he => hnr e (by simp [he])
  have hev : (stepEvent s i p c).binds x = false := hnr _ (by simp)
  obtain ⟨h1, h2⟩ := h hnr0
  have hnb : ¬ (isOk (predict (s.view p) c) = true ∧ callDst (s.view p) c = some (x.1, x.2)) := by
    rintro ⟨a, b⟩
    simp [Event.binds, stepEvent, a, b] at hev
  refine ⟨?_, ?_⟩
  · rintro ⟨e, he, hr⟩
    simp only [stepCall_log, List.mem_append, List.mem_singleton] at he
    simp only [stepCall_fs, shared_lookup, stepView_eq]
    rcases he with he | rfl
    · rw [step_lookup_ne _ c x.1 x.2 hnb, show (s.view p).lookup x.1 x.2 = none from h1 ⟨e, he, hr⟩, ite_self]
    · simp only [Event.removes, stepEvent, Bool.and_eq_true, beq_iff_eq] at hr
      rw [step_lookup_ne _ c x.1 x.2 hnb, if_pos ⟨hr.2, hr.1⟩]
  · simp only [WinnerFirst, stepCall_log, List.pairwise_append, List.pairwise_cons, List.not_mem_nil, false_imp_iff,
      implies_true, List.Pairwise.nil, and_true, List.mem_singleton, forall_eq, true_and]
    refine ⟨h2, ?_⟩
    intro a ha har hat
    exact stepEvent_lost s i p c x hat (h1 ⟨a, ha, har⟩)

theorem winnerFirst_get {x : Bytes × Bytes} {log : List Event} (h : WinnerFirst x log) (i j : Nat) (e1 e2 : Event)
    (hij : i < j) (h1 : log[i]? = some e1) (h2 : log[j]? = some e2) (hr : e1.removes x = true)
    (ha : e2.attempts x = true) : e2.lost = true := by
  have := List.pairwise_iff_getElem.1 h i j (List.getElem?_eq_some_iff.1 h1).1 (List.getElem?_eq_some_iff.1 h2).1 hij
  rw [(List.getElem?_eq_some_iff.1 h1).2, (List.getElem?_eq_some_iff.1 h2).2] at this
  exact this hr ha

/-- Single winner, on every schedule: in the history of the run, as long as nobody creates the entry
`x` anew, a successful removal of `x` (the rename of the message away from it, or its unlink) is
followed only by lost races for `x`; in particular at most one removal succeeds. -/
theorem single_winner (s0 : Shared) (h0 : s0.log = []) (sched : List Nat) (x : Bytes × Bytes)
    (hnr : NoRebind x (runSched s0 sched).log) :
    WinnerFirst x (runSched s0 sched).log ∧
    ∀ (i j : Nat) (e1 e2 : Event), (runSched s0 sched).log[i]? = some e1 → (runSched s0 sched).log[j]? = some e2 →
      e1.removes x = true → e2.removes x = true → i = j := by
  have hinv : WinnerInv x (runSched s0 sched) := by
    refine runSched_inv (P := WinnerInv x) (fun s i h => winnerInv_step x s i h) sched s0 ?_
    intro _
    simp [h0, WinnerFirst]
  have hw := (hinv hnr).2
  refine ⟨hw, ?_⟩
  have key : ∀ (i j : Nat) (e1 e2 : Event), i < j → (runSched s0 sched).log[i]? = some e1 → (runSched s0 sched).log[j]? = some e2 →
      e1.removes x = true → e2.removes x = true → False := by
    intro i j e1 e2 hij h1 h2 r1 r2
    simp only [Event.removes, Bool.and_eq_true] at r2
    have hl := winnerFirst_get hw i j e1 e2 hij h1 h2 r1 (by simpa [Event.attempts] using r2.1)
    simp only [Event.lost, Bool.or_eq_true, Bool.and_eq_true, beq_iff_eq] at hl
    rcases hl with hl | ⟨_, hl | hl⟩ <;> simp [hl, isOk] at r2
  intro i j e1 e2 h1 h2 r1 r2
  rcases Nat.lt_trichotomy i j with hij | hij | hij
  · exact (key i j e1 e2 hij h1 h2 r1 r2).elim
  · exact hij
  · exact (key j i e2 e1 hij h2 h1 r2 r1).elim

/-- `exec_touches_only_own` on schedules: whatever the other parties and the client do in
between, an mdsort party only unlinks / renames the name it was given or names it created. -/
theorem parties_never_touch_foreign (s0 : Shared) (hf : Fresh s0) (sched : List Nat) (a : Nat) (p0 ps : PState)
    (env : PEnv) (ml : MatchList) (st : ExecSt)
    (h0 : s0.parties[a]? = some p0) (hp : p0.prog = errOf (matchesExec env ml st))
    (hs : (runSched s0 sched).parties[a]? = some ps) :
    ∀ i c r, ps.trace[i]? = some (c, r) →
      (∀ d n, c = .unlinkat d n → n ∈ ownNames st.ms.name ps.trace i) ∧
      (∀ d1 n1 d2 n2, c = .renameat d1 n1 d2 n2 →
        n1 ∈ ownNames st.ms.name ps.trace i ∧ n2 ∈ createdNames (ps.trace.take i)) := by
  intro i c r hget
  obtain ⟨L, hL⟩ := trace_is_oracle_prefix s0 hf sched a p0 ps h0 hs
  rw [hp, runOracle_errOf] at hL
  simp only at hL
  have hlt : i < ps.trace.length := (List.getElem?_eq_some_iff.1 hget).1
  have key := exec_touches_only_own env ml st (replay ps.trace) i c r (by
    show (runOracle _ _ 0 []).2[i]? = _
    rw [hL, List.getElem?_append_left hlt]; exact hget)
  have htake : (ps.trace ++ L).take i = ps.trace.take i := List.take_append_of_le_length (Nat.le_of_lt hlt)
  simp only [ownNames, hL, htake] at key ⊢
  exact key

/-- From oracle runs to schedules.  If the first action of a list reports an error on every oracle run
whose results satisfy `R` (a condition on results that `ENOENT` meets), then a party that executes the list
in a schedule, saw only results satisfying `R` and has finished, reports an error: the oracle replays the
party's trace and answers `ENOENT` wherever that would not satisfy `R`. -/
theorem error_in_schedule {R : Call → Res → Prop} (hdef : ∀ c, R c (.err "ENOENT")) (s0 : Shared) (hf : Fresh s0)
    (sched : List Nat) (a : Nat) (p0 ps : PState) (env : PEnv) (mh : Match) (rest : MatchList) (st : ExecSt)
    (hw : wp R NoI (execOne env mh st) (fun x _ => x.2 = true) [])
    (h0 : s0.parties[a]? = some p0) (hp : p0.prog = errOf (matchesExec env (mh :: rest) st))
    (hs : (runSched s0 sched).parties[a]? = some ps) (htr : ∀ (i : Nat) c r, ps.trace[i]? = some (c, r) → R c r)
    (e : Bool) (hfin : ps.prog = .ret e) : e = true := by
  open Classical in
  let orc : Nat → Call → Res := fun j c =>
    if R c (replay ps.trace j c) then replay ps.trace j c else .err "ENOENT"
  have hR : ∀ j c, R c (orc j c) := by
    intro j c
    show R c (if _ then _ else _)
    split
    · assumption
    · exact hdef c
  have hag : Agree orc ps.trace := by
    intro j c r hj
    have hrep := agree_replay ps.trace j c r hj
    show (if _ then _ else _) = r
    rw [hrep, if_pos (htr j c r hj)]
  have hrun := finished_is_oracle_run s0 hf sched a p0 ps e h0 hs hfin orc hag
  rw [hp, runOracle_errOf] at hrun
  rw [← (Prod.mk.inj hrun).1]
  exact (error_stops_list env mh rest rest st orc (wp_sound orc hR hw 0).1).1

/-- The loser of a race reports an error: a party executing a list that starts with a
move/flag/flags action, all of whose renames found the source gone, finishes with error = true. -/
theorem loser_reports_error (s0 : Shared) (hf : Fresh s0) (sched : List Nat) (a : Nat) (p0 ps : PState)
    (env : PEnv) (mh : Match) (rest : MatchList) (st : ExecSt)
    (h0 : s0.parties[a]? = some p0) (hp : p0.prog = errOf (matchesExec env (mh :: rest) st))
    (hty : mh.ty = .move ∨ mh.ty = .flag ∨ mh.ty = .flags)
    (hs : (runSched s0 sched).parties[a]? = some ps)
    (hlost : ∀ (i : Nat) (d1 : Handle) (n1 : Bytes) (d2 : Handle) (n2 : Bytes) (r : Res),
      ps.trace[i]? = some (Call.renameat d1 n1 d2 n2, r) → r = Res.err "ENOENT")
    (e : Bool) (hfin : ps.prog = .ret e) : e = true := by
  refine error_in_schedule (R := LostU False st.ms.name) (fun _ => ⟨fun _ _ _ _ _ => ⟨_, rfl, by decide⟩, False.elim⟩)
    s0 hf sched a p0 ps env mh rest st
    (lostU_execOne env mh st [] (hty.imp_right fun h => h.imp_right .inl)) h0 hp hs ?_ e hfin
  intro i c r hi
  exact ⟨fun d1 n1 d2 n2 hc => ⟨_, hlost i d1 n1 d2 n2 r (hc ▸ hi), by decide⟩, False.elim⟩

/-- The loser of a race reports an error, for every delivering first action, the copying ones included: all renames of the
party failed and all its unlinks of the message's name failed. -/
theorem loser_reports_error_all (s0 : Shared) (hf : Fresh s0) (sched : List Nat) (a : Nat) (p0 ps : PState)
    (env : PEnv) (mh : Match) (rest : MatchList) (st : ExecSt)
    (h0 : s0.parties[a]? = some p0) (hp : p0.prog = errOf (matchesExec env (mh :: rest) st))
    (hty : mh.ty = .move ∨ mh.ty = .flag ∨ mh.ty = .flags ∨ mh.ty = .label ∨ mh.ty = .addHeader)
    (hs : (runSched s0 sched).parties[a]? = some ps)
    (hren : ∀ (i : Nat) (d1 : Handle) (n1 : Bytes) (d2 : Handle) (n2 : Bytes) (r : Res),
      ps.trace[i]? = some (Call.renameat d1 n1 d2 n2, r) → ∃ e, r = Res.err e)
    (hunl : ∀ (i : Nat) (d : Handle) (r : Res), ps.trace[i]? = some (Call.unlinkat d st.ms.name, r) → ∃ e, r = Res.err e)
    (e : Bool) (hfin : ps.prog = .ret e) : e = true := by
  refine error_in_schedule (R := LostU True st.ms.name)
    (fun _ => ⟨fun _ _ _ _ _ => ⟨_, rfl, fun _ => True.intro⟩, fun _ _ _ => ⟨_, rfl⟩⟩) s0 hf sched a p0 ps env mh rest st
    (lostU_execOne env mh st [] (hty.imp_right fun h => h.imp_right fun h => h.imp_right fun h => ⟨True.intro, h⟩)) h0 hp hs ?_ e hfin
  intro i c r hi
  refine ⟨fun d1 n1 d2 n2 hc => ?_, fun _ d hc => hunl i d r (hc ▸ hi)⟩
  obtain ⟨e, he⟩ := hren i d1 n1 d2 n2 r (hc ▸ hi)
  exact ⟨e, he, fun _ => True.intro⟩

end Mdsort.Proofs.Parties
