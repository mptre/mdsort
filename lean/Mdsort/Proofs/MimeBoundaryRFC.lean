import Mdsort.Proofs.Mime

/-! `parseboundary` against the RFC 2045 reading of the boundary parameter (C11, finding F30): on Content-Type values
whose FIRST parameter is a QUOTED `boundary` both readings give the quoted text. -/

namespace Mdsort.Proofs
open Mdsort Mdsort.Model

theorem letter_token : ∀ c : UInt8, (97 ≤ Spec.lowerAscii c && Spec.lowerAscii c ≤ 122) = true → Spec.tokenChar c = true := by
  apply forall_u8; decide +kernel

theorem lowerAscii_letter : ∀ d : UInt8, (97 ≤ d && d ≤ 122) = true → Spec.lowerAscii d = d := by
  apply forall_u8; decide +kernel

/-- A word that equals a lower-case literal of letters up to case consists of token characters and has the literal's length. -/
theorem tokenEq_letters (a lit : Bytes) (h : Spec.tokenEq a lit = true)
    (hl : ∀ d ∈ lit, (97 ≤ d && d ≤ 122) = true) :
    (∀ c ∈ a, Spec.tokenChar c = true) ∧ a.length = lit.length := by
  unfold Spec.tokenEq at h
  have he := beq_iff_eq.mp h
  refine ⟨fun c hc => letter_token c ?_, by simpa using congrArg List.length he⟩
  have : Spec.lowerAscii c ∈ lit.map Spec.lowerAscii := he ▸ List.mem_map_of_mem hc
  obtain ⟨d, hd, hd2⟩ := List.mem_map.1 this
  rw [← hd2, lowerAscii_letter d (hl d hd)]; exact hl d hd

/-- The form of a Content-Type value `parseboundary` recognises: `multipart "/" subtype`, blanks, `;`, blanks,
`boundary="`, the boundary text `b` (no `"` inside), `"`, anything. -/
def FirstQuoted (ct b : Bytes) : Prop :=
  ∃ mp sub bl1 bl2 bname rest,
    ct = mp ++ 47 :: (sub ++ (bl1 ++ 59 :: (bl2 ++ (bname ++ 61 :: 34 :: (b ++ 34 :: rest))))) ∧
    Spec.tokenEq mp [109, 117, 108, 116, 105, 112, 97, 114, 116] = true ∧
    Spec.tokenEq bname [98, 111, 117, 110, 100, 97, 114, 121] = true ∧
    (∀ c ∈ sub, Spec.tokenChar c = true) ∧ (∀ c ∈ bl1, isblank c = true) ∧ (∀ c ∈ bl2, isblank c = true) ∧
    (34 : UInt8) ∉ b

theorem blank_not_token (c : UInt8) (h : isblank c = true) : Spec.tokenChar c = false := by
  unfold isblank at h
  simp only [Bool.or_eq_true, beq_iff_eq] at h
  rcases h with rfl | rfl <;> decide

theorem token_not_blank (c : UInt8) (h : Spec.tokenChar c = true) : isblank c = false := by
  cases hb : isblank c with
  | false => rfl
  | true => rw [blank_not_token c hb] at h; cases h

theorem token_ne (c : UInt8) (h : Spec.tokenChar c = true) (d : UInt8) (hd : Spec.tokenChar d = false) : c ≠ d := by
  intro e; rw [e, hd] at h; cases h

theorem rfc_of_firstQuoted (ct b : Bytes) (h : FirstQuoted ct b) :
    Spec.boundaryParamRFC ct = if b.isEmpty then .bad else .some b := by
  obtain ⟨mp, sub, bl1, bl2, bname, rest, rfl, hmp, hbn, hsub, hbl1, hbl2, hb⟩ := h
  obtain ⟨hmpt, -⟩ := tokenEq_letters mp _ hmp (by decide)
  obtain ⟨hbnt, hbnl⟩ := tokenEq_letters bname _ hbn (by decide)
  unfold Spec.boundaryParamRFC
  have h1 : (mp ++ 47 :: (sub ++ (bl1 ++ 59 :: (bl2 ++ (bname ++ 61 :: 34 :: (b ++ 34 :: rest)))))).takeWhile Spec.tokenChar = mp :=
    List.takeWhile_append_stop hmpt (by intro x hx; cases hx; decide)
  simp only [h1, List.drop_left, hmp, Bool.not_true, Bool.false_eq_true, if_false]
  have h2 : (sub ++ (bl1 ++ 59 :: (bl2 ++ (bname ++ 61 :: 34 :: (b ++ 34 :: rest))))).takeWhile Spec.tokenChar = sub := by
    apply List.takeWhile_append_stop hsub
    intro x hx
    cases bl1 with
    | nil => simp at hx; subst hx; decide
    | cons y r => simp at hx; subst hx; exact blank_not_token _ (hbl1 _ (by simp))
  rw [h2, List.drop_left]
  generalize hlen : (mp ++ 47 :: (sub ++ (bl1 ++ 59 :: (bl2 ++ (bname ++ 61 :: 34 :: (b ++ 34 :: rest)))))).length = n
  cases n with
  | zero => simp at hlen
  | succ f =>
    unfold Spec.params
    have h3 : (bl1 ++ 59 :: (bl2 ++ (bname ++ 61 :: 34 :: (b ++ 34 :: rest)))).dropWhile isblank =
        59 :: (bl2 ++ (bname ++ 61 :: 34 :: (b ++ 34 :: rest))) :=
      List.dropWhile_append_stop hbl1 (by intro x hx; cases hx; decide)
    rw [h3]
    have hbn0 : ∀ x, (bname ++ 61 :: 34 :: (b ++ 34 :: rest)).head? = some x → isblank x = false := by
      intro x hx
      cases bname with
      | nil => simp at hbnl
      | cons y r => simp at hx; subst hx; exact token_not_blank _ (hbnt _ (by simp))
    have h4 : (bl2 ++ (bname ++ 61 :: 34 :: (b ++ 34 :: rest))).dropWhile isblank = bname ++ 61 :: 34 :: (b ++ 34 :: rest) :=
      List.dropWhile_append_stop hbl2 hbn0
    simp only [h4]
    unfold Spec.param1
    have h5 : (bname ++ 61 :: 34 :: (b ++ 34 :: rest)).takeWhile Spec.tokenChar = bname :=
      List.takeWhile_append_stop hbnt (by intro x hx; cases hx; decide)
    simp only [h5, List.drop_left]
    have h6 : (b ++ 34 :: rest).takeWhile (fun c => c != 34) = b :=
      List.takeWhile_append_stop (by intro x hx; have : x ≠ 34 := fun e => hb (e ▸ hx); simpa using this) (by intro x hx; cases hx; decide)
    simp only [h6, List.drop_left, List.find?_cons, hbn]

theorem tokenEq_append (a b c d : Bytes) (h1 : Spec.tokenEq a c = true) (h2 : Spec.tokenEq b d = true) :
    Spec.tokenEq (a ++ b) (c ++ d) = true := by
  unfold Spec.tokenEq at *
  simp only [beq_iff_eq] at *
  simp [h1, h2]

theorem token_no_semi (c : UInt8) (h : Spec.tokenChar c = true) : (c != 59) = true := by
  have : c ≠ 59 := token_ne c h 59 (by decide)
  simpa using this

theorem blank_no_semi (c : UInt8) (h : isblank c = true) : (c != 59) = true := by
  unfold isblank at h
  simp only [Bool.or_eq_true, beq_iff_eq] at h
  rcases h with rfl | rfl <;> decide

theorem mdsort_of_firstQuoted (ct b : Bytes) (h : FirstQuoted ct b) :
    Spec.boundaryParam ct = if b.isEmpty then .bad else .some b := by
  obtain ⟨mp, sub, bl1, bl2, bname, rest, rfl, hmp, hbn, hsub, hbl1, hbl2, hb⟩ := h
  obtain ⟨hmpt, hmpl⟩ := tokenEq_letters mp _ hmp (by decide)
  obtain ⟨hbnt, hbnl⟩ := tokenEq_letters bname _ hbn (by decide)
  have hmpl9 : mp.length = 9 := hmpl
  have hbnl8 : bname.length = 8 := hbnl
  unfold Spec.boundaryParam
  simp only [List.length_cons, List.length_nil, Nat.zero_add, Nat.reduceAdd]
  have e1 : mp ++ 47 :: (sub ++ (bl1 ++ 59 :: (bl2 ++ (bname ++ 61 :: 34 :: (b ++ 34 :: rest))))) =
      (mp ++ [47]) ++ (sub ++ (bl1 ++ 59 :: (bl2 ++ (bname ++ 61 :: 34 :: (b ++ 34 :: rest))))) := by simp
  have hl1 : (mp ++ [47]).length = 10 := by simp [hmpl9]
  rw [e1, ← hl1, List.take_left, List.drop_left, hl1]
  have t1 : Spec.tokenEq (mp ++ [47]) [109, 117, 108, 116, 105, 112, 97, 114, 116, 47] = true :=
    tokenEq_append mp [47] [109, 117, 108, 116, 105, 112, 97, 114, 116] [47] hmp (by decide)
  simp only [t1, Bool.not_true, Bool.false_eq_true, if_false]
  have e2 : sub ++ (bl1 ++ 59 :: (bl2 ++ (bname ++ 61 :: 34 :: (b ++ 34 :: rest)))) =
      (sub ++ bl1) ++ 59 :: (bl2 ++ (bname ++ 61 :: 34 :: (b ++ 34 :: rest))) := by simp
  have h2 : (sub ++ (bl1 ++ 59 :: (bl2 ++ (bname ++ 61 :: 34 :: (b ++ 34 :: rest))))).dropWhile (fun c => c != 59) =
      59 :: (bl2 ++ (bname ++ 61 :: 34 :: (b ++ 34 :: rest))) := by
    rw [e2]
    apply List.dropWhile_append_stop
    · intro x hx
      rcases List.mem_append.1 hx with hx | hx
      · exact token_no_semi x (hsub x hx)
      · exact blank_no_semi x (hbl1 x hx)
    · intro x hx; cases hx; decide
  rw [h2]
  simp only
  have hbn0 : ∀ x, (bname ++ 61 :: 34 :: (b ++ 34 :: rest)).head? = some x → isblank x = false := by
    intro x hx
    cases bname with
    | nil => simp at hbnl
    | cons y r => simp at hx; subst hx; exact token_not_blank _ (hbnt _ (by simp))
  rw [List.dropWhile_append_stop hbl2 hbn0]
  have e3 : bname ++ 61 :: 34 :: (b ++ 34 :: rest) = (bname ++ [61, 34]) ++ (b ++ 34 :: rest) := by simp
  have hl3 : (bname ++ [61, 34]).length = 10 := by simp [hbnl8]
  rw [e3, ← hl3, List.take_left, List.drop_left]
  have t2 : Spec.tokenEq (bname ++ [61, 34]) [98, 111, 117, 110, 100, 97, 114, 121, 61, 34] = true :=
    tokenEq_append bname [61, 34] [98, 111, 117, 110, 100, 97, 114, 121] [61, 34] hbn (by decide)
  simp only [t2, Bool.not_true, Bool.false_eq_true, if_false]
  have h6 : (b ++ 34 :: rest).takeWhile (fun c => c != 34) = b :=
    List.takeWhile_append_stop (by intro x hx; have : x ≠ 34 := fun e => hb (e ▸ hx); simpa using this) (by intro x hx; cases hx; decide)
  rw [h6]
  have : (b.length == (b ++ 34 :: rest).length) = false := by simp
  simp only [this, Bool.false_eq_true, if_false]

end Mdsort.Proofs
