import Mdsort.Proofs.HeaderParse
import Mdsort.Proofs.HeaderRewriteSpec

/-! What `message_write` prints for a well-formed table reads back as that table (C08). -/


namespace Mdsort.Proofs
open Mdsort Mdsort.Model

/-- A field name that keeps the line structure. -/
def KeyOk (k : Bytes) : Prop := ∀ c ∈ k, c ≠ 58 ∧ isspace c = false ∧ c ≠ 0

/-- What a reader sees of a field: the value without its leading blanks. -/
def seen (f : Fld) : Fld := (f.1, f.2.dropWhile isblank)

/-- `v` is blanks `bl`, a first line `v0` (no leading blank) and continuation lines `conts`.  `message_write` prints
`name ": " value` and a reader drops ALL blanks after the colon, so the blanks are what reading back loses. -/
def ValShape (v bl v0 : Bytes) (conts : List Bytes) : Prop :=
  v = bl ++ (v0 ++ conts.flatMap (fun c => 10 :: c)) ∧ (∀ c ∈ bl, isblank c = true) ∧ (10 : UInt8) ∉ v0 ∧
  (∀ c, v0.head? = some c → isblank c = false) ∧
  ∀ c ∈ conts, Spec.isCont c = true ∧ (10 : UInt8) ∉ c

/-- A raw value that keeps the line structure. -/
def ValOk (v : Bytes) : Prop := (∀ c ∈ v, c ≠ 0) ∧ ∃ bl v0 conts, ValShape v bl v0 conts

/-- The printed message, from the (name, raw value) list. -/
def renderF (fs : List (Bytes × Bytes)) (b : Bytes) : Bytes :=
  (fs.flatMap fun f => f.1 ++ [58, 32] ++ f.2 ++ [10]) ++ [10] ++ b

theorem render_eq (hs : List Hdr) (body : Bytes) :
    render hs body = renderF (hs.map fun h => (h.key, h.val)) body := by
  unfold render renderF
  rw [List.flatMap_map]

theorem splitHB_cons (c : UInt8) (r cur : Bytes) :
    Spec.splitHB (c :: r) cur =
      if c == 10 then
        if cur.isEmpty then ([], some r)
        else
          let (ls, b) := Spec.splitHB r []
          (cur :: ls, b)
      else Spec.splitHB r (cur ++ [c]) := by
  rw [Spec.splitHB]

theorem splitHB_line (l rest cur : Bytes) (hl : (10 : UInt8) ∉ l) :
    Spec.splitHB (l ++ 10 :: rest) cur =
      if (cur ++ l).isEmpty then ([], some rest)
      else ((cur ++ l) :: (Spec.splitHB rest []).1, (Spec.splitHB rest []).2) := by
  induction l generalizing cur with
  | nil =>
    rw [List.nil_append, splitHB_cons]
    simp
  | cons c l ih =>
    have hc : (c == 10) = false := by
      have : c ≠ 10 := fun e => hl (by simp [e])
      simpa using this
    rw [List.cons_append, splitHB_cons]
    simp only [hc, Bool.false_eq_true, if_false]
    rw [ih (cur ++ [c]) (fun h => hl (by simp [h]))]
    simp

theorem splitHB_flat (ls : List Bytes) (body : Bytes) (hls : ∀ l ∈ ls, l ≠ [] ∧ (10 : UInt8) ∉ l) :
    Spec.splitHB (flat ls ++ 10 :: body) [] = (ls, some body) := by
  induction ls with
  | nil => simp [splitHB_cons]
  | cons l ls ih =>
    have hl := hls l (by simp)
    rw [flat_cons, List.append_assoc, List.cons_append, splitHB_line l _ [] hl.2]
    rw [ih (fun l hl => hls l (by simp [hl]))]
    have : (([] : Bytes) ++ l).isEmpty = false := by
      cases l with
      | nil => exact absurd rfl hl.1
      | cons _ _ => rfl
    simp [hl.1]

theorem flatMap_nl (conts : List Bytes) :
    conts.flatMap (fun c => 10 :: c) ++ [10] = 10 :: flat conts := by
  induction conts with
  | nil => rfl
  | cons c cs ih =>
    simp only [List.flatMap_cons, List.append_assoc, ih, flat_cons, List.cons_append]

theorem flatMap_nl_append (conts : List Bytes) (Y : Bytes) :
    conts.flatMap (fun c => 10 :: c) ++ 10 :: Y = 10 :: (flat conts ++ Y) := by
  have := congrArg (· ++ Y) (flatMap_nl conts)
  simpa using this

theorem head_first_line (v0 : Bytes) (conts : List Bytes) (hv : ∀ c, v0.head? = some c → isblank c = false) :
    ∀ c, (v0 ++ conts.flatMap (fun c => 10 :: c)).head? = some c → isblank c = false := by
  intro c hc
  cases v0 with
  | nil =>
    cases conts with
    | nil => simp at hc
    | cons a r => simp at hc; subst hc; decide
  | cons x t => simp at hc; subst hc; exact hv x rfl

theorem seen_of_shape {v bl v0 : Bytes} {conts : List Bytes} (h : ValShape v bl v0 conts) (k : Bytes) :
    seen (k, v) = (k, v0 ++ conts.flatMap (fun c => 10 :: c)) := by
  obtain ⟨rfl, hbl, _, hv, _⟩ := h
  unfold seen
  simp only
  rw [List.dropWhile_append_stop hbl (head_first_line v0 conts hv)]

theorem startLine_mk (k bl v0 : Bytes) (hk : ∀ c ∈ k, c ≠ 58 ∧ isspace c = false)
    (hbl : ∀ c ∈ bl, isblank c = true) (hv : ∀ c, v0.head? = some c → isblank c = false) :
    Spec.startLine (k ++ 58 :: 32 :: (bl ++ v0)) = some (k, v0) := by
  unfold Spec.startLine
  simp only [List.takeWhile_append_stop (p := fun c => c != 58) (a := k) (b := 58 :: 32 :: (bl ++ v0))
    (fun c hc => by simpa using (hk c hc).1) (by simp)]
  have h1 : (k.length == (k ++ 58 :: 32 :: (bl ++ v0)).length) = false := by simp
  have h2 : k.any isspace = false := by
    rw [List.any_eq_false]
    intro c hc
    simp [(hk c hc).2]
  have h3 : (k ++ 58 :: 32 :: (bl ++ v0)).drop (k.length + 1) = 32 :: (bl ++ v0) := by
    rw [show k ++ 58 :: 32 :: (bl ++ v0) = (k ++ [58]) ++ 32 :: (bl ++ v0) by simp]
    rw [List.drop_left' (by simp)]
  have h4 : (32 :: (bl ++ v0)).dropWhile isblank = v0 :=
    List.dropWhile_append_stop (a := 32 :: bl) (b := v0) (by
      intro c hc
      rcases List.mem_cons.mp hc with rfl | hc
      · decide
      · exact hbl c hc) hv
  simp only [h1, h2, Bool.false_eq_true, if_false, h3, h4]

/-- The printed fields are lines that group back into the fields a reader sees. -/
theorem fields_lines (fs : List (Bytes × Bytes)) (hfs : ∀ f ∈ fs, KeyOk f.1 ∧ ValOk f.2) :
    ∃ ls, (∀ l ∈ ls, l ≠ [] ∧ (10 : UInt8) ∉ l) ∧
      (fs.flatMap fun f => f.1 ++ [58, 32] ++ f.2 ++ [10]) = flat ls ∧
      (∀ l, ls.head? = some l → Spec.isCont l = false) ∧
      ∀ fuel, ls.length < fuel → Spec.groupFields fuel ls = some (fs.map seen) := by
  induction fs with
  | nil =>
    refine ⟨[], by simp, rfl, by simp, ?_⟩
    intro fuel hf
    cases fuel with
    | zero => omega
    | succ f => rfl
  | cons f fs ih =>
    obtain ⟨ls', h1, h2, h3, h4⟩ := ih (fun f hf => hfs f (by simp [hf]))
    obtain ⟨k, v⟩ := f
    obtain ⟨hk, hv0, bl, v0, conts, hshape⟩ := hfs (k, v) (by simp)
    have hseen := seen_of_shape hshape k
    obtain ⟨rfl, hbl, hv1, hv2, hv3⟩ := hshape
    have hk10 : (10 : UInt8) ∉ k := by
      intro hm
      have := (hk 10 hm).2.1
      revert this; decide
    have hbl10 : (10 : UInt8) ∉ bl := by
      intro hm
      have := hbl 10 hm
      revert this; decide
    refine ⟨(k ++ 58 :: 32 :: (bl ++ v0)) :: (conts ++ ls'), ?_, ?_, ?_, ?_⟩
    · intro l hl
      rcases List.mem_cons.mp hl with rfl | hl
      · refine ⟨by simp, ?_⟩
        simp only [List.mem_append, List.mem_cons, not_or]
        exact ⟨hk10, by decide, by decide, hbl10, hv1⟩
      · rcases List.mem_append.mp hl with hl | hl
        · refine ⟨?_, (hv3 l hl).2⟩
          intro e
          have := (hv3 l hl).1
          rw [e] at this
          simp [Spec.isCont] at this
        · exact h1 l hl
    · simp only [List.flatMap_cons, h2, flat_cons, flat_append]
      simp only [List.append_assoc, List.cons_append, List.nil_append]
      rw [flatMap_nl_append]
    · intro l hl
      simp only [List.head?_cons, Option.some.injEq] at hl
      subst hl
      cases k with
      | nil => simp [Spec.isCont]; decide
      | cons c k =>
        simp only [List.cons_append, Spec.isCont]
        have := (hk c (by simp)).2.1
        cases hb : isblank c with
        | false => rfl
        | true => rw [isspace_of_isblank c hb] at this; cases this
    · intro fuel hf
      cases fuel with
      | zero => omega
      | succ fuel =>
        rw [Spec.groupFields]
        rw [startLine_mk k bl v0 (fun c hc => ⟨(hk c hc).1, (hk c hc).2.1⟩) hbl hv2]
        simp only
        -- of the lines that follow, the continuation lines are exactly `conts`: `ls'` begins with a field start (`h3`)
        have hcont : ∀ x ∈ conts, Spec.isCont x = true := fun x hx => (hv3 x hx).1
        rw [List.takeWhile_append_stop hcont h3, List.dropWhile_append_stop hcont h3]
        rw [h4 fuel (by simp at hf; omega)]
        simp only [List.map_cons, hseen, Option.map_some]

theorem not_from_prefix (k X : Bytes) (hk : ∀ c ∈ k, c ≠ 58 ∧ isspace c = false) :
    ([70, 114, 111, 109, 32] : Bytes).isPrefixOf (k ++ 58 :: X) = false := by
  rw [Bool.eq_false_iff]
  intro h
  obtain ⟨t, ht⟩ := List.isPrefixOf_iff_prefix.1 h
  -- both sides split into bytes that are neither white space nor `:` and a first byte that is:
  -- `:` on one side, a space on the other
  have h1 := (List.span_stop (p := fun c => !isspace c && c != 58) (a := k) (b := X) (x := 58)
    (fun c hc => by simp [hk c hc]) (by decide)).2
  have h2 := (List.span_stop (p := fun c => !isspace c && c != 58) (a := [70, 114, 111, 109]) (b := t) (x := 32)
    (by decide) (by decide)).2
  rw [← ht] at h1
  rw [show ([70, 114, 111, 109, 32] : Bytes) ++ t = [70, 114, 111, 109] ++ 32 :: t from rfl, h2] at h1
  cases h1

theorem dropFromLine_renderF (fs : List (Bytes × Bytes)) (b : Bytes)
    (hfs : ∀ f ∈ fs, KeyOk f.1 ∧ ValOk f.2) :
    Spec.dropFromLine (renderF fs b) = renderF fs b := by
  unfold Spec.dropFromLine
  have : ([70, 114, 111, 109, 32] : Bytes).isPrefixOf (renderF fs b) = false := by
    cases fs with
    | nil => simp [renderF, List.isPrefixOf]
    | cons f fs =>
      obtain ⟨k, v⟩ := f
      have hk := (hfs (k, v) (by simp)).1
      have : renderF ((k, v) :: fs) b = k ++ 58 :: (32 :: v ++ [10] ++
          (fs.flatMap fun f => f.1 ++ [58, 32] ++ f.2 ++ [10]) ++ [10] ++ b) := by
        simp [renderF]
      rw [this]
      exact not_from_prefix k _ (fun c hc => ⟨(hk c hc).1, (hk c hc).2.1⟩)
  rw [this]
  simp

theorem read_renderF (fs : List (Bytes × Bytes)) (b : Bytes)
    (hfs : ∀ f ∈ fs, KeyOk f.1 ∧ ValOk f.2) (hb0 : ∀ c ∈ b, c ≠ 0)
    (hb : ∀ c, b.head? = some c → c ≠ 10) :
    Spec.read (renderF fs b) = some (fs.map seen, b) := by
  obtain ⟨ls, h1, h2, -, h4⟩ := fields_lines fs hfs
  have hnul : (renderF fs b).contains 0 = false := by
    rw [List.contains_eq_mem, decide_eq_false_iff_not]
    intro hm
    simp only [renderF, List.mem_append, List.mem_flatMap, List.mem_cons, List.not_mem_nil,
      or_false] at hm
    rcases hm with (⟨f, hf, hm⟩ | hm) | hm
    · obtain ⟨hk, hv, -⟩ := hfs f hf
      rcases hm with ((hm | hm) | hm) | hm
      · exact (hk 0 hm).2.2 rfl
      · rcases hm with hm | hm <;> revert hm <;> decide
      · exact hv 0 hm rfl
      · revert hm; decide
    · revert hm; decide
    · exact hb0 0 hm rfl
  have htext : renderF fs b = flat ls ++ 10 :: b := by
    unfold renderF; rw [h2]; simp
  unfold Spec.read
  rw [hnul, dropFromLine_renderF fs b hfs, htext, splitHB_flat ls b h1]
  simp only [Bool.false_eq_true, if_false]
  rw [h4 (ls.length + 1) (by omega)]
  split
  · rename_i r
    exact absurd rfl (hb 10 rfl)
  · rfl

theorem dropFromLine_subset (m : Bytes) : ∀ c ∈ Spec.dropFromLine m, c ∈ m := by
  unfold Spec.dropFromLine
  intro c hc
  split at hc
  · split at hc
    · exact hc
    · rename_i x r hd
      have : c ∈ m.dropWhile (fun c => c != 10) := by rw [hd]; simp [hc]
      exact (List.dropWhile_sublist _).subset this
  · exact hc

theorem mem_flat {c : UInt8} {l : Bytes} {ls : List Bytes} (hl : l ∈ ls) (hc : c ∈ l) : c ∈ flat ls := by
  unfold flat
  rw [List.mem_flatMap]
  exact ⟨l, hl, by simp [hc]⟩

theorem groupFields_ok (fuel : Nat) (ls : List Bytes) (fs : List (Bytes × Bytes))
    (hg : Spec.groupFields fuel ls = some fs)
    (hls : ∀ l ∈ ls, (10 : UInt8) ∉ l ∧ ∀ c ∈ l, c ≠ 0) :
    ∀ f ∈ fs, KeyOk f.1 ∧ ValOk f.2 ∧ seen f = f := by
  fun_induction Spec.groupFields fuel ls generalizing fs with
  -- out of fuel; no line left; a line that starts no field; a field start `l` with its continuation lines `conts`
  | case1 => cases hg
  | case2 => cases hg; simp
  | case3 fuel l ls hsl => cases hg
  | case4 fuel l ls' nm v0 hsl conts rest ih =>
    simp only [Option.map_eq_some_iff] at hg
    obtain ⟨fs', hg', rfl⟩ := hg
    obtain ⟨l', rfl, hn, rfl⟩ := startLine_spec l nm v0 hsl
    have hl := hls _ (List.mem_cons_self)
    intro f hf
    rcases List.mem_cons.mp hf with rfl | hf
    · have hsub : ∀ c ∈ l'.dropWhile isblank, c ∈ l' :=
        fun c hc => (List.dropWhile_sublist _).subset hc
      have hshape : ValShape (l'.dropWhile isblank ++ conts.flatMap (fun c => 10 :: c)) []
          (l'.dropWhile isblank) conts := by
        refine ⟨rfl, by simp, fun hm => hl.1 (by simp [hsub _ hm]), List.head?_dropWhile_neg isblank l', ?_⟩
        intro c hc
        exact ⟨List.of_mem_takeWhile hc, (hls c (by simp [(List.takeWhile_sublist _).subset hc])).1⟩
      refine ⟨fun c hc => ⟨(hn c hc).1, (hn c hc).2, hl.2 c (by simp [hc])⟩, ⟨?_, _, _, _, hshape⟩,
        seen_of_shape hshape nm⟩
      intro c hc
      simp only [List.mem_append, List.mem_flatMap, List.mem_cons] at hc
      rcases hc with hc | ⟨ct, hct, hc⟩
      · exact hl.2 c (by simp [hsub c hc])
      · rcases hc with rfl | hc
        · decide
        · exact (hls ct (by simp [(List.takeWhile_sublist _).subset hct])).2 c hc
    · exact ih fs' hg' (fun l hl' =>
        hls l (by simp [(List.dropWhile_sublist _).subset hl'])) f hf

theorem read_fields_ok (m : Bytes) (fs : List (Bytes × Bytes)) (b : Bytes)
    (h : Spec.read m = some (fs, b)) :
    (∀ f ∈ fs, KeyOk f.1 ∧ ValOk f.2 ∧ seen f = f) ∧ (∀ c ∈ b, c ≠ 0) ∧ (∀ c, b.head? = some c → c ≠ 10) := by
  obtain ⟨hnul, hb, ls, hls, htext, hg⟩ := read_spec m fs b h
  have hall : ∀ c ∈ flat ls ++ 10 :: b, c ≠ 0 := by
    intro c hc
    rw [← htext] at hc
    exact hnul c (dropFromLine_subset m c hc)
  refine ⟨?_, fun c hc => hall c (by simp [hc]), hb⟩
  apply groupFields_ok _ ls fs hg
  intro l hl
  exact ⟨(hls l hl).2, fun c hc => hall c (by simp [mem_flat hl hc])⟩

end Mdsort.Proofs
