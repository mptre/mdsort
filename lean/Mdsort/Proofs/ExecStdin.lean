import Mdsort.Spec.ExecStdin
import Mdsort.Proofs.WorldOwnBasic
import Mdsort.Proofs.Basics

/-!
# C11_exec_stdin: what `message_get_fd` hands to exec

The scripts of `message_get_fd` are walked once each in `EveryRun` (WorldOwnBasic: whatever the calls return, a condition on
the value and the calls the run issued), for one of two outcomes: `Fill S`
of a script that reports a failure by `true`, `Src ob H` of one that obtains a descriptor.  Both say "no call failed and the
calls have the documented shape, or some call failed".
-/

namespace Mdsort.Proofs
open Mdsort Mdsort.Model
open Mdsort.Proofs.World (bind_eq pure_eq ret_bind call_bind' call_bind tmpCopy hdrLine mwTail)
open Mdsort.Proofs.Own (Trace runOracle_eq)

theorem isOk_eq (r : Res) : isOk r = !r.isErr := World.isOk_eq_not_isErr r

theorem not_isErr_of_isOk {r : Res} (h : isOk r = true) : r.isErr = false := by
  cases r <;> first | rfl | cases h

abbrev NoFail (L : Trace) : Prop := ∀ x ∈ L, Spec.failed x = false

abbrev SomeFail (L : Trace) : Prop := ∃ x ∈ L, Spec.failed x = true

/-- Calls whose only way to fail is an error result. -/
def plainCall : Call → Bool
  | .mkostemp _ | .dupfd _ | .write _ _ => false
  | _ => true

theorem failed_of_not_isOk (c : Call) {r : Res} (h : ¬ isOk r = true) : Spec.failed (c, r) = true := by
  cases r with
  | err e => cases c <;> rfl
  | _ => exact absurd rfl h

theorem not_failed_of_isOk {c : Call} {r : Res} (hc : plainCall c = true) (h : isOk r = true) : Spec.failed (c, r) = false := by
  cases r with
  | err e => cases h
  | _ => cases c <;> first | rfl | cases hc

theorem written_nil (fd : Handle) : Spec.written fd [] = [] := rfl
theorem written_append (fd : Handle) (A B : Trace) : Spec.written fd (A ++ B) = Spec.written fd A ++ Spec.written fd B := by
  simp [Spec.written, List.flatMap_append]
theorem written_cons (fd : Handle) (x : Call × Res) (L : Trace) :
    Spec.written fd (x :: L) = Spec.written fd [x] ++ Spec.written fd L := written_append fd [x] L
theorem written_write (fd : Handle) (d : Bytes) (n : Nat) : Spec.written fd [(.write fd d, .ok n)] = d.take n := by
  simp [Spec.written]

theorem printed_append (fd : Handle) (A B : Trace) : Spec.printed fd (A ++ B) = Spec.printed fd A ++ Spec.printed fd B := by
  simp [Spec.printed, List.flatMap_append]
theorem printed_cons (fd : Handle) (x : Call × Res) (L : Trace) :
    Spec.printed fd (x :: L) = Spec.printed fd [x] ++ Spec.printed fd L := printed_append fd [x] L
theorem printed_fprintf (fd : Handle) (d : Bytes) {r : Res} (h : isOk r = true) :
    Spec.printed fd [(.fprintf fd d, r)] = d := by
  simp [Spec.printed, not_isErr_of_isOk h]

def Fill (S : Trace → Prop) : Bool → Trace → Prop
  | false, L => NoFail L ∧ S L
  | true, L => SomeFail L

theorem Fill.cons {S S' : Trace → Prop} {e : Bool} {L : Trace} {x : Call × Res} (hx : Spec.failed x = false)
    (hS : ∀ L, S L → S' (x :: L)) (h : Fill S e L) : Fill S' e (x :: L) := by
  cases e with
  | false => exact ⟨List.forall_mem_cons.2 ⟨hx, h.1⟩, hS _ h.2⟩
  | true => exact h.imp fun _ hy => ⟨List.mem_cons_of_mem _ hy.1, hy.2⟩

/-- A script that obtains a descriptor, or `none`.  `ob`: what it needs besides successful calls; without it no call is
issued.  It returns a descriptor when no call failed, and then the calls are `H`; if a call failed, the descriptor it had
obtained is closed by the last call. -/
def Src (ob : Bool) (H : Handle → Trace → Prop) : Option Handle → Trace → Prop
  | some fd, L => ob = true ∧ NoFail L ∧ H fd L ∧ Spec.obtainedFd L = some fd
  | none, L => (ob = false ∧ L = [] ∨ ob = true ∧ SomeFail L) ∧ ∀ fd, Spec.obtainedFd L = some fd → Spec.ClosedLast fd L

theorem Src.mono {ob ob' : Bool} {H H' : Handle → Trace → Prop} {o : Option Handle} {L : Trace} (hob : ob = ob')
    (hH : ∀ fd, H fd L → H' fd L) (h : Src ob H o L) : Src ob' H' o L := by
  subst hob
  cases o with
  | some fd => exact ⟨h.1, h.2.1, hH fd h.2.2.1, h.2.2.2⟩
  | none => exact h

theorem everyRun_writeAll (fd : Handle) : ∀ (fuel : Nat) (data : Bytes), data.length < fuel →
    EveryRun (writeAll fd fuel data)
      (Fill fun L => (∀ x ∈ L, ∃ d n, x = (Call.write fd d, Res.ok n) ∧ 0 < n) ∧ Spec.written fd L = data) := by
  intro fuel
  induction fuel with
  | zero => intro data h; cases h
  | succ fuel ih =>
    intro data hlen
    unfold writeAll
    by_cases hd : data.isEmpty = true
    · simp only [hd, if_true, pure_eq]
      rw [List.isEmpty_iff.1 hd]
      exact ⟨List.forall_mem_nil _, List.forall_mem_nil _, rfl⟩
    · simp only [hd, Bool.false_eq_true, if_false, bind_eq, pure_eq, call_bind]
      intro r
      cases r with
      | ok n =>
        dsimp only
        by_cases hn : (n == 0) = true
        · simp only [hn, if_true]
          exact ⟨_, List.mem_cons_self .., hn⟩
        · simp only [hn]
          have hn0 : 0 < n := Nat.pos_of_ne_zero fun h0 => hn (by simp [h0])
          have hl : (data.drop n).length < fuel := by
            have : 0 < data.length := List.length_pos_iff.2 fun h => hd (List.isEmpty_iff.2 h)
            rw [List.length_drop]
            omega
          refine (ih _ hl).mono fun e L => Fill.cons (Bool.eq_false_iff.2 hn : (n == 0) = false) ?_
          rintro L ⟨hw, hwr⟩
          exact ⟨List.forall_mem_cons.2 ⟨⟨data, n, rfl, hn0⟩, hw⟩, by rw [written_cons, written_write, hwr, List.take_append_drop]⟩
      | _ => exact ⟨_, List.mem_cons_self .., rfl⟩

theorem everyRun_hdrs (newfd : Handle) (hs : List Hdr) :
    EveryRun (messageWriteP.hdrs newfd hs)
      (Fill fun L => (∀ x ∈ L, ∃ d r, x = (Call.fprintf newfd d, r)) ∧ Spec.printed newfd L = hs.flatMap hdrLine) := by
  induction hs with
  | nil =>
    rw [World.hdrs_nil]
    exact ⟨List.forall_mem_nil _, List.forall_mem_nil _, rfl⟩
  | cons hd rest ih =>
    rw [World.hdrs_cons]
    intro r
    by_cases hk : isOk r = true
    · simp only [hk, if_true]
      refine ih.mono fun e L => Fill.cons (not_failed_of_isOk rfl hk) ?_
      rintro L ⟨hp, hpr⟩
      exact ⟨List.forall_mem_cons.2 ⟨⟨_, _, rfl⟩, hp⟩, by rw [printed_cons, printed_fprintf newfd _ hk, hpr, List.flatMap_cons]⟩
    · simp only [hk]
      exact ⟨_, List.mem_cons_self .., failed_of_not_isOk _ hk⟩

theorem everyRun_mwTail (newfd : Handle) (body : Bytes) :
    EveryRun (mwTail newfd body false)
      (Fill fun L => ∃ rb r4 r5, isOk rb = true ∧
        L = [(.fprintf newfd ([10] ++ body), rb), (.fflush newfd, r4), (.fsync newfd, r5)]) := by
  unfold mwTail
  simp only [Bool.false_eq_true, if_false]
  intro rb
  by_cases hkb : isOk rb = true
  · simp only [hkb, Bool.not_true, Bool.false_eq_true, if_false]
    intro r4
    by_cases hk4 : isOk r4 = true
    · simp only [hk4, Bool.not_true, Bool.false_eq_true, if_false]
      intro r5
      by_cases hk5 : isOk r5 = true
      · simp only [hk5, Bool.not_true]
        exact ⟨List.forall_mem_cons.2 ⟨not_failed_of_isOk rfl hkb, List.forall_mem_cons.2 ⟨not_failed_of_isOk rfl hk4,
          List.forall_mem_cons.2 ⟨not_failed_of_isOk rfl hk5, List.forall_mem_nil _⟩⟩⟩, rb, r4, r5, hkb, rfl⟩
      · simp only [hk5, Bool.not_false]
        exact ⟨(.fsync newfd, r5), by simp, failed_of_not_isOk _ hk5⟩
    · simp only [hk4, Bool.not_false, if_true]
      exact ⟨(.fflush newfd, r4), by simp, failed_of_not_isOk _ hk4⟩
  · simp only [hkb, Bool.not_false, if_true]
    exact ⟨_, List.mem_cons_self .., failed_of_not_isOk _ hkb⟩

theorem everyRun_messageWriteP (m : Msg) (fd : Handle) :
    EveryRun (messageWriteP m fd)
      (Fill fun L => ∃ (newfd : Handle) (r3 : Res) (P : Trace) (r4 r5 r6 : Res),
        L = (Call.dupfd fd, Res.ok newfd) :: (Call.fdopen newfd, r3) ::
              (P ++ [(Call.fflush newfd, r4), (Call.fsync newfd, r5), (Call.fclose newfd, r6)]) ∧
        (∀ x ∈ P, ∃ (d : Bytes) (r : Res), x = (Call.fprintf newfd d, r)) ∧ Spec.printed newfd L = (messageWrite m).1) := by
  rw [World.messageWriteP_eq]
  intro r
  cases r with
  | ok newfd =>
    intro r3
    by_cases hk3 : isOk r3 = true
    · simp only [hk3, Bool.not_true, Bool.false_eq_true, if_false]
      refine EveryRun.bind ((everyRun_hdrs newfd _).mono fun herr La hh => EveryRun.bind ?_)
      cases herr with
      | true =>
        -- the header lines failed: the tail is skipped, the stream is closed, the value is `true`
        intro r6
        obtain ⟨x, hx, hf⟩ := hh
        exact ⟨x, by simp [hx], hf⟩
      | false =>
        refine (everyRun_mwTail newfd m.body).mono fun err1 Lc ht r6 => ?_
        cases err1 with
        | true =>
          obtain ⟨x, hx, hf⟩ := ht
          exact ⟨x, by simp [hx], hf⟩
        | false =>
          obtain ⟨hna, hP, hpr⟩ := hh
          obtain ⟨hnc, rb, r4, r5, hkb, rfl⟩ := ht
          by_cases hk6 : isOk r6 = true
          · simp only [hk6, Bool.not_true, Bool.or_false]
            refine ⟨?_, newfd, r3, La ++ [(.fprintf newfd ([10] ++ m.body), rb)], r4, r5, r6, ?_, ?_, ?_⟩
            · exact List.forall_mem_cons.2 ⟨rfl, List.forall_mem_cons.2 ⟨not_failed_of_isOk rfl hk3, List.forall_mem_append.2
                ⟨hna, List.forall_mem_append.2 ⟨hnc, List.forall_mem_singleton.2 (not_failed_of_isOk rfl hk6)⟩⟩⟩⟩
            · simp
            · intro x hx
              rcases List.mem_append.1 hx with hx | hx
              · exact hP x hx
              · exact ⟨_, _, List.mem_singleton.1 hx⟩
            · have hren : (messageWrite m).1 = (sortById m.headers).flatMap hdrLine ++ [10] ++ m.body := rfl
              simp only [Spec.printed] at hpr
              simp [Spec.printed, hren, hpr, not_isErr_of_isOk hkb, List.flatMap_cons, List.flatMap_append]
          · simp only [hk6, Bool.not_false, Bool.or_true]
            exact ⟨(.fclose newfd, r6), by simp, failed_of_not_isOk _ hk6⟩
    · simp only [hk3, Bool.not_false, if_true]
      intro rc
      exact ⟨(.fdopen newfd, r3), by simp, failed_of_not_isOk _ hk3⟩
  | _ => exact ⟨_, List.mem_cons_self .., rfl⟩

theorem everyRun_tmpCopy {tmpdir : Bytes} {fill : Handle → Prog Bool} {C : Handle → Trace → Prop}
    (hfill : ∀ fd, EveryRun (fill fd) (Fill (C fd))) :
    EveryRun (tmpCopy tmpdir fill)
      (Src (Spec.tmpTemplate tmpdir).isSome fun fd L => ∃ t r2 F, Spec.tmpTemplate tmpdir = some t ∧
        L = (.mkostemp t, .ok fd) :: (.unlink t, r2) :: F ∧ C fd F) := by
  unfold tmpCopy writefd Spec.tmpTemplate
  cases pathjoin PATH_MAX tmpdir (ofString "mdsort-XXXXXXXX") with
  | none => exact ⟨.inl ⟨rfl, rfl⟩, fun _ h => nomatch h⟩
  | some t =>
    simp only [bind_eq, pure_eq, call_bind, call_bind']
    intro r
    cases r with
    | ok fd =>
      intro r2
      have closed : ∀ (F : Trace) (r3 : Res) (fd' : Handle),
          Spec.obtainedFd ((Call.mkostemp t, Res.ok fd) :: (Call.unlink t, r2) :: (F ++ [(Call.close fd, r3)])) = some fd' →
          Spec.ClosedLast fd' ((Call.mkostemp t, Res.ok fd) :: (Call.unlink t, r2) :: (F ++ [(Call.close fd, r3)])) := by
        intro F r3 fd' hfd
        cases hfd
        exact ⟨r3, List.getLast?_concat (l := (Call.mkostemp t, Res.ok fd) :: (Call.unlink t, r2) :: F)⟩
      by_cases hk : isOk r2 = true
      · simp only [hk, if_true, ret_bind]
        refine EveryRun.bind ((hfill fd).mono fun e F hF => ?_)
        cases e with
        | true =>
          intro r3
          obtain ⟨x, hx, hf⟩ := hF
          exact ⟨.inr ⟨rfl, x, by simp [hx], hf⟩, closed F r3⟩
        | false =>
          refine ⟨rfl, ?_, ⟨t, r2, F, rfl, by simp, hF.2⟩, rfl⟩
          simp only [List.append_nil]
          exact List.forall_mem_cons.2 ⟨rfl, List.forall_mem_cons.2 ⟨not_failed_of_isOk rfl hk, hF.1⟩⟩
      · simp only [hk]
        intro r3
        exact ⟨.inr ⟨rfl, (.unlink t, r2), by simp, failed_of_not_isOk _ hk⟩, closed [] r3⟩
    | _ => exact ⟨.inr ⟨rfl, _, List.mem_cons_self .., rfl⟩, fun _ h => by cases h⟩

/-- The first half of `message_get_fd`: where the descriptor comes from. -/
def getFdSource (env : PEnv) (ms : MsgSt) (part : Option Msg) (dobody : Bool) : Prog (Option Handle) :=
  if dobody then
    match getBody (part.getD ms.msg) with
    | none => .ret none
    | some body => tmpCopy env.tmpdir fun fd => writeAll fd (body.length + 1) (cstr body)
  else if part.isSome then tmpCopy env.tmpdir fun fd => messageWriteP (part.getD ms.msg) fd
  else
    match ms.fd with
    | none => .ret none
    | some mfd => .call (.dupfd mfd) fun r => .ret (resHandle r)

theorem everyRun_getFdSource (env : PEnv) (ms : MsgSt) (part : Option Msg) (dobody : Bool) :
    EveryRun (getFdSource env ms part dobody) (Src (Spec.Obtainable env ms part dobody) (Spec.HandedOver env ms part dobody)) := by
  unfold getFdSource
  cases dobody with
  | true =>
    simp only [if_true]
    cases hb : getBody (part.getD ms.msg) with
    | none => exact ⟨.inl ⟨by simp [Spec.Obtainable, hb], rfl⟩, fun _ h => nomatch h⟩
    | some body =>
      refine (everyRun_tmpCopy fun fd => everyRun_writeAll fd _ _ (Nat.lt_succ_of_le (cstr_length_le body))).mono
        fun o L => Src.mono (by simp [Spec.Obtainable, hb]) ?_
      rintro fd ⟨t, r2, F, ht, rfl, hw, hwr⟩
      simp only [Spec.HandedOver, if_true]
      exact ⟨body, t, r2, F, hb, ht, rfl, hw, by rw [written_cons, written_cons _ _ F, hwr]; rfl⟩
  | false =>
    simp only [Bool.false_eq_true, if_false]
    cases part with
    | some p =>
      simp only [Option.isSome_some, if_true, Option.getD_some]
      refine (everyRun_tmpCopy fun fd => everyRun_messageWriteP p fd).mono fun o L => Src.mono (by simp [Spec.Obtainable]) ?_
      rintro fd ⟨t, r2, F, ht, rfl, newfd, r3, P, r4, r5, r6, rfl, hP, hpr⟩
      simp only [Spec.HandedOver, Bool.false_eq_true, if_false]
      exact ⟨t, r2, newfd, r3, P, r4, r5, r6, ht, rfl, hP, by rw [printed_cons, printed_cons _ (Call.unlink t, r2), hpr]; rfl⟩
    | none =>
      simp only [Option.isSome_none, Bool.false_eq_true, if_false]
      cases hm : ms.fd with
      | none => exact ⟨.inl ⟨by simp [Spec.Obtainable, hm], rfl⟩, fun _ h => nomatch h⟩
      | some mfd =>
        have hob : Spec.Obtainable env ms none false = true := by simp [Spec.Obtainable, hm]
        intro r
        cases r with
        | ok v =>
          refine ⟨hob, List.forall_mem_cons.2 ⟨rfl, List.forall_mem_nil _⟩, ?_, rfl⟩
          simp only [Spec.HandedOver, Bool.false_eq_true, if_false]
          exact ⟨mfd, hm, rfl⟩
        | _ => exact ⟨.inr ⟨hob, _, List.mem_cons_self .., rfl⟩, fun _ h => by cases h⟩

theorem obtainedFd_append {L : Trace} {fd : Handle} (h : Spec.obtainedFd L = some fd) (M : Trace) :
    Spec.obtainedFd (L ++ M) = some fd := by
  cases L with
  | nil => cases h
  | cons x L => exact h

/-- What a run of `message_get_fd` that returns `o` has issued. -/
def GotFd (env : PEnv) (ms : MsgSt) (part : Option Msg) (dobody : Bool) : Option Handle → Trace → Prop
  | some fd, L => ∃ (L0 : Trace) (r : Res), L = L0 ++ [(Call.lseek fd, r)] ∧ r.isErr = false ∧
      Spec.Obtainable env ms part dobody = true ∧ NoFail L ∧ Spec.HandedOver env ms part dobody fd L0
  | none, L => (Spec.Obtainable env ms part dobody = false ∧ L = [] ∨ Spec.Obtainable env ms part dobody = true ∧ SomeFail L) ∧
      ∀ fd, Spec.obtainedFd L = some fd → Spec.ClosedLast fd L

theorem everyRun_messageGetFd (env : PEnv) (ms : MsgSt) (part : Option Msg) (dobody : Bool) :
    EveryRun (messageGetFd env ms part dobody) (GotFd env ms part dobody) := by
  rw [World.messageGetFd_eq]
  refine EveryRun.bind ((everyRun_getFdSource env ms part dobody).mono fun fdo L1 hs => ?_)
  cases fdo with
  | none =>
    show GotFd env ms part dobody none (L1 ++ [])
    rw [List.append_nil]
    exact hs
  | some fd0 =>
    obtain ⟨hob, hnf, hho, hfd0⟩ := hs
    intro r
    by_cases hk : isOk r = true
    · simp only [hk, if_true]
      exact ⟨L1, r, rfl, not_isErr_of_isOk hk, hob,
        List.forall_mem_append.2 ⟨hnf, List.forall_mem_singleton.2 (not_failed_of_isOk rfl hk)⟩, hho⟩
    · simp only [hk]
      intro r'
      refine ⟨.inr ⟨hob, (.lseek fd0, r), by simp, failed_of_not_isOk _ hk⟩, fun fd hfd => ?_⟩
      rw [obtainedFd_append hfd0] at hfd
      cases hfd
      exact ⟨r', List.getLast?_concat (l := L1 ++ [(Call.lseek fd0, r)]) ▸ by simp⟩

theorem gotFd_runOracle (env : PEnv) (ms : MsgSt) (part : Option Msg) (dobody : Bool) (orc : Nat → Call → Res) (i : Nat)
    (tr : Trace) : ∃ L, (runOracle orc (messageGetFd env ms part dobody) i tr).2 = tr ++ L ∧
      GotFd env ms part dobody (runOracle orc (messageGetFd env ms part dobody) i tr).1 L := by
  rw [runOracle_eq]
  exact ⟨_, rfl, (everyRun_messageGetFd env ms part dobody).runO orc i⟩

/-- `Props.C11_exec_stdin`. -/
theorem exec_stdin_handed_over (env : PEnv) (ms : MsgSt) (part : Option Msg) (dobody : Bool)
    (orc : Nat → Call → Res) (i : Nat) (tr : Trace) (fd : Handle)
    (h : (runOracle orc (messageGetFd env ms part dobody) i tr).1 = some fd) :
    ∃ (L0 : Trace) (r : Res), (runOracle orc (messageGetFd env ms part dobody) i tr).2 = tr ++ L0 ++ [(Call.lseek fd, r)] ∧
      r.isErr = false ∧ (∀ x ∈ L0, Spec.failed x = false) ∧ Spec.HandedOver env ms part dobody fd L0 := by
  obtain ⟨L, hL, hg⟩ := gotFd_runOracle env ms part dobody orc i tr
  rw [h] at hg
  obtain ⟨L0, r, rfl, hre, -, hnf, hho⟩ := hg
  exact ⟨L0, r, by rw [hL, List.append_assoc], hre, fun x hx => hnf x (List.mem_append_left _ hx), hho⟩

/-- `Props.C11_exec_stdin_delivered_iff`. -/
theorem exec_stdin_delivered_iff (env : PEnv) (ms : MsgSt) (part : Option Msg) (dobody : Bool)
    (orc : Nat → Call → Res) (i : Nat) (tr L : Trace)
    (hL : (runOracle orc (messageGetFd env ms part dobody) i tr).2 = tr ++ L) :
    (runOracle orc (messageGetFd env ms part dobody) i tr).1.isSome = true ↔
      Spec.Obtainable env ms part dobody = true ∧ ∀ x ∈ L, Spec.failed x = false := by
  obtain ⟨L', hL', hg⟩ := gotFd_runOracle env ms part dobody orc i tr
  obtain rfl : L' = L := List.append_cancel_left (hL'.symm.trans hL)
  generalize (runOracle orc (messageGetFd env ms part dobody) i tr).1 = o at hg
  cases o with
  | none =>
    refine ⟨fun h => (by cases h), fun ⟨hob, hall⟩ => ?_⟩
    rcases hg.1 with ⟨hf, -⟩ | ⟨-, x, hx, hxf⟩
    · rw [hob] at hf; cases hf
    · rw [hall x hx] at hxf; cases hxf
  | some fd =>
    obtain ⟨L0, r, -, -, hob, hnf, -⟩ := hg
    exact ⟨fun _ => ⟨hob, hnf⟩, fun _ => rfl⟩

/-- `Props.C11_exec_stdin_failure`. -/
theorem exec_stdin_failure (env : PEnv) (ms : MsgSt) (part : Option Msg) (dobody : Bool)
    (orc : Nat → Call → Res) (i : Nat) (tr L : Trace)
    (hL : (runOracle orc (messageGetFd env ms part dobody) i tr).2 = tr ++ L) :
    ((∃ x ∈ L, Spec.failed x = true) → (runOracle orc (messageGetFd env ms part dobody) i tr).1 = none) ∧
    ((runOracle orc (messageGetFd env ms part dobody) i tr).1 = none →
      ∀ fd, Spec.obtainedFd L = some fd → Spec.ClosedLast fd L) := by
  obtain ⟨L', hL', hg⟩ := gotFd_runOracle env ms part dobody orc i tr
  obtain rfl : L' = L := List.append_cancel_left (hL'.symm.trans hL)
  generalize (runOracle orc (messageGetFd env ms part dobody) i tr).1 = o at hg
  refine ⟨fun ⟨x, hx, hxf⟩ => ?_, fun ho => by subst ho; exact hg.2⟩
  cases o with
  | none => rfl
  | some fd =>
    obtain ⟨L0, r, -, -, -, hnf, -⟩ := hg
    rw [hnf x hx] at hxf
    cases hxf

end Mdsort.Proofs
