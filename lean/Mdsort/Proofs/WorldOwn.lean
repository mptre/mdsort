import Mdsort.Proofs.WorldOwnScripts
import Mdsort.Proofs.Basics

/-! Against arbitrary call results.  C17: a party only ever removes or replaces names it was handed as its message or created
itself.  C13: the value of `exec()` and the argument vector it hands to `fork`. -/

namespace Mdsort.Proofs

open Mdsort Mdsort.Model
open Mdsort.Proofs.World (bind_eq pure_eq ret_bind call_bind' call_bind)
open Mdsort.Proofs.Own

/-- The names a run may remove or rename at step `i`: the name of the message it was given, and
every name it created itself (exclusively) before that step. -/
def ownNames (src : Bytes) (tr : List (Call × Res)) (i : Nat) : List Bytes := src :: createdNames (tr.take i)

/-- Whatever the file system and other parties do (arbitrary results), executing an action list
never unlinks a name and never renames from a name that is not its own, and never renames ONTO a
name it did not create itself (so it never replaces a file created by another party, nor removes
a winner's copy). -/
theorem exec_touches_only_own (env : PEnv) (ml : MatchList) (st : ExecSt) (orc : Nat → Call → Res) :
    let tr := (runOracle orc (matchesExec env ml st) 0 []).2
    ∀ i c r, tr[i]? = some (c, r) →
      (∀ d n, c = .unlinkat d n → n ∈ ownNames st.ms.name tr i) ∧
      (∀ d1 n1 d2 n2, c = .renameat d1 n1 d2 n2 → n1 ∈ ownNames st.ms.name tr i ∧ n2 ∈ createdNames (tr.take i)) := by
  intro tr i c r hget
  have h := wp_sound (R := fun _ _ => True) orc (fun _ _ => True.intro)
    (spec_matchesExec st.ms.name env ml st [] (Own.src _ _)) 0
  exact h.2 i c r (Nat.zero_le _) hget

/-- Once the source name is gone - every `renameat` is answered `ENOENT` - the run reports an error for this message: a lost
race is never reported as success.  Stated for a single move/flag/flags entry; any other errno, and the copying actions,
are `lost_race_is_error_all`. -/
theorem lost_race_is_error (env : PEnv) (mh : Match) (st : ExecSt) (orc : Nat → Call → Res)
    (hty : mh.ty = .move ∨ mh.ty = .flag ∨ mh.ty = .flags)
    (hlost : ∀ i d1 n1 d2 n2, orc i (.renameat d1 n1 d2 n2) = .err "ENOENT") :
    (runOracle orc (execOne env mh st) 0 []).1.2 = true := by
  refine (wp_sound (R := LostU False st.ms.name) orc ?_
    (lostU_execOne env mh st [] (hty.imp_right fun h => h.imp_right .inl)) 0).1
  intro i c
  exact ⟨fun d1 n1 d2 n2 hc => ⟨_, by rw [hc]; exact hlost i d1 n1 d2 n2, by decide⟩, False.elim⟩

/-- A lost race is an error for every delivering action, the copying ones included (`U = True`). -/
theorem lost_race_is_error_all (env : PEnv) (mh : Match) (st : ExecSt) (orc : Nat → Call → Res)
    (hty : mh.ty = .move ∨ mh.ty = .flag ∨ mh.ty = .flags ∨ mh.ty = .label ∨ mh.ty = .addHeader)
    (hren : ∀ i d1 n1 d2 n2, ∃ e, orc i (.renameat d1 n1 d2 n2) = .err e)
    (hunl : ∀ i d, ∃ e, orc i (.unlinkat d st.ms.name) = .err e) :
    (runOracle orc (execOne env mh st) 0 []).1.2 = true := by
  refine (wp_sound (R := LostU True st.ms.name) orc ?_
    (lostU_execOne env mh st [] (hty.imp_right fun h => h.imp_right fun h => h.imp_right fun h => ⟨True.intro, h⟩)) 0).1
  intro i c
  refine ⟨fun d1 n1 d2 n2 hc => ?_, fun _ d hc => by subst hc; exact hunl i d⟩
  subst hc
  obtain ⟨e, he⟩ := hren i d1 n1 d2 n2
  exact ⟨e, he, fun _ => True.intro⟩

/-! C13: exit statuses, argument vectors. -/

/-- The handle a successful call returned (`open("/dev/null")` in `exec()`); 0 when the call failed (then no `fork`
is issued and the value is not used). -/
def Own.okHandle : Res → Handle
  | .ok h => h
  | _ => 0

theorem Own.execP_run (argv : List Bytes) (fdin : Option Handle) (orc : Nat → Call → Res) (i : Nat) :
    (runO orc (execP argv fdin) i).1 =
      match fdin with
      | some fd => execValue true (orc i (.fork argv fd)) (orc (i + 1) .waitpid)
      | none =>
        match orc i (.openPath (ofString "/dev/null")) with
        | .ok h => execValue true (orc (i + 1) (.fork argv h)) (orc (i + 2) .waitpid)
        | r => execValue false (orc (i + 1) (.fork argv (Own.okHandle r))) (orc (i + 2) .waitpid) := by
  unfold execP
  simp only [bind_eq, pure_eq, call_bind]
  cases fdin with
  -- only a `fork` that returned a pid is followed by `waitpid`
  | some h =>
    simp only [ret_bind, runO_call, execValue, childStdin]
    cases orc i (.fork argv h) with
    | ok _ =>
      simp only [call_bind', runO_call]
      cases orc (i + 1) .waitpid <;> rfl
    | _ => rfl
  | none =>
    simp only [call_bind', runO_call]
    cases orc i (.openPath (ofString "/dev/null")) with
    | ok hn =>
      simp only [ret_bind, runO_call, execValue, childStdin]
      cases orc (i + 1) (.fork argv hn) with
      | ok _ =>
        simp only [call_bind', runO_call]
        cases orc (i + 1 + 1) .waitpid <;> rfl
      | _ => rfl
    | _ => rfl

theorem execP_value (argv : List Bytes) (fdin : Option Handle) (orc : Nat → Call → Res) :
    ∃ devnullOk forkRes waitRes, (runOracle orc (execP argv fdin) 0 []).1 = execValue devnullOk forkRes waitRes := by
  rw [runOracle_eq]
  simp only [Own.execP_run]
  cases fdin with
  | some h => exact ⟨_, _, _, rfl⟩
  | none =>
    dsimp only
    split <;> exact ⟨_, _, _, rfl⟩

/-- An entry whose execution reports an error ends the action list: what follows it is not
executed (the run is the same whatever the rest of the list is) and the error is returned. -/
theorem error_stops_list (env : PEnv) (mh : Match) (rest rest' : MatchList) (st : ExecSt) (orc : Nat → Call → Res)
    (he : (runOracle orc (execOne env mh st) 0 []).1.2 = true) :
    (runOracle orc (matchesExec env (mh :: rest) st) 0 []).1.2 = true ∧
    (runOracle orc (matchesExec env (mh :: rest) st) 0 []).2 = (runOracle orc (matchesExec env (mh :: rest') st) 0 []).2 := by
  simp only [runOracle_eq, matchesExec_cons, runO_bind] at he ⊢
  simp only [he, if_true, errTail, and_true]
  split <;> simp only [runO_bind, runO_ret]

theorem exec_nonzero_is_error (env : PEnv) (mh : Match) (st : ExecSt) (orc : Nat → Call → Res)
    (hty : mh.ty = .exec) (hs : mh.execStdin = false)
    (hnz : (runOracle orc (execP mh.argv none) 0 []).1 ≠ 0) :
    (runOracle orc (execOne env mh st) 0 []).1.2 = true := by
  simp only [runOracle_eq, World.execOne_exec env mh st hty, hs, Bool.false_eq_true, if_false, ret_bind, runO_bind,
    runO_ret] at hnz ⊢
  simpa using hnz

/-- The argument vector is one interpolated string per configured string, in order: no splitting,
no joining. -/
theorem argv_one_per_string (macros : Option (List (Bytes × Bytes))) (ml : MatchList) (i : Nat) (mh mh' : Match)
    (msgs : Nat → Msg) (upd : Option (Nat × Msg)) (hty : mh.ty = .exec ∨ mh.ty = .command)
    (h : matchInterpolate macros ml i mh msgs = some (mh', upd)) :
    mh'.argv.length = mh.strings.length ∧
    ∀ (k : Nat) (s : Bytes), mh.strings[k]? = some s → ∃ v, interpolate (ml.take i) macros s = some v ∧ mh'.argv[k]? = some (cstr v) := by
  have h' : (mh.strings.mapM (interpolate (ml.take i) macros)).map
      (fun av => (({ mh with argv := av.map cstr } : Match), (none : Option (Nat × Msg)))) = some (mh', upd) := by
    unfold matchInterpolate at h
    rcases hty with hty | hty <;> simpa only [hty] using h
  simp only [Option.map_eq_some_iff, Prod.mk.injEq] at h'
  obtain ⟨av, hav, rfl, -⟩ := h'
  obtain ⟨rfl, hs⟩ := List.mapM_eq_map _ [] _ _ hav
  refine ⟨by simp only [List.length_map], ?_⟩
  intro k s hks
  obtain ⟨v, hv⟩ := Option.isSome_iff_exists.1 (hs s (List.mem_of_getElem? hks))
  exact ⟨v, hv, by simp only [List.getElem?_map, hks, Option.map_some, hv, Option.getD_some]⟩

end Mdsort.Proofs
