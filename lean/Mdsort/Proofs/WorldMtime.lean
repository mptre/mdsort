import Mdsort.Proofs.WorldFootMove

/-! C09 at world level: `maildir_move` keeps the modification time and never replaces an entry;
neither does `maildir_genname`. -/

namespace Mdsort.Proofs.World
open Mdsort Mdsort.Model

def SrcEntry (ps name : Bytes) : Bytes → Bytes → Prop := fun q m => q = ps ∧ m = name

theorem FootI.keeps {w w' : World} {a : Ent} (h : FootI w a w') : Keeps (SrcEntry a.1 a.2) w w' := by
  obtain ⟨s, hs, m⟩ := h
  refine ⟨fun q n fid hA hl => (m.look (q, n)).trans (Foot.ents_old hs ?_ hl), m.files, m.nextFid⟩
  intro hx
  exact hA ⟨congrArg Prod.fst hx, congrArg Prod.snd hx⟩

theorem spec_maildirMove_keeps (env : PEnv) (src dst : Maildir) (ms : MsgSt) {ps : Bytes} {w : World}
    (hsrc : ∀ sh, src.dirH = some sh → w.dirPath sh = some ps)
    (hdst : ∀ dh, dst.dirH = some dh → ∃ pd, w.dirPath dh = some pd ∧ (w.dir pd).isSome) :
    wp (Keeps (SrcEntry ps ms.name) w) (maildirMove env src dst ms) (fun _ w' => Keeps (SrcEntry ps ms.name) w w') w := by
  cases hsh : src.dirH with
  | none => rw [maildirMove_eq, hsh]; split <;> exact Keeps.refl _ _
  | some sh =>
    cases hdh : dst.dirH with
    | none => rw [maildirMove_eq, hsh, hdh]; split <;> exact Keeps.refl _ _
    | some dh =>
      obtain ⟨pd, hpd, hdd⟩ := hdst dh hdh
      exact wp_mono (wp_inv_mono (wp_of_wpC (foot_maildirMove env src dst ms hsh hdh (hsrc sh hsh) hpd hdd 0))
        fun _ h => h.keeps) fun _ _ ⟨_, _, h⟩ => h.footI.keeps

theorem keeps_of_wp {α} {A : Bytes → Bytes → Prop} {p : Prog α} {w : World}
    (h : wp (Keeps A w) p (fun _ w' => Keeps A w w') w) (plan : Plan) (i : Nat) (hist : List World) (w' : World)
    (hw' : w' = (runPlan plan p w i hist).2.1 ∨ w' ∈ (runPlan plan p w i hist).2.2.drop hist.length) : Keeps A w w' := by
  have hs := wp_sound plan h i
  rw [runPlan_eq] at hw'
  simp only [List.drop_left] at hw'
  rcases hw' with rfl | hw'
  · exact hs.2
  · exact hs.1 w' hw'

/-- `C09_move_never_replaces` (Props/C09 says what it claims of mdsort). -/
theorem move_never_replaces (env : PEnv) (src dst : Maildir) (ms : MsgSt) (ps : Bytes) (w : World) (plan : Plan)
    (i : Nat) (hist : List World)
    (hsrc : ∀ sh, src.dirH = some sh → w.dirPath sh = some ps)
    (hdst : ∀ dh, dst.dirH = some dh → ∃ pd, w.dirPath dh = some pd ∧ (w.dir pd).isSome)
    (w' : World)
    (hw' : w' = (runPlan plan (maildirMove env src dst ms) w i hist).2.1 ∨
      w' ∈ (runPlan plan (maildirMove env src dst ms) w i hist).2.2.drop hist.length)
    (q m : Bytes) (fid : Nat) (hne : ¬(q = ps ∧ m = ms.name)) (hb : w.lookup q m = some fid) :
    w'.lookup q m = some fid ∧ (fid < w.nextFid → w'.file fid = w.file fid) := by
  have hk := keeps_of_wp (spec_maildirMove_keeps env src dst ms hsrc hdst) plan i hist w' hw'
  exact ⟨hk.look q m fid hne hb, fun hlt => hk.file fid hlt⟩

/-- What a `maildir_move` that reports no error has done, in terms of the result `r0` of its
`fstatat` (the first call, index `i`). -/
theorem move_post (env : PEnv) (src dst : Maildir) (ms : MsgSt) (sh dh : Handle) (ps pd : Bytes) (w : World)
    (plan : Plan) (i : Nat) (hist : List World)
    (hsh : src.dirH = some sh) (hdh : dst.dirH = some dh) (hps : w.dirPath sh = some ps) (hpd : w.dirPath dh = some pd)
    (hdir : (w.dir pd).isSome) (hstdin : src.stdin = false) (fid : Nat) (hb : w.lookup ps ms.name = some fid)
    (hok : (runPlan plan (maildirMove env src dst ms) w i hist).1.2 = false) :
    ∃ dn fidX, (runPlan plan (maildirMove env src dst ms) w i hist).1.1.loc = some (dst.path, dn) ∧
      w.lookup pd dn = none ∧
      (runPlan plan (maildirMove env src dst ms) w i hist).2.1.lookup pd dn = some fidX ∧
      (fidX = fid ∨ fidX = w.nextFid) ∧
      (∀ t, statMtime (faultResult (plan i) w (.fstatat sh ms.name)) = some t →
        (runPlan plan (maildirMove env src dst ms) w i hist).2.1.mtime fidX = t) ∧
      (statMtime (faultResult (plan i) w (.fstatat sh ms.name)) = none →
        (runPlan plan (maildirMove env src dst ms) w i hist).2.1.mtimes = w.mtimes) := by
  have hprog : maildirMove env src dst ms =
      Prog.call (.fstatat sh ms.name) fun r => moveRest env src dst ms sh dh (statMtime r) := by
    rw [maildirMove_eq]
    simp only [hstdin, Bool.false_and, Bool.false_eq_true, if_false, hsh, hdh, Bool.not_false, if_true, call_bind',
      ret_bind]
  rw [runPlan_eq, hprog] at hok ⊢
  simp only [run] at hok ⊢
  generalize faultResult (plan i) w (.fstatat sh ms.name) = r0 at hok ⊢
  have hs1 := sameFs_fstatat w sh ms.name r0
  generalize stepWorld w (.fstatat sh ms.name) r0 = w1 at hs1 hok ⊢
  obtain ⟨_, s, hs, m, any, out⟩ := (wp_sound plan (wp_of_wpC (foot_moveRest env src dst ms sh dh (statMtime r0) hsh hdh hps hpd
    hdir (Nat.le_refl 0) hs1)) (i + 1)).2
  have out := out ⟨fid, hb⟩
  cases s with
  | same => rw [out] at hok; cases hok
  | stray b N => rw [out.1] at hok; cases hok
  | moved b g =>
    obtain ⟨fl, c, rfl⟩ := any.new b rfl
    obtain ⟨hloc, hcont, hmt⟩ := out
    have hlk := (m.look (pd, cand env fl c)).trans (if_pos rfl : _ = some g)
    refine ⟨_, g, hloc, hs, hlk, ?_, (hmt hok).1, (hmt hok).2⟩
    rcases hcont with ⟨h1, -⟩ | ⟨h1, -⟩
    · exact .inl (Option.some.inj (h1.symm.trans hb))
    · exact .inr h1

theorem spec_gen_keeps {A : Bytes → Bytes → Prop} (env : PEnv) (md : Maildir) (flags : Option Bytes) {w0 w : World}
    (fuel count : Nat) (k : Keeps A w0 w) :
    wp (Keeps A w0) (genname env md flags fuel count) (fun _ w' => Keeps A w0 w') w := by
  have created : ∀ {wk d n r}, SameFs w wk → Keeps A w0 (stepWorld wk (.openExcl d n) r) := fun h =>
    (k.of_same h).step _ _ (fun _ _ _ _ _ _ => trivial) (fun _ _ => trivial)
  refine wp_mono (wp_genname env md flags _ (fun _ h => k.of_same h) (fun _ _ _ _ _ h _ _ => created h) fuel count
    (SameFs.refl w)) ?_
  rintro res w' (⟨-, hs⟩ | ⟨d, wk, p, c, -, hs, -, -, -, -, -, rfl⟩)
  · exact k.of_same hs
  · exact created hs

/-- `C09_mtime` (Props/C09 says what it claims of mdsort). -/
theorem move_mtime (env : PEnv) (src dst : Maildir) (ms : MsgSt) (w : World) (plan : Plan) (i : Nat) (hist : List World)
    (sh dh : Handle) (fid : Nat)
    (hsh : src.dirH = some sh) (hdh : dst.dirH = some dh)
    (hsrc : w.dirPath sh = some src.path) (hdst : w.dirPath dh = some dst.path) (hdir : (w.dir dst.path).isSome)
    (hstdin : src.stdin = false) (hbound : w.lookup src.path ms.name = some fid)
    (hstat : ∀ e, plan i ≠ some (.fail e))
    (hok : (runPlan plan (maildirMove env src dst ms) w i hist).1.2 = false) :
    ∃ name' fid', (runPlan plan (maildirMove env src dst ms) w i hist).1.1.loc = some (dst.path, name') ∧
      w.lookup dst.path name' = none ∧
      (runPlan plan (maildirMove env src dst ms) w i hist).2.1.lookup dst.path name' = some fid' ∧
      (fid' = fid ∨ fid' = w.nextFid) ∧
      (runPlan plan (maildirMove env src dst ms) w i hist).2.1.mtime fid' = w.mtime fid := by
  obtain ⟨dn, fidX, h1, h2, h3, h4, h5, -⟩ :=
    move_post env src dst ms sh dh src.path dst.path w plan i hist hsh hdh hsrc hdst hdir hstdin fid hbound hok
  refine ⟨dn, fidX, h1, h2, h3, h4, h5 _ ?_⟩
  rw [faultResult_nofail _ _ hstat rfl, predict_fstatat hsrc hbound]
  rfl

/-- `C09_mtime_not_set_when_stat_fails` (Props/C09 says what it claims of mdsort). -/
theorem move_mtime_not_set (env : PEnv) (src dst : Maildir) (ms : MsgSt) (w : World) (plan : Plan) (i : Nat)
    (hist : List World) (sh dh : Handle) (fid : Nat) (e : String)
    (hsh : src.dirH = some sh) (hdh : dst.dirH = some dh)
    (hsrc : w.dirPath sh = some src.path) (hdst : w.dirPath dh = some dst.path) (hdir : (w.dir dst.path).isSome)
    (hstdin : src.stdin = false) (hbound : w.lookup src.path ms.name = some fid)
    (hfail : plan i = some (.fail e))
    (hok : (runPlan plan (maildirMove env src dst ms) w i hist).1.2 = false) :
    ∃ name' fid', (runPlan plan (maildirMove env src dst ms) w i hist).1.1.loc = some (dst.path, name') ∧
      (runPlan plan (maildirMove env src dst ms) w i hist).2.1.lookup dst.path name' = some fid' ∧
      (fid' = fid ∨ fid' = w.nextFid) ∧
      (runPlan plan (maildirMove env src dst ms) w i hist).2.1.mtimes = w.mtimes := by
  obtain ⟨dn, fidX, h1, -, h3, h4, -, h6⟩ :=
    move_post env src dst ms sh dh src.path dst.path w plan i hist hsh hdh hsrc hdst hdir hstdin fid hbound hok
  refine ⟨dn, fidX, h1, h3, h4, h6 ?_⟩
  rw [hfail]
  rfl

/-- `C09_fresh_name_never_replaces` (Props/C09 says what it claims of mdsort). -/
theorem genname_never_replaces (env : PEnv) (md : Maildir) (flags : Option Bytes) (w : World) (plan : Plan)
    (fuel count i : Nat) (hist : List World) (w' : World)
    (hw' : w' = (runPlan plan (genname env md flags fuel count) w i hist).2.1 ∨
      w' ∈ (runPlan plan (genname env md flags fuel count) w i hist).2.2.drop hist.length)
    (q m : Bytes) (fid : Nat) (hb : w.lookup q m = some fid) :
    w'.lookup q m = some fid ∧ (fid < w.nextFid → w'.file fid = w.file fid) := by
  have hk := keeps_of_wp (spec_gen_keeps (A := fun _ _ => False) env md flags fuel count (Keeps.refl _ w)) plan i hist w' hw'
  exact ⟨hk.look q m fid (fun h => h) hb, fun hlt => hk.file fid hlt⟩

/-! ## a small world for the non-vacuity examples and for `C09_mtime_lost_when_stat_fails` (the time is lost when the
`fstatat` fails: finding F17d of KNOWN_FINDINGS.txt)

Maildirs `a` (handle 0) and `b` (handle 1); the message is `a/m` (file 0, time 1000); `b` already
holds the first name `maildir_genname` will try, `1.2_1.h:2,` (file 1, time 2000). -/

namespace C09Ex

def env : PEnv :=
  { now := 1, pid := 2, host := [104], random := 0, tmpdir := [116], home := [104], confpath := [99],
    dryrun := false, syntaxOnly := false, stdinMode := false }

/-- `1.2_1.h:2,` -/
def cand1 : Bytes := [49, 46, 50, 95, 49, 46, 104, 58, 50, 44]
/-- `1.2_2.h:2,` -/
def cand2 : Bytes := [49, 46, 50, 95, 50, 46, 104, 58, 50, 44]

def world (devs : List (Bytes × Nat)) : World :=
  { dirs := [([97], [([109], 0)]), ([98], [(cand1, 1)])],
    files := [(0, ⟨[65, 58, 32, 49, 10, 10, 120, 10], [65, 58, 32, 49, 10, 10, 120, 10]⟩), (1, ⟨[121], [121]⟩)],
    nextFid := 2,
    handles := [.dir [97] none 0, .dir [98] none 0],
    devs := devs,
    mtimes := [(0, 1000), (1, 2000)],
    trace := [] }

def src : Maildir := { root := [97], path := [97], dirH := some 0, subdir := .new, walk := true, stdin := false }
def dst : Maildir := { root := [98], path := [98], dirH := some 1, subdir := .new, walk := false, stdin := false }

def ms : MsgSt :=
  { name := [109], path := [97, 47, 109], fd := none, msg := { headers := [⟨0, [65], [49]⟩], body := [120, 10] },
    parts := [], flags := ⟨0, 0⟩, loc := some ([97], [109]), content := [65, 58, 32, 49, 10, 10, 120, 10] }

/-- The first call (the `fstatat` of `maildir_move`) fails. -/
def statFails : Plan := fun i => if i = 0 then some (.fail "EIO") else none

/-- `b` is on another device. -/
def otherDev : List (Bytes × Nat) := [([98], 1)]

def move (devs : List (Bytes × Nat)) (plan : Plan) : (MsgSt × Bool) × World × List World :=
  runPlan plan (maildirMove env src dst ms) (world devs) 0 []

/-- `maildir_genname` in `b` with the flags suffix `:2,`. -/
def gen (fuel : Nat) (plan : Plan) : Option (Handle × Bytes) × World × List World :=
  runPlan plan (genname env dst (some [58, 50, 44]) fuel 0) (world []) 0 []

end C09Ex

end Mdsort.Proofs.World
