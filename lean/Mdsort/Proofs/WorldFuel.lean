import Mdsort.Proofs.WorldIndependent
import Mdsort.Proofs.WorldSpine
import Mdsort.Proofs.LimitsSim
import Mdsort.Proofs.LimitsLoop

/-!
# The fuel of the model's `readdir` loops is irrelevant as soon as it suffices

The C loops `while ((ent = readdir(dir)))` are unbounded; the model's `walk` and `closeStdin.loop` carry fuel
(`2n+8` / `64`, plus the ghost `env.extraFuel`).  Running out of fuel is FLAGGED (`MainSt.fuelOut`, the Boolean of
`closeStdin`), never silent.  This file proves, once for every interpreter of programs: if a run ends WITHOUT the flag, the
run with ANY larger fuel is the same run - same calls, same results, same final state.  So a theorem about `mainP`
(every one is quantified over `env`, hence over `env.extraFuel`) speaks, for a run that ends with `fuelOut = false`, about
the run of the unbounded loop; and a run that ends with `fuelOut = true` is a truncation, which the conformance check
reports as a divergence.

`Sim (Out fl) p p'` (`Limits.Sim`): the program `p'` does what `p` does, except where `p` stops with the flag `fl` set.
-/

namespace Mdsort.Proofs.Fuel
open Mdsort Mdsort.Model Mdsort.Proofs
open Mdsort.Proofs.World (bind_eq pure_eq call_bind All)
open Mdsort.Proofs.Own (runO runO_call)
open Mdsort.Proofs.Limits (Sim)

/-- Out of fuel: whatever the calls return, the run ends with the flag `fl`. -/
def Out {α} (fl : α → Bool) (p : Prog α) : Prop := All (fun a => fl a = true) p

/-- `Sim.bind` when the stops are `Out`: the continuation of a flagged value ends flagged. -/
theorem _root_.Mdsort.Proofs.Limits.Sim.bindOut {α β} {fa : α → Bool} {fb : β → Bool} {p p' : Prog α} {f f' : α → Prog β}
    (hp : Sim (Out fa) p p') (hf : ∀ a, Sim (Out fb) (f a) (f' a)) (hs : ∀ a, fa a = true → Out fb (f a)) :
    Sim (Out fb) (p.bind f) (p'.bind f') :=
  hp.bind hf fun _ h => World.All.bind_mono h hs

theorem _root_.Mdsort.Proofs.Limits.Sim.runO_eq {α} {fl : α → Bool} {p p' : Prog α} (h : Sim (Out fl) p p') (orcl : Nat → Call → Res) (i : Nat)
    (hf : fl (runO orcl p i).1 = false) : runO orcl p' i = runO orcl p i := by
  induction h generalizing i with
  | ret a => rfl
  | stop p p' ha =>
    have := Own.all_runO ha orcl i
    rw [this] at hf
    cases hf
  | call c k k' _ ih =>
    rw [runO_call] at hf
    rw [runO_call, runO_call, ih _ _ hf]

theorem _root_.Mdsort.Proofs.Limits.Sim.run_eq {α} {fl : α → Bool} {p p' : Prog α} (h : Sim (Out fl) p p') (plan : Plan) (w : World) (i : Nat)
    (hf : fl (World.run plan p w i).1 = false) : World.run plan p' w i = World.run plan p w i := by
  induction h generalizing w i with
  | ret a => rfl
  | stop p p' ha =>
    have := World.All.run plan ha w i
    rw [this] at hf
    cases hf
  | call c k k' _ ih =>
    simp only [World.run] at hf ⊢
    rw [ih _ _ _ hf]

theorem conform_call_done {α} {c : Call} {k : Res → Prog α} {w : World} {tr : List (Call × Res)} {pos : Nat}
    {a : α} {w' : World} {rest : List (Call × Res)} :
    conform (.call c k) w tr pos = .done a w' rest ↔
      ∃ c' r tr1 w1, tr = (c', r) :: tr1 ∧ c.same c' = true ∧ applyOk w c r = some w1 ∧
        conform (k r) { w1 with trace := w1.trace ++ [(c, r)] } tr1 (pos + 1) = .done a w' rest := by
  cases tr with
  | nil =>
    simp only [conform]
    exact ⟨fun h => (by cases h), fun ⟨_, _, _, _, h, _⟩ => (by cases h)⟩
  | cons x tr1 =>
    obtain ⟨c', r⟩ := x
    simp only [conform]
    constructor
    · intro h
      by_cases hsame : (!c.same c') = true
      · rw [if_pos hsame] at h; cases h
      · rw [if_neg hsame] at h
        cases hw1 : applyOk w c r with
        | none => rw [hw1] at h; cases h
        | some w1 =>
          rw [hw1] at h
          exact ⟨c', r, tr1, w1, rfl, (by simpa using hsame), hw1, h⟩
    · rintro ⟨_, _, _, w1, heq, hsame, hw1, h⟩
      cases heq
      rw [if_neg (by simp [hsame]), hw1]
      exact h

theorem all_conform {α} {P : α → Prop} {p : Prog α} (h : All P p) (w : World) (tr : List (Call × Res)) (pos : Nat)
    {a : α} {w' : World} {rest : List (Call × Res)} (hd : conform p w tr pos = .done a w' rest) : P a := by
  induction p generalizing w tr pos with
  | ret b =>
    simp only [conform] at hd
    cases hd
    exact h
  | call c k ih =>
    obtain ⟨_, r, _, _, _, _, _, hd⟩ := conform_call_done.1 hd
    exact ih _ (h _) _ _ _ hd

theorem _root_.Mdsort.Proofs.Limits.Sim.conform_done {α} {fl : α → Bool} {p p' : Prog α} (h : Sim (Out fl) p p') (w : World) (tr : List (Call × Res)) (pos : Nat)
    {a : α} {w' : World} {rest : List (Call × Res)} (hd : conform p w tr pos = .done a w' rest) (hf : fl a = false) :
    conform p' w tr pos = .done a w' rest := by
  induction h generalizing w tr pos with
  | ret b => exact hd
  | stop p p' ha =>
    have := all_conform ha w tr pos hd
    rw [this] at hf
    cases hf
  | call c k k' _ ih =>
    obtain ⟨c', r, tr1, w1, htr, hs, hw, hd⟩ := conform_call_done.1 hd
    exact conform_call_done.2 ⟨c', r, tr1, w1, htr, hs, hw, ih r _ _ _ hd⟩

def withFuel (env : PEnv) (k : Nat) : PEnv := { env with extraFuel := k }

theorem genname_withFuel (env : PEnv) (k : Nat) (md : Maildir) (flags : Option Bytes) (fuel count : Nat) :
    genname (withFuel env k) md flags fuel count = genname env md flags fuel count := by
  induction fuel generalizing count with
  | zero => rfl
  | succ n ih =>
    unfold genname
    simp only [ih]
    rfl

theorem gennameStart_withFuel (env : PEnv) (k : Nat) (md : Maildir) (flags : Option Bytes) :
    gennameStart (withFuel env k) md flags = gennameStart env md flags := by
  unfold gennameStart
  rw [genname_withFuel]
  rfl

theorem messageGetFd_withFuel (env : PEnv) (k : Nat) (ms : MsgSt) (part : Option Msg) (dobody : Bool) :
    messageGetFd (withFuel env k) ms part dobody = messageGetFd env ms part dobody := rfl

theorem execOne_withFuel (env : PEnv) (k : Nat) (mh : Match) (st : ExecSt) :
    execOne (withFuel env k) mh st = execOne env mh st := by
  simp only [execOne, maildirMove, maildirWrite, gennameStart_withFuel, messageGetFd_withFuel]

theorem matchesExec_withFuel (env : PEnv) (k : Nat) (ml : MatchList) (st : ExecSt) :
    matchesExec (withFuel env k) ml st = matchesExec env ml st := by
  induction ml generalizing st with
  | nil => rfl
  | cons mh rest ih =>
    simp only [World.matchesExec_cons, execOne_withFuel, ih]

theorem processMessage_withFuel (env : PEnv) (k : Nat) (orc : EvalOracles) (expr : Expr) (md : Maildir) (name : Bytes) (st : MainSt) :
    processMessage (withFuel env k) orc expr md name st = processMessage env orc expr md name st := by
  unfold processMessage
  simp only [matchesExec_withFuel]
  rfl

theorem maildirStdin_withFuel (env : PEnv) (k : Nat) (input : Bytes) :
    maildirStdin (withFuel env k) input = maildirStdin env input := by
  unfold maildirStdin
  simp only [gennameStart_withFuel]
  rfl

theorem walk_withFuel (env : PEnv) (k : Nat) (orc : EvalOracles) (expr : Expr) (fuel : Nat) :
    walk (withFuel env k) orc expr fuel = walk env orc expr fuel := by
  induction fuel with
  | zero => rfl
  | succ n ih =>
    have hpm : processMessage (withFuel env k) orc expr = processMessage env orc expr :=
      funext fun md => funext fun name => funext fun st => processMessage_withFuel env k orc expr md name st
    funext md st
    rw [Own.walk_succ, Own.walk_succ]
    unfold Own.walkK
    rw [ih, hpm]

theorem processMessage_fuelOut (env : PEnv) (orc : EvalOracles) (expr : Expr) (md : Maildir) (name : Bytes) (st : MainSt) :
    All (fun r => r.1.fuelOut = st.fuelOut) (processMessage env orc expr md name st) := by
  rw [processMessage_effect]
  exact Own.all_mapP _ _ fun _ => rfl

theorem walk_sticky (env : PEnv) (orc : EvalOracles) (expr : Expr) (fuel : Nat) (md : Maildir) (st : MainSt)
    (h : st.fuelOut = true) : All (fun r => r.1.fuelOut = true) (walk env orc expr fuel md st) :=
  Limits.walk_inv Limits.kept_fuelOut expr
    (fun md name st h => (processMessage_fuelOut env orc expr md name st).mono fun _ hr => hr.trans h) fuel md st h

theorem walk_below (env : PEnv) (orc : EvalOracles) (expr : Expr) (fuel : Nat) :
    ∀ (fuel' : Nat), fuel ≤ fuel' → ∀ (md : Maildir) (st : MainSt),
      Sim (Out (fun r : MainSt × Maildir => r.1.fuelOut)) (walk env orc expr fuel md st) (walk env orc expr fuel' md st) := by
  induction fuel with
  | zero => intro fuel' _ md st; exact .stop _ _ rfl
  | succ n ih =>
    intro fuel' hle md st
    obtain ⟨m, rfl⟩ : ∃ m, fuel' = m + 1 := ⟨fuel' - 1, by omega⟩
    have hnm : n ≤ m := by omega
    rw [Own.walk_succ, Own.walk_succ]
    cases md.dirH with
    | none => exact .ret _
    | some d =>
      dsimp only
      refine .call _ _ _ fun r => ?_
      unfold Own.walkK
      cases r with
      | name x =>
        dsimp only
        split
        · exact ih m hnm _ _
        · exact Sim.bindOut (fa := fun r : MainSt × Maildir => r.1.fuelOut) (Sim.refl _) (fun a => ih m hnm _ _)
            (fun a ha => walk_sticky env orc expr n a.2 a.1 ha)
      | eof =>
        dsimp only
        split
        · exact .ret _
        · split
          · exact .ret _
          · split
            · exact .ret _
            · refine Sim.bind_same _ fun a => ?_
              split
              · exact .ret _
              · exact ih m hnm _ _
      | ok v => exact .ret _
      | err e => exact .ret _

theorem closeLoop_below (d : Handle) (fuel : Nat) :
    ∀ fuel', fuel ≤ fuel' → Sim (Out (fun b : Bool => b)) (closeStdin.loop d fuel) (closeStdin.loop d fuel') := by
  induction fuel with
  | zero => intro fuel' _; exact .stop _ _ rfl
  | succ n ih =>
    intro fuel' hle
    obtain ⟨m, rfl⟩ : ∃ m, fuel' = m + 1 := ⟨fuel' - 1, by omega⟩
    have hnm : n ≤ m := by omega
    unfold closeStdin.loop
    simp only [bind_eq, pure_eq, call_bind]
    refine .call _ _ _ fun r => ?_
    split
    · split
      · exact ih m hnm
      · exact .call _ _ _ fun _ => ih m hnm
    · exact .ret _

theorem closeStdin_below (fuel fuel' : Nat) (h : fuel ≤ fuel') (md : Maildir) :
    Sim (Out (fun b : Bool => b)) (closeStdin fuel md) (closeStdin fuel' md) := by
  unfold closeStdin
  simp only [bind_eq, pure_eq]
  refine Sim.bindOut (fa := fun b : Bool => b) ?_ (fun fo => Sim.refl _) ?_
  · split
    · simp only [call_bind]
      exact .call _ _ _ fun _ => closeLoop_below _ fuel fuel' h
    · exact .ret _
  · -- what follows the loop (`rmdir` twice, `closedir` if there is a handle) returns the flag whatever the calls return
    intro fo hfo
    subst hfo
    refine World.All.bind_of_forall _ fun _ => World.All.bind_of_forall _ fun _ => ?_
    split
    · exact World.All.bind_of_forall _ fun _ => rfl
    · exact rfl

theorem paths_sticky (env : PEnv) (orc : EvalOracles) (input : Bytes) (b : ConfBlock) (ps : List Bytes) :
    ∀ st : MainSt, st.fuelOut = true → All (fun r => r.fuelOut = true) (mainP.blocks.paths env orc input b ps st) :=
  Limits.paths_inv Limits.kept_fuelOut input b
    (fun md name st h => (processMessage_fuelOut env orc b.expr md name st).mono fun _ hr => hr.trans h) ps

theorem blocks_sticky (env : PEnv) (orc : EvalOracles) (input : Bytes) (bs : List ConfBlock) :
    ∀ st : MainSt, st.fuelOut = true → All (fun r => r.fuelOut = true) (mainP.blocks env orc input bs st) :=
  Limits.blocks_inv Limits.kept_fuelOut input
    (fun expr md name st h => (processMessage_fuelOut env orc expr md name st).mono fun _ hr => hr.trans h) bs

theorem paths_below (env : PEnv) (k : Nat) (hk : env.extraFuel ≤ k) (orc : EvalOracles) (input : Bytes) (b : ConfBlock)
    (ps : List Bytes) :
    ∀ st : MainSt, Sim (Out (fun r : MainSt => r.fuelOut)) (mainP.blocks.paths env orc input b ps st)
      (mainP.blocks.paths (withFuel env k) orc input b ps st) := by
  have hsf : stdinFuel env ≤ stdinFuel (withFuel env k) := by simp only [stdinFuel, withFuel]; omega
  induction ps with
  | nil => intro st; rw [Own.paths_nil, Own.paths_nil]; exact .ret _
  | cons p more ih =>
    intro st
    rw [Own.paths_cons, Own.paths_cons]
    have hskip : skipPath (withFuel env k) p = skipPath env p := rfl
    rw [hskip]
    split
    · exact ih _
    · split
      · rw [maildirStdin_withFuel]
        refine Sim.bind_same _ fun x => ?_
        split
        · exact Sim.bindOut (fa := fun b : Bool => b) (closeStdin_below _ _ hsf _) (fun fo => ih _)
            (fun fo hfo => paths_sticky env orc input b more _ (by simp [orFuel, hfo]))
        · rw [walk_withFuel]
          refine Sim.bindOut (fa := fun r : MainSt × Maildir => r.1.fuelOut) (walk_below env orc b.expr _ _ hsf _ _) (fun y => ?_)
            (fun y hy => World.All.bind_of_forall _ fun fo => paths_sticky env orc input b more _ (by simp [orFuel, hy]))
          exact Sim.bindOut (fa := fun b : Bool => b) (closeStdin_below _ _ hsf _) (fun fo => ih _)
            (fun fo hfo => paths_sticky env orc input b more _ (by simp [orFuel, hfo]))
      · split
        · rename_i root np _ _
          refine Sim.bind_same _ fun x => ?_
          split
          · exact ih _
          · rw [walk_withFuel]
            have hwf : walkFuel env st root np ≤ walkFuel (withFuel env k) st root np := by
              simp only [walkFuel, withFuel]; omega
            refine Sim.bindOut (fa := fun r : MainSt × Maildir => r.1.fuelOut) (walk_below env orc b.expr _ _ hwf _ _) (fun y => ?_)
              (fun y hy => World.All.bind_of_forall _ fun _ => paths_sticky env orc input b more _ hy)
            exact Sim.bind_same _ fun _ => ih _
        · exact ih _

theorem blocks_below (env : PEnv) (k : Nat) (hk : env.extraFuel ≤ k) (orc : EvalOracles) (input : Bytes) (bs : List ConfBlock) :
    ∀ st : MainSt, Sim (Out (fun r : MainSt => r.fuelOut)) (mainP.blocks env orc input bs st)
      (mainP.blocks (withFuel env k) orc input bs st) := by
  induction bs with
  | nil => intro st; rw [Own.blocks_nil, Own.blocks_nil]; exact .ret _
  | cons b rest ih =>
    intro st
    rw [Own.blocks_cons, Own.blocks_cons]
    exact Sim.bindOut (fa := fun r : MainSt => r.fuelOut) (paths_below env k hk orc input b b.paths st) (fun st' => ih st')
      (fun st' h' => blocks_sticky env orc input rest st' h')

theorem mainP_below (env : PEnv) (k : Nat) (hk : env.extraFuel ≤ k) (orc : EvalOracles) (confOk : Bool) (conf : List ConfBlock)
    (files : Files) (input : Bytes) :
    Sim (Out (fun r : Nat × MainSt => r.2.fuelOut)) (mainP env orc confOk conf files input)
      (mainP (withFuel env k) orc confOk conf files input) := by
  rw [Own.mainP_eq, Own.mainP_eq]
  refine .call _ _ _ fun r => ?_
  cases r with
  | ok h =>
    dsimp only
    refine .call _ _ _ fun _ => ?_
    unfold Own.mainK
    split
    · exact .ret _
    · have hsyn : (withFuel env k).syntaxOnly = env.syntaxOnly := rfl
      rw [hsyn]
      split
      · exact .ret _
      · exact Sim.bindOut (fa := fun r : MainSt => r.fuelOut) (blocks_below env k hk orc input conf _)
          (fun stf => .ret _) (fun stf h => h)
  | err e => exact .ret _
  | name x => exact .ret _
  | eof => exact .ret _

/-- Arbitrary call results: a run of `mainP` that ends without `fuelOut` is the run for every larger ghost allowance -
same exit status, same final state, same calls with the same results. -/
theorem fuel_irrelevant_oracle (env : PEnv) (orc : EvalOracles) (confOk : Bool) (conf : List ConfBlock) (files : Files)
    (input : Bytes) (orcl : Nat → Call → Res) (k : Nat) (hk : env.extraFuel ≤ k)
    (h : (runOracle orcl (mainP env orc confOk conf files input) 0 []).1.2.fuelOut = false) :
    runOracle orcl (mainP (withFuel env k) orc confOk conf files input) 0 [] =
      runOracle orcl (mainP env orc confOk conf files input) 0 [] := by
  rw [Own.runOracle_eq] at h
  rw [Own.runOracle_eq, Own.runOracle_eq,
    (mainP_below env k hk orc confOk conf files input).runO_eq orcl 0 h]

/-- The abstract file system under a fault plan: likewise (value, final world, world after every call). -/
theorem fuel_irrelevant_plan (env : PEnv) (orc : EvalOracles) (confOk : Bool) (conf : List ConfBlock) (files : Files)
    (input : Bytes) (plan : Plan) (w : World) (k : Nat) (hk : env.extraFuel ≤ k)
    (h : (runPlan plan (mainP env orc confOk conf files input) w 0 []).1.2.fuelOut = false) :
    runPlan plan (mainP (withFuel env k) orc confOk conf files input) w 0 [] =
      runPlan plan (mainP env orc confOk conf files input) w 0 [] := by
  rw [World.runPlan_eq] at h
  rw [World.runPlan_eq, World.runPlan_eq,
    (mainP_below env k hk orc confOk conf files input).run_eq plan w 0 h]

/-- An observed trace (`Model.conform`): if the conformance walk of `mainP` along a trace ends `done` without `fuelOut`, it
ends in the same way for every larger ghost allowance. -/
theorem fuel_irrelevant_conform (env : PEnv) (orc : EvalOracles) (confOk : Bool) (conf : List ConfBlock) (files : Files)
    (input : Bytes) (w : World) (tr : List (Call × Res)) (k : Nat) (hk : env.extraFuel ≤ k)
    {a : Nat × MainSt} {w' : World} {rest : List (Call × Res)}
    (hd : conform (mainP env orc confOk conf files input) w tr 0 = .done a w' rest) (h : a.2.fuelOut = false) :
    conform (mainP (withFuel env k) orc confOk conf files input) w tr 0 = .done a w' rest :=
  (mainP_below env k hk orc confOk conf files input).conform_done w tr 0 hd h

end Mdsort.Proofs.Fuel
