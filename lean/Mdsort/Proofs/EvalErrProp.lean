import Mdsort.Proofs.EvalSim

/-!
# An evaluation error reaches the root (helpers for `C04_eval_error_*`)

`expr_eval` returns `EXPR_ERROR` from every node as soon as a sub-evaluation it performs returns
`EXPR_ERROR` (`expr_eval_block`, `_and`, `_or`, `_neg`, `_match`, `_attachment`,
`_attachment_block`).  Here this is stated for the model `Model.eval` as a relation between
*evaluation points* - an expression evaluated on a message (regarded as part `part`) from a state.
`EvalStep env root a b`: evaluating `a` evaluates `b` directly, as the operand the code reaches:
the second operand of `and` only after the first matched, the action of a rule only after its
condition matched, part `i` of an `attachment` condition only after the parts before it said
*no match*, part `i` of an attachment block only after the block ran without error on the parts
before it.

`evaluated_error`: if `b` is evaluated in the course of `a` and the result of `b` is an error,
the result of `a` is an error - for EVERY expression, state and environment (no grammar domain,
no hypothesis on pending `pass` entries).  `error_origin` is the converse: an error result comes
from an evaluated point that is the origin of an error (`OriginShape`).
-/

namespace Mdsort.Proofs
open Mdsort Mdsort.Model

/-- An expression evaluated on message `m` regarded as part `part`, from state `st`. -/
structure EvalPt where
  e : Expr
  part : Nat
  m : Msg
  st : St

def EvalPt.res (env : Env) (root : Msg) (p : EvalPt) : Tri × St := eval env root p.e p.part p.m p.st

/-- The index under which part `i` of a message regarded as part `part` is evaluated: the `if` that `Model.eval` and `attLoop`
(Proofs/EvalPTree.lean) write out; `Spec.partIndex` tests `part = 0` instead (`partIndex_beq`, Proofs/AttachmentCond.lean). -/
def partIdx (part i : Nat) : Nat := if part == 0 then i + 1 else part

/-- The loop of `expr_eval_attachment` over the remaining parts `ps` (first of them has position
`i`), entered in state `st`, evaluates the point `x`. -/
inductive ReachCond (env : Env) (root : Msg) (c : Expr) (part : Nat) : List Msg → Nat → St → EvalPt → Prop
  | here (p : Msg) (rest : List Msg) (i : Nat) (st : St) :
    ReachCond env root c part (p :: rest) i st ⟨c, partIdx part i, p, st⟩
  | next (p : Msg) (rest : List Msg) (i : Nat) (st st1 : St) (x : EvalPt) :
    eval env root c (partIdx part i) p st = (.nomatch, st1) →
    ReachCond env root c part rest (i + 1) st1 x → ReachCond env root c part (p :: rest) i st x

/-- The loop of `expr_eval_attachment_block` (every part is visited unless one is an error). -/
inductive ReachBlock (env : Env) (root : Msg) (b : Expr) (part : Nat) : List Msg → Nat → St → EvalPt → Prop
  | here (p : Msg) (rest : List Msg) (i : Nat) (st : St) :
    ReachBlock env root b part (p :: rest) i st ⟨b, partIdx part i, p, st⟩
  | next (p : Msg) (rest : List Msg) (i : Nat) (st : St) (x : EvalPt) :
    (eval env root b (partIdx part i) p st).1 ≠ .error →
    ReachBlock env root b part rest (i + 1) (eval env root b (partIdx part i) p st).2 x →
    ReachBlock env root b part (p :: rest) i st x

/-- Evaluating the first point evaluates the second one directly. -/
inductive EvalStep (env : Env) (root : Msg) : EvalPt → EvalPt → Prop
  | block (l : Nat) (e : Expr) (k : Nat) (m : Msg) (st : St) : EvalStep env root ⟨.block l e, k, m, st⟩ ⟨e, k, m, st⟩
  | andL (l : Nat) (a b : Expr) (k : Nat) (m : Msg) (st : St) : EvalStep env root ⟨.and l a b, k, m, st⟩ ⟨a, k, m, st⟩
  | andR (l : Nat) (a b : Expr) (k : Nat) (m : Msg) (st st1 : St) :
    eval env root a k m st = (.match, st1) → EvalStep env root ⟨.and l a b, k, m, st⟩ ⟨b, k, m, st1⟩
  | orL (l : Nat) (a b : Expr) (k : Nat) (m : Msg) (st : St) : EvalStep env root ⟨.or l a b, k, m, st⟩ ⟨a, k, m, st⟩
  | orR (l : Nat) (a b : Expr) (k : Nat) (m : Msg) (st st1 : St) :
    eval env root a k m st = (.nomatch, st1) → EvalStep env root ⟨.or l a b, k, m, st⟩ ⟨b, k, m, st1⟩
  | neg (l : Nat) (e : Expr) (k : Nat) (m : Msg) (st : St) : EvalStep env root ⟨.neg l e, k, m, st⟩ ⟨e, k, m, st⟩
  | mtchC (l : Nat) (c r : Expr) (k : Nat) (m : Msg) (st : St) (ml : MatchList) :
    matchesAppend env st.ml { ty := .mtch, lno := l, part := k } = (ml, false) →
    EvalStep env root ⟨.mtch l c r, k, m, st⟩ ⟨c, k, m, { st with ml := ml }⟩
  | mtchR (l : Nat) (c r : Expr) (k : Nat) (m : Msg) (st st1 : St) (ml : MatchList) :
    matchesAppend env st.ml { ty := .mtch, lno := l, part := k } = (ml, false) →
    eval env root c k m { st with ml := ml } = (.match, st1) →
    EvalStep env root ⟨.mtch l c r, k, m, st⟩ ⟨r, k, m, st1⟩
  | att (l : Nat) (c : Expr) (k : Nat) (m : Msg) (st : St) (ps : List Msg) (x : EvalPt) :
    getAttachments m = some ps → ReachCond env root c k ps 0 st x → EvalStep env root ⟨.attachment l c, k, m, st⟩ x
  | attB (l : Nat) (b : Expr) (k : Nat) (m : Msg) (st : St) (ps : List Msg) (x : EvalPt) :
    getAttachments m = some ps → ReachBlock env root b k ps 0 st x → EvalStep env root ⟨.attBlock l b, k, m, st⟩ x

/-- `b` is evaluated in the course of evaluating `a`. -/
inductive Evaluated (env : Env) (root : Msg) : EvalPt → EvalPt → Prop
  | refl (a : EvalPt) : Evaluated env root a a
  | step (a b c : EvalPt) : EvalStep env root a b → Evaluated env root b c → Evaluated env root a c

theorem Evaluated.trans {env : Env} {root : Msg} {a b c : EvalPt} (h1 : Evaluated env root a b)
    (h2 : Evaluated env root b c) : Evaluated env root a c := by
  induction h1 with
  | refl _ => exact h2
  | step a b _ hs _ ih => exact .step a b c hs (ih h2)

theorem Evaluated.single {env : Env} {root : Msg} {a b : EvalPt} (h : EvalStep env root a b) : Evaluated env root a b :=
  .step a b b h (.refl b)

theorem loop_cons (env : Env) (root : Msg) (c : Expr) (part : Nat) (p : Msg) (rest : List Msg) (i : Nat) (st : St) :
    eval.loop env root c part (p :: rest) i st =
      match eval env root c (partIdx part i) p st with
      | (.nomatch, st1) => eval.loop env root c part rest (i + 1) st1
      | other => other := by
  rw [eval.loop]
  rfl

theorem loopB_cons (env : Env) (root : Msg) (b : Expr) (part : Nat) (p : Msg) (rest : List Msg) (i : Nat) (ev : Tri) (st : St) :
    eval.loopB env root b part (p :: rest) i ev st =
      match eval env root b (partIdx part i) p st with
      | (.error, st1) => (.error, st1)
      | (.match, st1) => eval.loopB env root b part rest (i + 1) .match st1
      | (.nomatch, st1) => eval.loopB env root b part rest (i + 1) ev st1 := by
  rw [eval.loopB]
  rfl

theorem reachCond_error {env : Env} {root : Msg} {c : Expr} {part : Nat} {ps : List Msg} {i : Nat} {st : St} {x : EvalPt}
    (h : ReachCond env root c part ps i st x) (hx : (x.res env root).1 = .error) :
    (eval.loop env root c part ps i st).1 = .error := by
  induction h with
  | here p rest i st =>
    have hx' : (eval env root c (partIdx part i) p st).1 = .error := hx
    rw [loop_cons, fst_error hx']
  | next p rest i st st1 x h1 _ ih =>
    rw [loop_cons, h1]
    exact ih hx

theorem reachBlock_error {env : Env} {root : Msg} {b : Expr} {part : Nat} {ps : List Msg} {i : Nat} {st : St} {x : EvalPt}
    (h : ReachBlock env root b part ps i st x) (hx : (x.res env root).1 = .error) (ev : Tri) :
    (eval.loopB env root b part ps i ev st).1 = .error := by
  induction h generalizing ev with
  | here p rest i st =>
    have hx' : (eval env root b (partIdx part i) p st).1 = .error := hx
    rw [loopB_cons, fst_error hx']
  | next p rest i st x h1 _ ih =>
    rw [loopB_cons]
    rcases hr : eval env root b (partIdx part i) p st with ⟨t, s⟩
    rw [hr] at h1 ih
    cases t with
    | error => exact absurd rfl h1
    | «match» => exact ih hx .match
    | «nomatch» => exact ih hx ev

theorem step_error {env : Env} {root : Msg} {a b : EvalPt} (h : EvalStep env root a b)
    (hb : (b.res env root).1 = .error) : (a.res env root).1 = .error := by
  cases h with
  | block l e k m st =>
    have hb' : (eval env root e k m st).1 = .error := hb
    simp only [EvalPt.res]
    rw [eval_block]
    exact blockWrap_error hb'
  | andL l x y k m st =>
    have hb' : (eval env root x k m st).1 = .error := hb
    simp only [EvalPt.res]
    rw [eval, fst_error hb']
  | andR l x y k m st st1 h1 =>
    simp only [EvalPt.res] at hb ⊢
    rw [eval, h1]
    exact hb
  | orL l x y k m st =>
    have hb' : (eval env root x k m st).1 = .error := hb
    simp only [EvalPt.res]
    rw [eval, fst_error hb']
  | orR l x y k m st st1 h1 =>
    simp only [EvalPt.res] at hb ⊢
    rw [eval, h1]
    exact hb
  | neg l e k m st =>
    have hb' : (eval env root e k m st).1 = .error := hb
    simp only [EvalPt.res]
    rw [eval, fst_error hb']
  | mtchC l c r k m st ml h1 =>
    simp only [EvalPt.res] at hb ⊢
    rw [eval, h1]
    have hb' : (eval env root c k m { st with ml := ml }).1 = .error := hb
    simp only [Bool.false_eq_true, if_false]
    rw [fst_error hb']
  | mtchR l c r k m st st1 ml h1 h2 =>
    simp only [EvalPt.res] at hb ⊢
    rw [eval, h1]
    simp only [Bool.false_eq_true, if_false]
    rw [h2]
    exact hb
  | att l c k m st ps x h1 h2 =>
    simp only [EvalPt.res] at ⊢
    rw [eval, h1]
    exact reachCond_error h2 hb
  | attB l blk k m st ps x h1 h2 =>
    simp only [EvalPt.res] at ⊢
    rw [eval, h1]
    exact reachBlock_error h2 hb .nomatch

theorem evaluated_error {env : Env} {root : Msg} {a b : EvalPt} (h : Evaluated env root a b)
    (hb : (b.res env root).1 = .error) : (a.res env root).1 = .error := by
  induction h with
  | refl _ => exact hb
  | step a b _ hs _ ih => exact step_error hs (ih hb)

def Origin (env : Env) (root : Msg) (b : EvalPt) : Prop :=
  (b.res env root).1 = .error ∧ ∀ c, EvalStep env root b c → (c.res env root).1 ≠ .error

theorem reachCond_expr {env : Env} {root : Msg} {c : Expr} {part : Nat} {ps : List Msg} {i : Nat} {st : St} {x : EvalPt}
    (h : ReachCond env root c part ps i st x) : x.e = c := by
  induction h with
  | here => rfl
  | next _ _ _ _ _ _ _ _ ih => exact ih

theorem reachBlock_expr {env : Env} {root : Msg} {b : Expr} {part : Nat} {ps : List Msg} {i : Nat} {st : St} {x : EvalPt}
    (h : ReachBlock env root b part ps i st x) : x.e = b := by
  induction h with
  | here => rfl
  | next _ _ _ _ _ _ _ ih => exact ih

theorem step_lt {env : Env} {root : Msg} {a b : EvalPt} (h : EvalStep env root a b) : sizeOf b.e < sizeOf a.e := by
  cases h with
  | att l c k m st ps x _ h2 => rw [reachCond_expr h2]; simp only [Expr.attachment.sizeOf_spec]; omega
  | attB l blk k m st ps x _ h2 => rw [reachBlock_expr h2]; simp only [Expr.attBlock.sizeOf_spec]; omega
  | _ =>
    simp only [Expr.block.sizeOf_spec, Expr.and.sizeOf_spec, Expr.or.sizeOf_spec, Expr.neg.sizeOf_spec,
      Expr.mtch.sizeOf_spec]
    omega

theorem error_origin {env : Env} {root : Msg} : ∀ (n : Nat) (a : EvalPt), sizeOf a.e ≤ n →
    (a.res env root).1 = .error → ∃ b, Evaluated env root a b ∧ Origin env root b := by
  -- `n` bounds the size of the expression (every step goes to a smaller one, `step_lt`); a caller takes `n := sizeOf a.e`
  intro n
  induction n with
  | zero =>
    intro a hn ha
    refine ⟨a, .refl a, ha, fun c hs _ => ?_⟩
    have := step_lt hs
    omega
  | succ n ih =>
    intro a hn ha
    by_cases h : ∃ c, EvalStep env root a c ∧ (c.res env root).1 = .error
    · obtain ⟨c, hs, hc⟩ := h
      have hlt := step_lt hs
      obtain ⟨b, hb, ho⟩ := ih c (by omega) hc
      exact ⟨b, .step a c b hs hb, ho⟩
    · exact ⟨a, .refl a, ha, fun c hs hc => h ⟨c, hs, hc⟩⟩

theorem loop_error_reach {env : Env} {root : Msg} {c : Expr} {part : Nat} : ∀ (ps : List Msg) (i : Nat) (st : St),
    (eval.loop env root c part ps i st).1 = .error →
    ∃ x, ReachCond env root c part ps i st x ∧ (x.res env root).1 = .error := by
  intro ps
  induction ps with
  | nil => intro i st h; simp [eval.loop] at h
  | cons p rest ih =>
    intro i st h
    rw [loop_cons] at h
    rcases hr : eval env root c (partIdx part i) p st with ⟨t, s⟩
    rw [hr] at h
    cases t with
    | «nomatch» =>
      obtain ⟨x, hx, he⟩ := ih (i + 1) s h
      exact ⟨x, .next p rest i st s x hr hx, he⟩
    | «match» => simp at h
    | error => exact ⟨⟨c, partIdx part i, p, st⟩, .here p rest i st, by simp [EvalPt.res, hr]⟩

theorem loopB_error_reach {env : Env} {root : Msg} {b : Expr} {part : Nat} : ∀ (ps : List Msg) (i : Nat) (ev : Tri) (st : St),
    ev ≠ .error → (eval.loopB env root b part ps i ev st).1 = .error →
    ∃ x, ReachBlock env root b part ps i st x ∧ (x.res env root).1 = .error := by
  intro ps
  induction ps with
  | nil => intro i ev st hev h; simp only [eval.loopB] at h; exact absurd h hev
  | cons p rest ih =>
    intro i ev st hev h
    rw [loopB_cons] at h
    rcases hr : eval env root b (partIdx part i) p st with ⟨t, s⟩
    rw [hr] at h
    have hs : (eval env root b (partIdx part i) p st).2 = s := by rw [hr]
    cases t with
    | «nomatch» =>
      obtain ⟨x, hx, he⟩ := ih (i + 1) ev s hev h
      exact ⟨x, .next p rest i st x (by rw [hr]; simp) (by rw [hs]; exact hx), he⟩
    | «match» =>
      obtain ⟨x, hx, he⟩ := ih (i + 1) .match s (by simp) h
      exact ⟨x, .next p rest i st x (by rw [hr]; simp) (by rw [hs]; exact hx), he⟩
    | error => exact ⟨⟨b, partIdx part i, p, st⟩, .here p rest i st, by simp [EvalPt.res, hr]⟩

/-- What an origin looks like: never a block, `and`, `or` or `!` node (they only hand an error of
an operand on); a `match` node only when its sentinel entry cannot be appended; an `attachment`
condition or attachment block only when the parts of the message cannot be had (malformed
multipart, nesting beyond the limit).  Everything else is a leaf: a matcher or an action. -/
def OriginShape (env : Env) (b : EvalPt) : Prop :=
  match b.e with
  | .block .. | .and .. | .or .. | .neg .. => False
  | .mtch l _ _ => (matchesAppend env b.st.ml { ty := .mtch, lno := l, part := b.part }).2 = true
  | .attachment .. | .attBlock .. => getAttachments b.m = none
  | _ => True

theorem origin_shape {env : Env} {root : Msg} {b : EvalPt} (h : Origin env root b) : OriginShape env b := by
  obtain ⟨e, k, m, st⟩ := b
  obtain ⟨herr, hno⟩ := h
  cases e with
  | block l e =>
    exfalso
    have herr' : (blockWrap (eval env root e k m st)).1 = .error := by rw [← eval_block]; exact herr
    exact hno _ (.block l e k m st) (error_of_blockWrap herr')
  | and l x y =>
    exfalso
    simp only [EvalPt.res] at herr
    rw [eval] at herr
    rcases hr : eval env root x k m st with ⟨t, s⟩
    rw [hr] at herr
    cases t with
    | error => exact hno _ (.andL l x y k m st) (by simp [EvalPt.res, hr])
    | «match» => exact hno _ (.andR l x y k m st s hr) herr
    | «nomatch» => simp at herr
  | or l x y =>
    exfalso
    simp only [EvalPt.res] at herr
    rw [eval] at herr
    rcases hr : eval env root x k m st with ⟨t, s⟩
    rw [hr] at herr
    cases t with
    | error => exact hno _ (.orL l x y k m st) (by simp [EvalPt.res, hr])
    | «nomatch» => exact hno _ (.orR l x y k m st s hr) herr
    | «match» => simp at herr
  | neg l e =>
    exfalso
    simp only [EvalPt.res] at herr
    rw [eval] at herr
    rcases hr : eval env root e k m st with ⟨t, s⟩
    rw [hr] at herr
    cases t with
    | error => exact hno _ (.neg l e k m st) (by simp [EvalPt.res, hr])
    | «nomatch» => simp at herr
    | «match» => simp at herr
  | mtch l c r =>
    show (matchesAppend env st.ml { ty := .mtch, lno := l, part := k }).2 = true
    rcases ha : matchesAppend env st.ml { ty := .mtch, lno := l, part := k } with ⟨ml, failed⟩
    cases failed with
    | true => rfl
    | false =>
      exfalso
      simp only [EvalPt.res] at herr
      rw [eval, ha] at herr
      simp only [Bool.false_eq_true, if_false] at herr
      rcases hr : eval env root c k m { st with ml := ml } with ⟨t, s⟩
      rw [hr] at herr
      cases t with
      | error => exact hno _ (.mtchC l c r k m st ml ha) (by simp [EvalPt.res, hr])
      | «match» => exact hno _ (.mtchR l c r k m st s ml ha hr) herr
      | «nomatch» => simp at herr
  | attachment l c =>
    show getAttachments m = none
    cases hg : getAttachments m with
    | none => rfl
    | some ps =>
      exfalso
      simp only [EvalPt.res] at herr
      rw [eval, hg] at herr
      obtain ⟨x, hx, he⟩ := loop_error_reach ps 0 st herr
      exact hno x (.att l c k m st ps x hg hx) he
  | attBlock l blk =>
    show getAttachments m = none
    cases hg : getAttachments m with
    | none => rfl
    | some ps =>
      exfalso
      simp only [EvalPt.res] at herr
      rw [eval, hg] at herr
      obtain ⟨x, hx, he⟩ := loopB_error_reach ps 0 .nomatch st (by simp) herr
      exact hno x (.attB l blk k m st ps x hg hx) he
  | _ => trivial

/-! The four constructors of `EvalStep` that carry an equation `eval .. = (t, st1)`, for the point whose state is written
`(eval ..).2`: the equation is read off the verdict (`Prod.ext`). -/

theorem EvalStep.andR' {env : Env} {root : Msg} (l : Nat) (a b : Expr) (k : Nat) (m : Msg) (st : St)
    (h : (eval env root a k m st).1 = .match) :
    EvalStep env root ⟨.and l a b, k, m, st⟩ ⟨b, k, m, (eval env root a k m st).2⟩ :=
  .andR l a b k m st _ (Prod.ext h rfl)

theorem EvalStep.orR' {env : Env} {root : Msg} (l : Nat) (a b : Expr) (k : Nat) (m : Msg) (st : St)
    (h : (eval env root a k m st).1 = .nomatch) :
    EvalStep env root ⟨.or l a b, k, m, st⟩ ⟨b, k, m, (eval env root a k m st).2⟩ :=
  .orR l a b k m st _ (Prod.ext h rfl)

theorem EvalStep.mtchC' {env : Env} {root : Msg} (l : Nat) (c r : Expr) (k : Nat) (m : Msg) (st : St)
    (h : (matchesAppend env st.ml { ty := .mtch, lno := l, part := k }).2 = false) :
    EvalStep env root ⟨.mtch l c r, k, m, st⟩
      ⟨c, k, m, { st with ml := (matchesAppend env st.ml { ty := .mtch, lno := l, part := k }).1 }⟩ :=
  .mtchC l c r k m st _ (Prod.ext rfl h)

theorem EvalStep.mtchR' {env : Env} {root : Msg} (l : Nat) (c r : Expr) (k : Nat) (m : Msg) (st : St)
    (h : (matchesAppend env st.ml { ty := .mtch, lno := l, part := k }).2 = false)
    (hc : (eval env root c k m { st with ml := (matchesAppend env st.ml { ty := .mtch, lno := l, part := k }).1 }).1 = .match) :
    EvalStep env root ⟨.mtch l c r, k, m, st⟩
      ⟨r, k, m, (eval env root c k m { st with ml := (matchesAppend env st.ml { ty := .mtch, lno := l, part := k }).1 }).2⟩ :=
  .mtchR l c r k m st _ _ (Prod.ext rfl h) (Prod.ext hc rfl)

end Mdsort.Proofs
