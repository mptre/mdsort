import Mdsort.Proofs.WorldFootExec

/-! The invariant between two actions (`At`) and the exact posts of one entry of the action list (`ExecPost`), of the list
(`ListPost`) and of `matches_exec` (`FinalPost`), read as the list followed by the final close (`matchesExec_eq`). -/

namespace Mdsort.Proofs.World
open Mdsort Mdsort.Model

/-- The invariant between two actions: the source maildir is open on its directory, the message
is bound there under its current name to a file (below `nextFid`) that holds the content the
ghost state records, and the message's own descriptor is an existing handle other than the
source directory's. -/
structure At (w : World) (st : ExecSt) (sh : Handle) (fid : Nat) : Prop where
  hsh : st.src.dirH = some sh
  hps : w.dirPath sh = some st.src.path
  wf : pathjoin PATH_MAX st.src.root (subdirName st.src.subdir) = some st.src.path
  hloc : st.ms.loc = some (st.src.path, st.ms.name)
  hlk : lk w (st.src.path, st.ms.name) = some fid
  hlt : fid < w.nextFid
  hf : w.file fid = some ⟨st.ms.content, st.ms.content⟩
  mfd : ∀ h, st.ms.fd = some h → h < w.handles.length ∧ h ≠ sh

theorem At.located {w : World} {st : ExecSt} {sh : Handle} {fid : Nat} (h : At w st sh fid) :
    Located w st.ms (st.src.path, st.ms.name) := ⟨h.hloc, fid, h.hlk, h.hlt, h.hf⟩

theorem Located.step {w : World} {ms : MsgSt} {nb : Ent} (h : Located w ms nb) (c : Call) (r : Res)
    (hd : Call.dirOp c = false) (hfs : ∀ g, fileSafe w g c) : Located (stepWorld w c r) ms nb := by
  obtain ⟨hl, fid, hlk, hlt, hf⟩ := h
  have := file_step hf hlt c r (hfs fid)
  exact ⟨hl, fid, by rw [lk_step _ _ _ hd]; exact hlk, this.2, this.1⟩

theorem At.closedir {w : World} {st : ExecSt} {sh : Handle} {fid : Nat} (h : At w st sh fid) (d : Handle) (r : Res)
    (hne : d ≠ sh) : At (stepWorld w (.closedir d) r) st sh fid := by
  have hf := file_step h.hf h.hlt (.closedir d) r trivial
  refine ⟨h.hsh, ?_, h.wf, h.hloc, by rw [lk_step _ _ _ rfl]; exact h.hlk, hf.2, hf.1, ?_⟩
  · rw [← h.hps]
    apply dirPath_congr
    rw [stepWorld_obj]
    exact core_obj w _ r sh (lt_of_dirPath h.hps) (by simp only [Call.subject, ne_eq, Option.some.injEq]; exact hne)
  · intro h' hh
    obtain ⟨h1, h2⟩ := h.mfd h' hh
    refine ⟨?_, h2⟩
    rw [stepWorld_handles]
    exact Nat.lt_of_lt_of_le h1 (core_len w (.closedir d) r)

theorem At.frame {w w' : World} {st : ExecSt} {sh : Handle} {fid : Nat} (h : At w st sh fid) (fr : Fr1 (NewS w) w w') :
    At w' st sh fid := by
  refine ⟨h.hsh, ?_, h.wf, h.hloc, ?_, Nat.lt_of_lt_of_le h.hlt fr.nextFid, ?_, ?_⟩
  · rw [← h.hps]; exact dirPath_congr (fr.objs sh (lt_of_dirPath h.hps))
  · rw [← h.hlk]; exact lookup_of_dirs fr.dirs _ _
  · rw [fr.files fid h.hlt (by simp only [NewS]; have := h.hlt; omega)]; exact h.hf
  · intro h' hh
    obtain ⟨h1, h2⟩ := h.mfd h' hh
    exact ⟨Nat.lt_of_lt_of_le h1 fr.len, h2⟩

/-- `src'` is the destination of a successful move, or the source when both are the same directory. -/
theorem At.moved {w w2 : World} {st : ExecSt} {sh : Handle} {fid : Nat} (hA : At w st sh fid)
    {src' : Maildir} (chs : Bool) {ms' : MsgSt} {dh : Handle}
    (hdh : src'.dirH = some dh) (hp : w2.dirPath dh = some src'.path)
    (hwf : pathjoin PATH_MAX src'.root (subdirName src'.subdir) = some src'.path)
    (hL : Located w2 ms' (src'.path, ms'.name)) (hfd : ms'.fd = st.ms.fd)
    (hlen : w.handles.length ≤ w2.handles.length) (hne : ∀ h, st.ms.fd = some h → h ≠ dh) :
    ∃ fid2, At w2 { src := src', chsrc := chs, ms := ms', reject := st.reject } dh fid2 := by
  obtain ⟨hl2, fid2, hlk2, hlt2, hf2⟩ := hL
  refine ⟨fid2, hdh, hp, hwf, hl2, hlk2, hlt2, hf2, ?_⟩
  intro h hh
  rw [hfd] at hh
  exact ⟨Nat.lt_of_lt_of_le (hA.mfd h hh).1 hlen, hne h hh⟩

theorem At.rewritten {w w1 : World} {st : ExecSt} {sh : Handle} {fid : Nat} (hA : At w st sh fid) {ms' : MsgSt} {rd : Handle}
    (hobjs : ∀ h, h < w.handles.length → st.ms.fd ≠ some h → w1.obj h = w.obj h)
    (hL : Located w1 ms' (st.src.path, ms'.name)) (hrd : ms'.fd = some rd) (hrdlo : w.handles.length ≤ rd)
    (hrdhi : rd < w1.handles.length) : ∃ fid1, At w1 { st with ms := ms' } sh fid1 := by
  obtain ⟨hl1, fid1, hlk1, hlt1, hf1⟩ := hL
  have hshlt : sh < w.handles.length := lt_of_dirPath hA.hps
  refine ⟨fid1, hA.hsh, ?_, hA.wf, hl1, hlk1, hlt1, hf1, ?_⟩
  · rw [← hA.hps]
    exact dirPath_congr (hobjs sh hshlt fun hh => (hA.mfd sh hh).2 rfl)
  · intro h hh
    rw [hrd] at hh
    cases hh
    exact ⟨hrdhi, Ne.symm (Nat.ne_of_lt (Nat.lt_of_lt_of_le hshlt hrdlo))⟩

theorem path_eq_of_same {a b : Maildir} (h : ¬ (a.subdir != b.subdir || a.root != b.root) = true)
    (ha : pathjoin PATH_MAX a.root (subdirName a.subdir) = some a.path)
    (hb : pathjoin PATH_MAX b.root (subdirName b.subdir) = some b.path) : b.path = a.path := by
  simp only [Bool.or_eq_true, bne_iff_ne, ne_eq, not_or, Decidable.not_not] at h
  rw [h.1, h.2, hb] at ha
  exact Option.some.inj ha

def isPathTy : MType → Bool
  | .move | .flag | .flags => true
  | _ => false

def isRewriteTy : MType → Bool
  | .label | .addHeader => true
  | _ => false

/-- The directory the message is in after a successful action. -/
def stepDir (mh : Match) (p : Bytes) : Bytes := if isPathTy mh.ty then (dstPathOf mh.path).getD p else p

theorem path_not_rewrite {t : MType} (h : isPathTy t = true) : isRewriteTy t = false := by
  cases t <;> simp [isPathTy, isRewriteTy] at h ⊢

/-- The exact post of one entry of the action list: it holds under at most one fault on every path and, when the entry returns
no error, under every fault plan (`count_execOne`). -/
def ExecPost (w : World) (mh : Match) (st : ExecSt) (r : ExecSt × Bool) (w' : World) : Prop :=
  ∃ nb, Located w' r.1.ms nb ∧ Delta w w' (st.src.path, st.ms.name) nb ∧ r.1.ms.msg = st.ms.msg ∧
    (r.1.ms.content = st.ms.content ∨ r.1.ms.content = (messageWrite st.ms.msg).1) ∧
    (r.2 = false → (∃ sh' fid', At w' r.1 sh' fid') ∧ r.1.src.path = stepDir mh st.src.path ∧
        (isRewriteTy mh.ty = true → r.1.ms.content = (messageWrite st.ms.msg).1))

theorem ExecPost.ok {w w' : World} {mh : Match} {st st' : ExecSt} {sh' fid' : Nat} (hA' : At w' st' sh' fid')
    (d : Delta w w' (st.src.path, st.ms.name) (st'.src.path, st'.ms.name))
    (hmsg : st'.ms.msg = st.ms.msg)
    (hcont : st'.ms.content = st.ms.content ∨ st'.ms.content = (messageWrite st.ms.msg).1)
    (hdir : st'.src.path = stepDir mh st.src.path)
    (hrw : isRewriteTy mh.ty = true → st'.ms.content = (messageWrite st.ms.msg).1) :
    ExecPost w mh st (st', false) w' :=
  ⟨_, hA'.located, d, hmsg, hcont, fun _ => ⟨⟨sh', fid', hA'⟩, hdir, hrw⟩⟩

theorem maildirClose_some {md : Maildir} {d : Handle} (h : md.dirH = some d) :
    maildirClose md = Prog.call (.closedir d) fun _ => Prog.ret () := by
  unfold maildirClose
  simp only [h, bind_eq, pure_eq, call_bind]

theorem isPathTy_iff {t : MType} : isPathTy t = true ↔ t = .move ∨ t = .flag ∨ t = .flags := by
  cases t <;> simp [isPathTy]

theorem isRewriteTy_iff {t : MType} : isRewriteTy t = true ↔ t = .label ∨ t = .addHeader := by
  cases t <;> simp [isRewriteTy]

/-- An entry that is no action on the message (a condition, `reject`, `break`, `pass`). -/
theorem execOne_quiet (env : PEnv) (mh : Match) (st : ExecSt) (hpt : ¬ isPathTy mh.ty = true) (hrt : ¬ isRewriteTy mh.ty = true)
    (hex : mh.ty ≠ .exec) (hnd : mh.ty ≠ .discard) :
    ∃ st' : ExecSt, execOne env mh st = Prog.ret (st', false) ∧ st'.src = st.src ∧ st'.ms = st.ms ∧ st'.chsrc = st.chsrc := by
  by_cases hrj : mh.ty = .reject
  · exact ⟨_, execOne_reject env mh st hrj, rfl, rfl, rfl⟩
  · refine ⟨st, execOne_other env mh st ?_, rfl, rfl, rfl⟩
    simp only [List.mem_cons, List.mem_nil_iff, or_false, not_or]
    exact ⟨fun h => hpt (isPathTy_iff.2 (.inl h)), fun h => hpt (isPathTy_iff.2 (.inr (.inl h))),
      fun h => hpt (isPathTy_iff.2 (.inr (.inr h))), hnd, fun h => hrt (isRewriteTy_iff.2 (.inl h)),
      fun h => hrt (isRewriteTy_iff.2 (.inr h)), hrj, hex⟩

theorem At.congr {w : World} {st st' : ExecSt} {sh : Handle} {fid : Nat} (hA : At w st sh fid)
    (hsrc : st'.src = st.src) (hms : st'.ms = st.ms) : At w st' sh fid :=
  ⟨by rw [hsrc]; exact hA.hsh, by rw [hsrc]; exact hA.hps, by rw [hsrc]; exact hA.wf,
    by rw [hsrc, hms]; exact hA.hloc, by rw [hsrc, hms]; exact hA.hlk, hA.hlt, by rw [hms]; exact hA.hf,
    by rw [hms]; exact hA.mfd⟩

theorem ExecPost.same {w : World} {mh : Match} {st st' : ExecSt} {sh : Handle} {fid : Nat} (hA : At w st sh fid)
    (hsrc : st'.src = st.src) (hms : st'.ms = st.ms) (hp : isPathTy mh.ty = false) (hr : isRewriteTy mh.ty = false) :
    ExecPost w mh st (st', false) w := by
  refine ExecPost.ok (hA.congr hsrc hms) (by rw [hsrc, hms]; exact Delta.refl w _) (by rw [hms]) (.inl (by rw [hms])) ?_ ?_
  · unfold stepDir; simp [hp, hsrc]
  · intro h; rw [hr] at h; cases h

/-- `matches_exec` without the closing of a changed source maildir at the end. -/
def execList (env : PEnv) : MatchList → ExecSt → Prog (ExecSt × Bool)
  | [], st => Prog.ret (st, false)
  | mh :: rest, st => (execOne env mh st).bind fun x => if x.2 = true then Prog.ret x else execList env rest x.1

/-- The end of `matches_exec`: a changed source maildir is closed. -/
def finish (x : ExecSt × Bool) : Prog (ExecSt × Bool) :=
  if x.1.chsrc = true then (maildirClose x.1.src).bind fun _ => Prog.ret x else Prog.ret x

theorem matchesExec_eq (env : PEnv) (ml : MatchList) (st : ExecSt) :
    matchesExec env ml st = (execList env ml st).bind finish := by
  induction ml generalizing st with
  | nil =>
    rw [matchesExec]
    rfl
  | cons mh rest ih =>
    rw [matchesExec]
    unfold execList
    rw [bind_assoc]
    simp only [bind_eq, pure_eq]
    congr 1
    funext x
    obtain ⟨st', e⟩ := x
    cases e with
    | false =>
      simp only [Bool.false_eq_true, if_false]
      exact ih st'
    | true =>
      simp only [if_true, ret_bind]
      rfl

/-- The directory the message is in after the whole list has succeeded. -/
def finalDir : MatchList → Bytes → Bytes
  | [], p => p
  | mh :: rest, p => finalDir rest (stepDir mh p)

def rewrites (ml : MatchList) : Bool := ml.any fun mh => isRewriteTy mh.ty

/-- The exact post of a discard-free list before the final close: it holds under at most one fault and, when no error is
returned, under every fault plan (`count_execList`). -/
def ListPost (w : World) (ml : MatchList) (st : ExecSt) (r : ExecSt × Bool) (w' : World) : Prop :=
  ∃ nb, Located w' r.1.ms nb ∧ Delta w w' (st.src.path, st.ms.name) nb ∧ r.1.ms.msg = st.ms.msg ∧
    (r.1.ms.content = st.ms.content ∨ r.1.ms.content = (messageWrite st.ms.msg).1) ∧
    (r.2 = false → (∃ sh' fid', At w' r.1 sh' fid') ∧ r.1.src.path = finalDir ml st.src.path ∧
      (rewrites ml = true → r.1.ms.content = (messageWrite st.ms.msg).1))

theorem ListPost.cons {w w1 w' : World} {mh : Match} {rest : MatchList} {st st1 : ExecSt} {r : ExecSt × Bool}
    (h1 : ExecPost w mh st (st1, false) w1) (h2 : ListPost w1 rest st1 r w') : ListPost w (mh :: rest) st r w' := by
  obtain ⟨nb, hloc1, d01, hmsg1, hcont1, hfin1⟩ := h1
  obtain ⟨⟨sh1, fid1, hA1⟩, hdir1, hrw1⟩ := hfin1 rfl
  obtain rfl : nb = (st1.src.path, st1.ms.name) := (Option.some.inj (hloc1.1.symm.trans hA1.hloc))
  obtain ⟨nb2, hloc2, d12, hmsg2, hcont2, hfin2⟩ := h2
  dsimp only at hmsg1 hcont1 hdir1 hrw1
  rw [hmsg1] at hcont2 hfin2
  have hcont : r.1.ms.content = st.ms.content ∨ r.1.ms.content = (messageWrite st.ms.msg).1 :=
    hcont2.elim (fun h => by rw [h]; exact hcont1) .inr
  refine ⟨nb2, hloc2, d01.trans d12, hmsg2.trans hmsg1, hcont, fun he => ?_⟩
  obtain ⟨hA2, hdir2, hrw2⟩ := hfin2 he
  refine ⟨hA2, by rw [hdir2, hdir1]; rfl, fun hr => ?_⟩
  simp only [rewrites, List.any_cons, Bool.or_eq_true] at hr
  rcases hr with hr | hr
  · exact hcont2.elim (fun h => by rw [h]; exact hrw1 hr) id
  · exact hrw2 hr

/-- What `matches_exec` guarantees for a discard-free list under at most one fault - and, when it returns no error, under
every fault plan (`count_matchesExec`). -/
def FinalPost (w : World) (ml : MatchList) (st : ExecSt) (r : ExecSt × Bool) (w' : World) : Prop :=
  ∃ nb, Located w' r.1.ms nb ∧ Delta w w' (st.src.path, st.ms.name) nb ∧ r.1.ms.msg = st.ms.msg ∧
    (r.1.ms.content = st.ms.content ∨ r.1.ms.content = (messageWrite st.ms.msg).1) ∧
    (r.2 = false → nb.1 = finalDir ml st.src.path ∧
      (rewrites ml = true → r.1.ms.content = (messageWrite st.ms.msg).1))

theorem ListPost.final {w w' : World} {ml : MatchList} {st : ExecSt} {r : ExecSt × Bool} (h : ListPost w ml st r w') :
    FinalPost w ml st r w' := by
  obtain ⟨nb, hloc, d, hmsg, hcont, hfin⟩ := h
  refine ⟨nb, hloc, d, hmsg, hcont, fun he => ?_⟩
  obtain ⟨⟨sh', fid', hA'⟩, hdir, hrw⟩ := hfin he
  obtain rfl : nb = (r.1.src.path, r.1.ms.name) := Option.some.inj (hloc.1.symm.trans hA'.hloc)
  exact ⟨hdir, hrw⟩

/-- For the final `closedir` and the `close` of `message_free`. -/
theorem FinalPost.step {w w' : World} {ml : MatchList} {st : ExecSt} {r : ExecSt × Bool} (h : FinalPost w ml st r w')
    (c : Call) (rc : Res) (hd : Call.dirOp c = false) (hfs : ∀ g, fileSafe w' g c) :
    FinalPost w ml st r (stepWorld w' c rc) := by
  obtain ⟨nb, hloc, d, rest⟩ := h
  exact ⟨nb, hloc.step c rc hd hfs, d.step c rc hd (fun g _ => hfs g), rest⟩

end Mdsort.Proofs.World
