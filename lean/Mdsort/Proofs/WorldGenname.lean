import Mdsort.Proofs.WorldMtime
import Mdsort.Proofs.LexAux

/-! `maildir_genname` with the real constants, under every fault plan (C09).

`genname_run` describes every run completely: `k` attempts answered `EEXIST`, then exactly one of
*gave up* (`k` = the number of attempts: only in the model), *name too long* (ENAMETOOLONG),
*another error*, *created*.  Giving up after `gennameAttempts = 2 ^ 32` attempts is the only place where model and code
part (the C loop is `for (;;)` and would try the very same names again: `gennameAttempts`, Model/Scripts.lean), and
`genname_real_calls` shows what it takes to get there: `2 ^ 32` answers `EEXIST`, each of them a name that is bound in the
directory or a fault injected by the plan. -/

namespace Mdsort.Proofs.World
open Mdsort Mdsort.Model

theorem predict_sameFs {w w' : World} (h : SameFs w w') (c : Call) : predict w' c = predict w c := by
  obtain ⟨tr, rfl⟩ := h
  cases c <;> rfl

theorem faultResult_sameFs {w w' : World} (h : SameFs w w') (f : Option Fault) (c : Call) :
    faultResult f w' c = faultResult f w c := by
  unfold faultResult
  rw [predict_sameFs h]

theorem decimal_inj {a b : Nat} (h : decimal a = decimal b) : a = b := by
  obtain ⟨da, ha, -, -, va⟩ := LexAux.toString_bytes a
  obtain ⟨db, hb, -, -, vb⟩ := LexAux.toString_bytes b
  unfold decimal at h
  rw [ha, hb] at h
  subst h
  rw [← va, vb]

theorem gennameWrap_eq : gennameWrap = 4294967296 := by decide

theorem cand_inj {env : PEnv} {flags : Option Bytes} {a b : Nat} (h : cand env flags a = cand env flags b) :
    a % gennameWrap = b % gennameWrap := by
  unfold cand at h
  simp only [List.append_assoc, List.append_cancel_left_eq] at h
  have hlen := congrArg List.length h
  simp only [List.length_append] at hlen
  exact decimal_inj (List.append_inj_left h (by omega))

theorem mem_names_of_lookup {w : World} {p n : Bytes} {es : List (Bytes × Nat)} (hd : w.dir p = some es)
    (h : (w.lookup p n).isSome) : n ∈ es.map (·.1) :=
  (lookup_isSome_iff hd).1 h

/-- The number of candidates among the first `fuel` that are already bound. -/
def presentCount (env : PEnv) (flags : Option Bytes) (w : World) (p : Bytes) (count fuel : Nat) : Nat :=
  ((List.range fuel).filter fun j => (w.lookup p (cand env flags (count + 1 + j))).isSome).length

theorem le_presentCount (env : PEnv) (flags : Option Bytes) (w : World) (p : Bytes) (count fuel n : Nat) (hn : n ≤ fuel)
    (h : ∀ j, j < n → (w.lookup p (cand env flags (count + 1 + j))).isSome) :
    n ≤ presentCount env flags w p count fuel := by
  unfold presentCount
  rw [← List.countP_eq_length_filter]
  have h1 : (List.range n).countP (fun j => (w.lookup p (cand env flags (count + 1 + j))).isSome) = n := by
    rw [List.countP_eq_length.2]
    · simp
    · intro j hj
      exact h j (List.mem_range.1 hj)
  have h2 := List.Sublist.countP_le (p := fun j => (w.lookup p (cand env flags (count + 1 + j))).isSome)
    (List.range_sublist.2 hn)
  omega

theorem gennameAttempts_eq : gennameAttempts = 4294967296 := by decide

/-- The C loop has no bound, the counter has 32 bits and the start value is taken modulo 128 (all three regenerated from
maildir.c). -/
theorem genname_loop_real : Gen.gennameLoopBound = none ∧ Gen.gennameCountBits = 32 ∧ Gen.gennameModulus = 128 := by decide

/-- The answer to the `j`-th exclusive create of a `maildir_genname` that starts with counter value
`c0` at call index `i0` in the world `w0` (failed attempts change nothing but the trace). -/
def gennameAnswer (env : PEnv) (flags : Option Bytes) (d : Handle) (plan : Plan) (w0 : World) (i0 c0 j : Nat) : Res :=
  faultResult (plan (i0 + j)) w0 (.openExcl d (cand env flags (c0 + 1 + j)))

def gennameFits (env : PEnv) (flags : Option Bytes) (c0 j : Nat) : Prop :=
  (cand env flags (c0 + 1 + j)).length < NAME_MAX1

instance (env : PEnv) (flags : Option Bytes) (c0 j : Nat) : Decidable (gennameFits env flags c0 j) := by
  unfold gennameFits; exact inferInstance

/-- How a run of `genname` with `fuel` attempts ended after `k` answers `EEXIST`: the value returned, the
final world and the number of calls issued. -/
inductive GenEnd (env : PEnv) (flags : Option Bytes) (d : Handle) (p : Bytes) (plan : Plan) (w0 : World) (i0 c0 : Nat)
    (fuel k : Nat) (res : Option (Handle × Bytes)) (wf : World) (n : Nat) : Prop where
  /-- all attempts used up (the C loop would go on) or the next name does not fit (ENAMETOOLONG) -/
  | stopped (h : k = fuel ∨ (k < fuel ∧ ¬ gennameFits env flags c0 k)) (hr : res = none) (hs : SameFs w0 wf) (hn : n = k)
  | failed (hk : k < fuel) (hf : gennameFits env flags c0 k) (e : String) (he : e ≠ "EEXIST")
      (ha : gennameAnswer env flags d plan w0 i0 c0 k = .err e) (hr : res = none) (hs : SameFs w0 wf) (hn : n = k + 1)
  | created (hk : k < fuel) (hf : gennameFits env flags c0 k)
      (ha : gennameAnswer env flags d plan w0 i0 c0 k = .ok w0.handles.length)
      (hl : w0.lookup p (cand env flags (c0 + 1 + k)) = none)
      (hr : res = some (w0.handles.length, cand env flags (c0 + 1 + k)))
      (wk : World) (hs : SameFs w0 wk)
      (hw : wf = stepWorld wk (.openExcl d (cand env flags (c0 + 1 + k))) (.ok wk.handles.length))
      (hn : n = k + 1)

theorem gennameAnswer_succ (env : PEnv) (flags : Option Bytes) (d : Handle) (plan : Plan) (w0 : World) (i0 c0 j : Nat) :
    gennameAnswer env flags d plan w0 (i0 + 1) (c0 + 1) j = gennameAnswer env flags d plan w0 i0 c0 (j + 1) := by
  unfold gennameAnswer
  rw [Nat.add_right_comm i0 1 j, Nat.add_right_comm (c0 + 1) 1 j]
  rfl

theorem gennameFits_succ (env : PEnv) (flags : Option Bytes) (c0 j : Nat) :
    gennameFits env flags (c0 + 1) j = gennameFits env flags c0 (j + 1) := by
  unfold gennameFits
  rw [Nat.add_right_comm (c0 + 1) 1 j]
  rfl

theorem GenEnd.succ {env : PEnv} {flags : Option Bytes} {d : Handle} {p : Bytes} {plan : Plan} {w0 : World} {i0 c0 fuel k : Nat}
    {res : Option (Handle × Bytes)} {wf : World} {n : Nat}
    (h : GenEnd env flags d p plan w0 (i0 + 1) (c0 + 1) fuel k res wf n) :
    GenEnd env flags d p plan w0 i0 c0 (fuel + 1) (k + 1) res wf (n + 1) := by
  cases h with
  | stopped h hr hs hn =>
    refine .stopped ?_ hr hs (by omega)
    rcases h with rfl | ⟨hk, hf⟩
    · exact .inl rfl
    · exact .inr ⟨by omega, by rwa [← gennameFits_succ]⟩
  | failed hk hf e he ha hr hs hn =>
    rw [gennameFits_succ] at hf
    rw [gennameAnswer_succ] at ha
    exact .failed (by omega) hf e he ha hr hs (by omega)
  | created hk hf ha hl hr wk hs hw hn =>
    rw [gennameFits_succ] at hf
    rw [gennameAnswer_succ] at ha
    rw [Nat.add_right_comm (c0 + 1) 1 k] at hl hr hw
    exact .created (by omega) hf ha hl hr wk hs hw (by omega)

/-- Every run of `genname`, under every plan: `k` answers `EEXIST`, then the end.  `w` is the world the run starts in, `w0`
the one the answers are computed in (failed attempts change nothing but the trace).  Two worlds, because the induction
hypothesis is used at the world after a failed attempt, which is not `w`: with the answers kept in `w0` (`faultResult_sameFs`
moves each one there) `GenEnd.succ` prepends an attempt to a `GenEnd` about the same world. -/
theorem genname_run_sameFs (env : PEnv) (md : Maildir) (flags : Option Bytes) (d : Handle) (p : Bytes) (plan : Plan)
    (hd : md.dirH = some d) (w0 : World) (hp : w0.dirPath d = some p) :
    ∀ (fuel i c0 : Nat) (w : World), SameFs w0 w →
      ∃ k, k ≤ fuel ∧
        (∀ j, j < k → gennameFits env flags c0 j ∧ gennameAnswer env flags d plan w0 i c0 j = .err "EEXIST") ∧
        GenEnd env flags d p plan w0 i c0 fuel k (run plan (genname env md flags fuel c0) w i).1
          (run plan (genname env md flags fuel c0) w i).2.1 (run plan (genname env md flags fuel c0) w i).2.2.2.length := by
  intro fuel
  induction fuel with
  | zero =>
    intro i c0 w hs
    exact ⟨0, Nat.le_refl _, fun j h => absurd h (Nat.not_lt_zero _), .stopped (.inl rfl) rfl hs rfl⟩
  | succ fuel ih =>
    intro i c0 w hs
    rw [genname_succ]
    by_cases hfit : gennameFits env flags c0 0
    · have hfit' : ¬ ((cand env flags (c0 + 1)).length ≥ NAME_MAX1) := Nat.not_le.2 hfit
      rw [if_neg hfit']
      simp only [hd, run]
      rw [faultResult_sameFs hs]
      rcases openExcl_results (plan i) w0 d (cand env flags (c0 + 1)) with ⟨e, he⟩ | ⟨he, p', hp', hl⟩
      · rw [he]
        have hs' : SameFs w0 (stepWorld w (.openExcl d (cand env flags (c0 + 1))) (.err e)) := hs.trans (sameFs_err w _ e rfl)
        by_cases hee : e = "EEXIST"
        · subst hee
          simp only [beq_self_eq_true, if_true]
          obtain ⟨k, hk, hret, hend⟩ := ih (i + 1) (c0 + 1) _ hs'
          refine ⟨k + 1, by omega, ?_, hend.succ⟩
          intro j hj
          cases j with
          | zero => exact ⟨hfit, he⟩
          | succ j =>
            rw [← gennameFits_succ, ← gennameAnswer_succ]
            exact hret j (by omega)
        · have hne : (e == "EEXIST") = false := by simpa using hee
          simp only [hne, Bool.false_eq_true, if_false]
          exact ⟨0, Nat.zero_le _, fun j h => absurd h (Nat.not_lt_zero _), .failed (Nat.succ_pos _) hfit e hee he rfl hs' rfl⟩
      · rw [he]
        cases hp.symm.trans hp'
        refine ⟨0, Nat.zero_le _, fun j h => absurd h (Nat.not_lt_zero _), ?_⟩
        exact .created (Nat.succ_pos _) hfit he hl rfl w hs (by rw [hs.handles]; rfl) rfl
    · rw [if_pos (Nat.le_of_not_lt hfit)]
      exact ⟨0, Nat.zero_le _, fun j h => absurd h (Nat.not_lt_zero _), .stopped (.inr ⟨Nat.succ_pos _, hfit⟩) rfl hs rfl⟩

theorem genname_run (env : PEnv) (md : Maildir) (flags : Option Bytes) (d : Handle) (p : Bytes) (plan : Plan)
    (hd : md.dirH = some d) (w : World) (hp : w.dirPath d = some p) (i c0 fuel : Nat) :
    ∃ k, k ≤ fuel ∧
      (∀ j, j < k → gennameFits env flags c0 j ∧ gennameAnswer env flags d plan w i c0 j = .err "EEXIST") ∧
      GenEnd env flags d p plan w i c0 fuel k (run plan (genname env md flags fuel c0) w i).1
        (run plan (genname env md flags fuel c0) w i).2.1 (run plan (genname env md flags fuel c0) w i).2.2.2.length :=
  genname_run_sameFs env md flags d p plan hd w hp fuel i c0 w (SameFs.refl w)

theorem bound_candidates_le (env : PEnv) (flags : Option Bytes) (c0 : Nat) {w : World} {p : Bytes} {es : List (Bytes × Nat)}
    (hd : w.dir p = some es) (k : Nat) (hk : k ≤ gennameWrap) :
    ((List.range k).filter fun j => (w.lookup p (cand env flags (c0 + 1 + j))).isSome).length ≤ es.length := by
  have hn : (((List.range k).filter fun j => (w.lookup p (cand env flags (c0 + 1 + j))).isSome).map
      fun j => cand env flags (c0 + 1 + j)).Nodup := by
    unfold List.Nodup
    rw [List.pairwise_map]
    refine List.Pairwise.imp_of_mem ?_ (List.Pairwise.filter _ List.nodup_range)
    intro a b ha hb hab hc
    have ha' := List.mem_range.1 (List.mem_filter.1 ha).1
    have hb' := List.mem_range.1 (List.mem_filter.1 hb).1
    have := cand_inj hc
    rw [gennameWrap_eq] at this hk
    omega
  have := hn.length_le_of_subset (l₂ := es.map (·.1)) (by
    intro x hx
    obtain ⟨j, hj, rfl⟩ := List.mem_map.1 hx
    exact mem_names_of_lookup hd (List.mem_filter.1 hj).2)
  simpa using this

theorem exists_free (env : PEnv) (flags : Option Bytes) (count : Nat) {w : World} {p : Bytes} {es : List (Bytes × Nat)}
    (hd : w.dir p = some es) (hW : es.length < gennameWrap) :
    ∃ j, j ≤ es.length ∧ w.lookup p (cand env flags (count + 1 + j)) = none := by
  apply Classical.byContradiction
  intro hno
  have hall : ∀ j ∈ List.range (es.length + 1), (w.lookup p (cand env flags (count + 1 + j))).isSome = true := by
    intro j hj
    cases hl : w.lookup p (cand env flags (count + 1 + j)) with
    | none => exact absurd ⟨j, Nat.le_of_lt_succ (List.mem_range.1 hj), hl⟩ hno
    | some _ => rfl
  have := bound_candidates_le env flags count hd (es.length + 1) hW
  rw [List.filter_eq_self.2 hall, List.length_range] at this
  omega

theorem le_count_or (k : Nat) (P Q : Nat → Bool) (h : ∀ j, j < k → P j = true ∨ Q j = true) :
    k ≤ ((List.range k).filter P).length + ((List.range k).filter Q).length := by
  induction k with
  | zero => exact Nat.zero_le _
  | succ k ih =>
    have := ih (fun j hj => h j (by omega))
    rw [List.range_succ, List.filter_append, List.filter_append, List.length_append, List.length_append]
    rcases h k (by omega) with hp | hq
    · simp only [List.filter_cons, hp, if_true, List.filter_nil, List.length_cons, List.length_nil]
      omega
    · simp only [List.filter_cons, hq, if_true, List.filter_nil, List.length_cons, List.length_nil]
      omega

/-- Number of calls with index `i .. i + n - 1` at which the plan injects something. -/
def faultsIn (plan : Plan) (i n : Nat) : Nat := ((List.range n).filter fun j => (plan (i + j)).isSome).length

theorem faultsIn_none (i n : Nat) : faultsIn Plan.none i n = 0 := by
  unfold faultsIn Plan.none
  simp

theorem faultsIn_mono (plan : Plan) (i : Nat) {a b : Nat} (h : a ≤ b) : faultsIn plan i a ≤ faultsIn plan i b := by
  unfold faultsIn
  rw [← List.countP_eq_length_filter, ← List.countP_eq_length_filter]
  exact List.Sublist.countP_le (List.range_sublist.2 h)

theorem eexist_genuine {w : World} {d : Handle} {p n : Bytes} (hp : w.dirPath d = some p) (f : Option Fault)
    (h : faultResult f w (.openExcl d n) = .err "EEXIST") : f.isSome = true ∨ (w.lookup p n).isSome = true := by
  cases f with
  | some _ => exact .inl rfl
  | none =>
    right
    cases hl : w.lookup p n with
    | some _ => rfl
    | none =>
      have : faultResult none w (.openExcl d n) = .ok w.handles.length := predict_openExcl_free hp hl
      rw [this] at h
      cases h

theorem genname_retries_le (env : PEnv) (flags : Option Bytes) (d : Handle) (p : Bytes) (plan : Plan) (w : World)
    (hp : w.dirPath d = some p) {es : List (Bytes × Nat)} (hes : w.dir p = some es) (i c0 k : Nat) (hk : k ≤ gennameWrap)
    (h : ∀ j, j < k → gennameAnswer env flags d plan w i c0 j = .err "EEXIST") :
    k ≤ es.length + faultsIn plan i k := by
  have h1 := le_count_or k (fun j => (w.lookup p (cand env flags (c0 + 1 + j))).isSome) (fun j => (plan (i + j)).isSome)
    (fun j hj => (eexist_genuine hp _ (h j hj)).symm)
  have h2 := bound_candidates_le env flags c0 hes k hk
  unfold faultsIn
  omega

/-- The counter value `maildir_genname` starts from: `arc4random() % 128`. -/
def gennameCount0 (env : PEnv) : Nat := env.random % Gen.gennameModulus

/-- Why `maildir_genname` gives up after `k` answers `EEXIST`. -/
def GivesUpAt (env : PEnv) (flags : Option Bytes) (d : Handle) (plan : Plan) (w : World) (i k : Nat) : Prop :=
  k = gennameAttempts ∨
  (k < gennameAttempts ∧ ¬ gennameFits env flags (gennameCount0 env) k) ∨
  (k < gennameAttempts ∧ gennameFits env flags (gennameCount0 env) k ∧
    ∃ e, e ≠ "EEXIST" ∧ gennameAnswer env flags d plan w i (gennameCount0 env) k = .err e)

def RetriedTo (env : PEnv) (flags : Option Bytes) (d : Handle) (plan : Plan) (w : World) (i k : Nat) : Prop :=
  ∀ j, j < k → gennameFits env flags (gennameCount0 env) j ∧
    gennameAnswer env flags d plan w i (gennameCount0 env) j = .err "EEXIST"

/-- `C09_genname_real` (Props/C09 says what it claims of mdsort). -/
theorem genname_real_success (env : PEnv) (md : Maildir) (flags : Option Bytes) (w : World) (plan : Plan) (i : Nat)
    (hist : List World) (d : Handle) (p : Bytes) (hd : md.dirH = some d) (hp : w.dirPath d = some p) (hdir : (w.dir p).isSome)
    (h : Handle) (name : Bytes) (hres : (runPlan plan (gennameStart env md flags) w i hist).1 = some (h, name)) :
    (∃ k, k < gennameAttempts ∧ RetriedTo env flags d plan w i k ∧ name = cand env flags (gennameCount0 env + 1 + k) ∧
      name.length < NAME_MAX1) ∧
    w.lookup p name = none ∧ h = w.handles.length ∧
    (runPlan plan (gennameStart env md flags) w i hist).2.1.lookup p name = some w.nextFid ∧
    (runPlan plan (gennameStart env md flags) w i hist).2.1.file w.nextFid = some ⟨[], []⟩ ∧
    (runPlan plan (gennameStart env md flags) w i hist).2.1.obj h = .file w.nextFid 0 true ∧
    (∀ q m fid, w.lookup q m = some fid → (runPlan plan (gennameStart env md flags) w i hist).2.1.lookup q m = some fid) ∧
    (∀ g, g ≠ w.nextFid → (runPlan plan (gennameStart env md flags) w i hist).2.1.file g = w.file g) ∧
    (∀ q, ((runPlan plan (gennameStart env md flags) w i hist).2.1.dir q).isSome = (w.dir q).isSome) ∧
    (runPlan plan (gennameStart env md flags) w i hist).2.1.mtimes = w.mtimes := by
  rw [runPlan_eq] at hres ⊢
  unfold gennameStart at hres ⊢
  obtain ⟨k, hk, hret, hend⟩ := genname_run env md flags d p plan hd w hp i (env.random % Gen.gennameModulus) gennameAttempts
  cases hend with
  | stopped _ hr _ _ => rw [hr] at hres; cases hres
  | failed _ _ _ _ _ hr _ _ => rw [hr] at hres; cases hres
  | created hk' hf ha hl hr wk hs hw hn =>
    rw [hr] at hres
    cases hres
    dsimp only
    rw [hw]
    have cr := created_of_openExcl (by rw [hs.dirPath]; exact hp) (by rw [hs.lookup]; exact hl)
    refine ⟨⟨k, hk', hret, rfl, hf⟩, hl, rfl, ?_, ?_, ?_, ?_, ?_, ?_, ?_⟩
    · rw [cr.bound (by rw [hs.dir]; exact hdir), hs.nextFid]
    · rw [← hs.nextFid]; exact cr.newFile
    · rw [← hs.nextFid, ← hs.handles]; exact cr.fd
    · intro q m fid hb
      rw [cr.look q m (by rintro ⟨rfl, rfl⟩; rw [hl] at hb; cases hb), hs.lookup]
      exact hb
    · intro g hg
      rw [cr.file g (by rw [hs.nextFid]; exact hg), hs.file]
    · intro q
      rw [cr.dir q, hs.dir]
    · rw [cr.mtimes, hs.mtimes]

/-- `C09_genname_gives_up_iff` (Props/C09 says what it claims of mdsort). -/
theorem genname_real_gives_up_iff (env : PEnv) (md : Maildir) (flags : Option Bytes) (w : World) (plan : Plan) (i : Nat)
    (hist : List World) (d : Handle) (p : Bytes) (hd : md.dirH = some d) (hp : w.dirPath d = some p) :
    (runPlan plan (gennameStart env md flags) w i hist).1 = none ↔
      ∃ k, k ≤ gennameAttempts ∧ RetriedTo env flags d plan w i k ∧ GivesUpAt env flags d plan w i k := by
  rw [runPlan_eq]
  unfold gennameStart
  obtain ⟨k, hk, hret, hend⟩ := genname_run env md flags d p plan hd w hp i (env.random % Gen.gennameModulus) gennameAttempts
  constructor
  · intro hnone
    refine ⟨k, hk, hret, ?_⟩
    cases hend with
    | stopped h _ _ _ => exact h.imp id .inl
    | failed hk' hf e he ha _ _ _ => exact .inr (.inr ⟨hk', hf, e, he, ha⟩)
    | created _ _ _ _ hr _ _ _ _ => dsimp only at hnone; rw [hr] at hnone; cases hnone
  · rintro ⟨k', hk', hret', hup⟩
    -- the number of retries is determined
    have hkk : k = k' := by
      rcases Nat.lt_trichotomy k k' with hlt | heq | hgt
      · exfalso
        obtain ⟨hf, ha⟩ := hret' k hlt
        cases hend with
        | stopped h _ _ _ =>
          rcases h with h | ⟨_, h⟩
          · omega
          · exact h hf
        | failed _ _ e he ha' _ _ _ =>
          have : gennameAnswer env flags d plan w i (gennameCount0 env) k = .err e := ha'
          rw [this] at ha; cases ha; exact he rfl
        | created _ _ ha' _ _ _ _ _ _ =>
          have : gennameAnswer env flags d plan w i (gennameCount0 env) k = .ok w.handles.length := ha'
          rw [this] at ha; cases ha
      · exact heq
      · exfalso
        obtain ⟨hf, ha⟩ := hret k' hgt
        rcases hup with h | ⟨_, h⟩ | ⟨_, _, e, he, ha'⟩
        · omega
        · exact h hf
        · have : gennameAnswer env flags d plan w i (gennameCount0 env) k' = .err "EEXIST" := ha
          rw [this] at ha'; cases ha'; exact he rfl
    subst hkk
    cases hend with
    | stopped _ hr _ _ => exact hr
    | failed _ _ _ _ _ hr _ _ => exact hr
    | created hk'' hf ha _ _ _ _ _ _ =>
      exfalso
      have ha0 : gennameAnswer env flags d plan w i (gennameCount0 env) k = .ok w.handles.length := ha
      rcases hup with h | ⟨_, h⟩ | ⟨_, _, e, _, ha'⟩
      · omega
      · exact h hf
      · rw [ha0] at ha'; cases ha'

theorem gennameAnswer_nofault (env : PEnv) (flags : Option Bytes) (d : Handle) (p : Bytes) (w : World) (hp : w.dirPath d = some p)
    (plan : Plan) (i c0 j : Nat) (hpl : plan (i + j) = none) :
    gennameAnswer env flags d plan w i c0 j =
      if (w.lookup p (cand env flags (c0 + 1 + j))).isSome then .err "EEXIST" else .ok w.handles.length := by
  unfold gennameAnswer
  rw [hpl]
  cases hl : w.lookup p (cand env flags (c0 + 1 + j)) with
  | none => exact predict_openExcl_free hp hl
  | some fid => exact predict_openExcl_exists hp hl

/-- `C09_genname_terminates_real` (Props/C09 says what it claims of mdsort). -/
theorem genname_real_calls (env : PEnv) (md : Maildir) (flags : Option Bytes) (w : World) (plan : Plan) (i : Nat)
    (hist : List World) (d : Handle) (p : Bytes) (es : List (Bytes × Nat)) (hd : md.dirH = some d)
    (hp : w.dirPath d = some p) (hes : w.dir p = some es) :
    let n := (runPlan plan (gennameStart env md flags) w i hist).2.2.length - hist.length
    n ≤ gennameAttempts ∧ n ≤ es.length + faultsIn plan i n + 1 := by
  intro n
  have hn : n = (run plan (gennameStart env md flags) w i).2.2.2.length := by
    simp only [n, runPlan_eq, List.length_append]
    omega
  rw [hn]
  unfold gennameStart
  obtain ⟨k, hk, hret, hend⟩ := genname_run env md flags d p plan hd w hp i (env.random % Gen.gennameModulus) gennameAttempts
  have hW : gennameAttempts = gennameWrap := by decide
  have hle := genname_retries_le env flags d p plan w hp hes i (env.random % Gen.gennameModulus) k (hW ▸ hk)
    (fun j hj => (hret j hj).2)
  cases hend with
  | stopped _ _ _ hn' => rw [hn']; exact ⟨hk, by omega⟩
  | failed hk' _ _ _ _ _ _ hn' =>
    rw [hn']
    have := faultsIn_mono plan i (show k ≤ k + 1 from Nat.le_succ k)
    exact ⟨hk', by omega⟩
  | created hk' _ _ _ _ _ _ _ hn' =>
    rw [hn']
    have := faultsIn_mono plan i (show k ≤ k + 1 from Nat.le_succ k)
    exact ⟨hk', by omega⟩

theorem genname_free (env : PEnv) (md : Maildir) (flags : Option Bytes) (d : Handle) (p : Bytes) (hd : md.dirH = some d)
    (fuel count : Nat) (w : World) (i : Nat) (hp : w.dirPath d = some p) (j : Nat) (hj : j < fuel)
    (hfree : w.lookup p (cand env flags (count + 1 + j)) = none) (hfit : ∀ j', j' ≤ j → gennameFits env flags count j') :
    ∃ k wk, k ≤ j ∧ SameFs w wk ∧ w.lookup p (cand env flags (count + 1 + k)) = none ∧
      (∀ j', j' < k → (w.lookup p (cand env flags (count + 1 + j'))).isSome) ∧
      (run Plan.none (genname env md flags fuel count) w i).1 = some (w.handles.length, cand env flags (count + 1 + k)) ∧
      (run Plan.none (genname env md flags fuel count) w i).2.1 =
        stepWorld wk (.openExcl d (cand env flags (count + 1 + k))) (.ok wk.handles.length) ∧
      (run Plan.none (genname env md flags fuel count) w i).2.2.2.length = k + 1 := by
  obtain ⟨k, hk, hret, hend⟩ := genname_run env md flags d p Plan.none hd w hp i count fuel
  have hans := fun j => gennameAnswer_nofault env flags d p w hp Plan.none i count j rfl
  have hbound : ∀ j', j' < k → (w.lookup p (cand env flags (count + 1 + j'))).isSome := by
    intro j' hj'
    have := (hret j' hj').2
    rw [hans] at this
    split at this
    · assumption
    · cases this
  have hkj : k ≤ j := by
    apply Nat.le_of_not_lt
    intro hlt
    have := hbound j hlt
    rw [hfree] at this
    cases this
  cases hend with
  | stopped h _ _ _ =>
    rcases h with rfl | ⟨_, h⟩
    · omega
    · exact (h (hfit k hkj)).elim
  | failed _ _ e he ha _ _ _ =>
    rw [hans] at ha
    split at ha
    · cases ha; exact (he rfl).elim
    · cases ha
  | created _ _ _ hl hr wk hs hw hn => exact ⟨k, wk, hkj, hs, hl, hbound, hr, hw, hn⟩

/-- `C09_fresh_name` (Props/C09 says what it claims of mdsort). -/
theorem genname_fresh (env : PEnv) (md : Maildir) (flags : Option Bytes) (w : World) (d : Handle) (p : Bytes)
    (es : List (Bytes × Nat)) (fuel count i : Nat) (hist : List World)
    (hd : md.dirH = some d) (hp : w.dirPath d = some p) (hes : w.dir p = some es) (hfuel : es.length + 1 ≤ fuel)
    (hW : es.length < gennameWrap)
    (hfit : ∀ j, j ≤ es.length → (cand env flags (count + 1 + j)).length < NAME_MAX1) :
    ∃ h name, (runPlan Plan.none (genname env md flags fuel count) w i hist).1 = some (h, name) ∧
      w.lookup p name = none ∧
      (runPlan Plan.none (genname env md flags fuel count) w i hist).2.1.lookup p name = some w.nextFid ∧
      (runPlan Plan.none (genname env md flags fuel count) w i hist).2.1.file w.nextFid = some ⟨[], []⟩ ∧
      (runPlan Plan.none (genname env md flags fuel count) w i hist).2.1.obj h = .file w.nextFid 0 true ∧
      (∀ q m fid, w.lookup q m = some fid →
        (runPlan Plan.none (genname env md flags fuel count) w i hist).2.1.lookup q m = some fid) ∧
      (runPlan Plan.none (genname env md flags fuel count) w i hist).2.2.length ≤
        hist.length + presentCount env flags w p count fuel + 1 := by
  obtain ⟨j, hj, hfree⟩ := exists_free env flags count hes hW
  obtain ⟨k, wk, hkj, hs, hl, hbound, hres, hfin, hlen⟩ := genname_free env md flags d p hd fuel count w i hp j (by omega) hfree
    (fun j' hj' => hfit j' (by omega))
  have cr := created_of_openExcl (by rw [hs.dirPath]; exact hp) (by rw [hs.lookup]; exact hl)
  rw [runPlan_eq]
  simp only [hres, hfin, hlen, List.length_append]
  refine ⟨w.handles.length, _, rfl, hl, ?_, ?_, ?_, ?_, ?_⟩
  · rw [cr.bound (by rw [hs.dir, hes]; rfl), hs.nextFid]
  · rw [← hs.nextFid]; exact cr.newFile
  · rw [← hs.nextFid, ← hs.handles]; exact cr.fd
  · intro q m fid hb
    rw [cr.look q m (by rintro ⟨rfl, rfl⟩; rw [hl] at hb; cases hb), hs.lookup]
    exact hb
  · have := le_presentCount env flags w p count fuel k (by omega) hbound
    omega

/-! In the world of `C09Ex`, `b` holds `1.2_1.h:2,` and `arc4random() % 128 = 0`. -/

namespace C09Ex

/-- `1.2_3.h:2,` -/
def cand3 : Bytes := [49, 46, 50, 95, 51, 46, 104, 58, 50, 44]

/-- `maildir_genname` with the real constants in `b`. -/
def genReal (e : PEnv) (plan : Plan) : Option (Handle × Bytes) × World × List World :=
  runPlan plan (gennameStart e dst (some [58, 50, 44])) (world []) 0 []

/-- The second `openat` (of the free name `1.2_2.h:2,`) is answered `err`. -/
def secondFails (err : String) : Plan := fun i => if i = 1 then some (.fail err) else none

/-- A host name of 250 bytes: no candidate fits `NAME_MAX`. -/
def longHost : PEnv := { env with host := List.replicate 250 104 }

end C09Ex

end Mdsort.Proofs.World
