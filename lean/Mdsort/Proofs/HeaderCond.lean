import Mdsort.Proofs.EvalLeaves
import Mdsort.Proofs.Header

/-!
# Header conditions on a well-formed message (C10)

On a well-formed message the candidates of `eval_header_model` (Proofs/EvalLeaves.lean) are those of the specification;
from that, when a header condition matches, fails or errs, and the `date` condition on the `Date:` header.
-/

namespace Mdsort.Proofs
open Mdsort Mdsort.Model Mdsort.Spec

/-- `matches_append` only fails in `pathslice`/`pathjoin`, which it only calls for entries
flagged `EXPR_FLAG_PATH` in `expr_alloc`. -/
theorem matchesAppend_nonpath (env : Env) (ml : MatchList) (mh : Match) (hp : mh.ty.isPath = false) :
    (matchesAppend env ml mh).2 = false := by
  have h := matchesMerge_ty ml mh
  unfold matchesAppend
  generalize matchesMerge ml mh = r at h
  obtain ⟨ml1, mh1⟩ := r
  dsimp only at h ⊢
  rw [h, hp]
  rfl

theorem modelCands_parse (m : Bytes) (fs : List (Bytes × Bytes)) (b : Bytes) (h : Spec.read m = some (fs, b))
    (names : List Bytes) : modelCands (parseMessage m) names = headerCands fs names := by
  unfold modelCands headerCands
  congr 1
  funext k
  rw [getHeader_eq_spec m fs b k h]
  cases hv : headerValues fs k <;> simp

theorem firstNonNomatch_some (rx : Bytes → RxRes) (cands : List (Bytes × Bytes)) (c : Bytes × Bytes)
    (h : firstNonNomatch rx cands = some c) :
    rx c.2 ≠ .nomatch ∧ ∃ pre post, cands = pre ++ c :: post ∧ ∀ x ∈ pre, rx x.2 = .nomatch := by
  unfold firstNonNomatch at h
  have h1 := List.find?_some h
  obtain ⟨pre, post, he, hpre⟩ := List.find?_eq_some_iff_append.1 h |>.2
  refine ⟨by simpa using h1, pre, post, he, ?_⟩
  intro x hx
  simpa using hpre x hx

theorem firstNonNomatch_none (rx : Bytes → RxRes) (cands : List (Bytes × Bytes)) :
    firstNonNomatch rx cands = none ↔ ∀ x ∈ cands, rx x.2 = .nomatch := by
  simp [firstNonNomatch]

theorem firstNonNomatch_of_split (rx : Bytes → RxRes) (pre post : List (Bytes × Bytes)) (c : Bytes × Bytes)
    (hpre : ∀ x ∈ pre, rx x.2 = .nomatch) (hc : rx c.2 ≠ .nomatch) :
    firstNonNomatch rx (pre ++ c :: post) = some c := by
  rw [firstNonNomatch_append, (firstNonNomatch_none rx pre).2 hpre, Option.none_or,
    firstNonNomatch_cons, if_neg hc]

theorem eval_header_spec (env : Env) (root : Msg) (m : Bytes) (fs : List (Bytes × Bytes)) (b : Bytes)
    (h : Spec.read m = some (fs, b)) (lno : Nat) (names : List Bytes) (p : Pat) (part : Nat) (st : St) :
    eval env root (.header lno names p) part (parseMessage m) st =
      match firstNonNomatch (env.rx p) (headerCands fs names) with
      | none => (.nomatch, st)
      | some (k, v) =>
        match env.rx p v with
        | .nomatch => (.nomatch, st)
        | .error => (.error, st)
        | .ok groups => (.match, { st with ml := st.ml ++ [headerEntry env.dryrun lno part p k v groups] }) := by
  rw [eval_header_model, modelCands_parse m fs b h]
  cases firstNonNomatch (env.rx p) (headerCands fs names) with
  | none => rfl
  | some c => obtain ⟨k, v⟩ := c; rfl

theorem getHeader1_parse (m : Bytes) (fs : List (Bytes × Bytes)) (b : Bytes) (h : Spec.read m = some (fs, b))
    (name : Bytes) : getHeader1 (parseMessage m) name = (headerValues fs name).head? := by
  unfold getHeader1
  rw [getHeader_eq_spec m fs b name h]
  cases hv : headerValues fs name <;> simp

theorem eval_date_header_spec (env : Env) (root : Msg) (m : Bytes) (fs : List (Bytes × Bytes)) (b : Bytes)
    (h : Spec.read m = some (fs, b)) (lno : Nat) (cmp : DateCmp) (age : Nat) (part : Nat) (st : St) :
    eval env root (.date lno .header cmp age) part (parseMessage m) st =
      match (headerValues fs (ofString "Date")).head? with
      | none => (.nomatch, st)
      | some d =>
        match timeParse env.strptime env.zoneName d with
        | none => (.error, st)
        | some t =>
          if dateMatches cmp age env.now t then
            match env.rx { src := [46, 42] } d with
            | .nomatch => (.nomatch, st)
            | .error => (.error, st)
            | .ok groups => (.match, { st with ml := st.ml ++ [dateEntry env.dryrun lno part d groups] })
          else (.nomatch, st) := by
  rw [eval]
  rw [getHeader1_parse m fs b h]
  cases (headerValues fs (ofString "Date")).head? with
  | none => rfl
  | some d =>
    dsimp only
    cases timeParse env.strptime env.zoneName d with
    | none => rfl
    | some t =>
      dsimp only
      cases hdm : dateMatches cmp age env.now t
      · simp
      · simp only [Bool.not_true, Bool.false_eq_true, if_false, if_true]
        exact exprRegexec_eq env .date lno part _ _ d st date_not_path (by decide)

/-- Earlier candidates need only not be errors: a `nomatch` is skipped, and an earlier match is itself a witness (`List.find?_good`). -/
theorem eval_header_match_iff (env : Env) (root : Msg) (m : Bytes) (fs : List (Bytes × Bytes)) (b : Bytes)
    (h : Spec.read m = some (fs, b)) (lno : Nat) (names : List Bytes) (p : Pat) (part : Nat) (st : St) :
    (eval env root (.header lno names p) part (parseMessage m) st).1 = .match ↔
      ∃ pre c post g, headerCands fs names = pre ++ c :: post ∧ env.rx p c.2 = .ok g ∧
        ∀ x ∈ pre, env.rx p x.2 ≠ .error := by
  rw [eval_header_spec env root m fs b h]
  constructor
  · intro hm
    cases hf : firstNonNomatch (env.rx p) (headerCands fs names) with
    | none => rw [hf] at hm; cases hm
    | some c =>
      obtain ⟨k, v⟩ := c
      rw [hf] at hm
      obtain ⟨_, pre, post, he, hpre⟩ := firstNonNomatch_some _ _ _ hf
      dsimp only at hm
      cases hr : env.rx p v with
      | «nomatch» => rw [hr] at hm; cases hm
      | error => rw [hr] at hm; cases hm
      | ok g => exact ⟨pre, (k, v), post, g, he, hr, fun x hx => by rw [hpre x hx]; simp⟩
  · rintro ⟨pre, c, post, g, he, hc, hpre⟩
    obtain ⟨c', hf, g', hc'⟩ := List.find?_good (dec := fun c => env.rx p c.2 != .nomatch)
      (good := fun c => ∃ g, env.rx p c.2 = .ok g) post (by simp [hc]) ⟨g, hc⟩ pre fun x hx hd => by
        cases hr : env.rx p x.2 with
        | «nomatch» => simp [hr] at hd
        | error => exact absurd hr (hpre x hx)
        | ok g => exact ⟨g, rfl⟩
    change firstNonNomatch (env.rx p) (pre ++ c :: post) = some c' at hf
    rw [he, hf]
    obtain ⟨k, v⟩ := c'
    dsimp only at hc' ⊢
    rw [hc']

theorem eval_header_nomatch_iff (env : Env) (root : Msg) (m : Bytes) (fs : List (Bytes × Bytes)) (b : Bytes)
    (h : Spec.read m = some (fs, b)) (lno : Nat) (names : List Bytes) (p : Pat) (part : Nat) (st : St) :
    (eval env root (.header lno names p) part (parseMessage m) st).1 = .nomatch ↔
      ∀ c ∈ headerCands fs names, env.rx p c.2 = .nomatch := by
  rw [eval_header_spec env root m fs b h, ← firstNonNomatch_none]
  cases hf : firstNonNomatch (env.rx p) (headerCands fs names) with
  | none => simp
  | some c =>
    obtain ⟨k, v⟩ := c
    have hne := (firstNonNomatch_some _ _ _ hf).1
    dsimp only at hne ⊢
    cases hr : env.rx p v with
    | «nomatch» => exact absurd hr hne
    | error => simp
    | ok g => simp

theorem eval_header_error_iff (env : Env) (root : Msg) (m : Bytes) (fs : List (Bytes × Bytes)) (b : Bytes)
    (h : Spec.read m = some (fs, b)) (lno : Nat) (names : List Bytes) (p : Pat) (part : Nat) (st : St) :
    (eval env root (.header lno names p) part (parseMessage m) st).1 = .error ↔
      ∃ pre c post, headerCands fs names = pre ++ c :: post ∧ env.rx p c.2 = .error ∧
        ∀ x ∈ pre, env.rx p x.2 = .nomatch := by
  rw [eval_header_spec env root m fs b h]
  constructor
  · intro hm
    cases hf : firstNonNomatch (env.rx p) (headerCands fs names) with
    | none => rw [hf] at hm; cases hm
    | some c =>
      obtain ⟨k, v⟩ := c
      rw [hf] at hm
      obtain ⟨_, pre, post, he, hpre⟩ := firstNonNomatch_some _ _ _ hf
      dsimp only at hm
      cases hr : env.rx p v with
      | «nomatch» => rw [hr] at hm; cases hm
      | ok g => rw [hr] at hm; cases hm
      | error => exact ⟨pre, (k, v), post, he, hr, hpre⟩
  · rintro ⟨pre, c, post, he, hc, hpre⟩
    rw [he, firstNonNomatch_of_split _ _ _ _ hpre (by simp [hc])]
    obtain ⟨k, v⟩ := c
    dsimp only at hc ⊢
    rw [hc]

theorem eval_header_state (env : Env) (root : Msg) (m : Bytes) (fs : List (Bytes × Bytes)) (b : Bytes)
    (h : Spec.read m = some (fs, b)) (lno : Nat) (names : List Bytes) (p : Pat) (part : Nat) (st : St)
    (hne : (eval env root (.header lno names p) part (parseMessage m) st).1 ≠ .match) :
    (eval env root (.header lno names p) part (parseMessage m) st).2 = st := by
  rw [eval_header_spec env root m fs b h] at hne ⊢
  cases hf : firstNonNomatch (env.rx p) (headerCands fs names) with
  | none => rfl
  | some c =>
    obtain ⟨k, v⟩ := c
    rw [hf] at hne
    dsimp only at hne ⊢
    cases hr : env.rx p v with
    | «nomatch» => rfl
    | error => rfl
    | ok g => rw [hr] at hne; exact absurd rfl hne

theorem mem_headerCands (fs : List (Bytes × Bytes)) (names : List Bytes) (k v : Bytes) :
    (k, v) ∈ headerCands fs names ↔ k ∈ names ∧ ∃ f ∈ fs, nameEq f.1 k = true ∧ v = logical f.2 := by
  unfold headerCands headerValues
  simp only [List.mem_flatMap, List.mem_map, List.mem_filter, Prod.mk.injEq]
  constructor
  · rintro ⟨k', hk', v', ⟨f, ⟨hf, hn⟩, hv⟩, rfl, rfl⟩
    exact ⟨hk', f, hf, hn, hv.symm⟩
  · rintro ⟨hk, f, hf, hn, rfl⟩
    exact ⟨k, hk, _, ⟨f, ⟨hf, hn⟩, rfl⟩, rfl, rfl⟩

end Mdsort.Proofs
