import Mdsort.Proofs.ConfLexRT
import Mdsort.Proofs.ConfWpl
import Mdsort.Proofs.ConfWf
import Mdsort.Proofs.MainTextMacros

/-!
# Reading back what `Spec.printBlocks` writes: the induction over written trees

`Up cx tl s ts`: the tokens the parser will see from state `s` are exactly `ts` (written by `Spec.render`),
the first of them possibly read already as the lookahead, and what follows them is the text `tl` - ANY
bytes, empty or starting with a blank (the end of the file when `tl = []`, a defect when the lemmas are used
to reach a position in a file that is then rejected, Proofs/ConfAnywhere*.lean).  The written tokens hold no
newline, `cx.nl` is the number of newlines of `tl`: every line number computed while the parser is in the
written part is 1.  `RT cx tl p v ts0`: from any state whose upcoming tokens are `ts0 ++ ts`, `p` returns `v`
and leaves `ts` - unless the recursion budget runs out first (which `parseConfigFull_spec` excludes for
`parseConfig`).  The lemmas are stated for an arbitrary postcondition `Err` of the error outcome: no
diagnostic is reported while the parser reads written tokens.

The rules conclude `wpl (op >>= k) ..`, the form in which every step of a parser function stands.  A function defined by
recursion on its budget is opened by a case split: with no budget left it is `outOfFuel`, and what is to be shown of that
outcome is `True`.
-/

namespace Mdsort.Proofs.Conf
open Mdsort Mdsort.Model Mdsort.Spec

section

/-- The parser state sits in front of the written tokens `ts` followed by the text `tl`, with lookahead `la`. -/
structure Strm (cx : PCtx) (tl : Bytes) (s : ParseSt) (la : Option PTok) (ts : List PTok) : Prop where
  la_eq : s.la = la.map tkOf
  rest_eq : s.rest = Spec.render ts ++ tl
  am : s.afterMacro = false
  mac : s.macros = []
  ok : ∀ t ∈ ts, lexOK t = true
  tl_head : ∀ c, tl.head? = some c → c = 32
  nl_eq : cx.nl = countNl tl
  tokl : s.tokLine = 1

/-- The upcoming tokens are `ts`, then comes `tl`. -/
def Up (cx : PCtx) (tl : Bytes) (s : ParseSt) (ts : List PTok) : Prop :=
  Strm cx tl s none ts ∨ ∃ t ts', ts = t :: ts' ∧ lexOK t = true ∧ Strm cx tl s (some t) ts'

variable {cx : PCtx} {tl : Bytes}

theorem Strm.up_none {s : ParseSt} {ts : List PTok} (h : Strm cx tl s none ts) : Up cx tl s ts := Or.inl h
theorem Strm.up_some {s : ParseSt} {t : PTok} {ts : List PTok} (h : Strm cx tl s (some t) ts) (ht : lexOK t = true) :
    Up cx tl s (t :: ts) := Or.inr ⟨t, ts, rfl, ht, h⟩

theorem Up.ok {s : ParseSt} {ts : List PTok} (h : Up cx tl s ts) : ∀ t ∈ ts, lexOK t = true := by
  rcases h with h | ⟨t, ts', rfl, ht, h⟩
  · exact h.ok
  · intro x hx
    simp only [List.mem_cons] at hx
    rcases hx with rfl | hx
    · exact ht
    · exact h.ok x hx

theorem Up.tokl {s : ParseSt} {ts : List PTok} (h : Up cx tl s ts) : s.tokLine = 1 := by
  rcases h with h | ⟨_, _, _, _, h⟩ <;> exact h.tokl

theorem Up.mac {s : ParseSt} {ts : List PTok} (h : Up cx tl s ts) : s.macros = [] := by
  rcases h with h | ⟨_, _, _, _, h⟩ <;> exact h.mac

theorem Up.tl_head {s : ParseSt} {ts : List PTok} (h : Up cx tl s ts) : ∀ c, tl.head? = some c → c = 32 := by
  rcases h with h | ⟨_, _, _, _, h⟩ <;> exact h.tl_head

theorem state_macros_nil (s : ParseSt) (h : s.macros = []) : { s with macros := [] } = s := by
  cases s; simp_all

variable {Err : Nat → ParseSt → Prop} {α : Type} {Q : α → ParseSt → Prop} {s : ParseSt} {t : PTok} {ts : List PTok}

/-! The written text has no newline: every node is on line 1. -/

theorem count_quote (b : Bytes) (h : (10 : UInt8) ∉ b) : countNl (quote b) = 0 := by
  simp only [countNl, List.count_eq_zero, quote, List.mem_flatMap, not_exists, not_and]
  intro c hc hmem
  split at hmem
  · simp at hmem
  · simp only [List.mem_singleton] at hmem
    subst hmem
    exact h hc

theorem count_digits (n : Nat) : countNl (toString n).toUTF8.toList = 0 := by
  obtain ⟨ds, hbytes, _, hdig, _⟩ := LexAux.toString_bytes n
  rw [hbytes]
  simp only [countNl, List.count_eq_zero]
  intro h
  have := hdig 10 h
  revert this; decide

theorem tok_noNl (t : PTok) (h : lexOK t = true) : countNl t.bytes = 0 := by
  cases t with
  | kw k => exact (kw_entry k).2.2
  | str b =>
    have := (strLexOK_facts (by simpa [lexOK] using h)).2.2.1
    have hq := count_quote b this
    simp only [countNl] at hq ⊢
    simp [PTok.bytes, List.count_append, hq]
  | int n => exact count_digits n
  | seconds => decide
  | pat p =>
    simp only [lexOK, tokOK, patOK, Bool.and_eq_true, List.all_eq_true, bne_iff_ne, ne_eq] at h
    have hs : List.count 10 p.src = 0 := by
      rw [List.count_eq_zero]
      intro hm
      exact (h.1.1 10 hm).1.1.2 rfl
    simp only [countNl, PTok.bytes, List.count_append, hs]
    cases p.icase <;> cases p.lcase <;> cases p.ucase <;> decide
  | _ => decide

theorem render_noNl (ts : List PTok) (h : ∀ t ∈ ts, lexOK t = true) : countNl (Spec.render ts) = 0 := by
  induction ts with
  | nil => rfl
  | cons t ts ih =>
    rw [render_cons]
    have h1 := tok_noNl t (h t (by simp))
    have h2 := ih (fun x hx => h x (by simp [hx]))
    simp only [countNl] at h1 h2 ⊢
    simp [List.count_append, h1, h2]

theorem countNl_append (a b : Bytes) : countNl (a ++ b) = countNl a + countNl b := by
  simp [countNl, List.count_append]

theorem lineOf_written (ts : List PTok) (h : ∀ t ∈ ts, lexOK t = true) (hnl : cx.nl = countNl tl) :
    lineOf cx.nl (Spec.render ts ++ tl) = 1 := by
  rw [lineOf, countNl_append, render_noNl ts h, hnl]; omega

theorem peek_up (cx : PCtx) (pf sf : Bool)
    (h : Up cx tl s (t :: ts)) (hm : modeOK pf sf t = true) :
    ∃ s', peek cx pf sf s = .ok (tkOf t) s' ∧ Strm cx tl s' (some t) ts := by
  have htok : lexOK t = true := h.ok t (by simp)
  rcases h with h | ⟨t', ts', heq, _, h⟩
  · obtain ⟨tok, hlex, htk, hmac⟩ := lex_tok_tl t (Spec.render ts ++ tl) pf sf htok hm (render_tl_head ts h.tl_head)
    have hrest : s.rest = 32 :: (t.bytes ++ (Spec.render ts ++ tl)) := by
      rw [h.rest_eq, render_cons]; simp
    have hline : tokLineOf cx.nl s.rest = 1 := by
      obtain ⟨c, r, hb, h1, h2⟩ := tok_first t
      have h3 : countNl (t.bytes ++ (Spec.render ts ++ tl)) = countNl tl := by
        rw [countNl_append, countNl_append, tok_noNl t htok, render_noNl ts (fun x hx => h.ok x (by simp [hx]))]; omega
      rw [hrest, hb, List.cons_append, tokLineOf_blank _ _ _ h1 h2, ← List.cons_append, ← hb, lineOf, h3, h.nl_eq]; omega
    have ham : (afterLex cx pf sf s).afterMacro = false := by
      show (match (lex1 pf sf s.afterMacro s.rest).tok with | .macro _ => true | _ => false) = false
      rw [h.am, hrest, hlex]
      exact hmac
    refine ⟨afterLex cx pf sf s, by rw [peek_lex h.la_eq, h.am, hrest, hlex, if_neg (Nat.lt_irrefl 0), htk], ?_⟩
    exact {
      la_eq := by rw [afterLex_la, h.am, hrest, hlex, htk]; rfl
      rest_eq := by rw [afterLex_rest, h.am, hrest, hlex]
      am := ham
      mac := h.mac
      ok := fun x hx => h.ok x (by simp [hx])
      tl_head := h.tl_head
      nl_eq := h.nl_eq
      tokl := hline }
  · cases heq
    exact ⟨s, peek_la h.la_eq, h⟩

theorem shift_up (h : Strm cx tl s (some t) ts) :
    ∃ s', shift s = .ok () s' ∧ Up cx tl s' ts :=
  ⟨_, shift_tok h.la_eq (tkOf_ne_eof t), Or.inl { h with la_eq := rfl }⟩

theorem wpl_see {cx : PCtx} {pf sf : Bool} {f : Tk → PM α}
    (h : Up cx tl s (t :: ts)) (hm : modeOK pf sf t = true)
    (hk : ∀ s', Strm cx tl s' (some t) ts → wpl (f (tkOf t)) Q Err True s') : wpl (peek cx pf sf >>= f) Q Err True s := by
  obtain ⟨s1, hp, h1⟩ := peek_up cx pf sf h hm
  rw [wpl_bind, wpl_ok hp]
  exact hk s1 h1

theorem wpl_see_end {cx : PCtx} {pf sf : Bool} {f : Tk → PM α}
    (h : Up cx [] s []) (hk : ∀ s', s'.macros = [] → wpl (f .eof) Q Err True s') : wpl (peek cx pf sf >>= f) Q Err True s := by
  rcases h with h | ⟨t', ts', heq, _, h⟩
  · rw [wpl_bind, wpl_ok (by rw [peek_lex h.la_eq, h.am, h.rest_eq, render_nil, List.append_nil, lex1_nil,
      if_neg (Nat.lt_irrefl 0)])]
    exact hk _ h.mac
  · cases heq

/-- `shift` of a written token, as the last step of a parser function. -/
theorem wpl_shift_up {Q : Unit → ParseSt → Prop}
    (h : Strm cx tl s (some t) ts) (hQ : ∀ s', Up cx tl s' ts → Q () s') : wpl shift Q Err True s := by
  obtain ⟨s2, hs, h2⟩ := shift_up h
  rw [wpl_ok hs]
  exact hQ s2 h2

/-- The next written token `t` is read (if it is not the lookahead already) and shifted; `k` is what the parser does then.
`hf` is closed by `rfl`: the branch the parser takes on `tkOf t` starts with `shift`. -/
theorem wpl_eat {cx : PCtx} {pf sf : Bool} {f : Tk → PM α} {k : PM α}
    (hs : Up cx tl s (t :: ts)) (hm : modeOK pf sf t = true) (hf : f (tkOf t) = (shift >>= fun _ => k))
    (hk : ∀ s', Up cx tl s' ts → wpl k Q Err True s') : wpl (peek cx pf sf >>= f) Q Err True s := by
  refine wpl_see hs hm fun s1 h1 => ?_
  rw [hf, wpl_bind]
  exact wpl_shift_up h1 hk

/-- The same when the branch is a parser that starts with `shift`, under a continuation (`parseActions`: `parseActionWith`
returns the parser for the keyword). -/
theorem wpl_eat_bind {cx : PCtx} {pf sf : Bool} {β : Type} {f : Tk → PM α} {k : PM β} {k2 : β → PM α}
    (hs : Up cx tl s (t :: ts)) (hm : modeOK pf sf t = true)
    (hf : f (tkOf t) = ((shift >>= fun _ => k) >>= k2)) (hk : ∀ s', Up cx tl s' ts → wpl (k >>= k2) Q Err True s') :
    wpl (peek cx pf sf >>= f) Q Err True s := by
  refine wpl_see hs hm fun s1 h1 => ?_
  rw [hf, wpl_bind, wpl_bind]
  refine wpl_shift_up h1 fun s2 h2 => ?_
  rw [← wpl_bind]
  exact hk s2 h2

theorem wpl_line_bind {cx : PCtx} {k : Nat → PM α} (h : Up cx tl s ts)
    (hk : wpl (k 1) Q Err True s) : wpl (curLine cx >>= k) Q Err True s := by
  rw [wpl_bind, wpl_curLine]
  have : lineOf cx.nl s.rest = 1 := by
    rcases h with h | ⟨_, _, _, _, h⟩ <;> rw [h.rest_eq] <;> exact lineOf_written _ h.ok h.nl_eq
  rw [this]
  exact hk

/-- A string that can be written does not start with `~`: `expandtilde` leaves it as it is. -/
theorem expandTildeL_written (l : Lim) (home : Bytes) {b : Bytes} (h : strLexOK b = true) : expandTildeL l home b = some b := by
  have htilde := (strLexOK_facts h).2.2.2.1
  unfold expandTildeL
  split
  · simp at htilde
  · rfl

theorem expandStr_plain (l : Lim) (home : Bytes) (action : Bool) (b : Bytes) (h : strOK b = true) :
    expandStr l home action [] b = some (b, []) := by
  simp only [expandStr, expandTildeL_written l home (strLexOK_of_strOK h),
    MainText.mt_expandMacros_plain action [] b (strOK_no_dollar h)]

theorem expandStrs_plain (lm : Lim) (home : Bytes) (action : Bool) : ∀ (l : List Bytes), (∀ b ∈ l, strOK b = true) →
    expandStrs lm home action [] l = some (l, []) := by
  intro l
  induction l with
  | nil => intro _; rfl
  | cons b l ih =>
    intro h
    simp only [expandStrs, expandStr_plain lm home action b (h b (by simp)), ih (fun x hx => h x (by simp [hx]))]

/-- The state with its own (empty) macro table put back. -/
theorem Up.state_macros (h : Up cx tl s ts) : ({ s with macros := [] } : ParseSt) = s :=
  state_macros_nil s h.mac

theorem wpl_expandOne_bind {cx : PCtx} {action : Bool} {b : Bytes} (hb : strOK b = true) {k : Bytes → PM α}
    (h : Up cx tl s ts) (hk : wpl (k b) Q Err True s) :
    wpl (expandOne cx action b >>= k) Q Err True s := by
  rw [wpl_bind]
  unfold wpl expandOne
  rw [h.mac, expandStr_plain cx.pathMax cx.home action b hb]
  simp only
  rw [h.state_macros]
  exact hk

theorem wpl_expandAll_bind {cx : PCtx} {action : Bool} {l : List Bytes} (hl : l.all strOK = true) {k : List Bytes → PM α}
    (h : Up cx tl s ts) (hk : wpl (k l) Q Err True s) :
    wpl (expandAll cx action l >>= k) Q Err True s := by
  rw [wpl_bind]
  unfold wpl expandAll
  rw [h.mac, expandStrs_plain cx.pathMax cx.home action l (List.all_eq_true.1 hl)]
  simp only
  rw [h.state_macros]
  exact hk

theorem wpl_expandMac_bind {action : Bool} {b : Bytes} (hb : strOK b = true) {k : Bytes → PM α}
    (h : Up cx tl s ts) (hk : wpl (k b) Q Err True s) :
    wpl (expandMac action b >>= k) Q Err True s := by
  rw [wpl_bind]
  unfold wpl expandMac
  rw [h.mac, MainText.mt_expandMacros_plain action [] b (strOK_no_dollar hb)]
  simp only
  rw [h.state_macros]
  exact hk

/-- No diagnostic. -/
abbrev NoE : Nat → ParseSt → Prop := fun _ _ => False

/-- `p` reads the tokens `ts0` and returns `v`. -/
def RT (cx : PCtx) (tl : Bytes) {α : Type} (p : PM α) (v : α) (ts0 : List PTok) : Prop :=
  ∀ (s : ParseSt) (ts : List PTok), Up cx tl s (ts0 ++ ts) →
    wpl p (fun a s' => a = v ∧ Up cx tl s' ts) NoE True s

/-- Use a read-back lemma inside a `wpl` goal: as the last step of a parser function, and under a continuation. -/
theorem wpl_of_rt {α : Type} {p : PM α} {v : α} {ts0 ts : List PTok} {Q : α → ParseSt → Prop}
    (h : RT cx tl p v ts0) (hs : Up cx tl s (ts0 ++ ts)) (hQ : ∀ s', Up cx tl s' ts → Q v s') : wpl p Q Err True s :=
  wpl_mono (h s ts hs) (fun _ s' ⟨ha, hu⟩ => ha ▸ hQ s' hu) (fun _ _ h => h.elim)

theorem wpl_rt_bind {β : Type} {p : PM β} {v : β} {k : β → PM α} {ts0 ts : List PTok}
    (h : RT cx tl p v ts0) (hs : Up cx tl s (ts0 ++ ts)) (hk : ∀ s', Up cx tl s' ts → wpl (k v) Q Err True s') :
    wpl (p >>= k) Q Err True s := by
  rw [wpl_bind]
  exact wpl_of_rt h hs hk

theorem expectTk_rt {cx : PCtx} (t : PTok) (hm : modeOK false false t = true) : RT cx tl (expectTk cx (tkOf t)) () [t] := by
  intro s ts hs
  unfold expectTk
  refine wpl_see hs hm fun s1 h1 => ?_
  rw [if_pos rfl]
  exact wpl_shift_up h1 fun s2 h2 => ⟨rfl, h2⟩

theorem parseStr_rt {cx : PCtx} (b : Bytes) : RT cx tl (parseStr cx) b [.str b] := by
  intro s ts hs
  unfold parseStr
  exact wpl_eat hs rfl rfl fun s2 h2 => ⟨rfl, h2⟩

theorem parseStringBlock_rt (cx : PCtx) : ∀ (l acc : List Bytes) (fuel : Nat),
    RT cx tl (parseStringBlock cx fuel acc) (acc ++ l) (l.map .str ++ [.rbrace]) := by
  intro l
  induction l with
  | nil =>
    intro acc fuel s ts hs
    obtain _ | fuel := fuel
    · exact trivial
    unfold parseStringBlock
    exact wpl_eat hs rfl rfl fun s2 h2 => ⟨by simp, h2⟩
  | cons b l ih =>
    intro acc fuel s ts hs
    obtain _ | fuel := fuel
    · exact trivial
    unfold parseStringBlock
    refine wpl_eat hs rfl rfl fun s2 h2 => ?_
    exact wpl_of_rt (ih (acc ++ [b]) fuel) h2 (fun s3 h3 => ⟨by simp, h3⟩)

theorem parseStrings_rt {cx : PCtx} (l : List Bytes) (fuel : Nat) : RT cx tl (parseStrings cx fuel) l (strsToks l) := by
  intro s ts hs
  unfold parseStrings
  simp only [strsToks, List.append_assoc, List.cons_append, List.nil_append] at hs
  refine wpl_eat hs rfl rfl fun s2 h2 => ?_
  exact wpl_of_rt (parseStringBlock_rt (tl := tl) cx l [] fuel) (by simpa using h2) (fun s3 h3 => ⟨by simp, h3⟩)

theorem parsePattern_rt {cx : PCtx} (p : Pat) : RT cx tl (parsePattern cx) p [.pat p] := by
  intro s ts hs
  unfold parsePattern
  exact wpl_eat hs rfl rfl fun s2 h2 => ⟨rfl, h2⟩

theorem treePOK_leaf (e : Expr) : treePOK (.leaf e) = leafPOK e := by simp [treePOK, nodes]
theorem treePOK_and (l : Nat) (a b : CTree) : treePOK (.and l a b) = (treePOK a && treePOK b) := by
  simp [treePOK, nodes, List.all_append]

theorem treePOK_or (l : Nat) (a b : CTree) : treePOK (.or l a b) = (treePOK a && treePOK b) := by
  simp [treePOK, nodes, List.all_append]

theorem treePOK_mtch (l : Nat) (a b : CTree) : treePOK (.mtch l a b) = (treePOK a && treePOK b) := by
  simp [treePOK, nodes, List.all_append]

theorem treePOK_neg (l : Nat) (a : CTree) : treePOK (.neg l a) = treePOK a := by simp [treePOK, nodes]
theorem treePOK_attachment (l : Nat) (a : CTree) : treePOK (.attachment l a) = treePOK a := by simp [treePOK, nodes]
theorem treePOK_attBlock (l : Nat) (a : CTree) : treePOK (.attBlock l a) = treePOK a := by simp [treePOK, nodes]
theorem treePOK_block (l : Nat) (a : CTree) : treePOK (.block l a) = treePOK a := by simp [treePOK, nodes]

theorem wpl_dateHead (cx : PCtx) (f : DateField) (c : DateCmp) (n : Nat) {k : DateField → DateCmp → Nat → PM α}
    (hs : Up cx tl s (fieldToks f ++ cmpTok c :: .int n :: ts))
    (hQ : ∀ s', Up cx tl s' ts → wpl (k f c n) Q Err True s') :
    wpl (parseDateField cx >>= fun f => parseDateCmp cx >>= fun c => parseInt cx >>= fun n => k f c n) Q Err True s := by
  have hcmp : ∀ s1, Up cx tl s1 (cmpTok c :: .int n :: ts) →
      wpl (parseDateCmp cx >>= fun c => parseInt cx >>= fun n => k f c n) Q Err True s1 := by
    intro s1 h1
    unfold parseDateCmp
    rw [wpl_bind]
    cases c
    all_goals
      refine wpl_eat h1 rfl rfl fun s3 h3 => ?_
      rw [wpl_pure]
      unfold parseInt
      rw [wpl_bind]
      exact wpl_eat h3 rfl rfl hQ
  unfold parseDateField
  rw [wpl_bind]
  cases f
  · -- header: nothing is written, the comparison is the lookahead
    refine wpl_see hs (by cases c <;> rfl) fun s1 h1 => ?_
    have := hcmp s1 (h1.up_some (hs.ok _ (by simp [fieldToks])))
    cases c <;> exact this
  all_goals exact wpl_eat hs rfl rfl hcmp

theorem parseDate_rt (cx : PCtx) (f : DateField) (c : DateCmp) (age : Nat) (hage : age < 2 ^ 32) :
    RT cx tl (parseDate cx) (.leaf (.date 1 f c age)) (fieldToks f ++ [cmpTok c, .int age, .seconds]) := by
  intro s ts hs
  unfold parseDate
  refine wpl_dateHead cx f c age (ts := .seconds :: ts) (by simpa using hs) fun s3 h3 => ?_
  unfold parseScalar
  rw [wpl_bind]
  refine wpl_eat h3 rfl rfl fun s5 h5 => ?_
  rw [wpl_pure, Nat.mul_one, if_neg (by omega)]
  exact wpl_line_bind h5 ⟨rfl, h5⟩

theorem unary_leaf_rt (cx : PCtx) (e : Expr) (hc : isCondLeaf e = true) (hok : leafOK cx.rxOk e = true)
    (hp : leafPOK e = true) (fuel : Nat) :
    RT cx tl (parseUnary cx fuel) (.leaf (Expr.withLno 1 e)) (condLeafToks e) := by
  intro s ts hs
  obtain _ | fuel := fuel
  · exact trivial
  unfold parseUnary
  -- what is no condition leaf is excluded by `hc`
  cases e <;> simp only [isCondLeaf, Bool.false_eq_true] at hc
  -- every leaf: the tokens written for it and its side conditions; then the keyword is read
  all_goals
    simp only [condLeafToks, leafOK, leafPOK, Bool.and_eq_true, decide_eq_true_eq, List.cons_append, List.nil_append,
      List.append_assoc] at hs hok hp
    refine wpl_eat hs rfl rfl fun s2 h2 => ?_
  case all l | new l | old l => exact wpl_line_bind h2 ⟨rfl, h2⟩
  case body l p =>
    refine wpl_rt_bind (parsePattern_rt p) h2 fun s3 h3 => ?_
    refine wpl_line_bind h3 ?_
    simp only [checkPattern, hok, if_true]
    exact ⟨rfl, h3⟩
  case header l ns p =>
    refine wpl_rt_bind (parseStrings_rt ns fuel) h2 fun s3 h3 => ?_
    refine wpl_rt_bind (parsePattern_rt p) h3 fun s4 h4 => ?_
    refine wpl_line_bind h4 ?_
    simp only [checkPattern, hok, if_true]
    exact wpl_expandAll_bind hp.1 h4 ⟨rfl, h4⟩
  case date l f c age =>
    cases f <;> cases c <;> exact wpl_of_rt (parseDate_rt cx _ _ age hok) h2 fun s3 h3 => ⟨rfl, h3⟩
  case stat l p =>
    refine wpl_rt_bind (parseStr_rt p) h2 fun s3 h3 => ?_
    refine wpl_line_bind h3 ?_
    exact wpl_expandOne_bind hp h3 ⟨rfl, h3⟩
  case command l a =>
    refine wpl_rt_bind (parseStrings_rt a fuel) h2 fun s3 h3 => ?_
    refine wpl_line_bind h3 ?_
    exact wpl_expandAll_bind hp h3 ⟨rfl, h3⟩

/-- Tokens that end a chain of `and` / `or`. -/
def stopBin : PTok → Bool
  | .kw .and | .kw .or | .pat _ | .seconds => false
  | _ => true

theorem stopBin_mode (t : PTok) (h : stopBin t = true) : modeOK false false t = true := by
  cases t <;> simp_all [stopBin, modeOK]

theorem binTail_stop (cx : PCtx) (fuel : Nat) (lhs : CTree) {k : CTree → PM α}
    (hs : Up cx tl s (t :: ts)) (ht : stopBin t = true) (hk : ∀ s', Up cx tl s' (t :: ts) → wpl (k lhs) Q Err True s') :
    wpl (parseBinTail cx fuel lhs >>= k) Q Err True s := by
  rw [wpl_bind]
  obtain _ | fuel := fuel
  · exact trivial
  unfold parseBinTail
  refine wpl_see hs (stopBin_mode t ht) fun s1 h1 => ?_
  have := hk s1 (h1.up_some (hs.ok t (by simp)))
  cases t <;> simp only [stopBin, Bool.false_eq_true] at ht
  case kw k => cases k <;> simp only [Bool.false_eq_true] at ht <;> exact this
  all_goals exact this

theorem wpl_cond_stop (cx : PCtx) (c : CTree) (fuel : Nat) (hc : RT cx tl (parseUnary cx fuel) (relabel c) (toks .cond c))
    {k : CTree → PM α} (hs : Up cx tl s (toks .cond c ++ t :: ts))
    (ht : stopBin t = true) (hk : ∀ s', Up cx tl s' (t :: ts) → wpl (k (relabel c)) Q Err True s') :
    wpl (parseUnary cx fuel >>= fun c0 => parseBinTail cx fuel c0 >>= k) Q Err True s :=
  wpl_rt_bind hc hs fun _ h3 => binTail_stop cx fuel (relabel c) h3 ht hk

theorem leafAction_withLno (e : Expr) : (Expr.withLno 1 e).leafAction = e.leafAction := by cases e <;> rfl
theorem isDiscard_withLno (e : Expr) : (Expr.withLno 1 e).isDiscard = e.isDiscard := by cases e <;> rfl
theorem isReject_withLno (e : Expr) : (Expr.withLno 1 e).isReject = e.isReject := by cases e <;> rfl
theorem isExec_withLno (e : Expr) : (Expr.withLno 1 e).isExec = e.isExec := by cases e <;> rfl

theorem countActions_relabel (t : CTree) : (relabel t).countActions = t.countActions := by
  induction t <;> simp_all [relabel, CTree.countActions, leafAction_withLno]

theorem countLeaf_relabel (p : Expr → Bool) (hp : ∀ e, p (Expr.withLno 1 e) = p e) (t : CTree) :
    (relabel t).countLeaf p = t.countLeaf p := by
  induction t <;> simp_all [relabel, CTree.countLeaf]

/-! Accumulators of the two loops.  `joinA acc a` is what `andJoin` makes of the accumulator `acc` of `parseActions` and one
more action `a` on line 1; `joinAs acc t` is the accumulator after the loop, started with `acc`, has read the whole written
list `t` (a left-nested `and` of actions), every node on line 1.  `joinR`, `joinRs`: the same for `parseExprs`, rules and `or`. -/

def joinA (acc : Option CTree) (a : CTree) : CTree :=
  match acc with
  | none => a
  | some p => .and 1 p a

def joinAs (acc : Option CTree) : CTree → CTree
  | .and _ x y => .and 1 (joinAs acc x) (relabel y)
  | t => joinA acc (relabel t)

def joinR (acc : Option CTree) (r : CTree) : CTree :=
  match acc with
  | none => r
  | some p => .or 1 p r

def joinRs (acc : Option CTree) : CTree → CTree
  | .or _ x y => .or 1 (joinRs acc x) (relabel y)
  | t => joinR acc (relabel t)

theorem joinAs_none (rx : Pat → Bool) (t : CTree) (h : wfK rx .acts t = true) : joinAs none t = relabel t := by
  fun_induction joinAs none t  -- 1: an `and` node, 2: every other tree
  case case1 l x y ih =>
    simp only [wfK, Bool.and_eq_true] at h
    rw [ih h.1, relabel]
  case case2 => rfl

theorem joinRs_none (rx : Pat → Bool) (t : CTree) (h : wfK rx .rules t = true) : joinRs none t = relabel t := by
  fun_induction joinRs none t  -- 1: an `or` node, 2: every other tree
  case case1 l x y ih =>
    simp only [wfK, Bool.and_eq_true] at h
    rw [ih h.1, relabel]
  case case2 => rfl

/-- Tokens after which no further action follows. -/
def stopAct : PTok → Bool
  | .kw .mtch | .rbrace => true
  | _ => false

theorem acts_stop (cx : PCtx) (fuel : Nat) (acc : Option CTree) {k : Option CTree → PM α}
    (hs : Up cx tl s (t :: ts)) (ht : stopAct t = true)
    (hk : ∀ s', Up cx tl s' (t :: ts) → wpl (k acc) Q Err True s') : wpl (parseActions cx fuel acc >>= k) Q Err True s := by
  rw [wpl_bind]
  obtain _ | fuel := fuel
  · exact trivial
  unfold parseActions
  have hm : modeOK false false t = true := by cases t <;> simp_all [stopAct, modeOK]
  refine wpl_see hs hm fun s1 h1 => ?_
  have := hk s1 (h1.up_some (hs.ok t (by simp)))
  cases t <;> simp only [stopAct, Bool.false_eq_true] at ht
  · rename_i k
    cases k <;> simp only [Bool.false_eq_true] at ht
    exact this
  · exact this

theorem wpl_andJoin (cx : PCtx) (acc : Option CTree) (a : CTree) {k : Option CTree → PM α}
    (h : Up cx tl s ts) (hk : wpl (k (some (joinA acc a))) Q Err True s) :
    wpl (andJoin cx acc a >>= k) Q Err True s := by
  unfold andJoin
  rw [wpl_bind]
  refine wpl_line_bind h ?_
  cases acc <;> exact hk

/-- What is to be shown of a tree, by kind.  The two loops do not return between the sub-trees of a list, so for actions and
rules the statement is "in front of the tokens of `t`, the loop started with `acc` goes on as the loop started with `acc`
joined with `t`" (with any budget `fuel'`: how much is left is not followed).  A rule ends with its action list, and the
action loop stops only when it SEES `match` or `}`: hence the following token `t0` with `stopAct t0` for the kinds `.rule`
and `.rules`.  A condition and a block are read back in the sense of `RT` (whose error postcondition is `NoE`; `Err` plays
no part); `parseExprs` is called behind the `{` of a block, hence `(toks .block t).drop 1` (`toks_block_cons`). -/
def Goal (cx : PCtx) (tl : Bytes) (Err : Nat → ParseSt → Prop) : Kind → CTree → Prop
  | .cond, t => ∀ fuel, RT cx tl (parseUnary cx fuel) (relabel t) (toks .cond t)
  | .act, t => ∀ (acc : Option CTree) (ts : List PTok) (Q : Option CTree → ParseSt → Prop),
      (∀ fuel' s', Up cx tl s' ts → wpl (parseActions cx fuel' (some (joinA acc (relabel t)))) Q Err True s') →
      ∀ fuel s, Up cx tl s (toks .act t ++ ts) → wpl (parseActions cx fuel acc) Q Err True s
  | .acts, t => ∀ (acc : Option CTree) (ts : List PTok) (Q : Option CTree → ParseSt → Prop),
      (∀ fuel' s', Up cx tl s' ts → wpl (parseActions cx fuel' (some (joinAs acc t))) Q Err True s') →
      ∀ fuel s, Up cx tl s (toks .acts t ++ ts) → wpl (parseActions cx fuel acc) Q Err True s
  | .rule, t => ∀ (acc : Option CTree) (t0 : PTok) (ts : List PTok) (Q : CTree → ParseSt → Prop), stopAct t0 = true →
      (∀ fuel' s', Up cx tl s' (t0 :: ts) → wpl (parseExprs cx fuel' (some (joinR acc (relabel t)))) Q Err True s') →
      ∀ fuel s, Up cx tl s (toks .rule t ++ t0 :: ts) → wpl (parseExprs cx fuel acc) Q Err True s
  | .rules, t => ∀ (acc : Option CTree) (t0 : PTok) (ts : List PTok) (Q : CTree → ParseSt → Prop), stopAct t0 = true →
      (∀ fuel' s', Up cx tl s' (t0 :: ts) → wpl (parseExprs cx fuel' (some (joinRs acc t))) Q Err True s') →
      ∀ fuel s, Up cx tl s (toks .rules t ++ t0 :: ts) → wpl (parseExprs cx fuel acc) Q Err True s
  | .block, t => ∀ fuel, RT cx tl (parseExprs cx fuel none) (relabel t) ((toks .block t).drop 1)

theorem execFlags_written (cx : PCtx) (si bo : Bool) (l : List Bytes) (ts : List PTok) (fuel : Nat) {k : Bool × Bool → PM α}
    (hs : Up cx tl s ((if si then [PTok.kw .stdin] else []) ++ ((if bo then [PTok.kw .body] else []) ++ (strsToks l ++ ts))))
    (hk : ∀ s', Up cx tl s' (strsToks l ++ ts) → wpl (k (si, bo)) Q Err True s') :
    wpl (parseExecFlags cx fuel false false >>= k) Q Err True s := by
  rw [wpl_bind]
  -- in front of `{` the loop returns what it has
  have hstop : ∀ (f : Nat) (s' : ParseSt), Up cx tl s' (strsToks l ++ ts) →
      wpl (parseExecFlags cx f si bo) (fun fl s'' => wpl (k fl) Q Err True s'') Err True s' := by
    intro f s' h'
    obtain _ | f := f
    · exact trivial
    unfold parseExecFlags
    have h'' : Up cx tl s' (.lbrace :: (l.map PTok.str ++ [.rbrace] ++ ts)) := by
      simpa [strsToks, List.append_assoc] using h'
    refine wpl_see h'' rfl fun s1 h1 => hk s1 ?_
    simpa [strsToks, List.append_assoc] using h1.up_some (h''.ok _ (by simp))
  -- an option that was not given before
  have hstep : ∀ (f : Nat) (kw : Kw) (a b a' b' : Bool) (s' : ParseSt) (rest : List PTok),
      (kw = .stdin ∧ a = false ∧ a' = true ∧ b' = b) ∨ (kw = .body ∧ b = false ∧ b' = true ∧ a' = a) →
      Up cx tl s' (.kw kw :: rest) → ∀ (P : Bool × Bool → ParseSt → Prop),
      (∀ f' s'', Up cx tl s'' rest → wpl (parseExecFlags cx f' a' b') P Err True s'') →
      wpl (parseExecFlags cx f a b) P Err True s' := by
    intro f kw a b a' b' s' rest hkw h' P hP
    obtain _ | f := f
    · exact trivial
    unfold parseExecFlags
    rcases hkw with ⟨rfl, rfl, rfl, rfl⟩ | ⟨rfl, rfl, rfl, rfl⟩ <;>
      exact wpl_eat h' rfl rfl fun s2 h2 => by rw [if_neg Bool.false_ne_true]; exact hP f s2 h2
  cases si <;> cases bo <;>
    simp only [if_true, if_false, Bool.false_eq_true, List.nil_append, List.cons_append] at hs
  · exact hstop fuel s hs
  · exact hstep fuel .body false false false true s _ (Or.inr ⟨rfl, rfl, rfl, rfl⟩) hs _ hstop
  · exact hstep fuel .stdin false false true false s _ (Or.inl ⟨rfl, rfl, rfl, rfl⟩) hs _ hstop
  · exact hstep fuel .stdin false false true false s _ (Or.inl ⟨rfl, rfl, rfl, rfl⟩) hs _ fun f' s2 h2 =>
      hstep f' .body true false true true s2 _ (Or.inr ⟨rfl, rfl, rfl, rfl⟩) h2 _ hstop

theorem act_leaf_goal (cx : PCtx) (e : Expr) (ha : e.leafAction = true) (hok : leafOK cx.rxOk e = true)
    (hp : leafPOK e = true) : Goal cx tl Err .act (.leaf e) := by
  intro acc ts Q hQ fuel s hs
  obtain _ | fuel := fuel
  · exact trivial
  unfold parseActions
  -- when the action is read: it joins the list, and the loop goes on
  have fin : ∀ s', Up cx tl s' ts → wpl (andJoin cx acc (.leaf (Expr.withLno 1 e)) >>= parseActions cx fuel) Q Err True s' :=
    fun s' h' => wpl_andJoin cx acc _ h' (hQ fuel s' h')
  -- what is no action leaf is excluded by `ha`
  cases e <;> simp only [Expr.leafAction, Bool.false_eq_true] at ha
  -- every leaf: the tokens written for it and its side conditions; then the keyword is read (`parseActionWith` has returned
  -- the parser for it, which stands under the continuation of the loop)
  all_goals
    simp only [toks, actLeafToks, leafOK, leafPOK, Bool.and_eq_true, Bool.or_eq_true, beq_iff_eq, List.cons_append, List.nil_append,
      List.append_assoc] at hs hok hp
    refine wpl_eat_bind hs rfl rfl fun s2 h2 => ?_
    rw [wpl_bind]
  case move l p =>
    refine wpl_rt_bind (parseStr_rt p) h2 fun s3 h3 => ?_
    refine wpl_line_bind h3 ?_
    exact wpl_expandOne_bind hp h3 (fin s3 h3)
  case flag l sub =>
    unfold parseOptNeg
    rw [wpl_bind]
    rcases hp with rfl | rfl
    · -- `flag ! new`
      refine wpl_eat (t := .bang) (by simpa using h2) rfl rfl fun s4 h4 => ?_
      refine wpl_rt_bind (expectTk_rt (.kw .new) rfl) h4 fun s5 h5 => ?_
      exact wpl_line_bind h5 (fin s5 h5)
    · -- `flag new`
      have h2' : Up cx tl s2 (.kw .new :: ts) := by simpa [show newStr ≠ curStr by decide] using h2
      refine wpl_see h2' rfl fun s3 h3 => ?_
      exact wpl_rt_bind (expectTk_rt (.kw .new) rfl) (h3.up_some (h2'.ok _ (by simp))) fun s5 h5 =>
        wpl_line_bind h5 (fin s5 h5)
  case flags l f =>
    refine wpl_rt_bind (parseStr_rt f) h2 fun s3 h3 => ?_
    refine wpl_line_bind h3 ?_
    exact wpl_expandMac_bind hp h3 (fin s3 h3)
  case discard l | brk l | pass l | reject l => exact wpl_line_bind h2 (fin s2 h2)
  case label l ls =>
    refine wpl_rt_bind (parseStrings_rt ls fuel) h2 fun s3 h3 => ?_
    refine wpl_line_bind h3 ?_
    exact wpl_expandAll_bind hp h3 (fin s3 h3)
  case exec l si bo argv =>
    have hsb : (bo && !si) = false := by cases si <;> cases bo <;> simp_all
    refine execFlags_written cx si bo argv ts fuel h2 fun s3 h3 => ?_
    refine wpl_rt_bind (parseStrings_rt argv fuel) h3 fun s4 h4 => ?_
    refine wpl_line_bind h4 ?_
    refine wpl_expandAll_bind hp h4 ?_
    rw [hsb, if_neg Bool.false_ne_true]
    exact fin s4 h4
  case addHeader l k v =>
    refine wpl_rt_bind (parseStr_rt k) h2 fun s3 h3 => ?_
    refine wpl_rt_bind (parseStr_rt v) h3 fun s4 h4 => ?_
    refine wpl_line_bind h4 ?_
    exact wpl_expandMac_bind hp.1 h4 (wpl_expandMac_bind hp.2 h4 (fin s4 h4))

theorem toks_block_cons (rx : Pat → Bool) (t : CTree) (h : wfK rx .block t = true) :
    toks .block t = .lbrace :: (toks .block t).drop 1 := by
  cases t <;> simp_all [wfK, toks]

/-- The first token of an action list is a keyword other than `and` / `or`, not `{`. -/
theorem toks_acts_head (rx : Pat → Bool) : ∀ t, wfK rx .acts t = true →
    ∃ k tks, toks .acts t = .kw k :: tks ∧ stopBin (.kw k) = true := by
  intro t
  induction t with
  | leaf e =>
    intro hw
    simp only [wfK, Bool.and_eq_true] at hw
    cases e <;> simp only [Expr.leafAction, Bool.false_eq_true, false_and] at hw <;>
      exact ⟨_, _, rfl, rfl⟩
  | attBlock l b _ => intro _; exact ⟨_, _, rfl, rfl⟩
  | and l x y ihx _ =>
    intro hw
    simp only [wfK, Bool.and_eq_true] at hw
    obtain ⟨k, tks, hk, hs⟩ := ihx hw.1
    exact ⟨k, tks ++ toks .act y, by simp [toks, hk], hs⟩
  | _ => intro hw; simp [wfK] at hw

theorem toks_rule_head (rx : Pat → Bool) (t : CTree) (h : wfK rx .rule t = true) :
    ∃ tks, toks .rule t = .kw .mtch :: tks := by
  obtain ⟨l, c, r, rfl⟩ := wfK_rule_inv rx t h
  exact ⟨_, rfl⟩

/-- `validateActions` accepts what `aloneOK` describes. -/
theorem wpl_validate_bind (r : CTree) (halone : aloneOK r = true) {k : Unit → PM α}
    (hk : wpl (k ()) Q Err True s) : wpl (validateActions (relabel r) >>= k) Q Err True s := by
  rw [wpl_bind]
  unfold validateActions
  rw [countActions_relabel, countLeaf_relabel Expr.isDiscard isDiscard_withLno, countLeaf_relabel Expr.isReject isReject_withLno]
  simp only [aloneOK, Bool.or_eq_true, decide_eq_true_eq, Bool.and_eq_true, beq_iff_eq] at halone
  rw [if_neg]
  · exact hk
  · simp only [Bool.and_eq_true, Bool.or_eq_true, decide_eq_true_eq, not_and, not_or]
    omega

/-- The body of a rule: shared by the kinds `rule` and `rules`. -/
theorem rule_goal (cx : PCtx) (l : Nat) (c r : CTree)
    (hc : Goal cx tl Err .cond c)
    (hr : (wfK cx.rxOk .block r = true ∧ r.countActions > 0 ∧ Goal cx tl Err .block r) ∨
          (wfK cx.rxOk .acts r = true ∧ aloneOK r = true ∧ Goal cx tl Err .acts r))
    (acc : Option CTree) (t0 : PTok) (ts : List PTok) (Q : CTree → ParseSt → Prop) (ht0 : stopAct t0 = true)
    (hQ : ∀ fuel' s', Up cx tl s' (t0 :: ts) → wpl (parseExprs cx fuel' (some (joinR acc (relabel (.mtch l c r))))) Q Err True s')
    (fuel : Nat) (s : ParseSt)
    (hs : Up cx tl s (.kw .mtch :: (toks .cond c ++ (if isBlock r then toks .block r else toks .acts r)) ++ t0 :: ts)) :
    wpl (parseExprs cx fuel acc) Q Err True s := by
  obtain _ | fuel := fuel
  · exact trivial
  unfold parseExprs
  simp only [List.cons_append, List.append_assoc] at hs
  refine wpl_eat hs rfl rfl fun s2 h2 => ?_
  -- when the rule is read: the node, then the loop goes on
  have fin : ∀ s9, Up cx tl s9 (t0 :: ts) → wpl (curLine cx >>= fun l' => pure (CTree.mtch l' (relabel c) (relabel r)))
      (fun x s' => wpl (curLine cx >>= fun l' =>
        parseExprs cx fuel (match (generalizing := false) acc with | none => some x | some a => some (.or l' a x))) Q Err True s')
      Err True s9 := fun s9 h9 => by
    refine wpl_line_bind h9 ?_
    refine wpl_line_bind h9 ?_
    have := hQ fuel s9 h9
    cases acc <;> exact this
  rw [wpl_bind]
  unfold parseRuleWith
  rcases hr with ⟨hwb, hcount, hgoal⟩ | ⟨hwa, halone, hgoal⟩
  · -- a nested block
    rw [isBlock_of_wf_block _ _ hwb, if_pos rfl, toks_block_cons _ _ hwb] at h2
    refine wpl_cond_stop cx c fuel (hc fuel) (t := .lbrace) (by simpa only [List.cons_append] using h2) rfl fun s4 h4 => ?_
    refine wpl_eat h4 rfl rfl fun s6 h6 => ?_
    refine wpl_rt_bind (hgoal fuel) h6 fun s7 h7 => ?_
    rw [countActions_relabel, if_neg (by simp only [beq_iff_eq]; omega)]
    exact fin s7 h7
  · -- a list of actions
    rw [not_isBlock_of_wf_acts _ _ hwa, if_neg Bool.false_ne_true] at h2
    obtain ⟨k, tks, hk, hsb⟩ := toks_acts_head _ r hwa
    refine wpl_cond_stop cx c fuel (hc fuel) (t := .kw k) (ts := tks ++ t0 :: ts) (by rw [hk] at h2; simpa using h2) hsb
      fun s4 h4 => ?_
    refine wpl_see h4 (show modeOK false false (.kw k) = true from rfl) fun s5 h5 => ?_
    have h5' : Up cx tl s5 (toks .acts r ++ t0 :: ts) := by
      have := h5.up_some (h4.ok (.kw k) (by simp))
      rw [hk]; simpa using this
    simp only [tkOf]
    rw [wpl_bind]
    -- all the actions, then the end of the list
    refine hgoal none (t0 :: ts) _ (fun fuel' s6 h6 => ?_) fuel s5 h5'
    rw [← wpl_bind]
    refine acts_stop cx fuel' _ h6 ht0 fun s7 h7 => ?_
    rw [joinAs_none _ r hwa]
    exact wpl_validate_bind r halone (fin s7 h7)

theorem exprs_rbrace (cx : PCtx) (acc : Option CTree) (fuel : Nat) :
    RT cx tl (parseExprs cx fuel acc) (match acc with | none => .emptyBlock 1 | some a => .block 1 a) [.rbrace] := by
  intro s ts hs
  obtain _ | fuel := fuel
  · exact trivial
  unfold parseExprs
  refine wpl_eat hs rfl rfl fun s2 h2 => ?_
  exact wpl_line_bind h2 ⟨rfl, h2⟩

/-- Every well-formed, writable tree is read back - by the parser function for its kind.  By the induction of `Spec.wfK`,
whose cases are the productions. -/
theorem all_rt (cx : PCtx) (t : CTree) (k : Kind) (hw : wfK cx.rxOk k t = true) (hp : treePOK t = true)
    (Err : Nat → ParseSt → Prop) : Goal cx tl Err k t := by
  fun_induction wfK cx.rxOk k t generalizing Err
  -- the cases are the equations of `Spec.wfK` in the order of Spec/Conf.lean: 1 cond leaf, 2 cond `and`, 3 cond `or`, 4 `!`,
  -- 5 `attachment` cond, 6 rule `match`, 7 rules `match` (first rule), 8 rules `or`, 9 block, 10 empty block, 11 act leaf,
  -- 12 act `attachment { }`, 13 acts leaf, 14 acts `attachment { }`, 15 acts `and`, 16 every other pair (not well formed)
  case case16 => cases hw
  case case10 l => exact fun fuel s ts hs => exprs_rbrace cx none fuel s ts (by simpa [toks] using hs)
  all_goals try simp only [Bool.and_eq_true, Bool.or_eq_true, decide_eq_true_eq] at hw
  all_goals simp only [treePOK_leaf, treePOK_and, treePOK_or, treePOK_neg, treePOK_attachment, treePOK_mtch, treePOK_block,
    treePOK_attBlock, Bool.and_eq_true] at hp
  case case1 e => exact unary_leaf_rt cx e hw.1 hw.2 hp
  case case2 l a b iha ihb | case3 l a b iha ihb =>
    intro fuel s ts hs
    simp only [toks, List.cons_append, List.nil_append, List.append_assoc] at hs
    obtain _ | fuel := fuel
    · exact trivial
    unfold parseUnary
    refine wpl_eat hs rfl rfl fun s2 h2 => ?_
    refine wpl_rt_bind (iha hw.1 hp.1 Err fuel) h2 fun s3 h3 => ?_
    -- the tail: the operator, `b` and `)`
    rw [wpl_bind]
    obtain _ | fuel := fuel
    · exact trivial
    unfold parseBinTail
    refine wpl_eat h3 rfl rfl fun s5 h5 => ?_
    refine wpl_rt_bind (ihb hw.2 hp.2 Err fuel) h5 fun s6 h6 => ?_
    refine wpl_line_bind h6 ?_
    rw [← wpl_bind]
    refine binTail_stop cx fuel _ (t := .rparen) h6 rfl fun s7 h7 => ?_
    exact wpl_rt_bind (expectTk_rt .rparen rfl) h7 fun s8 h8 => ⟨rfl, h8⟩
  case case4 l e ih | case5 l e ih =>
    intro fuel s ts hs
    obtain _ | fuel := fuel
    · exact trivial
    unfold parseUnary
    refine wpl_eat hs rfl rfl fun s2 h2 => ?_
    refine wpl_rt_bind (ih hw hp Err fuel) h2 fun s3 h3 => ?_
    exact wpl_line_bind h3 ⟨rfl, h3⟩
  case case6 l c r ihc ihb iha | case7 l c r ihc ihb iha =>
    have hr : (wfK cx.rxOk .block r = true ∧ r.countActions > 0 ∧ Goal cx tl Err .block r) ∨
        (wfK cx.rxOk .acts r = true ∧ aloneOK r = true ∧ Goal cx tl Err .acts r) :=
      hw.2.imp (fun h => ⟨h.1, h.2, ihb h.1 hp.2 Err⟩) (fun h => ⟨h.1, h.2, iha h.1 hp.2 Err⟩)
    intro acc t0 ts Q ht0 hQ fuel s hs
    exact rule_goal cx l c r (ihc hw.1 hp.1 Err) hr acc t0 ts Q ht0 hQ fuel s (by simpa [toks] using hs)
  case case8 l x y ihx ihy =>
    intro acc t0 ts Q ht0 hQ fuel s hs
    obtain ⟨tks, htl⟩ := toks_rule_head _ y hw.2
    simp only [toks, List.append_assoc] at hs
    have hs' : Up cx tl s (toks .rules x ++ .kw .mtch :: (tks ++ t0 :: ts)) := by rw [htl] at hs; simpa using hs
    refine ihx hw.1 hp.1 Err acc (.kw .mtch) (tks ++ t0 :: ts) Q rfl ?_ fuel s hs'
    intro fuel' s1 h1
    exact ihy hw.2 hp.2 Err (some (joinRs acc x)) t0 ts Q ht0 hQ fuel' s1 (by rw [htl]; simpa using h1)
  case case9 l b ih =>
    intro fuel s ts hs
    simp only [toks, List.cons_append, List.drop_succ_cons, List.drop_zero, List.nil_append, List.append_assoc] at hs
    refine ih hw hp NoE none .rbrace ts _ rfl ?_ fuel s hs
    intro fuel' s1 h1
    rw [joinRs_none _ b hw]
    exact exprs_rbrace cx (some (relabel b)) fuel' s1 ts h1
  case case11 e | case13 e => exact fun acc => act_leaf_goal (Err := Err) cx e hw.1 hw.2 hp acc
  case case12 l b ih | case14 l b ih =>
    intro acc ts Q hQ fuel s hs
    obtain _ | fuel := fuel
    · exact trivial
    unfold parseActions
    simp only [toks, List.cons_append] at hs
    refine wpl_eat_bind hs rfl rfl fun s2 h2 => ?_
    rw [toks_block_cons _ _ hw.1.1, List.cons_append] at h2
    rw [wpl_bind]
    refine wpl_rt_bind (expectTk_rt .lbrace rfl) h2 fun s3 h3 => ?_
    refine wpl_rt_bind (ih hw.1.1 hp Err fuel) h3 fun s4 h4 => ?_
    rw [countActions_relabel, countLeaf_relabel Expr.isExec isExec_withLno, if_neg (by simp only [beq_iff_eq]; omega),
      if_neg (by omega)]
    exact wpl_line_bind h4 (wpl_andJoin cx acc _ h4 (hQ fuel s4 h4))
  case case15 l x y ihx ihy =>
    intro acc ts Q hQ fuel s hs
    simp only [toks, List.append_assoc] at hs
    refine ihx hw.1 hp.1 Err acc (toks .act y ++ ts) Q ?_ fuel s hs
    intro fuel' s1 h1
    exact ihy hw.2 hp.2 Err (some (joinAs acc x)) ts Q hQ fuel' s1 h1

theorem cond_rt (cx : PCtx) (t : CTree) (hw : wfK cx.rxOk .cond t = true) (hp : treePOK t = true) (fuel : Nat) :
    RT cx tl (parseUnary cx fuel) (relabel t) (toks .cond t) :=
  all_rt cx t .cond hw hp NoE fuel

end

end Mdsort.Proofs.Conf
