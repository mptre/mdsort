import Mdsort.Proofs.LexAux

/-!
# The recursion budgets of the lexer model are never the reason for a result

`Model.lex1` and its helpers (`collect`, `patFlags`, `lexDigits`, `lex1.lex1Aux`) are written with a budget argument so
that they are structurally recursive; when the budget is 0 they return a default (`none` = "unterminated", the flags /
digits read so far, end of input WITHOUT a diagnostic).  Each of them is called with a budget larger than the length
of what it reads, and every step consumes a byte; the lemmas below state the consequence in the usual form: any two
budgets larger than the input give the same result, so the default of the exhausted case never shows.
-/

namespace Mdsort.Proofs
open Mdsort Mdsort.Model

theorem collect_fuel (d : UInt8) : ∀ (f1 f2 : Nat) (s acc : Bytes), s.length < f1 → s.length < f2 →
    collect d f1 s acc = collect d f2 s acc := by
  intro f1
  induction f1 with
  | zero => intro f2 s acc h1; omega
  | succ f1 ih =>
    intro f2 s acc h1 h2
    cases f2 with
    | zero => omega
    | succ f2 =>
      cases s with
      | nil => rfl
      | cons c r =>
        have hu := (LexAux.unesc_suffix d c r).length_le
        simp only [List.length_cons] at h1 h2
        rw [LexAux.collect_cons, LexAux.collect_cons, ih f2 _ _ (by omega) (by omega)]

theorem patFlags_fuel : ∀ (f1 f2 : Nat) (s : Bytes) (i l u : Bool) (e : Nat), s.length < f1 → s.length < f2 →
    patFlags f1 s i l u e = patFlags f2 s i l u e := by
  intro f1
  induction f1 with
  | zero => intro f2 s i l u e h1; omega
  | succ f1 ih =>
    intro f2 s i l u e h1 h2
    cases f2 with
    | zero => omega
    | succ f2 =>
      unfold patFlags
      split
      · rename_i r; simp only [List.length_cons] at h1 h2; exact ih f2 r _ _ _ _ (by omega) (by omega)
      · rename_i r; simp only [List.length_cons] at h1 h2; exact ih f2 r _ _ _ _ (by omega) (by omega)
      · rename_i r; simp only [List.length_cons] at h1 h2; exact ih f2 r _ _ _ _ (by omega) (by omega)
      · rfl

theorem lexDigits_fuel : ∀ (f1 f2 : Nat) (s : Bytes) (n : Nat) (o : Bool) (e : Nat), s.length < f1 → s.length < f2 →
    lexDigits f1 s n o e = lexDigits f2 s n o e := by
  intro f1
  induction f1 with
  | zero => intro f2 s n o e h1; omega
  | succ f1 ih =>
    intro f2 s n o e h1 h2
    cases f2 with
    | zero => omega
    | succ f2 =>
      cases s with
      | nil => rfl
      | cons c r =>
        simp only [List.length_cons] at h1 h2
        unfold lexDigits
        simp only
        split
        · split
          · exact ih f2 r _ _ _ (by omega) (by omega)
          · split
            · exact ih f2 r _ _ _ (by omega) (by omega)
            · exact ih f2 r _ _ _ (by omega) (by omega)
        · rfl

theorem lex1Aux_fuel (pf sf am : Bool) : ∀ (f1 f2 : Nat) (input : Bytes), input.length < f1 → input.length < f2 →
    lex1.lex1Aux pf sf am input f1 = lex1.lex1Aux pf sf am input f2 := by
  intro f1
  induction f1 with
  | zero => intro f2 input h1; omega
  | succ f1 ih =>
    intro f2 input h1 h2
    cases f2 with
    | zero => omega
    | succ f2 =>
      unfold lex1.lex1Aux
      simp only
      have hs0 : (input.dropWhile isspace).length ≤ input.length := (List.dropWhile_suffix _).length_le
      cases heq : input.dropWhile isspace with
      | nil => rfl
      | cons c r =>
        rw [heq] at hs0
        simp only
        by_cases h33 : (c == 33) = true
        · rw [if_pos h33, if_pos h33]
        rw [if_neg h33, if_neg h33]
        by_cases h35 : (c == 35) = true
        · rw [if_pos h35, if_pos h35]
          cases heq2 : r.dropWhile (· != 10) with
          | nil => rfl
          | cons x r2 =>
            have h2' : (x :: r2).length ≤ r.length := by rw [← heq2]; exact (List.dropWhile_suffix _).length_le
            simp only [List.length_cons] at h2' hs0
            simp only
            rw [ih f2 r2 (by omega) (by omega)]
        rw [if_neg h35, if_neg h35]
end Mdsort.Proofs
