import Mdsort.Proofs.PartiesCopyWrite

/-! Preservation of `CInv` by one step: `WrOK` for every party (all cases together) and `TmpOK`. -/

namespace Mdsort.Proofs.Parties
open Mdsort Mdsort.Model
open Mdsort.Proofs.World

variable {M : Msg → Prop} {s0 s : Shared} {a : Nat} {ps : PState} {c : Call} {k : Res → Prog Bool}

theorem acts_cases {c : Call} {h : Handle} (hs : actsOn c = some h) :
    c = .fsync h ∨ c = .closedir h ∨ c = .read h ∨ (∃ d, c = .write h d) ∨ c = .close h ∨
      c = .fdopen h ∨ (∃ d, c = .fprintf h d) ∨ c = .fflush h ∨ c = .fclose h := by
  cases c <;> simp [actsOn, Call.subject] at hs <;> subst hs <;> simp

theorem inFlightH_ne_nil_of_mem {y : Bytes × Bytes} (hy : y ∈ ps.inFlight) : inFlightH ps.trace ≠ [] := by
  intro e
  rw [inFlight_of_nil e] at hy
  cases hy

theorem StepCtx.tmp_other (x : StepCtx M s0 s a ps c k) {h : Handle} {p n : Bytes} {g : Nat} (hl : s.fs.lookup p n = some g)
    (hm : h ∈ (locOf ps.trace).tmp ∨ h ∈ (locOf ps.trace).tst) : objFid ((s.view ps).obj h) ≠ some g := by
  rcases hm with hm | hm
  · obtain ⟨g', off, wr, ho, _, _, hunb⟩ := (x.inv.tmpOk a ps x.hp).1 h hm
    rw [view_obj, ho]
    simp only [objFid, ne_eq, Option.some.injEq]
    rintro rfl
    exact hunb p n hl
  · obtain ⟨g', buf, ho, _, _, hunb⟩ := (x.inv.tmpOk a ps x.hp).2 h hm
    rw [view_obj, ho]
    simp only [objFid, ne_eq, Option.some.injEq]
    rintro rfl
    exact hunb p n hl

theorem StepCtx.wr_own (x : StepCtx M s0 s a ps c k) {y : Bytes × Bytes} {g : Nat} (hy : y ∈ ps.inFlight)
    (hg : s.fs.lookup y.1 y.2 = some g)
    (hncr : ¬ (isCreate c = true ∧ isOk (predict (s.view ps) c) = true)) :
    WrOK (stepLocal s ps c k) g (stepCall s a ps c k).fs := by
  have hW := x.inv.writing a ps y g x.hp hy hg
  have hlt := x.inv.boundLt y.1 y.2 g hg
  have hne := inFlightH_ne_nil_of_mem hy
  by_cases hA : ∃ h0, actsOn c = some h0 ∧ objFid ((s.view ps).obj h0) = some g
  · obtain ⟨h0, ha, hg0⟩ := hA
    have hnot : ¬ (h0 ∈ (locOf ps.trace).tmp ∨ h0 ∈ (locOf ps.trace).tst) := fun hm => x.tmp_other hg hm hg0
    -- what the protocol asks of a stream call, `h0` being no stream of a temporary file
    have hst : (inFlightH ps.trace ≠ [] ∧ (locOf ps.trace).st = some h0) ∨ h0 ∈ (locOf ps.trace).tst →
        (locOf ps.trace).st = some h0 := fun hI => (hI.resolve_right fun hm => hnot (.inr hm)).2
    rcases x.proto with hI | ⟨hcl, _⟩
    · rcases acts_cases ha with rfl | rfl | rfl | ⟨d, rfl⟩ | rfl | rfl | ⟨d, rfl⟩ | rfl | rfl
      · exact wr_stream_call (Δ := []) hW (hst hI) (.inr ⟨rfl, .inr (.inl rfl)⟩)
      · exact absurd hI hne
      · exact hI.elim
      · exact absurd (.inl hI) hnot
      · exact wr_close hW hlt (hI.resolve_left hne)
      · obtain ⟨_, hdup, hst'⟩ := hI.resolve_right fun hm => hnot (.inl hm)
        exact wr_fdopen hW hlt hdup hst'
      · exact wr_stream_call hW (hst hI) (.inl rfl)
      · exact wr_stream_call (Δ := []) hW (hst hI) (.inr ⟨rfl, .inl rfl⟩)
      · exact wr_stream_call (Δ := []) hW (hst hI) (.inr ⟨rfl, .inr (.inr rfl)⟩)
    · -- no client call: `hcl.elim`; `renameat`, `unlinkat` act on no handle, against `ha`
      cases c <;> first | exact hcl.elim | (simp [actsOn, Call.subject] at ha)
  · have hact : ∀ h0, actsOn c = some h0 → objFid ((s.view ps).obj h0) ≠ some g := fun h0 ha h1 => hA ⟨h0, ha, h1⟩
    by_cases hD : ∃ fd, c = .dupfd fd ∧ (locOf ps.trace).fd = some fd
    · obtain ⟨fd, rfl, hfd⟩ := hD
      exact wr_dupfd hW hlt hfd
    · exact wr_passive hW hlt hact hncr (fun fd e hfd => hD ⟨fd, e, hfd⟩)

theorem StepCtx.writing' (x : StepCtx M s0 s a ps c k) (i : Nat) (q : PState) (y : Bytes × Bytes) (g : Nat)
    (hq : (stepCall s a ps c k).parties[i]? = some q) (hy : y ∈ q.inFlight)
    (hl : (stepCall s a ps c k).fs.lookup y.1 y.2 = some g) : WrOK q g (stepCall s a ps c k).fs := by
  rcases x.party hq with ⟨rfl, rfl⟩ | ⟨hi, hq⟩
  · rcases x.flight_cases hy with ⟨hk, hok, _, hl'⟩ | ⟨hcr, hy0, hl'⟩
    · cases hl'.symm.trans hl
      exact wrOK_created hk hok
    · exact x.wr_own hy0 (hl'.symm.trans hl) hcr
  · rw [x.foreign_lookup i q y hi hq hy] at hl
    obtain ⟨f, hf, h1, h2, h3, h4⟩ := x.inv.writing i q y g hq hy hl
    have hnf : (y.1, y.2) ∉ ps.inFlight := fun h => x.inv.disjoint i a q ps y hi hq x.hp hy h
    exact ⟨f, (x.file_same hl hnf).trans hf, h1, h2, h3, h4⟩

theorem mem_tmp_upd {l : Loc} {c : Call} {r : Res} {h : Handle} (hm : h ∈ (locUpd l (c, r)).tmp) :
    h ∈ l.tmp ∨ (∃ t, c = .mkostemp t ∧ r = .ok h) ∨ (∃ fd, c = .dupfd fd ∧ r = .ok h ∧ fd ∈ l.tmp) := by
  revert hm
  generalize hx : (c, r) = x
  fun_cases locUpd l x
  case case5 fd v => -- dupfd
    cases hx
    intro hm
    dsimp only at hm
    split at hm
    · rename_i hc
      exact (List.mem_cons.1 hm).elim (fun e => .inr (.inr ⟨fd, rfl, e ▸ rfl, by simpa using hc⟩)) .inl
    · exact .inl hm
  case case9 t v => -- mkostemp
    cases hx
    exact fun hm => (List.mem_cons.1 hm).elim (fun e => .inr (.inl ⟨t, rfl, e ▸ rfl⟩)) .inl
  -- close, closedir, fclose, fdopen filter `tmp`
  case case2 | case3 | case4 | case6 => exact fun hm => .inl (List.mem_filter.1 hm).1
  all_goals exact .inl

theorem mem_tst_upd {l : Loc} {c : Call} {r : Res} {h : Handle} (hm : h ∈ (locUpd l (c, r)).tst) :
    h ∈ l.tst ∨ (c = .fdopen h ∧ h ∈ l.tmp ∧ ∃ v, r = .ok v) := by
  revert hm
  generalize hx : (c, r) = x
  fun_cases locUpd l x
  case case6 h' v => -- fdopen
    cases hx
    intro hm
    dsimp only at hm
    split at hm
    · rename_i hc
      exact (List.mem_cons.1 hm).elim (fun e => .inr ⟨e ▸ rfl, e ▸ (by simpa using hc), v, rfl⟩) .inl
    · exact .inl hm
  case case2 | case3 | case4 => exact fun hm => .inl (List.mem_filter.1 hm).1
  all_goals exact .inl

theorem tmp_released {l : Loc} {c : Call} {r : Res} {h : Handle} (hr : Call.released c = some h) :
    h ∉ (locUpd l (c, r)).tmp ∧ h ∉ (locUpd l (c, r)).tst := by
  rcases Call.released_cases hr with rfl | rfl | rfl <;> simp [locUpd.eq_def, Loc.drop]

theorem tmp_fdopen {l : Loc} {h : Handle} {v : Nat} : h ∉ (locUpd l (.fdopen h, .ok v)).tmp := by
  simp [locUpd.eq_def]

theorem StepCtx.tmpOk' (x : StepCtx M s0 s a ps c k) (i : Nat) (q : PState)
    (hq : (stepCall s a ps c k).parties[i]? = some q) : TmpOK s0 (stepCall s a ps c k) q := by
  rcases x.party hq with ⟨rfl, rfl⟩ | ⟨hi, hq⟩
  · constructor
    · intro h hm
      rw [stepLocal_loc] at hm
      rcases mem_tmp_upd hm with hm0 | ⟨t, rfl, hres⟩ | ⟨fd, rfl, hres, hfd⟩
      · -- an old one: its object moves within the file, unless the call drops it from `tmp`
        obtain ⟨g, off, wr, ho, hu⟩ := (x.inv.tmpOk a ps x.hp).1 h hm0
        have hst := core_objStep (s.view ps) c (predict (s.view ps) c) h (lt_of_obj_ne_closed _ _ (by rw [view_obj, ho]; nofun))
        rw [view_obj, ho, ← stepLocal_obj s ps c k] at hst
        generalize (stepLocal s ps c k).handles.getD h .closed = o' at hst ⊢
        cases hst with
        | same => exact ⟨g, off, wr, rfl, x.unb_step hu⟩
        | closed hr _ => exact absurd hm (tmp_released hr).1
        | file => exact ⟨g, _, wr, rfl, x.unb_step hu⟩
        | fdopen hc => subst hc; exact absurd hm tmp_fdopen
      · -- mkostemp
        obtain rfl : (s.view ps).handles.length = h := Res.ok.inj hres
        refine ⟨s.fs.nextFid, 0, true, ?_, x.inv.nextLe, ?_, ?_⟩
        · rw [stepLocal_obj, hres, core_mkostemp_ok, obj_newHandle]; simp
        · show s.fs.nextFid < (core (s.view ps) (.mkostemp t) (predict (s.view ps) (.mkostemp t))).nextFid
          rw [hres, core_mkostemp_ok]; simp
        · intro p n hl
          rw [x.hL] at hl
          simp only [callDst, callSrc, and_false, if_false, reduceCtorEq] at hl
          exact Nat.lt_irrefl _ (x.inv.boundLt p n _ hl)
      · -- dupfd
        obtain rfl : (s.view ps).handles.length = h := Res.ok.inj hres
        obtain ⟨g, off, wr, ho, hu⟩ := (x.inv.tmpOk a ps x.hp).1 fd hfd
        refine ⟨g, off, wr, ?_, x.unb_step hu⟩
        rw [stepLocal_obj, hres, core_dupfd_ok (w := s.view ps) ho, obj_newHandle]; simp
    · intro h hm
      rw [stepLocal_loc] at hm
      rcases mem_tst_upd hm with hm0 | ⟨rfl, hm0, v, hres⟩
      · obtain ⟨g, buf, ho, hu⟩ := (x.inv.tmpOk a ps x.hp).2 h hm0
        have hst := core_objStep (s.view ps) c (predict (s.view ps) c) h (lt_of_obj_ne_closed _ _ (by rw [view_obj, ho]; nofun))
        rw [view_obj, ho, ← stepLocal_obj s ps c k] at hst
        generalize (stepLocal s ps c k).handles.getD h .closed = o' at hst ⊢
        cases hst with
        | same => exact ⟨g, buf, rfl, x.unb_step hu⟩
        | closed hr _ => exact absurd hm (tmp_released hr).2
        | stream => exact ⟨g, _, rfl, x.unb_step hu⟩
      · obtain ⟨g, off, wr, ho, hu⟩ := (x.inv.tmpOk a ps x.hp).1 h hm0
        have hl0 : h < (s.view ps).handles.length := lt_of_obj_ne_closed _ _ (by rw [view_obj, ho]; nofun)
        refine ⟨g, [], ?_, x.unb_step hu⟩
        rw [stepLocal_obj, hres, core_fdopen_ok (w := s.view ps) ho, obj_setObj, if_pos ⟨rfl, hl0⟩]
  · obtain ⟨h1, h2⟩ := x.inv.tmpOk i q hq
    constructor
    · intro h hm
      obtain ⟨g, off, wr, ho, hu⟩ := h1 h hm
      exact ⟨g, off, wr, ho, x.unb_step hu⟩
    · intro h hm
      obtain ⟨g, buf, ho, hu⟩ := h2 h hm
      exact ⟨g, buf, ho, x.unb_step hu⟩

end Mdsort.Proofs.Parties
