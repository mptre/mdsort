import Mdsort.Proofs.HeaderSort

/-! `searchheader`: binary search plus linear scans.  Seen from the key, a table sorted by name is three zones (`Zones`), and on
them the scans and the search are computed (`Zones.searchHeader_eq`); `searchHeader_list` is what the lookup (C10) and
`message_set_header` (C08) use of it. -/

namespace Mdsort.Proofs
open Mdsort Mdsort.Model

/-- The match predicate of `searchheader`: names equal up to case.  (`keyMatch` in Proofs/Header.lean is the same function
under the name the statement of `C10_binary_search` uses; `qk` in Proofs/HeaderRewriteSpec.lean is its counterpart on the
`(name, value)` pairs of the specification, `kmatch_eq_nameEq`.) -/
def kmatch (key : Bytes) (h : Hdr) : Bool := strcasecmp key h.key == .eq

theorem scanBeg_le (hs : Array Hdr) (key : Bytes) (m : Nat) : scanBeg hs key m ≤ m := by
  induction m with
  | zero => simp [scanBeg]
  | succ b ih =>
    unfold scanBeg
    split
    · exact Nat.le_refl _
    · omega

theorem scanEnd_bounds (hs : Array Hdr) (key : Bytes) (e : Nat) (he : e ≤ hs.size) :
    e ≤ scanEnd hs key e ∧ scanEnd hs key e ≤ hs.size := by
  fun_induction scanEnd hs key e
  case case1 e h hne => omega
  case case2 e h heq ih => have := ih (by omega); omega
  case case3 e h => omega

/-- `hs` seen from `key`: the entries `key` comes after, the entries of that name, the entries `key` comes before.  A table sorted
by name has this form (`zones_of_sorted`), and on it `searchheader` is computed, not only specified (`Zones.searchHeader_eq`). -/
structure Zones (key : Bytes) (hs G E L : List Hdr) : Prop where
  split : hs = G ++ (E ++ L)
  gt : ∀ x ∈ G, strcasecmp key x.key = .gt
  eq : ∀ x ∈ E, strcasecmp key x.key = .eq
  lt : ∀ x ∈ L, strcasecmp key x.key = .lt

theorem zones_of_sorted (key : Bytes) (hs : List Hdr) (hsorted : hs.Pairwise (fun a b => keyLe a b = true)) :
    ∃ G E L, Zones key hs G E L := by
  induction hs with
  | nil => exact ⟨[], [], [], rfl, nofun, nofun, nofun⟩
  | cons a t ih =>
    rw [List.pairwise_cons] at hsorted
    have hle : ∀ x ∈ t, strcasecmp a.key x.key ≠ .gt := fun x hx => by simpa [keyLe] using hsorted.1 x hx
    obtain ⟨G, E, L, rfl, hg, he, hl⟩ := ih hsorted.2
    cases hc : strcasecmp key a.key with
    | gt => exact ⟨a :: G, E, L, rfl, List.forall_mem_cons.2 ⟨hc, hg⟩, he, hl⟩
    | eq =>
      -- behind an entry named `key` there is none that `key` comes after
      obtain rfl : G = [] := List.eq_nil_iff_forall_not_mem.2 fun x hx =>
        strcasecmp_le_trans key a.key x.key (by rw [hc]; decide) (hle x (by simp [hx])) (hg x hx)
      exact ⟨[], a :: E, L, rfl, nofun, List.forall_mem_cons.2 ⟨hc, he⟩, hl⟩
    | lt =>
      exact ⟨[], [], a :: (G ++ (E ++ L)), rfl, nofun, nofun,
        List.forall_mem_cons.2 ⟨hc, fun x hx => strcasecmp_lt_of_lt_of_le key a.key x.key hc (hle x hx)⟩⟩

section Zones
variable {key : Bytes} {hs G E L : List Hdr} (z : Zones key hs G E L)
include z

theorem Zones.length : hs.length = G.length + E.length + L.length := by
  rw [z.split, List.length_append, List.length_append, Nat.add_assoc]

theorem Zones.cmp_gt {i : Nat} (h : i < G.length) :
    strcasecmp key (hs[i]'(by have := z.length; omega)).key = .gt := by
  obtain ⟨rfl, hg, -, -⟩ := z
  rw [List.getElem_append_left h]
  exact hg _ (List.getElem_mem _)

theorem Zones.cmp_eq {i : Nat} (h1 : G.length ≤ i) (h2 : i < G.length + E.length) :
    strcasecmp key (hs[i]'(by have := z.length; omega)).key = .eq := by
  obtain ⟨rfl, -, he, -⟩ := z
  rw [List.getElem_append_right h1, List.getElem_append_left (by omega)]
  exact he _ (List.getElem_mem _)

theorem Zones.cmp_lt {i : Nat} (h1 : G.length + E.length ≤ i) (h2 : i < hs.length) :
    strcasecmp key hs[i].key = .lt := by
  obtain ⟨rfl, -, -, hl⟩ := z
  rw [List.getElem_append_right (by omega), List.getElem_append_right (by omega)]
  exact hl _ (List.getElem_mem _)

omit z in
theorem toArray_get! (hs : List Hdr) {i : Nat} (h : i < hs.length) : hs.toArray[i]! = hs[i] := by
  rw [List.getElem!_toArray, getElem!_pos hs i h]

theorem Zones.scanBeg_eq (j : Nat) (hj : j ≤ E.length) : scanBeg hs.toArray key (G.length + j) = G.length := by
  have hlen := z.length
  induction j with
  | zero =>
    cases hG : G.length with
    | zero => rfl
    | succ b => rw [Nat.add_zero, scanBeg, toArray_get! hs (by omega), z.cmp_gt (by omega)]; rfl
  | succ j ih =>
    rw [← Nat.add_assoc, scanBeg, toArray_get! hs (by omega), z.cmp_eq (by omega) (by omega)]
    exact ih (by omega)

theorem Zones.scanEnd_eq (j : Nat) (hj : j ≤ E.length) :
    scanEnd hs.toArray key (G.length + j) = G.length + E.length := by
  have hlen := z.length
  induction hn : E.length - j generalizing j with
  | zero =>
    obtain rfl : j = E.length := by omega
    rw [scanEnd]
    split
    · rename_i h
      rw [List.size_toArray] at h
      rw [List.getElem_toArray, z.cmp_lt (Nat.le_refl _) h]
      rfl
    · rfl
  | succ n ih =>
    have h : G.length + j < hs.length := by omega
    rw [scanEnd, dif_pos (by rw [List.size_toArray]; exact h), List.getElem_toArray, z.cmp_eq (by omega) (by omega)]
    exact ih (j + 1) (by omega) (by omega)

theorem Zones.bsearch_eq (fuel lo hi : Nat) (hhi : hi < hs.length) (hfuel : hi + 1 - lo ≤ fuel)
    (hlo : lo ≤ G.length) (hup : G.length + E.length ≤ hi + 1) :
    bsearch hs.toArray key lo hi fuel = if E.length = 0 then none else some (G.length, E.length) := by
  induction fuel generalizing lo hi with
  | zero => rw [bsearch, if_pos (by omega)]
  | succ fuel ih =>
    rw [bsearch]
    by_cases hle : lo ≤ hi
    · simp only [hle, if_true]
      have hmi1 : lo ≤ lo + (hi - lo) / 2 := by omega
      have hmi2 : lo + (hi - lo) / 2 ≤ hi := by omega
      generalize lo + (hi - lo) / 2 = mi at *
      rw [toArray_get! hs (by omega)]
      by_cases h1 : mi < G.length
      · rw [z.cmp_gt h1]
        exact ih (mi + 1) hi hhi (by omega) (by omega) hup
      by_cases h2 : mi < G.length + E.length
      · obtain ⟨j, rfl⟩ : ∃ j, mi = G.length + j := ⟨mi - G.length, by omega⟩
        rw [z.cmp_eq (by omega) h2]
        simp only
        rw [z.scanBeg_eq j (by omega), Nat.add_assoc, z.scanEnd_eq (j + 1) (by omega), Nat.add_sub_cancel_left,
          if_neg (by omega)]
      · rw [z.cmp_lt (by omega) (by omega)]
        simp only
        by_cases h0 : mi > 0
        · rw [if_pos h0]
          exact ih lo (mi - 1) (by omega) (by omega) hlo (by omega)
        · rw [if_neg h0, if_pos (by omega)]
    · rw [if_neg hle, if_pos (by omega)]

/-- `searchheader` on a table sorted by name: where the entries named `key` begin and how many they are. -/
theorem Zones.searchHeader_eq : searchHeader hs key = if E.length = 0 then none else some (G.length, E.length) := by
  have hlen := z.length
  unfold searchHeader
  by_cases h0 : hs.length = 0
  · rw [if_pos (by simpa using h0), if_pos (by omega)]
  · rw [if_neg (by simpa using h0)]
    exact z.bsearch_eq _ 0 _ (by omega) (by omega) (Nat.zero_le _) (by omega)

theorem Zones.filter : hs.filter (kmatch key) = E := by
  obtain ⟨rfl, hg, he, hl⟩ := z
  rw [List.filter_append, List.filter_append,
    List.filter_eq_nil_iff (l := G) |>.2 fun x hx => by simp [kmatch, hg x hx],
    List.filter_eq_nil_iff (l := L) |>.2 fun x hx => by simp [kmatch, hl x hx],
    List.filter_eq_self.2 fun x hx => by simp [kmatch, he x hx], List.nil_append, List.append_nil]

theorem Zones.take : hs.take G.length = G := by
  rw [z.split, List.take_left]

theorem Zones.mid : (hs.drop G.length).take E.length = E := by
  rw [z.split, List.drop_left, List.take_left]

theorem Zones.drop : hs.drop (G.length + E.length) = L := by
  rw [z.split, ← List.append_assoc, ← List.length_append, List.drop_left]

theorem Zones.not_kmatch_gt : ∀ x ∈ G, kmatch key x = false :=
  fun x hx => by simp [kmatch, z.gt x hx]

theorem Zones.not_kmatch_lt : ∀ x ∈ L, kmatch key x = false :=
  fun x hx => by simp [kmatch, z.lt x hx]

end Zones

theorem searchHeader_list (hs : List Hdr) (key : Bytes)
    (hsorted : hs.Pairwise (fun a b => keyLe a b = true)) :
    match searchHeader hs key with
    | none => hs.filter (kmatch key) = []
    | some (i, n) => 0 < n ∧ (hs.drop i).take n = hs.filter (kmatch key) ∧
        (∀ h ∈ hs.take i, kmatch key h = false) ∧ (∀ h ∈ hs.drop (i + n), kmatch key h = false) := by
  obtain ⟨G, E, L, z⟩ := zones_of_sorted key hs hsorted
  rw [z.searchHeader_eq, z.filter]
  by_cases h0 : E.length = 0
  · rw [if_pos h0]
    exact List.length_eq_zero_iff.1 h0
  · rw [if_neg h0]
    simp only
    rw [z.mid, z.take, z.drop]
    exact ⟨by omega, rfl, z.not_kmatch_gt, z.not_kmatch_lt⟩

end Mdsort.Proofs
