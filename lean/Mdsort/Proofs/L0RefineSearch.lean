import Mdsort.Proofs.L0RefineHeader

/-!
# L0 `searchheader` refines the list model

The table is `nmemb` entries of `struct header` whose `key` pointers point at C strings of `me_buf`; read back
(`l0r_table`) it is the list the L1 `searchHeader` works on.  Every probe compares what the list model compares, so
the result `(beg, nfound)` is the list model's, and `C10_binary_search` applies to the index-level code.
-/

namespace Mdsort.L0
open Mdsort Mdsort.L0.Buf

/-- The L1 table the first `nmemb` entries of the L0 table stand for. -/
def l0r_table (buf : Buf) (hs : Array Hdr0) (nmemb : Nat) : List Model.Hdr :=
  (hs.toList.take nmemb).map (l0r_readHdr buf)

theorem l0r_table_length {buf : Buf} {hs : Array Hdr0} {nmemb : Nat} (hn : nmemb ≤ hs.size) :
    (l0r_table buf hs nmemb).length = nmemb := by
  simp [l0r_table]; omega

theorem l0r_table_full (buf : Buf) (hs : Array Hdr0) : l0r_table buf hs hs.size = hs.toList.map (l0r_readHdr buf) := by
  unfold l0r_table
  rw [List.take_of_length_le (by simp)]

theorem l0r_table_get! {buf : Buf} {hs : Array Hdr0} {nmemb idx : Nat} (hn : nmemb ≤ hs.size) (hi : idx < nmemb) :
    (l0r_table buf hs nmemb).toArray[idx]! = l0r_readHdr buf (hs[idx]'(by omega)) := by
  have hlt : idx < (l0r_table buf hs nmemb).toArray.size := by
    simp only [List.size_toArray, l0r_table_length hn]; exact hi
  rw [getElem!_pos _ idx hlt]
  simp [l0r_table]

section
variable {kb : Buf} {k : Nat} {buf : Buf} {hs : Array Hdr0} {nmemb : Nat}

theorem l0r_cmpKey_spec (hk : kb.HasNul k) (hin : HdrsIn buf hs) (hn : nmemb ≤ hs.size) {idx : Nat} (hi : idx < nmemb) :
    cmpKey kb k buf hs nmemb idx =
      .ok (Mdsort.strcasecmp (kb.view k) ((l0r_table buf hs nmemb).toArray[idx]!).key) := by
  unfold cmpKey
  have hlt : idx < hs.size := by omega
  simp only [hi, if_true, Array.getElem?_eq_getElem hlt]
  rw [strcasecmp_spec hk (hin _ (Array.getElem_mem hlt)).1, l0r_table_get! hn hi]
  rfl

theorem l0r_scanBeg_spec (hk : kb.HasNul k) (hin : HdrsIn buf hs) (hn : nmemb ≤ hs.size) :
    ∀ m, m ≤ nmemb → scanBeg kb k buf hs nmemb m =
      .ok (Model.scanBeg (l0r_table buf hs nmemb).toArray (kb.view k) m) := by
  intro m
  induction m with
  | zero => intro _; rfl
  | succ m ih =>
    intro hm
    rw [scanBeg, l0r_cmpKey_spec hk hin hn (show m < nmemb by omega), Model.scanBeg]
    have ih' := ih (by omega)
    generalize Mdsort.strcasecmp (kb.view k) ((l0r_table buf hs nmemb).toArray[m]!).key = o
    cases o <;> simp [ih']

theorem l0r_scanEnd_spec (hk : kb.HasNul k) (hin : HdrsIn buf hs) (hn : nmemb ≤ hs.size) :
    ∀ e, e ≤ nmemb → scanEnd kb k buf hs nmemb e =
      .ok (Model.scanEnd (l0r_table buf hs nmemb).toArray (kb.view k) e) := by
  intro e
  generalize hm : nmemb - e = m
  induction m using Nat.strongRecOn generalizing e with
  | _ m ih =>
    intro he
    rw [scanEnd, Model.scanEnd]
    have hsz : (l0r_table buf hs nmemb).toArray.size = nmemb := by
      simp only [List.size_toArray, l0r_table_length hn]
    by_cases hlt : e < nmemb
    · have hlt' : e < (l0r_table buf hs nmemb).toArray.size := by rw [hsz]; exact hlt
      rw [if_pos hlt, dif_pos hlt', l0r_cmpKey_spec hk hin hn hlt, getElem!_pos _ e hlt']
      have ih' := ih _ (by omega) (e + 1) rfl (by omega)
      generalize Mdsort.strcasecmp (kb.view k) ((l0r_table buf hs nmemb).toArray[e]).key = o
      cases o <;> simp [ih']
    · have hlt' : ¬ e < (l0r_table buf hs nmemb).toArray.size := by rw [hsz]; exact hlt
      rw [if_neg hlt, dif_neg hlt']

theorem l0r_bsearch_spec (hk : kb.HasNul k) (hin : HdrsIn buf hs) (hn : nmemb ≤ hs.size) :
    ∀ (m lo hi f : Nat), hi + 1 - lo = m → hi < nmemb → hi + 2 - lo ≤ f →
      bsearch kb k buf hs nmemb lo hi = .ok (Model.bsearch (l0r_table buf hs nmemb).toArray (kb.view k) lo hi f) := by
  intro m
  induction m using Nat.strongRecOn with
  | _ m ih =>
    intro lo hi f hm hhi hf
    rw [bsearch]
    cases f with
    | zero =>
      have : ¬ lo ≤ hi := by omega
      rw [if_neg this]; rfl
    | succ f =>
      rw [Model.bsearch]
      by_cases hle : lo ≤ hi
      · rw [if_pos hle, if_pos hle]
        simp only
        have hmi : lo + (hi - lo) / 2 < nmemb := by omega
        rw [l0r_cmpKey_spec hk hin hn hmi]
        cases hc : Mdsort.strcasecmp (kb.view k) ((l0r_table buf hs nmemb).toArray[lo + (hi - lo) / 2]!).key with
        | eq =>
          simp only
          rw [l0r_scanBeg_spec hk hin hn _ (by omega), l0r_scanEnd_spec hk hin hn _ (by omega)]
        | gt =>
          simp only
          exact ih _ (by omega) _ _ _ rfl hhi (by omega)
        | lt =>
          simp only
          by_cases hpos : lo + (hi - lo) / 2 > 0
          · rw [if_pos hpos, if_pos hpos]
            exact ih _ (by omega) _ _ _ rfl (by omega) (by omega)
          · rw [if_neg hpos, if_neg hpos]
      · rw [if_neg hle, if_neg hle]

theorem l0r_searchHeader_refines (hk : kb.HasNul k) (hin : HdrsIn buf hs) (hn : nmemb ≤ hs.size) :
    searchHeader kb k buf hs nmemb = .ok (Model.searchHeader (l0r_table buf hs nmemb) (kb.view k)) := by
  unfold searchHeader Model.searchHeader
  rw [l0r_table_length hn]
  by_cases h0 : nmemb = 0
  · simp [h0]
  · have : (nmemb == 0) = false := by simpa using h0
    simp only [this, Bool.false_eq_true, if_false]
    exact l0r_bsearch_spec hk hin hn _ 0 (nmemb - 1) (nmemb + 1) rfl (by omega) (by omega)

end

end Mdsort.L0
