import Mdsort.Proofs.WorldFootMove

/-! The footprint of `maildir_write` (label, add-header) under every fault plan, the faults counted, nothing assumed of the
message: the three shapes of `Foot` (`moved`: the old name replaced by the new one in the same directory). -/

namespace Mdsort.Proofs.World
open Mdsort Mdsort.Model

def UpToClose (ms : MsgSt) (wb w' : World) : Prop := w' = wb ∨ ∃ old r, ms.fd = some old ∧ w' = stepWorld wb (.close old) r

/-- The invariant of the walk: `FootI` for a world `wb`, up to the final `close` of the message's previous descriptor (an
old handle, which `Mid` would not let change). -/
def FootX (w : World) (a : Ent) (ms : MsgSt) (w' : World) : Prop :=
  ∃ (s : Foot) (wb : World), s.Ok w ∧ Mid w wb (s.ents w a) ∧ UpToClose ms wb w'

theorem FootX.mk {w : World} {a : Ent} {ms : MsgSt} {w' : World} (s : Foot) (hs : s.Ok w) (m : Mid w w' (s.ents w a)) :
    FootX w a ms w' := ⟨s, w', hs, m, .inl rfl⟩

/-- What is known of the result whether or not the message's entry was bound. -/
structure WriteAny (env : PEnv) (w : World) (ms : MsgSt) (a : Ent) (pd : Bytes) (r : MsgSt × Bool) (wb : World) (s : Foot) : Prop where
  msg : r.1.msg = ms.msg
  fd : r.2 = true → r.1.fd = ms.fd
  new : ∀ b, s.new = some b → ∃ fl c, b = (pd, cand env fl c)
  ok : r.2 = false → (∃ fl c, r.1.name = cand env fl c) ∧ (∃ g, s = .moved (pd, r.1.name) g) ∧ a ≠ (pd, r.1.name) ∧
    ∃ rd, r.1.fd = some rd ∧ w.handles.length ≤ rd ∧ rd < wb.handles.length

/-- The exact result by footprint, for a message whose entry was bound.  Nothing is said of `mtimes` (`MoveOut` says it for
`move_mtime_not_set`, C09): `maildir_write` sets no time, and no property speaks of the times after a rewrite. -/
def WriteOut (md : Maildir) (ms : MsgSt) (n0 n : Nat) (r : MsgSt × Bool) (wb : World) : Foot → Prop
  | .same => r = (ms, true)
  | .stray _ _ => r = (ms, true) ∧ n0 + 2 ≤ n
  | .moved b g => r.1.loc = some (md.path, b.2) ∧ r.1.content = (messageWrite ms.msg).1 ∧ g < wb.nextFid ∧
      wb.file g = some ⟨(messageWrite ms.msg).1, (messageWrite ms.msg).1⟩

def WriteFoot (env : PEnv) (w : World) (a : Ent) (md : Maildir) (ms : MsgSt) (pd : Bytes) (n0 n : Nat)
    (r : MsgSt × Bool) (w' : World) : Prop :=
  ∃ (s : Foot) (wb : World), s.Ok w ∧ Mid w wb (s.ents w a) ∧ UpToClose ms wb w' ∧ WriteAny env w ms a pd r wb s ∧
    (SrcBound w a → WriteOut md ms n0 n r wb s)

theorem foot_maildirWrite (env : PEnv) (md : Maildir) (ms : MsgSt) {sh : Handle} {w : World} {ps : Bytes}
    (hsh : md.dirH = some sh) (hps : w.dirPath sh = some ps) (hdd : (w.dir ps).isSome) (n0 : Nat) :
    wpC (FootX w (ps, ms.name) ms) (maildirWrite env md ms) (WriteFoot env w (ps, ms.name) md ms ps n0) n0 w := by
  have fin : ∀ {n : Nat} {w' : World} (s : Foot), s.Ok w → Mid w w' (s.ents w (ps, ms.name)) →
      (∀ b, s.new = some b → ∃ fl c, b = (ps, cand env fl c)) → (SrcBound w (ps, ms.name) → WriteOut md ms n0 n (ms, true) w' s) →
      WriteFoot env w (ps, ms.name) md ms ps n0 n (ms, true) w' := fun s hs m hnew hout =>
    ⟨s, _, hs, m, .inl rfl, ⟨rfl, fun _ => rfl, hnew, nofun⟩, hout⟩
  rw [maildirWrite_eq]
  unfold gennameStart
  -- with the literal fuel, checking the next step against the goal would unfold `genname`
  generalize gennameAttempts = fuel
  split
  · exact fin .same trivial (Mid.refl w) nofun fun _ => rfl
  rename_i fl _
  refine wpC_bind_mono (wpC_of_wp (wp_inv_mono (foot_genname env md (some fl) (ps, ms.name) hsh hps hdd (SameFs.refl w) fuel _)
    fun _ ⟨s, hs, m⟩ => .mk s hs m) n0) ?_
  rintro n1 g w2 ⟨hn1, (⟨rfl, hs⟩ | ⟨fd, nm, rfl, P⟩)⟩
  · exact fin .same trivial ((Mid.refl w).of_same hs) nofun fun _ => rfl
  dsimp only
  -- `id`: `obtain` on `P` itself would clear it; `P.bound` is used below
  obtain ⟨hnm, hfree, m2, -, hN2, ho2, hf2, hfd, -⟩ := id P
  have hnewS : ∀ b, (Foot.stray (ps, nm) w.nextFid).new = some b → ∃ fl c, b = (ps, cand env fl c) := fun b hb => by
    obtain ⟨fl', c', h⟩ := hnm; cases hb; exact ⟨fl', c', by rw [h]⟩
  -- the roll-back, after something that is a fault for a bound message
  have rollback : ∀ (w5 : World) (n5 : Nat), (SrcBound w (ps, ms.name) → n0 < n5) →
      Mid w w5 (fun x => if x = (ps, nm) then some w.nextFid else lk w x) →
      wpC (FootX w (ps, ms.name) ms) (Prog.call (Call.unlinkat sh nm) fun _ => Prog.ret (ms, true))
        (WriteFoot env w (ps, ms.name) md ms ps n0) n5 w5 := by
    intro w5 n5 hc m5
    refine wpC_call_res rfl fun r n6 hr => ?_
    have hps5 := m5.dirPath hps
    rcases unlinkat_cases (hr.elim (fun h => .inl h.1) fun h => h.2) with ⟨e, rfl, hpe⟩ | ⟨rfl, -⟩
    · have hn6 : n6 = n5 + 1 := by
        rcases hr with ⟨h, -⟩ | ⟨h, -⟩
        · have := hpe h ps hps5
          rw [m5.at_new] at this
          cases this
        · exact h
      have m6 := m5.err (.unlinkat sh nm) e rfl
      exact ⟨.mk (.stray (ps, nm) w.nextFid) hfree m6, fin (.stray (ps, nm) w.nextFid) hfree m6 hnewS fun hb => ⟨rfl, by have := hc hb; omega⟩⟩
    · have m6 := m5.unlink_new hfree hps5 0
      exact ⟨.mk .same trivial m6, fin .same trivial m6 nofun fun _ => rfl⟩
  -- message_write: if it reports an error, a fault was injected
  refine wpC_bind_mono (wpC_of_wp_clean (wp_inv_mono (traj_messageWriteP ms.msg fd ho2 hf2)
    (fun _ h => (.mk (.stray (ps, nm) w.nextFid) hfree
      (m2.frame h.fr.fr1 (fun g hg => by subst hg; exact Nat.le_refl _)) : FootX w (ps, ms.name) ms _)))
    (clean_messageWriteP ms.msg fd) n1) ?_
  rintro n2 we w3 ⟨hn2, ⟨⟨f, hf3, hcont⟩, mw⟩, hclean⟩
  have fr1 := mw.fr.fr1
  have m3 := m2.frame fr1 (fun g hg => by subst hg; exact Nat.le_refl _)
  have hN3 : w.nextFid < w3.nextFid := Nat.lt_of_lt_of_le hN2 fr1.nextFid
  refine wpC_call_any fun rc n3 hn3 => ?_
  have m4 := m3.step (.close fd) rc rfl (by intro h hh; cases hh; exact hfd) (fun _ _ => trivial)
  have hf4 := file_step hf3 hN3 (.close fd) rc trivial
  refine ⟨.mk (.stray (ps, nm) w.nextFid) hfree m4, ?_⟩
  generalize stepWorld w3 (.close fd) rc = w4 at m4 hf4 ⊢
  have hps4 := m4.dirPath hps
  cases we with
  | true =>
    simp only [if_true, ret_bind, maildirUnlink_eq, hsh, call_bind']
    exact rollback w4 n3 (fun _ => by have := hclean rfl; omega) m4
  | false =>
    simp only [Bool.false_eq_true, if_false, maildirUnlink_eq, hsh, call_bind', ret_bind]
    refine wpC_call_res rfl fun ru n4 hru => ?_
    have hn34 : n3 ≤ n4 := by rcases hru with ⟨-, rfl⟩ | ⟨rfl, -⟩ <;> omega
    rcases unlinkat_cases (hru.elim (fun h => .inl h.1) fun h => h.2) with ⟨e', rfl, hpe⟩ | ⟨rfl, p, fidY, hp, hlY⟩
    · have m5 := m4.err (.unlinkat sh ms.name) e' rfl
      refine ⟨.mk (.stray (ps, nm) w.nextFid) hfree m5, ?_⟩
      simp only [isOk, Bool.not_false, if_true]
      refine rollback _ n4 (fun hb => ?_) m5
      obtain ⟨g0, hl4⟩ := P.bound m4 hb
      rcases hru with ⟨h, -⟩ | ⟨rfl, -⟩
      · have := hpe h ps hps4
        rw [hl4] at this; cases this
      · omega
    · obtain rfl : p = ps := Option.some.inj (hp.symm.trans hps4)
      simp only [isOk, Bool.not_true, Bool.false_eq_true, if_false]
      have m5 := m4.unlink hp hlY 0
      have hf5 := file_step hf4.1 hf4.2 (.unlinkat sh ms.name) (.ok 0) trivial
      generalize stepWorld w4 (.unlinkat sh ms.name) (.ok 0) = w5 at m5 hf5 ⊢
      have hps5 := m5.dirPath hps
      by_cases hab : ((p, ms.name) : Ent) = (p, nm)
      · -- the message's own (unbound) name was generated again: its placeholder has been removed, and cannot be opened
        have m5' : Mid w w5 (Foot.same.ents w (p, ms.name)) := m5.congr fun x => by
          by_cases hx : x = (p, ms.name)
          · subst hx; simp only [if_true, Foot.ents]; rw [hab, hfree]
          · have : x ≠ (p, nm) := hab ▸ hx
            simp only [hx, this, if_false, Foot.ents]
        have nb : ¬ SrcBound w (p, ms.name) := by rintro ⟨g0, hg0⟩; rw [hab, hfree] at hg0; cases hg0
        refine ⟨.mk .same trivial m5', ?_⟩
        refine wpC_call_res rfl fun ro n5 hro => ?_
        rcases openRd_cases (hro.elim (fun h => .inl h.1) fun h => h.2) with ⟨e, rfl⟩ | ⟨rfl, p', fid', hp', hl'⟩
        · have m6 := m5'.err (.openRd sh nm) e rfl
          exact ⟨.mk .same trivial m6, .same, _, trivial, m6, .inl rfl, ⟨rfl, fun _ => rfl, nofun, nofun⟩,
            fun hb => absurd hb nb⟩
        · exfalso
          obtain rfl : p' = p := Option.some.inj (hp'.symm.trans hps5)
          have := (m5'.look (p', nm)).symm.trans hl'
          rw [show Foot.same.ents w (p', ms.name) (p', nm) = lk w (p', nm) from rfl, hfree] at this
          cases this
      · have hba : ((p, nm) : Ent) ≠ (p, ms.name) := fun h => hab h.symm
        have m5' : Mid w w5 ((Foot.moved (p, nm) w.nextFid).ents w (p, ms.name)) := m5.congr fun x => by
          by_cases hx : x = (p, nm)
          · subst hx; simp only [hba, if_false, if_true, Foot.ents]
          · simp only [hx, if_false, Foot.ents]
        have hok : (Foot.moved (p, nm) w.nextFid).Ok w := hfree
        have hnewM : ∀ b, (Foot.moved (p, nm) w.nextFid).new = some b → ∃ fl c, b = (p, cand env fl c) := hnewS
        have hfile5 : w5.file w.nextFid = some ⟨(messageWrite ms.msg).1, (messageWrite ms.msg).1⟩ := by
          rw [hf5.1, File.eq_of_written (hcont rfl).1 (hcont rfl).2]
        -- a result with the error flag, in a world reached by calls that change neither entries nor files
        have finE : ∀ (ms'' : MsgSt) (w7 : World) (n : Nat), ms''.msg = ms.msg → ms''.fd = ms.fd →
            ms''.loc = some (md.path, nm) → ms''.content = (messageWrite ms.msg).1 →
            Mid w w7 ((Foot.moved (p, nm) w.nextFid).ents w (p, ms.name)) → w.nextFid < w7.nextFid →
            w7.file w.nextFid = some ⟨(messageWrite ms.msg).1, (messageWrite ms.msg).1⟩ →
            WriteFoot env w (p, ms.name) md ms p n0 n (ms'', true) w7 := fun ms'' w7 n h1 h2 h3 h4 m7 h5 h6 =>
          ⟨_, _, hok, m7, .inl rfl, ⟨h1, fun _ => h2, hnewM, nofun⟩, fun _ => ⟨h3, h4, h5, h6⟩⟩
        refine ⟨.mk _ hok m5', ?_⟩
        refine wpC_call_res rfl fun ro n5 hro => ?_
        rcases openRd_cases (hro.elim (fun h => .inl h.1) fun h => h.2) with ⟨e, rfl⟩ | ⟨rfl, -⟩
        · have m6 := m5'.err (.openRd sh nm) e rfl
          have hf6 := file_step hfile5 hf5.2 (.openRd sh nm) (.err e) trivial
          exact ⟨.mk _ hok m6, finE _ _ _ rfl rfl rfl rfl m6 hf6.2 hf6.1⟩
        have m6 := m5'.step (.openRd sh nm) (.ok w5.handles.length) rfl (by intro _ h; cases h) (fun _ _ => trivial)
        have hf6 := file_step hfile5 hf5.2 (.openRd sh nm) (.ok w5.handles.length) trivial
        have hlen6 : w5.handles.length < (stepWorld w5 (.openRd sh nm) (.ok w5.handles.length)).handles.length := by
          have hl5 : w5.lookup p nm = some w.nextFid := (m5'.look (p, nm)).trans (if_pos rfl)
          rw [stepWorld_handles, core_openRd_ok hps5 hl5]; simp
        have hrdlo : w.handles.length ≤ w5.handles.length := m5'.len
        refine ⟨.mk _ hok m6, ?_⟩
        generalize stepWorld w5 (.openRd sh nm) (.ok w5.handles.length) = w6 at m6 hf6 hlen6 ⊢
        -- closing the new descriptor after a failure of message_set_file
        have closeNew : ∀ (ms'' : MsgSt), ms''.msg = ms.msg → ms''.fd = ms.fd → ms''.loc = some (md.path, nm) →
            ms''.content = (messageWrite ms.msg).1 →
            wpC (FootX w (p, ms.name) ms) (Prog.call (Call.close w5.handles.length) fun _ => Prog.ret (ms'', true))
              (WriteFoot env w (p, ms.name) md ms p n0) n5 w6 := by
          intro ms'' h1 h2 h3 h4
          refine wpC_call_any fun r7 n7 _ => ?_
          have m7 := m6.step (.close w5.handles.length) r7 rfl (by intro h hh; cases hh; exact hrdlo) (fun _ _ => trivial)
          have hf7 := file_step hf6.1 hf6.2 (.close w5.handles.length) r7 trivial
          exact ⟨.mk _ hok m7, finE _ _ _ h1 h2 h3 h4 m7 hf7.2 hf7.1⟩
        dsimp only
        unfold messageSetFile
        split
        · simp only [pure_eq, ret_bind, if_true]
          exact closeNew _ rfl rfl rfl rfl
        split
        · simp only [pure_eq, ret_bind, if_true]
          exact closeNew _ rfl rfl rfl rfl
        rename_i n hn
        obtain rfl : n = nm := eq_of_strlcpyFits hn
        obtain ⟨fl', c', hfc⟩ := hnm
        -- the successful end, in `w6` or after the close of the old descriptor
        have finOk : ∀ (w' : World) (k : Nat) (ms'' : MsgSt), UpToClose ms w6 w' → ms''.msg = ms.msg →
            ms''.loc = some (md.path, n) → ms''.content = (messageWrite ms.msg).1 → ms''.name = n →
            ms''.fd = some w5.handles.length → WriteFoot env w (p, ms.name) md ms p n0 k (ms'', false) w' :=
          fun w' k ms'' hu h1 h3 h4 h5 h6 =>
            ⟨_, w6, hok, m6, hu, ⟨h1, nofun, hnewM, fun _ => ⟨⟨fl', c', by rw [h5, hfc]⟩, ⟨_, by rw [h5]⟩, by rw [h5]; exact hab,
              _, h6, hrdlo, hlen6⟩⟩, fun _ => ⟨h3, h4, hf6.2, hf6.1⟩⟩
        simp only [bind_eq, pure_eq, call_bind]
        cases hmfd : ms.fd with
        | none =>
          simp only [ret_bind, Bool.false_eq_true, if_false]
          exact finOk w6 _ _ (.inl rfl) rfl rfl rfl rfl rfl
        | some old =>
          simp only [call_bind', ret_bind, Bool.false_eq_true, if_false]
          refine wpC_call_any fun r7 n7 _ => ?_
          have hu : UpToClose ms w6 (stepWorld w6 (.close old) r7) := .inr ⟨old, r7, hmfd, rfl⟩
          exact ⟨⟨_, w6, hok, m6, hu⟩, finOk _ _ _ hu rfl rfl rfl rfl rfl⟩

end Mdsort.Proofs.World
