import Mdsort.Proofs.WorldStdinExec
import Mdsort.Proofs.WorldWholeParse
import Mdsort.Proofs.EvalPWorld

/-! `message_parse` in a stdin run, and the vocabulary in which the result for the one spooled message is stated
(also in Props/C02): `Verdict`, `stdinVerdict` / `stdinVerdictA`, `DoneV` / `Done`.  It is a vocabulary of its own: the
maildir-mode statements (Props/C01, C04) speak `Mdsort.Proofs.Verdict` of WorldVerdict, and no lemma carries a result from one to
the other (see `Verdict` below). -/

namespace Mdsort.Proofs.World
open Mdsort Mdsort.Model

/-- What `message_parse` returns for the entry `name` of `dir` holding `content`. -/
def Parsed (dir name content : Bytes) (ms : MsgSt) : Prop :=
  ms.name = name ∧ ms.path = dir ++ [47] ++ name ∧ ms.msg = parseMessage content ∧
  ms.parts = (getAttachments (parseMessage content)).getD [] ∧ flagsParse name = some ms.flags

theorem WholePF.fr1 {w w' : World} (pf : WholePF w w') (F : Nat → Prop) : Fr1 F w w' :=
  ⟨pf.dirs, pf.objs, pf.len, Nat.le_of_eq pf.nextFid.symm, fun g _ _ => file_of_files pf.files g⟩

theorem EvalFoot.fr1 {w w' : World} (ef : EvalFoot w w') (F : Nat → Prop) : Fr1 F w w' :=
  ⟨ef.dirs, ef.objs, ef.len, Nat.le_of_eq ef.nextFid.symm, fun g _ _ => file_of_files ef.files g⟩

theorem spec_messageParseP_sp (d : Handle) (dir name content : Bytes) {w : World} :
    wp NoInv (messageParseP d dir name content)
      (fun pm w' => Fr1 (NewS w) w w' ∧ ∀ ms, pm = some ms → Parsed dir name content ms ∧
          ∃ fd, ms.fd = some fd ∧ w.handles.length ≤ fd ∧ fd < w'.handles.length) w := by
  refine wp_mono (whole_wp_noInv (whole_wp_all (whole_messageParseP d dir name content) (all_messageParseP_as d dir name content))) ?_
  rintro pm w' ⟨⟨pf, hms⟩, hpa⟩
  refine ⟨pf.fr1 _, fun ms h => ?_⟩
  obtain ⟨-, -, -, hfd, hlt⟩ := hms ms h
  obtain ⟨p, mf, hp, -, hmf, h1, h2, h3, h4, h5⟩ := hpa ms h
  exact ⟨⟨h1, h2.trans (pathjoin_eq hp), h3, h5, h4 ▸ hmf⟩, _, hfd, Nat.le_refl _, hlt⟩

/-- What the rules decide for the ONE message of a stdin spool, as far as `Delivered` (Props/C02, C04) speaks of it: the
spool name is generated, so it always parses; the three ways of failing are one; of an action list only the list and the
rewritten message 0 matter.  The maildir-mode statements use the finer `Mdsort.Proofs.Verdict` (WorldVerdict: five
constructors, with `evVerdict` / `msVerdictA` / `verdictA` where this file has `verdictOfEv` / `stdinVerdictA`); the two are
not related by a lemma, and WorldVerdict must stay out of the imports of WorldStdinExample, where the bare name `Verdict`
has to mean this one. -/
inductive Verdict where
  | failed                                   -- evaluation or interpolation error
  | unmatched                                -- no rule matched
  | actions (ml : MatchList) (m' : Msg)      -- the interpolated match list and the (rewritten) message

/-- The evaluator environment `main` builds for a message at `path` (`msgEnv`, Captures, has the same body). -/
def evalEnv (env : PEnv) (orc : EvalOracles) (path : Bytes) : Env :=
  { rx := orc.rx, command := fun _ => -1, isDir := fun _ => false, now := env.now,
    strptime := orc.strptime, zoneName := orc.zoneName, fileTime := fun _ => none,
    timeFormat := orc.timeFormat, dryrun := env.dryrun, path := path }

/-- `matches_interpolate` on the result `ev` of `expr_eval`, as `main` calls it. -/
def verdictOfEv (env : PEnv) (orc : EvalOracles) (m : Msg) (parts : List Msg) (path : Bytes) : Tri × St → Verdict
  | (.error, _) => .failed
  | (.nomatch, _) => .unmatched
  | (.match, est) =>
    match matchesInterpolate (evalEnv env orc path) est.ml (partMsg m parts) with
    | none => .failed
    | some (ml, msgs) => .actions ml (msgs 0)

/-- `expr_eval` + `matches_interpolate` with the pure evaluator (a rule tree that asks the operating system nothing). -/
def verdictOf (env : PEnv) (orc : EvalOracles) (expr : Expr) (m : Msg) (parts : List Msg) (path : Bytes) (fl : MFlags) : Verdict :=
  verdictOfEv env orc m parts path (eval (evalEnv env orc path) m expr 0 m { ml := [], flags := fl })

/-- The verdict for the bytes `input` spooled under `path` with maildir flags `fl` (pure evaluator). -/
def stdinVerdict (env : PEnv) (orc : EvalOracles) (expr : Expr) (input path : Bytes) (fl : MFlags) : Verdict :=
  verdictOf env orc expr (parseMessage input) ((getAttachments (parseMessage input)).getD []) path fl

/-- The verdict when the operating system answers the questions of evaluation (`command`, `isdirectory`, file-time `date`
conditions) with `as`. -/
def stdinVerdictA (env : PEnv) (orc : EvalOracles) (expr : Expr) (input path : Bytes) (fl : MFlags) (as : List SysAns) : Verdict :=
  verdictOfEv env orc (parseMessage input) ((getAttachments (parseMessage input)).getD []) path
    (evalR (evalEnv env orc path) expr (parseMessage input) fl as).1

theorem stdinVerdictA_asksFree (env : PEnv) (orc : EvalOracles) (expr : Expr) (h : asksFree expr = true) (input path : Bytes)
    (fl : MFlags) (as : List SysAns) :
    stdinVerdictA env orc expr input path fl as = stdinVerdict env orc expr input path fl := by
  unfold stdinVerdictA stdinVerdict verdictOf
  have h1 := evalT_asksFree (evalEnv env orc path) (parseMessage input) expr h 0 (parseMessage input)
    { ml := [], flags := fl }
  have h2 : evalR (evalEnv env orc path) expr (parseMessage input) fl as =
      ((evalT (noSys (evalEnv env orc path)) (parseMessage input) expr 0 (parseMessage input)
        { ml := [], flags := fl }).run as) := rfl
  rw [h2, h1]
  rfl

/-- What an error-free processing of the spooled message means, by verdict. -/
def DoneV (S : Spool) (env : PEnv) (input : Bytes) (v : Verdict) (w' : World) : Prop :=
  match v with
  | .failed => False
  | .unmatched => True
  | .actions ml m' =>
    env.dryrun = false → (∀ m ∈ ml, m.ty ≠ .discard) → (∃ m ∈ ml, moveTy m.ty) →
      (∀ m ∈ ml, moveTy m.ty → destPath m.path ≠ some S.sp) →
      ∃ p n fid, p ≠ S.sp ∧ GoodAt w' [input, (messageWrite m').1] p n fid

/-- An error-free processing of the spooled message: `DoneV` for the verdict the rules give for SOME answers `as` of the operating
system to the questions of evaluation (the answers of the run).  `fl` is determined by `name0` (`flagsParse` is a function):
the `∃` only names it. -/
def Done (S : Spool) (env : PEnv) (orc : EvalOracles) (expr : Expr) (input name0 : Bytes) (w' : World) : Prop :=
  ∃ fl as, flagsParse name0 = some fl ∧
    DoneV S env input (stdinVerdictA env orc expr input (S.sp ++ [47] ++ name0) fl as) w'

/-- All-path facts about the spool after a part of the run that started in `w`. -/
def SpoolAll (S : Spool) (w w' : World) : Prop :=
  InvX S (fun h => S.d < h) w w' ∧ ∃ a b, (95 : UInt8) ∈ a ∧ (95 : UInt8) ∈ b ∧ NamesIn w' S.sp [a, b]

theorem SpoolAll.close {S : Spool} {w w' : World} (a : SpoolAll S w w') (f : Handle) (rc : Res) (hf : S.d < f) :
    SpoolAll S w (stepWorld w' (.close f) rc) := by
  obtain ⟨a1, x, y, hx, hy, hn⟩ := a
  exact ⟨a1.close f rc hf, x, y, hx, hy, hn.congr (dir_of_dirs (core_dirs _ (.close f) rc rfl) _)⟩

theorem DoneV.step {S : Spool} {env : PEnv} {input : Bytes} {v : Verdict} {w' : World} (h : DoneV S env input v w')
    (c : Call) (r : Res) (hc : Harmless c) : DoneV S env input v (stepWorld w' c r) := by
  cases v with
  | failed => exact h
  | unmatched => exact h
  | actions ml m' =>
    intro h1 h2 h3 h4
    obtain ⟨p, n, fid, hp, hg⟩ := h h1 h2 h3 h4
    exact ⟨p, n, fid, hp, hg.step c r (hc.dirSafe _ _ _) (hc.fileSafe _ _)⟩

/-- `message_free` followed by the return of `res`. -/
theorem wp_free {α} (fdo : Option Handle) (res : α) {w2 : World} (Q : α → World → Prop)
    (hQ : ∀ w3, (w3 = w2 ∨ ∃ f rc, fdo = some f ∧ w3 = stepWorld w2 (.close f) rc) → Q res w3) :
    wp NoInv
      ((match fdo with
        | some h => Prog.call (Call.close h) fun _ => Prog.ret ()
        | none => Prog.ret ()).bind fun _ => Prog.ret res) Q w2 := by
  cases fdo with
  | none => exact hQ w2 (.inl rfl)
  | some h =>
    simp only [call_bind', ret_bind]
    exact wp_call_any fun rc => ⟨trivial, hQ _ (.inr ⟨h, rc, rfl, rfl⟩)⟩

end Mdsort.Proofs.World
