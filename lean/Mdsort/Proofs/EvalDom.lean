import Mdsort.Model.Eval
import Mdsort.Spec.Rules

/-!
# The pieces of `InDomain` (C03)

Syntactic functions on the rule tree; `InDomain` combines them with the two `pathslice` calls on
the message path.  With them the other definitions the statement of C03 is made of: the keys
compared (`mlKeys`), the valuation of the matchers, the actions that cannot be evaluated.
-/

namespace Mdsort.Proofs
open Mdsort Mdsort.Model

/-- No backslash: the string contains no back-reference, so interpolating it does not look
at the match list. -/
def noBackslash (s : Bytes) : Bool := !s.contains 92

/-- Which nodes may occur anywhere in the tree (in words at `InDomain`). -/
def wfTree : Expr → Bool
  | .block _ e => wfTree e
  | .neg _ e => wfTree e
  | .and _ l r => wfTree l && wfTree r
  | .or _ l r => wfTree l && wfTree r
  | .mtch _ c rhs => wfTree c && wfTree rhs
  | .all _ | .new _ | .old _ | .header .. | .body .. | .date .. => true
  | .stat _ p => noBackslash p
  | .command _ argv => argv.all noBackslash
  | .move .. | .flags .. | .discard _ | .label .. | .reject _ | .exec .. | .addHeader .. => true
  | .pass _ | .brk _ => true
  | .flag _ sd => decide (sd.length < NAME_MAX1)
  | .attachment .. | .attBlock .. => false

def maxSubdir : Expr → Nat
  | .block _ e => maxSubdir e
  | .neg _ e => maxSubdir e
  | .and _ l r => max (maxSubdir l) (maxSubdir r)
  | .or _ l r => max (maxSubdir l) (maxSubdir r)
  | .mtch _ c rhs => max (maxSubdir c) (maxSubdir rhs)
  | .flag _ sd => sd.length
  | _ => 0

/-- Every `move` destination either does not fit `PATH_MAX` at all (then the action is an
error on both sides, `actionErr`) or leaves room for `/` and a subdirectory of `L` bytes. -/
def movesFit (L : Nat) : Expr → Bool
  | .block _ e => movesFit L e
  | .neg _ e => movesFit L e
  | .and _ l r => movesFit L l && movesFit L r
  | .or _ l r => movesFit L l && movesFit L r
  | .mtch _ c rhs => movesFit L c && movesFit L rhs
  | .move _ p => decide (p.length ≥ PATH_MAX) || decide (p.length + 1 + L < PATH_MAX)
  | _ => true

def hasOld : Expr → Bool
  | .block _ e => hasOld e
  | .neg _ e => hasOld e
  | .and _ l r => hasOld l || hasOld r
  | .or _ l r => hasOld l || hasOld r
  | .mtch _ c rhs => hasOld c || hasOld rhs
  | .old _ => true
  | _ => false

/-- No `flags` action of the tree sets the Seen flag (`S`, the one `old` reads). -/
def flagsKeepSeen : Expr → Bool
  | .block _ e => flagsKeepSeen e
  | .neg _ e => flagsKeepSeen e
  | .and _ l r => flagsKeepSeen l && flagsKeepSeen r
  | .or _ l r => flagsKeepSeen l && flagsKeepSeen r
  | .mtch _ c rhs => flagsKeepSeen c && flagsKeepSeen rhs
  | .flags _ fl => !fl.contains 83
  | _ => true

def mlKeys (ml : MatchList) : List (MType × Nat) :=
  (ml.filter fun m => m.ty.isAction && m.ty != .brk && m.ty != .pass).map fun m => (m.ty, m.lno)

/-- The valuation of the matchers on this message: each matcher evaluated on its own. -/
def valuation (env : Env) (root : Msg) (f : MFlags) (a : Expr) : Tri :=
  (eval env root a 0 root { ml := [], flags := f }).1

/-- Actions that cannot be evaluated: `expr_eval_flags` (expr.c) fails on a letter that is not
alphabetic, `expr_eval_move` when the destination does not fit `mh_maildir` (`PATH_MAX`). -/
def actionErr (a : Expr) : Bool :=
  match a with
  | .flags _ fl => fl.any (fun c => !isalpha c)
  | .move _ p => decide (p.length ≥ PATH_MAX)
  | _ => false

/-- Decidable domain of the refinement theorem.

* `wfTree e`: the tree only contains the matchers `all`, `new`, `old`, `header`, `body`, `date`,
  `stat`/`command` without a backslash in their strings (no back-references), the actions
  `move`, `flag` (name shorter than `NAME_MAX + 1`), `flags`, `discard`, `label`, `reject`,
  `exec`, `add-header`, `pass`, `break`, and block / and / or / ! / match nodes; that is, no
  `attachment` condition and no attachment block.  Shape (rules, nesting, pass/break last) is
  the business of `Spec.parseBlock`.
* `old` reads the Seen flag: a tree that uses `old` must not set `S` in a `flags` action.
* `matches_append` cannot fail: the maildir and the subdirectory of the message path can be
  sliced off, and with `L` the longest subdirectory name that can occur (the message's or
  that of a `flag` action) the message's maildir and every `move` destination that fits
  `PATH_MAX` at all (the others are `actionErr`) leave room for `/` and `L` more bytes. -/
def InDomain (env : Env) (e : Expr) : Bool :=
  wfTree e && (!hasOld e || flagsKeepSeen e) &&
  match pathslice env.path PATH_MAX 0 (-2), pathslice env.path NAME_MAX1 (-2) (-2) with
  | some maildir, some subdir =>
    let L := max subdir.length (maxSubdir e)
    decide (maildir.length + 1 + L < PATH_MAX) && movesFit L e
  | _, _ => false

/-- What `InDomain` says of a subtree; `o` = the whole tree contains an `old`.  The proofs of the refinement carry its
counterpart with attachment nodes, `okA` (`EvalAttDom`), not this. -/
def okTree (L : Nat) (o : Bool) (e : Expr) : Prop :=
  wfTree e = true ∧ movesFit L e = true ∧ maxSubdir e ≤ L ∧
    (hasOld e = true → o = true) ∧ (o = true → flagsKeepSeen e = true)

theorem okTree_neg {L o lno e} (h : okTree L o (.neg lno e)) : okTree L o e := by
  simpa [okTree, wfTree, movesFit, maxSubdir, hasOld, flagsKeepSeen] using h

end Mdsort.Proofs
