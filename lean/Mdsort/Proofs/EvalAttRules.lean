import Mdsort.Proofs.EvalAttParse

/-!
# The induction over rules, actions and parts (C03 with attachments)

`att_sim` follows `Spec.parseRulesAW` and the three functions it is defined with over the tree, by their induction
principle: where the parser finds the rules of a block, a rule, an action list, an attachment block, the evaluator on that
node is related to `evalRulesA` / `evalActsA` on what was parsed.  Both sides go through a block from the left, and
`evalRulesA` decides only at the end of the list (the epilogue), so the statement for a rule or for the rules of an OR chain
is relative to what follows it in the block: `RestSim` of the rules behind and of the evaluator's continuation there;
`FrontSim x rs` puts the rules `rs` parsed from `x` (one rule, or an OR chain) in front (`att_rule_blk`, `att_rule_acts`;
`att_block_end` is the epilogue; `FrontSim.block` closes a block: `BlockSim`).  The action list of a rule is walked along the AND chain
(`att_chain_step`: one more element behind what was walked; the control of the walked part says whether the walk has ended
at a `pass` or goes on behind a `break`; `ChainSim`), `att_parts_sim` is the for-each over the parts of an attachment block.

Every postcondition says what the evaluator returned as an equation `r = (t, s)` with `s` related to the run
(`StPost`), so that the next step of the evaluator is computed by rewriting with it.

The refinement holds for runs of the specification that record no deviation.  That the END state of the run is clean
(`CleanA`) is a premise of each postcondition (`PostAC`, `ChainPostC`, `PartsPostC`), not a hypothesis of the induction:
after one step of `evalRulesA` is unfolded and the outcome of a sub-run is split, the end state is literally the
continuation applied to the sub-run's state, so that the sub-run was clean follows from monotonicity (`RunLe.clean`).
-/

namespace Mdsort.Proofs
open Mdsort Mdsort.Model Mdsort.Spec

def CleanA (r : RunA) : Prop := r.crosses = false ∧ r.leaks = false

theorem RunLe.clean {a b : RunA} (h : RunLe a b) (hb : CleanA b) : CleanA a := ⟨h.2.1 hb.1, h.2.2 hb.2⟩

theorem att_pend_ne_of_le {a b : RunA} (h : RunLe a b) (ha : a.pend ≠ []) : b.pend ≠ [] := by
  obtain ⟨⟨ext, he⟩, _⟩ := h
  rw [he]
  intro hn
  exact ha (List.append_eq_nil_iff.1 hn).1

/-- What the induction establishes between the outcome `o` of `evalRulesA` on the rules of a block and the evaluator's
result `r` for that block, epilogue (`blockWrap`) included.

*Matched*: the `pass` entries of the block are consumed (`false`) and an action is pending.  *No match* and *left by
`break`* share a clause (nothing in the specification tells `.nomatch` from `.broke`).  At the root (`nested = false`)
it says nothing of the state: nothing is evaluated after the root block, and there a `pass` entry of the block may be
left in the list behind a `break`.  In a nested block the list is related to the run again, with what was pending
outside (`outerPass`): the block's own `pass` entries are gone - at the end of the list because the epilogue removes
them, after a `break` because in a clean run no `pass` of the block came before it (`evalRulesA` records
`nested && passSeen` as a crossing there). -/
def PostA (L : Nat) (od : Bool) (f : MFlags) (nested outerPass : Bool) (o : BRes × RunA) (r : Tri × St) : Prop :=
  match o.1 with
  | .err => r.1 = .error
  | .matched => StPost L od f r .match o.2.pend false false ∧ o.2.pend ≠ []
  | _ => r.1 = .nomatch ∧ (nested = true → StPost L od f r .nomatch o.2.pend outerPass false)

/-- An action list of a rule (or what `expr_eval_and` has walked of it): the result `r` of the AND chain against the
outcome `o` of `evalActsA` on its items and the control `ctl` of the list.  `pass` ends the walk with its marker in the
list; after `break` the walk goes on behind the BREAK entry, which is still in the list. -/
def ChainPost (L : Nat) (od : Bool) (f : MFlags) (hasPass : Bool) (ctl : Ctl) (r : Tri × St) (o : Option Bool × RunA) : Prop :=
  match o.1 with
  | none => r.1 = .error
  | some false => StPost L od f r .nomatch o.2.pend hasPass false
  | some true =>
    StPost L od f r (if ctl = .pass then .nomatch else .match) o.2.pend (hasPass || decide (ctl = .pass)) (decide (ctl = .brk))

/-- The result `r` of the loop of `expr_eval_attachment_block` against the outcome of `forParts`; `hasPass`: a `pass` is
pending (then there are no parts). -/
def PartsPost (L : Nat) (od : Bool) (f : MFlags) (hasPass : Bool) (r : Tri × St) (o : Option Bool × RunA) : Prop :=
  match o.1 with
  | none => r.1 = .error
  | some b => StPost L od f r (if b then .match else .nomatch) o.2.pend hasPass false ∧ (b = true → o.2.pend ≠ [])

def PostAC (L : Nat) (od : Bool) (f : MFlags) (nested outerPass : Bool) (o : BRes × RunA) (r : Tri × St) : Prop :=
  CleanA o.2 → PostA L od f nested outerPass o r

/-- `ChainPost` for a clean end state, and a second fact: when all items of a list without control action were evaluated,
an action is pending at the end.  Its one user is the arm "match, no control" of `att_sim`: with a `pass` pending the
epilogue of the block makes the result a match only if an action is pending (`att_blockWrap_matched`).  It is not a fact
about `evalActsA` alone: an attachment block among the items adds an action only because it matched on a part
(`PartsPost`), which needs that no parsed rule has an empty action list - known of the tree, not of a `RuleA`. -/
def ChainPostC (L : Nat) (od : Bool) (f : MFlags) (hasPass : Bool) (ctl : Ctl) (r : Tri × St) (o : Option Bool × RunA) : Prop :=
  CleanA o.2 → ChainPost L od f hasPass ctl r o ∧ (o.1 = some true → ctl = .none → o.2.pend ≠ [])

def PartsPostC (L : Nat) (od : Bool) (f : MFlags) (hasPass : Bool) (r : Tri × St) (o : Option Bool × RunA) : Prop :=
  CleanA o.2 → PartsPost L od f hasPass r o

/-- The statement for the rules of a block `{ e }` of the tree, entered with no `pass` seen in it, on any part, from any
pair of related states. -/
def BlockSim (env : Env) (L : Nat) (root : Msg) (f : MFlags) (od : Bool) (e : Expr) : Prop :=
  ∀ (rs : List RuleA), parseRulesAW e = some rs → ∀ (lno k : Nat) (m : Msg), okA L od k (.block lno e) → ctlPlaced e = true →
    ∀ (nested outerPass : Bool) (start : Nat), (nested = false → outerPass = false ∧ start = 0) →
    ∀ (run : RunA) (st : St), RelA L st.ml run.pend outerPass → SeenInv od f st →
    PostAC L od f nested outerPass (evalRulesA (partCtx env root f) actionErr nested outerPass start k m rs false run)
      (eval env root (.block lno e) k m st)

theorem att_parts_sim (env : Env) (root : Msg) (L : Nat) (od : Bool) (f : MFlags) (blk : Expr) (k : Nat) (hasPass : Bool)
    (F : Nat → Msg → RunA → BRes × RunA)
    (hF : hasPass = false → ∀ (i : Nat) (q : Msg) (run : RunA) (st : St), RelA L st.ml run.pend false → SeenInv od f st →
      PostAC L od f true false (F i q run) (eval env root blk (partIndex k i) q st))
    (hmono : ∀ i q run, RunLe run (F i q run).2) :
    ∀ (ps : List Msg), (ps ≠ [] → hasPass = false) → ∀ (i : Nat) (any : Bool) (run : RunA) (st : St),
      RelA L st.ml run.pend hasPass → SeenInv od f st → (any = true → run.pend ≠ []) →
      PartsPostC L od f hasPass (eval.loopB env root blk k ps i (if any then .match else .nomatch) st)
        (forParts F i ps any run) := by
  intro ps
  induction ps with
  | nil =>
    intro _ i any run st hR hs hany _
    exact ⟨⟨st, by rw [eval.loopB], hR, hs⟩, hany⟩
  | cons q qs ih =>
    intro hne i any run st hR hs hany
    obtain rfl := hne (List.cons_ne_nil _ _)
    have hpost := hF rfl i q run st hR hs
    have hm1 := hmono i q run
    rw [eval.loopB, partIndex_beq]
    simp only [forParts]
    rcases hr : F i q run with ⟨b, run1⟩
    rw [hr] at hpost hm1
    cases b with
    | err =>
      intro hclean
      have herr : (eval env root blk (partIndex k i) q st).1 = .error := hpost hclean
      rw [fst_error herr]
      rfl
    | matched =>
      intro hclean
      obtain ⟨⟨s, he, h2, h3⟩, h4⟩ := hpost ((att_forParts_mono hmono rfl).clean hclean)
      rw [he]
      exact ih (fun _ => rfl) (i + 1) true run1 s h2 h3 (fun _ => h4) hclean
    | _ =>
      intro hclean
      obtain ⟨s, he, h2, h3⟩ := (hpost ((att_forParts_mono hmono rfl).clean hclean)).2 rfl
      rw [he]
      exact ih (fun _ => rfl) (i + 1) any run1 s h2 h3 (fun ha => att_pend_ne_of_le hm1 (hany ha)) hclean

theorem att_eval_attBlock (env : Env) (root : Msg) (lno : Nat) (blk : Expr) (k : Nat) (m : Msg) (st : St) :
    eval env root (.attBlock lno blk) k m st =
      match getAttachments m with
      | none => (.error, st)
      | some ps => eval.loopB env root blk k ps 0 .nomatch st := by
  simp only [eval] <;> rfl

/-- One more element `x` behind a walked part of an action list: `r0`, `o0` are what the evaluator and `evalActsA` made of
that part, `c0` its control, `c` the control with `x`.  Neither side looks at `x` unless the part ended in a match
(`some true`); behind a `pass` (`c0 = .pass`) the evaluator does not look at it and it is no item.  (`r0`, `o0` and the
premise about them stand behind the colon: with the premise among the hypotheses, whose type mentions `r0` and `o0`, Lean
elaborates `match r0 with` in the statement with that hypothesis as a second discriminant, and rewriting `r0` then fails
with "motive is not type correct".) -/
theorem att_chain_step {env : Env} {L : Nat} (hctx : PCtx env L) (root : Msg) (f : MFlags) (od : Bool) (k : Nat) (m : Msg)
    (hasPass : Bool) {x : Expr} {ys : List ActA}
    (hx : (if (isCtlExpr x).isSome then some [] else (parseActAW x).map fun a => [a]) = some ys)
    (hblk : ∀ l l' e, x = .attBlock l (.block l' e) → BlockSim env L root f od e) (hok : okA L od k x)
    (hpl : ctlPlaced x = true) {c0 c : Ctl} (hstep : CtlStep c0 x c) :
    ∀ (r0 : Tri × St) (o0 : Option Bool × RunA), (CleanA o0.2 → ChainPost L od f hasPass c0 r0 o0) →
    ChainPostC L od f hasPass c
      (match r0 with
        | (.match, s) => eval env root x k m s
        | other => other)
      (match o0 with
        | (some true, run1) => evalActsA (partCtx env root f) actionErr hasPass k m ys run1
        | other => other) := by
  intro r0 o0 hpre
  rcases o0 with ⟨b, run⟩
  rcases b with _ | _ | _
  · intro hclean
    rw [fst_error (hpre hclean)]
    exact ⟨rfl, fun h => by cases h⟩
  · intro hclean
    obtain ⟨s, hr, h⟩ := hpre hclean
    rw [hr]
    exact ⟨⟨s, rfl, h⟩, fun h => by cases h⟩
  · intro hclean
    obtain ⟨s, hr, hR, hs⟩ := hpre ((att_acts_mono (partCtx env root f) actionErr ys hasPass k m run).clean hclean)
    rw [hr]
    revert hclean
    dsimp only
    rcases hstep with ⟨hxn, rfl, hnp, hatt⟩ | ⟨⟨lp, rfl⟩, rfl, hnb⟩ | ⟨⟨lb, rfl⟩, rfl, hnp⟩
    · -- an action or an attachment block: one item of `evalActsA`
      rw [decide_eq_false hnp, Bool.or_false] at hR
      simp only [hxn, Option.isSome_none, Bool.false_eq_true, if_false, Option.map_eq_some_iff] at hx
      obtain ⟨a, ha, rfl⟩ := hx
      simp only [if_neg hnp]
      rcases att_parseActAW_spec ha with ⟨l, l', e, rs, rfl, rfl, hprs⟩ | ⟨rfl, hact⟩
      · -- an attachment block: no `break` stands before it
        obtain rfl : c = Ctl.none := by
          cases c with
          | none => rfl
          | pass => exact absurd rfl hnp
          | brk => simp [isAttBlockExpr] at hatt
        have hR0 : RelA L s.ml run.pend hasPass := by simpa using hR
        have hparts : (partCtx env root f).parts m = getAttachments m := rfl
        rw [evalActsA, hparts, att_eval_attBlock]
        rcases hg : getAttachments m with _ | ps
        · intro _
          exact ⟨rfl, fun h => by cases h⟩
        · dsimp only
          rcases hf : forParts
            (fun i q r => evalRulesA (partCtx env root f) actionErr true hasPass r.pend.length (partIndex k i) q rs false r)
            0 ps false { run with crosses := run.crosses || (hasPass && !ps.isEmpty) } with ⟨b, run1⟩
          have hmono := fun (i : Nat) (q : Msg) (r : RunA) =>
            att_rules_mono (partCtx env root f) actionErr rs true hasPass r.pend.length (partIndex k i) q false r
          -- a clean run does not enter the block on a part while a `pass` is pending
          have hcr : CleanA run1 → ps ≠ [] → hasPass = false := fun hc1 hne => by
            have hc0 := ((att_forParts_mono hmono hf).clean hc1).1
            cases ps with
            | nil => exact absurd rfl hne
            | cons _ _ => simpa using (Bool.or_eq_false_iff.1 hc0).2
          have hP : CleanA run1 → PartsPost L od f hasPass (eval.loopB env root (.block l' e) k ps 0 .nomatch s) (b, run1) :=
            fun hc1 => by
              have := att_parts_sim env root L od f (.block l' e) k hasPass _
                (fun h0 i q run' st' hR' hs' => by
                  subst h0
                  exact hblk l l' e rfl rs hprs l' _ q (okA_attBlock hok (partIndex_ne_zero k i))
                    (by simpa [ctlPlaced] using hpl) true false _ (by intro h; cases h) run' st' hR' hs')
                hmono ps (hcr hc1) 0 false { run with crosses := run.crosses || (hasPass && !ps.isEmpty) } s hR0 hs
                (by intro h; cases h)
              rw [hf] at this
              exact this hc1
          rcases b with _ | _ | _
          · intro hclean
            rw [fst_error (hP hclean)]
            exact ⟨rfl, fun h => by cases h⟩
          · intro hclean
            obtain ⟨⟨s', hl, h3, hs'⟩, _⟩ := hP hclean
            rw [hl]
            exact ⟨⟨s', rfl, h3, hs'⟩, fun h => by cases h⟩
          · dsimp only
            rw [att_evalActsA_nil]
            intro hclean
            obtain ⟨⟨s', hl, h3, hs'⟩, hne1⟩ := hP hclean
            rw [hl]
            exact ⟨⟨s', rfl, by simpa using h3, hs'⟩, fun _ _ => hne1 rfl⟩
      · rw [evalActsA, att_evalActsA_nil]
        rcases att_act_eval hctx root x k m hact hok s run.pend hasPass hR hs with ⟨he, hr⟩ | ⟨he, st1, hr, hR1, hs1⟩
        · simp only [he, if_true]
          intro _
          rw [fst_error hr]
          exact ⟨rfl, fun h => by cases h⟩
        · simp only [he, Bool.false_eq_true, if_false, hr]
          intro _
          refine ⟨⟨st1, ?_, ?_, hs1⟩, fun _ _ => by simp⟩
          · rw [if_neg hnp]
          · rw [decide_eq_false hnp, Bool.or_false]; exact hR1
    · -- `pass`: its marker ends the walk; behind a `pass` it is not looked at
      simp only [isCtlExpr, Option.isSome_some, if_true, Option.some.injEq] at hx
      subst hx
      rw [att_evalActsA_nil]
      intro _
      refine ⟨?_, fun _ h => by cases h⟩
      cases c0 with
      | brk => exact absurd rfl hnb
      | none =>
        simp only [reduceCtorEq, if_false, att_eval_pass]
        exact ⟨_, rfl, by simpa using hR.marker_pass hctx.hL lp k, hs⟩
      | pass =>
        simp only [if_true]
        exact ⟨s, rfl, hR, hs⟩
    · -- `break`: its marker stays in the list, the walk goes on
      simp only [isCtlExpr, Option.isSome_some, if_true, Option.some.injEq] at hx
      subst hx
      rw [att_evalActsA_nil]
      intro _
      refine ⟨?_, fun _ h => by cases h⟩
      rw [decide_eq_false hnp, Bool.or_false] at hR
      simp only [if_neg hnp, att_eval_brk]
      exact ⟨_, rfl, by simpa using hR.marker_brk hctx.hL lb k, hs⟩

/-- The statement for the action list `e` of a rule, along the AND chain. -/
def ChainSim (env : Env) (L : Nat) (root : Msg) (f : MFlags) (od : Bool) (e : Expr) (as : List ActA) : Prop :=
  placedOK (andChain e) = true → ∀ ctl, ctlOfList (andChain e) = some ctl →
    ∀ (k : Nat) (m : Msg), okA L od k e → ctlPlaced e = true →
    ∀ (hasPass : Bool) (run : RunA) (st : St), RelA L st.ml run.pend hasPass → SeenInv od f st →
    ChainPostC L od f hasPass ctl (eval env root e k m st)
      (evalActsA (partCtx env root f) actionErr hasPass k m as run)

theorem att_chain_one {env : Env} {L : Nat} (hctx : PCtx env L) (root : Msg) (f : MFlags) (od : Bool) {e : Expr}
    (hne : ∀ lno l r, e ≠ .and lno l r) {ys : List ActA}
    (hx : (if (isCtlExpr e).isSome then some [] else (parseActAW e).map fun a => [a]) = some ys)
    (hblk : ∀ l l' e', e = .attBlock l (.block l' e') → BlockSim env L root f od e') : ChainSim env L root f od e ys := by
  intro hpo ctl hctl k m hok hpl hasPass run st hR hs
  rw [att_andChain_leaf e hne] at hpo hctl
  obtain ⟨c0, _, hctl0, hstep⟩ := ctlStep_of_snoc (xs := []) hpo hctl
  obtain rfl : Ctl.none = c0 := Option.some.inj hctl0
  exact att_chain_step hctx root f od k m hasPass hx hblk hok hpl hstep (.match, st) (some true, run)
    fun _ => ⟨st, rfl, by simpa using hR, hs⟩

theorem att_chain_snoc {env : Env} {L : Nat} (hctx : PCtx env L) (root : Msg) (f : MFlags) (od : Bool) {lno : Nat} {l r : Expr}
    {ls ys : List ActA} (ihl : ChainSim env L root f od l ls)
    (hx : (if (isCtlExpr r).isSome then some [] else (parseActAW r).map fun a => [a]) = some ys)
    (hblk : ∀ l l' e', r = .attBlock l (.block l' e') → BlockSim env L root f od e') :
    ChainSim env L root f od (.and lno l r) (ls ++ ys) := by
  intro hpo ctl hctl k m hok hpl hasPass run st hR hs
  rw [andChain] at hpo hctl
  obtain ⟨c0, hpo0, hctl0, hstep⟩ := ctlStep_of_snoc hpo hctl
  obtain ⟨hokl, hokr⟩ := okA_and hok
  simp only [ctlPlaced, Bool.and_eq_true] at hpl
  rw [eval, att_evalActsA_append]
  exact att_chain_step hctx root f od k m hasPass hx hblk hokr hpl.2 hstep _ _ fun hclean =>
    (ihl hpo0 c0 hctl0 k m hokl hpl.1 hasPass run st hR hs hclean).1

/-- From a point of the OR chain of a block on: the rules `rest` that follow against what the evaluator does there (`K`, before
the epilogue of the block), from any pair of related states the rules before that point leave. -/
def RestSim (env : Env) (L : Nat) (root : Msg) (f : MFlags) (od : Bool) (k : Nat) (m : Msg) (nested outerPass : Bool)
    (start : Nat) (rest : List RuleA) (K : St → Tri × St) : Prop :=
  ∀ (passSeen : Bool) (run : RunA) (s : St), RelA L s.ml run.pend (outerPass || passSeen) → SeenInv od f s →
    PostAC L od f nested outerPass (evalRulesA (partCtx env root f) actionErr nested outerPass start k m rest passSeen run)
      (blockWrap (K s))

/-- The rest of the OR chain is tried only on *no match*. -/
def att_orElse (r : Tri × St) (K : St → Tri × St) : Tri × St :=
  match r with
  | (.nomatch, s) => K s
  | other => other

theorem att_orElse_nomatch (r : Tri × St) : att_orElse r (fun s => (.nomatch, s)) = r := by
  rcases r with ⟨t, s⟩
  cases t <;> rfl

/-- The end of the block: the epilogue. -/
theorem att_block_end {env : Env} {L : Nat} (root : Msg) (f : MFlags) (od : Bool) (k : Nat) (m : Msg) {nested outerPass : Bool}
    {start : Nat} (hroot : nested = false → outerPass = false ∧ start = 0) :
    RestSim env L root f od k m nested outerPass start [] fun s => (.nomatch, s) := by
  intro passSeen run st hR hs
  rw [evalRulesA]
  intro hclean
  have hcr := hclean.1
  simp only [Bool.or_eq_false_iff] at hcr
  have hop : outerPass = false := by
    cases nested
    · exact (hroot rfl).1
    · cases outerPass
      · rfl
      · simp at hcr
  subst hop
  cases passSeen
  · have hR' : RelA L st.ml run.pend false := by simpa using hR
    rw [att_blockWrap_plain hR' _ (by decide)]
    exact ⟨rfl, fun _ => ⟨st, rfl, hR', hs⟩⟩
  · -- a `pass` in this block: a match iff an action is pending, which in a clean run is one of this block
    have hR' : RelA L st.ml run.pend true := by simpa using hR
    rw [att_blockWrap_pass hR' _ (by decide)]
    have hown : run.pend.length - start > 0 ↔ run.pend ≠ [] := by
      rw [← List.length_pos_iff]
      cases nested
      · have := (hroot rfl).2; omega
      · have h2 := hcr.2
        simp only [Bool.true_and, Bool.false_or, Bool.and_eq_false_iff, beq_eq_false_iff_ne,
          decide_eq_false_iff_not] at h2
        omega
    by_cases hpe : run.pend = []
    · have h0 : ¬ (run.pend.length - start > 0) := fun h => hown.1 h hpe
      have hcond : (true && decide (run.pend.length - start > 0)) = false := by simp [h0]
      simp only [hcond, Bool.false_eq_true, if_false]
      simp only [hpe, if_true]
      exact ⟨rfl, fun _ => ⟨_, rfl, hpe ▸ hR'.remove_pass, hs⟩⟩
    · have hcond : (true && decide (run.pend.length - start > 0)) = true := by simp [hown.2 hpe]
      simp only [hcond, if_true]
      simp only [hpe, if_false]
      exact ⟨⟨_, rfl, hR'.remove_pass, hs⟩, hpe⟩

/-- What the rules `rs` parsed from `x` (a rule, or the OR chain of a block) put in front of `RestSim`. -/
def FrontSim (env : Env) (L : Nat) (root : Msg) (f : MFlags) (od : Bool) (x : Expr) (rs : List RuleA) : Prop :=
  ∀ (k : Nat) (m : Msg), okA L od k x → ctlPlaced x = true → ∀ (nested outerPass : Bool) (start : Nat)
    (rest : List RuleA) (K : St → Tri × St), RestSim env L root f od k m nested outerPass start rest K →
    RestSim env L root f od k m nested outerPass start (rs ++ rest) fun st => att_orElse (eval env root x k m st) K

/-- The rules as the block `{ e }` of the tree: nothing follows, the epilogue ends it. -/
theorem FrontSim.block {env : Env} {L : Nat} {root : Msg} {f : MFlags} {od : Bool} {e : Expr}
    (h : ∀ rs, parseRulesAW e = some rs → FrontSim env L root f od e rs) : BlockSim env L root f od e := by
  intro rs hp lno k m hok hpl nested outerPass start hroot run st hR hs
  have := h rs hp k m (okA_block hok) hpl nested outerPass start [] _ (att_block_end root f od k m hroot) false run st
    (by simpa using hR) hs
  rw [List.append_nil] at this
  dsimp only at this
  rw [att_orElse_nomatch] at this
  rw [eval_block]
  exact this

theorem att_rule_blk {env : Env} {L : Nat} (hctx : PCtx env L) (root : Msg) (f : MFlags) (od : Bool) {lno l : Nat} {c e : Expr}
    {rs' : List RuleA} (hc : isCond c = true) (ih : BlockSim env L root f od e) (hpr : parseRulesAW e = some rs') :
    FrontSim env L root f od (.mtch lno c (.block l e)) [.blk lno c rs'] := by
  intro k m hokx hplx nested outerPass start rest K hK passSeen run st hR hs
  rw [List.singleton_append]
  dsimp only
  obtain ⟨hokc, hokb⟩ := okA_mtch hokx
  obtain ⟨st1, hR1, hs1, hev⟩ := att_rule_cond hctx root f lno c (.block l e) k m hc hokc.1 hokc.2.2.2.1
    st hR hs
  rw [hev, evalRulesA]
  cases condValA (partCtx env root f) c k m with
  | error =>
    intro _
    exact rfl
  | «nomatch» => exact hK passSeen run st1 hR1 hs1
  | «match» =>
    have hple : ctlPlaced e = true := by simpa [ctlPlaced] using ctlPlaced_mtch_rhs hplx
    have hpost := ih rs' hpr l k m hokb hple true (outerPass || passSeen) run.pend.length (by intro h; cases h) run st1 hR1 hs1
    dsimp only
    rcases hin : evalRulesA (partCtx env root f) actionErr true (outerPass || passSeen) run.pend.length k m rs'
      false run with ⟨b, run1⟩
    rw [hin] at hpost
    cases b with
    | err =>
      intro hclean
      rw [fst_error (hpost hclean)]
      exact rfl
    | matched =>
      intro hclean
      obtain ⟨⟨s, hr, h2, h4⟩, h5⟩ := hpost hclean
      rw [hr]
      exact ⟨att_blockWrap_matched h2 h4 h5, h5⟩
    | _ =>
      intro hclean
      obtain ⟨s, hr, h2, h4⟩ := (hpost ((att_rules_mono _ _ rest _ _ _ _ _ _ run1).clean hclean)).2 rfl
      rw [hr]
      exact hK passSeen run1 s h2 h4 hclean

theorem att_rule_acts {env : Env} {L : Nat} (hctx : PCtx env L) (root : Msg) (f : MFlags) (od : Bool) {lno : Nat} {c rhs : Expr}
    (hc : isCond c = true) (hnb : ∀ l e, rhs ≠ .block l e) {ctl : Ctl} {as : List ActA}
    (hctl : ctlOfList (andChain rhs) = some ctl) (ih : ChainSim env L root f od rhs as) :
    FrontSim env L root f od (.mtch lno c rhs) [.acts lno c as ctl] := by
  intro k m hokx hplx nested outerPass start rest K hK passSeen run st hR hs
  rw [List.singleton_append]
  dsimp only
  obtain ⟨hokc, hokrhs⟩ := okA_mtch hokx
  obtain ⟨st1, hR1, hs1, hev⟩ := att_rule_cond hctx root f lno c rhs k m hc hokc.1 hokc.2.2.2.1 st hR hs
  rw [hev, evalRulesA]
  cases condValA (partCtx env root f) c k m with
  | error =>
    intro _
    exact rfl
  | «nomatch» => exact hK passSeen run st1 hR1 hs1
  | «match» =>
    have hA := ih (placedOK_of_ctlPlaced hnb hplx) ctl hctl k m hokrhs (ctlPlaced_mtch_rhs hplx) (outerPass || passSeen) run st1
      hR1 hs1
    have hmA := att_acts_mono (partCtx env root f) actionErr as (outerPass || passSeen) k m run
    dsimp only
    rcases ha : evalActsA (partCtx env root f) actionErr (outerPass || passSeen) k m as run with ⟨b, run1⟩
    rw [ha] at hA hmA
    rcases b with _ | _ | _
    · intro hclean
      rw [fst_error (hA hclean).1]
      exact rfl
    · -- an attachment block of the rule matched on no part: in a clean run nothing was collected before it
      intro hclean
      have hc2 := (att_rules_mono (partCtx env root f) actionErr rest nested outerPass start k m passSeen
        { run1 with pend := run.pend,
                    leaks := run1.leaks || decide (run1.pend.length > run.pend.length) }).clean hclean
      have hl1 := hc2.2
      simp only [Bool.or_eq_false_iff, decide_eq_false_iff_not] at hl1
      obtain ⟨⟨s, hr, h3, hs'⟩, _⟩ := hA ⟨hc2.1, hl1.1⟩
      rw [hr]
      obtain ⟨ext, hext⟩ := hmA.1
      have hpe : run1.pend = run.pend := by
        have h5 := hl1.2
        simp only at hext
        rw [hext, List.length_append] at h5
        rw [hext, List.eq_nil_of_length_eq_zero (by omega : ext.length = 0), List.append_nil]
      rw [hpe] at h3
      exact hK passSeen _ s h3 hs' hclean
    · cases ctl with
      | none =>
        intro hclean
        obtain ⟨⟨s, hr, h3, hs'⟩, hne⟩ := hA hclean
        rw [hr]
        have hne := hne rfl rfl
        exact ⟨att_blockWrap_matched h3 hs' hne, hne⟩
      | pass =>
        intro hclean
        obtain ⟨⟨s, hr, h3, hs'⟩, _⟩ := hA ((att_rules_mono _ _ rest _ _ _ _ _ _ run1).clean hclean)
        rw [hr]
        exact hK true run1 s (by simpa using h3) hs' hclean
      | brk =>
        -- the BREAK entry and the plain actions collected behind it are in the list
        intro hclean
        obtain ⟨⟨s, hr, h3, hs'⟩, _⟩ := hA ⟨(Bool.or_eq_false_iff.1 hclean.1).1, hclean.2⟩
        rw [hr]
        show PostA L od f nested outerPass _ (blockWrap (.match, s))
        rw [att_blockWrap_hasBrk h3 _ (by decide)]
        refine ⟨rfl, fun hn => ?_⟩
        subst hn
        have hps : passSeen = false := by simpa using (Bool.or_eq_false_iff.1 hclean.1).2
        subst hps
        exact ⟨_, rfl, by simpa using h3.remove_brk, hs'⟩

/-- By the induction principle Lean derives from the four `parse…AW` functions (`#check @parseActAW.mutual_induct`): one case
per arm of `parseActAW`, `parseRulesAW`, `parseRuleAW`, `parseChainAW`, in that order; the comment at each bullet names the
arm.  An arm hands over what the parser found there, so no shape is inverted; the rules of a nested block and of an
attachment block are those of a subtree. -/
theorem att_sim {env : Env} {L : Nat} (hctx : PCtx env L) (root : Msg) (f : MFlags) (od : Bool) :
    (∀ e l l' e', e = Expr.attBlock l (.block l' e') → BlockSim env L root f od e') ∧
    (∀ e rs, parseRulesAW e = some rs → FrontSim env L root f od e rs) ∧
    (∀ e r, parseRuleAW e = some r → FrontSim env L root f od e [r]) ∧
    ∀ e as, parseChainAW e = some as → ChainSim env L root f od e as := by
  refine parseActAW.mutual_induct _ _ _ _ ?_ ?_ ?_ ?_ ?_ ?_ ?_ ?_ ?_ ?_ ?_ ?_ ?_ ?_ ?_ ?_ ?_
  -- `parseActAW`: an attachment block `attachment { e }`
  · intro l lno e ih l1 l1' e1 h
    cases h
    exact FrontSim.block ih
  -- `parseActAW`: any other node that is an action
  · intro a hna _ l l' e' h
    exact (hna l l' e' h).elim
  -- `parseActAW`: any other node that is no action (`none`)
  · intro a hna _ l l' e' h
    exact (hna l l' e' h).elim
  -- `parseRulesAW` on `or l r`: the rules of `l`, then the rule `r`, then the rest
  · intro lno l r ls x hr hl ihl ihr rs h k m hok hpl nested outerPass start rest K hK
    rw [parseRulesAW, hl, hr] at h
    obtain rfl := Option.some.inj h
    obtain ⟨hokl, hokr⟩ := okA_or hok
    simp only [ctlPlaced, Bool.and_eq_true] at hpl
    have h2 := ihl ls hl k m hokl hpl.1 nested outerPass start ([x] ++ rest) _
      (ihr x hr k m hokr hpl.2 nested outerPass start rest K hK)
    intro passSeen run st hR hs
    have h3 := h2 passSeen run st hR hs
    rw [List.append_assoc]
    dsimp only at h3 ⊢
    rw [eval]
    generalize eval env root l k m st = r0 at h3 ⊢
    rcases r0 with ⟨t, s⟩
    cases t <;> exact h3
  -- `parseRulesAW` on `or l r`: one side does not parse (`none`)
  · intro lno l r hno _ _ rs h
    rw [parseRulesAW] at h
    split at h
    · exact (hno _ _ ‹_› ‹_›).elim
    · cases h
  -- `parseRulesAW` on a node that is no `or`: one rule
  · intro e hne ih rs h
    rw [parseRulesAW.eq_2 e hne] at h
    obtain ⟨x, hx, rfl⟩ := Option.map_eq_some_iff.1 h
    exact ih x hx
  -- `parseRuleAW` on `match c rhs`: `c` is no condition (`none`)
  · intro lno c rhs hc r h
    rw [parseRuleAW.eq_def] at h
    simp only [hc, if_true] at h
    cases h
  -- `parseRuleAW`: `rhs` is a nested block
  · intro lno c hc l e ih r h
    have hc' : isCond c = true := by simpa using hc
    simp only [parseRuleAW, hc', Bool.not_true, Bool.false_eq_true, if_false, Option.map_eq_some_iff] at h
    obtain ⟨rs', hpr, rfl⟩ := h
    exact att_rule_blk hctx root f od hc' (FrontSim.block ih) hpr
  -- `parseRuleAW`: `rhs` is an action list with a control
  · intro lno c rhs hc ctl as hnb has hctl ih r h
    have hc' : isCond c = true := by simpa using hc
    rw [parseRuleAW_acts lno c rhs hc' fun l e h => hnb l e h, hctl, has] at h
    rw [← Option.some.inj h]
    exact att_rule_acts hctx root f od hc' (fun l e h => hnb l e h) hctl (ih as has)
  -- `parseRuleAW`: `rhs` is an action list that does not parse or has no control (`none`)
  · intro lno c rhs hc hnb hno _ r h
    rw [parseRuleAW_acts lno c rhs (by simpa using hc) (fun l e h => hnb l e h)] at h
    split at h
    · exact (hno _ _ ‹_› ‹_›).elim
    · cases h
  -- `parseRuleAW` on a node that is no `match` (`none`)
  · intro x hx r h
    rw [parseRuleAW.eq_def] at h
    split at h
    · exact (hx _ _ _ rfl).elim
    · cases h
  -- `parseChainAW` on `and l r`: `l` does not parse (`none`)
  · intro lno l r hl _ as has
    rw [parseChainAW, hl] at has
    cases has
  -- `parseChainAW` on `and l r`: `r` is `pass` / `break`
  · intro lno l r ls hl hc ihl as has
    rw [parseChainAW, hl] at has
    simp only [hc, if_true, Option.some.injEq] at has
    have := att_chain_snoc hctx root f od (lno := lno) (ihl ls hl) (ys := []) (by rw [if_pos hc])
      (by rintro _ _ _ rfl; cases hc)
    rwa [List.append_nil, has] at this
  -- `parseChainAW` on `and l r`: `r` is an action or an attachment block
  · intro lno l r ls hl hc x hx ihl ihr as has
    rw [parseChainAW, hl] at has
    simp only [hc, Bool.false_eq_true, if_false, hx, Option.some.injEq] at has
    rw [← has]
    exact att_chain_snoc hctx root f od (ihl ls hl) (by rw [if_neg hc, hx]; rfl) ihr
  -- `parseChainAW` on `and l r`: `r` does not parse (`none`)
  · intro lno l r ls hl hc hr _ _ as has
    rw [parseChainAW, hl] at has
    simp [hc, hr] at has
  -- `parseChainAW` on a node that is no `and`: `pass` / `break`
  · intro e hne hc as has
    rw [parseChainAW.eq_2 e hne, if_pos hc] at has
    rw [← Option.some.inj has]
    exact att_chain_one hctx root f od (fun a b c h => hne a b c h) (by rw [if_pos hc]) (by rintro _ _ _ rfl; cases hc)
  -- `parseChainAW` on a node that is no `and`: an action or an attachment block
  · intro e hne hc ih as has
    rw [parseChainAW.eq_2 e hne, if_neg hc] at has
    exact att_chain_one hctx root f od (fun a b c h => hne a b c h) (by rw [if_neg hc]; exact has) ih

end Mdsort.Proofs
