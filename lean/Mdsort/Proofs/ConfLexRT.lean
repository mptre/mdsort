import Mdsort.Proofs.LexLiteral
import Mdsort.Spec.Conf
import Mdsort.Spec.ConfDefect
import Mdsort.Spec.Cfg

/-!
# The lexer reads back every token `Spec.render` writes
-/

namespace Mdsort.Proofs.Conf
open Mdsort Mdsort.Model Mdsort.Spec

/-- The grammar terminal a written token is read as. -/
def tkOf : PTok → Tk
  | .kw k => .kw k
  | .str b => .str b
  | .int n => .int n
  | .seconds => .scalar (some 1)
  | .pat p => .pat p
  | .bang => .neg
  | .lbrace => .lbrace
  | .rbrace => .rbrace
  | .lparen => .lparen
  | .rparen => .rparen
  | .lt => .lt
  | .gt => .gt

theorem tkOf_ne_eof (t : PTok) : tkOf t ≠ .eof := by cases t <;> simp [tkOf]

/-- What the lexer must be able to read back. -/
def tokOK : PTok → Bool
  | .str b => strOK b
  | .int n => decide (n < 2 ^ 32)
  | .pat p => patOK p
  | _ => true

/-- The lexer modes under which a token is read back (`pflag`, `sflag`).  `sflag` matters for a unit only: `lex1.lexTok` looks a
word up in the keyword table before it looks at `sflag` (`lex_keyword` holds for every `sflag`). -/
def modeOK (pf sf : Bool) : PTok → Bool
  | .pat _ => pf
  | .seconds => !pf && sf
  | .str _ => true
  | _ => !pf

/-- What the lexer can read back, whether or not it means itself: as `tokOK`, but a string may hold `$`. -/
def lexOK : PTok → Bool
  | .str b => strLexOK b
  | t => tokOK t

theorem strLexOK_of_strOK {b : Bytes} (h : strOK b = true) : strLexOK b = true := by
  simp only [strOK, Bool.and_eq_true, List.all_eq_true, bne_iff_ne, ne_eq, decide_eq_true_eq] at h
  simp only [strLexOK, Bool.and_eq_true, List.all_eq_true, bne_iff_ne, ne_eq, decide_eq_true_eq]
  exact ⟨⟨⟨⟨h.1.1.1.1, fun c hc => (h.1.1.1.2 c hc).1⟩, h.1.1.2⟩, h.1.2⟩, h.2⟩

theorem lexOK_of_tokOK {t : PTok} (h : tokOK t = true) : lexOK t = true := by
  cases t <;> first | exact strLexOK_of_strOK h | exact h

theorem render_nil : Spec.render [] = [] := rfl
theorem render_cons (t : PTok) (ts : List PTok) : Spec.render (t :: ts) = 32 :: (t.bytes ++ Spec.render ts) := by
  simp [Spec.render, List.flatMap_cons]

theorem render_append (a b : List PTok) : Spec.render (a ++ b) = Spec.render a ++ Spec.render b := by
  simp [Spec.render, List.flatMap_append]

theorem render_tl_head (ts : List PTok) {tl : Bytes} (htl : ∀ c, tl.head? = some c → c = 32) :
    ∀ c, (Spec.render ts ++ tl).head? = some c → c = 32 := by
  intro c h
  cases ts with
  | nil => exact htl c h
  | cons t ts => rw [render_cons] at h; simpa using h.symm

theorem lex1_blank (pf sf : Bool) (c : UInt8) (r : Bytes) (h1 : isspace c = false) (h2 : (c == 35) = false) :
    lex1 pf sf false (32 :: c :: r) = lex1 pf sf false (c :: r) :=
  LexAux.lex1_skip pf sf false [32] c r (by decide) h1 h2

theorem lex1_nil (pf sf : Bool) : lex1 pf sf false [] = { tok := .eof, rest := [], errors := 0 } := by
  simp [lex1]

theorem lex1_punct (sf : Bool) (c : UInt8) (rest : Bytes)
    (hc : c = 123 ∨ c = 125 ∨ c = 40 ∨ c = 41 ∨ c = 60 ∨ c = 62) :
    lex1 false sf false (c :: rest) = { tok := .char c, rest := rest, errors := 0 } := by
  rcases hc with rfl | rfl | rfl | rfl | rfl | rfl <;> rw [LexAux.lex1_start _ _ _ _ (by decide) (by decide)] <;>
    simp [lex1.lexTok, isdigit, islower]

theorem lex1_bang (pf sf : Bool) (rest : Bytes) :
    lex1 pf sf false (33 :: rest) = { tok := .neg, rest := rest, errors := 0 } := by
  rw [LexAux.lex1_start _ _ _ _ (by decide) (by decide)]
  exact if_pos (by decide)

theorem lex1_seconds (rest : Bytes) (hr : ∀ c, rest.head? = some c → c = 32) :
    lex1 false true false ([115, 101, 99, 111, 110, 100, 115] ++ rest) =
      { tok := .scalar (some 1), rest := rest, errors := 0 } := by
  have h := lex_unit [] rest "seconds" 1 (by simp) (by decide +kernel) (fun c hc => by rw [hr c hc]; decide)
  rwa [show "seconds".toUTF8.toList = [115, 101, 99, 111, 110, 100, 115] by decide +kernel] at h

theorem patFlags_i (f : Nat) (r : Bytes) (i l u : Bool) (e : Nat) :
    patFlags (f + 1) (105 :: r) i l u e = patFlags f r true l u e := by simp [patFlags]

theorem patFlags_l (f : Nat) (r : Bytes) (i l u : Bool) (e : Nat) :
    patFlags (f + 1) (108 :: r) i l u e = patFlags f r i true u (if u then e + 1 else e) := by simp [patFlags]

theorem patFlags_u (f : Nat) (r : Bytes) (i l u : Bool) (e : Nat) :
    patFlags (f + 1) (117 :: r) i l u e = patFlags f r i l true (if l then e + 1 else e) := by simp [patFlags]

theorem patFlags_printed (i l u : Bool) (hlu : (l && u) = false) (rest : Bytes) (hr : ∀ c, rest.head? = some c → c = 32)
    (fuel : Nat)
    (hf : ((if i then [105] else []) ++ (if l then [108] else []) ++ (if u then [117] else []) : Bytes).length ≤ fuel) :
    patFlags fuel ((if i then [105] else []) ++ (if l then [108] else []) ++ (if u then [117] else []) ++ rest)
      false false false 0 = ((i, l, u), rest, 0) := by
  have hstop : ∀ (f : Nat) (a b c : Bool) (e : Nat), patFlags f rest a b c e = ((a, b, c), rest, e) := by
    intro f a b c e
    cases f with
    | zero => simp [patFlags]
    | succ f =>
      cases rest with
      | nil => simp [patFlags]
      | cons x xs =>
        have := hr x rfl
        subst this
        simp [patFlags]
  cases i <;> cases l <;> cases u <;>
    simp only [if_true, if_false, Bool.false_eq_true, List.nil_append, List.cons_append, List.length_cons,
      List.length_nil, List.append_nil, Bool.and_self, Bool.true_and, Bool.and_true] at hf hlu ⊢
  · exact hstop _ _ _ _ _
  · obtain ⟨f, rfl⟩ : ∃ f, fuel = f + 1 := ⟨fuel - 1, by omega⟩
    rw [patFlags_u]; exact hstop _ _ _ _ _
  · obtain ⟨f, rfl⟩ : ∃ f, fuel = f + 1 := ⟨fuel - 1, by omega⟩
    rw [patFlags_l]; exact hstop _ _ _ _ _
  · cases hlu
  · obtain ⟨f, rfl⟩ : ∃ f, fuel = f + 1 := ⟨fuel - 1, by omega⟩
    rw [patFlags_i]; exact hstop _ _ _ _ _
  · obtain ⟨f, rfl⟩ : ∃ f, fuel = f + 1 + 1 := ⟨fuel - 2, by omega⟩
    rw [patFlags_i, patFlags_u]; exact hstop _ _ _ _ _
  · obtain ⟨f, rfl⟩ : ∃ f, fuel = f + 1 + 1 := ⟨fuel - 2, by omega⟩
    rw [patFlags_i, patFlags_l]; exact hstop _ _ _ _ _
  · cases hlu

theorem lex1_pattern (sf : Bool) (p : Pat) (hp : patOK p = true) (rest : Bytes) (hr : ∀ c, rest.head? = some c → c = 32) :
    lex1 true sf false ((PTok.pat p).bytes ++ rest) =
      { tok := .pattern p.src p.icase p.lcase p.ucase, rest := rest, errors := 0 } := by
  simp only [patOK, Bool.and_eq_true, List.all_eq_true, bne_iff_ne, ne_eq, decide_eq_true_eq, Bool.not_eq_true',
    Bool.and_eq_false_imp] at hp
  obtain ⟨⟨hsrc, hlen⟩, hlu⟩ := hp
  have hlu' : (p.lcase && p.ucase) = false := by
    cases h1 : p.lcase <;> cases h2 : p.ucase <;> simp_all
  let fl : Bytes := (if p.icase then [105] else []) ++ (if p.lcase then [108] else []) ++ (if p.ucase then [117] else [])
  have hbytes : (PTok.pat p).bytes ++ rest = 47 :: (p.src ++ 47 :: (fl ++ rest)) := by
    simp [PTok.bytes, fl, List.append_assoc]
  -- no `/` in the source: it is written as it is
  have hesc : LexAux.esc 47 p.src = p.src := LexAux.esc_plain 47 fun c hc => (hsrc c hc).1.2
  have hc := LexAux.collect_esc (d := 47) (by decide) (fl ++ rest) p.src [] ((p.src ++ 47 :: (fl ++ rest)).length + 1)
    (fun h => (hsrc 92 (List.mem_of_getLast? h)).2 rfl)
    (by simp only [List.length_nil, BUFSIZ]; omega) (by rw [hesc]; simp only [List.length_append]; omega)
  rw [hesc] at hc
  have hcs : cstr p.src = p.src := cstr_of_no_nul (fun x hx h0 => (hsrc x hx).1.1.1 h0)
  have hpf := patFlags_printed p.icase p.lcase p.ucase hlu' rest hr ((fl ++ rest).length + 1)
    (by simp only [fl, List.length_append]; omega)
  rw [hbytes]
  rw [LexAux.lex1_start _ _ _ _ (by decide) (by decide), if_neg (by decide)]
  unfold lex1.lexTok
  have h34 : ((47 : UInt8) == 34) = false := by decide
  simp only [h34, Bool.false_eq_true, if_false, if_true, hc, List.nil_append, hcs]
  have hpf' : patFlags ((fl ++ rest).length + 1) (fl ++ rest) false false false 0 = ((p.icase, p.lcase, p.ucase), rest, 0) := hpf
  rw [hpf']
  simp

/-- 27: the number of constructors of `Model.Kw`. -/
theorem Kw.forall {P : Kw → Prop} (h : ∀ n < 27, P (Kw.ofNat n)) (k : Kw) : P k :=
  Kw.ofNat_ctorIdx k ▸ h _ (by cases k <;> decide)

theorem kw_entry (k : Kw) : (kwText k, Cfg.kwSym k) ∈ Gen.keywords ∧ Kw.ofName (Cfg.kwSym k) = some k ∧
    countNl (kwText k).toUTF8.toList = 0 := by
  revert k
  exact Kw.forall (by decide +kernel)

theorem strOK_no_dollar {b : Bytes} (h : strOK b = true) : (36 : UInt8) ∉ b := by
  simp only [strOK, Bool.and_eq_true, List.all_eq_true, bne_iff_ne, ne_eq] at h
  exact fun hm => (h.1.1.1.2 _ hm).2 rfl

theorem strLexOK_facts {b : Bytes} (h : strLexOK b = true) :
    b ≠ [] ∧ (0 : UInt8) ∉ b ∧ (10 : UInt8) ∉ b ∧ b.head? ≠ some 126 ∧ b.getLast? ≠ some 92 ∧ b.length < BUFSIZ - 1 := by
  simp only [strLexOK, Bool.and_eq_true, Bool.not_eq_true', List.all_eq_true, bne_iff_ne, ne_eq, decide_eq_true_eq] at h
  obtain ⟨⟨⟨⟨h1, h2⟩, h3⟩, h4⟩, h5⟩ := h
  refine ⟨?_, fun h => (h2 _ h).1 rfl, fun h => (h2 _ h).2 rfl, h3, h4, ?_⟩
  · intro hb; subst hb; simp at h1
  · simp only [BUFSIZ]; omega

/-- The lexer reads back the bytes of a written token in front of ANY text `rest` that is empty or starts with a blank:
one lemma of Proofs/Lex.lean, Proofs/LexLiteral.lean or above per form of token. -/
theorem lex_tok_bytes (t : PTok) (rest : Bytes) (pf sf : Bool) (hok : lexOK t = true) (hm : modeOK pf sf t = true)
    (hr : ∀ c, rest.head? = some c → c = 32) :
    ∃ tok, lex1 pf sf false (t.bytes ++ rest) = { tok := tok, rest := rest, errors := 0 } ∧
      Tk.ofToken tok = tkOf t ∧ (match tok with | .macro _ => true | _ => false) = false := by
  cases t with
  | kw k =>
    obtain rfl : pf = false := by simpa [modeOK] using hm
    exact ⟨.keyword (Cfg.kwSym k), lex_keyword sf _ _ rest (kw_entry k).1 fun c hc => by rw [hr c hc]; decide,
      by simp [Tk.ofToken, (kw_entry k).2.1, tkOf], rfl⟩
  | str b =>
    obtain ⟨hne, hnul, _, _, hlast, hlen⟩ := strLexOK_facts (by simpa [lexOK] using hok)
    -- `lex_string_roundtrip` is about `Proofs.escapeQuote`, `PTok.bytes` uses `Spec.quote`: the same function (`rfl`)
    exact ⟨.str b, lex_string_roundtrip pf sf b rest hne hnul hlast hlen, rfl, rfl⟩
  | int n =>
    obtain rfl : pf = false := by simpa [modeOK] using hm
    exact ⟨.int n, (lex_int sf n rest fun c hc => by rw [hr c hc]; decide).1 (by simpa [lexOK, tokOK] using hok), rfl, rfl⟩
  | seconds =>
    obtain ⟨rfl, rfl⟩ : pf = false ∧ sf = true := by simpa [modeOK] using hm
    exact ⟨.scalar (some 1), lex1_seconds rest hr, rfl, rfl⟩
  | pat p =>
    obtain rfl : pf = true := by simpa [modeOK] using hm
    exact ⟨.pattern p.src p.icase p.lcase p.ucase, lex1_pattern sf p (by simpa [lexOK, tokOK] using hok) rest hr, rfl, rfl⟩
  | bang => exact ⟨.neg, lex1_bang pf sf rest, rfl, rfl⟩
  | lbrace | rbrace | lparen | rparen | lt | gt =>
    obtain rfl : pf = false := by simpa [modeOK] using hm
    exact ⟨_, lex1_punct sf _ rest (by simp), by decide, rfl⟩

/-- The first byte of a written token starts a token: no blank, no `#`. -/
theorem tok_first (t : PTok) :
    ∃ c r, t.bytes = c :: r ∧ isspace c = false ∧ (c == 35) = false := by
  cases t with
  | kw k =>
    have hk := (kw_entry k).1
    have hok := List.all_eq_true.mp LexAux.kw_table _ hk
    simp only [LexAux.kwOk, Bool.and_eq_true, decide_eq_true_eq, beq_iff_eq] at hok
    obtain ⟨⟨⟨_, _⟩, hhead⟩, _⟩ := hok
    cases hbs : (kwText k).toUTF8.toList with
    | nil => rw [hbs] at hhead; simp at hhead
    | cons c t =>
      rw [hbs] at hhead
      simp only at hhead
      obtain ⟨h1, _, h3, _, _⟩ := LexAux.islower_facts c hhead
      exact ⟨c, t, hbs, h1, h3⟩
  | int n =>
    obtain ⟨ds, hbytes, hne, hdig, _⟩ := LexAux.toString_bytes n
    cases ds with
    | nil => exact absurd rfl hne
    | cons c r =>
      have hc := LexAux.isdigit_facts c (hdig c (by simp))
      exact ⟨c, r, hbytes, hc.1, hc.2.2.1⟩
  | str b => exact ⟨34, _, rfl, by decide, by decide⟩
  | seconds => exact ⟨115, _, rfl, by decide, by decide⟩
  | pat p => exact ⟨47, _, by simp only [PTok.bytes, List.cons_append, List.nil_append, List.append_assoc]; rfl, by decide, by decide⟩
  | bang => exact ⟨33, _, rfl, by decide, by decide⟩
  | lbrace => exact ⟨123, _, rfl, by decide, by decide⟩
  | rbrace => exact ⟨125, _, rfl, by decide, by decide⟩
  | lparen => exact ⟨40, _, rfl, by decide, by decide⟩
  | rparen => exact ⟨41, _, rfl, by decide, by decide⟩
  | lt => exact ⟨60, _, rfl, by decide, by decide⟩
  | gt => exact ⟨62, _, rfl, by decide, by decide⟩

/-- The same behind the blank `Spec.render` writes in front of every token. -/
theorem lex_tok_tl (t : PTok) (rest : Bytes) (pf sf : Bool) (hok : lexOK t = true) (hm : modeOK pf sf t = true)
    (hr : ∀ c, rest.head? = some c → c = 32) :
    ∃ tok, lex1 pf sf false (32 :: (t.bytes ++ rest)) = { tok := tok, rest := rest, errors := 0 } ∧
      Tk.ofToken tok = tkOf t ∧ (match tok with | .macro _ => true | _ => false) = false := by
  obtain ⟨c, r, hb, h1, h2⟩ := tok_first t
  have := lex_tok_bytes t rest pf sf hok hm hr
  rw [hb, List.cons_append] at this ⊢
  rwa [lex1_blank _ _ _ _ h1 h2]

theorem lex_tok (t : PTok) (ts : List PTok) (pf sf : Bool) (hok : tokOK t = true) (hm : modeOK pf sf t = true) :
    ∃ tok, lex1 pf sf false (Spec.render (t :: ts)) = { tok := tok, rest := Spec.render ts, errors := 0 } ∧
      Tk.ofToken tok = tkOf t ∧ (match tok with | .macro _ => true | _ => false) = false := by
  rw [render_cons]
  exact lex_tok_tl t (Spec.render ts) pf sf (lexOK_of_tokOK hok) hm (by simpa using render_tl_head ts (tl := []) (by simp))

/-- `yylval.lineno` of a token written after one blank: the line the lexer stands on. -/
theorem tokLineOf_blank (nl : Nat) (c : UInt8) (r : Bytes) (h1 : isspace c = false) (h2 : (c == 35) = false) :
    tokLineOf nl (32 :: c :: r) = lineOf nl (c :: r) := by
  have h32 : isspace 32 = true := by decide
  have hc : c ≠ 35 := by simpa using h2
  unfold tokLineOf
  simp only [List.length_cons, skipBlank, List.dropWhile_cons, h32, h1, if_true, Bool.false_eq_true, if_false]
  split
  · rename_i heq; simp only [List.cons.injEq] at heq; exact absurd heq.1 hc
  · simp [lineOf, countNl]

end Mdsort.Proofs.Conf
