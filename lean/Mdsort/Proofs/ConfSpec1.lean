import Mdsort.Proofs.ConfCfg2
import Mdsort.Proofs.ConfWf

/-!
# What every parser function keeps, part 1: the monad, tokens, strings, patterns, dates, exec options

One pass over the functions of Model/Conf.lean carries the three facts every statement about "all
accepted files" rests on: fewer tokens can still be shifted than the recursion budget allows (`mu`) and the
lexer is called at most `input.length + 1` times (`phi`, the potential); a lookahead token read without a
diagnostic (`laClean`); and the kinds of the tokens consumed (`Back`).
The rules (`AccG.bind`, `.peek`, `.eat`, `.line`, `.expandAll`, `.pure`, `.fail` ..) follow the text of a
parser function step by step; no state is named.  The words are right-nested as `DerivesL.cons` nests them - the
kind of a shifted token `:: `, what a sub-parser consumed `++` - so a derivation built from the facts of the steps
has the word the rule expects.
-/

namespace Mdsort.Proofs.Conf
open Mdsort Mdsort.Model Mdsort.Spec Mdsort.Spec.Cfg Mdsort.Proofs.MainText Mdsort.Proofs.Cfg

/-- The token budget and the potential (`Inv`) as a triple of their own, beside `MainText.Safe` (`laClean`) and `Cfg.Uses`
(`Back`).  It stands for itself: the parser functions are proved for `Acc` below, whose precondition asks for all three, and no
lemma passes from `Acc` to this.  (In this file a name `Spec.x` is looked up in this `Conf.Spec` before the opened namespace `Mdsort.Spec`; nothing but
`Spec.weaken` is written that way here.) -/
def Spec {α : Type} (n B : Nat) (p : PM α) (W : α → Prop) : Prop :=
  ∀ s, Inv n B s → wp p (fun a s' => Inv n B s' ∧ W a) (fun s' => phi s' ≤ B) False s

theorem Spec.weaken {α : Type} {n B : Nat} {p : PM α} {W W' : α → Prop} (h : Spec n B p W) (hw : ∀ a, W a → W' a) :
    Spec n B p W' := fun s hs => wp_mono (h s hs) (fun a _ ⟨h1, h2⟩ => ⟨h1, hw a h2⟩) (fun _ h => h)

/-- What holds of the state between two parser functions. -/
structure Ready (B : Nat) (s : ParseSt) : Prop where
  pot : phi s ≤ B
  clean : laClean s

def Sees (la : Option Tk) (s : ParseSt) : Prop := ∀ t, la = some t → s.la = some t

/-- From a `Ready` state in which fewer than `m` tokens can still be shifted (and whose lookahead token is the one `la`
names, if any), `p` never exhausts its recursion budget (`F := False`), leaves the potential at most `B` when it reports a
diagnostic, and otherwise ends in a `Ready` state in which no more tokens can be shifted than before - at least one fewer if
`strict` -, with the lookahead `la'` names, and returns `a` after consuming tokens of kinds `w` with `W a w`.
This is the general form; the parser functions are stated with its two instances `Acc` and `AccAt`.  `la'` is `none`
(nothing said) everywhere but for `parseTop`, which ends with the end of the input in hand (`some .eof`): that is what
makes the consumed kinds the kinds of the WHOLE text in `parseConfigFull_acc`. -/
def AccG {α : Type} (m : Nat) (strict : Bool) (B : Nat) (la la' : Option Tk) (p : PM α) (W : α → List Sym → Prop) : Prop :=
  ∀ s, Ready B s → mu s < m → Sees la s →
    wp p (fun a s' => ∃ w, (Ready B s' ∧ mu s' + strict.toNat ≤ mu s ∧ Sees la' s') ∧ Back s s' w ∧ W a w)
      (fun s' => phi s' ≤ B) False s

/-- A parser function, whatever the lookahead. -/
abbrev Acc {α : Type} (m B : Nat) (p : PM α) (W : α → List Sym → Prop) : Prop := AccG m false B none none p W

/-- A parser that starts by shifting the lookahead token `t`. -/
abbrev AccAt {α : Type} (m B : Nat) (t : Tk) (p : PM α) (W : α → List Sym → Prop) : Prop := AccG m true B (some t) none p W

variable {α β : Type} {m m' B : Nat} {strict : Bool} {la la' : Option Tk} {W : α → List Sym → Prop} {s : ParseSt}

/-! The rules are named after the operation they are about (`AccG.pure`, `.peek`, `.shift` ..).  Inside `theorem AccG.x` the
namespace `AccG` is open, so the model's operations are written `Model.peek`, `Model.shift`, `Model.failAt`,
`Model.expandOne` .., `Pure.pure` in the statements below: the bare names would mean the rules. -/

theorem Ready.macros (h : Ready B s) (ms : List Macro) : Ready B { s with macros := ms } := ⟨h.pot, h.clean⟩

theorem Sees.none : Sees none s := fun _ h => by cases h

theorem AccG.zero {p : PM α} : AccG 0 strict B la la' p W := fun _ _ h => absurd h (Nat.not_lt_zero _)

theorem AccG.mono {p : PM α} (h : AccG m strict B la la' p W) (hm : m' ≤ m) : AccG m' strict B la la' p W :=
  fun s hs hlt => h s hs (Nat.lt_of_lt_of_le hlt hm)

theorem AccG.fail : AccG m strict B la la' (failTok : PM α) W := fun _ hs _ _ => hs.pot

theorem AccG.failAt (l : Nat) : AccG m strict B la la' (Model.failAt l : PM α) W := fun _ hs _ _ => hs.pot

theorem AccG.pure {a : α} (h : W a []) : AccG m false B la none (pure a) W :=
  fun s hs _ _ => ⟨[], ⟨hs, Nat.le_refl _, .none⟩, Back.refl s, h⟩

/-- `pure` leaves the lookahead where it is. -/
theorem AccG.pureLa {a : α} (h : W a []) : AccG m false B la la (Pure.pure a) W :=
  fun s hs _ hla => ⟨[], ⟨hs, Nat.le_refl _, hla⟩, Back.refl s, h⟩

theorem AccG.bind {p : PM β} {W1 : β → List Sym → Prop} {k : β → PM α} {la1 : Option Tk} (h : AccG m strict B la la1 p W1)
    (hk : ∀ a w1, W1 a w1 → AccG (m - strict.toNat) false B none la' (k a) fun b w2 => W b (w1 ++ w2)) :
    AccG m strict B la la' (p >>= k) W := by
  intro s hs hlt hla
  rw [wp_bind]
  refine wp_mono (h s hs hlt hla) (fun a s1 ⟨w1, ⟨h1, l1, _⟩, b1, g1⟩ => ?_) (fun _ h => h)
  refine wp_mono (hk a w1 g1 s1 h1 (by omega) .none) (fun b s2 ⟨w2, ⟨h2, l2, a2⟩, b2, g2⟩ => ?_) (fun _ h => h)
  exact ⟨_, ⟨h2, by simp only [Bool.toNat_false] at l2; omega, a2⟩, b1.trans b2, g2⟩

theorem AccG.weaken {p : PM α} {W' : α → List Sym → Prop} (h : AccG m strict B la la' p W) (hw : ∀ a w, W a w → W' a w) :
    AccG m strict B la la' p W' :=
  fun s hs hlt hla => wp_mono (h s hs hlt hla) (fun a _ ⟨w, h1, h2, h3⟩ => ⟨w, h1, h2, hw a w h3⟩) (fun _ h => h)

theorem AccG.le {p : PM α} (h : AccG m true B la la' p W) : AccG m strict B la la' p W :=
  fun s hs hlt hla => wp_mono (h s hs hlt hla)
    (fun _ _ ⟨w, ⟨h1, l1, a1⟩, h2⟩ =>
      ⟨w, ⟨h1, by cases strict <;> simp only [Bool.toNat_true, Bool.toNat_false] at l1 ⊢ <;> omega, a1⟩, h2⟩)
    (fun _ h => h)

theorem AccG.anyLa {p : PM α} (h : AccG m strict B none la' p W) : AccG m strict B la la' p W := fun s hs hlt _ => h s hs hlt .none

theorem AccG.clean {t : Tk} {p : PM α} (h : tkClean t = true → AccG m strict B (some t) la' p W) :
    AccG m strict B (some t) la' p W :=
  fun s hs hlt hla => h (hs.clean t (hla t rfl)) s hs hlt hla

/-- `peek`: the token is the lookahead afterwards, and nothing is consumed if the lexer was in the plain mode or in the
mode for this token. -/
theorem peek_ready (cx : PCtx) (pf sf : Bool) (hs : Ready B s) :
    wp (peek cx pf sf) (fun t s' => Ready B s' ∧ mu s' ≤ mu s ∧ s'.la = some t ∧
        ((pf = false ∧ sf = false) ∨ (t ≠ .eof ∧ pf = (tkKind t == "PATTERN") ∧ sf = (tkKind t == "SCALAR")) → Back s s' []))
      (fun s' => phi s' ≤ B) False s := by
  cases hla : s.la with
  | some t => rw [wp_ok (peek_la hla)]; exact ⟨hs, Nat.le_refl _, hla, fun _ => Back.refl s⟩
  | none =>
    have hi := Inv.afterLex (n := mu s) cx pf sf ⟨Nat.le_refl _, hs.pot⟩ hla
    by_cases herr : (lex1 pf sf s.afterMacro s.rest).errors > 0
    · rw [wp_err (by rw [peek_lex hla, if_pos herr])]; exact hi.2
    · rw [wp_ok (by rw [peek_lex hla, if_neg herr])]
      have he : (lex1 pf sf s.afterMacro s.rest).errors = 0 := by omega
      refine ⟨⟨hi.2, laClean_afterLex cx _ _ s he⟩, hi.1, rfl, fun hm => ?_⟩
      rcases hm with ⟨rfl, rfl⟩ | ⟨h3, h1, h2⟩
      · exact back_unpeek cx false false s hla he
          (fun _ _ => ⟨(plain_mode _ _).1.symm, (plain_mode _ _).2.symm⟩) (fun _ => ⟨rfl, rfl⟩)
      · exact back_unpeek cx pf sf s hla he (fun _ _ => ⟨h1, h2⟩) (fun heof => absurd ((ofToken_eof _).2 heof) h3)

/-- `peek` in pattern or unit mode: nothing is consumed if the token the mode is for (`want`) comes back; the parser
refuses every other token. -/
theorem AccG.peekMode {cx : PCtx} {pf sf : Bool} (want : Tk → Prop) {f : Tk → PM α}
    (hm : ∀ t, want t → (pf = false ∧ sf = false) ∨ (t ≠ .eof ∧ pf = (tkKind t == "PATTERN") ∧ sf = (tkKind t == "SCALAR")))
    (hk : ∀ t, want t → AccG m false B (some t) la' (f t) W) (hno : ∀ t, ¬want t → f t = failTok) :
    AccG m false B none la' (Model.peek cx pf sf >>= f) W := by
  intro s hs hlt _
  rw [wp_bind]
  refine wp_mono (peek_ready cx pf sf hs) (fun t s1 ⟨h1, l1, hla, hb⟩ => ?_) (fun _ h => h)
  by_cases hw : want t
  · exact wp_mono (hk t hw s1 h1 (Nat.lt_of_le_of_lt l1 hlt) (fun _ h => by cases h; exact hla))
      (fun a s' ⟨w, ⟨g1, l2, g2⟩, g3, g4⟩ =>
        ⟨w, ⟨g1, Nat.le_trans l2 l1, g2⟩, ((hb (hm t hw)).trans g3).cast (List.nil_append w), g4⟩)
      (fun _ h => h)
  · rw [hno t hw]; exact h1.pot

theorem AccG.peek {cx : PCtx} {f : Tk → PM α} (hk : ∀ t, AccG m false B (some t) la' (f t) W) :
    AccG m false B none la' (Model.peek cx false false >>= f) W :=
  .peekMode (fun _ => True) (fun _ _ => .inl ⟨rfl, rfl⟩) (fun t _ => hk t) (fun _ h => absurd trivial h)

/-- `shift` of a token a rule mentions: one token fewer to go, its kind is consumed. -/
theorem AccAt.shift {t : Tk} (ht : t ≠ .eof) (ho : isOther t = false) : AccAt m B t Model.shift fun _ w => w = [tkKind t] := by
  intro s hs _ hla
  have hla := hla t rfl
  rw [wp_ok (shift_tok hla ht)]
  obtain ⟨hi, hpos⟩ := Inv.shift (n := mu s) ⟨Nat.le_refl _, hs.pot⟩ hla ht
  refine ⟨_, ⟨⟨hi.2, fun t' ht' => (by cases ht')⟩, ?_, .none⟩, ?_, rfl⟩
  · have := hi.1; simp only [Bool.toNat_true]; omega
  · intro ts hrem
    simp only [Rem] at hrem
    show Rem s ([tkKind t] ++ ts)
    simp only [Rem, hla]
    exact Or.inr ⟨ht, ho, ts, rfl, hrem⟩

theorem AccG.eat {t : Tk} {k : PM α} (ht : t ≠ .eof) (ho : isOther t = false)
    (hk : AccG (m - 1) false B none la' k fun a w => W a (tkKind t :: w)) :
    AccG m strict B (some t) la' (Model.shift >>= fun _ => k) W :=
  ((AccAt.shift ht ho).bind fun _ _ h => by subst h; exact hk).le

theorem AccG.line {cx : PCtx} {k : Nat → PM α} (hk : ∀ l, AccG m strict B la la' (k l) W) :
    AccG m strict B la la' (curLine cx >>= k) W :=
  fun s hs hlt hla => by rw [wp_bind]; exact hk _ s hs hlt hla

theorem AccG.expandOne {cx : PCtx} {action : Bool} {str : Bytes} {k : Bytes → PM α} (hk : ∀ v, AccG m strict B la la' (k v) W) :
    AccG m strict B la la' (Model.expandOne cx action str >>= k) W := by
  intro s hs hlt hla
  rw [wp_bind]
  unfold wp Model.expandOne
  cases expandStr cx.pathMax cx.home action s.macros str with
  | none => exact hs.pot
  | some r => exact hk r.1 _ (hs.macros _) hlt hla

theorem AccG.expandAll {cx : PCtx} {action : Bool} {strs : List Bytes} {k : List Bytes → PM α}
    (hk : ∀ v, AccG m strict B la la' (k v) W) : AccG m strict B la la' (Model.expandAll cx action strs >>= k) W := by
  intro s hs hlt hla
  rw [wp_bind]
  unfold wp Model.expandAll
  cases expandStrs cx.pathMax cx.home action s.macros strs with
  | none => exact hs.pot
  | some r => exact hk r.1 _ (hs.macros _) hlt hla

theorem AccG.expandMac {action : Bool} {str : Bytes} {k : Bytes → PM α} (hk : ∀ v, AccG m strict B la la' (k v) W) :
    AccG m strict B la la' (Model.expandMac action str >>= k) W := by
  intro s hs hlt hla
  rw [wp_bind]
  unfold wp Model.expandMac
  cases expandMacros action (str.length + 1) str s.macros [] with
  | none => exact hs.pot
  | some r => exact hk r.1 _ (hs.macros _) hlt hla

theorem expectTk_acc {cx : PCtx} (tk : Tk) (htk : tk ≠ .eof) (ho : isOther tk = false) {m B : Nat} :
    Acc m B (expectTk cx tk) (fun _ w => w = [tkKind tk]) := by
  unfold expectTk
  refine .peek fun t => ?_
  split
  · rename_i heq
    subst heq
    exact (AccAt.shift htk ho).le
  · exact .fail

theorem parseStr_acc {cx : PCtx} {m B : Nat} : Acc m B (parseStr cx) (fun _ w => w = ["STRING"]) := by
  unfold parseStr
  refine .peek fun t => ?_
  cases t <;> try exact .fail
  exact .eat (by simp) rfl (.pure rfl)

theorem parseStringBlock_acc {cx : PCtx} {B : Nat} : ∀ (fuel : Nat) (acc : List Bytes),
    Acc fuel B (parseStringBlock cx fuel acc) (fun _ w => ∃ l : List Bytes, w = (l.map fun _ => "STRING") ++ ["'}'"]) := by
  intro fuel
  induction fuel with
  | zero => exact fun _ => .zero
  | succ fuel ih =>
    intro acc
    unfold parseStringBlock
    refine .peek fun t => ?_
    cases t <;> try exact .fail
    · -- a string
      rename_i b
      exact .eat (by simp) rfl ((ih _).weaken fun _ w ⟨l, hl⟩ => ⟨b :: l, by simp [hl, tkKind]⟩)
    · -- `}`
      exact .eat (by simp) rfl (.pure ⟨[], rfl⟩)

theorem parseStrings_acc {cx : PCtx} {fuel B : Nat} :
    Acc fuel B (parseStrings cx fuel) (fun _ w => Derives GP "strings" w) := by
  unfold parseStrings
  refine .peek fun t => ?_
  cases t <;> try exact .fail
  · -- a bare string
    exact .eat (by simp) rfl (.pure (Derives.node p_strings_string (.cons (.leaf t_string) .nil)))
  · -- `{`
    refine .eat (by simp) rfl (((parseStringBlock_acc fuel []).mono (Nat.sub_le _ _)).weaken fun _ w ⟨l, hl⟩ => ?_)
    exact (strings_parses l).derives.cast (by rw [strsToks_kinds, hl]; rfl)

theorem parsePattern_acc {cx : PCtx} {m B : Nat} :
    Acc m B (parsePattern cx) (fun p w => (p.lcase && p.ucase) = false ∧ Derives GP "pattern" w) := by
  unfold parsePattern
  refine .peekMode (fun t => ∃ p, t = .pat p) (fun t ⟨p, hp⟩ => by subst hp; exact .inr ⟨by simp, rfl, rfl⟩)
    (fun t ⟨p, hp⟩ => ?_) (fun t ht => ?_)
  · subst hp
    refine .clean fun hc => .eat (by simp) rfl (.pure ⟨?_, pattern_parses.derives⟩)
    cases hl : p.lcase <;> cases hu : p.ucase <;> simp_all [tkClean]
  · cases t <;> first | rfl | exact absurd ⟨_, rfl⟩ ht

theorem checkPattern_acc {cx : PCtx} {p : Pat} {m B : Nat} :
    Acc m B (checkPattern cx p) (fun _ w => cx.rxOk p = true ∧ w = []) := by
  unfold checkPattern
  split
  · rename_i h; exact .pure ⟨h, rfl⟩
  · exact .fail

theorem parseDateField_acc {cx : PCtx} {m B : Nat} : Acc m B (parseDateField cx) (fun _ w => Derives GP "date_field" w) := by
  unfold parseDateField
  refine .peek fun t => ?_
  have hdef : AccG m false B (some t) none (pure DateField.header) (fun _ w => Derives GP "date_field" w) :=
    .pure (Derives.node p_date_field_empty .nil)
  cases t <;> try exact hdef
  rename_i k
  cases k <;> try exact hdef
  -- `access`, `created`, `header`, `modified`: the order of the constructors of `Model.Kw`
  · exact .eat (by simp) rfl (.pure (Derives.node p_date_field_access (.cons (.leaf t_access) .nil)))
  · exact .eat (by simp) rfl (.pure (Derives.node p_date_field_created (.cons (.leaf t_created) .nil)))
  · exact .eat (by simp) rfl (.pure (Derives.node p_date_field_header (.cons (.leaf t_header) .nil)))
  · exact .eat (by simp) rfl (.pure (Derives.node p_date_field_modified (.cons (.leaf t_modified) .nil)))

theorem parseDateCmp_acc {cx : PCtx} {m B : Nat} : Acc m B (parseDateCmp cx) (fun _ w => Derives GP "date_cmp" w) := by
  unfold parseDateCmp
  refine .peek fun t => ?_
  cases t <;> try exact .fail
  · exact .eat (by simp) rfl (.pure (Derives.node p_date_cmp_lt (.cons (.leaf t_lt) .nil)))
  · exact .eat (by simp) rfl (.pure (Derives.node p_date_cmp_gt (.cons (.leaf t_gt) .nil)))

theorem parseInt_acc {cx : PCtx} {m B : Nat} : Acc m B (parseInt cx) (fun k w => k < 2 ^ 32 ∧ w = ["INT"]) := by
  unfold parseInt
  refine .peek fun t => ?_
  cases t <;> try exact .fail
  exact .clean fun hc => .eat (by simp) rfl (.pure ⟨by simpa [tkClean] using hc, rfl⟩)

theorem parseScalar_acc {cx : PCtx} {m B : Nat} :
    Acc m B (parseScalar cx) (fun v w => v ∈ unitValues ∧ Derives GP "scalar" w) := by
  unfold parseScalar
  refine .peekMode (fun t => ∃ v, t = .scalar (some v)) (fun t ⟨v, hv⟩ => by subst hv; exact .inr ⟨by simp, rfl, rfl⟩)
    (fun t ⟨v, hv⟩ => ?_) (fun t ht => ?_)
  · subst hv
    exact .clean fun hc => .eat (by simp) rfl
      (.pure ⟨by simpa [tkClean, List.contains_iff_mem] using hc, scalar_parses.derives⟩)
  · cases t <;> try rfl
    rename_i v
    cases v <;> first | rfl | exact absurd ⟨_, rfl⟩ ht

theorem parseOptNeg_acc {cx : PCtx} {m B : Nat} : Acc m B (parseOptNeg cx) (fun _ w => Derives GP "optneg" w) := by
  unfold parseOptNeg
  refine .peek fun t => ?_
  have hdef : AccG m false B (some t) none (pure false) (fun _ w => Derives GP "optneg" w) := .pure (Derives.node p_optneg_empty .nil)
  cases t <;> try exact hdef
  exact .eat (by simp) rfl (.pure (Derives.node p_optneg_neg (.cons (.leaf t_neg) .nil)))

theorem exec_flags_snoc {k : Sym} {w : List Sym} (hk : Derives GP "exec_flag" [k]) (hw : Extends "exec_flags" w) :
    Extends "exec_flags" (k :: w) := fun pre hpre =>
  (hw _ (Derives.node p_exec_flags_exec_flags_exec_flag (.cons hpre (.cons hk .nil)))).cast (by simp)

theorem parseExecFlags_acc {cx : PCtx} {B : Nat} : ∀ (fuel : Nat) (si bo : Bool),
    Acc fuel B (parseExecFlags cx fuel si bo) (fun _ w => Extends "exec_flags" w) := by
  intro fuel
  induction fuel with
  | zero => exact fun _ _ => .zero
  | succ fuel ih =>
    intro si bo
    unfold parseExecFlags
    refine .peek fun t => ?_
    have hdef : AccG (fuel + 1) false B (some t) none (pure (si, bo)) (fun _ w => Extends "exec_flags" w) :=
      .pure (Extends.nil _)
    cases t <;> try exact hdef
    rename_i k
    cases k <;> try exact hdef
    · refine .eat (by simp) rfl ?_
      split
      · exact .fail
      · exact (ih _ _).weaken fun _ _ => exec_flags_snoc (Derives.node p_exec_flag_body (.cons (.leaf t_body) .nil))
    · refine .eat (by simp) rfl ?_
      split
      · exact .fail
      · exact (ih _ _).weaken fun _ _ => exec_flags_snoc (Derives.node p_exec_flag_stdin (.cons (.leaf t_stdin) .nil))

def TreeOK (cx : PCtx) (k : Kind) (t : CTree) : Prop := wfK cx.rxOk k t = true ∧ treeClean t

/-- What is known of a tree the parser returns.  (`W..`: a postcondition `W a w` of `Acc`, on the value and the consumed kinds; so
`Wblock`, `Wacts` in Proofs/ConfSpec2.lean.) -/
def Wtree (cx : PCtx) (k : Kind) (x : Sym) (t : CTree) (w : List Sym) : Prop := TreeOK cx k t ∧ Derives GP x w

theorem parseDate_acc {cx : PCtx} {m B : Nat} :
    Acc m B (parseDate cx) (fun t w => Wtree cx .cond "expr3" t ("DATE" :: w)) := by
  unfold parseDate
  refine .bind parseDateField_acc fun field w1 g1 => ?_
  refine .bind parseDateCmp_acc fun cmp w2 g2 => ?_
  refine .bind parseInt_acc fun k w3 ⟨hk, g3⟩ => ?_
  refine .bind parseScalar_acc fun v w4 ⟨hv, g4⟩ => ?_
  split
  · exact .fail
  · rename_i hlt
    subst g3
    refine .line fun l => .pure ⟨⟨?_, ⟨k, v, rfl, hk, hv⟩⟩, ?_⟩
    · simp only [wfK, isCondLeaf, leafOK, Bool.true_and, decide_eq_true_eq]
      omega
    · have ha : Derives GP "date_age" ("INT" :: (w4 ++ [])) :=
        Derives.node p_date_age_int_scalar (.cons (.leaf t_int) (.cons g4 .nil))
      exact (Derives.node p_expr3_date_date_field_date_cmp_date_age
        (.cons (.leaf t_date) (.cons g1 (.cons g2 (.cons ha .nil))))).cast (by simp)

theorem leafAt_acc {cx : PCtx} {mk : Nat → Expr} {P : CTree → Prop} (hP : ∀ l, P (.leaf (mk l))) {m B : Nat} :
    Acc m B (leafAt cx mk) (fun t w => P t ∧ w = []) := by
  unfold leafAt
  exact .line fun l => .pure ⟨hP l, rfl⟩

end Mdsort.Proofs.Conf
