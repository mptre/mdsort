import Mdsort.Proofs.ExecSeqTop

/-!
# The content of the entry and the content of the descriptor

The ghost field `MsgSt.content` ("what the file the message's ENTRY is bound to contains") along a
prefix of the action list, for lists without move / flag / flags: it is the content produced by the
rewriting actions, i.e. what the message's DESCRIPTOR refers to.  (After a copy across devices the
two differ: `C13_exec_stdin_sees_content_false`.)
-/

namespace Mdsort.Proofs.ExecSeq
open Mdsort Mdsort.Model Mdsort.Spec Mdsort.Proofs.World

theorem All.runW {α} {P : α → Prop} {p : Prog α} (h : All P p) (orc : Nat → Call → Res) (w : World) (i : Nat) :
    P (runW orc p w i).1 := by
  induction p generalizing w i with
  | ret a => exact h
  | call c k ih => exact ih _ (h _) _ _

theorem all_execOne_content (env : PEnv) (mh : Match) (st : ExecSt)
    (hnm : mh.ty ≠ .move ∧ mh.ty ≠ .flag ∧ mh.ty ≠ .flags) :
    All (fun r => r.2 = false →
        r.1.ms.content = (if isRewrite mh = true then (messageWrite st.ms.msg).1 else st.ms.content) ∧ r.1.ms.msg = st.ms.msg)
      (execOne env mh st) := by
  by_cases hw : mh.ty = .label ∨ mh.ty = .addHeader
  · rw [execOne_write env mh st hw, isRewrite_iff.2 hw]
    refine All.bind_mono (val_maildirWrite env st.src st.ms) ?_
    rintro ⟨ms', e⟩ h he
    exact ⟨(h.2 he).1, h.1⟩
  -- every other entry is no rewrite and leaves `content` and `msg` as they are
  simp only [Bool.eq_false_iff.2 (mt isRewrite_iff.1 hw), Bool.false_eq_true, if_false]
  rcases execOne_ty_cases mh.ty with h | h | h | h | h | h
  · rcases h with h | h | h
    · exact absurd h hnm.1
    · exact absurd h hnm.2.1
    · exact absurd h hnm.2.2
  · rw [execOne_discard env mh st h]
    refine All.bind_of_forall _ fun e he => ?_
    dsimp only at he ⊢
    subst he
    exact ⟨rfl, rfl⟩
  · exact absurd h hw
  · rw [execOne_reject env mh st h]
    exact fun _ => ⟨rfl, rfl⟩
  · rw [execOne_exec env mh st h]
    refine All.bind_of_forall _ fun fdr => ?_
    split
    · intro h; cases h
    · refine All.bind_of_forall _ fun rc => ?_
      split
      · exact fun _ _ => ⟨rfl, rfl⟩
      · exact fun _ => ⟨rfl, rfl⟩
  · rw [execOne_other env mh st h]
    exact fun _ => ⟨rfl, rfl⟩

theorem all_execList_content (env : PEnv) (pre : MatchList) (st : ExecSt)
    (hnm : ∀ m ∈ pre, m.ty ≠ .move ∧ m.ty ≠ .flag ∧ m.ty ≠ .flags) :
    All (fun r => r.2 = false → r.1.ms.content = rewrittenBefore pre st.ms.msg st.ms.content ∧ r.1.ms.msg = st.ms.msg)
      (execList env pre st) := by
  induction pre generalizing st with
  | nil => intro _; exact ⟨by simp [rewrittenBefore], rfl⟩
  | cons mh rest ih =>
    unfold execList
    refine All.bind_mono (all_execOne_content env mh st (hnm mh (List.mem_cons_self ..))) ?_
    rintro ⟨st1, e⟩ h1
    dsimp only at h1 ⊢
    split
    · intro h; cases h
    · rename_i he
      have he' : e = false := by simpa using he
      obtain ⟨hc1, hm1⟩ := h1 he'
      refine All.mono (ih st1 (fun m hm => hnm m (List.mem_cons_of_mem _ hm))) ?_
      intro r hr hre
      obtain ⟨hc2, hm2⟩ := hr hre
      refine ⟨?_, hm2.trans hm1⟩
      rw [hc2, rewrittenBefore_cons, hm1, hc1]

theorem all_uptoFork_content (env : PEnv) (pre : MatchList) (mh : Match) (st : ExecSt)
    (hnm : ∀ m ∈ pre, m.ty ≠ .move ∧ m.ty ≠ .flag ∧ m.ty ≠ .flags) :
    All (fun r => ∀ st' fd, r = .fork st' fd → st'.ms.content = rewrittenBefore pre st.ms.msg st.ms.content)
      (uptoFork env pre mh st) := by
  unfold uptoFork
  refine All.bind_mono (all_execList_content env pre st hnm) ?_
  rintro ⟨st1, e⟩ h1
  dsimp only at h1 ⊢
  split
  · intro _ _ h; cases h
  · rename_i he
    have he' : e = false := by simpa using he
    refine All.bind_of_forall _ ?_
    intro f st' fd hr
    cases f with
    | none => cases hr
    | some fd' =>
      simp only [AtFork.fork.injEq] at hr
      obtain ⟨rfl, -⟩ := hr
      exact (h1 he').1

end Mdsort.Proofs.ExecSeq
