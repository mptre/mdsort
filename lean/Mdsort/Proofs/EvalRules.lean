import Mdsort.Spec.Rules

/-!
# The shapes `Spec.splitActs` and `Spec.isCtlExpr` recognise (C03)
-/

namespace Mdsort.Proofs
open Mdsort Mdsort.Model Mdsort.Spec

theorem splitActs_spec {l as : List Expr} {ctl : Ctl} (h : splitActs l = some (as, ctl)) :
    (ctl = .none ∧ l = as ∧ as ≠ [] ∧ ∀ a ∈ as, isActionExpr a = true) ∨
    (ctl ≠ .none ∧ ∃ x, l = as ++ [x] ∧ isCtlExpr x = some ctl ∧ ∀ a ∈ as, isActionExpr a = true) := by
  revert h
  fun_cases splitActs l with
  | case1 => nofun
  | case2 last hl c hc hall =>
    -- the last element is a control action, the others are actions
    rintro ⟨rfl, rfl⟩
    obtain ⟨ys, rfl⟩ := List.getLast?_eq_some_iff.1 hl
    rw [List.dropLast_concat] at hall ⊢
    refine .inr ⟨?_, last, rfl, hc, by simpa using hall⟩
    rintro rfl
    cases last <;> simp [isCtlExpr] at hc
  | case3 => nofun
  | case4 last hl _ hall =>
    -- no control action at the end: all are actions
    rintro ⟨rfl, rfl⟩
    exact .inl ⟨rfl, rfl, (by rintro rfl; cases hl), by simpa using hall⟩
  | case5 => nofun

theorem isCtlExpr_spec {x : Expr} {ctl : Ctl} (h : isCtlExpr x = some ctl) :
    (ctl = .pass ∧ ∃ l, x = .pass l) ∨ (ctl = .brk ∧ ∃ l, x = .brk l) := by
  cases x <;> simp [isCtlExpr] at h
  · right; exact ⟨h.symm, _, rfl⟩
  · left; exact ⟨h.symm, _, rfl⟩

end Mdsort.Proofs
