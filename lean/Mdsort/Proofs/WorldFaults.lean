import Mdsort.Proofs.WorldHoare
import Mdsort.Proofs.WorldEqns

/-! Two calculi over `Prog` beside `wp` (WorldHoare, every fault plan).  `wpS`: plans with AT MOST ONE fault; the
state carries a budget (`true` = the fault has not been spent yet), and once it is spent the execution is the
fault-free one, so a roll-back that follows a failure can be computed.  `wpC`: every fault plan, the faults counted.

`wpS_call_ft`, `wpS_spent`, `wpS_imp` at the end are in `Mdsort.Proofs`, the namespace of the exit-0 pass (WorldExitWalk,
WorldExitMain) that uses them. -/

namespace Mdsort.Proofs.World
open Mdsort Mdsort.Model

def SingleFault (plan : Plan) : Prop := ∀ j k, j < k → (plan j).isSome → plan k = none

def singlePlan (i : Nat) (f : Fault) : Plan := fun k => if k = i then some f else none

theorem singleFault_none : SingleFault Plan.none := fun _ _ _ _ => rfl

theorem singleFault_single (i : Nat) (f : Fault) : SingleFault (singlePlan i f) := by
  intro j k hjk hj
  unfold singlePlan at hj ⊢
  by_cases h : j = i
  · have : ¬ k = i := by omega
    simp [this]
  · simp [h] at hj

theorem count_succ (plan : Plan) (n : Nat) :
    Plan.count plan (n + 1) = Plan.count plan n + (if (plan n).isSome then 1 else 0) := by
  unfold Plan.count
  rw [List.range_succ, List.filter_append, List.length_append]
  by_cases h : (plan n).isSome <;> simp [h]

theorem count_mono (plan : Plan) {m n : Nat} (h : m ≤ n) : Plan.count plan m ≤ Plan.count plan n := by
  induction n with
  | zero => have : m = 0 := by omega
            subst this; exact Nat.le_refl _
  | succ n ih =>
    by_cases hm : m = n + 1
    · subst hm; exact Nat.le_refl _
    · have := ih (by omega)
      rw [count_succ]; omega

theorem singleFault_of_count (plan : Plan) (h : ∀ n, Plan.count plan n ≤ 1) : SingleFault plan := by
  intro j k hjk hj
  cases hpk : plan k with
  | none => rfl
  | some fk =>
  exfalso
  have hk' : (plan k).isSome := by simp [hpk]
  have h1 := count_succ plan j
  have h2 := count_succ plan k
  have h3 := count_mono plan (show j + 1 ≤ k by omega)
  have h4 := h (k + 1)
  simp only [hj, hk', if_true] at h1 h2
  omega

def Budget (plan : Plan) (i : Nat) (b : Bool) : Prop :=
  (b = false → ∀ j, i ≤ j → plan j = none) ∧ (∀ j k, i ≤ j → j < k → (plan j).isSome → plan k = none)

theorem SingleFault.budget {plan : Plan} (h : SingleFault plan) : Budget plan 0 true :=
  ⟨fun hb => (by cases hb), fun j k _ hjk hj => h j k hjk hj⟩

/-- Single-fault weakest precondition.  The postcondition sees the remaining budget.  Unlike `wp`, `wpg`, `wpC` it takes
no invariant of the worlds after each call: the single-fault statements speak of the value and the world at the END of a
script (`wpS_sound`); what holds after every call is stated for every plan, in `wp` or `wpC`, and `wpS_of_wpC` drops it. -/
def wpS {α} : Prog α → (Bool → α → World → Prop) → Bool → World → Prop
  | .ret a, Q, b, w => Q b a w
  | .call c k, Q, b, w =>
      wpS (k (predict w c)) Q b (stepWorld w c (predict w c)) ∧
      (b = true → ∀ f : Fault,
        wpS (k (faultResult (some f) w c)) Q false (stepWorld w c (faultResult (some f) w c)))

theorem wpS_sound {α} (plan : Plan) {p : Prog α} {Q : Bool → α → World → Prop} {b : Bool} {w : World} {i : Nat}
    (h : wpS p Q b w) (hb : Budget plan i b) : ∃ b', Q b' (run plan p w i).1 (run plan p w i).2.1 := by
  induction p generalizing b w i with
  | ret a => exact ⟨b, h⟩
  | call c k ih =>
    cases hpi : plan i with
    | none =>
      have hb' : Budget plan (i + 1) b :=
        ⟨fun e j hj => hb.1 e j (by omega), fun j k' hj hjk hs => hb.2 j k' (by omega) hjk hs⟩
      have := ih (predict w c) h.1 hb'
      simpa only [run, hpi, faultResult_none] using this
    | some f =>
      have hbt : b = true := by
        cases b with
        | true => rfl
        | false => have := hb.1 rfl i (Nat.le_refl _); rw [hpi] at this; cases this
      have hb' : Budget plan (i + 1) false :=
        ⟨fun _ j hj => hb.2 i j (Nat.le_refl _) (by omega) (by simp [hpi]),
         fun j k' hj hjk hs => hb.2 j k' (by omega) hjk hs⟩
      have := ih (faultResult (some f) w c) (h.2 hbt f) hb'
      simpa only [run, hpi] using this

theorem wpS_bind {α β} {p : Prog α} {f : α → Prog β} {Q : Bool → β → World → Prop} {b : Bool} {w : World}
    (h : wpS p (fun b' a w' => wpS (f a) Q b' w') b w) : wpS (p.bind f) Q b w := by
  induction p generalizing b w with
  | ret a => exact h
  | call c k ih => exact ⟨ih _ h.1, fun hb ft => ih _ (h.2 hb ft)⟩

theorem wpS_mono {α} {p : Prog α} {Q Q' : Bool → α → World → Prop} {b : Bool} {w : World}
    (h : wpS p Q b w) (hq : ∀ b' a w', Q b' a w' → Q' b' a w') : wpS p Q' b w := by
  induction p generalizing b w with
  | ret a => exact hq _ _ _ h
  | call c k ih => exact ⟨ih _ h.1, fun hb ft => ih _ (h.2 hb ft)⟩

theorem wpS_bind_mono {α β} {p : Prog α} {f : α → Prog β} {Q : Bool → β → World → Prop}
    {R : Bool → α → World → Prop} {b : Bool} {w : World}
    (h : wpS p R b w) (hf : ∀ b' a w', R b' a w' → wpS (f a) Q b' w') : wpS (p.bind f) Q b w :=
  wpS_bind (wpS_mono h hf)

theorem wpS_and {α} {p : Prog α} {Q1 Q2 : Bool → α → World → Prop} {b : Bool} {w : World}
    (h1 : wpS p Q1 b w) (h2 : wpS p Q2 b w) : wpS p (fun b' a w' => Q1 b' a w' ∧ Q2 b' a w') b w := by
  induction p generalizing b w with
  | ret a => exact ⟨h1, h2⟩
  | call c k ih => exact ⟨ih _ h1.1 h2.1, fun hb ft => ih _ (h1.2 hb ft) (h2.2 hb ft)⟩

theorem wpS_of_wp {α} {I : World → Prop} {p : Prog α} {Q : α → World → Prop} {w : World} (b : Bool)
    (h : wp I p Q w) : wpS p (fun _ => Q) b w := by
  induction p generalizing b w with
  | ret a => exact h
  | call c k ih => exact ⟨ih _ _ (h none).2, fun _ ft => ih _ _ (h (some ft)).2⟩

theorem wpS_call_any {α} {c : Call} {k : Res → Prog α} {Q : Bool → α → World → Prop} {b : Bool} {w : World}
    (h : ∀ r b', wpS (k r) Q b' (stepWorld w c r)) : wpS (.call c k) Q b w :=
  ⟨h _ _, fun _ _ => h _ _⟩

/-- Postconditions that survive spending the budget.  With `wpS_down` and `Down.bind` the side condition of the call rule
`wpS_call`, whose failure branch is asked for the spent budget only; the walks of the scripts use the rules with one
obligation per result instead (`wpS_call_ok`, `wpS_call_ft`), which need no such condition. -/
def Down {α} (Q : Bool → α → World → Prop) : Prop := ∀ a w, Q true a w → Q false a w

theorem wpS_down {α} {p : Prog α} {Q : Bool → α → World → Prop} (hd : Down Q) {b : Bool} {w : World}
    (h : wpS p Q b w) : wpS p Q false w := by
  induction p generalizing b w with
  | ret a => cases b with
    | true => exact hd _ _ h
    | false => exact h
  | call c k ih => exact ⟨ih _ h.1, fun hb => by cases hb⟩

theorem Down.bind {α β} {f : α → Prog β} {Q : Bool → β → World → Prop} (hd : Down Q) :
    Down (fun b' a w' => wpS (f a) Q b' w') := fun _ _ h => wpS_down hd h

theorem wpS_call {α} {c : Call} {k : Res → Prog α} {Q : Bool → α → World → Prop} {b : Bool} {w : World}
    (hd : Down Q) (h1 : ∀ fd, c ≠ .read fd) (h2 : ∀ fd d, c ≠ .write fd d)
    (hpred : wpS (k (predict w c)) Q b (stepWorld w c (predict w c)))
    (herr : b = true → ∀ e, wpS (k (.err e)) Q false (stepWorld w c (.err e))) : wpS (.call c k) Q b w := by
  refine ⟨hpred, fun hb ft => ?_⟩
  rcases faultResult_cases (some ft) w c h1 h2 with h | ⟨e, h⟩
  · rw [h]; exact wpS_down hd hpred
  · rw [h]; exact herr hb e

theorem wpS_call_res {α} {c : Call} {k : Res → Prog α} {Q : Bool → α → World → Prop} {b : Bool} {w : World}
    (ht : Call.transfers c = false)
    (h : ∀ r b', (r = predict w c ∧ b' = b) ∨ (b = true ∧ b' = false ∧ (r = predict w c ∨ ∃ e, r = .err e)) →
      wpS (k r) Q b' (stepWorld w c r)) : wpS (.call c k) Q b w := by
  refine ⟨h _ _ (.inl ⟨rfl, rfl⟩), fun hb ft => ?_⟩
  exact h _ _ (.inr ⟨hb, rfl, faultResult_plain (some ft) w ht⟩)

theorem wpS_call_ok {α} {c : Call} {k : Res → Prog α} {Q : Bool → α → World → Prop} {b : Bool} {w : World} {v : Nat}
    (ht : Call.transfers c = false) (hp : predict w c = .ok v)
    (hok : ∀ b', wpS (k (.ok v)) Q b' (stepWorld w c (.ok v)))
    (herr : ∀ e, wpS (k (.err e)) Q false (stepWorld w c (.err e))) : wpS (.call c k) Q b w := by
  refine wpS_call_res ht fun r b' hr => ?_
  rw [hp] at hr
  rcases hr with ⟨rfl, _⟩ | ⟨_, rfl, rfl | ⟨e, rfl⟩⟩
  · exact hok _
  · exact hok _
  · exact herr e

theorem wpS_call_spent {α} {c : Call} {k : Res → Prog α} {Q : Bool → α → World → Prop} {w : World}
    (h : wpS (k (predict w c)) Q false (stepWorld w c (predict w c))) : wpS (.call c k) Q false w :=
  ⟨h, fun hb => by cases hb⟩

/-- Following the predicted results only, the program does not end in `E`. -/
def Clean {α} (E : α → Prop) : Prog α → Prop
  | .ret a => ¬ E a
  | .call c k => ∀ w, Clean E (k (predict w c))

theorem Clean.bind {α β} {EA : α → Prop} {EB : β → Prop} {p : Prog α} {f : α → Prog β}
    (hp : Clean EA p) (hf : ∀ a, ¬ EA a → Clean EB (f a)) : Clean EB (p.bind f) := by
  induction p with
  | ret a => exact hf a hp
  | call c k ih => intro w; exact ih _ (hp w)

/-! `wpC I p Q n w` is `wp I p · w` with a postcondition that also sees how many faults have been injected, counting
from `n`.  A specification in this form yields the one for every plan (`wp_of_wpC`: forget the count) and the one
for at most one fault (`wpS_of_wpC`: the count is 0 while the budget is there and 1 once it is spent), so a script
whose guarantee degrades only after a second fault is walked once. -/

def wpC {α} (I : World → Prop) : Prog α → (Nat → α → World → Prop) → Nat → World → Prop
  | .ret a, Q, n, w => Q n a w
  | .call c k, Q, n, w => ∀ f : Option Fault,
      I (stepWorld w c (faultResult f w c)) ∧
        wpC I (k (faultResult f w c)) Q (match f with | none => n | some _ => n + 1) (stepWorld w c (faultResult f w c))

theorem wp_of_wpC {α} {I : World → Prop} {p : Prog α} {Q : Nat → α → World → Prop} {n : Nat} {w : World}
    (h : wpC I p Q n w) : wp I p (fun a w' => ∃ n', Q n' a w') w := by
  induction p generalizing n w with
  | ret a => exact ⟨n, h⟩
  | call c k ih => intro f; exact ⟨(h f).1, ih _ (h f).2⟩

theorem wpS_of_wpC {α} {I : World → Prop} {p : Prog α} {Q : Nat → α → World → Prop} {b : Bool} {w : World}
    (h : wpC I p Q (if b = true then 0 else 1) w) :
    wpS p (fun b' a w' => Q (if b' = true then 0 else 1) a w') b w := by
  induction p generalizing b w with
  | ret a => exact h
  | call c k ih =>
    refine ⟨ih _ (h none).2, fun hb ft => ?_⟩
    subst hb
    exact ih _ (b := false) (h (some ft)).2

theorem wpC_mono {α} {I : World → Prop} {p : Prog α} {Q Q' : Nat → α → World → Prop} {n : Nat} {w : World}
    (h : wpC I p Q n w) (hq : ∀ n' a w', Q n' a w' → Q' n' a w') : wpC I p Q' n w := by
  induction p generalizing n w with
  | ret a => exact hq _ _ _ h
  | call c k ih => intro f; exact ⟨(h f).1, ih _ (h f).2⟩

theorem wpC_inv_mono {α} {I I' : World → Prop} {p : Prog α} {Q : Nat → α → World → Prop} {n : Nat} {w : World}
    (h : wpC I p Q n w) (hi : ∀ w', I w' → I' w') : wpC I' p Q n w := by
  induction p generalizing n w with
  | ret a => exact h
  | call c k ih => intro f; exact ⟨hi _ (h f).1, ih _ (h f).2⟩

theorem wpC_bind_mono {α β} {I : World → Prop} {p : Prog α} {f : α → Prog β} {Q : Nat → β → World → Prop}
    {R : Nat → α → World → Prop} {n : Nat} {w : World}
    (h : wpC I p R n w) (hf : ∀ n' a w', R n' a w' → wpC I (f a) Q n' w') : wpC I (p.bind f) Q n w := by
  induction p generalizing n w with
  | ret a => exact hf _ _ _ h
  | call c k ih => intro ft; exact ⟨(h ft).1, ih _ (h ft).2⟩

theorem wpC_of_wp {α} {I : World → Prop} {p : Prog α} {Q : α → World → Prop} {w : World} (h : wp I p Q w) (n : Nat) :
    wpC I p (fun n' a w' => n ≤ n' ∧ Q a w') n w := by
  induction p generalizing n w with
  | ret a => exact ⟨Nat.le_refl _, h⟩
  | call c k ih =>
    intro f
    refine ⟨(h f).1, wpC_mono (ih _ (h f).2 _) fun n' a w' hq => ⟨Nat.le_trans ?_ hq.1, hq.2⟩⟩
    cases f <;> simp

theorem wpC_of_wp_clean {α} {I : World → Prop} {p : Prog α} {Q : α → World → Prop} {E : α → Prop} {w : World}
    (h : wp I p Q w) (hc : Clean E p) (n : Nat) :
    wpC I p (fun n' a w' => n ≤ n' ∧ Q a w' ∧ (E a → n < n')) n w := by
  induction p generalizing n w with
  | ret a => exact ⟨Nat.le_refl _, h, fun he => absurd he hc⟩
  | call c k ih =>
    intro f
    refine ⟨(h f).1, ?_⟩
    cases f with
    | none => exact ih _ (h none).2 (hc w) n
    | some ft =>
      exact wpC_mono (wpC_of_wp (h (some ft)).2 (n + 1)) fun n' a w' hq =>
        ⟨Nat.le_of_succ_le hq.1, hq.2, fun _ => hq.1⟩

theorem wpC_call_any {α} {I : World → Prop} {c : Call} {k : Res → Prog α} {Q : Nat → α → World → Prop} {n : Nat} {w : World}
    (h : ∀ r n', n ≤ n' → I (stepWorld w c r) ∧ wpC I (k r) Q n' (stepWorld w c r)) : wpC I (.call c k) Q n w := by
  intro f
  exact h _ _ (by cases f <;> simp)

theorem wpC_call_res {α} {I : World → Prop} {c : Call} {k : Res → Prog α} {Q : Nat → α → World → Prop} {n : Nat} {w : World}
    (ht : Call.transfers c = false)
    (h : ∀ r n', (r = predict w c ∧ n' = n) ∨ (n' = n + 1 ∧ (r = predict w c ∨ ∃ e, r = .err e)) →
      I (stepWorld w c r) ∧ wpC I (k r) Q n' (stepWorld w c r)) : wpC I (.call c k) Q n w := by
  intro f
  cases f with
  | none => exact h _ _ (.inl ⟨rfl, rfl⟩)
  | some ft => exact h _ _ (.inr ⟨rfl, faultResult_plain (some ft) w ht⟩)

theorem wpC_le {α} {I : World → Prop} {p : Prog α} {Q : Nat → α → World → Prop} {n : Nat} {w : World} (h : wpC I p Q n w) :
    wpC I p (fun n' a w' => n ≤ n' ∧ Q n' a w') n w := by
  induction p generalizing n w with
  | ret a => exact ⟨Nat.le_refl _, h⟩
  | call c k ih =>
    intro f
    refine ⟨(h f).1, wpC_mono (ih _ (h f).2) fun n' a w' hq => ⟨Nat.le_trans ?_ hq.1, hq.2⟩⟩
    cases f <;> simp

/-! `message_write` does not report an error unless a call fails (`clean_messageWriteP`): what lets the counting calculus
conclude a fault from an error (`wpC_of_wp_clean`). -/

theorem clean_hdrs (newfd : Handle) (hs : List Hdr) : Clean (fun r => r = true) (messageWriteP.hdrs newfd hs) := by
  induction hs with
  | nil => rw [hdrs_nil]; exact nofun
  | cons h rest ih =>
    rw [hdrs_cons]
    intro w
    simp only [predict, isOk, if_true]
    exact ih

theorem clean_mwTail (newfd : Handle) (body : Bytes) : Clean (fun r => r = true) (mwTail newfd body false) := by
  unfold mwTail
  simp only [Bool.false_eq_true, if_false]
  intro w
  simp only [predict, isOk, Bool.not_true, Bool.false_eq_true, if_false]
  intro w
  simp only [predict, Bool.not_true, Bool.false_eq_true, if_false]
  intro w
  simp only [predict, Bool.not_true]
  exact nofun

/-- One `intro w; simp only [predict, ..]` for each call of `message_write`: the predicted result of each is a success, which
selects the branch that goes on. -/
theorem clean_messageWriteP (m : Msg) (fd : Handle) : Clean (fun r => r = true) (messageWriteP m fd) := by
  rw [messageWriteP_eq]
  intro w
  simp only [predict]
  intro w
  simp only [predict, isOk, Bool.not_true, Bool.false_eq_true, if_false]
  refine Clean.bind (clean_hdrs _ _) fun herr hh => ?_
  cases Bool.eq_false_iff.2 hh
  refine Clean.bind (clean_mwTail _ _) fun err1 h1 => ?_
  cases Bool.eq_false_iff.2 h1
  intro w
  simp only [predict, Bool.not_true, Bool.or_self]
  exact nofun

end Mdsort.Proofs.World

namespace Mdsort.Proofs
open Mdsort Mdsort.Model
open Mdsort.Proofs.World (wpS wpS_mono)

/-- A call under at most one fault, any result; while the budget is spent no fault is injected (so the result is
`predict w c`, by `rfl`) and it stays spent. -/
theorem wpS_call_ft {α} {c : Call} {k : Res → Prog α} {Q : Bool → α → World → Prop} {b : Bool} {w : World}
    (h : ∀ (ft : Option Fault) (b' : Bool), (b = false → ft = none ∧ b' = false) →
      wpS (k (World.faultResult ft w c)) Q b' (stepWorld w c (World.faultResult ft w c))) :
    wpS (.call c k) Q b w :=
  ⟨h none b fun hb => ⟨rfl, hb⟩, fun hb f => h (some f) false fun hb' => by rw [hb] at hb'; cases hb'⟩

theorem wpS_spent {α} {p : Prog α} {Q : Bool → α → World → Prop} {b : Bool} {w : World} (h : wpS p Q b w) :
    wpS p (fun b' a w' => Q b' a w' ∧ (b = false → b' = false)) b w := by
  induction p generalizing b w with
  | ret a => exact ⟨h, id⟩
  | call c k ih =>
    exact ⟨ih _ h.1, fun hb ft => wpS_mono (ih _ (h.2 hb ft)) fun _ _ _ hq => ⟨hq.1, fun hb' => by rw [hb] at hb'; cases hb'⟩⟩

theorem wpS_imp {α} {P : Prop} {p : Prog α} {Q : Bool → α → World → Prop} {b : Bool} {w : World} (h : P → wpS p Q b w) :
    wpS p (fun b' a w' => P → Q b' a w') b w := by
  induction p generalizing b w with
  | ret a => exact h
  | call c k ih => exact ⟨ih _ fun hp => (h hp).1, fun hb ft => ih _ fun hp => (h hp).2 hb ft⟩

end Mdsort.Proofs
