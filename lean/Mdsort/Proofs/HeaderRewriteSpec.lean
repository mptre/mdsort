import Mdsort.Spec.Message

/-! Specification-level part of C08: a chain of single-header settings, each described only
by what it does to the file-order list of fields, satisfies `Spec.rewriteOk`. -/

namespace Mdsort.Proofs
open Mdsort

abbrev Fld := Bytes × Bytes

/-- The field is named `k` (ASCII case-insensitively). -/
def qk (k : Bytes) (f : Fld) : Bool := Spec.nameEq f.1 k

/-- One `message_set_header k v` seen on the file-order list: the other fields are untouched,
`k` occurs exactly once afterwards with value `v`, and if it was present before, the fields
before its first occurrence are the same. -/
def StepRel (k v : Bytes) (fs fs1 : List Fld) : Prop :=
  fs1.filter (fun f => !qk k f) = fs.filter (fun f => !qk k f) ∧
  (fs1.filter (qk k)).map (·.2) = [v] ∧
  (fs.any (qk k) = true → fs1.takeWhile (fun f => !qk k f) = fs.takeWhile (fun f => !qk k f))

def Chain : List Fld → List Fld → List Fld → Prop
  | [], a, b => a = b
  | (k, v) :: rest, a, b => ∃ a1, StepRel k v a a1 ∧ Chain rest a1 b

theorem nameEq_iff (a b : Bytes) :
    Spec.nameEq a b = true ↔ a.map Spec.lower = b.map Spec.lower := by
  simp [Spec.nameEq]

theorem nameEq_refl (a : Bytes) : Spec.nameEq a a = true := (nameEq_iff a a).2 rfl

theorem nameEq_symm {a b : Bytes} (h : Spec.nameEq a b = true) : Spec.nameEq b a = true :=
  (nameEq_iff _ _).2 ((nameEq_iff _ _).1 h).symm

theorem nameEq_trans {a b c : Bytes} (h1 : Spec.nameEq a b = true) (h2 : Spec.nameEq b c = true) :
    Spec.nameEq a c = true :=
  (nameEq_iff _ _).2 (((nameEq_iff _ _).1 h1).trans ((nameEq_iff _ _).1 h2))

theorem nameEq_congr_right {k k' : Bytes} (h : Spec.nameEq k k' = true) (a : Bytes) :
    Spec.nameEq a k = Spec.nameEq a k' := by
  unfold Spec.nameEq
  rw [(nameEq_iff _ _).1 h]

theorem qk_congr {k k' : Bytes} (h : Spec.nameEq k k' = true) : qk k = qk k' :=
  funext fun f => nameEq_congr_right h f.1

theorem nameEq_of_qk {k k' : Bytes} {f : Fld} (h1 : qk k f = true) (h2 : qk k' f = true) :
    Spec.nameEq k k' = true :=
  nameEq_trans (nameEq_symm h1) h2

theorem filter_takeWhile_comm {α : Type} (s r : α → Bool) (h : ∀ x, s x = false → r x = true) :
    ∀ X : List α, (X.filter s).takeWhile r = (X.takeWhile r).filter s
  | [] => rfl
  | x :: X => by
    have ih := filter_takeWhile_comm s r h X
    cases hs : s x <;> cases hr : r x
    · have := h x hs; simp [hr] at this
    · simp [hs, hr, ih]
    · simp [hs, hr]
    · simp [hs, hr, ih]

theorem filter_filter_of_imp {α : Type} (q s : α → Bool) (h : ∀ x, q x = true → s x = true)
    (X : List α) : (X.filter s).filter q = X.filter q := by
  rw [List.filter_filter]
  exact List.filter_congr fun x _ => by cases hq : q x <;> simp [h x, hq]

theorem others_cons (X : List Fld) (k : Bytes) (ks : List Bytes) :
    Spec.others X (k :: ks) = (Spec.others X ks).filter (fun f => !qk k f) := by
  unfold Spec.others
  rw [List.filter_filter]
  apply List.filter_congr
  intro f _
  simp [qk, List.any_cons, Bool.not_or]

theorem others_cons_inner (X : List Fld) (k : Bytes) (ks : List Bytes) :
    Spec.others X (k :: ks) = Spec.others (X.filter (fun f => !qk k f)) ks := by
  unfold Spec.others
  rw [List.filter_filter]
  apply List.filter_congr
  intro f _
  simp [qk, List.any_cons, Bool.not_or, Bool.and_comm]

theorem any_keys (rest : List Fld) (a : Bytes) :
    (rest.map (·.1)).any (fun k => Spec.nameEq a k) = rest.any (fun kv => Spec.nameEq a kv.1) := by
  rw [List.any_map]; rfl

theorem not_keys_of_qk {rest : List Fld} {k' : Bytes} (hr : rest.any (qk k') = false)
    {f : Fld} (hf : qk k' f = true) :
    (rest.map (·.1)).any (fun k => Spec.nameEq f.1 k) = false := by
  rw [any_keys]
  cases h : rest.any (fun kv => Spec.nameEq f.1 kv.1)
  · rfl
  · exfalso
    rw [List.any_eq_true] at h
    obtain ⟨kv, hkv, hn⟩ := h
    have : rest.any (qk k') = true := by
      rw [List.any_eq_true]
      exact ⟨kv, hkv, nameEq_trans (nameEq_symm hn) hf⟩
    rw [hr] at this
    exact Bool.noConfusion this

theorem lastSet_cons_of_any (k v k' : Bytes) (rest : List Fld) (h : rest.any (qk k') = true) :
    Spec.lastSet ((k, v) :: rest) k' = Spec.lastSet rest k' := by
  unfold Spec.lastSet
  rw [List.any_eq_true] at h
  obtain ⟨kv, hkv, hq⟩ := h
  have hmem : kv ∈ rest.filter (fun kv => Spec.nameEq kv.1 k') :=
    List.mem_filter.2 ⟨hkv, hq⟩
  rw [List.filter_cons]
  split
  · cases hL : rest.filter (fun kv => Spec.nameEq kv.1 k') with
    | nil => rw [hL] at hmem; cases hmem
    | cons a l => rw [List.getLast?_cons_cons]
  · rfl

theorem lastSet_cons_of_not_any (k v k' : Bytes) (rest : List Fld)
    (hk : Spec.nameEq k k' = true) (h : rest.any (qk k') = false) :
    Spec.lastSet ((k, v) :: rest) k' = some v := by
  unfold Spec.lastSet
  have hnil : rest.filter (fun kv => Spec.nameEq kv.1 k') = [] := by
    rw [List.filter_eq_nil_iff]
    intro a ha
    have := (List.any_eq_false.1 h) a ha
    simpa [qk] using this
  rw [List.filter_cons, hnil]
  simp [hk]

theorem findIdx?_take {α : Type} {p : α → Bool} {X : List α} {i : Nat} (h : X.findIdx? p = some i) :
    X.take i = X.takeWhile (fun x => !p x) := by
  rw [List.takeWhile_eq_take_findIdx_not]
  simp only [Bool.not_not]
  rw [(List.findIdx?_eq_some_iff_findIdx_eq.1 h).2]

theorem any_of_filter_map_singleton {X : List Fld} {q : Fld → Bool} {v : Bytes}
    (h : (X.filter q).map (·.2) = [v]) : X.any q = true := by
  cases hL : X.filter q with
  | nil => rw [hL] at h; cases h
  | cons a l =>
    have : a ∈ X.filter q := by rw [hL]; exact List.mem_cons_self
    rw [List.mem_filter] at this
    exact List.any_eq_true.2 ⟨a, this.1, this.2⟩

theorem not_qk_of_ne {k k' : Bytes} (hkk : Spec.nameEq k k' = false) {f : Fld} (hf : qk k' f = true) :
    (!qk k f) = true := by
  cases hq : qk k f
  · rfl
  · rw [nameEq_of_qk hq hf] at hkk; cases hkk

theorem StepRel.any {k v : Bytes} {fs f1 : List Fld} (h : StepRel k v fs f1) {k' : Bytes}
    (hfs : fs.any (qk k') = true) : f1.any (qk k') = true := by
  cases hkk : Spec.nameEq k k'
  · rw [List.any_eq_true] at hfs ⊢
    obtain ⟨f, hf, hq⟩ := hfs
    have : f ∈ fs.filter (fun f => !qk k f) := List.mem_filter.2 ⟨hf, not_qk_of_ne hkk hq⟩
    rw [← h.1] at this
    exact ⟨f, (List.mem_filter.1 this).1, hq⟩
  · rw [← qk_congr hkk]
    exact any_of_filter_map_singleton h.2.1

/-- One step leaves the other fields in front of the first field named `k'` as they are, whatever `k'` is. -/
theorem StepRel.before {k v : Bytes} {fs f1 : List Fld} (h : StepRel k v fs f1) {k' : Bytes}
    (hfs : fs.any (qk k') = true) :
    (fs.takeWhile (fun f => !qk k' f)).filter (fun f => !qk k f) =
      (f1.takeWhile (fun f => !qk k' f)).filter (fun f => !qk k f) := by
  cases hkk : Spec.nameEq k k'
  · have hstop : ∀ f : Fld, (!qk k f) = false → (!qk k' f) = true := by
      intro f hf
      cases hq : qk k' f
      · rfl
      · rw [not_qk_of_ne hkk hq] at hf; cases hf
    rw [← filter_takeWhile_comm _ _ hstop, ← filter_takeWhile_comm _ _ hstop, h.1]
  · rw [← qk_congr hkk] at hfs ⊢
    rw [h.2.2 hfs]

/-- The three conditions of `Spec.rewriteOk` at the level of field lists; the second for every name matching one of the
keys (so that it is invariant under `nameEq`), the third for every name that occurs. -/
structure Conds (kvs fs fs' : List Fld) : Prop where
  c1 : Spec.others fs' (kvs.map (·.1)) = Spec.others fs (kvs.map (·.1))
  c2 : ∀ k', kvs.any (qk k') = true →
    (fs'.filter (qk k')).map (·.2) = [(Spec.lastSet kvs k').getD []]
  c3 : ∀ k', fs.any (qk k') = true →
    Spec.others (fs.takeWhile (fun f => !qk k' f)) (kvs.map (·.1)) =
      Spec.others (fs'.takeWhile (fun f => !qk k' f)) (kvs.map (·.1))

theorem conds_of_chain : ∀ (kvs fs fs' : List Fld), Chain kvs fs fs' → Conds kvs fs fs'
  | [], fs, fs', hc => by
    have : fs = fs' := hc
    subst this
    exact ⟨rfl, fun k' h => by simp at h, fun k' h => rfl⟩
  | (k, v) :: rest, fs, fs', hc => by
    obtain ⟨f1, hstep, hch⟩ := hc
    have ih := conds_of_chain rest f1 fs' hch
    refine ⟨?_, ?_, ?_⟩
    · show Spec.others fs' (k :: rest.map (·.1)) = Spec.others fs (k :: rest.map (·.1))
      rw [others_cons, ih.c1, ← others_cons, others_cons_inner, hstep.1, ← others_cons_inner]
    · intro k' hk'
      cases hr : rest.any (qk k')
      · have hkk : Spec.nameEq k k' = true := by
          have : (Spec.nameEq k k' = true) ∨ (rest.any (qk k') = true) := by
            simpa [List.any_cons, qk] using hk'
          rcases this with h | h
          · exact h
          · rw [hr] at h; cases h
        -- fields named k' are among the others when k' is not a key of rest
        have othq : ∀ X : List Fld, (Spec.others X (rest.map (·.1))).filter (qk k') = X.filter (qk k') := by
          intro X
          unfold Spec.others
          apply filter_filter_of_imp
          intro f hf
          rw [not_keys_of_qk hr hf]; rfl
        rw [lastSet_cons_of_not_any k v k' rest hkk hr]
        rw [← othq fs', ih.c1, othq f1, ← qk_congr hkk]
        exact hstep.2.1
      · rw [lastSet_cons_of_any k v k' rest hr]
        exact ih.c2 k' hr
    · intro k' hfs
      show Spec.others _ (k :: rest.map (·.1)) = Spec.others _ (k :: rest.map (·.1))
      rw [others_cons_inner, hstep.before hfs, ← others_cons_inner, others_cons, ih.c3 k' (hstep.any hfs), ← others_cons]

theorem chain_rewriteOk (m out : Bytes) (kvs fs fs' : List Fld) (b : Bytes)
    (hm : Spec.read m = some (fs, b)) (hout : Spec.read out = some (fs', b))
    (hc : Chain kvs fs fs') :
    Spec.rewriteOk m kvs out = true := by
  have hC := conds_of_chain kvs fs fs' hc
  unfold Spec.rewriteOk
  rw [hm, hout]
  simp only [Bool.and_eq_true, beq_iff_eq, List.all_eq_true]
  refine ⟨⟨trivial, hC.c1⟩, ?_⟩
  intro k hk
  have hany : kvs.any (qk k) = true := by
    rw [List.mem_map] at hk
    obtain ⟨kv, hkv, rfl⟩ := hk
    exact List.any_eq_true.2 ⟨kv, hkv, nameEq_refl kv.1⟩
  have h2 := hC.c2 k hany
  refine ⟨h2, ?_⟩
  have hfs' : fs'.any (qk k) = true := any_of_filter_map_singleton h2
  unfold Spec.firstIdx
  cases h1 : fs'.findIdx? (fun f => Spec.nameEq f.1 k) with
  | none =>
    have : (fs'.findIdx? (qk k)).isSome = true := List.findIdx?_isSome.trans hfs'
    rw [show qk k = (fun f : Fld => Spec.nameEq f.1 k) from rfl, h1] at this
    cases this
  | some j =>
    cases h0 : fs.findIdx? (fun f => Spec.nameEq f.1 k) with
    | none => rfl
    | some i =>
      have hfs : fs.any (qk k) = true := by rw [← List.findIdx?_isSome]; exact congrArg Option.isSome h0
      have h3 := hC.c3 k hfs
      simp only [beq_iff_eq]
      rw [findIdx?_take h0, findIdx?_take h1]
      exact h3

end Mdsort.Proofs
