import Mdsort.Proofs.PartiesFs
import Mdsort.Proofs.PartiesMoverLocal

/-! One step of a party on the shared file system: devices, handles, and what one call does to the names in flight
(`inFlightUpd_cases`).  `Allowed`, `LocalOK`: the calls and the local state of the rename-only protocol `MoverI`. -/

namespace Mdsort.Proofs.Parties
open Mdsort Mdsort.Model
open Mdsort.Proofs.World
open Mdsort.Proofs.Own

/-- The calls of the rename-only protocol `MoverI` and of the client; the exactly-once development has `CAllowed`. -/
def Allowed : Call → Prop
  | .opendir _ | .closedir _ | .close _ | .fstatat .. | .utimensat .. | .openExcl .. | .renameat .. | .unlinkat .. => True
  | _ => False

/-- The calls of the external client (`ClientOp.call`): renames and unlinks, nothing else. -/
def IsClientCall : Call → Prop
  | .renameat .. | .unlinkat .. => True
  | _ => False

def IsClientParty (ps : PState) : Prop := ∃ ops, ps.prog = clientProg ops

theorem calls_clientProg (ops : List ClientOp) : Calls IsClientCall (clientProg ops) := by
  induction ops with
  | nil => exact True.intro
  | cons op rest ih =>
    refine ⟨?_, fun _ => ih⟩
    cases op <;> exact True.intro

@[simp] theorem devs_setObj (w : World) (h : Handle) (o : Obj) : (w.setObj h o).devs = w.devs := rfl
@[simp] theorem devs_setFile (w : World) (fid : Nat) (f : File) : (w.setFile fid f).devs = w.devs := rfl
@[simp] theorem devs_newHandle (w : World) (o : Obj) : (w.newHandle o).1.devs = w.devs := rfl
@[simp] theorem devs_setMtime (w : World) (f t : Nat) : (w.setMtime f t).devs = w.devs := rfl

theorem device_of_devs_nil (w : World) (h : w.devs = []) (p : Bytes) : w.device p = 0 := by
  simp [World.device, h]

theorem moverR_predict (w : World) (h : w.devs = []) (c : Call) : MoverR c (predict w c) := by
  intro d1 n1 d2 n2 hc
  subst hc
  rcases renameat_state w d1 n1 d2 n2 with ⟨_, _, _, _, _, _, hpr, _⟩ | ⟨e, hpr, he, hwhy⟩
  · exact .inl ⟨0, hpr⟩
  · refine .inr ⟨e, hpr, ?_⟩
    rintro rfl
    obtain ⟨p1, p2, -, -, hdev⟩ := predict_renameat_exdev hpr
    exact hdev (by rw [device_of_devs_nil w h, device_of_devs_nil w h])

@[simp] theorem handles_setFile (w : World) (fid : Nat) (f : File) : (w.setFile fid f).handles = w.handles := rfl
@[simp] theorem handles_setMtime (w : World) (f t : Nat) : (w.setMtime f t).handles = w.handles := rfl

theorem handlesDirPath_lt {hs : List Obj} {d : Handle} {p : Bytes} (h : handlesDirPath hs d = some p) : d < hs.length := by
  by_cases hl : d < hs.length
  · exact hl
  · simp [handlesDirPath, List.getD_eq_getElem?_getD, List.getElem?_eq_none (Nat.le_of_not_lt hl)] at h

/-- The local state of a party in terms of the rename-only protocol: it follows `MoverI` as long as no `renameat` answers
`EXDEV` (with at most one name in flight), or is the client.  Implies `LocalOKr OneDev M` (`LocalOK.general`). -/
def LocalOK (ps : PState) : Prop :=
  (inFlightH ps.trace).length ≤ 1 ∧
  (wp MoverR MoverI ps.prog (fun _ tr => inFlightH tr = []) ps.trace ∨
   (Calls IsClientCall ps.prog ∧ inFlightH ps.trace = []))

theorem inFlightUpd_cases (acc : List (Handle × Bytes)) (c : Call) (r : Res) :
    (inFlightUpd acc (c, r)).Sublist acc ∨
    (∃ d n v, c = .openExcl d n ∧ r = .ok v ∧ inFlightUpd acc (c, r) = acc ++ [(d, n)]) := by
  generalize hx : (c, r) = x
  fun_cases inFlightUpd acc x
  -- a successful `openExcl`: the name is appended
  case case1 d n v => cases hx; exact .inr ⟨d, n, v, rfl, rfl, rfl⟩
  -- a successful `renameat`; an `unlinkat` of a name in flight: a filter
  case case2 | case3 => exact .inl List.filter_sublist
  -- a successful `unlinkat` of another name: nothing is left in flight
  case case4 => exact .inl (List.nil_sublist _)
  -- a failed `unlinkat` of another name; every other call or result: unchanged
  all_goals exact .inl (List.Sublist.refl _)

theorem mem_inFlightUpd {acc : List (Handle × Bytes)} {c : Call} {r : Res} {x : Handle × Bytes}
    (h : x ∈ inFlightUpd acc (c, r)) : x ∈ acc ∨ (∃ d n v, c = .openExcl d n ∧ r = .ok v ∧ x = (d, n)) := by
  rcases inFlightUpd_cases acc c r with hs | ⟨d, n, v, rfl, rfl, he⟩
  · exact .inl (hs.subset h)
  · rw [he] at h
    exact (List.mem_append.1 h).imp_right fun h => ⟨d, n, v, rfl, rfl, List.mem_singleton.1 h⟩

theorem client_upd_nil {c : Call} (h : IsClientCall c) (r : Res) : inFlightUpd [] (c, r) = [] := by
  -- no client call: `h.elim`; left: `renameat`, then `unlinkat`
  cases c <;> first | exact h.elim | skip
  · cases r <;> rfl
  · simp [inFlightUpd_unlinkat]

/-- The one call that binds a new entry to a new file: the exclusive create (`O_CREAT|O_EXCL`) of `maildir_genname`. -/
def isCreate : Call → Bool
  | .openExcl .. => true
  | _ => false

def isUnlink : Call → Bool
  | .unlinkat .. => true
  | _ => false

theorem isCreate_iff {c : Call} : isCreate c = true ↔ ∃ d n, c = .openExcl d n := by
  cases c <;> simp [isCreate]

theorem isUnlink_iff {c : Call} : isUnlink c = true ↔ ∃ d n, c = .unlinkat d n := by
  cases c <;> simp [isUnlink]

theorem isRename_iff {c : Call} : c.isRename = true ↔ ∃ d1 n1 d2 n2, c = .renameat d1 n1 d2 n2 := by
  cases c <;> simp [Call.isRename]

theorem inFlight_of_nil {ps : PState} (h : inFlightH ps.trace = []) : ps.inFlight = [] := by
  simp [PState.inFlight, h]

theorem inFlight_of_singleton {ps : PState} {d : Handle} {n p : Bytes} (h : inFlightH ps.trace = [(d, n)])
    (hp : handlesDirPath ps.handles d = some p) : ps.inFlight = [(p, n)] := by
  simp [PState.inFlight, h, hp]

theorem filterMap_resolve_congr (L : List (Handle × Bytes)) (hs hs' : List Obj)
    (h : ∀ x ∈ L, ∀ p, handlesDirPath hs x.1 = some p → handlesDirPath hs' x.1 = some p)
    (hres : ∀ x ∈ L, (handlesDirPath hs x.1).isSome) :
    (L.filterMap fun x => (handlesDirPath hs' x.1).map fun q => (q, x.2)) =
      L.filterMap fun x => (handlesDirPath hs x.1).map fun q => (q, x.2) := by
  induction L with
  | nil => rfl
  | cons x L ih =>
    obtain ⟨p, hp⟩ := Option.isSome_iff_exists.1 (hres x (List.mem_cons_self ..))
    have ih' := ih (fun y hy => h y (List.mem_cons_of_mem _ hy)) (fun y hy => hres y (List.mem_cons_of_mem _ hy))
    simp only [List.filterMap_cons, hp, h x (List.mem_cons_self ..) p hp, Option.map_some, ih']

end Mdsort.Proofs.Parties
