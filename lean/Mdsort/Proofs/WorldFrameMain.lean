import Mdsort.Proofs.WorldErrFlag
import Mdsort.Proofs.WorldMain

/-!
A whole run, whatever the calls return.  In maildir mode every call of `mainP` is a `readdir` or satisfies the frame condition
for the name the last `readdir` returned (`mainP_frame`, C04); the error flag at exit is set iff one of the causes `MainErr`
occurred (`mainP_error_iff`, C04).  The calls of a dry run (`calls_mainP_dry`, `quiet_mainP`, C05) are here because they need
`calls_processMessage_dry` of `WorldVerdict` and `Quiet` of `WorldMain`, which meet in this module.
-/

namespace Mdsort.Proofs
open Mdsort Mdsort.Model
open Mdsort.Proofs.Own (runO)

/-- The causes that set the error flag while the paths `ps` of block `b` are processed from state `st`,
the next call having index `i`.  It follows `mainP.blocks.paths` (`paths_cons`) clause by clause; for `p :: more`:

* `skipPath env p` (the path is not selected in this mode): the causes of `more`, from the same state and index.
* `p` is the stdin path.  Let `S = runO orcl (maildirStdin env input) i`, so that `S.1 = (md, failed, name)` and `S.2.2`
  is the next index.  `failed` (the spool cannot be set up) is a cause.  Otherwise let `st₀ = spooledSt st md input name`,
  `W = runO orcl (walk .. (stdinFuel env) md st₀) S.2.2` and `C = runO orcl (closeStdin (stdinFuel env) W.1.2) W.2.2`:
  a cause `WalkErr` in that walk (from `md`, `st₀`, index `S.2.2`), or a cause of `more` from `orFuel W.1.1 C.1` at
  index `C.2.2`.
* otherwise `p` names a maildir.  That `p`, or `p` + `/new`, does not fit `PATH_MAX` is a cause.  With `root`, `np` the
  two paths let `O = runO orcl (maildirOpendir (maildirOf root np) np) i`: `O.1.2` (`new` cannot be opened) is a cause.
  Otherwise let `W = runO orcl (walk .. (walkFuel env st root np) O.1.1 st) O.2.2` and
  `C = runO orcl (maildirClose W.1.2) W.2.2`: a cause `WalkErr` in that walk (from `O.1.1`, `st`, index `O.2.2`), or a
  cause of `more` from `W.1.1` at index `C.2.2`.

`S`, `O`, `W`, `C` are spelt out at every occurrence, as the projections of `runO` that `runO_bind` leaves when the run
of `mainP.blocks.paths` is split at its binds: `paths_error_iff` then closes each case by rewriting with `runO_bind`,
the induction hypothesis and `walk_error_iff`, and nothing has to be unfolded in between. -/
def PathsErr (env : PEnv) (orc : EvalOracles) (orcl : Nat → Call → Res) (input : Bytes) (b : ConfBlock) :
    List Bytes → MainSt → Nat → Prop
  | [], _, _ => False
  | p :: more, st, i =>
    if skipPath env p then PathsErr env orc orcl input b more st i
    else if isStdinPath p then
      if (runO orcl (maildirStdin env input) i).1.2.1 then True
      else
        WalkErr env orc b.expr orcl (stdinFuel env) (runO orcl (maildirStdin env input) i).1.1
          (spooledSt st (runO orcl (maildirStdin env input) i).1.1 input (runO orcl (maildirStdin env input) i).1.2.2)
          (runO orcl (maildirStdin env input) i).2.2 ∨
        PathsErr env orc orcl input b more
          (orFuel (runO orcl (walk env orc b.expr (stdinFuel env) (runO orcl (maildirStdin env input) i).1.1
            (spooledSt st (runO orcl (maildirStdin env input) i).1.1 input (runO orcl (maildirStdin env input) i).1.2.2))
            (runO orcl (maildirStdin env input) i).2.2).1.1
           (runO orcl (closeStdin (stdinFuel env)
            (runO orcl (walk env orc b.expr (stdinFuel env) (runO orcl (maildirStdin env input) i).1.1
              (spooledSt st (runO orcl (maildirStdin env input) i).1.1 input (runO orcl (maildirStdin env input) i).1.2.2))
              (runO orcl (maildirStdin env input) i).2.2).1.2)
            (runO orcl (walk env orc b.expr (stdinFuel env) (runO orcl (maildirStdin env input) i).1.1
              (spooledSt st (runO orcl (maildirStdin env input) i).1.1 input (runO orcl (maildirStdin env input) i).1.2.2))
              (runO orcl (maildirStdin env input) i).2.2).2.2).1)
          (runO orcl (closeStdin (stdinFuel env)
            (runO orcl (walk env orc b.expr (stdinFuel env) (runO orcl (maildirStdin env input) i).1.1
              (spooledSt st (runO orcl (maildirStdin env input) i).1.1 input (runO orcl (maildirStdin env input) i).1.2.2))
              (runO orcl (maildirStdin env input) i).2.2).1.2)
            (runO orcl (walk env orc b.expr (stdinFuel env) (runO orcl (maildirStdin env input) i).1.1
              (spooledSt st (runO orcl (maildirStdin env input) i).1.1 input (runO orcl (maildirStdin env input) i).1.2.2))
              (runO orcl (maildirStdin env input) i).2.2).2.2).2.2
    else
      match strlcpyFits PATH_MAX p, pathjoin PATH_MAX p (subdirName .new) with
      | some root, some np =>
        if (runO orcl (maildirOpendir (maildirOf root np) np) i).1.2 then True
        else
          WalkErr env orc b.expr orcl (walkFuel env st root np) (runO orcl (maildirOpendir (maildirOf root np) np) i).1.1 st
            (runO orcl (maildirOpendir (maildirOf root np) np) i).2.2 ∨
          PathsErr env orc orcl input b more
            (runO orcl (walk env orc b.expr (walkFuel env st root np) (runO orcl (maildirOpendir (maildirOf root np) np) i).1.1 st)
              (runO orcl (maildirOpendir (maildirOf root np) np) i).2.2).1.1
            (runO orcl (maildirClose
              (runO orcl (walk env orc b.expr (walkFuel env st root np) (runO orcl (maildirOpendir (maildirOf root np) np) i).1.1 st)
                (runO orcl (maildirOpendir (maildirOf root np) np) i).2.2).1.2)
              (runO orcl (walk env orc b.expr (walkFuel env st root np) (runO orcl (maildirOpendir (maildirOf root np) np) i).1.1 st)
                (runO orcl (maildirOpendir (maildirOf root np) np) i).2.2).2.2).2.2
      | _, _ => True

def BlocksErr (env : PEnv) (orc : EvalOracles) (orcl : Nat → Call → Res) (input : Bytes) :
    List ConfBlock → MainSt → Nat → Prop
  | [], _, _ => False
  | b :: rest, st, i =>
    PathsErr env orc orcl input b b.paths st i ∨
    BlocksErr env orc orcl input rest (runO orcl (mainP.blocks.paths env orc input b b.paths st) i).1
      (runO orcl (mainP.blocks.paths env orc input b b.paths st) i).2.2

/-- The causes of a non-zero exit status / error flag of a whole run: the configuration file cannot
be opened, the configuration is not valid, or (unless `-n`) a cause occurs in some block.  The index `2` is that of
the first call of the blocks: calls 0 and 1 are the `fopen` and `fclose` of the configuration file (`mainP_eq`). -/
def MainErr (env : PEnv) (orc : EvalOracles) (orcl : Nat → Call → Res) (confOk : Bool) (conf : List ConfBlock)
    (files : Files) (input : Bytes) : Prop :=
  match orcl 0 (.fopen env.confpath) with
  | .ok _ =>
    confOk = false ∨
    (env.syntaxOnly = false ∧ BlocksErr env orc orcl input conf { files := files, error := false, reject := false, log := [] } 2)
  | _ => True

end Mdsort.Proofs

namespace Mdsort.Proofs.Own
open Mdsort Mdsort.Model Mdsort.Proofs

variable {R : Call → Res → Prop}

theorem framedW_paths (env : PEnv) (orc : EvalOracles) (input : Bytes) (b : ConfBlock) (hm : env.stdinMode = false)
    (ps : List Bytes) (st : MainSt) (tr : Trace) :
    wp R FramedW (mainP.blocks.paths env orc input b ps st) (fun _ _ => True) tr :=
  have hm' : env.stdinMode ≠ true := by simp [hm]
  wp_paths (M := fun _ _ => True) (J := fun _ => True) env orc input b (fun h => absurd h hm') (fun h => absurd h hm')
    (fun _ _ _ _ _ => wp_mono (wp_inertW (inert_maildirOpendir _ _) _) fun _ _ _ => by split <;> trivial)
    (fun _ _ _ _ _ => framedW_walk env orc b.expr _ _ _ _) (fun _ _ _ _ => wp_inertW (inert_maildirClose _) _)
    ps st tr True.intro

theorem framedW_blocks (env : PEnv) (orc : EvalOracles) (input : Bytes) (hm : env.stdinMode = false)
    (bs : List ConfBlock) (st : MainSt) (tr : Trace) :
    wp R FramedW (mainP.blocks env orc input bs st) (fun _ _ => True) tr :=
  wp_blocks (J := fun _ => True) env orc input bs (fun b _ st tr _ => framedW_paths env orc input b hm b.paths st tr)
    st tr True.intro

theorem framedW_mainP (env : PEnv) (orc : EvalOracles) (ok : Bool) (conf : List ConfBlock) (files : Files) (input : Bytes)
    (hm : env.stdinMode = false) (tr : Trace) :
    wp R FramedW (mainP env orc ok conf files input) (fun _ _ => True) tr :=
  wp_mainP (J := fun _ => True) env orc ok conf files input (fun _ _ h => h) tr (Inert.framedW (c := .fopen _) True.intro _)
    (fun _ _ => True.intro) (fun h => Inert.framedW (c := .fclose h) True.intro _) (fun _ _ => True.intro)
    fun st tr' _ => framedW_blocks env orc input hm conf st tr'

theorem spooledSt_error (st : MainSt) (md : Maildir) (input : Bytes) (o : Option Bytes) :
    (spooledSt st md input o).error = st.error := by
  cases o <;> rfl

@[simp] theorem orFuel_error (st : MainSt) (fo : Bool) : (orFuel st fo).error = st.error := rfl
@[simp] theorem orFuel_files (st : MainSt) (fo : Bool) : (orFuel st fo).files = st.files := rfl
@[simp] theorem orFuel_reject (st : MainSt) (fo : Bool) : (orFuel st fo).reject = st.reject := rfl
@[simp] theorem orFuel_log (st : MainSt) (fo : Bool) : (orFuel st fo).log = st.log := rfl
@[simp] theorem orFuel_false (st : MainSt) : orFuel st false = st := by simp [orFuel]

theorem paths_error_iff (env : PEnv) (orc : EvalOracles) (orcl : Nat → Call → Res) (input : Bytes) (b : ConfBlock)
    (ps : List Bytes) (st : MainSt) (i : Nat) :
    (runO orcl (mainP.blocks.paths env orc input b ps st) i).1.error = true ↔
      st.error = true ∨ PathsErr env orc orcl input b ps st i := by
  induction ps generalizing st i with
  | nil =>
    rw [paths_nil]
    simp [PathsErr]
  | cons p more ih =>
    have hset : ∀ (st' : MainSt) j, st'.error = true →
        (runO orcl (mainP.blocks.paths env orc input b more st') j).1.error = true :=
      fun st' j h => (ih st' j).2 (.inl h)
    rw [paths_cons, PathsErr]
    by_cases hsk : skipPath env p = true
    · simp only [hsk, if_true]
      exact ih _ _
    · simp only [hsk, Bool.false_eq_true, if_false]
      by_cases hs : isStdinPath p = true
      · simp only [hs, if_true]
        rw [runO_bind]
        by_cases hf : (runO orcl (maildirStdin env input) i).1.2.1 = true
        · simp only [hf, if_true, or_true, iff_true]
          rw [runO_bind]
          exact hset _ _ rfl
        · simp only [hf, Bool.false_eq_true, if_false]
          rw [runO_bind, runO_bind, ih, orFuel_error, walk_error_iff, spooledSt_error, or_assoc]
      · simp only [hs, Bool.false_eq_true, if_false]
        rcases strlcpyFits PATH_MAX p with _ | root
        · simp only [or_true, iff_true]
          exact hset _ _ rfl
        rcases pathjoin PATH_MAX p (subdirName .new) with _ | np
        · simp only [or_true, iff_true]
          exact hset _ _ rfl
        dsimp only
        rw [runO_bind]
        by_cases hf : (runO orcl (maildirOpendir (maildirOf root np) np) i).1.2 = true
        · simp only [hf, if_true, or_true, iff_true]
          exact hset _ _ rfl
        · simp only [hf, Bool.false_eq_true, if_false]
          rw [runO_bind, runO_bind, ih, walk_error_iff, or_assoc]

theorem blocks_error_iff (env : PEnv) (orc : EvalOracles) (orcl : Nat → Call → Res) (input : Bytes)
    (bs : List ConfBlock) (st : MainSt) (i : Nat) :
    (runO orcl (mainP.blocks env orc input bs st) i).1.error = true ↔
      st.error = true ∨ BlocksErr env orc orcl input bs st i := by
  induction bs generalizing st i with
  | nil =>
    rw [blocks_nil]
    simp [BlocksErr]
  | cons b rest ih =>
    rw [blocks_cons, runO_bind, BlocksErr, ih, paths_error_iff, or_assoc]

theorem mainP_error_iff (env : PEnv) (orc : EvalOracles) (orcl : Nat → Call → Res) (confOk : Bool) (conf : List ConfBlock)
    (files : Files) (input : Bytes) :
    (runO orcl (mainP env orc confOk conf files input) 0).1.2.error = true ↔
      MainErr env orc orcl confOk conf files input := by
  rw [mainP_eq, runO_call]
  unfold MainErr
  cases orcl 0 (.fopen env.confpath) with
  | ok h =>
    dsimp only
    rw [runO_call]
    unfold mainK
    cases confOk with
    | false => simp
    | true =>
      cases hsyn : env.syntaxOnly with
      | true => simp
      | false =>
        simp only [Bool.not_true, Bool.false_eq_true, if_false, runO_bind, runO_ret]
        rw [blocks_error_iff]
        simp
  | _ => simp

end Mdsort.Proofs.Own

namespace Mdsort.Proofs
open Mdsort Mdsort.Model
open Mdsort.Proofs.Own

theorem mainP_frame (env : PEnv) (orc : EvalOracles) (ok : Bool) (conf : List ConfBlock) (files : Files) (input : Bytes)
    (hm : env.stdinMode = false) (orcl : Nat → Call → Res) :
    ∀ i c r, (runOracle orcl (mainP env orc ok conf files input) 0 []).2[i]? = some (c, r) →
      FramedW ((runOracle orcl (mainP env orc ok conf files input) 0 []).2.take i) c := by
  intro i c r hget
  exact (wp_sound (R := fun _ _ => True) orcl (fun _ _ => True.intro)
    (framedW_mainP env orc ok conf files input hm []) 0).2 i c r (Nat.zero_le _) hget

theorem mainP_error_oracle_iff (env : PEnv) (orc : EvalOracles) (orcl : Nat → Call → Res) (confOk : Bool)
    (conf : List ConfBlock) (files : Files) (input : Bytes) :
    (runOracle orcl (mainP env orc confOk conf files input) 0 []).1.2.error = true ↔
      MainErr env orc orcl confOk conf files input := by
  rw [runOracle_eq]
  exact mainP_error_iff env orc orcl confOk conf files input

end Mdsort.Proofs

namespace Mdsort.Proofs.World
open Mdsort Mdsort.Model Mdsort.Proofs

variable {env : PEnv} {orc : EvalOracles} {conf : List ConfBlock} {input : Bytes}

/-- A dry run in maildir mode (C05): `calls_processMessage_dry` of every block, through the loops (`calls_mainP`). -/
theorem calls_mainP_dry (hd : env.dryrun = true) (hm : env.stdinMode = false) (ok : Bool) (files : Files) :
    Calls (fun c => c.kind ∈ loopKinds ∨ ∃ b ∈ conf, ∃ d, ParseEvalCall d b.expr c) (mainP env orc ok conf files input) :=
  calls_mainP (fun _ h => .inl h) (fun h => by rw [hm] at h; cases h)
    (fun b hb md n st => (calls_processMessage_dry env orc b.expr md n st hd).mono fun _ ⟨d, _, h⟩ => .inr ⟨b, hb, d, h⟩) ok files

theorem quiet_mainP (env : PEnv) (orc : EvalOracles) (ok : Bool) (conf : List ConfBlock) (files : Files) (input : Bytes)
    (hd : env.dryrun = true) (hm : env.stdinMode = false) :
    Calls (Quiet (confHasCommand conf)) (mainP env orc ok conf files input) :=
  (calls_mainP_dry hd hm ok files).mono fun _ h =>
    h.elim (Quiet.of_kind (by decide)) fun ⟨b, hb, _, h⟩ => ⟨h.quiet, fun hf => List.any_eq_true.2 ⟨b, hb, h.fork' hf⟩⟩

end Mdsort.Proofs.World
