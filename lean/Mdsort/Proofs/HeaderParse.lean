import Mdsort.Spec.Message
import Mdsort.Proofs.HeaderSort
import Mdsort.Proofs.Scanners

/-! `message_parse_headers` on a well-formed message = the line-by-line reading (C08). -/


namespace Mdsort.Proofs
open Mdsort Mdsort.Model

/-- The text of a list of lines. -/
def flat (ls : List Bytes) : Bytes := ls.flatMap (fun l => l ++ [10])

@[simp] theorem flat_nil : flat [] = [] := rfl
@[simp] theorem flat_cons (l : Bytes) (ls : List Bytes) : flat (l :: ls) = l ++ 10 :: flat ls := by
  simp [flat]
theorem flat_append (a b : List Bytes) : flat (a ++ b) = flat a ++ flat b := by
  simp [flat]

def mkHdrs : Nat → List (Bytes × Bytes) → List Hdr
  | _, [] => []
  | n, (k, v) :: fs => { id := n + 1, key := k, val := v } :: mkHdrs (n + 1) fs

theorem skipSeparator_eq (s : Bytes) : skipSeparator s = Spec.dropFromLine s := by
  unfold skipSeparator Spec.dropFromLine startsWith
  split
  · rw [strchr_eq]
    cases h : s.dropWhile (fun c => c != 10) with
    | nil => rfl
    | cons x r => simp
  · rfl

theorem splitHB_spec (t cur : Bytes) (ls : List Bytes) (body : Bytes)
    (hcur : (10 : UInt8) ∉ cur) (h : Spec.splitHB t cur = (ls, some body)) :
    (∀ l ∈ ls, l ≠ [] ∧ (10 : UInt8) ∉ l) ∧ cur ++ t = flat ls ++ 10 :: body := by
  fun_induction Spec.splitHB t cur generalizing ls with
  -- end of text without an empty line: no body
  | case1 cur => simp at h
  -- a newline on an empty line: the body begins
  | case2 c r cur hc he =>
    obtain rfl : c = 10 := by simpa using hc
    obtain rfl : cur = [] := List.isEmpty_iff.mp he
    cases h
    simp
  -- a newline that ends a line
  | case3 c r cur hc he ls' b' hr ih =>
    obtain rfl : c = 10 := by simpa using hc
    cases h
    obtain ⟨h1, h2⟩ := ih ls' (by simp) hr
    refine ⟨List.forall_mem_cons.2 ⟨⟨fun e => he (by simp [e]), hcur⟩, h1⟩, ?_⟩
    simp only [List.nil_append] at h2
    simp [h2]
  -- any other byte joins the line
  | case4 c r cur hc ih =>
    have hc' : c ≠ 10 := by simpa using hc
    have := ih ls (by
      simp only [List.mem_append, List.mem_singleton, not_or]
      exact ⟨hcur, fun e => hc' e.symm⟩) h
    simpa using this

theorem startLine_spec (l n v0 : Bytes) (h : Spec.startLine l = some (n, v0)) :
    ∃ l', l = n ++ 58 :: l' ∧ (∀ c ∈ n, c ≠ 58 ∧ isspace c = false) ∧ v0 = l'.dropWhile isblank := by
  revert h
  fun_cases Spec.startLine l
  -- no colon; white space in the name
  case case1 => exact nofun
  case case2 => exact nofun
  rename_i name hlen hsp
  intro h
  obtain ⟨rfl, rfl⟩ : l.takeWhile (fun c => c != 58) = n ∧
      ((l.drop (name.length + 1)).dropWhile isblank) = v0 := by simpa using h
  have hsplit := List.takeWhile_append_dropWhile (p := fun c => c != 58) (l := l)
  cases hd : l.dropWhile (fun c => c != 58) with
  | nil =>
    rw [hd, List.append_nil] at hsplit
    simp [name, hsplit] at hlen
  | cons x l' =>
    obtain rfl : x = 58 := List.eq_of_dropWhile_ne_eq_cons hd
    rw [hd] at hsplit
    refine ⟨l', hsplit.symm, fun c hc => ⟨by simpa using List.of_mem_takeWhile hc, ?_⟩, ?_⟩
    · simpa [name] using List.any_eq_false.1 (Bool.not_eq_true _ ▸ hsp) c hc
    · conv => lhs; rw [← hsplit]
      simp [name]

theorem afterColonDrop_eq (s : Bytes) : afterColonDrop s = s.dropWhile isblank := drop_nspaces s

theorem scanValue_line (w X : Bytes) (hw : (10 : UInt8) ∉ w) :
    scanValue (w ++ 10 :: X) =
      match X with
      | [] => some (w, [])
      | b :: r => if isblank b then (scanValue (b :: r)).map (fun (v, rest) => (w ++ 10 :: v, rest))
                  else some (w, b :: r) := by
  rw [scanValue_append w _ (fun x hx e => hw (e ▸ hx)), scanValue_cons]
  cases X with
  | nil => simp
  | cons b r =>
    simp only [beq_self_eq_true, if_true]
    split <;> simp [Option.map_map, Function.comp_def]

theorem scanValue_conts (conts : List Bytes) (w Y : Bytes) (hw : (10 : UInt8) ∉ w)
    (hc : ∀ c ∈ conts, Spec.isCont c = true ∧ (10 : UInt8) ∉ c)
    (hY : ∀ c, Y.head? = some c → isblank c = false) :
    scanValue (w ++ 10 :: (flat conts ++ Y)) = some (w ++ conts.flatMap (fun c => 10 :: c), Y) := by
  induction conts generalizing w with
  | nil =>
    rw [scanValue_line w _ hw]
    simp only [flat_nil, List.nil_append, List.flatMap_nil, List.append_nil]
    cases Y with
    | nil => rfl
    | cons b r =>
      simp only
      rw [hY b (by simp)]
      simp
  | cons c cs ih =>
    have hcc := hc c (by simp)
    rw [scanValue_line w _ hw]
    cases c with
    | nil => simp [Spec.isCont] at hcc
    | cons b c' =>
      have hb : isblank b = true := by simpa [Spec.isCont] using hcc.1
      simp only [flat_cons, List.cons_append, hb, if_true]
      have := ih (b :: c') hcc.2 (fun c hc' => hc c (by simp [hc']))
      simp only [List.cons_append] at this
      rw [List.append_assoc, List.cons_append, this]
      simp

theorem findHeader_field (l n v0 : Bytes) (conts : List Bytes) (Y : Bytes)
    (hl : (10 : UInt8) ∉ l) (h : Spec.startLine l = some (n, v0))
    (hc : ∀ c ∈ conts, Spec.isCont c = true ∧ (10 : UInt8) ∉ c)
    (hY : ∀ c, Y.head? = some c → isblank c = false) :
    findHeader (l ++ 10 :: (flat conts ++ Y)) = .ok n (v0 ++ conts.flatMap (fun c => 10 :: c)) Y := by
  obtain ⟨l', rfl, hn, rfl⟩ := startLine_spec l n v0 h
  unfold findHeader
  rw [List.append_assoc, List.cons_append, scanKey_append n _ hn]
  simp only
  rw [afterColonDrop_eq, List.dropWhile_append_cons_of_neg _ _ (by decide)]
  have hl' : (10 : UInt8) ∉ l'.dropWhile isblank := by
    intro hm
    apply hl
    have := (List.dropWhile_sublist isblank).subset hm
    simp [this]
  rw [scanValue_conts conts _ Y hl' hc hY]

theorem findHeader_empty_line (body : Bytes) : findHeader (10 :: body) = .notHeader := by
  unfold findHeader
  rw [scanKey]
  have : isspace 10 = true := by decide
  simp [this]

theorem parseLoop_ok (s : Bytes) (n : Nat) (acc : List Hdr) (key val rest : Bytes)
    (h : findHeader s = .ok key val rest) :
    parseLoop s n acc = parseLoop rest (n + 1) (acc ++ [{ id := n + 1, key := key, val := val }]) := by
  rw [parseLoop]
  split
  · rename_i h'; rw [h] at h'; cases h'
  · rename_i h'; rw [h] at h'; cases h'
  · rename_i k v r h'
    rw [h] at h'
    cases h'
    rfl

theorem parseLoop_notHeader (s : Bytes) (n : Nat) (acc : List Hdr)
    (h : findHeader s = .notHeader) : parseLoop s n acc = (acc, s) := by
  rw [parseLoop]
  split
  · rfl
  · rename_i h'; rw [h] at h'; cases h'
  · rename_i h'; rw [h] at h'; cases h'

theorem parseLoop_fields (fuel : Nat) (ls : List Bytes) (fs : List (Bytes × Bytes)) (body : Bytes)
    (n : Nat) (acc : List Hdr)
    (hls : ∀ l ∈ ls, l ≠ [] ∧ (10 : UInt8) ∉ l)
    (hg : Spec.groupFields fuel ls = some fs) :
    parseLoop (flat ls ++ 10 :: body) n acc = (acc ++ mkHdrs n fs, 10 :: body) := by
  fun_induction Spec.groupFields fuel ls generalizing fs n acc with
  -- out of fuel; no line left: the loop stops at the empty line
  | case1 => cases hg
  | case2 =>
    cases hg
    simp only [flat_nil, List.nil_append, mkHdrs, List.append_nil]
    exact parseLoop_notHeader _ _ _ (findHeader_empty_line body)
  -- a line that starts no field; a field start `l` with its continuation lines `conts`
  | case3 fuel l ls hsl => cases hg
  | case4 fuel l ls' nm v0 hsl conts rest ih =>
    simp only [Option.map_eq_some_iff] at hg
    obtain ⟨fs', hg', rfl⟩ := hg
    have hconts : ∀ c ∈ conts, Spec.isCont c = true ∧ (10 : UInt8) ∉ c := by
      intro c hc
      refine ⟨List.of_mem_takeWhile hc, ?_⟩
      exact (hls c (by simp [(List.takeWhile_sublist _).subset hc])).2
    have hrest : ∀ l ∈ rest, l ≠ [] ∧ (10 : UInt8) ∉ l := by
      intro c hc
      exact hls c (by simp [(List.dropWhile_sublist _).subset hc])
    have hY : ∀ c, (flat rest ++ 10 :: body).head? = some c → isblank c = false := by
      intro c hc
      cases hd : rest with
      | nil =>
        rw [hd] at hc
        simp only [flat_nil, List.nil_append, List.head?_cons, Option.some.injEq] at hc
        subst hc; decide
      | cons r rs =>
        have hr := List.not_of_dropWhile_eq_cons hd
        rw [hd] at hc
        cases r with
        | nil => exact absurd rfl (hrest [] (by rw [hd]; simp)).1
        | cons b r' =>
          simp only [flat_cons, List.cons_append, List.head?_cons, Option.some.injEq] at hc
          subst hc
          simpa [Spec.isCont] using hr
    have htext : flat (l :: ls') ++ 10 :: body = l ++ 10 :: (flat conts ++ (flat rest ++ 10 :: body)) := by
      conv => lhs; rw [← List.takeWhile_append_dropWhile (p := Spec.isCont) (l := ls')]
      simp only [flat_cons, flat_append, List.append_assoc, List.cons_append, conts, rest]
    rw [htext, parseLoop_ok _ _ _ _ _ _ (findHeader_field l nm v0 _ _ (hls l (by simp)).2 hsl hconts hY),
      ih fs' (n + 1) _ hrest hg']
    simp [mkHdrs]

theorem mkHdrs_map_kv (n : Nat) (fs : List (Bytes × Bytes)) :
    (mkHdrs n fs).map (fun h => (h.key, h.val)) = fs := by
  induction fs generalizing n with
  | nil => rfl
  | cons f fs ih => obtain ⟨k, v⟩ := f; simp [mkHdrs, ih]

theorem mkHdrs_map_id (n : Nat) (fs : List (Bytes × Bytes)) :
    (mkHdrs n fs).map (·.id) = (List.range fs.length).map (· + (n + 1)) := by
  induction fs generalizing n with
  | nil => rfl
  | cons f fs ih =>
    obtain ⟨k, v⟩ := f
    simp only [mkHdrs, List.map_cons, List.length_cons, List.range_succ_eq_map, List.map_map, ih]
    simp only [Nat.zero_add, List.cons.injEq, true_and]
    apply List.map_congr_left
    intro a _
    simp only [Function.comp]
    omega

theorem mkHdrs_gt (n : Nat) (fs : List (Bytes × Bytes)) : ∀ h ∈ mkHdrs n fs, n < h.id := by
  induction fs generalizing n with
  | nil => simp [mkHdrs]
  | cons f fs ih =>
    obtain ⟨k, v⟩ := f
    intro h hh
    simp only [mkHdrs, List.mem_cons] at hh
    rcases hh with rfl | hh
    · simp
    · have := ih (n + 1) h hh; omega

theorem mkHdrs_strict (n : Nat) (fs : List (Bytes × Bytes)) :
    (mkHdrs n fs).Pairwise (fun a b => a.id < b.id) := by
  induction fs generalizing n with
  | nil => simp [mkHdrs]
  | cons f fs ih =>
    obtain ⟨k, v⟩ := f
    simp only [mkHdrs, List.pairwise_cons]
    exact ⟨fun h hh => mkHdrs_gt (n + 1) fs h hh, ih (n + 1)⟩

theorem sortById_sortByKey (hs : List Hdr) (h : hs.Pairwise (fun a b => a.id < b.id)) :
    sortById (sortByKey hs) = hs := by
  symm
  apply eq_of_perm_of_strict (·.id) _ _ h
  · have := List.pairwise_mergeSort idLe_trans idLe_total (sortByKey hs)
    exact this.imp (fun h => by simpa [idLe] using h)
  · exact ((List.mergeSort_perm _ _).trans (List.mergeSort_perm _ _)).symm

theorem read_spec (m : Bytes) (fs : List (Bytes × Bytes)) (b : Bytes) (h : Spec.read m = some (fs, b)) :
    (∀ c ∈ m, c ≠ 0) ∧ (∀ c, b.head? = some c → c ≠ 10) ∧
    ∃ ls, (∀ l ∈ ls, l ≠ [] ∧ (10 : UInt8) ∉ l) ∧ Spec.dropFromLine m = flat ls ++ 10 :: b ∧
      Spec.groupFields (ls.length + 1) ls = some fs := by
  revert h
  fun_cases Spec.read m
  -- a NUL; no empty line; a body that begins with a newline; lines that are no fields
  case case1 => exact nofun
  case case2 => exact nofun
  case case3 => exact nofun
  case case4 => exact nofun
  rename_i hnul ls _ hsp _ hg hb
  intro h
  cases h
  refine ⟨fun c hc e => hnul (by simpa [e] using hc), fun c hc e => ?_, ls, ?_⟩
  · cases b with
    | nil => cases hc
    | cons x r => exact hb r (by simp_all)
  · obtain ⟨h1, h2⟩ := splitHB_spec _ [] ls b (by simp) hsp
    exact ⟨h1, by simpa using h2, hg⟩

theorem parseMessage_read (m : Bytes) (fs : List (Bytes × Bytes)) (b : Bytes)
    (h : Spec.read m = some (fs, b)) :
    parseMessage m = { headers := sortByKey (mkHdrs 0 fs), body := b } := by
  obtain ⟨hnul, hb, ls, hls, htext, hg⟩ := read_spec m fs b h
  unfold parseMessage parseHeaders
  rw [cstr_of_no_nul hnul, skipSeparator_eq, htext, parseLoop_fields _ ls fs b 0 [] hls hg]
  simp only [List.nil_append, Msg.mk.injEq, true_and]
  cases b with
  | nil => simp
  | cons x r =>
    have : x ≠ 10 := hb x rfl
    simp [this]

end Mdsort.Proofs
