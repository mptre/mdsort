import Mdsort.Proofs.WorldStdinWalk

/-! One stdin block up to the cleanup: every way `maildir_stdin` can end, and the walk. -/

namespace Mdsort.Proofs.World
open Mdsort Mdsort.Model

/-- The template `mkdtemp` is called with (and, in the model, the name it returns). -/
def spoolRoot (env : PEnv) : Bytes := env.tmpdir ++ [47] ++ ofString "mdsort-XXXXXXXX"
def spoolPath (env : PEnv) : Bytes := spoolRoot env ++ [47] ++ subdirName .new

/-- Hypothesis of the stdin theorems (the model's `mkdtemp` returns its template): neither spool directory exists yet. -/
def SpoolFresh (env : PEnv) (w : World) : Prop := w.dir (spoolRoot env) = none ∧ w.dir (spoolPath env) = none

theorem spoolRoot_last (env : PEnv) : (spoolRoot env).getLast? = some 88 := by
  have h : ofString "mdsort-XXXXXXXX" = [109, 100, 115, 111, 114, 116, 45, 88, 88, 88, 88, 88, 88, 88, 88] := by
    decide +kernel
  simp [spoolRoot, h]

theorem spoolRoot_ne_path (env : PEnv) : spoolRoot env ≠ spoolPath env := by
  intro h
  have := congrArg List.length h
  simp [spoolPath, subdirName] at this

/-- Early failures: only empty directories named by the maildir have been added. -/
theorem clean_of_append {w w1 : World} {ex : List (Bytes × List (Bytes × Nat))} {a b : Bytes} (hd : w1.dirs = w.dirs ++ ex)
    (hex : ∀ e ∈ ex, e.2 = [] ∧ (e.1 = a ∨ e.1 = b)) :
    Extra w w1 fun q => q = a ∨ q = b := by
  intro q hq
  rw [dir_of_append hd] at hq ⊢
  cases hw : w.dir q with
  | some es => exact .inl rfl
  | none =>
    rw [hw] at hq
    simp only [Option.none_or, Option.isSome_map] at hq ⊢
    obtain ⟨e, he⟩ := Option.isSome_iff_exists.1 hq
    have hmem := List.mem_of_find?_eq_some he
    have hkey := List.find?_some he
    simp only [beq_iff_eq] at hkey
    obtain ⟨h1, h2⟩ := hex e hmem
    refine .inr ⟨by rw [← hkey]; exact h2, ?_⟩
    rw [he]
    simp [h1]

theorem CleanPre.congr {w0 w0' w : World} {md : Maildir} (h : CleanPre w0 w md) (hd : ∀ q, w0'.dir q = w0.dir q) :
    CleanPre w0' w md := by
  rcases h with ⟨a, b⟩ | ⟨d, es, a1, a2, a3, a4, a5, a6, a7⟩
  · exact .inl ⟨a, fun q hq => by rw [hd]; exact b q hq⟩
  · exact .inr ⟨d, es, a1, a2, a3, a4, a5, a6, fun q h1 h2 h3 => by rw [hd]; exact a7 q h1 h2 h3⟩

/-- What is known when `maildir_close` is entered (relative to the world `w` before the spool was made). -/
def HeadPost (env : PEnv) (orc : EvalOracles) (expr : Expr) (input : Bytes) (w : World) (y : MainSt × Maildir) (w1 : World) : Prop :=
  CleanPre w w1 y.2 ∧
  (y.1.error = false → ∃ S name0, S.sp = spoolPath env ∧ y.2 = spoolMd S ∧ (∃ k, name0 = gennameName env none k) ∧
    (∃ snap pos, w1.obj S.d = .dir S.sp snap pos) ∧ Done S env orc expr input name0 w1)

theorem dir_spool {w w' : World} {tmpl p : Bytes} (hf1 : w.dir tmpl = none) (hf2 : w.dir p = none) (hne : tmpl ≠ p)
    (hd : w'.dirs = w.dirs ++ [(tmpl, []), (p, [])]) :
    w'.dir p = some [] ∧ w'.dir tmpl = some [] ∧ ∀ q, q ≠ p → q ≠ tmpl → w'.dir q = w.dir q := by
  have hs := dir_of_append hd
  refine ⟨by rw [hs, hf2]; simp [hne], by rw [hs, hf1]; simp, fun q h1 h2 => ?_⟩
  have h3 : ¬ tmpl = q := fun e => h2 e.symm
  have h4 : ¬ p = q := fun e => h1 e.symm
  rw [hs]
  simp [h3, h4]

theorem dir_spool_bind {w w' : World} {tmpl p name : Bytes} {fid : Nat} (hf1 : w.dir tmpl = none) (hf2 : w.dir p = none)
    (hne : tmpl ≠ p) (hd : w'.dirs = ((spoolDirs w tmpl p).bind p name fid).dirs) :
    w'.dir p = some [(name, fid)] ∧ w'.dir tmpl = some [] ∧ ∀ q, q ≠ p → q ≠ tmpl → w'.dir q = w.dir q := by
  obtain ⟨hp, ht, ho⟩ := dir_spool (w' := spoolDirs w tmpl p) hf1 hf2 hne rfl
  refine ⟨?_, ?_, fun q h1 h2 => ?_⟩
  · rw [dir_of_dirs hd, dir_bind]; simp [hp]
  · rw [dir_of_dirs hd, dir_bind]; simp [hne, ht]
  · rw [dir_of_dirs hd, dir_bind, if_neg h1]; exact ho q h1 h2

theorem spec_sessionHead (env : PEnv) (orc : EvalOracles) (input : Bytes) (expr : Expr) (st : MainSt) {w : World}
    (hin : StdinIs w input) (hfresh : SpoolFresh env w) :
    wp NoInv (sessionHead env orc input expr st) (HeadPost env orc expr input w) w := by
  obtain ⟨hf1, hf2⟩ := hfresh
  have hne := spoolRoot_ne_path env
  unfold sessionHead
  refine wp_bind_mono (spec_maildirStdin env input hin) ?_
  rintro ⟨md, failed, spooled⟩ w1 hpost
  dsimp only
  rcases hpost with ⟨hr, hdh, ex, hd, hex⟩ | ⟨tmpl, p, d, htmpl, hp, hmd, hdp, hrest⟩
  · cases hr
    simp only [if_true]
    exact ⟨.inl ⟨hdh, clean_of_append hd hex⟩, nofun⟩
  obtain rfl : tmpl = spoolRoot env := pathjoin_eq htmpl
  obtain rfl : p = spoolPath env := pathjoin_eq hp
  dsimp only at hmd
  subst hmd
  -- what `maildir_close` needs of a world `w2` in which the stream is open, once the other directories of `w1` are those of `w`
  have hclean : (∀ q, q ≠ spoolPath env → q ≠ spoolRoot env → w1.dir q = w.dir q) → ∀ w2 es,
      w2.dirPath d = some (spoolPath env) → w2.dir (spoolPath env) = some es → es.length ≤ 61 →
      (∀ e ∈ es, (95 : UInt8) ∈ e.1) → w2.dir (spoolRoot env) = some [] →
      (∀ q, (w2.dir q).isSome = (w1.dir q).isSome) →
      CleanPre w w2 { md0 with root := spoolRoot env, path := spoolPath env, dirH := some d } := by
    intro hoth w2 es a1 a2 a3 a4 a5 a6
    refine .inr ⟨d, es, rfl, a1, a2, a3, a4, a5, ?_⟩
    intro q h1 h2 hq
    rw [a6, hoth q h1 h2] at hq
    exact hq
  rcases hrest with ⟨hr, hd⟩ | ⟨name, fid, hsp, hd, -, hfid, hok, h95, hobj, hk⟩
  · cases hr
    simp only [if_true]
    obtain ⟨hdirp, hdirt, hoth⟩ := dir_spool hf1 hf2 hne hd
    exact ⟨hclean hoth w1 [] hdp hdirp (by simp) (by simp) hdirt (fun _ => rfl), nofun⟩
  · dsimp only at hsp hok
    subst hsp
    obtain ⟨hdirp, hdirt, hoth⟩ := dir_spool_bind hf1 hf2 hne hd
    replace hclean := hclean hoth
    cases failed with
    | true =>
      simp only [if_true]
      exact ⟨hclean w1 _ hdp hdirp (by simp) (by intro e he; simp at he; subst he; exact h95) hdirt (fun _ => rfl),
        nofun⟩
    | false =>
      simp only [Bool.false_eq_true, if_false]
      have hfile := hok rfl
      have hnd := notDot_of_mem h95
      have hS : SpoolShape ⟨d, spoolPath env, spoolRoot env⟩ := ⟨spoolRoot_last env, rfl⟩
      have hrem : streamRest w1 d = sortedNames [(name, fid)] := by
        simp [streamRest, hobj, hdirp]
      have hmemS : ∀ x, x ∈ sortedNames [(name, fid)] ↔ (x = [46] ∨ x = [46, 46] ∨ x = name) := by
        intro x
        unfold sortedNames
        rw [List.mem_mergeSort]
        simp
      have base : WalkBase ⟨d, spoolPath env, spoolRoot env⟩ w1 w1 :=
        ⟨⟨fun _ _ _ => rfl, Nat.le_refl _, fun _ => rfl, hdirt⟩, ⟨none, 0, hobj⟩,
          ⟨name, name, h95, h95, ⟨[(name, fid)], hdirp, by simp, by simp⟩⟩⟩
      refine wp_mono (spec_walk_sp ⟨d, spoolPath env, spoolRoot env⟩ hS env orc expr name input fid h95 w1 (stdinFuel env) _ base
        ?_ ?_ ?_ ?_ ?_) ?_
      · intro x hx
        rw [hrem] at hx
        exact (hmemS x).1 hx
      · rw [hrem]
        unfold sortedNames
        rw [(List.mergeSort_perm _ _).nodup_iff]
        have h1 : ¬ ([46] : Bytes) = name := fun h => hnd.1 h.symm
        have h2 : ¬ ([46, 46] : Bytes) = name := fun h => hnd.2 h.symm
        simp [h1, h2]
      · rw [hrem, length_sortedNames]
        simp only [List.length_cons, List.length_nil, stdinFuel]
        omega
      · exact fun _ => ⟨hdirp, hfile, hfid, (Files.whole_get_put _ _ _ _ _ _).trans (if_pos ⟨rfl, rfl⟩), hdirt⟩
      · exact fun h => absurd (by rw [hrem]; exact (hmemS name).2 (.inr (.inr rfl))) h
      · rintro ⟨st', md'⟩ w2 ⟨hmd', base2, hdone⟩
        dsimp only at hmd' hdone
        subst hmd'
        obtain ⟨snap, pos, ho2⟩ := base2.dOpen
        obtain ⟨a, b, ha, hb, hn2⟩ := base2.names
        obtain ⟨es, hes, hlen, hnames⟩ := hn2.length_le2
        refine ⟨hclean w2 es (dirPath_of_obj ho2) hes (by omega) ?_ base2.inv.root base2.inv.exist, ?_⟩
        · intro e he
          rcases hnames e he with h | h
          · rw [h]; exact ha
          · rw [h]; exact hb
        · intro he
          exact ⟨⟨d, spoolPath env, spoolRoot env⟩, name, rfl, rfl, hk, ⟨snap, pos, ho2⟩, hdone he⟩

end Mdsort.Proofs.World
