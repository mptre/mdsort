import Mdsort.Model.L0.Util
import Mdsort.Proofs.L0Decode
import Mdsort.Proofs.MimeScan
import Mdsort.Model.Eval
import Mdsort.Model.Flags
import Mdsort.Proofs.LimitsSetters
import Mdsort.Proofs.Interp

/-!
# L0 `ismacro`, `isbackref`, `pathslice` refine the list model

No access leaves its object, and the results are tracked: the length and the
`strndup`ed name `ismacro` returns, the length and the two indices `isbackref` returns (through `strtoul`), and the
C string `pathslice` leaves in its destination are those of the list model on the view.
-/

namespace Mdsort.L0
open Mdsort Mdsort.L0.Buf

theorem scanBrace_eq {b : Buf} {i : Nat} {c : UInt8} (hg : b.get? i = .ok c) :
    scanBrace b i = if c == 125 then .ok (some i) else if c == 0 then .ok none else scanBrace b (i + 1) := by
  rw [scanBrace]; split <;> simp_all

theorem scanBrace_spec {b : Buf} {i : Nat} (h : b.HasNul i) :
    scanBrace b i = .ok (match (b.view i).dropWhile (· != 125) with
      | [] => none
      | _ :: _ => some (i + ((b.view i).takeWhile (· != 125)).length)) :=
  h.scan_chr 125 (by decide) fun _ _ => scanBrace_eq

/-- The L0 result of `ismacro` for an L1 result: the name is handed out as a `strndup`ed C string. -/
def l0r_macroAbs : Sum (Nat × Bytes) Bool → Sum (Nat × Buf) Bool
  | .inl (n, name) => .inl (n, Buf.ofBytes name)
  | .inr e => .inr e

theorem l0r_isMacro_refines (b : Buf) {i : Nat} (h : b.HasNul i) :
    isMacro b i = .ok (l0r_macroAbs (Model.isMacro (b.view i))) := by
  have c0 := h.at
  generalize b.view i = s at c0 ⊢
  unfold isMacro
  rw [c0.get?]
  match s, c0 with
  | [], _ => rfl
  | x :: s1, c0 =>
    by_cases hx : x = 36
    case neg =>
      rw [Proofs.isMacro_ne x s1 hx]
      simp only [List.headD_cons, bne_iff_ne, ne_eq, hx, not_false_eq_true, if_true]
      rfl
    subst hx
    have c1 := c0.tail
    simp only [List.headD_cons, bne_self_eq_false, Bool.false_eq_true, if_false]
    rw [c1.get?]
    match s1, c1 with
    | [], _ => rfl
    | y :: r, c1 =>
      by_cases hy : y = 123
      case neg =>
        rw [Proofs.isMacro_ne_brace 36 y r hy]
        simp only [List.headD_cons, bne_iff_ne, ne_eq, hy, not_false_eq_true, if_true]
        rfl
      subst hy
      have c2 : b.At (i + 2) r := c1.tail
      simp only [List.headD_cons, bne_self_eq_false, Bool.false_eq_true, if_false]
      rw [scanBrace_spec c2.hasNul, c2.view, Model.isMacro, Proofs.takeWhile_length_eq_iff]
      cases hd : r.dropWhile (· != 125) with
      | nil => rfl
      | cons y t =>
        simp only [List.isEmpty_cons, Bool.false_eq_true, if_false]
        rw [strndup_spec c2.hasNul, c2.view, Nat.add_sub_cancel_left, List.take_length_takeWhile,
          show i + 2 + (r.takeWhile (· != 125)).length + 1 - i = (r.takeWhile (· != 125)).length + 3 by omega]
        rfl

theorem l0r_countSlash_split (s : Bytes) :
    Model.countSlash s = match s.dropWhile (· != 47) with
      | [] => 0
      | _ :: r => Model.countSlash r + 1 := by
  induction s with
  | nil => rfl
  | cons c t ih =>
    by_cases hc : c = 47
    · subst hc
      simp [Model.countSlash]
    · have h1 : (c != 47) = true := by simp [hc]
      have h2 : (c == 47) = false := by simpa using hc
      simp only [List.dropWhile_cons, h1, if_true]
      rw [← ih]
      simp [Model.countSlash, h2]

theorem l0r_countSlashes_spec (b : Buf) {p : Nat} (h : b.HasNul p) (n : Nat) :
    countSlashes b p n = .ok (n + Model.countSlash (b.view p)) := by
  induction h using HasNul.strong_induction generalizing n with
  | step p h ih =>
    rw [countSlashes, strchr_spec h 47 (by decide), l0r_countSlash_split]
    have c := h.at.dropWhile (· != 47)
    cases hd : (b.view p).dropWhile (· != 47) with
    | nil => rfl
    | cons x r =>
      rw [hd] at c
      simp only
      rw [ih _ c.tail.hasNul (by omega), c.tail.view]
      congr 1
      omega

/-- The invariant of the copy: `p` is inside the path, `bp + bufsiz` never exceeds the destination, and what has been
written so far contains no NUL. -/
def l0r_StOk (path : Buf) (st : SliceSt) : Prop :=
  path.HasNul st.p ∧ st.bp + st.room ≤ st.buf.size ∧ ∀ x ∈ st.buf.slice 0 st.bp, x ≠ 0

theorem l0r_StOk.push {path : Buf} {st : SliceSt} (hok : l0r_StOk path st) (hr : st.room ≠ 0) {c : UInt8} (hc : c ≠ 0)
    {p' : Nat} (hp' : path.HasNul p') :
    ∃ buf', st.buf.set st.bp c = .ok buf' ∧ buf'.slice 0 (st.bp + 1) = st.buf.slice 0 st.bp ++ [c] ∧
      l0r_StOk path { p := p', buf := buf', bp := st.bp + 1, room := st.room - 1 } := by
  obtain ⟨_, hroom, hnz⟩ := hok
  obtain ⟨buf', hset, hsz, hpush⟩ := set_push (d := st.buf) (k := st.bp) c (by omega)
  refine ⟨buf', hset, hpush, hp', by simp only [hsz]; omega, ?_⟩
  simp only [hpush, List.mem_append, List.mem_singleton]
  rintro x (hx | rfl)
  · exact hnz x hx
  · exact hc

/-- How an L0 state of `pathslice`'s component copy stands for the L1 one.  (`Model.sliceComp` returns a triple, the loop
a `Model.SliceSt`: hence this relation and `l0r_LoopRel`, the same four facts against the two types.) -/
def l0r_CompRel (path : Buf) : Option SliceSt → Option (Bytes × Bytes × Nat) → Prop
  | none, none => True
  | some st, some (p, out, room) =>
    l0r_StOk path st ∧ path.view st.p = p ∧ st.buf.slice 0 st.bp = out ∧ st.room = room
  | _, _ => False

theorem l0r_sliceComp_refines (path : Buf) (docopy : Bool) (st : SliceSt) (hok : l0r_StOk path st) :
    ∃ r, sliceComp path docopy st = .ok r ∧
      l0r_CompRel path r (Model.sliceComp docopy (path.view st.p) (st.buf.slice 0 st.bp) st.room) := by
  -- the position is the field `st.p` of a state whose other fields change with it, so the induction is on the distance to the
  -- end of the path with the whole state general (`HasNul.induction` wants the position as a variable of its own)
  generalize hm : path.size - st.p = m
  induction m using Nat.strongRecOn generalizing st with
  | _ m ih =>
    obtain ⟨hn, hroom, hnz⟩ := hok
    have := hn.lt
    rcases hn.cases with ⟨hg, hv⟩ | ⟨c, hc, hg, hv, hn'⟩
    · rw [sliceComp, hg, hv]
      refine ⟨some st, by simp, ?_⟩
      rw [Model.sliceComp]
      exact ⟨⟨hn, hroom, hnz⟩, hv, rfl, rfl⟩
    · rw [sliceComp, hg, hv, Model.sliceComp]
      have hc0 : (c == 0) = false := by simpa using hc
      simp only [hc0, Bool.or_false]
      by_cases h47 : (c == 47) = true
      · rw [if_pos h47, if_pos h47]
        exact ⟨some st, rfl, ⟨hn, hroom, hnz⟩, hv, rfl, rfl⟩
      · rw [if_neg h47, if_neg h47]
        cases docopy with
        | false =>
          simp only [Bool.not_false, if_true]
          exact ih _ (by simp only; omega) { st with p := st.p + 1 } ⟨hn', hroom, hnz⟩ rfl
        | true =>
          simp only [Bool.not_true, Bool.false_eq_true, if_false]
          by_cases hr : st.room = 0
          · simp only [hr, beq_self_eq_true, if_true]
            exact ⟨none, rfl, trivial⟩
          · have hr' : (st.room == 0) = false := by simpa using hr
            simp only [hr', Bool.false_eq_true, if_false]
            obtain ⟨buf', hset, hpush, hok'⟩ := l0r_StOk.push ⟨hn, hroom, hnz⟩ hr hc hn'
            rw [hset]
            simp only
            have := ih _ (by simp only; omega) _ hok' rfl
            simp only at this
            rw [hpush] at this
            exact this

/-- How an L0 state of `pathslice`'s loop stands for the L1 one. -/
def l0r_LoopRel (path : Buf) : Option SliceSt → Option Model.SliceSt → Prop
  | none, none => True
  | some st, some m => l0r_StOk path st ∧ st.buf.slice 0 st.bp = m.out ∧ st.room = m.room
  | _, _ => False

/-- The first byte of a component.  The list-level side is `Limits.first1`, the part of `Model.sliceLoop` that
`Limits.sliceLoop_succ` names; it does not look at the text `c :: r` it is given, so `r` is any text here (the caller puts
the view after `c`). -/
theorem l0r_sliceFirst_refines (path : Buf) (isabs isrange docopy : Bool) (c : UInt8) (hc : c ≠ 0) (st : SliceSt)
    (hok : l0r_StOk path st) (r : Bytes) :
    ∃ r1, sliceFirst isabs isrange docopy c st = .ok r1 ∧
      match r1, Proofs.Limits.first1 isrange docopy c { p := c :: r, out := st.buf.slice 0 st.bp, room := st.room, isabs := isabs } with
      | none, none => True
      | some s1, some m => s1.p = st.p ∧ l0r_StOk path s1 ∧ s1.buf.slice 0 s1.bp = m.out ∧ s1.room = m.room
      | _, _ => False := by
  obtain ⟨hn, hroom, hnz⟩ := hok
  unfold sliceFirst Proofs.Limits.first1
  cases docopy with
  | false => exact ⟨some st, by simp, rfl, ⟨hn, hroom, hnz⟩, rfl, rfl⟩
  | true =>
    simp only [if_true]
    by_cases hr : st.room = 0
    · simp only [hr, beq_self_eq_true, if_true]; exact ⟨none, rfl, trivial⟩
    · have hr' : (st.room == 0) = false := by simpa using hr
      simp only [hr', Bool.false_eq_true, if_false]
      by_cases h1 : (isabs && isrange) = true
      · simp only [h1, if_true]
        obtain ⟨buf', hset, hpush, hok'⟩ := l0r_StOk.push ⟨hn, hroom, hnz⟩ hr (c := 47) (by decide) hn
        rw [hset]
        exact ⟨_, rfl, rfl, hok', hpush, rfl⟩
      · simp only [h1, Bool.false_eq_true, if_false]
        by_cases h2 : (!isabs) = true
        · simp only [h2, if_true]
          obtain ⟨buf', hset, hpush, hok'⟩ := l0r_StOk.push ⟨hn, hroom, hnz⟩ hr hc hn
          rw [hset]
          exact ⟨_, rfl, rfl, hok', hpush, rfl⟩
        · simp only [h2, Bool.false_eq_true, if_false]
          exact ⟨some st, rfl, rfl, ⟨hn, hroom, hnz⟩, rfl, rfl⟩

theorem l0r_sliceLoop_refines (path : Buf) (isrange : Bool) (beg end_ : Int) :
    ∀ (n i : Nat) (isabs : Bool) (st : SliceSt), l0r_StOk path st →
      ∃ r, sliceLoop path isrange beg end_ n i isabs st = .ok r ∧
        l0r_LoopRel path r (Model.sliceLoop isrange beg end_ n i
          { p := path.view st.p, out := st.buf.slice 0 st.bp, room := st.room, isabs := isabs }) := by
  intro n
  induction n with
  | zero =>
    intro i isabs st hok
    exact ⟨some st, rfl, hok, rfl, rfl⟩
  | succ n ih =>
    intro i isabs st hok
    obtain ⟨hn, hroom, hnz⟩ := hok
    rw [sliceLoop, Proofs.Limits.sliceLoop_succ]
    rcases hn.cases with ⟨hg, hv⟩ | ⟨c, hc, hg, hv, hn'⟩
    · rw [hg]
      simp only [hv]
      exact ⟨some st, by simp, ⟨hn, hroom, hnz⟩, rfl, rfl⟩
    · rw [hg]
      have hc' : (c == 0) = false := by simpa using hc
      simp only [hc', Bool.false_eq_true, if_false, hv]
      obtain ⟨r1, hr1, hrel1⟩ := l0r_sliceFirst_refines path isabs isrange
        (decide (beg ≤ (i : Int)) && decide ((i : Int) ≤ end_)) c hc st ⟨hn, hroom, hnz⟩ (path.view (st.p + 1))
      rw [hr1]
      generalize Proofs.Limits.first1 isrange (decide (beg ≤ (i : Int)) && decide ((i : Int) ≤ end_)) c
        { p := c :: path.view (st.p + 1), out := st.buf.slice 0 st.bp, room := st.room, isabs := isabs } = f1 at hrel1
      match r1, f1, hrel1 with
      | none, none, _ => exact ⟨none, rfl, trivial⟩
      | some s1, some m, ⟨hp1, ⟨hn1, hroom1, hnz1⟩, hout1, hroom1'⟩ =>
        simp only
        have hok2 : l0r_StOk path { s1 with p := s1.p + 1 } := ⟨by simp only [hp1]; exact hn', hroom1, hnz1⟩
        obtain ⟨r2, hr2, hrel2⟩ := l0r_sliceComp_refines path (decide (beg ≤ (i : Int)) && decide ((i : Int) ≤ end_))
          { s1 with p := s1.p + 1 } hok2
        rw [hr2]
        simp only [hp1, hout1, hroom1'] at hrel2
        generalize Model.sliceComp (decide (beg ≤ (i : Int)) && decide ((i : Int) ≤ end_))
          (path.view (st.p + 1)) m.out m.room = c2 at hrel2
        match r2, c2, hrel2 with
        | none, none, _ => exact ⟨none, rfl, trivial⟩
        | some s2, some (p', out', room'), ⟨hok3, hv3, hout3, hroom3⟩ =>
          simp only
          have := ih (i + 1) true s2 hok3
          rw [hv3, hout3, hroom3] at this
          exact this

theorem l0r_isabs_eq {path : Buf} {c0 : UInt8} (hp : path.HasNul 0) (hg : path.get? 0 = .ok c0) :
    (match path.view 0 with | 47 :: _ => true | _ => false) = (c0 == 47) := by
  rcases hp.cases with ⟨hg0, hv⟩ | ⟨c, hc, hgc, hv, _⟩
  · rw [hg] at hg0; cases hg0; rw [hv]; rfl
  · rw [hg] at hgc; cases hgc
    rw [hv]
    by_cases h47 : c0 = 47
    · subst h47; rfl
    · have : (c0 == 47) = false := by simpa using h47
      rw [this]
      split
      · rename_i heq; cases heq; exact absurd rfl h47
      · rfl

/-- `Model.pathslice` with its `isabs` named. -/
theorem l0r_pathslice_unfold (s : Bytes) (bufsiz : Nat) (beg end_ : Int) (isabs : Bool)
    (h : isabs = (match s with | 47 :: _ => true | _ => false)) :
    Model.pathslice s bufsiz beg end_ =
      (let ncomps : Int := (if isabs then 0 else 1) + (Model.countSlash s : Int)
       let isrange := !(end_ - beg == 0)
       let r : Int := if isrange then 1 else 0
       let end1 := if end_ < 0 then ncomps + end_ - r else end_
       let beg1 := if beg < 0 then ncomps + beg - r else beg
       if beg1 < 0 || beg1 > end1 || end1 < 0 || end1 ≥ ncomps then none
       else
         match Model.sliceLoop isrange beg1 end1 ncomps.toNat 0 { p := s, out := [], room := bufsiz, isabs := isabs } with
         | none => none
         | some st => if st.room == 0 then none else some st.out) := by
  subst h
  rfl

theorem l0r_pathslice_refines (path : Buf) (hp : path.HasNul 0) (buf : Buf) (bufsiz : Nat) (hb : bufsiz ≤ buf.size)
    (beg end_ : Int) :
    ∃ r, pathslice path buf bufsiz beg end_ = .ok r ∧
      r.map (fun d => d.view 0) = Model.pathslice (path.view 0) bufsiz beg end_ := by
  obtain ⟨c0, hc0⟩ : ∃ c, path.get? 0 = .ok c := ⟨_, get?_of_lt hp.lt⟩
  rw [l0r_pathslice_unfold _ _ _ _ (c0 == 47) (l0r_isabs_eq hp hc0).symm]
  unfold pathslice
  rw [hc0]
  simp only
  rw [l0r_countSlashes_spec path hp]
  simp only
  have hnc : ((if (c0 == 47) = true then (0 : Int) else 1) + (Model.countSlash (path.view 0) : Int)) =
      (((if (c0 == 47) = true then 0 else 1) + Model.countSlash (path.view 0) : Nat) : Int) := by
    split <;> simp
  rw [hnc]
  generalize (if (c0 == 47) = true then 0 else 1) + Model.countSlash (path.view 0) = nc
  unfold sliceBounds
  simp only [Int.toNat_natCast]
  generalize (!(end_ - beg == 0)) = isrange
  generalize (if beg < 0 then (nc : Int) + beg - (if isrange = true then 1 else 0) else beg) = beg1
  generalize (if end_ < 0 then (nc : Int) + end_ - (if isrange = true then 1 else 0) else end_) = end1
  by_cases hcond : (decide (beg1 < 0) || decide (beg1 > end1) || decide (end1 < 0) || decide (end1 ≥ (nc : Int))) = true
  · rw [if_pos hcond, if_pos hcond]
    exact ⟨none, rfl, rfl⟩
  · rw [if_neg hcond, if_neg hcond]
    simp only
    have hok0 : l0r_StOk path { p := 0, buf := buf, bp := 0, room := bufsiz } :=
      ⟨hp, by simpa using hb, by simp [slice_self]⟩
    obtain ⟨r, hr, hrel⟩ := l0r_sliceLoop_refines path isrange beg1 end1
      nc 0 (c0 == 47) { p := 0, buf := buf, bp := 0, room := bufsiz } hok0
    simp only [slice_self] at hrel
    rw [hr]
    generalize Model.sliceLoop isrange beg1 end1 nc 0
      { p := path.view 0, out := [], room := bufsiz, isabs := c0 == 47 } = ml at hrel
    match r, ml, hrel with
    | none, none, _ => exact ⟨none, rfl, rfl⟩
    | some st, some m, ⟨⟨_, hroom, hnz⟩, hout, hroomeq⟩ =>
      simp only
      rw [← hroomeq]
      by_cases h0 : st.room = 0
      · simp only [h0, beq_self_eq_true, if_true]; exact ⟨none, rfl, rfl⟩
      · have h0' : (st.room == 0) = false := by simpa using h0
        simp only [h0', Bool.false_eq_true, if_false]
        obtain ⟨d, hset, -, -, hv⟩ := set_nul_view (d := st.buf) (k := st.bp) (by omega)
        rw [hset]
        exact ⟨_, rfl, by rw [Option.map_some, hv, cstr_of_no_nul hnz, hout]⟩

theorem strtoulDigits_eq {b : Buf} {i : Nat} {c : UInt8} (acc : Nat) (hg : b.get? i = .ok c) :
    strtoulDigits b i acc =
      if isdigit c then strtoulDigits b (i + 1) (acc * 10 + (c.toNat - 48)) else .ok (acc, i) := by
  rw [strtoulDigits]; split <;> simp_all

/-- The index and the list model's counter advance together: one induction gives the value, the count and the bound. -/
theorem l0r_strtoulDigits_spec {b : Buf} {i : Nat} (h : b.HasNul i) : ∀ (acc n : Nat),
    ∃ k, k ≤ (b.view i).length ∧ (Model.strtoulDigits (b.view i) acc n).2 = n + k ∧
      strtoulDigits b i acc = .ok ((Model.strtoulDigits (b.view i) acc n).1, i + k) := by
  induction h using HasNul.induction with
  | nul i h hg hv =>
    intro acc n
    rw [strtoulDigits_eq acc hg, hv]
    exact ⟨0, Nat.le_refl _, rfl, rfl⟩
  | cons i c h h' hc hg hv ih =>
    intro acc n
    rw [strtoulDigits_eq acc hg, hv, Model.strtoulDigits]
    by_cases hd : isdigit c = true
    · obtain ⟨k, hk, hm, hl⟩ := ih (acc * 10 + (c.toNat - 48)) (n + 1)
      rw [if_pos hd, if_pos hd, hl, hm]
      exact ⟨k + 1, by simpa using hk, by omega, by rw [Nat.add_right_comm, Nat.add_assoc]⟩
    · rw [if_neg hd, if_neg hd]
      exact ⟨0, Nat.zero_le _, rfl, rfl⟩

/-- `Model.strtoul` with the sign test named. -/
theorem l0r_strtoul_unfold (s : Bytes) (p : Bool × Nat)
    (hp : p = (match s.drop (s.takeWhile isspace).length with
      | 45 :: _ => (true, 1)
      | 43 :: _ => (false, 1)
      | _ => (false, 0))) :
    Model.strtoul s =
      (let ws := (s.takeWhile isspace).length
       let q := Model.strtoulDigits ((s.drop ws).drop p.2) 0 0
       if q.2 == 0 then (some 0, 0)
       else if p.1 then (Model.strtoulNeg q.1, ws + p.2 + q.2)
       else if q.1 > 2147483647 then (none, ws + p.2 + q.2) else (some q.1, ws + p.2 + q.2)) := by
  subst hp
  rfl

theorem l0r_sign_eq (s1 : Bytes) :
    ((s1.headD 0 == 45, if (s1.headD 0 == 45 || s1.headD 0 == 43) = true then 1 else 0) : Bool × Nat) =
      (match s1 with
       | 45 :: _ => (true, 1)
       | 43 :: _ => (false, 1)
       | _ => (false, 0)) := by
  cases s1 with
  | nil => rfl
  | cons x t =>
    by_cases h45 : x = 45
    · subst h45; rfl
    · by_cases h43 : x = 43
      · subst h43; rfl
      · have e1 : (x == 45) = false := by simpa using h45
        have e2 : (x == 43) = false := by simpa using h43
        simp only [List.headD_cons, e1, e2, Bool.or_false, Bool.false_eq_true, if_false]
        split
        · rename_i heq; exact absurd (List.cons.inj heq).1 h45
        · rename_i heq; exact absurd (List.cons.inj heq).1 h43
        · rfl

/-- `strtoul` (with the caller's `INT_MAX` test) refines the list model: the value, and `end = nptr + consumed`. -/
theorem l0r_strtoul_spec {b : Buf} {i : Nat} (h : b.HasNul i) :
    strtoul b i = .ok ((Model.strtoul (b.view i)).1, i + (Model.strtoul (b.view i)).2) ∧
      (Model.strtoul (b.view i)).2 ≤ (b.view i).length := by
  have c1 := h.at.dropWhile isspace
  rw [l0r_strtoul_unfold (b.view i) _ (l0r_sign_eq _)]
  unfold strtoul
  rw [skipIsspace_spec h]
  simp only
  rw [c1.get?, List.drop_length_takeWhile]
  simp only
  have hws := List.length_takeWhile_add_length_dropWhile isspace (b.view i)
  generalize ((b.view i).takeWhile isspace).length = ws at c1 hws ⊢
  generalize (b.view i).dropWhile isspace = s1 at c1 hws ⊢
  -- the cursor after the sign
  obtain ⟨sgn, hsgn, hpos, c2⟩ : ∃ sgn : Nat, (if (s1.headD 0 == 45 || s1.headD 0 == 43) = true then 1 else 0) = sgn ∧
      (if (s1.headD 0 == 45 || s1.headD 0 == 43) = true then i + ws + 1 else i + ws) = i + ws + sgn ∧
      b.At (i + ws + sgn) (s1.drop sgn) := by
    by_cases hs : (s1.headD 0 == 45 || s1.headD 0 == 43) = true
    · rw [if_pos hs, if_pos hs]
      exact ⟨1, rfl, rfl, c1.next (by intro e; rw [e] at hs; exact absurd hs (by decide))⟩
    · rw [if_neg hs, if_neg hs]
      exact ⟨0, rfl, rfl, c1⟩
  obtain ⟨k, hk, hm, hl⟩ := l0r_strtoulDigits_spec c2.hasNul 0 0
  rw [c2.view] at hk hm hl
  rw [hsgn, hpos, hl]
  simp only
  rw [hm, Nat.zero_add]
  rw [List.length_drop] at hk
  generalize (Model.strtoulDigits (s1.drop sgn) 0 0).1 = v
  by_cases hk0 : k = 0
  · have e1 : (i + ws + sgn + k == i + ws + sgn) = true := by simp [hk0]
    have e2 : (k == 0) = true := by simp [hk0]
    simp only [e1, e2, if_true, Nat.add_zero, Nat.zero_le, and_self]
  · have e1 : (i + ws + sgn + k == i + ws + sgn) = false := by
      simp only [beq_eq_false_iff_ne, ne_eq]; omega
    have e2 : (k == 0) = false := by simpa using hk0
    simp only [e1, e2, Bool.false_eq_true, if_false]
    have hadd : i + ws + sgn + k = i + (ws + sgn + k) := by omega
    have hbound : ws + sgn + k ≤ (b.view i).length := by omega
    cases s1.headD 0 == 45 with
    | true =>
      -- the L0 model files do not import the list models, so `strtoulNeg` is defined in both
      exact ⟨by rw [hadd]; rfl, hbound⟩
    | false =>
      simp only [Bool.false_eq_true, if_false]
      split <;> exact ⟨by rw [hadd], hbound⟩

/-- The L0 result of `isbackref` for an L1 result. -/
def l0r_backrefAbs : Sum (Nat × Model.Backref) Bool → Sum (Nat × Nat × Nat) Bool
  | .inl (n, br) => .inl (n, br.mi, br.si)
  | .inr e => .inr e

theorem l0r_isBackref_refines (b : Buf) {i : Nat} (h : b.HasNul i) :
    isBackref b i = .ok (l0r_backrefAbs (Model.isBackref (b.view i))) := by
  have c0 := h.at
  generalize b.view i = s at c0 ⊢
  unfold isBackref
  rw [c0.get?]
  match s, c0 with
  | [], _ => rfl
  | x :: s1, c0 =>
    by_cases hx : x = 92
    case neg =>
      rw [Proofs.isBackref_ne x s1 hx]
      simp only [List.headD_cons, bne_iff_ne, ne_eq, hx, not_false_eq_true, if_true]
      rfl
    subst hx
    have c1 := c0.tail
    simp only [List.headD_cons, bne_self_eq_false, Bool.false_eq_true, if_false]
    rw [c1.get?]
    match s1, c1 with
    | [], _ => rfl
    | d :: r, c1 =>
      rw [Model.isBackref]
      simp only [List.headD_cons, List.drop_succ_cons, List.drop_zero]
      by_cases hdig : isdigit d = true
      case neg => simp only [hdig, Bool.not_false, if_true]; rfl
      simp only [hdig, Bool.not_true, Bool.false_eq_true, if_false]
      obtain ⟨hst, hle⟩ := l0r_strtoul_spec c1.hasNul
      rw [c1.view] at hst hle
      rw [hst]
      cases hm : Model.strtoul (d :: r) with
      | mk o n =>
        rw [hm] at hle
        cases o with
        | none => rfl
        | some val =>
          have ce := c1.drop n hle
          simp only
          rw [ce.get?, show (92 :: d :: r).drop (1 + n) = (d :: r).drop n by rw [Nat.add_comm]; rfl]
          generalize (d :: r).drop n = rest at ce ⊢
          have e1 : i + 1 + n - i = 1 + n := by omega
          have e2 : i + 1 + n + 1 - i = 1 + n + 1 := by omega
          rw [e1, e2]
          -- `s = end`: a `.` and a second number, or `\.`, or anything else
          match rest, ce with
          | [], _ => rfl
          | z :: after, ce =>
            have c2 := ce.tail
            simp only [List.headD_cons]
            by_cases h46 : z = 46
            · subst h46
              simp only [beq_self_eq_true, if_true]
              rw [(l0r_strtoul_spec c2.hasNul).1, c2.view]
              cases Model.strtoul after with
              | mk o2 n2 =>
                cases o2 with
                | none => rfl
                | some v2 =>
                  simp only [l0r_backrefAbs]
                  rw [show i + 1 + n + 1 + n2 - i = 1 + n + 1 + n2 by omega]
            · have e46 : (z == 46) = false := by simpa using h46
              simp only [e46, Bool.false_eq_true, if_false]
              by_cases h92 : z = 92
              · subst h92
                simp only [beq_self_eq_true, if_true]
                rw [c2.get?]
                match after with
                | [] => rfl
                | w :: t =>
                  simp only [List.headD_cons]
                  by_cases hw : w = 46
                  · subst hw; rfl
                  · have ew : (w == 46) = false := by simpa using hw
                    simp only [ew, Bool.false_eq_true, if_false]
                    split
                    · rename_i heq; exact absurd (List.cons.inj heq).1 (by decide)
                    · rename_i heq; exact absurd (List.cons.inj (List.cons.inj heq).2).1 hw
                    · rfl
              · have e92 : (z == 92) = false := by simpa using h92
                simp only [e92, Bool.false_eq_true, if_false]
                split
                · rename_i heq; exact absurd (List.cons.inj heq).1 h46
                · rename_i heq; exact absurd (List.cons.inj heq).1 h92
                · rfl

end Mdsort.L0
