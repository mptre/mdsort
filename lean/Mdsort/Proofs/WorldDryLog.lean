import Mdsort.Proofs.WorldExitTop
import Mdsort.Proofs.Inspect
import Mdsort.Proofs.LimitsSticky

/-!
# The `-> destination` lines of a message do not depend on `-d`; the log of a dry run is the log of the real run (C06)

`Insp.eval_er`: evaluation commutes with forgetting the display fields (`key`, `val`) a dry run records in the entries.
Here the same equation is carried through `matches_interpolate` (`matchesInterpolate_er`) to the verdict on a file
(`verdict_er`: the verdict without `-d` is the verdict with the display fields of its action list forgotten); the action lines
(`inspectLines`) do not look at those fields, so the lines of a file do not depend on `-d` (`dry_lines_eq`); with the
walk-order invariant of `WorldExit*` both logs are the reference log.  A lemma with the prefix `dry_` speaks of the option
`dryrun` of the environment or of the display fields, which only a dry run fills in.
-/

namespace Mdsort.Proofs
open Mdsort Mdsort.Model
open Mdsort.Proofs.Insp (erase1 erR erSt)

theorem dry_mapM_congr (macros : Option (List (Bytes × Bytes))) {b b' : MatchList} (h : eraseKV b = eraseKV b')
    (ss : List Bytes) : ss.mapM (interpolate b macros) = ss.mapM (interpolate b' macros) :=
  List.mapM_congr fun s _ => interpolate_congr b b' macros (by rw [← capKey_eraseKV b, h, capKey_eraseKV]) s

theorem dry_mi_kv (macros : Option (List (Bytes × Bytes))) (cur : MatchList) (i : Nat) (mh : Match) (k v : Option Bytes)
    (msgs : Nat → Msg) :
    matchInterpolate macros cur i { mh with key := k, val := v } msgs =
      (matchInterpolate macros cur i mh msgs).map (fun r => ({ r.1 with key := k, val := v }, r.2)) := by
  rcases mh with ⟨ty, lno, part, maildir, subdir, path, subs, key, val, argv, strings, hkey, hval, pat, es, eb⟩
  unfold matchInterpolate
  dsimp only
  -- whatever the type, the entry returned is `mh` with at most `path` or `argv` replaced
  cases ty
  case stat | move =>
    dsimp only
    cases interpolate (List.take i cur) macros path with
    | none => rfl
    | some p =>
      dsimp only
      cases strlcpyFits PATH_MAX p <;> rfl
  case label =>
    dsimp only
    generalize matchInterpolate.add macros (List.take i cur) strings _ = o
    cases o <;> rfl
  case command | exec =>
    dsimp only
    cases List.mapM (interpolate (List.take i cur) macros) strings <;> rfl
  case addHeader =>
    dsimp only
    cases interpolate (List.take i cur) macros hval <;> rfl
  all_goals rfl

/-- One entry: the entries before it matter through their types and captures only (`Limits.matchInterpolate_congr_keys`),
its own display fields are carried along. -/
theorem matchInterpolate_er (macros : Option (List (Bytes × Bytes))) (cur : MatchList) (i : Nat) (mh : Match) (msgs : Nat → Msg) :
    matchInterpolate macros (eraseKV cur) i (erase1 mh) msgs =
      (matchInterpolate macros cur i mh msgs).map fun r => (erase1 r.1, r.2) := by
  rw [Limits.matchInterpolate_congr_keys macros (eraseKV cur) cur i _ msgs (by rw [← Insp.eraseKV_take, capKey_eraseKV])]
  exact dry_mi_kv macros cur i mh none none msgs

theorem dry_eraseKV_set (ml : MatchList) (i : Nat) (m : Match) : eraseKV (ml.set i m) = (eraseKV ml).set i (erase1 m) := by
  simp [Insp.eraseKV_map, List.map_set]

theorem matchesInterpolate_go_er (macros : Option (List (Bytes × Bytes))) (rest : MatchList) :
    ∀ (i : Nat) (cur : MatchList) (msgs : Nat → Msg),
      matchesInterpolate.go macros i (eraseKV rest) (eraseKV cur) msgs =
        (matchesInterpolate.go macros i rest cur msgs).map fun r => (eraseKV r.1, r.2) := by
  induction rest with
  | nil => intro i cur msgs; rfl
  | cons mh more ih =>
    intro i cur msgs
    simp only [Insp.eraseKV_cons, matchesInterpolate.go, matchInterpolate_er]
    cases matchInterpolate macros cur i mh msgs with
    | none => rfl
    | some x =>
      simp only [Option.map_some, ← dry_eraseKV_set]
      exact ih _ _ _

/-- `matches_interpolate` looks at the path of the environment only. -/
theorem matchesInterpolate_er {e e' : Env} (hp : e'.path = e.path) (ml : MatchList) (msgs : Nat → Msg) :
    matchesInterpolate e' (eraseKV ml) msgs = (matchesInterpolate e ml msgs).map fun r => (eraseKV r.1, r.2) := by
  unfold matchesInterpolate
  rw [hp]
  exact matchesInterpolate_go_er _ ml 0 ml msgs

theorem inspectLines_er (env : PEnv) (b : Bool) (ml : MatchList) (path : Bytes) :
    inspectLines { env with dryrun := b } (eraseKV ml) path = inspectLines env ml path := by
  unfold inspectLines
  rw [Insp.eraseKV_filter_ty ml (fun ty => ty.isAction), Insp.eraseKV_map, List.map_map]
  rfl

def Verdict.erase : Verdict → Verdict
  | .act ml msgs fl => .act (eraseKV ml) msgs fl
  | v => v

theorem Verdict.isErr_erase (v : Verdict) : v.erase.isErr = v.isErr := by
  cases v <;> rfl

theorem evVerdict_er (env : PEnv) (orc : EvalOracles) (ms : MsgSt) (r : Tri × St) :
    evVerdict { env with dryrun := false } orc ms (erR r) = (evVerdict env orc ms r).erase := by
  obtain ⟨t, est⟩ := r
  cases t with
  | error => rfl
  | «nomatch» => rfl
  | «match» =>
    simp only [evVerdict, erR, erSt]
    rw [matchesInterpolate_er (e := msgEnv env orc ms.path) (e' := msgEnv { env with dryrun := false } orc ms.path) rfl]
    cases matchesInterpolate (msgEnv env orc ms.path) est.ml (partMsg ms.msg ms.parts) <;> rfl

theorem verdict_er (env : PEnv) (orc : EvalOracles) (expr : Expr) (D n c : Bytes) :
    verdict { env with dryrun := false } orc expr D n c = (verdict env orc expr D n c).erase := by
  unfold verdict
  cases fileMs D n c with
  | none => rfl
  | some ms =>
    exact (congrArg (evVerdict _ orc ms)
      (Insp.eval_er (msgEnv env orc ms.path) ms.msg expr 0 ms.msg { ml := [], flags := ms.flags })).trans
      (evVerdict_er env orc ms _)

theorem exit0_lines_noDry (env : PEnv) (orc : EvalOracles) (expr : Expr) (D n c : Bytes) :
    exit0_lines { env with dryrun := false } orc expr D n c = exit0_lines env orc expr D n c := by
  unfold exit0_lines
  rw [verdict_er]
  cases verdict env orc expr D n c <;> first | rfl | exact inspectLines_er env false _ _

theorem dry_lines_eq (env : PEnv) (orc : EvalOracles) (expr : Expr) (D n c : Bytes) (b1 b2 : Bool) :
    exit0_lines { env with dryrun := b1 } orc expr D n c = exit0_lines { env with dryrun := b2 } orc expr D n c :=
  (exit0_lines_noDry { env with dryrun := b1 } orc expr D n c).symm.trans
    (exit0_lines_noDry { env with dryrun := b2 } orc expr D n c)

theorem dry_env_false (env : PEnv) (h : env.dryrun = false) : ({ env with dryrun := false } : PEnv) = env := by
  cases env
  simp only at h
  subst h
  rfl

/-- The hypotheses on configuration, registry and world carry over to the dry run (nothing moves). -/
theorem dry_good (env : PEnv) (orc : EvalOracles) (dirs : List (Bytes × Expr)) (files : Files) (w : World)
    (hG : exit0_Good ⟨env, orc, dirs, files, w⟩) : exit0_Good ⟨{ env with dryrun := true }, orc, dirs, files, w⟩ := by
  refine ⟨hG.nodup, hG.uniq0, hG.listed, ?_⟩
  intro pre D e post hs n c _
  have hd : exit0_dest { env with dryrun := true } orc e D n c = D := by
    unfold exit0_dest
    simp
  rw [hd]
  exact exit0_split_notin (C := ⟨env, orc, dirs, files, w⟩) hG hs

theorem dry_refDirs_eq (env : PEnv) (orc : EvalOracles) (dirs : List (Bytes × Expr)) (files : Files) (w : World) (b1 b2 : Bool)
    (ds : List (Bytes × Expr)) :
    exit0_refDirs ⟨{ env with dryrun := b1 }, orc, dirs, files, w⟩ ds =
      exit0_refDirs ⟨{ env with dryrun := b2 }, orc, dirs, files, w⟩ ds := by
  unfold exit0_refDirs exit0_refNames
  dsimp only
  simp only [dry_lines_eq env orc _ _ _ _ b1 b2]

/-- The dry run predicts the real run (fault-free plan, maildir mode, rules without discard that ask the operating
system nothing, no message visited twice): if both runs end with exit status 0, the log of the dry run - the `-> destination` lines, in
order - is the log of the real run, and both are the reference log. -/
theorem dry_predicts_real (env : PEnv) (orc : EvalOracles) (confOk : Bool) (conf : List ConfBlock) (files : Files) (input : Bytes)
    (w : World) (hm : env.stdinMode = false) (hsyn : env.syntaxOnly = false) (hdry : env.dryrun = false)
    (hfree : ∀ b ∈ conf, asksFree b.expr = true)
    (hnd : ∀ b ∈ conf, WholeNoDiscard env orc b.expr) (hreg : WholeReg w files)
    (hG : exit0_Good ⟨env, orc, exit0_dirsOf conf, files, w⟩)
    (hreal : (runPlan Plan.none (mainP env orc confOk conf files input) w 0 []).1.1 = 0)
    (hdryr : (runPlan Plan.none (mainP { env with dryrun := true } orc confOk conf files input) w 0 []).1.1 = 0) :
    (runPlan Plan.none (mainP { env with dryrun := true } orc confOk conf files input) w 0 []).1.2.log =
      (runPlan Plan.none (mainP env orc confOk conf files input) w 0 []).1.2.log ∧
    (runPlan Plan.none (mainP env orc confOk conf files input) w 0 []).1.2.log =
      exit0_refDirs ⟨env, orc, exit0_dirsOf conf, files, w⟩ (exit0_dirsOf conf) := by
  have hR := (exit0_main_exit0 env orc confOk conf files input w Plan.none hm hsyn hdry hfree hnd hreg hG World.singleFault_none hreal).2
  have heD := exit0_status_zero { env with dryrun := true } orc confOk conf files input w Plan.none hm hdryr
  have hinvD := exit0_main_runPlan ⟨{ env with dryrun := true }, orc, exit0_dirsOf conf, files, w⟩
    (dry_good env orc _ files w hG) hm hsyn confOk conf input rfl
    (fun b hb => exit0_step _ orc b.expr (hfree b hb) nofun) hreg Plan.none World.singleFault_none heD
  have hD := (exit0_final (dry_good env orc _ files w hG) hreg hinvD).2
  refine ⟨?_, hR⟩
  rw [hR]
  have := dry_refDirs_eq env orc (exit0_dirsOf conf) files w true false (exit0_dirsOf conf)
  rw [dry_env_false env hdry] at this
  rw [← this]
  exact hD

end Mdsort.Proofs
