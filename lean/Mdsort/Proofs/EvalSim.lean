import Mdsort.Proofs.EvalCond

/-!
# The block epilogue and the `flags` action (C03)

`blockWrap` and what the letters of a `flags` action do to the flag set: two ingredients of the simulation of the
evaluator by the specification.  The simulation itself is `att_sim` in `EvalAttRules`.
-/

namespace Mdsort.Proofs
open Mdsort Mdsort.Model Mdsort.Spec

theorem inert_hasTy {X : MatchList} (hX : ∀ m ∈ X, Inert m) (t : MType) (ht : t.isAction = true) :
    hasTy X t = false := by
  unfold hasTy
  rw [List.any_eq_false]
  intro m hm
  have h1 := (hX m hm).1
  intro h
  have h2 : m.ty = t := by simpa using h
  rw [h2, ht] at h1
  cases h1

theorem inert_pathInv {L : Nat} (hL : 0 + 1 + L < PATH_MAX) {X : MatchList} (hX : ∀ m ∈ X, Inert m) : PathInv L X := by
  intro m hm
  obtain ⟨_, h1, h2⟩ := hX m hm
  unfold okEntry
  rw [h1, h2]
  exact ⟨Nat.zero_le _, hL⟩

/-- The sentinel: the `.mtch` entry `expr_eval_match` appends before it evaluates the condition of
a rule (back-references look no further back than the last one). -/
theorem inert_sentinel (lno part : Nat) : Inert { ty := .mtch, lno := lno, part := part } :=
  ⟨by dsimp only; rw [isAction_eq]; rfl, rfl, rfl⟩

theorem realAct_ne {t t' : MType} (h : realAct t = true) (h' : realAct t' = false) : (t == t') = false := by
  cases hh : t == t'
  · rfl
  · have : t = t' := by simpa using hh
    rw [this, h'] at h; cases h

theorem filterMap_actKey_eq_nil {pend : List Expr} (h : ∀ a ∈ pend, isActionExpr a = true) :
    pend.filterMap actKey = [] ↔ pend = [] := by
  constructor
  · intro hn
    cases pend with
    | nil => rfl
    | cons a r =>
      have ha := h a (by simp)
      cases a <;> simp [isActionExpr] at ha <;> simp [actKey] at hn
  · intro hn; subst hn; rfl

/-- What `expr_eval_block` does with the result of its body.  `Model.blockPost` (Proofs/EvalPTree.lean) is the same function in
the words of `Model.eval`; no lemma relates the two, each has its own facts (`eval_block` here, `eval_isEvalT` there). -/
def blockWrap (r : Tri × St) : Tri × St :=
  match r with
  | (.error, st1) => (.error, st1)
  | (ev, st1) =>
    if hasTy st1.ml .brk then (.nomatch, { st1 with ml := st1.ml.filter (·.ty != .brk) })
    else if hasTy st1.ml .pass then
      let ml2 := st1.ml.filter (·.ty != .pass)
      (if (ml2.filter (·.ty.isAction)).length == 0 then .nomatch else .match, { st1 with ml := ml2 })
    else (ev, st1)

theorem eval_block (env : Env) (root : Msg) (lno : Nat) (e : Expr) (part : Nat) (m : Msg) (st : St) :
    eval env root (.block lno e) part m st = blockWrap (eval env root e part m st) := by
  rw [eval]
  generalize eval env root e part m st = r
  rcases r with ⟨t, s⟩
  cases t <;> simp [blockWrap, matchesFind_isSome, matchesRemove]

theorem fst_error {r : Tri × St} (h : r.1 = .error) : r = (.error, r.2) := by
  rcases r with ⟨t, s⟩
  simp only at h
  subst h
  rfl

theorem blockWrap_error {r : Tri × St} (h : r.1 = .error) : (blockWrap r).1 = .error := by
  rw [fst_error h]
  rfl

theorem error_of_blockWrap {r : Tri × St} (h : (blockWrap r).1 = .error) : r.1 = .error := by
  revert h
  fun_cases blockWrap r
  · exact id
  -- a `break` entry, a `pass` entry: the verdict is made up of `match` and `nomatch`
  · nofun
  · dsimp only; split <;> nofun
  · exact id

theorem setAll_snd : ∀ (cs : Bytes) (mf : MFlags) (err : Bool),
    (eval.setAll cs mf err).2 = (err || cs.any (fun c => !isalpha c)) := by
  intro cs
  induction cs with
  | nil => intro mf err; simp [eval.setAll]
  | cons c r ih =>
    intro mf err
    unfold eval.setAll flagsSet
    by_cases h1 : isupper c = true
    · simp [h1, ih, isalpha]
    · by_cases h2 : islower c = true
      · simp [h1, h2, ih, isalpha]
      · simp [h1, h2, ih, isalpha]

theorem flagsIsSet_seen (mf : MFlags) : flagsIsSet mf 83 = mf.upper.testBit 18 := rfl

theorem flagsSet_seen (mf mf' : MFlags) (c : UInt8) (hc : c ≠ 83) (h : flagsSet mf c = some mf') :
    flagsIsSet mf' 83 = flagsIsSet mf 83 := by
  rw [flagsIsSet_seen, flagsIsSet_seen]
  revert h
  fun_cases flagsSet mf c with
  | case1 h1 =>
    rintro ⟨rfl⟩
    simp only [Nat.testBit_or, Nat.testBit_shiftLeft]
    have hn : c.toNat ≠ 83 := fun e => hc (UInt8.toNat_inj.1 e)
    simp only [isupper, Bool.and_eq_true, decide_eq_true_eq, UInt8.le_iff_toNat_le] at h1
    have : (65 : UInt8).toNat = 65 := rfl
    rw [this] at h1
    have hk : 18 - (c.toNat - 65) ≠ 0 ∨ ¬ (18 ≥ c.toNat - 65) := by omega
    rcases hk with hk | hk
    · simp [Nat.testBit_one_eq_true_iff_self_eq_zero, hk]
    · simp [hk]
  | case2 => rintro ⟨rfl⟩; rfl
  | case3 => nofun

theorem setAll_seen (cs : Bytes) (mf : MFlags) (err : Bool) : (∀ c ∈ cs, c ≠ 83) →
    flagsIsSet (eval.setAll cs mf err).1 83 = flagsIsSet mf 83 := by
  fun_induction eval.setAll cs mf err with
  | case1 => exact fun _ => rfl
  | case2 mf err c r _ ih => exact fun h => ih fun x hx => h x (List.mem_cons_of_mem _ hx)
  | case3 mf err c r mf' hf ih =>
    exact fun h => (ih fun x hx => h x (List.mem_cons_of_mem _ hx)).trans (flagsSet_seen mf mf' c (h c List.mem_cons_self) hf)

end Mdsort.Proofs
