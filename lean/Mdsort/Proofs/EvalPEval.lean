import Mdsort.Proofs.EvalPReplay

/-!
# The pure evaluation with positional answers is `Model.eval` when the answers agree with pure oracles

`evalT_eq_eval`: for every rule tree, if every question the evaluation asked was answered as the oracles of `env`
say (`Answered`), its value is `Model.eval env`.  `evalR_eq_eval_of_consistent`: such oracles exist as soon as
equal questions were given answers that read the same.
-/

namespace Mdsort.Proofs
open Mdsort Mdsort.Model

/-- Along answers that agree with the oracles of `env`, the value is that of `Model.eval env`. -/
def RunsToEval (env : Env) (root : Msg) (e : Expr) : Prop :=
  ∀ (part : Nat) (m : Msg) (st : St),
    (evalT (noSys env) root e part m st).Sat (AnsOK env) (· = eval env root e part m st)

/-- A leaf that asks nothing is `Model.eval` itself (which does not look at the oracles there); the three asking leaves
read from the answer what `Model.eval` reads from the oracle. -/
theorem evalT_leaf_runsTo (env : Env) (root : Msg) {n : Expr} (hn : n.isLeaf = true) : RunsToEval env root n := by
  intro part m st
  have hs := envSame_noSys env
  rcases Expr.leaf_cases hn with ha | ⟨lno, f, cmp, age, rfl, hf⟩ | ⟨lno, path, rfl⟩ | ⟨lno, argv, rfl⟩
  · rw [evalT_leaf _ _ ha]
    exact eval_same_leaf hs root _ ha part m st
  · rw [evalT_fileDate _ root lno hf]
    intro a (hok : ansTimes a = env.fileTime env.path)
    show dateOutcome (noSys env) lno cmp age part st ((ansFileTime env.timeFormat f a).map some) = _
    have hi : dateInstant env m f = (ansFileTime env.timeFormat f a).map some := by
      cases f with
      | header => exact absurd rfl hf
      | access | modified | created =>
        simp only [dateInstant, statInstant, ansFileTime, ← hok, FileTimes.time]
        cases ansTimes a with
        | none => rfl
        | some sb => dsimp only; cases env.timeFormat _ <;> rfl
    rw [date_fields, hi]
    have := dateOutcome_rel (e1 := noSys env) (e2 := env) (S := Eq) rfl lno cmp age part (rfl : st = st)
      (fun p k v => regexHit_same hs .date lno part p k v st ▸ ⟨rfl, rfl⟩) ((ansFileTime env.timeFormat f a).map some)
    exact Prod.ext this.1 this.2
  · rw [evalT_stat, eval_stat_eq, statTri_eq]
    cases statPath st.ml path with
    | none => rfl
    | some ip => exact fun a hok => by dsimp only; rw [show ansIsDir a = env.isDir ip from hok]; rfl
  · rw [evalT_command, eval_command]
    cases argv.mapM (interpolate st.ml none) with
    | none => rfl
    | some av => exact fun a hok => by dsimp only; rw [show ansStatus a = env.command av from hok]; rfl

/-- The computation follows `Model.eval` node by node: both are built like `expr_eval` (`IsEvalT.rel`, the relation being
"runs, along answers that agree with the oracles, to the value the other returns without asking"), and the leaves agree. -/
theorem evalT_runsTo (env : Env) (root : Msg) (e : Expr) : RunsToEval env root e := by
  intro part m st
  obtain ⟨v, hv, hs⟩ := (evalT_isEvalT (noSys env) root).rel (eval_isEvalT env root)
    (R := fun t t' => ∃ v, t' = .ret v ∧ t.Sat (AnsOK env) (· = v))
    (fun a => ⟨a, rfl, rfl⟩)
    (fun {t t' f g} ht hf _ => by
      obtain ⟨v, rfl, hs⟩ := ht
      obtain ⟨w, hw, hfs⟩ := hf v
      exact ⟨w, hw, hs.bind fun a ha => ha ▸ hfs⟩)
    (fun ml mh => .inl (matchesAppend_same (envSame_noSys env) ml mh)) e
    (fun n hn part m st => ⟨_, rfl, evalT_leaf_runsTo env root (Expr.isLeaf_of_mem_leaves hn) part m st⟩) part m st
  cases hv
  exact hs

theorem ansOK_exists (env : Env) (q : Req) : ∃ a, AnsOK env q a := by
  cases q with
  | command av => exact ⟨.status (env.command av), rfl⟩
  | isDir p => exact ⟨.stat (some ⟨env.isDir p, ⟨0, 0, 0⟩⟩), rfl⟩
  | fileTime p f => exact ⟨.stat ((env.fileTime p).map fun t => ⟨false, t⟩), by cases h : env.fileTime p <;> simp [AnsOK, ansTimes, ansStat, h]⟩

/-- What holds of every value the asking evaluation can return holds of `Model.eval`: the oracles of `env` are one way
of answering. -/
theorem eval_of_evalT {env : Env} {root : Msg} {e : Expr} {part : Nat} {m : Msg} {st : St} {P : Tri × St → Prop}
    (h : (evalT (noSys env) root e part m st).AllRet P) : P (eval env root e part m st) :=
  (evalT_runsTo env root e part m st).value h (ansOK_exists env)

/-- `RunsToEval` read on the pure run with positional answers `as`: the form in which `evalT_eq_eval` is stated. -/
def EvOK (env : Env) (root : Msg) (e : Expr) : Prop :=
  ∀ (part : Nat) (m : Msg) (st : St) (as : List SysAns),
    Answered env ((evalT (noSys env) root e part m st).run as).2 as →
      ((evalT (noSys env) root e part m st).run as).1 = eval env root e part m st

theorem evalT_eq_eval (env : Env) (root : Msg) (e : Expr) : EvOK env root e :=
  fun part m st => (evalT_runsTo env root e part m st).run

/-- What the evaluator reads from the answer to a question. -/
inductive Reading where
  | rc (v : Int)
  | dir (b : Bool)
  | ft (o : Option FileTimes)
deriving DecidableEq

def reading : Req → SysAns → Reading
  | .command _, a => .rc (ansStatus a)
  | .isDir _, a => .dir (ansIsDir a)
  | .fileTime _ _, a => .ft (ansTimes a)

/-- The same question to a pure oracle (`Env.fileTime` is keyed by the path: `stat` of the same path for two different
time fields is the same question). -/
def sameKey : Req → Req → Bool
  | .command a, .command b => a == b
  | .isDir p, .isDir q => p == q
  | .fileTime p _, .fileTime q _ => p == q
  | _, _ => false

/-- Equal questions were given answers that read the same. -/
def Consistent (rq : List Req) (as : List SysAns) : Prop :=
  ∀ (j k : Nat) (q q' : Req) (a a' : SysAns), rq[j]? = some q → rq[k]? = some q' → as[j]? = some a → as[k]? = some a' →
    sameKey q q' = true → reading q a = reading q' a'

def firstAnswer (rq : List Req) (as : List SysAns) (q : Req) : Option (Req × SysAns) :=
  (rq.zip as).find? fun x => sameKey x.1 q

/-- The pure oracles a list of questions and answers defines (first answer wins). -/
def envOf (env : Env) (rq : List Req) (as : List SysAns) : Env :=
  { env with
    command := fun av => match firstAnswer rq as (.command av) with
      | some x => ansStatus x.2
      | none => -1
    isDir := fun p => match firstAnswer rq as (.isDir p) with
      | some x => ansIsDir x.2
      | none => false
    -- `sameKey` ignores the time field of a file-time question: `.modified` stands for any of the three
    fileTime := fun p => match firstAnswer rq as (.fileTime p .modified) with
      | some x => ansTimes x.2
      | none => none }

theorem noSys_envOf (env : Env) (rq : List Req) (as : List SysAns) :
    noSys (envOf env rq as) = noSys env := rfl

theorem sameKey_refl (q : Req) : sameKey q q = true := by
  cases q <;> simp [sameKey]

theorem firstAnswer_spec {rq : List Req} {as : List SysAns} {q : Req} {k : Nat} {a : SysAns}
    (hq : rq[k]? = some q) (ha : as[k]? = some a) :
    ∃ (j : Nat) (q1 : Req) (a1 : SysAns), firstAnswer rq as q = some (q1, a1) ∧ rq[j]? = some q1 ∧ as[j]? = some a1 ∧ sameKey q1 q = true := by
  unfold firstAnswer
  cases hf : (rq.zip as).find? fun x => sameKey x.1 q with
  | none =>
    rw [List.find?_eq_none] at hf
    have hmem : (q, a) ∈ rq.zip as := by
      refine List.mem_iff_getElem?.2 ⟨k, ?_⟩
      rw [List.getElem?_zip_eq_some]
      exact ⟨hq, ha⟩
    exact absurd (sameKey_refl q) (hf (q, a) hmem)
  | some x =>
    obtain ⟨q1, a1⟩ := x
    have hp := List.find?_some hf
    obtain ⟨j, hj⟩ := List.mem_iff_getElem?.1 (List.mem_of_find?_eq_some hf)
    rw [List.getElem?_zip_eq_some] at hj
    exact ⟨j, q1, a1, rfl, hj.1, hj.2, hp⟩

theorem answered_of_consistent (env : Env) (rq : List Req) (as : List SysAns)
    (hlen : rq.length = as.length) (hc : Consistent rq as) : Answered (envOf env rq as) rq as := by
  intro k q hq
  have hk : k < as.length := by
    rcases Nat.lt_or_ge k rq.length with h | h
    · omega
    · rw [List.getElem?_eq_none h] at hq; cases hq
  refine ⟨as[k], List.getElem?_eq_getElem hk, ?_⟩
  have ha : as[k]? = some as[k] := List.getElem?_eq_getElem hk
  obtain ⟨j, q1, a1, hf, hj1, hj2, hs⟩ := firstAnswer_spec hq ha
  have := hc j k q1 _ a1 _ hj1 hq hj2 ha hs
  cases q with
  | command av =>
    cases q1 <;> simp only [sameKey, Bool.false_eq_true] at hs
    simp only [reading, Reading.rc.injEq] at this
    simp only [AnsOK, envOf, hf, this]
  | isDir p =>
    cases q1 <;> simp only [sameKey, Bool.false_eq_true] at hs
    simp only [reading, Reading.dir.injEq] at this
    simp only [AnsOK, envOf, hf, this]
  | fileTime p f =>
    cases q1 <;> simp only [sameKey, Bool.false_eq_true] at hs
    rename_i p1 f1
    have hkey : (fun x : Req × SysAns => sameKey x.1 (.fileTime p f)) = (fun x => sameKey x.1 (.fileTime p .modified)) := by
      funext x; cases x.1 <;> rfl
    have hf' : firstAnswer rq as (.fileTime p .modified) = some (.fileTime p1 f1, a1) := by
      rw [← hf]; unfold firstAnswer; rw [hkey]
    simp only [reading, Reading.ft.injEq] at this
    simp only [AnsOK, envOf, hf', this]

theorem evalR_eq_eval_of_consistent (env : Env) (e : Expr) (m : Msg) (fl : MFlags) (as : List SysAns)
    (hlen : (evalR (noSys env) e m fl as).2.length = as.length)
    (hc : Consistent (evalR (noSys env) e m fl as).2 as) :
    (evalR (noSys env) e m fl as).1 =
      eval (envOf env (evalR (noSys env) e m fl as).2 as) m e 0 m { ml := [], flags := fl } :=
  evalT_eq_eval (envOf env (evalR (noSys env) e m fl as).2 as) m e 0 m { ml := [], flags := fl } as
    (answered_of_consistent env _ as hlen hc)

/-- Evaluation inside the world model is `Model.eval`: against arbitrary call results, when the answers the world
gave to equal questions read the same, the value of `evalP` is `eval` with the pure oracles these answers define. -/
theorem evalP_eq_eval (env : Env) (e : Expr) (m : Msg) (fl : MFlags)
    (orcl : Nat → Call → Res) (i : Nat)
    (hc : Consistent (evalR (noSys env) e m fl ((evalTop (noSys env) e m fl).answers orcl i)).2
      ((evalTop (noSys env) e m fl).answers orcl i)) :
    (Own.runO orcl (evalP (noSys env) e m fl) i).1 =
      eval (envOf env (evalR (noSys env) e m fl ((evalTop (noSys env) e m fl).answers orcl i)).2
        ((evalTop (noSys env) e m fl).answers orcl i)) m e 0 m { ml := [], flags := fl } := by
  obtain ⟨h1, h2, _⟩ := evalP_replay (noSys env) e m fl orcl i
  rw [h1]
  exact evalR_eq_eval_of_consistent env e m fl _ h2 hc

end Mdsort.Proofs
