import Mdsort.Model.Lex
import Mdsort.Proofs.LexAux

/-! Lemmas for C14: the lexer is total, makes progress, and reads back what the grammar prints. -/

namespace Mdsort.Proofs
open Mdsort Mdsort.Model

/-- One call of the lexer returns a piece of its input and, unless it returns the end of input, a strictly shorter one: what
the bound on the lexer calls of the parser (`Conf.phi`, `parseConfigFull_spec`) rests on. -/
theorem lex_progress (pflag sflag afterMacro : Bool) (input : Bytes) :
    let r := lex1 pflag sflag afterMacro input
    (∃ pre, input = pre ++ r.rest) ∧ (r.tok ≠ .eof → r.rest.length < input.length) := by
  intro r
  have h := LexAux.lex1_good pflag sflag afterMacro input
  obtain ⟨pre, hpre⟩ := h.1
  exact ⟨⟨pre, hpre.symm⟩, h.2⟩

theorem lex_keyword (sflag : Bool) (kw tokname : String) (rest : Bytes)
    (hk : (kw, tokname) ∈ Gen.keywords) (hr : ∀ c, rest.head? = some c → isKwChar c = false) :
    lex1 false sflag false (kw.toUTF8.toList ++ rest) = { tok := .keyword tokname, rest := rest, errors := 0 } := by
  have hok := List.all_eq_true.mp LexAux.kw_table _ hk
  simp only [LexAux.kwOk, Bool.and_eq_true, decide_eq_true_eq, beq_iff_eq] at hok
  obtain ⟨⟨⟨hfind, hall⟩, hhead⟩, hlen⟩ := hok
  cases hbs : kw.toUTF8.toList with
  | nil => rw [hbs] at hhead; simp at hhead
  | cons c t =>
    rw [hbs] at hfind hall hhead hlen
    simp only at hhead
    rw [List.cons_append, LexAux.lex1_of_lower _ _ _ _ hhead]
    exact LexAux.lexTok_keyword sflag c t rest (kw, tokname) hhead hall hlen hfind hr

/-- How the grammar prints a string: `"` is written `\"`. -/
def escapeQuote (b : Bytes) : Bytes := b.flatMap fun c => if c == 34 then [92, 34] else [c]

theorem LexAux.escapeQuote_nil : escapeQuote [] = [] := rfl

theorem LexAux.escapeQuote_cons (x : UInt8) (b : Bytes) :
    escapeQuote (x :: b) = (if x == 34 then [92, 34] else [x]) ++ escapeQuote b := by
  simp [escapeQuote, List.flatMap_cons]

theorem LexAux.collect_escape (rest : Bytes) : ∀ (b acc : Bytes) (fuel : Nat),
    b.getLast? ≠ some 92 → acc.length + b.length ≤ BUFSIZ - 1 → (escapeQuote b).length < fuel →
    collect 34 fuel (escapeQuote b ++ 34 :: rest) acc = some (some (acc ++ b), rest) :=
  LexAux.collect_esc (d := 34) (by decide) rest

theorem lex_string_roundtrip (pflag sflag : Bool) (b rest : Bytes)
    (hne : b ≠ []) (hnul : (0 : UInt8) ∉ b) (hlast : b.getLast? ≠ some 92) (hlen : b.length < BUFSIZ - 1) :
    lex1 pflag sflag false ([34] ++ escapeQuote b ++ [34] ++ rest) = { tok := .str b, rest := rest, errors := 0 } := by
  have hc := LexAux.collect_escape rest b [] ((escapeQuote b ++ 34 :: rest).length + 1) hlast
    (by simp only [List.length_nil]; omega) (by simp only [List.length_append]; omega)
  have hin : [34] ++ escapeQuote b ++ [34] ++ rest = 34 :: (escapeQuote b ++ 34 :: rest) := by simp
  have hcs : cstr b = b := cstr_of_no_nul (fun x hx h0 => hnul (h0 ▸ hx))
  have hemp : b.isEmpty = false := by cases b <;> simp_all
  rw [hin]
  have h1 : lex1 pflag sflag false (34 :: (escapeQuote b ++ 34 :: rest))
      = lex1.lexTok pflag sflag 34 (escapeQuote b ++ 34 :: rest) 0 := by
    have : isspace 34 = false := by decide
    simp [lex1, this]
  rw [h1]
  unfold lex1.lexTok
  simp only [beq_self_eq_true, if_true, hc, List.nil_append, hcs, hemp]
  simp

end Mdsort.Proofs
