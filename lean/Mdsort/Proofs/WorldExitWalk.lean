import Mdsort.Proofs.WorldDryStep
import Mdsort.Proofs.WorldFuel

/-!
# A directory is opened; the walk over one maildir, under at most one fault

`exit0_Inv.open`: when a directory still to be walked is opened, its stream yields exactly the names
it had initially, in the initial order; all of them are registered.  `exit0_walk_gen`: the walk over `new`
and `cur` of one maildir visits every remaining name (the fuel of the model suffices) and, if it ends
without the error flag, establishes the invariant for the directories after this maildir.  It is stated for an arbitrary
proposition `NF` ("no fault, dry run, nothing for it to fail on": `NF → dryT_Hyp C wr`, WorldDryStep), under which it also says that
the walk does end without the error flag; `exit0_walk` is its reading for `NF := False`, the fault-free dry run
(`dryT_mainP`, WorldDryTotal) the one for `NF := True`.
-/

namespace Mdsort.Proofs
open Mdsort Mdsort.Model
open Mdsort.Proofs.World (wpS wpS_mono wpS_bind_mono wpS_and bind_eq pure_eq call_bind ret_bind call_bind')

theorem exit0_isDot_dots : isDot [46] = true ∧ isDot [46, 46] = true := ⟨by decide, by decide⟩

theorem exit0_mem_sortedNames {es : List (Bytes × Nat)} {m : Bytes} (h : m ∈ sortedNames es) (hm : isDot m = false) :
    m ∈ es.map (·.1) := by
  unfold sortedNames at h
  rw [List.mem_mergeSort] at h
  rcases List.mem_cons.1 h with rfl | h
  · rw [exit0_isDot_dots.1] at hm; cases hm
  rcases List.mem_cons.1 h with rfl | h
  · rw [exit0_isDot_dots.2] at hm; cases hm
  exact h

theorem exit0_sortedNames_nodup {es : List (Bytes × Nat)} (h : (es.map (·.1)).Nodup) :
    ((sortedNames es).filter fun n => !isDot n).Nodup := by
  unfold sortedNames
  have hp := (List.mergeSort_perm (([46] : Bytes) :: ([46, 46] : Bytes) :: es.map (fun e => e.1))
    (fun a b => decide (a ≤ b))).filter (fun n => !isDot n)
  rw [hp.nodup_iff]
  simp only [List.filter_cons, exit0_isDot_dots.1, exit0_isDot_dots.2, Bool.not_true, Bool.false_eq_true, if_false]
  exact List.filter_sublist.nodup h

theorem exit0_refNames_nil_of {C : exit0_Ctx} {D : Bytes} {e : Expr} {names : List Bytes}
    (h : ∀ m ∈ names, isDot m = false → C.files0.get D m = none) : exit0_refNames C D e names = [] := by
  unfold exit0_refNames
  rw [List.flatMap_eq_nil_iff]
  intro m hm
  by_cases hd : isDot m = true
  · simp [hd]
  · have hd' : isDot m = false := by simpa using hd
    simp [hd', h m hm hd']

theorem exit0_Inv.open {C : exit0_Ctx} (hG : exit0_Good C) {D' : Bytes} {e' : Expr} {later' : List (Bytes × Expr)}
    {st : MainSt} {w : World} {es : List (Bytes × Nat)}
    (h : exit0_Inv C ((D', e') :: later') none st w) (hdir : w.dir D' = some es) (hmem : (D', e') ∈ C.dirs) :
    exit0_Inv C later' (some (D', e', sortedNames es)) st w ∧ exit0_RemOk C D' (sortedNames es) ∧
      es.length ≤ (st.files.filter (fun x => x.1 == D')).length := by
  have hD'mem : D' ∈ ((D', e') :: later').map (·.1) := by simp
  have known : ∀ m, m ∈ es.map (·.1) → isDot m = false ∧ (C.files0.get D' m).isSome := by
    intro m hm
    have hb := (World.lookup_isSome_iff hdir).2 hm
    rw [h.same D' hD'mem m] at hb
    exact hG.listed D' e' hmem m hb
  have pendD : ∀ m, exit0_Pend ((D', e') :: later') none (D', m) := fun m => .inl hD'mem
  have hrok : exit0_RemOk C D' (sortedNames es) :=
    ⟨exit0_sortedNames_nodup (h.uniq D' es hdir), fun m hm hd => (known m (exit0_mem_sortedNames hm hd)).2⟩
  refine ⟨?_, hrok, ?_⟩
  · refine h.congr ?_ ?_ ?_ ?_
    · intro D hD
      simp only [List.map_cons, List.mem_cons]
      exact .inr hD
    · rintro x (hx | ⟨D, e, rem, hc, h1, _, _⟩)
      · exact .inl (by simp only [List.map_cons, List.mem_cons]; exact .inr hx)
      · cases hc
        exact .inl (by simp only [List.map_cons, List.mem_cons]; exact .inl h1)
    · rintro D n c hn hget (hx | ⟨D'', e'', rem, hc, _⟩)
      · simp only [List.map_cons, List.mem_cons] at hx
        rcases hx with hx | hx
        · have hx' : D = D' := hx
          subst hx'
          obtain ⟨fid, hl, _, _⟩ := h.reg D n c hget
          have hmn : n ∈ es.map (·.1) := (World.lookup_isSome_iff hdir).1 (by rw [hl]; rfl)
          obtain ⟨x, hx1, hx2⟩ := List.mem_map.1 hmn
          exact .inr ⟨D, e', _, rfl, rfl, by rw [← hx2]; exact World.mem_sortedNames es x hx1, hn⟩
        · exact .inl hx
      · cases hc
    · simp only [exit0_curRef, exit0_refDirs, List.flatMap_cons, List.nil_append]
      congr 1
      cases hd0 : C.w0.dir D' with
      | some es0 =>
        simp only [Option.map_some, Option.getD_some]
        rw [exit0_sortedNames_of_lookup h.uniq hG.uniq0 hdir hd0 (fun n => by rw [h.same D' hD'mem n])]
      | none =>
        simp only [Option.map_none, Option.getD_none]
        rw [exit0_refNames_nil_of (names := sortedNames es), exit0_refNames_nil_of (names := [])]
        · intro m hm; cases hm
        · intro m hm hd
          have hb := (World.lookup_isSome_iff hdir).2 (exit0_mem_sortedNames hm hd)
          rw [h.same D' hD'mem m, World.lookup_of_dir_none hd0] at hb
          cases hb
  · have hnd := h.uniq D' es hdir
    have := hnd.length_le_of_subset (l₂ := (st.files.filter (fun x => x.1 == D')).map (·.2.1)) (by
      intro m hm
      obtain ⟨hd, hsome⟩ := known m hm
      obtain ⟨c, hc⟩ := Option.isSome_iff_exists.1 hsome
      exact exit0_mem_filter_of_get ((h.track D' e' m c hmem hc hd).1 (pendD m)))
    simpa using this

theorem exit0_Inv.opendir {C : exit0_Ctx} (hG : exit0_Good C) {p : Bytes} {e : Expr} {later' : List (Bytes × Expr)}
    {st : MainSt} {w : World} (h : exit0_Inv C ((p, e) :: later') none st w) (hdp : (w.dir p).isSome)
    (hmem : (p, e) ∈ C.dirs) :
    ∃ es, (stepWorld w (.opendir p) (.ok w.handles.length)).obj w.handles.length = .dir p none 0 ∧
      exit0_rem (stepWorld w (.opendir p) (.ok w.handles.length)) w.handles.length = sortedNames es ∧
      exit0_Inv C later' (some (p, e, sortedNames es)) st (stepWorld w (.opendir p) (.ok w.handles.length)) ∧
      exit0_RemOk C p (sortedNames es) ∧ es.length ≤ (st.files.filter (fun x => x.1 == p)).length := by
  have hinv3 := h.step (.opendir p) (.ok w.handles.length) rfl (fun _ => trivial)
  have hc3 := World.core_opendir_ok hdp w.handles.length
  obtain ⟨es, hes⟩ := Option.isSome_iff_exists.1 hdp
  have hdir3 : (stepWorld w (.opendir p) (.ok w.handles.length)).dir p = some es := by
    rw [World.stepWorld_dir, hc3]; exact hes
  have hobj3 : (stepWorld w (.opendir p) (.ok w.handles.length)).obj w.handles.length = .dir p none 0 := by
    rw [World.stepWorld_obj, hc3, World.obj_newHandle]; simp
  obtain ⟨hinvO, hrokO, hcntO⟩ := exit0_Inv.open hG hinv3 hdir3 hmem
  exact ⟨es, hobj3, by simp [exit0_rem, hobj3, hdir3], hinvO, hrokO, hcntO⟩

/-- `wr`: a world with the same directories as `w` (the one the run started in; `w` itself for `exit0_walk`).  No call of a
walk creates or removes a directory (`dirsSame_step`, `dirsSame_processMessage`), so a directory that an `opendir` finds
existed in `wr`: a walk that started in `new` and ends without the error flag has opened `cur`.  The fuel: every iteration
issues one `readdir`, so the directory being walked needs `rem + 1` (its remaining names and the `eof`), and `cur` after `new`
at most the registered files of `cur` (`exit0_Inv.cnt`, through `exit0_Inv.open`) `+ 3` (`.`, `..`, `eof`). -/
theorem exit0_walk_gen (C : exit0_Ctx) (hG : exit0_Good C) (e : Expr) (hstep : exit0_StepOK C.env C.orc e)
    {NF : Prop} {wr : World} (hH : NF → dryT_Hyp C wr) (hfree : NF → asksFree e = true) (fuel : Nat) :
    ∀ (md : Maildir) (st : MainSt) (w : World) (b : Bool) (pre later : List (Bytes × Expr)) (rem : List Bytes) (d : Handle),
      md.dirH = some d → md.stdin = false → WholeMdOk w md → exit0_rem w d = rem →
      C.dirs = pre ++ (md.path, e) :: later →
      (md.subdir = .new → ∃ later', later = (md.root ++ [47] ++ subdirName .cur, e) :: later') →
      exit0_RemOk C md.path rem → exit0_Inv C later (some (md.path, e, rem)) st w → DirsSame wr w → (NF → dryT_Quiet b st) →
      rem.length + 1 + (if md.subdir = .new then
          (st.files.filter (fun x => x.1 == md.root ++ [47] ++ subdirName .cur)).length + 3 else 0) ≤ fuel →
      wpS (walk C.env C.orc e fuel md st)
        (fun b' r w' => (r.1.error = false → exit0_Inv C (if md.subdir = .new then later.tail else later) none r.1 w' ∧
          DirsSame wr w' ∧ (md.subdir = .new → (wr.dir (md.root ++ [47] ++ subdirName .cur)).isSome = true) ∧
          r.1.fuelOut = st.fuelOut) ∧ (NF → dryT_Quiet b' r.1)) b w := by
  induction fuel with
  | zero =>
    intro md st w b pre later rem d _ _ _ _ _ _ _ _ _ _ hf
    exact absurd (Nat.le_trans (Nat.le_add_right _ _) hf) (by omega)
  | succ fuel ih =>
    intro md st w b pre later rem d hd hsd hmd hrem hs hnew hrok hinv hw hq hfuel
    by_cases herr : st.error = true
    · exact exit0_wpS_stuck (exit0_walk_sticky C.env C.orc e (fuel + 1) md st herr) (dryT_Quiet.not_of_err hq herr) b w
    rw [Own.walk_succ]
    simp only [hd]
    refine wpS_call_ft fun ft b' hb => ?_
    obtain ⟨snap, pos, ho⟩ := World.obj_of_dirPath (hmd.1 d hd)
    have hinv1 := hinv.step (.readdir d) (World.faultResult ft w (.readdir d)) rfl (fun _ => trivial)
    have hw1 := hw.trans (dirsSame_step w (.readdir d) (World.faultResult ft w (.readdir d)) rfl)
    have hq1 := dryT_Quiet.call hq hb
    have hmd1 := hmd.readdir hd (World.faultResult ft w (.readdir d))
    rcases exit0_readdir_cases ft ho with ⟨er, he⟩ | ⟨he, hrem0⟩ | ⟨n, t, names, he, hremc, hobj1, hdrop⟩
    · -- `readdir` failed: a fault
      rw [he]
      unfold Own.walkK
      refine ⟨fun h => (by cases h), fun nf => ?_⟩
      rw [(hq1 nf).1] at he
      exact absurd he (dryT_predict_readdir ho er)
    · -- end of the stream
      rw [he] at hinv1 hmd1 hw1 ⊢
      rw [hrem] at hrem0
      subst hrem0
      generalize stepWorld w (.readdir d) .eof = w1 at hinv1 hmd1 hw1 ⊢
      have hinvE := hinv1.eof
      unfold Own.walkK
      simp only [hsd, Bool.false_eq_true, if_false]
      cases hsub : md.subdir with
      | cur =>
        simp only [reduceCtorEq, if_false]
        exact ⟨fun _ => ⟨hinvE, hw1, (fun h => by cases h), rfl⟩, fun nf => (hq1 nf).2⟩
      | new =>
        obtain ⟨later', hlater⟩ := hnew hsub
        simp only [if_true]
        -- `cur` fits because `new` did
        obtain ⟨p, hpj⟩ := Option.isSome_iff_exists.1 (dryT_cur_of_new md.root (by have := hmd.2; rw [hsub] at this; rw [this]; rfl))
        rw [hpj]
        have hpeq : p = md.root ++ [47] ++ subdirName .cur := World.pathjoin_eq hpj
        dsimp only
        unfold maildirOpendir
        simp only [hd, bind_eq, pure_eq, call_bind, call_bind']
        refine wpS_call_ft fun ft1 b2 hb2 => ?_
        have hinv2 := hinvE.step (.closedir d) (World.faultResult ft1 w1 (.closedir d)) rfl (fun _ => trivial)
        have hw2 := hw1.trans (dirsSame_step w1 (.closedir d) (World.faultResult ft1 w1 (.closedir d)) rfl)
        have hq2 := fun nf => (dryT_Quiet.call (fun nf => (hq1 nf).2) hb2 nf).2
        generalize stepWorld w1 (.closedir d) (World.faultResult ft1 w1 (.closedir d)) = w2 at hinv2 hw2 ⊢
        have hmemP : (p, e) ∈ C.dirs := by rw [hs, hlater, ← hpeq]; simp
        refine wpS_call_ft fun ft2 b3 hb3 => ?_
        have hw3 := hw2.trans (dirsSame_step w2 (.opendir p) (World.faultResult ft2 w2 (.opendir p)) rfl)
        have hq3 := dryT_Quiet.call hq2 hb3
        rcases World.opendir_results ft2 w2 p with ⟨e2, he2⟩ | ⟨he2, hdp⟩
        · -- `opendir` failed: a fault, since the directory exists
          rw [he2]
          simp only [ret_bind, if_true]
          exact ⟨fun h => (by cases h), fun nf => absurd nf (dryT_opendir hH hw2 hmemP (fun nf => (hq3 nf).1) he2)⟩
        · rw [he2] at hw3 ⊢
          simp only [ret_bind, Bool.false_eq_true, if_false]
          rw [hlater, ← hpeq] at hinv2
          obtain ⟨es, hobj3, hrem3, hinvO, hrokO, hcntO⟩ := exit0_Inv.opendir hG hinv2 hdp hmemP
          generalize stepWorld w2 (.opendir p) (.ok w2.handles.length) = w3 at hobj3 hrem3 hinvO hw3 ⊢
          generalize w2.handles.length = h3 at hobj3 hrem3 ⊢
          have hfu : (sortedNames es).length + 1 + 0 ≤ fuel := by
            rw [World.length_sortedNames]
            simp only [hsub, if_true, List.length_nil, ← hpeq] at hfuel
            omega
          refine wpS_mono (ih _ st w3 b3 (pre ++ [(md.path, e)]) later' (sortedNames es) h3 rfl rfl
            ⟨fun _ hd' => by cases hd'; exact World.dirPath_of_obj hobj3, hpj⟩ hrem3 (by rw [hs, hlater, ← hpeq]; simp)
            (fun h => by cases h) hrokO hinvO hw3 (fun nf => (hq3 nf).2) (by simpa using hfu)) ?_
          intro _ r w' hp
          refine ⟨fun hne => ⟨by simpa [hlater] using (hp.1 hne).1, (hp.1 hne).2.1, fun _ => ?_, (hp.1 hne).2.2.2⟩, hp.2⟩
          rw [← hpeq, ← hw2 p]
          exact hdp
    · -- a name
      rw [he] at hinv1 hmd1 hw1 ⊢
      rw [hrem] at hremc
      subst hremc
      have hrem1 : exit0_rem (stepWorld w (.readdir d) (.name n)) d = t := (exit0_rem_eq _ d).trans ((World.streamRest_of_obj hobj1).trans hdrop)
      generalize stepWorld w (.readdir d) (.name n) = w1 at hinv1 hmd1 hobj1 hrem1 hw1 ⊢
      have hlen : (n :: t).length = t.length + 1 := rfl
      unfold Own.walkK
      by_cases hdot : isDot n = true
      · have hdot' : (n == [46] || n == [46, 46]) = true := hdot
        simp only [hdot', if_true]
        refine ih md st w1 b' pre later t d hd hsd hmd1 hrem1 hs hnew hrok.tail (hinv1.dot hdot) hw1
          (fun nf => (hq1 nf).2) ?_
        rw [hlen] at hfuel
        omega
      · have hdotF : isDot n = false := by simpa using hdot
        have hdot' : (n == [46] || n == [46, 46]) = false := hdotF
        simp only [hdot', Bool.false_eq_true, if_false]
        obtain ⟨c, hc⟩ := Option.isSome_iff_exists.1 (hrok.known n (List.mem_cons_self ..) hdotF)
        have hmemD : (md.path, e) ∈ C.dirs := exit0_split_mem hs
        have hget : st.files.get md.path n = some c :=
          (hinv1.track md.path e n c hmemD hc hdotF).1 (.inr ⟨_, _, _, rfl, rfl, List.mem_cons_self .., hdotF⟩)
        obtain ⟨fid, hl, hlt, hf⟩ := hinv1.reg md.path n c hget
        have hpm := wpS_and
          (wpS_spent (exit0_wpS_unique (hstep md n st w1 d c fid b' hd (hmd1.1 d hd) hmd1.2 hget hl hlt hf) hinv1.uniq))
          (wpS_and (exit0_wpS_all (Fuel.processMessage_fuelOut C.env C.orc e md n st) b' w1)
            (wpS_and (wpS_imp fun nf => dryT_msg (hH nf) (hfree nf) st (hq1 nf).2.1 hmemD hc hd (hmd1.1 d hd) hget hl hf)
              (dirsSame_processMessage C.env C.orc e md n st b' w1)))
        refine wpS_bind_mono hpm ?_
        rintro b2 ⟨st', md'⟩ w2 ⟨⟨⟨⟨hmd', k, hregp, hdet⟩, hu2⟩, hb2⟩, hfo, hdry, hds⟩
        simp only at hmd' hfo hdry
        subst hmd'
        dsimp only
        have hq2 : NF → dryT_Quiet b2 st' := fun nf => ⟨hb2 (hq1 nf).2.1, (hdry nf).trans (hq1 nf).2.2⟩
        by_cases herr2 : st'.error = true
        · exact exit0_wpS_stuck (exit0_walk_sticky C.env C.orc e fuel md' st' herr2) (dryT_Quiet.not_of_err hq2 herr2) b2 w2
        · have herr2' : st'.error = false := by simpa using herr2
          obtain ⟨key, c', lines, hout, hupd, hlog, hfresh, hoth⟩ := hdet herr2'
          have hinv2 := exit0_Inv.msg hG hs hinv1 hrok hdotF hc (hregp hinv1.reg) hu2 hout hupd hlog hfresh hoth
          have hmd2 : WholeMdOk w2 md' :=
            ⟨fun d' hd' => k.dirPath (hmd1.1 d' hd') (World.lt_of_dirPath (hmd1.1 d' hd')), hmd1.2⟩
          have hrem2 : exit0_rem w2 d = t := by
            rw [← hrem1]
            exact exit0_rem_congr hobj1 (by rw [k.objs d (World.lt_of_dirPath (hmd1.1 d hd))]; exact hobj1) nofun
          refine wpS_mono (ih md' st' w2 b2 pre later t d hd hsd hmd2 hrem2 hs hnew hrok.tail hinv2 (hw1.trans hds) hq2 ?_)
            (fun _ r _ hp => ⟨fun he => ⟨(hp.1 he).1, (hp.1 he).2.1, (hp.1 he).2.2.1, (hp.1 he).2.2.2.trans hfo⟩, hp.2⟩)
          rw [hlen] at hfuel
          by_cases hsub : md'.subdir = .new
          · obtain ⟨later', hlater⟩ := hnew hsub
            have hcm : (md'.root ++ [47] ++ subdirName .cur) ∈ later.map (·.1) := by rw [hlater]; simp
            simp only [hsub, if_true] at hfuel ⊢
            rw [hinv2.cnt _ hcm, ← hinv1.cnt _ hcm]
            omega
          · simp only [hsub, if_false] at hfuel ⊢
            omega

theorem exit0_walk (C : exit0_Ctx) (hG : exit0_Good C) (e : Expr) (hstep : exit0_StepOK C.env C.orc e) (fuel : Nat) :
    ∀ (md : Maildir) (st : MainSt) (w : World) (b : Bool) (pre later : List (Bytes × Expr)) (rem : List Bytes) (d : Handle),
      md.dirH = some d → md.stdin = false → WholeMdOk w md →
      (∃ snap pos, w.obj d = .dir md.path snap pos) → exit0_rem w d = rem →
      C.dirs = pre ++ (md.path, e) :: later →
      (md.subdir = .new → ∃ later', later = (md.root ++ [47] ++ subdirName .cur, e) :: later') →
      exit0_RemOk C md.path rem → exit0_Inv C later (some (md.path, e, rem)) st w →
      rem.length + 1 + (if md.subdir = .new then
          (st.files.filter (fun x => x.1 == md.root ++ [47] ++ subdirName .cur)).length + 3 else 0) ≤ fuel →
      wpS (walk C.env C.orc e fuel md st)
        (fun _ r w' => r.1.error = false → exit0_Inv C (if md.subdir = .new then later.tail else later) none r.1 w') b w := by
  intro md st w b pre later rem d hd hsd hmd _ hrem hs hnew hrok hinv hfuel
  exact wpS_mono (exit0_walk_gen C hG e hstep (NF := False) (wr := w) False.elim False.elim fuel md st w b pre later rem d hd hsd hmd hrem hs hnew hrok hinv
    (DirsSame.refl w) False.elim hfuel) fun _ _ _ h he => (h.1 he).1

end Mdsort.Proofs
