import Mdsort.Proofs.WorldStdin
import Mdsort.Proofs.WorldFaults

/-! Two things the statements about a whole stdin run need beside the action scripts.

`maildir_close` of the stdin maildir when none of its calls fails (`wpN`: every call returns its predicted result): the loop
empties the spool directory (`spec_closeLoop`), and each `rmdir` takes one of the directories `maildir_stdin` made out of what
is extra (`Extra.rmdir`).

`main` in stdin mode as a program: `fopen`, `fclose`, then for every `stdin` block: spool, walk, cleanup (`sessions`).  The
statements about a run (`mainP_stdin` and everything after it) are for a configuration with exactly one `stdin` block,
`stdinExprs conf = [expr]`: there the part before the cleanup (`stdinHead`) and the cleanup (`stdinFinish`) are separated so
that statements can speak about faults before / inside the cleanup. -/

namespace Mdsort.Proofs.World
open Mdsort Mdsort.Model

/-- Weakest precondition for an execution in which every call returns what the abstract file system predicts: `wpS`
(WorldFaults) with the budget spent. -/
def wpN {α} (p : Prog α) (Q : α → World → Prop) (w : World) : Prop := wpS p (fun _ => Q) false w

theorem wpN_call {α} {c : Call} {k : Res → Prog α} {Q : α → World → Prop} {w : World}
    (h : wpN (k (predict w c)) Q (stepWorld w c (predict w c))) : wpN (.call c k) Q w := wpS_call_spent h

/-- With the budget spent it stays spent: the continuation is met with `false` only. -/
theorem wpN_bind_mono {α β} {p : Prog α} {f : α → Prog β} {Q : β → World → Prop} {R : α → World → Prop} {w : World}
    (h : wpN p R w) (hf : ∀ a w', R a w' → wpN (f a) Q w') : wpN (p.bind f) Q w := by
  induction p generalizing w with
  | ret a => exact hf a w h
  | call c k ih => exact ⟨ih _ (show wpN _ R _ from h.1), fun hb => by cases hb⟩

theorem wpN_sound {α} {p : Prog α} {Q : α → World → Prop} {w : World} (plan : Plan) (i : Nat)
    (hp : ∀ j, i ≤ j → plan j = none) (h : wpN p Q w) :
    Q (run plan p w i).1 (run plan p w i).2.1 := by
  obtain ⟨_, hq⟩ := wpS_sound plan h ⟨fun _ => hp, fun j k hj hjk _ => hp k (by omega)⟩
  exact hq

theorem lookup_none_names {w : World} {p n : Bytes} {es : List (Bytes × Nat)} (hd : w.dir p = some es)
    (hl : w.lookup p n = none) : ∀ e ∈ es, e.1 ≠ n := by
  intro e he h
  have := (lookup_isSome_iff hd).2 (List.mem_map.2 ⟨e, he, h⟩)
  rw [hl] at this
  cases this

theorem rmdir_nofault (w : World) (q : Bytes) :
    (∀ r, r ≠ q → (stepWorld w (.rmdir q) (predict w (.rmdir q))).dir r = w.dir r) ∧
    ((stepWorld w (.rmdir q) (predict w (.rmdir q))).dir q = w.dir q ∨
      (stepWorld w (.rmdir q) (predict w (.rmdir q))).dir q = none) ∧
    (w.dir q = some [] → (stepWorld w (.rmdir q) (predict w (.rmdir q))).dir q = none) := by
  rcases Parties.rmdir_state w q with ⟨-, hp, hc⟩ | ⟨hne, e, hp⟩
  · have hd : ∀ r, (stepWorld w (.rmdir q) (.ok 0)).dir r = if r = q then none else w.dir r := fun r => by
      rw [stepWorld_dir, hc, dir_filter_ne]
    rw [hp]
    exact ⟨fun r hr => by rw [hd, if_neg hr], .inr (by rw [hd, if_pos rfl]), fun _ => by rw [hd, if_pos rfl]⟩
  · have hc : core w (.rmdir q) (.err e) = w := core_fail w e rfl
    rw [hp]
    exact ⟨fun r _ => by rw [stepWorld_dir, hc], .inl (by rw [stepWorld_dir, hc]), fun h => absurd h hne⟩

/-- Every directory of `w` that `w0` does not have is empty and satisfies `R`. -/
def Extra (w0 w : World) (R : Bytes → Prop) : Prop :=
  ∀ q, (w.dir q).isSome → (w0.dir q).isSome ∨ (R q ∧ w.dir q = some [])

/-- `rmdir a` without a fault takes `a` out of the extra directories (and `a` may satisfy `R` as well: `maildir_close` after an
early failure removes the same path twice). -/
theorem Extra.rmdir {w0 w : World} {R R' : Bytes → Prop} (h : Extra w0 w R') (a : Bytes) (hR : ∀ q, R' q → q = a ∨ R q) :
    Extra w0 (stepWorld w (.rmdir a) (predict w (.rmdir a))) R := by
  obtain ⟨h1, h2, h3⟩ := rmdir_nofault w a
  intro q hq
  by_cases hqa : q = a
  · subst hqa
    rcases h2 with e | e
    · rw [e] at hq ⊢
      rcases h q hq with g | ⟨-, hemp⟩
      · exact .inl g
      · rw [h3 hemp, hemp] at e; cases e
    · rw [e] at hq; cases hq
  · rw [h1 q hqa] at hq ⊢
    exact (h q hq).imp_right fun ⟨hr, hemp⟩ => ⟨(hR q hr).resolve_left hqa, hemp⟩

theorem Extra.dirs {w0 w w' : World} {R : Bytes → Prop} (h : Extra w0 w R) (hd : w'.dirs = w.dirs) : Extra w0 w' R :=
  fun q hq => by rw [dir_of_dirs hd] at hq ⊢; exact h q hq

theorem Extra.none {w0 w : World} (h : Extra w0 w fun _ => False) : ∀ q, (w.dir q).isSome → (w0.dir q).isSome :=
  fun q hq => (h q hq).elim id fun h => h.1.elim

/-- The loop of `maildir_close`: one `readdir` per name the stream still yields, `unlinkat` for every name
but `.` and `..`.  The directories are compared with a fixed world `w0`, so that the induction hypothesis is the goal after
each step. -/
theorem spec_closeLoop (d : Handle) (sp : Bytes) (w0 : World) (fuel : Nat) {w : World}
    {snap : Option (List Bytes)} {pos : Nat}
    (ho : w.obj d = .dir sp snap pos) (hfuel : (streamRest w d).length < fuel) (hoth : ∀ q, q ≠ sp → w.dir q = w0.dir q)
    (hes : ∀ es, w.dir sp = some es → ∀ e ∈ es, e.1 ∈ streamRest w d ∧ e.1 ≠ [46] ∧ e.1 ≠ [46, 46]) :
    wpN (closeStdin.loop d fuel)
      (fun _ w' => (∀ es, w'.dir sp = some es → es = []) ∧ ∀ q, q ≠ sp → w'.dir q = w0.dir q) w := by
  induction fuel generalizing w snap pos with
  | zero => exact absurd hfuel (Nat.not_lt_zero _)
  | succ fuel ih =>
    unfold closeStdin.loop
    simp only [bind_eq, pure_eq, call_bind]
    apply wpN_call
    have hdir : ∀ r q, (stepWorld w (.readdir d) r).dir q = w.dir q := fun r q =>
      dir_of_dirs (core_dirs w (.readdir d) r rfl) q
    rcases readdir_cases (.inl rfl) ho with ⟨e, he⟩ | ⟨he, hrem⟩ | ⟨n, t, names, he, hrem, ho1, hdrop⟩
    · exact absurd he (predict_readdir_ne_err ho e)
    · rw [he]
      refine ⟨fun es hd => List.eq_nil_iff_forall_not_mem.2 fun e hm => ?_, fun q hq => by rw [hdir]; exact hoth q hq⟩
      have := (hes es (by rw [← hdir .eof]; exact hd) e hm).1
      rw [hrem] at this
      cases this
    · rw [he]
      rw [hrem] at hfuel hes
      have hlen : t.length < fuel := by simpa using hfuel
      have hdir1 := hdir (.name n)
      generalize stepWorld w (.readdir d) (.name n) = w1 at ho1 hdir1 ⊢
      have rest : ∀ {w2 : World} {es : List (Bytes × Nat)}, w2.obj d = .dir sp (some names) (pos + 1) → w.dir sp = some es →
          ∀ e ∈ es, e.1 ≠ n → e.1 ∈ streamRest w2 d ∧ e.1 ≠ [46] ∧ e.1 ≠ [46, 46] := by
        intro w2 es ho2 hd e hm hne
        obtain ⟨h1, h2, h3⟩ := hes es hd e hm
        rw [streamRest_of_obj ho2, hdrop]
        exact ⟨(List.mem_cons.1 h1).resolve_left hne, h2, h3⟩
      have hlen' : ∀ {w2 : World}, w2.obj d = .dir sp (some names) (pos + 1) → (streamRest w2 d).length < fuel := fun ho2 => by
        rw [streamRest_of_obj ho2, hdrop]; exact hlen
      dsimp only
      split
      · -- `.` or `..`
        rename_i hdot
        refine ih ho1 (hlen' ho1) (fun q hq => by rw [hdir1]; exact hoth q hq) ?_
        intro es hd e hm
        rw [hdir1] at hd
        refine rest ho1 hd e hm ?_
        obtain ⟨_, h2, h3⟩ := hes es hd e hm
        simp only [Bool.or_eq_true, beq_iff_eq] at hdot
        rcases hdot with hd' | hd'
        · exact fun h => h2 (h.trans hd')
        · exact fun h => h3 (h.trans hd')
      · -- a real name: unlink it
        apply wpN_call
        have hdp1 : w1.dirPath d = some sp := dirPath_of_obj ho1
        rcases Parties.unlinkat_state w1 d n with ⟨p, f, hp, -, hpred, hc2⟩ | ⟨hnone, hpred⟩
        · obtain rfl : sp = p := Option.some.inj (hdp1.symm.trans hp)
          rw [hpred]
          have ho2 : (stepWorld w1 (.unlinkat d n) (.ok 0)).obj d = .dir sp (some names) (pos + 1) := by
            rw [stepWorld_obj, hc2, obj_unbind]; exact ho1
          have hdir2 : ∀ q, (stepWorld w1 (.unlinkat d n) (.ok 0)).dir q =
              if q = sp then (w.dir sp).map (fun es => es.filter (·.1 != n)) else w.dir q := by
            intro q
            rw [stepWorld_dir, hc2, dir_unbind]
            by_cases hq : q = sp <;> simp [hq, hdir1]
          refine ih ho2 (hlen' ho2) (fun q hq => by rw [hdir2, if_neg hq]; exact hoth q hq) ?_
          intro es hd e hm
          rw [hdir2, if_pos rfl] at hd
          obtain ⟨es0, hw, rfl⟩ := Option.map_eq_some_iff.1 hd
          obtain ⟨hm0, hne⟩ := List.mem_filter.1 hm
          exact rest ho2 hw e hm0 (by simpa using hne)
        · rw [hpred]
          have hs := sameFs_err w1 (.unlinkat d n) "ENOENT" rfl
          have ho2 : (stepWorld w1 (.unlinkat d n) (.err "ENOENT")).obj d = .dir sp (some names) (pos + 1) := by
            rw [hs.obj]; exact ho1
          refine ih ho2 (hlen' ho2) (fun q hq => by rw [hs.dir, hdir1]; exact hoth q hq) ?_
          intro es hd e hm
          rw [hs.dir, hdir1] at hd
          exact rest ho2 hd e hm (lookup_none_names (by rw [hdir1]; exact hd) (hnone sp hdp1) e hm)

theorem notDot_of_mem {n : Bytes} (h : (95 : UInt8) ∈ n) : n ≠ [46] ∧ n ≠ [46, 46] := by
  constructor <;> (intro e; subst e; simp at h)

theorem ite_bind {α β} (c : Prop) [Decidable c] (a b : Prog α) (f : α → Prog β) :
    (if c then a else b).bind f = if c then a.bind f else b.bind f := by
  split <;> rfl

/-- The expressions of the `stdin` blocks, in the order `main` visits them. -/
def stdinExprs (conf : List ConfBlock) : List Expr :=
  conf.flatMap fun b => (b.paths.filter isStdinPath).map fun _ => b.expr

/-- One stdin block up to (not including) `maildir_close`: spool standard input, walk the spool. -/
def sessionHead (env : PEnv) (orc : EvalOracles) (input : Bytes) (expr : Expr) (st : MainSt) : Prog (MainSt × Maildir) :=
  (maildirStdin env input).bind fun x =>
    if x.2.1 = true then Prog.ret ({ st with error := true }, x.1)
    else walk env orc expr (stdinFuel env) x.1
      (match x.2.2 with
       | some n => { st with files := st.files.put x.1.path n input }
       | none => st)

def session (env : PEnv) (orc : EvalOracles) (input : Bytes) (expr : Expr) (st : MainSt) : Prog MainSt :=
  (sessionHead env orc input expr st).bind fun y => (closeStdin (stdinFuel env) y.2).bind fun fo => Prog.ret (orFuel y.1 fo)

def sessions (env : PEnv) (orc : EvalOracles) (input : Bytes) : List Expr → MainSt → Prog MainSt
  | [], st => Prog.ret st
  | e :: es, st => (session env orc input e st).bind fun st' => sessions env orc input es st'

theorem sessions_append (env : PEnv) (orc : EvalOracles) (input : Bytes) (a b : List Expr) (st : MainSt) :
    sessions env orc input (a ++ b) st = (sessions env orc input a st).bind fun st' => sessions env orc input b st' := by
  induction a generalizing st with
  | nil => rfl
  | cons e es ih =>
    simp only [List.cons_append, sessions, bind_assoc]
    congr 1
    funext st'
    exact ih st'

theorem paths_stdin (env : PEnv) (orc : EvalOracles) (input : Bytes) (b : ConfBlock) (hm : env.stdinMode = true)
    (ps : List Bytes) (st : MainSt) :
    mainP.blocks.paths env orc input b ps st =
      sessions env orc input ((ps.filter isStdinPath).map fun _ => b.expr) st := by
  induction ps generalizing st with
  | nil => unfold mainP.blocks.paths; rfl
  | cons p more ih =>
    unfold mainP.blocks.paths
    simp only [bind_eq, hm]
    by_cases hp : isStdinPath p = true
    · simp only [hp, List.filter_cons, if_true, List.map_cons, sessions, session, sessionHead, bind_assoc, ret_bind,
        ite_bind, ih, Bool.not_true, Bool.and_false, Bool.false_and, Bool.or_self, Bool.false_eq_true, if_false]
      rfl
    · have hp' : isStdinPath p = false := by simpa using hp
      simp only [hp', List.filter_cons, Bool.not_false, Bool.and_true, Bool.true_or, if_true, ih, Bool.false_eq_true,
        if_false]

theorem blocks_stdin (env : PEnv) (orc : EvalOracles) (input : Bytes) (hm : env.stdinMode = true)
    (conf : List ConfBlock) (st : MainSt) :
    mainP.blocks env orc input conf st = sessions env orc input (stdinExprs conf) st := by
  induction conf generalizing st with
  | nil => unfold mainP.blocks; rfl
  | cons b rest ih =>
    unfold mainP.blocks
    simp only [bind_eq, stdinExprs, List.flatMap_cons, sessions_append, paths_stdin env orc input b hm]
    congr 1
    funext st'
    exact ih st'

/-- The loop state `main` starts with (the local `st0` of `Model.mainP`). -/
def st0 (files : Files) : MainSt := { files := files, error := false, reject := false, log := [] }

/-- `main` up to the cleanup of the spool; `none`: the run ends before a spool is attempted. -/
def stdinHead (env : PEnv) (orc : EvalOracles) (expr : Expr) (files : Files) (input : Bytes) : Prog (Option (MainSt × Maildir)) :=
  Prog.call (.fopen env.confpath) fun r =>
    match r with
    | .ok h => Prog.call (.fclose h) fun _ => (sessionHead env orc input expr (st0 files)).bind fun y => Prog.ret (some y)
    | _ => Prog.ret none

def stdinFinish (env : PEnv) (files : Files) : Option (MainSt × Maildir) → Prog (Nat × MainSt)
  | some y => (closeStdin (stdinFuel env) y.2).bind fun fo => Prog.ret (exitStatus env (orFuel y.1 fo), orFuel y.1 fo)
  | none => Prog.ret (exitStatus env { st0 files with error := true }, { st0 files with error := true })

theorem mainP_stdin (env : PEnv) (orc : EvalOracles) (conf : List ConfBlock) (files : Files) (input : Bytes) (expr : Expr)
    (hm : env.stdinMode = true) (hs : env.syntaxOnly = false) (hc : stdinExprs conf = [expr]) :
    mainP env orc true conf files input = (stdinHead env orc expr files input).bind (stdinFinish env files) := by
  unfold mainP stdinHead
  simp only [bind_eq, pure_eq, call_bind, call_bind', hs, Bool.not_true, Bool.false_eq_true, if_false,
    blocks_stdin env orc input hm, hc, sessions, session, bind_assoc, ret_bind]
  congr 1
  funext r
  cases r with
  | ok h => simp only [call_bind', bind_assoc, ret_bind, stdinFinish, st0]
  | _ => rfl  -- `fopen` failed: both sides return at once

end Mdsort.Proofs.World
