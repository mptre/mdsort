import Mdsort.Proofs.WorldMain
import Mdsort.Proofs.WorldExec

/-! Definitions and lemmas for the world-level properties C01, C02, C04, C05. -/

namespace Mdsort.Proofs
open Mdsort Mdsort.Model

/-- The complete versions a message can have while its action list runs: the bytes it had, and
the bytes `message_write` produces for it (the header set is final once interpolation is done). -/
def stages (ms : MsgSt) (orig : Bytes) : List Bytes := [orig, (messageWrite ms.msg).1]

/-- Some directory entry is bound to a file whose visible content is one of `cs`. -/
def Intact (w : World) (cs : List Bytes) : Prop :=
  ∃ d n fid f, w.lookup d n = some fid ∧ w.file fid = some f ∧ f.data ∈ cs

/-- ... whose content on stable storage (as of the last fsync) is one of `cs`. -/
def IntactDurable (w : World) (cs : List Bytes) : Prop :=
  ∃ d n fid f, w.lookup d n = some fid ∧ w.file fid = some f ∧ f.durable ∈ cs

/-- The situation when `matches_exec` starts.  No handle is a descriptor open for writing or a stdio stream, so nothing
can reach an existing file but what the run opens. -/
structure Start (w : World) (st : ExecSt) (orig : Bytes) : Prop where
  srcOpen : ∃ h, st.src.dirH = some h ∧ w.dirPath h = some st.src.path
  bound : ∃ fid, w.lookup st.src.path st.ms.name = some fid ∧
    w.file fid = some { data := orig, durable := orig }
  noWriters : ∀ h fid off, w.obj h ≠ .file fid off true
  noStreams : ∀ h fid buf, w.obj h ≠ .stream fid buf
  freshIds : ∀ p, p ∈ w.files → p.1 < w.nextFid
  uniqueNames : ∀ d es, w.dir d = some es → (es.map (·.1)).Nodup

/-- `Start`, and what the single-fault statements need in addition: the source path is root joined with subdirectory, which is
how `maildir_open` and the walk make it, and the ghost location and content of the message are those of its entry. -/
structure StartAt (w : World) (st : ExecSt) (orig : Bytes) : Prop where
  start : Start w st orig
  wf : pathjoin PATH_MAX st.src.root (subdirName st.src.subdir) = some st.src.path
  loc : st.ms.loc = some (st.src.path, st.ms.name)
  content : st.ms.content = orig
  msgFd : ∀ h, st.ms.fd = some h → h < w.handles.length ∧ st.src.dirH ≠ some h

/-- The action list contains no discard (the grammar makes discard exclusive). -/
def NoDiscard (ml : MatchList) : Prop := ∀ m ∈ ml, m.ty ≠ .discard

theorem Start.good {w : World} {st : ExecSt} {orig : Bytes} (hs : Start w st orig) :
    World.Good w (stages st.ms orig) := by
  obtain ⟨fid, hl, hf⟩ := hs.bound
  refine ⟨st.src.path, st.ms.name, fid, hl, hs.freshIds _ (World.mem_files_of_file hf), _, hf, ?_, ?_⟩ <;>
    simp [stages]

theorem World.Good.intact {w : World} {cs : List Bytes} (h : World.Good w cs) : Intact w cs := by
  obtain ⟨p, n, fid, hl, _, f, hf, hd, _⟩ := h
  exact ⟨p, n, fid, f, hl, hf, hd⟩

theorem World.Good.intactDurable {w : World} {cs : List Bytes} (h : World.Good w cs) : IntactDurable w cs := by
  obtain ⟨p, n, fid, hl, _, f, hf, _, hd⟩ := h
  exact ⟨p, n, fid, f, hl, hf, hd⟩

/-- C02 (process kill) and C01 (loss-freedom): under EVERY fault plan, after EVERY call of the
execution of an action list, some entry is bound to a complete version of the message. -/
theorem exec_always_intact (env : PEnv) (ml : MatchList) (st : ExecSt) (w : World) (orig : Bytes) (plan : Plan)
    (hs : Start w st orig) (hd : NoDiscard ml) :
    ∀ w' ∈ (runPlan plan (matchesExec env ml st) w 0 []).2.2, Intact w' (stages st.ms orig) := by
  intro w' hw'
  exact (World.matchesExec_history_good env ml st w plan hs.good (by simp [stages]) hd w' hw').intact

/-- All calls of a program under a plan.  `World.callsOf'` of WorldMain has the same body: `syntax_only_calls` and
`bad_config_only_reads_config` state with this one what `confOnly_calls` proves of the other. -/
def callsOf {α} (plan : Plan) (p : Prog α) (w : World) : List Call :=
  ((runPlan plan p w 0 []).2.1.trace.drop w.trace.length).map (·.1)

/-- C05 (-n): with the syntax-check option the whole run is: open and close the configuration. -/
theorem syntax_only_calls (env : PEnv) (orc : EvalOracles) (ok : Bool) (conf : List ConfBlock) (files : Files) (input : Bytes)
    (w : World) (plan : Plan) (hn : env.syntaxOnly = true) :
    callsOf plan (mainP env orc ok conf files input) w = [.fopen env.confpath] ∨
    ∃ h, callsOf plan (mainP env orc ok conf files input) w = [.fopen env.confpath, .fclose h] := by
  obtain ⟨st1, st2, he⟩ := World.mainP_syntaxOnly env orc ok conf files input hn
  rw [he]
  exact World.confOnly_calls env st1 st2 plan w

/-- Calls that change a configured maildir: everything mutating except the stdin spool's own
creation and removal below TMPDIR.  No statement is made with it: the dry-run statements use `World.Quiet` and `DryCall`. -/
def touchesMaildir (env : PEnv) (w : World) : Call → Bool
  | .openExcl d _ => !(((w.dirPath d).getD []).take env.tmpdir.length == env.tmpdir)
  | .unlinkat d _ => !(((w.dirPath d).getD []).take env.tmpdir.length == env.tmpdir)
  | .renameat .. | .utimensat .. | .fprintf .. | .mkostemp .. | .fork .. | .unlink .. => true
  | _ => false

/-- C04: under every plan the status `mainP` returns is `exitStatus` of the loop state it returns, so it is computed from
the error and reject flags only (`exitStatus`, Model/Main.lean: in maildir mode 1 iff an error occurred; in stdin mode
`Gen.exTempfail` iff an error occurred, else `Gen.exPermfail` iff a reject was executed, else 0). -/
theorem exit_status_table (env : PEnv) (orc : EvalOracles) (ok : Bool) (conf : List ConfBlock) (files : Files) (input : Bytes)
    (w : World) (plan : Plan) :
    let r := (runPlan plan (mainP env orc ok conf files input) w 0 []).1
    r.1 = exitStatus env r.2 := by
  intro r
  have h := (World.mainP_all env orc ok conf files input).run plan w 0
  simpa [r, World.runPlan_eq] using h

/-- A rejected configuration (or an unreadable one) is an error and nothing else happens. -/
theorem bad_config_only_reads_config (env : PEnv) (orc : EvalOracles) (conf : List ConfBlock) (files : Files) (input : Bytes)
    (w : World) (plan : Plan) :
    let r := runPlan plan (mainP env orc false conf files input) w 0 []
    r.1.2.error = true ∧
    (callsOf plan (mainP env orc false conf files input) w = [.fopen env.confpath] ∨
     ∃ h, callsOf plan (mainP env orc false conf files input) w = [.fopen env.confpath, .fclose h]) := by
  obtain ⟨st, hst, he⟩ := World.mainP_badconf env orc conf files input
  rw [he]
  refine ⟨?_, World.confOnly_calls env st st plan w⟩
  rcases World.confOnly_result env st st plan w with h | h <;> simp only [h, hst]

end Mdsort.Proofs
