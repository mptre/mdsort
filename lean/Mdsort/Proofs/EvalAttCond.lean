import Mdsort.Proofs.EvalCond
import Mdsort.Proofs.EvalAttDom
import Mdsort.Proofs.AttachmentCond
import Mdsort.Proofs.DateFields

/-!
# Conditions with `attachment c` are context-free inside the domain (C03 with attachments)

A condition evaluated on an arbitrary part: the value is `condValA` of the
stand-alone valuation of the matchers on (part index, message), whatever the match list is, and
evaluation only appends entries that are not actions.
-/

namespace Mdsort.Proofs
open Mdsort Mdsort.Model Mdsort.Spec

/-- The context the specification is given: the parts `message_get_attachments` returns, and each
matcher evaluated on its own on the given (part index, message). -/
def partCtx (env : Env) (root : Msg) (f : MFlags) : Spec.PartCtx Msg :=
  { parts := getAttachments
    v := fun k m a => (eval env root a k m { ml := [], flags := f }).1 }

/-- The result of a matcher on part `(k, m)` does not depend on the state, and it appends the same inert entries from every
state. -/
def att_LeafCF (env : Env) (root : Msg) (c : Expr) (k : Nat) (m : Msg) : Prop :=
  ∃ (T : Tri) (X : MatchList), (∀ x ∈ X, Inert x) ∧ ∀ st : St, eval env root c k m st = (T, { st with ml := st.ml ++ X })

theorem att_leaf_of_eq {env : Env} {root : Msg} {c : Expr} {k : Nat} {m : Msg} (T : Tri) (X : MatchList)
    (hX : ∀ x ∈ X, Inert x) (h : ∀ st : St, eval env root c k m st = (T, { st with ml := st.ml ++ X })) :
    att_LeafCF env root c k m :=
  ⟨T, X, hX, h⟩

theorem att_leaf_const (env : Env) (root : Msg) (c : Expr) (k : Nat) (m : Msg) (T : Tri)
    (h : ∀ st : St, eval env root c k m st = (T, st)) : att_LeafCF env root c k m :=
  att_leaf_of_eq T [] (by simp) fun st => by rw [h, St.ml_append_nil]

theorem att_leaf_regexHit (env : Env) (root : Msg) (c : Expr) (k : Nat) (m : Msg) (ty : MType) (lno : Nat) (p : Pat)
    (key v : Bytes) (ha : ty.isAction = false) (h : ∀ st : St, eval env root c k m st = regexHit env ty lno k p key v st) :
    att_LeafCF env root c k m := by
  obtain ⟨X, hX, hr⟩ := regexHit_cf env ty lno k p key v ha
  exact att_leaf_of_eq _ X hX fun st => by rw [h, hr]

theorem att_leaf_header (env : Env) (root : Msg) (lno : Nat) (names : List Bytes) (p : Pat) (k : Nat) (m : Msg) :
    att_LeafCF env root (.header lno names p) k m := by
  cases hf : firstNonNomatch (env.rx p) (modelCands m names) with
  | none => exact att_leaf_const env root _ k m .nomatch fun st => by rw [eval_header_model, hf]
  | some c =>
    exact att_leaf_regexHit env root _ k m .header lno p c.1 c.2 (by rw [isAction_eq]; rfl) fun st => by
      rw [eval_header_model, hf]

theorem att_leaf_body (env : Env) (root : Msg) (lno : Nat) (p : Pat) (k : Nat) (m : Msg) :
    att_LeafCF env root (.body lno p) k m := by
  cases hb : getBody m with
  | none => exact att_leaf_const env root _ k m .error fun st => by rw [eval_body_eq, hb]
  | some b =>
    exact att_leaf_regexHit env root _ k m .body lno p _ b (by rw [isAction_eq]; rfl) fun st => by rw [eval_body_eq, hb]

theorem att_leaf_date (env : Env) (root : Msg) (lno : Nat) (fld : DateField) (cmp : DateCmp) (age : Nat)
    (k : Nat) (m : Msg) : att_LeafCF env root (.date lno fld cmp age) k m := by
  rcases hd : dateInstant env m fld with _ | _ | ⟨tim, text⟩
  · exact att_leaf_const env root _ k m .error fun st => by rw [date_fields, hd]; rfl
  · exact att_leaf_const env root _ k m .nomatch fun st => by rw [date_fields, hd]; rfl
  · by_cases hage : AgeHolds cmp age env.now tim
    · exact att_leaf_regexHit env root _ k m .date lno _ _ text (by rw [isAction_eq]; rfl) fun st => by
        rw [date_fields, hd, dateOutcome, if_pos hage]
        exact exprRegexec_eq env .date lno k _ _ text st date_not_path (by decide)
    · exact att_leaf_const env root _ k m .nomatch fun st => by rw [date_fields, hd, dateOutcome, if_neg hage]

theorem att_leaf_stat (env : Env) (root : Msg) (lno : Nat) (path : Bytes) (h : noBackslash path = true)
    (k : Nat) (m : Msg) : att_LeafCF env root (.stat lno path) k m := by
  refine att_leaf_const env root _ k m (statTri env [] path) fun st => ?_
  rw [eval_stat_eq]
  unfold statTri strlcpyFits
  by_cases hl : path.length ≥ PATH_MAX
  · simp only [hl, if_true]
  · simp only [hl, if_false]
    rw [interpolate_nobs st.ml path h]

theorem att_leaf_command (env : Env) (root : Msg) (lno : Nat) (argv : List Bytes) (h : argv.all noBackslash = true)
    (k : Nat) (m : Msg) : att_LeafCF env root (.command lno argv) k m :=
  att_leaf_const env root _ k m _ fun st => by rw [eval_command, mapM_interpolate_nobs st.ml argv h]

theorem att_v_of_leaf {env : Env} {root : Msg} {c : Expr} {k : Nat} {m : Msg} (f : MFlags)
    (h : att_LeafCF env root c k m) (st : St) :
    ∃ X : MatchList, (∀ x ∈ X, Inert x) ∧
      eval env root c k m st = ((partCtx env root f).v k m c, { st with ml := st.ml ++ X }) := by
  obtain ⟨T, X, hX, hT⟩ := h
  have : (partCtx env root f).v k m c = T := by
    show (eval env root c k m { ml := [], flags := f }).1 = T
    rw [hT]
  rw [this]
  exact ⟨X, hX, hT st⟩

/-- `old` on the message itself reads the Seen flag of the state; on a part it does not. -/
theorem att_eval_old (env : Env) (root : Msg) (f : MFlags) (lno k : Nat) (m : Msg) (st : St)
    (h : k = 0 → flagsIsSet st.flags 83 = flagsIsSet f 83) :
    eval env root (.old lno) k m st = ((partCtx env root f).v k m (.old lno), st) := by
  show _ = ((eval env root (.old lno) k m { ml := [], flags := f }).1, st)
  by_cases hk : k = 0
  · subst hk
    simp only [eval, beq_self_eq_true, if_true, h rfl]
    split <;> rfl
  · have : (k == 0) = false := by simpa using hk
    simp only [eval, this, Bool.false_eq_true, if_false]
    split <;> rfl

/-- The loop of `expr_eval_attachment` over parts on which the condition is context-free. -/
theorem att_loop_cf (env : Env) (root : Msg) (c : Expr) (k : Nat) (F : Nat → Msg → Tri)
    (ih : ∀ (i : Nat) (q : Msg) (st : St), ∃ X : MatchList, (∀ x ∈ X, Inert x) ∧
      eval env root c (partIndex k i) q st = (F i q, { st with ml := st.ml ++ X })) :
    ∀ (ps : List Msg) (i : Nat) (st : St), ∃ X : MatchList, (∀ x ∈ X, Inert x) ∧
      eval.loop env root c k ps i st = (anyPart F i ps, { st with ml := st.ml ++ X }) := by
  intro ps
  induction ps with
  | nil => intro i st; exact ⟨[], by simp, by simp [eval.loop, anyPart]⟩
  | cons q qs ihp =>
    intro i st
    obtain ⟨X1, hX1, h1⟩ := ih i q st
    simp only [eval.loop, partIndex_beq, h1, anyPart]
    cases hT : F i q with
    | «nomatch» =>
      obtain ⟨X2, hX2, h2⟩ := ihp (i + 1) { st with ml := st.ml ++ X1 }
      refine ⟨X1 ++ X2, ?_, ?_⟩
      · intro x hx
        rcases List.mem_append.1 hx with h | h
        · exact hX1 x h
        · exact hX2 x h
      · simp only [h2, List.append_assoc]
    | «match» => exact ⟨X1, hX1, rfl⟩
    | error => exact ⟨X1, hX1, rfl⟩

theorem att_cond_eval (env : Env) (root : Msg) (f : MFlags) : ∀ (c : Expr), isCond c = true → att_wfG c = true →
    ∀ (k : Nat) (m : Msg) (st : St), (k = 0 → hasOld c = true → flagsIsSet st.flags 83 = flagsIsSet f 83) →
    ∃ X : MatchList, (∀ x ∈ X, Inert x) ∧
      eval env root c k m st = (condValA (partCtx env root f) c k m, { st with ml := st.ml ++ X }) := by
  intro c
  induction c with
  | and lno l r ihl ihr =>
    intro hc hw k m st hs
    simp only [isCond, att_wfG, hasOld, Bool.and_eq_true, Bool.or_eq_true] at hc hw hs
    obtain ⟨X1, hX1, h1⟩ := ihl hc.1 hw.1 k m st (fun z x => hs z (Or.inl x))
    simp only [eval, condValA, h1]
    cases hT : condValA (partCtx env root f) l k m with
    | «match» =>
      obtain ⟨X2, hX2, h2⟩ := ihr hc.2 hw.2 k m { st with ml := st.ml ++ X1 } (fun z x => hs z (Or.inr x))
      refine ⟨X1 ++ X2, ?_, ?_⟩
      · intro x hx
        rcases List.mem_append.1 hx with h | h
        · exact hX1 x h
        · exact hX2 x h
      · simp only [h2, List.append_assoc]
    | «nomatch» => exact ⟨X1, hX1, rfl⟩
    | error => exact ⟨X1, hX1, rfl⟩
  | or lno l r ihl ihr =>
    intro hc hw k m st hs
    simp only [isCond, att_wfG, hasOld, Bool.and_eq_true, Bool.or_eq_true] at hc hw hs
    obtain ⟨X1, hX1, h1⟩ := ihl hc.1 hw.1 k m st (fun z x => hs z (Or.inl x))
    simp only [eval, condValA, h1]
    cases hT : condValA (partCtx env root f) l k m with
    | «nomatch» =>
      obtain ⟨X2, hX2, h2⟩ := ihr hc.2 hw.2 k m { st with ml := st.ml ++ X1 } (fun z x => hs z (Or.inr x))
      refine ⟨X1 ++ X2, ?_, ?_⟩
      · intro x hx
        rcases List.mem_append.1 hx with h | h
        · exact hX1 x h
        · exact hX2 x h
      · simp only [h2, List.append_assoc]
    | «match» => exact ⟨X1, hX1, rfl⟩
    | error => exact ⟨X1, hX1, rfl⟩
  | neg lno e ih =>
    intro hc hw k m st hs
    simp only [isCond, att_wfG, hasOld] at hc hw hs
    obtain ⟨X1, hX1, h1⟩ := ih hc hw k m st hs
    simp only [eval, condValA, h1]
    cases hT : condValA (partCtx env root f) e k m with
    | «nomatch» => exact ⟨X1, hX1, rfl⟩
    | error => exact ⟨X1, hX1, rfl⟩
    | «match» =>
      refine ⟨[], by simp, ?_⟩
      simp
  | attachment lno e ih =>
    intro hc hw k m st _
    simp only [isCond, att_wfG] at hc hw
    have hparts : (partCtx env root f).parts m = getAttachments m := rfl
    simp only [eval, condValA, hparts]
    cases getAttachments m with
    | none => exact ⟨[], by simp, by simp⟩
    | some ps =>
      exact att_loop_cf env root e k _
        (fun i q st' => ih hc hw (partIndex k i) q st' (fun z => absurd z (partIndex_ne_zero k i))) ps 0 st
  | all lno => intro _ _ k m st _; simpa only [condValA] using att_v_of_leaf f (att_leaf_const env root (.all lno) k m _ fun st => by rw [eval]) st
  | new lno => intro _ _ k m st _; simpa only [condValA] using att_v_of_leaf f (att_leaf_const env root (.new lno) k m _ fun st => by rw [eval]) st
  | body lno p => intro _ _ k m st _; simpa only [condValA] using att_v_of_leaf f (att_leaf_body env root lno p k m) st
  | date lno fld cmp age =>
    intro _ _ k m st _; simpa only [condValA] using att_v_of_leaf f (att_leaf_date env root lno fld cmp age k m) st
  | header lno names p =>
    intro _ _ k m st _; simpa only [condValA] using att_v_of_leaf f (att_leaf_header env root lno names p k m) st
  | stat lno path =>
    intro _ hw k m st _
    simp only [att_wfG] at hw
    simpa only [condValA] using att_v_of_leaf f (att_leaf_stat env root lno path hw k m) st
  | command lno argv =>
    intro _ hw k m st _
    simp only [att_wfG] at hw
    simpa only [condValA] using att_v_of_leaf f (att_leaf_command env root lno argv hw k m) st
  | old lno =>
    intro _ _ k m st hs
    refine ⟨[], by simp, ?_⟩
    rw [att_eval_old env root f lno k m st (fun z => hs z rfl), St.ml_append_nil]
    simp [condValA]
  | _ => intro hc; simp [isCond] at hc

end Mdsort.Proofs
