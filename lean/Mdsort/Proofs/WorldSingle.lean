import Mdsort.Proofs.WorldCountExec
import Mdsort.Proofs.World

/-! C01 for one action list, in the terms of `runPlan`: the readings of `FinalPost` under at most one fault, a list that ends
in a discard, and exit 0 under every plan. -/

namespace Mdsort.Proofs.World
open Mdsort Mdsort.Model

theorem execList_append (env : PEnv) (pre post : MatchList) (st : ExecSt) :
    execList env (pre ++ post) st =
      (execList env pre st).bind fun x => if x.2 = true then Prog.ret x else execList env post x.1 := by
  induction pre generalizing st with
  | nil => simp [execList]
  | cons mh rest ih =>
    simp only [List.cons_append, execList]
    rw [bind_assoc]
    congr 1
    funext x
    obtain ⟨st', e⟩ := x
    cases e with
    | false => simp only [Bool.false_eq_true, if_false]; exact ih st'
    | true => simp only [if_true, ret_bind]

theorem sf_finish {Q : ExecSt × Bool → World → Prop} (x : ExecSt × Bool) (b : Bool) {w : World}
    (hq : Q x w) (hstep : ∀ d r, Q x (stepWorld w (.closedir d) r)) :
    wpS (finish x) (fun _ => Q) b w := by
  unfold finish
  split
  · unfold maildirClose
    split
    · simp only [bind_eq, pure_eq, call_bind, call_bind', ret_bind]
      exact wpS_call_any fun r _ => hstep _ r
    · exact hq
  · exact hq

/-- All that changed after a successful discard: the entry `a` is free, everything else is as before. -/
structure Removed (w w' : World) (a : Ent) : Prop where
  nextFid : w.nextFid ≤ w'.nextFid
  files : ∀ g, g < w.nextFid → w'.file g = w.file g
  dirSome : ∀ q, (w'.dir q).isSome = (w.dir q).isSome
  others : ∀ x, x ≠ a → lk w' x = lk w x
  gone : lk w' a = none

theorem Removed.step {w w' : World} {a : Ent} (d : Removed w w' a) (c : Call) (r : Res)
    (hd : Call.dirOp c = false) (hfs : ∀ g, g < w.nextFid → fileSafe w' g c) : Removed w (stepWorld w' c r) a := by
  have hdirs : (stepWorld w' c r).dirs = w'.dirs := by rw [stepWorld_dirs]; exact core_dirs w' c r hd
  refine ⟨?_, ?_, ?_, ?_, ?_⟩
  · simpa using Nat.le_trans d.nextFid (core_nextFid w' c r)
  · intro g hg
    rw [stepWorld_file, core_file w' c r g (Nat.lt_of_lt_of_le hg d.nextFid) (hfs g hg), d.files g hg]
  · intro q
    rw [← d.dirSome q, dir_of_dirs hdirs q]
  · intro x hx; rw [lk_step _ _ _ hd, d.others x hx]
  · rw [lk_step _ _ _ hd, d.gone]

theorem Delta.removed {w0 w1 w2 : World} {a b : Ent} (d : Delta w0 w1 a b) (r : Removed w1 w2 b) : Removed w0 w2 a := by
  refine ⟨Nat.le_trans d.nextFid r.nextFid, ?_, ?_, ?_, ?_⟩
  · intro g hg
    rw [r.files g (Nat.lt_of_lt_of_le hg d.nextFid), d.files g hg]
  · intro q; rw [r.dirSome, d.dirSome]
  · intro x hxa
    by_cases hxb : x = b
    · subst hxb
      rw [r.gone, d.fresh (Ne.symm hxa)]
    · rw [r.others x hxb, d.others x hxa hxb]
  · by_cases hab : a = b
    · subst hab; exact r.gone
    · rw [r.others a hab]; exact d.gone hab

def DiscardPost (w : World) (st : ExecSt) (r : ExecSt × Bool) (w' : World) : Prop :=
  (r.2 = true ∧ r.1 = st ∧ Mid w w' (lk w)) ∨
  (r.2 = false ∧ r.1.ms.loc = none ∧ Removed w w' (st.src.path, st.ms.name))

theorem sf_discard (env : PEnv) (mh : Match) (st : ExecSt) (hty : mh.ty = .discard) {w : World} {sh : Handle} {fid : Nat}
    (hA : At w st sh fid) (b : Bool) :
    wpS (execOne env mh st) (fun _ => DiscardPost w st) b w := by
  rw [execOne_discard env mh st hty, maildirUnlink_some hA.hsh]
  simp only [call_bind', ret_bind]
  have hl : w.lookup st.src.path st.ms.name = some fid := hA.hlk
  have hp := predict_unlinkat hA.hps hl
  refine wpS_call_ok rfl hp (fun _ => ?_) (fun e => ?_)
  · have m := (Mid.refl w).unlink hA.hps hl 0
    refine Or.inr ⟨rfl, rfl, m.nextFid, m.files, m.dirSome, ?_, ?_⟩
    · intro x hx; rw [m.look]; simp [hx]
    · rw [m.look]; simp
  · exact Or.inl ⟨rfl, rfl, (Mid.refl w).err _ _ rfl⟩

/-- A list that ends in a discard (the grammar makes discard exclusive, so in practice the list
is the discard alone, possibly after entries that are no actions): either an error is returned
and the message is intact exactly once as for any other list, or the message is gone and nothing
else has changed. -/
def DiscardListPost (w : World) (st : ExecSt) (r : ExecSt × Bool) (w' : World) : Prop :=
  (r.2 = true ∧ ∃ nb, Located w' r.1.ms nb ∧ Delta w w' (st.src.path, st.ms.name) nb ∧ r.1.ms.msg = st.ms.msg ∧
    (r.1.ms.content = st.ms.content ∨ r.1.ms.content = (messageWrite st.ms.msg).1)) ∨
  (r.2 = false ∧ r.1.ms.loc = none ∧ Removed w w' (st.src.path, st.ms.name))

theorem sf_matchesExec_discard (env : PEnv) (pre : MatchList) (mh : Match) (st : ExecSt) {w : World} {sh : Handle} {fid : Nat}
    (hA : At w st sh fid) (hnd : ∀ m ∈ pre, m.ty ≠ .discard) (hty : mh.ty = .discard) (b : Bool) :
    wpS (matchesExec env (pre ++ [mh]) st) (fun _ => DiscardListPost w st) b w := by
  rw [matchesExec_eq, execList_append]
  have fin : ∀ (x : ExecSt × Bool) (b' : Bool) (w' : World), DiscardListPost w st x w' →
      wpS (finish x) (fun _ => DiscardListPost w st) b' w' := by
    intro x b' w' hq
    refine sf_finish x b' hq ?_
    intro dd r
    rcases hq with ⟨he, nb, hloc, d, hmsg, hcont⟩ | ⟨he, hl, hr⟩
    · exact Or.inl ⟨he, nb, hloc.step _ r rfl (fun _ => trivial), d.step _ r rfl (fun _ _ => trivial), hmsg, hcont⟩
    · exact Or.inr ⟨he, hl, hr.step _ r rfl (fun _ _ => trivial)⟩
  refine wpS_bind (wpS_bind_mono (sf_execList env pre st hA hnd b) ?_)
  rintro b1 ⟨st1, e⟩ w1 ⟨nb, hloc1, d01, hmsg1, hcont1, hfin1⟩
  simp only at hloc1 hmsg1 hcont1 hfin1
  cases e with
  | true =>
    simp only [if_true]
    exact fin _ _ _ (Or.inl ⟨rfl, nb, hloc1, d01, hmsg1, hcont1⟩)
  | false =>
    simp only [Bool.false_eq_true, if_false]
    obtain ⟨⟨sh1, fid1, hA1⟩, -, -⟩ := hfin1 rfl
    have hnb : nb = (st1.src.path, st1.ms.name) := by
      have := hloc1.1
      rw [hA1.hloc] at this
      exact (Option.some.inj this).symm
    subst hnb
    unfold execList
    refine wpS_bind (wpS_mono (sf_discard env mh st1 hty hA1 b1) ?_)
    rintro b2 ⟨st2, e2⟩ w2 hd
    have hpost : DiscardListPost w st (st2, e2) w2 := by
      rcases hd with ⟨he, hst, m⟩ | ⟨he, hl, hr⟩
      · simp only at he hst
        subst he hst
        exact Or.inl ⟨rfl, _, hA1.located.of_mid m rfl, d01.trans (m.delta_same _), hmsg1, hcont1⟩
      · simp only at he hl
        subst he
        exact Or.inr ⟨rfl, hl, d01.removed hr⟩
    cases e2 with
    | true => simp only [if_true]; exact fin _ _ _ hpost
    | false =>
      simp only [Bool.false_eq_true, if_false, execList]
      exact fin _ _ _ hpost

theorem Delta.bound {w w' : World} {a b x : Ent} {fid : Nat} (d : Delta w w' a b) (hq : lk w' x = some fid) :
    x = b ∨ (x ≠ a ∧ lk w x = some fid) := by
  by_cases h1 : x = b
  · exact .inl h1
  · by_cases h2 : x = a
    · rw [h2, d.gone (by rw [← h2]; exact h1)] at hq
      cases hq
    · exact .inr ⟨h2, by rw [← d.others x h2 h1]; exact hq⟩

end Mdsort.Proofs.World

namespace Mdsort.Proofs
open Mdsort Mdsort.Model

theorem StartAt.at {w : World} {st : ExecSt} {orig : Bytes} (hs : StartAt w st orig) :
    ∃ sh fid, World.At w st sh fid := by
  obtain ⟨sh, hsh, hps⟩ := hs.start.srcOpen
  obtain ⟨fid, hl, hf⟩ := hs.start.bound
  refine ⟨sh, fid, hsh, hps, hs.wf, hs.loc, hl, hs.start.freshIds _ (World.mem_files_of_file hf),
    by rw [hs.content]; exact hf, ?_⟩
  intro h hh
  obtain ⟨h1, h2⟩ := hs.msgFd h hh
  exact ⟨h1, fun e => h2 (by rw [hsh, e])⟩

theorem exec_single_fault (env : PEnv) (ml : MatchList) (st : ExecSt) (w : World) (orig : Bytes) (plan : Plan)
    (hs : StartAt w st orig) (hd : NoDiscard ml) (hp : World.SingleFault plan) :
    World.FinalPost w ml st (runPlan plan (matchesExec env ml st) w 0 []).1
      (runPlan plan (matchesExec env ml st) w 0 []).2.1 := by
  obtain ⟨sh, fid, hA⟩ := hs.at
  rw [World.runPlan_eq]
  obtain ⟨b', h⟩ := World.wpS_sound plan (World.sf_matchesExec env ml st hA hd true) hp.budget
  exact h

/-- C01, exactly once (`C01_single_fault_exactly_once`): one entry for the message - no loss, no duplicate - whether or not
an error is returned. -/
theorem exec_single_fault_exactly_once (env : PEnv) (ml : MatchList) (st : ExecSt) (w : World) (orig : Bytes) (plan : Plan)
    (hs : StartAt w st orig) (hd : NoDiscard ml) (hp : World.SingleFault plan) :
    let r := runPlan plan (matchesExec env ml st) w 0 []
    ∃ p n fid, r.1.1.ms.loc = some (p, n) ∧ r.2.1.lookup p n = some fid ∧
      r.2.1.file fid = some ⟨r.1.1.ms.content, r.1.1.ms.content⟩ ∧ r.1.1.ms.content ∈ stages st.ms orig ∧
      ((p, n) = (st.src.path, st.ms.name) ∨ (w.lookup p n = none ∧ r.2.1.lookup st.src.path st.ms.name = none)) ∧
      ∀ q m, (q, m) ≠ (p, n) → (q, m) ≠ (st.src.path, st.ms.name) → r.2.1.lookup q m = w.lookup q m := by
  intro r
  obtain ⟨⟨p, n⟩, ⟨hl, fid, hlk, _, hf⟩, d, _, hcont, _⟩ := exec_single_fault env ml st w orig plan hs hd hp
  refine ⟨p, n, fid, hl, hlk, hf, ?_, ?_, ?_⟩
  · rw [hs.content] at hcont
    rcases hcont with h | h <;> simp [stages, r, h]
  · by_cases h : (p, n) = (st.src.path, st.ms.name)
    · exact .inl h
    · exact .inr ⟨d.fresh (Ne.symm h), d.gone (Ne.symm h)⟩
  · intro q m h1 h2
    exact d.others (q, m) h2 h1

/-- C01, no stray entry (`C01_single_fault_no_stray`): no name created by the run is left bound to an empty or partial file. -/
theorem exec_single_fault_no_stray (env : PEnv) (ml : MatchList) (st : ExecSt) (w : World) (orig : Bytes) (plan : Plan)
    (hs : StartAt w st orig) (hd : NoDiscard ml) (hp : World.SingleFault plan) :
    let r := runPlan plan (matchesExec env ml st) w 0 []
    ∀ q m fid, r.2.1.lookup q m = some fid →
      r.1.1.ms.loc = some (q, m) ∨
      (w.lookup q m = some fid ∧ (fid < w.nextFid → r.2.1.file fid = w.file fid)) := by
  intro r q m fid hq
  obtain ⟨nb, ⟨hl, _⟩, d, _, _, _⟩ := exec_single_fault env ml st w orig plan hs hd hp
  rcases d.bound (x := (q, m)) hq with h1 | ⟨_, h3⟩
  · exact .inl (by rw [h1]; exact hl)
  · exact .inr ⟨h3, fun hlt => d.files fid hlt⟩

/-- C01, counting form (`C01_single_fault_unique`): if no other entry held a version of the message before, the message's
entry is the only one that does after the run. -/
theorem exec_single_fault_unique (env : PEnv) (ml : MatchList) (st : ExecSt) (w : World) (orig : Bytes) (plan : Plan)
    (hs : StartAt w st orig) (hd : NoDiscard ml) (hp : World.SingleFault plan)
    (hu : ∀ q m fid, w.lookup q m = some fid → (q, m) ≠ (st.src.path, st.ms.name) →
      fid < w.nextFid ∧ ∀ f, w.file fid = some f → f.data ∉ stages st.ms orig) :
    let r := runPlan plan (matchesExec env ml st) w 0 []
    ∀ q m fid f, r.2.1.lookup q m = some fid → r.2.1.file fid = some f → f.data ∈ stages st.ms orig →
      r.1.1.ms.loc = some (q, m) := by
  intro r q m fid f hq hf hdata
  obtain ⟨nb, ⟨hl, _⟩, d, _, _, _⟩ := exec_single_fault env ml st w orig plan hs hd hp
  rcases d.bound (x := (q, m)) hq with h1 | ⟨h2, h3⟩
  · rw [h1]; exact hl
  · obtain ⟨hlt, hno⟩ := hu q m fid h3 h2
    rw [d.files fid hlt] at hf
    exact absurd hdata (hno f hf)

/-- C01, exit 0 means final place (`C01_exit0_final`), under EVERY fault plan: a list that returns no error has executed every
action, and an action that succeeds has left no stray entry, however many calls failed (`whole_matchesExec`). -/
theorem exec_exit0_final (env : PEnv) (ml : MatchList) (st : ExecSt) (w : World) (orig : Bytes) (plan : Plan)
    (hs : StartAt w st orig) (hd : NoDiscard ml)
    (he : (runPlan plan (matchesExec env ml st) w 0 []).1.2 = false) :
    let r := runPlan plan (matchesExec env ml st) w 0 []
    ∃ n fid, r.1.1.ms.loc = some (World.finalDir ml st.src.path, n) ∧
      r.2.1.lookup (World.finalDir ml st.src.path) n = some fid ∧
      r.2.1.file fid = some ⟨r.1.1.ms.content, r.1.1.ms.content⟩ ∧
      (World.rewrites ml = true → r.1.1.ms.content = (messageWrite st.ms.msg).1) ∧
      (r.1.1.ms.content = orig ∨ r.1.1.ms.content = (messageWrite st.ms.msg).1) ∧
      ((World.finalDir ml st.src.path, n) ≠ (st.src.path, st.ms.name) → r.2.1.lookup st.src.path st.ms.name = none) := by
  intro r
  obtain ⟨sh, fid0, hA⟩ := hs.at
  have h := (World.wp_sound plan (World.whole_matchesExec env ml st hA hA.wholeSt (Nat.zero_le _) hd) 0).2.2
  simp only [r, World.runPlan_eq] at he ⊢
  obtain ⟨⟨p, n⟩, ⟨hl, fid, hlk, _, hf⟩, d, _, hcont, hfin⟩ := h he
  obtain ⟨hdir, hrw⟩ := hfin he
  simp only at hdir
  subst hdir
  rw [hs.content] at hcont
  exact ⟨n, fid, hl, hlk, hf, hrw, hcont, fun h => d.gone (Ne.symm h)⟩

/-- C01, a list that ends in a discard (`C01_single_fault_discard`). -/
theorem exec_single_fault_discard (env : PEnv) (pre : MatchList) (mh : Match) (st : ExecSt) (w : World) (orig : Bytes)
    (plan : Plan) (hs : StartAt w st orig) (hd : NoDiscard pre) (hty : mh.ty = .discard) (hp : World.SingleFault plan) :
    let r := runPlan plan (matchesExec env (pre ++ [mh]) st) w 0 []
    (r.1.2 = false → r.1.1.ms.loc = none ∧ r.2.1.lookup st.src.path st.ms.name = none ∧
      (∀ q m, (q, m) ≠ (st.src.path, st.ms.name) → r.2.1.lookup q m = w.lookup q m) ∧
      ∀ g, g < w.nextFid → r.2.1.file g = w.file g) ∧
    (r.1.2 = true → ∃ p n fid, r.1.1.ms.loc = some (p, n) ∧ r.2.1.lookup p n = some fid ∧
      r.2.1.file fid = some ⟨r.1.1.ms.content, r.1.1.ms.content⟩ ∧ r.1.1.ms.content ∈ stages st.ms orig ∧
      ((p, n) = (st.src.path, st.ms.name) ∨ (w.lookup p n = none ∧ r.2.1.lookup st.src.path st.ms.name = none)) ∧
      ∀ q m, (q, m) ≠ (p, n) → (q, m) ≠ (st.src.path, st.ms.name) → r.2.1.lookup q m = w.lookup q m) := by
  intro r
  obtain ⟨sh, fid0, hA⟩ := hs.at
  have hpost : World.DiscardListPost w st r.1 r.2.1 := by
    obtain ⟨b', h⟩ := World.wpS_sound plan (World.sf_matchesExec_discard env pre mh st hA hd hty true) hp.budget
    simp only [r]
    rw [World.runPlan_eq]
    exact h
  refine ⟨?_, ?_⟩
  · intro he
    rcases hpost with ⟨he', _⟩ | ⟨_, hl, hr⟩
    · rw [he] at he'; cases he'
    · exact ⟨hl, hr.gone, fun q m h => hr.others (q, m) h, hr.files⟩
  · intro he
    rcases hpost with ⟨_, ⟨p, n⟩, ⟨hl, fid, hlk, _, hf⟩, d, _, hcont⟩ | ⟨he', _⟩
    · refine ⟨p, n, fid, hl, hlk, hf, ?_, ?_, ?_⟩
      · rw [hs.content] at hcont
        rcases hcont with h | h <;> simp [stages, h]
      · by_cases h : (p, n) = (st.src.path, st.ms.name)
        · exact .inl h
        · exact .inr ⟨d.fresh (Ne.symm h), d.gone (Ne.symm h)⟩
      · intro q m h1 h2
        exact d.others (q, m) h2 h1
    · rw [he] at he'; cases he'

end Mdsort.Proofs
