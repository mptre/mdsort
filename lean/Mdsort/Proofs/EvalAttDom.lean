import Mdsort.Proofs.EvalDom
import Mdsort.Spec.RulesAtt

/-!
# The pieces of `InDomainA` (defined in `EvalAtt.lean`; C03 with attachment conditions and attachment blocks)

`wfTreeA` is `wfTree` plus what the grammar allows around attachments: `attachment c` wherever a
condition may stand, `attachment { ... }` as an action outside attachment blocks, and inside an
attachment block only `exec` actions (`expr_validate_attachment_block`: no other action, no
`pass` / `break`, no nested attachment block).
-/

namespace Mdsort.Proofs
open Mdsort Mdsort.Model

/-- Well-formed tree; `inAtt` = inside an attachment block. -/
def wfTreeA (inAtt : Bool) : Expr → Bool
  | .block _ e => wfTreeA inAtt e
  | .neg _ e => wfTreeA inAtt e
  | .and _ l r => wfTreeA inAtt l && wfTreeA inAtt r
  | .or _ l r => wfTreeA inAtt l && wfTreeA inAtt r
  | .mtch _ c rhs => wfTreeA inAtt c && wfTreeA inAtt rhs
  | .all _ | .new _ | .old _ | .header .. | .body .. | .date .. => true
  | .stat _ p => noBackslash p
  | .command _ argv => argv.all noBackslash
  | .exec .. => true
  | .move .. | .flags .. | .discard _ | .label .. | .reject _ | .addHeader .. => !inAtt
  | .pass _ | .brk _ => !inAtt
  | .flag _ sd => !inAtt && decide (sd.length < NAME_MAX1)
  | .attachment _ c => wfTreeA inAtt c
  | .attBlock _ b => !inAtt && wfTreeA true b

/-- What the simulation needs of the nodes (`G`: the general form, no restriction on where actions stand). -/
def att_wfG : Expr → Bool
  | .block _ e => att_wfG e
  | .neg _ e => att_wfG e
  | .and _ l r => att_wfG l && att_wfG r
  | .or _ l r => att_wfG l && att_wfG r
  | .mtch _ c rhs => att_wfG c && att_wfG rhs
  | .stat _ p => noBackslash p
  | .command _ argv => argv.all noBackslash
  | .flag _ sd => decide (sd.length < NAME_MAX1)
  | .attachment _ c => att_wfG c
  | .attBlock _ b => att_wfG b
  | _ => true

theorem att_wfG_of_wfTreeA : ∀ (e : Expr) (b : Bool), wfTreeA b e = true → att_wfG e = true := by
  intro e
  induction e with
  | block _ e ih => intro b h; exact ih b (by simpa [wfTreeA] using h)
  | neg _ e ih => intro b h; exact ih b (by simpa [wfTreeA] using h)
  | and _ l r ihl ihr =>
    intro b h
    simp only [wfTreeA, Bool.and_eq_true] at h
    simp only [att_wfG, Bool.and_eq_true]
    exact ⟨ihl b h.1, ihr b h.2⟩
  | or _ l r ihl ihr =>
    intro b h
    simp only [wfTreeA, Bool.and_eq_true] at h
    simp only [att_wfG, Bool.and_eq_true]
    exact ⟨ihl b h.1, ihr b h.2⟩
  | mtch _ l r ihl ihr =>
    intro b h
    simp only [wfTreeA, Bool.and_eq_true] at h
    simp only [att_wfG, Bool.and_eq_true]
    exact ⟨ihl b h.1, ihr b h.2⟩
  | attachment _ c ih => intro b h; exact ih b (by simpa [wfTreeA] using h)
  | attBlock _ c ih =>
    intro b h
    simp only [wfTreeA, Bool.and_eq_true] at h
    exact ih true h.2
  | stat _ p => intro b h; simpa [wfTreeA, att_wfG] using h
  | command _ av => intro b h; simpa [wfTreeA, att_wfG] using h
  | flag _ sd =>
    intro b h
    simp only [wfTreeA, Bool.and_eq_true] at h
    simpa [att_wfG] using h.2
  | _ => intro b _; rfl

/-- `maxSubdir` through attachment nodes. -/
def maxSubdirA : Expr → Nat
  | .block _ e => maxSubdirA e
  | .neg _ e => maxSubdirA e
  | .and _ l r => max (maxSubdirA l) (maxSubdirA r)
  | .or _ l r => max (maxSubdirA l) (maxSubdirA r)
  | .mtch _ c rhs => max (maxSubdirA c) (maxSubdirA rhs)
  | .attachment _ c => maxSubdirA c
  | .attBlock _ b => maxSubdirA b
  | .flag _ sd => sd.length
  | _ => 0

/-- `movesFit` through attachment nodes. -/
def movesFitA (L : Nat) : Expr → Bool
  | .block _ e => movesFitA L e
  | .neg _ e => movesFitA L e
  | .and _ l r => movesFitA L l && movesFitA L r
  | .or _ l r => movesFitA L l && movesFitA L r
  | .mtch _ c rhs => movesFitA L c && movesFitA L rhs
  | .attachment _ c => movesFitA L c
  | .attBlock _ b => movesFitA L b
  | .move _ p => decide (p.length ≥ PATH_MAX) || decide (p.length + 1 + L < PATH_MAX)
  | _ => true

/-- `flagsKeepSeen` through attachment nodes. -/
def flagsKeepSeenA : Expr → Bool
  | .block _ e => flagsKeepSeenA e
  | .neg _ e => flagsKeepSeenA e
  | .and _ l r => flagsKeepSeenA l && flagsKeepSeenA r
  | .or _ l r => flagsKeepSeenA l && flagsKeepSeenA r
  | .mtch _ c rhs => flagsKeepSeenA c && flagsKeepSeenA rhs
  | .attachment _ c => flagsKeepSeenA c
  | .attBlock _ b => flagsKeepSeenA b
  | .flags _ fl => !fl.contains 83
  | _ => true

/-- What the proofs carry around for a subtree evaluated on part `k`; `o` = the tree contains an
`old` that is evaluated on the message itself (`hasOld` does not look inside attachment nodes: a
part carries no maildir flags). -/
def okA (L : Nat) (o : Bool) (k : Nat) (e : Expr) : Prop :=
  att_wfG e = true ∧ movesFitA L e = true ∧ maxSubdirA e ≤ L ∧
    (k = 0 → hasOld e = true → o = true) ∧ (o = true → flagsKeepSeenA e = true)

theorem okA_block {L o k lno e} (h : okA L o k (.block lno e)) : okA L o k e := by
  simpa [okA, att_wfG, movesFitA, maxSubdirA, hasOld, flagsKeepSeenA] using h

theorem okA_and {L o k lno l r} (h : okA L o k (.and lno l r)) : okA L o k l ∧ okA L o k r := by
  simp only [okA, att_wfG, movesFitA, maxSubdirA, hasOld, flagsKeepSeenA, Bool.and_eq_true, Bool.or_eq_true,
    Nat.max_le] at h ⊢
  obtain ⟨⟨a, b⟩, ⟨c, d⟩, ⟨e, f⟩, g, i⟩ := h
  exact ⟨⟨a, c, e, fun z x => g z (Or.inl x), fun x => (i x).1⟩, b, d, f, fun z x => g z (Or.inr x), fun x => (i x).2⟩

/-- The five components treat `or` and `match` nodes as they treat `and` nodes. -/
theorem okA_or {L o k lno l r} (h : okA L o k (.or lno l r)) : okA L o k l ∧ okA L o k r :=
  okA_and (lno := lno) (show okA L o k (.and lno l r) from h)

theorem okA_mtch {L o k lno l r} (h : okA L o k (.mtch lno l r)) : okA L o k l ∧ okA L o k r :=
  okA_and (lno := lno) (show okA L o k (.and lno l r) from h)

/-- The block of an attachment block is evaluated on parts only (`k' ≠ 0`). -/
theorem okA_attBlock {L o k lno b} (h : okA L o k (.attBlock lno b)) {k' : Nat} (hk : k' ≠ 0) : okA L o k' b := by
  simp only [okA, att_wfG, movesFitA, maxSubdirA, flagsKeepSeenA] at h ⊢
  exact ⟨h.1, h.2.1, h.2.2.1, fun z => absurd z hk, h.2.2.2.2⟩

/-! The grammar accepts `pass` / `break` anywhere in an action list; `Spec.parseRuleAW` gives every
such list its documented reading (all listed actions, control of the rule).  The evaluator walks the
AND chain of the actions from left to right (`expr_eval_and`); `expr_eval_pass` appends its marker
and returns NO MATCH, which ends the walk; `expr_eval_break` appends its marker and returns MATCH,
the walk goes on.  Three classes of placements are kept outside the domain of the refinement
theorem, each by its own predicate on the action list `xs` of a rule:

* `actionAfterPass` - something other than `pass` stands after a `pass`: the evaluator never looks at
  it (`label "x" pass move "y"` labels and does not move; `mdsort -n` accepts the file).  The manual
  says nothing of the kind: a deviation of the code from the documented reading (witness
  `C03_actions_after_pass_ignored`).
* `attAfterBreak` - an attachment block stands after a `break`: `expr_eval_block`, evaluating the
  block of the attachment block on the first part, finds the BREAK entry of the enclosing rule in the
  match list, removes it and reports no match for that part (the finding F11 - PASS/BREAK are looked
  up in the whole list - in one more shape; witness `C03_att_after_break_consumes_break`).
* `ctlMixed` - both `pass` and `break` occur: the manual gives the combination no meaning
  (`Spec.ctlOfList = none`), so there is nothing to refine. -/

def isAttBlockExpr : Expr → Bool
  | .attBlock .. => true
  | _ => false

def ctlMixed (xs : List Expr) : Bool := xs.any Spec.isPassExpr && xs.any Spec.isBrkExpr

def actionAfterPass (xs : List Expr) : Bool :=
  ((xs.dropWhile fun x => !Spec.isPassExpr x).drop 1).any fun x => !Spec.isPassExpr x

def attAfterBreak (xs : List Expr) : Bool :=
  ((xs.dropWhile fun x => !Spec.isBrkExpr x).drop 1).any isAttBlockExpr

/-- The placements of `pass` / `break` in one action list that the refinement theorem covers:
everything the grammar accepts except the three classes above.  In words: no control action; or
one or more `pass` at the end and no `break`; or `break` - any number of times, anywhere - with no
`pass` and every attachment block of the list before the first `break`. -/
def placedOK (xs : List Expr) : Bool := !ctlMixed xs && !actionAfterPass xs && !attAfterBreak xs

/-- Every action list of the tree (at every nesting level, inside attachment blocks too) is
`placedOK`. -/
def ctlPlaced : Expr → Bool
  | .block _ e => ctlPlaced e
  | .neg _ e => ctlPlaced e
  | .and _ l r => ctlPlaced l && ctlPlaced r
  | .or _ l r => ctlPlaced l && ctlPlaced r
  | .mtch _ c rhs =>
    ctlPlaced c && ctlPlaced rhs &&
      (match rhs with
       | .block .. => true
       | e => placedOK (Spec.andChain e))
  | .attachment _ c => ctlPlaced c
  | .attBlock _ b => ctlPlaced b
  | _ => true

theorem partIndex_ne_zero (k i : Nat) : Spec.partIndex k i ≠ 0 := by
  unfold Spec.partIndex
  split <;> omega

end Mdsort.Proofs
