import Mdsort.Proofs.Interp
import Mdsort.Proofs.EvalLeaves
import Mdsort.Proofs.WorldOwnBasic
import Mdsort.Spec.Captures

/-!
# Captures, back-references and argument vectors (C12, C13); the parse phase of `processMessage`

What `match_copy` records is the specified capture; a back-reference sees the entries after the last `match` sentinel
only, and of those only types and captures.  The last section is on another subject: the environment `processMessage`
evaluates in and the calls of its parse phase.
-/

namespace Mdsort.Proofs
open Mdsort Mdsort.Model

theorem toupper_tolower : ∀ c : UInt8, toupper (tolower c) = toupper c := by
  apply forall_u8; decide +kernel

/-- The two loops of `match_copy` on one byte are the specified folding - also when both flags
are set (which no accepted configuration produces). -/
theorem caseFold_eq (p : Pat) (c : UInt8) :
    (if p.ucase then toupper (if p.lcase then tolower c else c) else (if p.lcase then tolower c else c))
      = Spec.caseFold p.lcase p.ucase c := by
  unfold Spec.caseFold
  cases p.ucase <;> cases p.lcase <;> simp [toupper_tolower]

theorem take_drop_eq_range (s : Bytes) (so : Nat) : ∀ n : Nat,
    (s.drop so).take n = (List.range n).filterMap fun j => s[so + j]? := by
  intro n
  induction n with
  | zero => simp
  | succ n ih =>
    rw [List.take_add_one, List.range_succ, List.filterMap_append, ih, List.getElem?_drop]
    cases h : s[so + n]? <;> simp [h]

theorem matchCopy_sub (p : Pat) (subject : Bytes) (so eo : Nat) :
    (let t := (subject.drop so).take (eo - so)
     let t1 := if p.lcase then t.map tolower else t
     if p.ucase then t1.map toupper else t1) = Spec.capText p.lcase p.ucase subject so eo := by
  unfold Spec.capText
  have h : ∀ t : Bytes, (let t1 := if p.lcase then t.map tolower else t
      if p.ucase then t1.map toupper else t1) = t.map (Spec.caseFold p.lcase p.ucase) := by
    intro t
    have : Spec.caseFold p.lcase p.ucase = fun c =>
        (if p.ucase then toupper (if p.lcase then tolower c else c) else (if p.lcase then tolower c else c)) := by
      funext c; exact (caseFold_eq p c).symm
    rw [this]
    cases p.ucase <;> cases p.lcase <;> simp
  dsimp only at h ⊢
  rw [h, take_drop_eq_range, List.map_filterMap]

theorem matchCopy_eq (p : Pat) (subject : Bytes) (groups : List (Option (Nat × Nat))) :
    matchCopy p subject groups =
      groups.map fun g => { str := Spec.capture p.lcase p.ucase subject g, off := g } := by
  unfold matchCopy
  apply List.map_congr_left
  intro g _
  cases g with
  | none => rfl
  | some se =>
    obtain ⟨so, eo⟩ := se
    simp only [Spec.capture]
    have := matchCopy_sub p subject so eo
    dsimp only at this
    rw [this]

theorem capture_split (l u : Bool) (a m b : Bytes) :
    Spec.capture l u (a ++ m ++ b) (some (a.length, a.length + m.length)) = m.map (Spec.caseFold l u) := by
  show Spec.capText l u (a ++ m ++ b) a.length (a.length + m.length) = _
  unfold Spec.capText
  rw [← List.map_filterMap (f := fun j => (a ++ m ++ b)[a.length + j]?), ← take_drop_eq_range]
  simp

theorem capText_length_le (l u : Bool) (s : Bytes) (so eo : Nat) : (Spec.capText l u s so eo).length ≤ eo - so := by
  unfold Spec.capText
  exact Nat.le_trans (List.length_filterMap_le _ _) (by simp)

theorem capText_none (s : Bytes) (so eo : Nat) : Spec.capText false false s so eo = (s.drop so).take (eo - so) := by
  unfold Spec.capText
  rw [take_drop_eq_range]
  congr 1
  funext j
  cases s[so + j]? <;> simp [Spec.caseFold]

/-- The entry appended by `expr_regexec` for a header / body / date pattern that matched: `regexEntry` (EvalLeaves) with
the captured texts in the terms of the specification (`Spec.capture`, where `regexEntry` has `matchCopy`). -/
def rxEntry (env : Env) (ty : MType) (lno part : Nat) (p : Pat) (key val : Bytes)
    (groups : List (Option (Nat × Nat))) : Match :=
  { ty := ty, lno := lno, part := part, pat := some p,
    subs := groups.map fun g => { str := Spec.capture p.lcase p.ucase val g, off := g },
    key := if env.dryrun then some key else none,
    val := if env.dryrun then some val else none }

theorem regexEntry_eq_rxEntry (env : Env) (ty : MType) (lno part : Nat) (p : Pat) (key val : Bytes)
    (groups : List (Option (Nat × Nat))) :
    regexEntry env.dryrun ty lno part p key val groups = rxEntry env ty lno part p key val groups := by
  simp only [regexEntry, rxEntry, matchCopy_eq]

theorem exprRegexec_ok (env : Env) (ty : MType) (lno part : Nat) (p : Pat) (key val : Bytes) (st : St)
    (groups : List (Option (Nat × Nat))) (hty : ty = .header ∨ ty = .body ∨ ty = .date)
    (hrx : env.rx p val = .ok groups) :
    exprRegexec env ty lno part p key val st =
      (.match, { st with ml := st.ml ++ [rxEntry env ty lno part p key val groups] }) := by
  have hp : ty.isPath = false := by rcases hty with h | h | h <;> subst h <;> rw [isPath_eq] <;> rfl
  have hmf : isMF ty = false := by rcases hty with h | h | h <;> subst h <;> decide
  rw [exprRegexec_eq env ty lno part p key val st hp hmf, regexHit, hrx]
  simp only [regexEntry_eq_rxEntry]

theorem findIdx?_reverse_none {l : MatchList} (h : ∀ m ∈ l, m.ty ≠ .mtch) :
    l.reverse.findIdx? (·.ty == .mtch) = none := by
  rw [List.findIdx?_eq_none_iff]
  intro x hx
  simpa using h x (List.mem_reverse.mp hx)

/-- The captures an entry can refer to are those recorded after the LAST `match` sentinel before
it: whatever precedes that sentinel (other rules) plays no role. -/
theorem ruleCaps_split (pre entries : MatchList) (s : Match) (hs : s.ty = .mtch)
    (hent : ∀ m ∈ entries, m.ty ≠ .mtch) :
    ruleCaps (pre ++ [s] ++ entries) = (entries.filter (·.ty.isInterp)).map fun m => m.subs.map (·.str) := by
  have hrev : (pre ++ [s] ++ entries).reverse = entries.reverse ++ s :: pre.reverse := by simp
  have hidx : (entries.reverse ++ s :: pre.reverse).findIdx? (·.ty == .mtch) = some entries.length := by
    rw [List.findIdx?_append, findIdx?_reverse_none hent]
    simp [List.findIdx?_cons, hs]
  unfold ruleCaps
  rw [hrev, hidx]
  simp only [List.take_left' (List.length_reverse (as := entries)), List.reverse_reverse]

theorem matchBackref_rule_local (pre entries : MatchList) (s : Match) (hs : s.ty = .mtch)
    (hent : ∀ m ∈ entries, m.ty ≠ .mtch) (br : Backref) :
    matchBackref (pre ++ [s] ++ entries) br =
      ((entries.filter (·.ty.isInterp))[br.mi]?).bind fun m => (m.subs[br.si]?).map (·.str) := by
  rw [matchBackref_eq, ruleCaps_split pre entries s hs hent, List.getElem?_map]
  cases (entries.filter (·.ty.isInterp))[br.mi]? with
  | none => rfl
  | some m => simp [List.getElem?_map]

theorem matchBackref_no_sentinel (before : MatchList) (h : ∀ m ∈ before, m.ty ≠ .mtch) (br : Backref) :
    matchBackref before br = none := by
  rw [matchBackref_eq]
  unfold ruleCaps
  simp [findIdx?_reverse_none h]

/-- Every match list is of one of the two shapes of `matchBackref_rule_local` and `matchBackref_no_sentinel`. -/
theorem sentinel_cases (before : MatchList) :
    (∀ m ∈ before, m.ty ≠ .mtch) ∨
    ∃ pre s entries, before = pre ++ s :: entries ∧ s.ty = .mtch ∧ ∀ m ∈ entries, m.ty ≠ .mtch := by
  induction before with
  | nil => left; simp
  | cons x rest ih =>
    rcases ih with h | ⟨pre, s, entries, rfl, hs, he⟩
    · by_cases hx : x.ty = .mtch
      · right; exact ⟨[], x, rest, rfl, hx, h⟩
      · left
        intro m hm
        rcases List.mem_cons.mp hm with rfl | hm
        · exact hx
        · exact h m hm
    · right; exact ⟨x :: pre, s, entries, rfl, hs, he⟩

def capKey (m : Match) : MType × List Sub := (m.ty, m.subs)

def capsOfKeys (ks : List (MType × List Sub)) : List (List Bytes) :=
  match ks.reverse.findIdx? (·.1 == .mtch) with
  | none => []
  | some k => (((ks.reverse.take k).reverse).filter (·.1.isInterp)).map fun m => m.2.map (·.str)

theorem ruleCaps_eq_keys (b : MatchList) : ruleCaps b = capsOfKeys (b.map capKey) := by
  unfold ruleCaps capsOfKeys
  rw [← List.map_reverse, List.findIdx?_map]
  have hc : ((fun x : MType × List Sub => x.1 == MType.mtch) ∘ capKey) = fun m : Match => m.ty == .mtch := rfl
  rw [hc]
  cases b.reverse.findIdx? (fun m => m.ty == .mtch) with
  | none => rfl
  | some k =>
    simp only [← List.map_take, ← List.map_reverse, List.filter_map, List.map_map]
    rfl

theorem matchBackref_congr (b1 b2 : MatchList) (h : b1.map capKey = b2.map capKey) (br : Backref) :
    matchBackref b1 br = matchBackref b2 br := by
  rw [matchBackref_eq, matchBackref_eq, ruleCaps_eq_keys, ruleCaps_eq_keys, h]

/-- Interpolation sees the preceding entries only through their types and captures: rewriting an
earlier entry's path or argument vector (which is what interpolating it does) changes nothing. -/
theorem interpolate_congr (b1 b2 : MatchList) (macros : Option (List (Bytes × Bytes)))
    (h : b1.map capKey = b2.map capKey) (t : Bytes) : interpolate b1 macros t = interpolate b2 macros t :=
  interpolate_congr_backref b1 b2 macros t fun br _ => matchBackref_congr b1 b2 h br

/-- No byte that could start a back-reference or a macro. -/
def Plain (s : Bytes) : Prop := ∀ c ∈ s, c ≠ 92 ∧ c ≠ 36

instance (s : Bytes) : Decidable (Plain s) := by unfold Plain; infer_instance

theorem interpolate_go_nil (before : MatchList) (macros : Option (List (Bytes × Bytes))) (fuel : Nat) (out : Bytes) :
    interpolate.go before macros fuel [] out = some out := by
  cases fuel <;> rfl

theorem interpolate_go_lit (before : MatchList) (macros : Option (List (Bytes × Bytes))) (f : Nat) (c : UInt8)
    (r out : Bytes) (h1 : c ≠ 92) (h2 : c ≠ 36) :
    interpolate.go before macros (f + 1) (c :: r) out = interpolate.go before macros f r (out ++ [c]) := by
  rw [interpolate.go]
  simp only [isBackref_ne c r h1, isMacro_ne c r h2]

theorem interpolate_go_ref_some (before : MatchList) (macros : Option (List (Bytes × Bytes))) (f : Nat) (c : UInt8)
    (r out : Bytes) (n : Nat) (br : Backref) (sub : Bytes) (hB : isBackref (c :: r) = .inl (n, br))
    (hm : matchBackref before br = some sub) :
    interpolate.go before macros (f + 1) (c :: r) out =
      interpolate.go before macros f ((c :: r).drop n) (out ++ cstr sub) := by
  rw [interpolate.go]
  simp only [hB, hm]

theorem interpolate_go_ref_none (before : MatchList) (macros : Option (List (Bytes × Bytes))) (f : Nat) (c : UInt8)
    (r out : Bytes) (n : Nat) (br : Backref) (hB : isBackref (c :: r) = .inl (n, br))
    (hm : matchBackref before br = none) :
    interpolate.go before macros (f + 1) (c :: r) out = none := by
  rw [interpolate.go]
  simp only [hB, hm]

theorem interpolate_go_plain (before : MatchList) (macros : Option (List (Bytes × Bytes))) :
    ∀ (lit rest : Bytes) (fuel : Nat) (out : Bytes), Plain lit → lit.length ≤ fuel →
      interpolate.go before macros fuel (lit ++ rest) out =
        interpolate.go before macros (fuel - lit.length) rest (out ++ lit) := by
  intro lit
  induction lit with
  | nil => intro rest fuel out _ _; simp
  | cons c l ih =>
    intro rest fuel out hp hl
    cases fuel with
    | zero => simp at hl
    | succ f =>
      have hc := hp c (by simp)
      have hl' : Plain l := fun x hx => hp x (by simp [hx])
      simp only [List.length_cons] at hl
      rw [List.cons_append, interpolate_go_lit _ _ _ _ _ _ hc.1 hc.2, ih rest f _ hl' (by omega)]
      simp only [List.length_cons, Nat.add_sub_add_right, List.append_assoc, List.singleton_append]

theorem interpolate_plain_prefix (before : MatchList) (macros : Option (List (Bytes × Bytes))) (lit rest : Bytes)
    (h : Plain lit) : interpolate before macros (lit ++ rest) = interpolate.go before macros rest.length rest lit := by
  unfold interpolate
  rw [interpolate_go_plain before macros lit rest _ [] h (by simp), List.nil_append, List.length_append, Nat.add_sub_cancel_left]

theorem interpolate_plain (before : MatchList) (macros : Option (List (Bytes × Bytes))) (t : Bytes)
    (h : Plain t) : interpolate before macros t = some t := by
  rw [← List.append_nil t, interpolate_plain_prefix before macros t [] h, interpolate_go_nil, List.append_nil]

/-- What may follow `\1` so that it is the back-reference `\1` and nothing more: not a digit
(`\12`), not a dot (`\1.5`), not a backslash (`\1\.`). -/
def CleanStart (s : Bytes) : Prop := ∀ c, s.head? = some c → isdigit c = false ∧ c ≠ 46 ∧ c ≠ 92

instance (s : Bytes) : Decidable (CleanStart s) := by
  unfold CleanStart
  cases s with
  | nil => exact isTrue (by simp)
  | cons c r =>
    exact decidable_of_iff (isdigit c = false ∧ c ≠ 46 ∧ c ≠ 92) (by simp)

theorem isBackref_one (lit2 : Bytes) (h : CleanStart lit2) :
    isBackref (92 :: 49 :: lit2) = .inl (2, ⟨0, 1⟩) := by
  have hd : isdigit 49 = true := by decide
  cases lit2 with
  | nil => decide
  | cons c r =>
    obtain ⟨hdig, h46, h92⟩ := h c rfl
    obtain ⟨k, hk, hdrop, hst⟩ := strtoul_digit 49 (c :: r) hd
    have hin : Spec.inumber (49 :: c :: r) 0 = (1, c :: r) := by
      simp [Spec.inumber, hd, hdig]
    rw [hin] at hdrop hst
    have hk1 : k = 1 := by
      have := congrArg List.length hdrop
      simp only [List.length_drop, List.length_cons] at this
      omega
    subst hk1
    have hst' : strtoul (49 :: c :: r) = (some 1, 1) := by rw [hst]; rfl
    unfold isBackref
    simp only [hd, Bool.not_true, Bool.false_eq_true, if_false, List.drop_succ_cons, List.drop_zero, hst']
    split
    · rename_i heq; cases heq; exact absurd rfl h46
    · rename_i heq; cases heq; exact absurd rfl h92
    · rfl

theorem interpolate_one_ref (before : MatchList) (macros : Option (List (Bytes × Bytes))) (lit1 lit2 cap1 : Bytes)
    (h1 : Plain lit1) (h2 : Plain lit2) (hc : CleanStart lit2) (hm : matchBackref before ⟨0, 1⟩ = some cap1) :
    interpolate before macros (lit1 ++ [92, 49] ++ lit2) = some (lit1 ++ cstr cap1 ++ lit2) := by
  rw [List.append_assoc, interpolate_plain_prefix before macros lit1 _ h1]
  show interpolate.go before macros (lit2.length + 1 + 1) (92 :: 49 :: lit2) lit1 = _
  rw [interpolate_go_ref_some before macros _ 92 (49 :: lit2) _ 2 ⟨0, 1⟩ cap1 (isBackref_one lit2 hc) hm]
  have := interpolate_go_plain before macros lit2 [] (lit2.length + 1) (lit1 ++ cstr cap1) h2 (by omega)
  rw [List.append_nil] at this
  exact this.trans (interpolate_go_nil ..)

theorem interpolate_missing_group (before : MatchList) (macros : Option (List (Bytes × Bytes))) (lit1 lit2 : Bytes)
    (h1 : Plain lit1) (hc : CleanStart lit2) (hm : matchBackref before ⟨0, 1⟩ = none) :
    interpolate before macros (lit1 ++ [92, 49] ++ lit2) = none := by
  rw [List.append_assoc, interpolate_plain_prefix before macros lit1 _ h1]
  exact interpolate_go_ref_none before macros (lit2.length + 1) 92 (49 :: lit2) _ 2 ⟨0, 1⟩ (isBackref_one lit2 hc) hm

theorem isBackref_dollar (r : Bytes) : isBackref (36 :: r) = .inr false := isBackref_ne 36 r (by decide)

theorem interpolate_unterminated (before : MatchList) (macros : Option (List (Bytes × Bytes))) (lit1 r : Bytes)
    (h1 : Plain lit1) (hr : ∀ c ∈ r, c ≠ 125) :
    interpolate before macros (lit1 ++ [36, 123] ++ r) = none := by
  have htw : (r.takeWhile (· != 125)) = r := by
    apply List.takeWhile_eq_self
    intro c hc'
    simpa using hr c hc'
  have hM : isMacro (36 :: 123 :: r) = .inr true := by
    simp [isMacro, htw]
  rw [List.append_assoc, interpolate_plain_prefix before macros lit1 _ h1]
  show interpolate.go before macros (r.length + 1 + 1) (36 :: 123 :: r) lit1 = _
  rw [interpolate.go]
  simp only [isBackref_dollar, hM]

theorem interpolate_unknown_macro (before : MatchList) (macros : Option (List (Bytes × Bytes))) (lit1 name rest : Bytes)
    (h1 : Plain lit1) (hn : ∀ c ∈ name, c ≠ 125)
    (hm : ∀ ms, macros = some ms → ms.find? (·.1 == name) = none) :
    interpolate before macros (lit1 ++ [36, 123] ++ name ++ [125] ++ rest) = none := by
  have e : lit1 ++ [36, 123] ++ name ++ [125] ++ rest = lit1 ++ (36 :: 123 :: (name ++ 125 :: rest)) := by simp
  have htw : (name ++ 125 :: rest).takeWhile (· != 125) = name :=
    List.takeWhile_append_stop (fun c hc => by simpa using hn c hc) (by simp)
  have hM : isMacro (36 :: 123 :: (name ++ 125 :: rest)) = .inl (name.length + 3, name) := by
    simp [isMacro, htw]
  rw [e, interpolate_plain_prefix before macros lit1 _ h1]
  show interpolate.go before macros ((name ++ 125 :: rest).length + 1 + 1) _ lit1 = _
  rw [interpolate.go]
  simp only [isBackref_dollar, hM]
  cases macros with
  | none => rfl
  | some ms => simp only [hm ms rfl]

/-- The templates `match_interpolate` expands for an entry. -/
def templates (mh : Match) : List Bytes :=
  match mh.ty with
  | .stat | .move => [mh.path]
  | .label | .command | .exec => mh.strings
  | .addHeader => [mh.hval]
  | _ => []

theorem matchInterpolate_add_none (macros : Option (List (Bytes × Bytes))) (before : MatchList) :
    ∀ (ss : List Bytes) (buf t : Bytes), t ∈ ss → interpolate before macros t = none →
      matchInterpolate.add macros before ss buf = none := by
  intro ss buf t ht hf
  fun_induction matchInterpolate.add macros before ss buf with
  | case1 => cases ht
  | case2 => rfl
  | case3 buf s r v hs ih =>
    rcases List.mem_cons.mp ht with rfl | ht
    · rw [hf] at hs
      cases hs
    · exact ih ht

theorem matchInterpolate_none (macros : Option (List (Bytes × Bytes))) (ml : MatchList) (i : Nat) (mh : Match)
    (msgs : Nat → Msg) (t : Bytes) (ht : t ∈ templates mh) (hf : interpolate (ml.take i) macros t = none) :
    matchInterpolate macros ml i mh msgs = none := by
  unfold templates at ht
  unfold matchInterpolate
  dsimp only
  cases hty : mh.ty
  case stat | move | addHeader =>
    simp only [hty, List.mem_singleton] at ht ⊢
    subst ht
    simp only [hf]
  case label =>
    simp only [hty] at ht ⊢
    rw [matchInterpolate_add_none macros _ _ _ t ht hf]
  case command | exec =>
    simp only [hty] at ht ⊢
    rw [(List.mapM_eq_none_iff _).2 ⟨t, ht, hf⟩]
    rfl
  all_goals simp only [hty, List.not_mem_nil] at ht

theorem matchInterpolate_key (macros : Option (List (Bytes × Bytes))) (ml : MatchList) (i : Nat) (mh mh' : Match)
    (msgs : Nat → Msg) (upd : Option (Nat × Msg)) (h : matchInterpolate macros ml i mh msgs = some (mh', upd)) :
    capKey mh' = capKey mh := by
  revert h
  fun_cases matchInterpolate macros ml i mh msgs
  -- a template of the entry does not interpolate: no result
  case case1 | case3 | case5 | case9 => exact nofun
  -- `label`, `addHeader` and the types without a template keep the entry
  case case6 | case10 | case11 =>
    rintro ⟨⟩
    rfl
  -- `stat`, `move`, `command`, `exec`: the entry with another path or argument vector
  all_goals
    simp only [Option.map_eq_some_iff, Prod.mk.injEq]
    rintro ⟨_, _, rfl, -⟩
    rfl

theorem argv_exact (macros : Option (List (Bytes × Bytes))) (ml : MatchList) (i : Nat) (mh mh' : Match)
    (msgs : Nat → Msg) (upd : Option (Nat × Msg)) (hty : mh.ty = .exec ∨ mh.ty = .command)
    (h : matchInterpolate macros ml i mh msgs = some (mh', upd)) :
    ∃ vs, mh.strings.mapM (interpolate (ml.take i) macros) = some vs ∧
      mh' = { mh with argv := vs.map cstr } ∧ upd = none := by
  have h' : (mh.strings.mapM (interpolate (ml.take i) macros)).map
      (fun av => (({ mh with argv := av.map cstr } : Match), (none : Option (Nat × Msg)))) = some (mh', upd) := by
    unfold matchInterpolate at h
    rcases hty with hty | hty <;> simpa only [hty] using h
  simp only [Option.map_eq_some_iff, Prod.mk.injEq] at h'
  obtain ⟨av, hav, rfl, rfl⟩ := h'
  exact ⟨av, hav, rfl, rfl⟩

theorem argv_full (macros : Option (List (Bytes × Bytes))) (ml : MatchList) (i : Nat) (mh mh' : Match)
    (msgs : Nat → Msg) (upd : Option (Nat × Msg)) (hty : mh.ty = .exec ∨ mh.ty = .command)
    (h : matchInterpolate macros ml i mh msgs = some (mh', upd)) :
    mh'.argv = mh.strings.map (fun s => cstr ((interpolate (ml.take i) macros s).getD [])) ∧
    (∀ s ∈ mh.strings, (interpolate (ml.take i) macros s).isSome = true) ∧
    mh' = { mh with argv := mh'.argv } ∧ upd = none := by
  obtain ⟨vs, hvs, rfl, h3⟩ := argv_exact macros ml i mh mh' msgs upd hty h
  obtain ⟨h1, h2⟩ := List.mapM_eq_map _ [] _ _ hvs
  refine ⟨?_, h2, rfl, h3⟩
  simp only [h1, List.map_map]
  rfl

theorem argv_plain (macros : Option (List (Bytes × Bytes))) (ml : MatchList) (i : Nat) (mh : Match)
    (msgs : Nat → Msg) (hty : mh.ty = .exec ∨ mh.ty = .command)
    (hpl : ∀ s ∈ mh.strings, Plain s ∧ (0 : UInt8) ∉ s) :
    matchInterpolate macros ml i mh msgs = some ({ mh with argv := mh.strings }, none) := by
  have hm : mh.strings.mapM (interpolate (ml.take i) macros) = some mh.strings :=
    (List.mapM_eq_some_map (g := id) fun s hs => interpolate_plain _ _ s (hpl s hs).1).trans (by rw [List.map_id])
  have hc : mh.strings.map cstr = mh.strings := by
    have : mh.strings.map cstr = mh.strings.map id :=
      List.map_congr_left fun s hs => cstr_of_no_nul fun b hb hb0 => (hpl s hs).2 (hb0 ▸ hb)
    simpa using this
  unfold matchInterpolate
  rcases hty with hty | hty <;> simp only [hty, hm, Option.map_some, hc]

theorem capture_end_to_end (env : Env) (ty : MType) (lno part : Nat) (p : Pat) (key val : Bytes) (f : MFlags)
    (groups : List (Option (Nat × Nat))) (pre post : MatchList) (s : Match) (hs : s.ty = .mtch)
    (hty : ty = .header ∨ ty = .body) (hpost : ∀ m ∈ post, m.ty ≠ .mtch)
    (hrx : env.rx p val = .ok groups) (N : Nat) :
    matchBackref ((exprRegexec env ty lno part p key val { ml := pre ++ [s], flags := f }).2.ml ++ post) ⟨0, N⟩ =
      (groups[N]?).map (Spec.capture p.lcase p.ucase val) := by
  have hty' : ty = .header ∨ ty = .body ∨ ty = .date := by rcases hty with h | h <;> simp [h]
  rw [exprRegexec_ok env ty lno part p key val _ groups hty' hrx]
  have hne : (rxEntry env ty lno part p key val groups).ty ≠ .mtch := by
    show ty ≠ .mtch
    rcases hty with h | h <;> simp [h]
  have hin : (rxEntry env ty lno part p key val groups).ty.isInterp = true := by
    show ty.isInterp = true
    rcases hty with h | h <;> subst h <;> decide +kernel
  have e : (pre ++ [s] ++ [rxEntry env ty lno part p key val groups]) ++ post =
      pre ++ [s] ++ (rxEntry env ty lno part p key val groups :: post) := by simp
  dsimp only
  rw [e, matchBackref_rule_local pre _ s hs (by
    intro m hm
    rcases List.mem_cons.mp hm with rfl | hm
    · exact hne
    · exact hpost m hm)]
  simp only [List.filter_cons, hin, if_true, List.getElem?_cons_zero, Option.bind_some]
  simp only [rxEntry, List.getElem?_map, Option.map_map]
  cases groups[N]? <;> rfl

theorem matchBackref_pre_irrelevant (pre pre' entries : MatchList) (s s' : Match) (hs : s.ty = .mtch)
    (hs' : s'.ty = .mtch) (hent : ∀ m ∈ entries, m.ty ≠ .mtch) (br : Backref) :
    matchBackref (pre ++ [s] ++ entries) br = matchBackref (pre' ++ [s'] ++ entries) br := by
  rw [matchBackref_rule_local pre entries s hs hent, matchBackref_rule_local pre' entries s' hs' hent]

theorem argv_length (macros : Option (List (Bytes × Bytes))) (ml : MatchList) (i : Nat) (mh mh' : Match)
    (msgs : Nat → Msg) (upd : Option (Nat × Msg)) (hty : mh.ty = .exec ∨ mh.ty = .command)
    (h : matchInterpolate macros ml i mh msgs = some (mh', upd)) (k : Nat) :
    mh'.argv.length = mh.strings.length ∧
    mh'.argv[k]? = (mh.strings[k]?).map fun s => cstr ((interpolate (ml.take i) macros s).getD []) := by
  obtain ⟨h1, -⟩ := argv_full macros ml i mh mh' msgs upd hty h
  rw [h1]
  simp

/-! ## the environment of `processMessage`, the calls of its parse phase, the environments of the examples -/

open Mdsort.Proofs.World (Calls All bind_eq pure_eq call_bind)

/-- The environment `processMessage` evaluates a message in (its three oracle fields are not used: `evalP` asks the
operating system).  It is its own `noSys` (EvalPReplay): `noSys_msgEnv` in WorldVerdict, by `rfl`. -/
def msgEnv (env : PEnv) (orc : EvalOracles) (path : Bytes) : Env :=
  { rx := orc.rx, command := fun _ => -1, isDir := fun _ => false, now := env.now,
    strptime := orc.strptime, zoneName := orc.zoneName, fileTime := fun _ => none,
    timeFormat := orc.timeFormat, dryrun := env.dryrun, path := path }

def IsClose (c : Call) : Prop := ∃ fd, c = .close fd

/-- The calls of the parse phase (and of freeing the message). -/
def ParseCall (d : Handle) (c : Call) : Prop :=
  (∃ nm, c = .openRd d nm) ∨ (∃ fd, c = .read fd) ∨ IsClose c

theorem ParseCall.quiet {d : Handle} {c : Call} (h : ParseCall d c) : c.mutating = false ∧ c.isFork = false := by
  rcases h with ⟨nm, rfl⟩ | ⟨fd, rfl⟩ | ⟨fd, rfl⟩ <;> exact ⟨rfl, rfl⟩

theorem calls_bind_all {α β} {Q : Call → Prop} {S : α → Prop} {p : Prog α} {f : α → Prog β}
    (hc : Calls Q p) (ha : All S p) (hf : ∀ a, S a → Calls Q (f a)) : Calls Q (p.bind f) := by
  induction p with
  | ret a => exact hf a ha
  | call c k ih => exact ⟨hc.1, fun r => ih r (hc.2 r) (ha r)⟩

/-- `World.All.bind_mono`, under the name of its `Calls` sibling above. -/
theorem all_bind_all {α β} {P : β → Prop} {S : α → Prop} {p : Prog α} {f : α → Prog β}
    (ha : All S p) (hf : ∀ a, S a → All P (f a)) : All P (p.bind f) := by
  induction p with
  | ret a => exact hf a ha
  | call c k ih => exact fun r => ih r (ha r)

theorem parse_readAll (d fd : Handle) (fuel : Nat) : Calls (ParseCall d) (readAll fd fuel) := by
  induction fuel with
  | zero => exact Calls.ret _
  | succ n ih =>
    unfold readAll
    simp only [bind_eq, pure_eq, call_bind]
    refine Calls.step (.inr (.inl ⟨fd, rfl⟩)) fun r => ?_
    split
    · split
      · exact Calls.ret _
      · exact ih
    · exact Calls.ret _

theorem parse_messageParseP (d : Handle) (dir name content : Bytes) :
    Calls (ParseCall d) (messageParseP d dir name content) := by
  unfold messageParseP
  simp only [bind_eq, pure_eq, call_bind]
  refine Calls.step (.inl ⟨name, rfl⟩) fun r => ?_
  split
  · rename_i fd
    refine World.Calls.bind (parse_readAll d fd _) fun failed => ?_
    -- every way out but the successful one closes the descriptor, and that is the only call left
    have hclose : Calls (ParseCall d) (Prog.call (.close fd) fun _ => Prog.ret (none : Option MsgSt)) :=
      Calls.step (.inr (.inr ⟨fd, rfl⟩)) fun _ => Calls.ret _
    split
    · exact hclose
    · split
      · split
        · exact Calls.ret _
        · exact hclose
      · exact hclose
  · exact Calls.ret _

/-- What a successful `message_parse` returns: everything but the descriptor is determined by the
directory, the name and the content of the file. -/
def ParsedFrom (dir name content : Bytes) (pm : Option MsgSt) : Prop :=
  ∀ ms, pm = some ms → ∃ p n mf, pathjoin PATH_MAX dir name = some p ∧ strlcpyFits NAME_MAX1 name = some n ∧
    flagsParse n = some mf ∧ ms.msg = parseMessage content ∧ ms.path = p ∧ ms.flags = mf ∧
    ms.parts = (getAttachments (parseMessage content)).getD []

theorem all_messageParseP (d : Handle) (dir name content : Bytes) :
    All (ParsedFrom dir name content) (messageParseP d dir name content) := by
  unfold messageParseP
  simp only [bind_eq, pure_eq, call_bind]
  refine All.call_intro fun r => ?_
  split
  · refine World.All.bind_of_forall _ fun failed => ?_
    split
    · exact All.call_intro fun _ => All.ret_intro (fun ms h => by cases h)
    · split
      · split
        · refine All.ret_intro ?_
          intro ms h
          cases h
          exact ⟨_, _, _, by assumption, by assumption, by assumption, rfl, rfl, rfl, rfl⟩
        · exact All.call_intro fun _ => All.ret_intro (fun ms h => by cases h)
      · exact All.call_intro fun _ => All.ret_intro (fun ms h => by cases h)
  · exact All.ret_intro (fun ms h => by cases h)

/-- `Own.calls_runO_mem` read on the trace that `runOracle` extends. -/
theorem calls_runOracle_mem {α} {Q : Call → Prop} {p : Prog α} (h : Calls Q p) (orc : Nat → Call → Res) :
    ∀ (i : Nat) (tr : List (Call × Res)), ∀ x ∈ (runOracle orc p i tr).2, x ∈ tr ∨ Q x.1 := by
  intro i tr x hx
  rw [Own.runOracle_eq] at hx
  exact (List.mem_append.1 hx).imp_right (Own.calls_runO_mem h orc i x)

/-- A concrete regex oracle for the examples: every subject matches with groups `[0,6)`, `[0,4)`
and one unset group. -/
def exampleEnv : Env :=
  { rx := fun _ _ => .ok [some (0, 6), some (0, 4), none], command := fun _ => 0, isDir := fun _ => false, now := 0,
    strptime := fun _ => none, zoneName := fun _ => none, fileTime := fun _ => none, dryrun := false, path := [] }

def examplePEnv : PEnv :=
  { now := 0, pid := 1, host := [], random := 0, tmpdir := [], home := [], confpath := [], dryrun := false,
    syntaxOnly := false, stdinMode := false }

def exampleOracles : EvalOracles :=
  { rx := fun _ _ => .nomatch, strptime := fun _ => none, zoneName := fun _ => none }

end Mdsort.Proofs
