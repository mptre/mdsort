import Mdsort.Model.Lex
import Mdsort.Proofs.Basics
import Mdsort.Proofs.Literal

/-! What Proofs/Lex.lean rests on (C14): the lexer consumes input (`Good`, `lex1_good`), one step of `collect` and of
`lex1`, the keyword table, the bytes of an ASCII string, integer literals. -/

namespace Mdsort.Proofs.LexAux
open Mdsort Mdsort.Model

/-- `yypeek` inside a string or pattern: a backslash directly followed by the delimiter is dropped and the delimiter
is data; what is left of the input, and the byte that is stored. -/
def unesc (d c : UInt8) (r : Bytes) : Bytes × UInt8 :=
  if c == 92 then
    match r with
    | d' :: r2 => if d' == d then (r2, d') else (r, c)
    | [] => (r, c)
  else (r, c)

theorem unesc_suffix (d c : UInt8) (r : Bytes) : (unesc d c r).1 <:+ r := by
  fun_cases unesc d c r
  case case1 => exact List.suffix_cons _ _
  all_goals exact List.suffix_refl _

theorem collect_cons (d : UInt8) (f : Nat) (c : UInt8) (r acc : Bytes) :
    collect d (f + 1) (c :: r) acc =
      if c == d then some (some acc, r)
      else if acc.length == BUFSIZ - 1 then some (none, (unesc d c r).1)
      else collect d f (unesc d c r).1 (acc ++ [(unesc d c r).2]) := by
  rw [collect.eq_def]
  unfold unesc
  cases h : c == 92 with
  | false => simp only [h, Bool.false_eq_true, if_false]
  | true =>
    cases r with
    | nil => simp only [h, if_true]
    | cons d' r2 => cases hd : d' == d <;> simp only [h, hd, Bool.false_eq_true, if_true, if_false]

/-- A string or pattern body as it is written between two delimiters `d`: a `d` inside it is written `\d`. -/
def esc (d : UInt8) (b : Bytes) : Bytes := b.flatMap fun c => if c == d then [92, d] else [c]

theorem esc_cons (d x : UInt8) (b : Bytes) : esc d (x :: b) = (if x == d then [92, d] else [x]) ++ esc d b := by
  simp [esc, List.flatMap_cons]

theorem esc_plain (d : UInt8) {b : Bytes} (h : ∀ c ∈ b, c ≠ d) : esc d b = b := by
  induction b with
  | nil => rfl
  | cons x b ih =>
    rw [esc_cons, if_neg (by simpa using h x (by simp)), ih fun c hc => h c (by simp [hc])]
    rfl

/-- A byte other than the delimiter is stored as it is: a backslash in `b` is not the last byte, and what is written behind
it does not start with the delimiter (a `d` is written `\d`). -/
theorem unesc_esc {d : UInt8} (hd : d ≠ 92) {x : UInt8} (hx : x ≠ d) {b : Bytes} (hlast : (x :: b).getLast? ≠ some 92)
    (rest : Bytes) : unesc d x (esc d b ++ d :: rest) = (esc d b ++ d :: rest, x) := by
  unfold unesc
  by_cases h92 : x = 92
  · subst h92
    cases b with
    | nil => exact absurd rfl hlast
    | cons y b =>
      rw [esc_cons]
      by_cases hy : y = d
      · simp [hy, Ne.symm hd]
      · simp [hy]
  · simp [h92]

theorem collect_esc {d : UInt8} (hd : d ≠ 92) (rest : Bytes) : ∀ (b acc : Bytes) (fuel : Nat),
    b.getLast? ≠ some 92 → acc.length + b.length ≤ BUFSIZ - 1 → (esc d b).length < fuel →
    collect d fuel (esc d b ++ d :: rest) acc = some (some (acc ++ b), rest) := by
  intro b
  induction b with
  | nil =>
    intro acc fuel _ _ hf
    obtain ⟨f, rfl⟩ : ∃ f, fuel = f + 1 := ⟨fuel - 1, by omega⟩
    simp [esc, collect_cons]
  | cons x b ih =>
    intro acc fuel hlast hlen hf
    obtain ⟨f, rfl⟩ : ∃ f, fuel = f + 1 := ⟨fuel - 1, by omega⟩
    have hacc : ¬ (acc.length == BUFSIZ - 1) = true := by
      simp only [List.length_cons] at hlen
      simp only [beq_iff_eq]; omega
    have hlast' : b.getLast? ≠ some 92 := by
      cases b with
      | nil => simp
      | cons y b => rwa [List.getLast?_cons_cons] at hlast
    have hrec := ih (acc ++ [x]) f hlast'
      (by simp only [List.length_cons, List.length_append, List.length_nil] at hlen ⊢; omega)
    rw [List.append_assoc, List.singleton_append] at hrec
    rw [esc_cons] at hf ⊢
    by_cases hx : x = d
    · -- `\d`: the backslash is dropped, the delimiter is data
      subst hx
      simp only [beq_self_eq_true, if_true, List.length_append, List.length_cons, List.length_nil] at hf
      rw [if_pos (beq_self_eq_true x), List.append_assoc, List.cons_append, List.singleton_append, collect_cons,
        if_neg (by simpa using Ne.symm hd), if_neg hacc]
      simp only [unesc, beq_self_eq_true, if_true]
      exact hrec (by omega)
    · have hxd : ¬ (x == d) = true := by simpa using hx
      simp only [if_neg hxd, List.length_append, List.length_cons, List.length_nil] at hf
      rw [if_neg hxd, List.append_assoc, List.singleton_append, collect_cons, if_neg hxd, if_neg hacc, unesc_esc hd hx hlast]
      exact hrec (by omega)

theorem collect_suffix (d : UInt8) : ∀ (fuel : Nat) (s acc : Bytes) (o : Option Bytes) (rest : Bytes),
    collect d fuel s acc = some (o, rest) → rest <:+ s := by
  intro fuel
  induction fuel with
  | zero => intro s acc o rest h; simp [collect] at h
  | succ fuel ih =>
    intro s acc o rest h
    cases s with
    | nil => simp [collect] at h
    | cons c r =>
      rw [collect_cons] at h
      have hu := (unesc_suffix d c r).trans (List.suffix_cons c r)
      by_cases hc : (c == d) = true
      · rw [if_pos hc] at h
        cases h
        exact List.suffix_cons _ _
      rw [if_neg hc] at h
      by_cases hl : (acc.length == BUFSIZ - 1) = true
      · rw [if_pos hl] at h
        cases h
        exact hu
      rw [if_neg hl] at h
      exact (ih _ _ _ _ h).trans hu

theorem patFlags_suffix (fuel : Nat) (s : Bytes) (i l u : Bool) (e : Nat) :
    (patFlags fuel s i l u e).2.1 <:+ s := by
  fun_induction patFlags fuel s i l u e  -- 1 no budget, 2 `i`, 3 `l`, 4 `u`, 5 anything else
  case case1 => exact List.suffix_refl _
  case case5 => exact List.suffix_refl _
  all_goals rename_i ih; exact ih.trans (List.suffix_cons _ _)

theorem lexDigits_suffix (fuel : Nat) (s : Bytes) (n : Nat) (ovf : Bool) (e : Nat) :
    (lexDigits fuel s n ovf e).2.1 <:+ s := by
  fun_induction lexDigits fuel s n ovf e
  -- 1 no budget, 2 a digit after an overflow, 3 the digit that overflows, 4 a digit, 5 no digit, 6 end of input
  case case2 ih => exact ih.trans (List.suffix_cons _ _)
  case case3 ih => exact ih.trans (List.suffix_cons _ _)
  case case4 ih => exact ih.trans (List.suffix_cons _ _)
  all_goals exact List.suffix_refl _

theorem lexDigits_consume (fuel : Nat) (c : UInt8) (r : Bytes) (n : Nat) (ovf : Bool) (e : Nat)
    (hc : isdigit c = true) : (lexDigits (fuel + 1) (c :: r) n ovf e).2.1 <:+ r := by
  simp only [lexDigits, hc, if_true]
  split
  · exact lexDigits_suffix _ _ _ _ _
  · split
    · exact lexDigits_suffix _ _ _ _ _
    · exact lexDigits_suffix _ _ _ _ _

theorem islower_isKwChar {c : UInt8} (h : islower c = true) : isKwChar c = true := by
  simp [isKwChar, h]

theorem lexTok_suffix (pflag sflag : Bool) (c : UInt8) (r : Bytes) (e0 : Nat) :
    (lex1.lexTok pflag sflag c r e0).rest <:+ r := by
  have hword : islower c = true → (c :: r).dropWhile isKwChar <:+ r := fun hl => by
    rw [List.dropWhile_cons_of_pos (islower_isKwChar hl)]; exact List.dropWhile_suffix _
  fun_cases lex1.lexTok pflag sflag c r e0
  -- the cases are the leaves of `lex1.lexTok` in the order of Model/Lex.lean: 1-3 a string (unterminated, too long, read),
  -- 4-6 the same for a pattern, 7 digits, 8 word too long, 9 keyword, 10 no unit matches (MACRO), 11 exactly one unit,
  -- 12 ambiguous unit, 13 MACRO outside unit mode, 14 NUL, 15 any other character
  case case1 | case4 => exact List.nil_suffix
  case case2 | case3 | case5 => exact collect_suffix _ _ _ _ _ _ (by assumption)
  case case6 rest hc _ _ _ _ _ hp =>
    have := patFlags_suffix (rest.length + 1) rest false false false 0
    rw [hp] at this
    exact this.trans (collect_suffix _ _ _ _ _ _ hc)
  case case7 hd _ _ _ hx =>
    have := lexDigits_consume (r.length + 1) c r 0 false 0 hd
    rwa [hx] at this
  case case8 =>
    simp only [BUFSIZ, List.drop_succ_cons]
    exact List.drop_suffix _ _
  case case14 | case15 => exact List.suffix_refl _
  -- the branches of a word: what is left is what follows the word
  all_goals exact hword ‹_›

/-- The conclusion of `lex_progress` for a result `res` on `input`. -/
def Good (input : Bytes) (res : LexRes) : Prop :=
  res.rest <:+ input ∧ (res.tok ≠ .eof → res.rest.length < input.length)

theorem good_of_suffix_tail {input : Bytes} {c : UInt8} {r : Bytes} (hs : c :: r <:+ input)
    {res : LexRes} (h : res.rest <:+ r) : Good input res := by
  have h1 := hs.length_le
  have h2 := h.length_le
  simp at h1
  exact ⟨h.trans ((List.suffix_cons _ _).trans hs), fun _ => by omega⟩

theorem good_eof_nil (input : Bytes) (e : Nat) : Good input { tok := .eof, rest := [], errors := e } :=
  ⟨List.nil_suffix, fun h => absurd rfl h⟩

theorem good_errors {input : Bytes} {res : LexRes} (h : Good input res) (e : Nat) :
    Good input { res with errors := e } := h

/-- `lex1` is its re-entry function with one more step than the input is long: the bodies coincide.  (Model/Lex.lean writes
the first round of `yylex1`'s `again:` loop out as `lex1`, which is therefore no recursive function and needs no budget in
its own equation; only the re-entry after a comment, on a strictly shorter rest, is `lex1Aux` with a budget.) -/
theorem lex1_eq_aux (pflag sflag afterMacro : Bool) (input : Bytes) :
    lex1 pflag sflag afterMacro input = lex1.lex1Aux pflag sflag afterMacro input (input.length + 1) := by
  rw [lex1.lex1Aux]
  rfl

/-- What `lex1` returns: end of input, `!`, a token read by `lexTok` at a position of the input, or - after a comment -
what it returns on the rest, with more diagnostics.  The skeleton (blanks, comment and re-entry) is walked here once;
`lex1_good`, `MainText.mt_lex_clean` and `Cfg.lex1_modeFit` are instances, what differs is the fact about `lex1.lexTok`. -/
theorem lex1_ind {P : Bytes → LexRes → Prop} (pf sf am : Bool)
    (eof : ∀ input e, P input { tok := .eof, rest := [], errors := e })
    (neg : ∀ input c r e, c :: r <:+ input → P input { tok := .neg, rest := r, errors := e })
    (tok : ∀ input c r e, c :: r <:+ input → P input (lex1.lexTok pf sf c r e))
    (again : ∀ input c r x r2 sub e, c :: r <:+ input → x :: r2 <:+ r → P r2 sub → P input { sub with errors := sub.errors + e })
    (input : Bytes) : P input (lex1 pf sf am input) := by
  rw [lex1_eq_aux]
  generalize input.length + 1 = fuel
  have hs0 : ∀ {input c r}, input.dropWhile isspace = c :: r → c :: r <:+ input :=
    fun h => h ▸ List.dropWhile_suffix _
  fun_induction lex1.lex1Aux pf sf am input fuel
  -- 1 no budget, 2 only white space left, 3 `!`, 4 a comment up to the end, 5 a comment and the re-entry behind it, 6 a token
  case case3 hs _ _ => exact neg _ _ _ _ (hs0 hs)
  case case5 c r hs _ _ _ x r2 h2 _ ih => exact again _ c r x r2 _ _ (hs0 hs) (h2 ▸ List.dropWhile_suffix _) ih
  case case6 hs _ _ _ => exact tok _ _ _ _ (hs0 hs)
  all_goals exact eof _ _

theorem lex1_good (pf sf am : Bool) (input : Bytes) : Good input (lex1 pf sf am input) :=
  lex1_ind pf sf am (fun _ _ => good_eof_nil _ _) (fun _ _ _ _ hs => good_of_suffix_tail hs (List.suffix_refl _))
    (fun _ _ _ _ hs => good_of_suffix_tail hs (lexTok_suffix _ _ _ _ _))
    (fun _ _ _ _ _ _ _ hs h2 h => good_of_suffix_tail hs (h.1.trans ((List.suffix_cons _ _).trans h2))) input

theorem islower_facts : ∀ c : UInt8, islower c = true →
    isspace c = false ∧ (c == 33) = false ∧ (c == 35) = false ∧ (c == 34) = false ∧ isdigit c = false := by
  apply forall_u8; decide +kernel

/-- What is checked of every entry of the generated keyword table. -/
def kwOk (kv : String × String) : Bool :=
  let bs := kv.1.toUTF8.toList
  (Gen.keywords.find? (fun kv' => kv'.1 == String.ofList (bs.map fun b => Char.ofNat b.toNat)) == some kv) &&
  bs.all isKwChar && (match bs with | [] => false | c :: _ => islower c) && decide (bs.length ≤ BUFSIZ - 1)

theorem kw_table : Gen.keywords.all kwOk = true := by decide +kernel

theorem lex1_start (pflag sflag : Bool) (c : UInt8) (r : Bytes) (h1 : isspace c = false) (h2 : (c == 35) = false) :
    lex1 pflag sflag false (c :: r) =
      if c == 33 then { tok := .neg, rest := r, errors := 0 } else lex1.lexTok pflag sflag c r 0 := by
  simp [lex1, h1, h2]

theorem lex1_skip (pf sf am : Bool) (sp : Bytes) (c : UInt8) (r : Bytes) (hsp : ∀ x ∈ sp, isspace x = true)
    (h1 : isspace c = false) (h2 : (c == 35) = false) : lex1 pf sf am (sp ++ c :: r) = lex1 pf sf am (c :: r) := by
  have hd : (sp ++ c :: r).dropWhile isspace = c :: r := by
    rw [List.dropWhile_append_of_pos hsp, List.dropWhile_cons, if_neg (by simp [h1])]
  unfold lex1
  simp only [hd, List.dropWhile_cons, h1, h2, Bool.false_eq_true, if_false]

theorem lex1_of_lower (pflag sflag : Bool) (c : UInt8) (r : Bytes) (hl : islower c = true) :
    lex1 pflag sflag false (c :: r) = lex1.lexTok pflag sflag c r 0 := by
  obtain ⟨h1, h2, h3, _, _⟩ := islower_facts c hl
  rw [lex1_start _ _ _ _ h1 h3, h2, if_neg Bool.false_ne_true]

theorem lexTok_keyword (sflag : Bool) (c : UInt8) (t rest : Bytes) (kv : String × String)
    (hl : islower c = true) (hall : (c :: t).all isKwChar = true) (hlen : (c :: t).length ≤ BUFSIZ - 1)
    (hfind : Gen.keywords.find? (fun kv' => kv'.1 == String.ofList ((c :: t).map fun b => Char.ofNat b.toNat)) = some kv)
    (hr : ∀ c, rest.head? = some c → isKwChar c = false) :
    lex1.lexTok false sflag c (t ++ rest) 0 = { tok := .keyword kv.2, rest := rest, errors := 0 } := by
  obtain ⟨_, _, _, h34, hd⟩ := islower_facts c hl
  have htw := List.takeWhile_append_stop (b := rest) (List.all_eq_true.mp hall) hr
  have hdw := List.dropWhile_append_stop (b := rest) (List.all_eq_true.mp hall) hr
  rw [List.cons_append] at htw hdw
  unfold lex1.lexTok
  simp only [h34, hd, hl, htw, hdw, if_true, Bool.false_eq_true, if_false]
  rw [if_neg (by omega), hfind]

theorem utf8_ascii (l : List Char) (h : ∀ c ∈ l, c.toNat ≤ 127) :
    (String.ofList l).toUTF8.toList = l.map (fun c => UInt8.ofNat c.toNat) := by
  rw [toUTF8_ofList]
  induction l with
  | nil => rfl
  | cons c l ih =>
    have hc : c.val.toNat ≤ 127 := h c (by simp)
    have : String.utf8EncodeChar c = [UInt8.ofNat c.toNat] := by
      unfold String.utf8EncodeChar
      simp only [hc, if_true]
      rfl
    have ih' := ih (fun c hc => h c (by simp [hc]))
    simp [List.flatMap_cons, this, ih']

/-- Value of a digit string read left to right from `acc`. -/
def dval (acc : Nat) (ds : Bytes) : Nat := ds.foldl (fun a d => a * 10 + (d.toNat - 48)) acc

theorem dval_nil (acc : Nat) : dval acc [] = acc := by simp only [dval, List.foldl_nil]
theorem dval_cons (acc : Nat) (d : UInt8) (ds : Bytes) :
    dval acc (d :: ds) = dval (acc * 10 + (d.toNat - 48)) ds := by
  simp only [dval, List.foldl_cons]

theorem le_dval : ∀ (ds : Bytes) (acc : Nat), acc ≤ dval acc ds := by
  intro ds
  induction ds with
  | nil => intro acc; exact Nat.le_refl _
  | cons d ds ih =>
    intro acc
    rw [dval_cons]
    have := ih (acc * 10 + (d.toNat - 48))
    omega

theorem lexDigits_stop (fuel : Nat) (rest : Bytes) (n : Nat) (ovf : Bool) (e : Nat)
    (hr : ∀ c, rest.head? = some c → isdigit c = false) :
    lexDigits (fuel + 1) rest n ovf e = (n, rest, e) := by
  cases rest with
  | nil => simp [lexDigits]
  | cons c r => simp [lexDigits, hr c rfl]

theorem lexDigits_ovf (rest : Bytes) (hr : ∀ c, rest.head? = some c → isdigit c = false) :
    ∀ (ds : Bytes) (fuel n e : Nat), (∀ d ∈ ds, isdigit d = true) → ds.length < fuel →
    lexDigits fuel (ds ++ rest) n true e = (n, rest, e) := by
  intro ds
  induction ds with
  | nil =>
    intro fuel n e _ hf
    cases fuel with
    | zero => simp at hf
    | succ f => exact lexDigits_stop f rest n true e hr
  | cons d ds ih =>
    intro fuel n e hd hf
    cases fuel with
    | zero => simp at hf
    | succ f =>
      have h1 : isdigit d = true := hd d (by simp)
      have := ih f n e (fun x hx => hd x (by simp [hx])) (by simp at hf; omega)
      simp [lexDigits, h1, this]

theorem lexDigits_spec (rest : Bytes) (hr : ∀ c, rest.head? = some c → isdigit c = false) :
    ∀ (ds : Bytes) (fuel acc e : Nat), (∀ d ∈ ds, isdigit d = true) → ds.length < fuel → acc < 2 ^ 32 →
    (lexDigits fuel (ds ++ rest) acc false e).2.1 = rest ∧
    (dval acc ds < 2 ^ 32 → lexDigits fuel (ds ++ rest) acc false e = (dval acc ds, rest, e)) ∧
    (2 ^ 32 ≤ dval acc ds → (lexDigits fuel (ds ++ rest) acc false e).2.2 = e + 1) := by
  intro ds
  induction ds with
  | nil =>
    intro fuel acc e _ hf hacc
    cases fuel with
    | zero => simp at hf
    | succ f =>
      rw [List.nil_append, lexDigits_stop f rest acc false e hr, dval_nil]
      exact ⟨rfl, fun _ => rfl, fun h => by omega⟩
  | cons d ds ih =>
    intro fuel acc e hd hf hacc
    cases fuel with
    | zero => simp at hf
    | succ f =>
      have h1 : isdigit d = true := hd d (by simp)
      have hds : ∀ x ∈ ds, isdigit x = true := fun x hx => hd x (by simp [hx])
      have hf' : ds.length < f := by simp at hf; omega
      rw [dval_cons, List.cons_append]
      by_cases hov : acc * 10 + (d.toNat - 48) < 2 ^ 32
      · have hstep : lexDigits (f + 1) (d :: (ds ++ rest)) acc false e
            = lexDigits f (ds ++ rest) (acc * 10 + (d.toNat - 48)) false e := by
          have h2 : ¬ (acc * 10 ≥ 2 ^ 32) := by omega
          have h3 : ¬ (acc * 10 + (d.toNat - 48) ≥ 2 ^ 32) := by omega
          simp [lexDigits, h1, h2, h3]
        rw [hstep]
        exact ih f _ e hds hf' hov
      · have hstep : lexDigits (f + 1) (d :: (ds ++ rest)) acc false e
            = lexDigits f (ds ++ rest) ((acc * 10 + (d.toNat - 48)) % 2 ^ 32) true (e + 1) := by
          have h3 : (acc * 10 + (d.toNat - 48) ≥ 2 ^ 32) := by omega
          simp [lexDigits, h1, h3]
        rw [hstep, lexDigits_ovf rest hr ds f _ _ hds hf']
        have := le_dval ds (acc * 10 + (d.toNat - 48))
        refine ⟨rfl, fun h => ?_, fun _ => rfl⟩
        omega

theorem isDigit_range (c : Char) (h : c.isDigit = true) : 48 ≤ c.toNat ∧ c.toNat ≤ 57 :=
  Char.isDigit_iff_toNat.mp h

theorem isdigit_ofNat (k : Nat) (h1 : 48 ≤ k) (h2 : k ≤ 57) :
    isdigit (UInt8.ofNat k) = true ∧ (UInt8.ofNat k).toNat = k := by
  have hk : (UInt8.ofNat k).toNat = k := by rw [UInt8.toNat_ofNat']; omega
  refine ⟨?_, hk⟩
  simp only [isdigit, Bool.and_eq_true, decide_eq_true_eq, UInt8.le_iff_toNat_le, hk]
  exact ⟨h1, h2⟩

theorem isLower_range (c : Char) (h : c.isLower = true) : 97 ≤ c.toNat ∧ c.toNat ≤ 122 := by
  simp only [Char.isLower, Bool.and_eq_true, decide_eq_true_eq, ge_iff_le, UInt32.le_iff_toNat_le] at h
  exact h

theorem islower_ofNat (k : Nat) (h1 : 97 ≤ k) (h2 : k ≤ 122) :
    islower (UInt8.ofNat k) = true ∧ (UInt8.ofNat k).toNat = k := by
  have hk : (UInt8.ofNat k).toNat = k := by rw [UInt8.toNat_ofNat']; omega
  refine ⟨?_, hk⟩
  simp only [islower, Bool.and_eq_true, decide_eq_true_eq, UInt8.le_iff_toNat_le, hk]
  exact ⟨h1, h2⟩

theorem isdigit_facts : ∀ c : UInt8, isdigit c = true →
    isspace c = false ∧ (c == 33) = false ∧ (c == 35) = false ∧ (c == 34) = false := by
  apply forall_u8; decide +kernel

theorem dval_map : ∀ (l : List Char) (acc : Nat), (∀ c ∈ l, c.isDigit = true) →
    dval acc (l.map fun c => UInt8.ofNat c.toNat) = Nat.ofDigitChars 10 l acc := by
  intro l
  induction l with
  | nil => intro acc _; simp [dval_nil]
  | cons c l ih =>
    intro acc h
    obtain ⟨h1, h2⟩ := isDigit_range c (h c (by simp))
    rw [List.map_cons, dval_cons, Nat.ofDigitChars_cons, ih _ (fun x hx => h x (by simp [hx])),
      (isdigit_ofNat _ h1 h2).2, Nat.mul_comm]
    rfl

theorem toString_bytes (n : Nat) : ∃ ds : Bytes, (toString n).toUTF8.toList = ds ∧ ds ≠ [] ∧
    (∀ d ∈ ds, isdigit d = true) ∧ dval 0 ds = n := by
  have hdig : ∀ c ∈ Nat.toDigits 10 n, c.isDigit = true :=
    fun c hc => Nat.isDigit_of_mem_toDigits (by decide) (by decide) hc
  refine ⟨(Nat.toDigits 10 n).map fun c => UInt8.ofNat c.toNat, ?_, ?_, ?_, ?_⟩
  · rw [Nat.toString_eq_ofList_toDigits]
    exact utf8_ascii _ (fun c hc => by have := isDigit_range c (hdig c hc); omega)
  · simp
  · intro d hd
    obtain ⟨c, hc, rfl⟩ := List.mem_map.mp hd
    obtain ⟨h1, h2⟩ := isDigit_range c (hdig c hc)
    exact (isdigit_ofNat _ h1 h2).1
  · rw [dval_map _ _ hdig, Nat.ofDigitChars_ten_toDigits]

theorem lex1_of_digit (sflag : Bool) (c : UInt8) (r : Bytes) (hd : isdigit c = true) :
    lex1 false sflag false (c :: r) =
      { tok := .int (lexDigits (r.length + 2) (c :: r) 0 false 0).1,
        rest := (lexDigits (r.length + 2) (c :: r) 0 false 0).2.1,
        errors := 0 + (lexDigits (r.length + 2) (c :: r) 0 false 0).2.2 } := by
  obtain ⟨h1, h2, h3, h4⟩ := isdigit_facts c hd
  rw [lex1_start _ _ _ _ h1 h3, h2, if_neg Bool.false_ne_true]
  simp [lex1.lexTok, h4, hd]

end Mdsort.Proofs.LexAux
