import Mdsort.Model.Limits

/-!
# The setters: accepted iff the COMPLETE result fits, and then the complete result

For each of the functions that fill a fixed-size buffer (`pathjoin`, `strlcpy`, `pathslice`, the name buffer of
`maildir_genname`, `expandtilde`): the result with a buffer of `n` bytes is the result with an unbounded buffer when
that is shorter than `n`, and a refusal otherwise - never a shortened string (`Exact`).  Consequently a smaller buffer
either refuses or gives what the larger one gives (`Exact.mono`), and a function that tests a setter is compared under two
sizes by `optStep`.  For `pathslice` the unbounded result is `sliceIdeal` (`pathslice_exact`).
-/

namespace Mdsort.Proofs.Limits
open Mdsort Mdsort.Model

instance (a b : Lim) : Decidable (a ≤ b) :=
  match a, b with
  | .fin x, .fin y => inferInstanceAs (Decidable (x ≤ y))
  | .fin _, .inf => isTrue trivial
  | .inf, .fin _ => isFalse fun h => h
  | .inf, .inf => isTrue trivial

instance (a b : Limits) : Decidable (a ≤ b) := inferInstanceAs (Decidable (_ ∧ _ ∧ _))

theorem Lim.le_refl (l : Lim) : l ≤ l := by
  cases l with
  | fin n => exact Nat.le_refl n
  | inf => trivial

theorem Lim.le_inf (l : Lim) : l ≤ Lim.inf := by cases l <;> trivial

theorem Lim.le_trans {a b c : Lim} (h1 : a ≤ b) (h2 : b ≤ c) : a ≤ c := by
  -- `c = inf`: trivial; three numbers: `Nat.le_trans`; an `inf` below a number contradicts `h1` or `h2`
  cases a <;> cases b <;> cases c <;> first | trivial | exact Nat.le_trans h1 h2 | exact h1.elim | exact h2.elim

theorem Lim.fits_mono {l l' : Lim} (h : l ≤ l') {n : Nat} (hf : l.fits n = true) : l'.fits n = true := by
  cases l <;> cases l'
  · simp only [Lim.fits, decide_eq_true_eq] at hf ⊢
    exact Nat.lt_of_lt_of_le hf h
  · rfl
  · exact h.elim
  · rfl

theorem Lim.fits_fin (n k : Nat) : (Lim.fin n).fits k = decide (k < n) := rfl
theorem Lim.fits_inf (k : Nat) : Lim.inf.fits k = true := rfl

theorem Limits.le_refl (L : Limits) : L ≤ L := ⟨Lim.le_refl _, Lim.le_refl _, Lim.le_refl _⟩
theorem Limits.le_unbounded (L : Limits) : L ≤ Limits.unbounded := ⟨Lim.le_inf _, Lim.le_inf _, Lim.le_inf _⟩

/-- `if len ≥ n then none else some x` (the model) against `if decide (len < n) then some x else none` (`Lim.fits`). -/
theorem ite_ge_none {α : Type} (len n : Nat) (x : α) :
    (if len ≥ n then none else some x) = if decide (len < n) = true then some x else none := by
  by_cases h : len < n
  · rw [if_neg (Nat.not_le.2 h), if_pos (decide_eq_true h)]
  · rw [if_pos (Nat.not_lt.1 h), if_neg (by rw [decide_eq_false h]; exact Bool.false_ne_true)]

theorem pathjoinL_eq (l : Lim) (d f : Bytes) :
    pathjoinL l d f = if l.fits (d.length + 1 + f.length) then some (d ++ [47] ++ f) else none := by
  have hl : (d ++ [47] ++ f).length = d.length + 1 + f.length := by simp; omega
  cases l with
  | fin n =>
    simp only [pathjoinL, pathjoin, Lim.fits, hl]
    exact ite_ge_none _ _ _
  | inf => rfl

theorem strlcpyL_eq (l : Lim) (s : Bytes) : strlcpyL l s = if l.fits s.length then some s else none := by
  cases l with
  | fin n => exact ite_ge_none _ _ _
  | inf => rfl

def Exact (f : Lim → Option Bytes) : Prop :=
  ∀ l, f l = (f .inf).bind fun s => if l.fits s.length then some s else none

theorem Exact.eq_some_iff {f : Lim → Option Bytes} (h : Exact f) {l : Lim} {s : Bytes} :
    f l = some s ↔ f .inf = some s ∧ l.fits s.length = true := by
  rw [h l]
  cases f .inf with
  | none => simp
  | some t =>
    rw [Option.bind_some, Option.some.injEq]
    constructor
    · intro hs
      split at hs
      · cases hs; exact ⟨rfl, by assumption⟩
      · cases hs
    · rintro ⟨rfl, hf⟩
      rw [if_pos hf]

theorem Exact.mono {f : Lim → Option Bytes} (h : Exact f) {l l' : Lim} (hle : l ≤ l') : f l = none ∨ f l = f l' := by
  cases hl : f l with
  | none => exact .inl rfl
  | some s => exact .inr (h.eq_some_iff.2 ((h.eq_some_iff.1 hl).imp_right (Lim.fits_mono hle))).symm

theorem Exact.some_fits {f : Lim → Option Bytes} (h : Exact f) {l : Lim} {s : Bytes} (hs : f l = some s) :
    f .inf = some s ∧ l.fits s.length = true :=
  h.eq_some_iff.1 hs

/-- A setter step, for any relation: under the smaller limits the setter refuses - then the failure branch `n` must be
below everything - or it gives what it gives under the larger limits and the two sides go on alike.  (`R` is `Sim S` with
`S n` for programs, `EqOrErr` with `n.1 = .error` for verdicts, `Below B` for other values; it must be a named relation,
or `exact` cannot read it off the goal.)

The shape of the statement is forced by how it is used, `exact optStep ..` against a `match` of the model.  An unreduced
`match` is an application of an auxiliary matcher constant, and the unifier compares the lemma's with the model's head
against head and argument by argument; the two constants are equal by unfolding only when they take the same arguments
(motive, scrutinee, the two alternatives).  Hence `Option Bytes`, the type of every setter, in place of a type variable,
and `(generalizing := false)`, without which `h`, which mentions `o`, becomes a further argument of the matcher: in either
case the lemma does not apply to the `match` of `writefdL`. -/
theorem optStep {β : Type} {R : β → β → Prop} {o o' : Option Bytes} (h : o = none ∨ o = o') {n : β} {s s' : Bytes → β}
    (hn : ∀ b, R n b) (hs : ∀ v, R (s v) (s' v)) :
    R (match (generalizing := false) o with | none => n | some v => s v)
      (match (generalizing := false) o' with | none => n | some v => s' v) := by
  rcases h with rfl | rfl
  · exact hn _
  · cases o with
    | none => exact hn _
    | some v => exact hs v

/-- Two setters tested together (`if (a >= siz || b >= siz)`). -/
theorem optStep2 {β : Type} {R : β → β → Prop} {o1 o1' o2 o2' : Option Bytes} (h1 : o1 = none ∨ o1 = o1')
    (h2 : o2 = none ∨ o2 = o2') {n : β} {s s' : Bytes → Bytes → β} (hn : ∀ b, R n b) (hs : ∀ v w, R (s v w) (s' v w)) :
    R (match (generalizing := false) o1, o2 with | some v, some w => s v w | _, _ => n)
      (match (generalizing := false) o1', o2' with | some v, some w => s' v w | _, _ => n) := by
  rcases h1 with rfl | rfl
  · exact hn _
  · rcases h2 with rfl | rfl
    · cases o1 <;> exact hn _
    · cases o1 with
      | none => exact hn _
      | some v =>
        cases o2 with
        | none => exact hn _
        | some w => exact hs v w

/-- `EqOrErr` (LimitsEval) is written out with the body of `Below (·.1 = .error)`. -/
def Below {β : Type} (B : β → Prop) (a b : β) : Prop := a = b ∨ B a

theorem Below.bad {β : Type} {B : β → Prop} {a : β} (h : B a) (b : β) : Below B a b := .inr h

theorem pathjoinL_Exact (d f : Bytes) : Exact (fun l => pathjoinL l d f) := by
  intro l
  have hl : (d ++ [47] ++ f).length = d.length + 1 + f.length := by simp; omega
  simp only [pathjoinL_eq, Lim.fits_inf, if_true, Option.bind_some, hl]

theorem strlcpyL_Exact (s : Bytes) : Exact (fun l => strlcpyL l s) := by
  intro l
  simp only [strlcpyL_eq, Lim.fits_inf, if_true, Option.bind_some]

theorem gennameBufL_Exact (name : Bytes) : Exact (fun l => gennameBufL l name) := by
  intro l
  simp only [gennameBufL, Lim.fits_inf, if_true, Option.bind_some]

/-- `expandtilde` copies (and therefore tests) only a string that starts with `~`. -/
theorem expandTildeL_Exact (home r : Bytes) : Exact (fun l => expandTildeL l home (126 :: r)) := by
  intro l
  simp only [expandTildeL, Lim.fits_inf, if_true, Option.bind_some, List.length_append]

theorem expandTildeL_plain (l : Lim) (home str : Bytes) (h : ∀ r, str ≠ 126 :: r) : expandTildeL l home str = some str := by
  unfold expandTildeL
  split
  · rename_i r; exact absurd rfl (h r)
  · rfl

theorem expandTildeL_mono (home str : Bytes) {l l' : Lim} (hle : l ≤ l') :
    expandTildeL l home str = none ∨ expandTildeL l home str = expandTildeL l' home str := by
  by_cases h : ∃ r, str = 126 :: r
  · obtain ⟨r, rfl⟩ := h
    exact (expandTildeL_Exact home r).mono hle
  · have h' : ∀ r, str ≠ 126 :: r := fun r hr => h ⟨r, hr⟩
    exact .inr (by rw [expandTildeL_plain l home str h', expandTildeL_plain l' home str h'])

theorem sliceComp_eq (dc : Bool) (p out : Bytes) (room : Nat) :
    sliceComp dc p out room =
      if dc then
        (if (p.takeWhile (· != 47)).length ≤ room then
          some (p.dropWhile (· != 47), out ++ p.takeWhile (· != 47), room - (p.takeWhile (· != 47)).length)
         else none)
      else some (p.dropWhile (· != 47), out, room) := by
  fun_induction sliceComp dc p out room with
  -- end of the path; `/`: the component ends here
  | case1 out room => cases dc <;> simp
  | case2 c r out room h =>
    cases (beq_iff_eq.1 h : c = 47)
    cases dc <;> simp
  -- a byte of the component: skipped (`!docopy`), no room left, or copied
  | case3 c r out room h hd ih =>
    have hne : (c != 47) = true := by simpa using h
    cases (by simpa using hd : dc = false)
    simp only [ih, Bool.false_eq_true, if_false, List.dropWhile_cons, hne, if_true]
  | case4 c r out room h hd hr =>
    have hne : (c != 47) = true := by simpa using h
    cases (by simpa using hd : dc = true)
    cases (beq_iff_eq.1 hr : room = 0)
    simp [hne]
  | case5 c r out room h hd hr ih =>
    have hne : (c != 47) = true := by simpa using h
    cases (by simpa using hd : dc = true)
    have hr : room ≠ 0 := by simpa using hr
    simp only [ih, if_true, List.takeWhile_cons, List.dropWhile_cons, hne, List.length_cons]
    by_cases hl : (r.takeWhile (· != 47)).length ≤ room - 1
    · rw [if_pos hl, if_pos (by omega)]
      simp only [List.append_assoc, List.singleton_append, Option.some.injEq, Prod.mk.injEq, true_and]
      omega
    · rw [if_neg hl, if_neg (by omega)]
/-- The first byte of a component (`if (docopy) { if (bufsiz == 0) return NULL; ... }`). -/
def first1 (isrange docopy : Bool) (c : UInt8) (st : SliceSt) : Option SliceSt :=
  if docopy then
    if st.room == 0 then none
    else if st.isabs && isrange then some { st with out := st.out ++ [47], room := st.room - 1 }
    else if !st.isabs then some { st with out := st.out ++ [c], room := st.room - 1 }
    else some st
  else some st

theorem sliceLoop_succ (isrange : Bool) (beg end_ : Int) (n i : Nat) (st : SliceSt) :
    sliceLoop isrange beg end_ (n + 1) i st =
      match st.p with
      | [] => some st
      | c :: r =>
        match first1 isrange (decide (beg ≤ (i : Int)) && decide ((i : Int) ≤ end_)) c st with
        | none => none
        | some st1 =>
          match sliceComp (decide (beg ≤ (i : Int)) && decide ((i : Int) ≤ end_)) r st1.out st1.room with
          | none => none
          | some (p', out', room') =>
            sliceLoop isrange beg end_ n (i + 1) { p := p', out := out', room := room', isabs := true } := by
  rw [sliceLoop]
  rfl

/-- What one step preserves: bytes written + room left, and never more output than input consumed (the one byte
that may be written before the first component of a relative path is that component's first byte). -/
structure StepInv (st st' : SliceSt) (consumed : Nat) : Prop where
  sum : st'.out.length + st'.room = st.out.length + st.room
  grow : st'.out.length ≤ st.out.length + consumed

def firstByte (isrange : Bool) (c : UInt8) (st : SliceSt) : Option UInt8 :=
  if st.isabs && isrange then some 47 else if !st.isabs then some c else none

theorem first1_eq (ir dc : Bool) (c : UInt8) (st : SliceSt) :
    first1 ir dc c st =
      if dc then
        if st.room = 0 then none
        else match firstByte ir c st with
          | some x => some { st with out := st.out ++ [x], room := st.room - 1 }
          | none => some st
      else some st := by
  unfold first1 firstByte
  cases dc
  · rfl
  · by_cases hr : st.room = 0
    · simp [hr]
    · have hr' : (st.room == 0) = false := by simpa using hr
      simp only [if_true, hr', Bool.false_eq_true, if_false, hr]
      cases st.isabs <;> cases ir <;> rfl

/-- The end of `pathslice`: room for the terminator. -/
def sliceFinish (r : Option SliceSt) : Option Bytes :=
  match r with
  | none => none
  | some st => if st.room == 0 then none else some st.out

/-- What the loop writes from input `p` on, component `i` first, `n` components at most. -/
def sliceOut (ir : Bool) (b e : Int) : Nat → Nat → Bytes → Bool → Bytes
  | 0, _, _, _ => []
  | _ + 1, _, [], _ => []
  | n + 1, i, c :: r, isabs =>
    (if decide (b ≤ (i : Int)) && decide ((i : Int) ≤ e) then
      (if isabs && ir then [47] else if !isabs then [c] else []) ++ r.takeWhile (· != 47) else []) ++
    sliceOut ir b e n (i + 1) (r.dropWhile (· != 47)) true

theorem sliceOut_length (ir : Bool) (b e : Int) (n i : Nat) (p : Bytes) (isabs : Bool) :
    (sliceOut ir b e n i p isabs).length ≤ p.length := by
  fun_induction sliceOut ir b e n i p isabs with
  | case1 => exact Nat.zero_le _
  | case2 => exact Nat.le_refl _
  | case3 n i c r isabs ih =>
    have hsplit : (r.takeWhile (· != 47)).length + (r.dropWhile (· != 47)).length = r.length := by
      rw [← List.length_append, List.takeWhile_append_dropWhile]
    have hfb : (if (isabs && ir) = true then [47] else if (!isabs) = true then [c] else ([] : Bytes)).length ≤ 1 := by
      cases isabs <;> cases ir <;> simp
    simp only [List.length_append, List.length_cons]
    split
    · simp only [List.length_append]; omega
    · simp only [List.length_nil]; omega
/-- The loop alone has no closed form: a component that is to be copied tests `bufsiz == 0` before it writes anything, so it
can fail although everything written so far fits; with the test for the terminator behind it (`sliceFinish`), failing there
and failing at the end are the same verdict. -/
theorem sliceLoop_closed (ir : Bool) (b e : Int) : ∀ (n i : Nat) (p out : Bytes) (room : Nat) (isabs : Bool),
    sliceFinish (sliceLoop ir b e n i { p := p, out := out, room := room, isabs := isabs }) =
      if (sliceOut ir b e n i p isabs).length < room then some (out ++ sliceOut ir b e n i p isabs) else none := by
  have hfin : ∀ (st : SliceSt), sliceFinish (some st) = if ([] : Bytes).length < st.room then some (st.out ++ []) else none := by
    intro st
    simp only [sliceFinish, List.length_nil, List.append_nil]
    by_cases h : st.room = 0 <;> simp [h, Nat.pos_iff_ne_zero]
  intro n
  induction n with
  | zero => intro i p out room isabs; exact hfin _
  | succ n ih =>
    intro i p out room isabs
    rw [sliceLoop_succ]
    cases p with
    | nil => exact hfin _
    | cons c r =>
      simp only [sliceOut, first1_eq, firstByte, sliceComp_eq]
      by_cases hdc : (decide (b ≤ (i : Int)) && decide ((i : Int) ≤ e)) = true
      case neg => simpa [hdc] using ih (i + 1) (r.dropWhile (· != 47)) out room true
      case pos =>
        simp only [hdc, if_true]
        by_cases hr : room = 0
        · simp [hr, sliceFinish]
        · simp only [hr, if_false]
          have hfb : (if (isabs && ir) = true then [47] else if (!isabs) = true then [c] else ([] : Bytes)) =
              (if (isabs && ir) = true then some (47 : UInt8) else if (!isabs) = true then some c else none).toList := by
            cases isabs <;> cases ir <;> rfl
          rw [hfb]
          generalize (if (isabs && ir) = true then some (47 : UInt8) else if (!isabs) = true then some c else none) = fbo
          generalize r.takeWhile (· != 47) = tw
          have ih' := fun out room => ih (i + 1) (r.dropWhile (· != 47)) out room true
          generalize sliceOut ir b e n (i + 1) (r.dropWhile (· != 47)) true = rest at ih'
          -- `fbo`: the byte written in front of the component, if any; then the component `tw` if it fits, then the rest
          cases fbo with
          | none =>
            simp only [Option.toList_none, List.nil_append, List.length_append]
            by_cases hl : tw.length ≤ room
            · simp only [hl, if_true, ih', List.append_assoc]
              by_cases hlt : rest.length < room - tw.length
              · rw [if_pos hlt, if_pos (by omega)]
              · rw [if_neg hlt, if_neg (by omega)]
            · simp only [hl, if_false, sliceFinish]
              rw [if_neg (by omega)]
          | some x =>
            simp only [Option.toList_some, List.length_append, List.length_cons, List.length_nil]
            by_cases hl : tw.length ≤ room - 1
            · simp only [hl, if_true, ih', List.append_assoc]
              by_cases hlt : rest.length < room - 1 - tw.length
              · rw [if_pos hlt, if_pos (by omega)]
              · rw [if_neg hlt, if_neg (by omega)]
            · simp only [hl, if_false, sliceFinish]
              rw [if_neg (by omega)]

/-- The slice, whatever the buffer: the index arithmetic of `pathslice` (`none` is its early `return NULL`), then what
the loop writes. -/
def sliceIdeal (path : Bytes) (beg end_ : Int) : Option Bytes :=
  let isabs := match path with | 47 :: _ => true | _ => false
  let ncomps : Int := (if isabs then 0 else 1) + (countSlash path : Int)
  let isrange := !(end_ - beg == 0)
  let r : Int := if isrange then 1 else 0
  let end1 := if end_ < 0 then ncomps + end_ - r else end_
  let beg1 := if beg < 0 then ncomps + beg - r else beg
  if beg1 < 0 || beg1 > end1 || end1 < 0 || end1 ≥ ncomps then none
  else some (sliceOut isrange beg1 end1 ncomps.toNat 0 path isabs)

theorem bind_ite_none {α β : Type} {C : Prop} {_ : Decidable C} (T : α) (g : α → Option β) :
    (if C then none else some T : Option α).bind g = if C then none else g T := by
  by_cases h : C
  · simp only [h, if_true, Option.bind_none]
  · simp only [h, if_false, Option.bind_some]

theorem pathslice_exact (path : Bytes) (n : Nat) (beg end_ : Int) :
    pathslice path n beg end_ = (sliceIdeal path beg end_).bind fun s => if s.length < n then some s else none := by
  unfold pathslice sliceIdeal
  simp only
  rw [bind_ite_none]
  refine ite_congr rfl (fun _ => rfl) fun _ => ?_
  show sliceFinish (sliceLoop _ _ _ _ 0 { p := path, out := [], room := n, isabs := _ }) = _
  rw [sliceLoop_closed, List.nil_append]
  rfl

theorem sliceIdeal_length {path : Bytes} {beg end_ : Int} {s : Bytes} (h : sliceIdeal path beg end_ = some s) :
    s.length ≤ path.length := by
  unfold sliceIdeal at h
  simp only [Option.ite_none_left_eq_some, Option.some.injEq] at h
  exact h.2 ▸ sliceOut_length ..

theorem pathsliceL_inf (path : Bytes) (beg end_ : Int) : pathsliceL path .inf beg end_ = sliceIdeal path beg end_ := by
  simp only [pathsliceL, pathslice_exact]
  cases h : sliceIdeal path beg end_ with
  | none => rfl
  | some s => simp only [Option.bind_some, if_pos (Nat.lt_succ_of_le (sliceIdeal_length h))]

theorem pathsliceL_Exact (path : Bytes) (beg end_ : Int) : Exact (fun l => pathsliceL path l beg end_) := by
  intro l
  simp only [pathsliceL_inf]
  cases l with
  | inf =>
    simp only [Lim.fits_inf, if_true, pathsliceL_inf]
    cases sliceIdeal path beg end_ <;> rfl
  | fin n => simp only [pathsliceL, pathslice_exact, Lim.fits_fin, decide_eq_true_eq]

theorem pathslice_length {path : Bytes} {n : Nat} {beg end_ : Int} {s : Bytes} (h : pathslice path n beg end_ = some s) :
    s.length < n ∧ s.length ≤ path.length := by
  rw [pathslice_exact] at h
  cases hi : sliceIdeal path beg end_ with
  | none => rw [hi] at h; cases h
  | some t =>
    rw [hi, Option.bind_some] at h
    split at h
    · cases h; exact ⟨by assumption, sliceIdeal_length hi⟩
    · cases h

theorem pathslice_big {path : Bytes} {n : Nat} {beg end_ : Int} {s : Bytes} (h : pathslice path n beg end_ = some s) :
    pathslice path (path.length + 1) beg end_ = some s := by
  have hl := (pathslice_length h).2
  rw [pathslice_exact] at h ⊢
  cases hi : sliceIdeal path beg end_ with
  | none => rw [hi] at h; cases h
  | some t =>
    rw [hi, Option.bind_some] at h
    rw [Option.bind_some]
    split at h
    · cases h; rw [if_pos (Nat.lt_succ_of_le hl)]
    · cases h

end Mdsort.Proofs.Limits
