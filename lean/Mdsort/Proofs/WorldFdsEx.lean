import Mdsort.Proofs.WorldFds
import Mdsort.Proofs.WorldWalkG
import Mdsort.Proofs.WorldWholeEx

/-!
# Descriptor hygiene: four evaluated runs of `main` (non-vacuity of C13_fd_hygiene)

Maildir `/m` with the message `new/1.h`; the rule `match all exec "true"` resp. `match all exec stdin "cat"`; every call
returns the result listed in `results` (descriptors 3, 4, 5, 6, 7 in the order of creation); then the same maildir with a
three-argument `exec` (`traceA`) and with a `command` condition (`traceC`).
-/

namespace Mdsort.Proofs.FdsEx
open Mdsort Mdsort.Model

/-- `match all exec "true"` / `match all exec stdin "cat"` -/
def rule (stdin : Bool) : Expr := .mtch 1 (.all 1) (.exec 1 stdin false [if stdin then ofString "cat" else ofString "true"])

def conf (stdin : Bool) : List ConfBlock := [{ paths := [[47, 109]], expr := rule stdin }]

def results (stdin : Bool) : List Res :=
  [.ok 3, .ok 0,                        -- fopen, fclose of the configuration
   .ok 4, .name exName,                 -- opendir /m/new, readdir
   .ok 5, .ok 7, .ok 0] ++              -- openat 1.h, read, read (end of file)
  (if stdin then [.ok 6, .ok 0] else [.ok 6]) ++   -- dup + lseek  |  open /dev/null
  [.ok 0, .ok 0,                        -- fork, waitpid
   .ok 0, .ok 0,                        -- close 6, close 5
   .eof, .ok 0, .ok 7, .eof, .ok 0]     -- readdir, closedir 4, opendir /m/cur, readdir, closedir 7

def orcl (stdin : Bool) : Nat → Call → Res := fun i _ => ((results stdin)[i]?).getD (.ok 0)

def trace (stdin : Bool) : List (Call × Res) :=
  (runOracle (orcl stdin) (mainP exEnv wholeExOrc true (conf stdin) wholeExFiles []) 0 []).2

/-- The run without `stdin`, evaluated once: every other fact about it is read off this list. -/
theorem trace_false_eq :
    trace false = List.zip
      [.fopen exEnv.confpath, .fclose 3, .opendir exNew, .readdir 4, .openRd 4 exName, .read 5, .read 5,
       .openPath (ofString "/dev/null"), .fork [ofString "true"] 6, .waitpid, .close 6, .close 5,
       .readdir 4, .closedir 4, .opendir exCur, .readdir 7, .closedir 7] (results false) := by
  unfold trace
  rw [Own.mainP_eq]
  unfold Own.mainK
  simp only [conf, Own.blocks_cons, Own.blocks_nil, Own.paths_cons, Own.paths_nil, dry_walk_G _ _ (rule false) (by decide)]
  simp only [rule, eval]
  decide +kernel

theorem trace_true_eq :
    trace true = List.zip
      [.fopen exEnv.confpath, .fclose 3, .opendir exNew, .readdir 4, .openRd 4 exName, .read 5, .read 5,
       .dupfd 5, .lseek 6, .fork [ofString "cat"] 6, .waitpid, .close 6, .close 5,
       .readdir 4, .closedir 4, .opendir exCur, .readdir 7, .closedir 7] (results true) := by
  unfold trace
  rw [Own.mainP_eq]
  unfold Own.mainK
  simp only [conf, Own.blocks_cons, Own.blocks_nil, Own.paths_cons, Own.paths_nil, dry_walk_G _ _ (rule true) (by decide)]
  simp only [rule, eval]
  decide +kernel

theorem trace_nostdin :
    (trace false).map (·.1) =
      [.fopen exEnv.confpath, .fclose 3, .opendir exNew, .readdir 4, .openRd 4 exName, .read 5, .read 5,
       .openPath (ofString "/dev/null"), .fork [ofString "true"] 6, .waitpid, .close 6, .close 5,
       .readdir 4, .closedir 4, .opendir exCur, .readdir 7, .closedir 7] := by
  rw [trace_false_eq]
  decide +kernel

theorem trace_stdin :
    (trace true).map (·.1) =
      [.fopen exEnv.confpath, .fclose 3, .opendir exNew, .readdir 4, .openRd 4 exName, .read 5, .read 5,
       .dupfd 5, .lseek 6, .fork [ofString "cat"] 6, .waitpid, .close 6, .close 5,
       .readdir 4, .closedir 4, .opendir exCur, .readdir 7, .closedir 7] := by
  rw [trace_true_eq]
  decide +kernel

/-- The descriptor table at the `fork` (call 8 resp. 9): the stream of `/m/new`, the message, and `/dev/null` resp. the
duplicate of the message's descriptor - each with the call that created it; and at the end of the run nothing is open. -/
theorem tables :
    (trace false)[8]? = some (.fork [ofString "true"] 6, .ok 0) ∧
    openFdsBy ((trace false).take 8) = [(4, .opendir exNew), (5, .openRd 4 exName), (6, .openPath (ofString "/dev/null"))] ∧
    openFds ((trace false).take 8) = [4, 5, 6] ∧ openFds (trace false) = [] ∧
    (trace true)[9]? = some (.fork [ofString "cat"] 6, .ok 0) ∧
    openFdsBy ((trace true).take 9) = [(4, .opendir exNew), (5, .openRd 4 exName), (6, .dupfd 5)] ∧
    ((trace true).take 9).getLast? = some (.lseek 6, .ok 0) ∧ openFds (trace true) = [] := by
  rw [trace_false_eq, trace_true_eq]
  decide +kernel

theorem before_fork :
    (trace false)[7]? = some (.openPath Own.devNull, .ok 6) ∧
    (trace true)[7]? = some (.dupfd 5, .ok 6) ∧ (trace true)[8]? = some (.lseek 6, .ok 0) := by
  rw [trace_false_eq, trace_true_eq]
  decide +kernel

/-- `match all exec { "printf" "a b 'c' *" "-x" }` -/
def ruleA : Expr := .mtch 1 (.all 1) (.exec 1 false false [ofString "printf", ofString "a b 'c' *", ofString "-x"])

def confA : List ConfBlock := [{ paths := [[47, 109]], expr := ruleA }]

def traceA : List (Call × Res) :=
  (runOracle (orcl false) (mainP exEnv wholeExOrc true confA wholeExFiles []) 0 []).2

theorem traceA_eq :
    traceA = List.zip
      [.fopen exEnv.confpath, .fclose 3, .opendir exNew, .readdir 4, .openRd 4 exName, .read 5, .read 5,
       .openPath (ofString "/dev/null"), .fork [ofString "printf", ofString "a b 'c' *", ofString "-x"] 6, .waitpid,
       .close 6, .close 5, .readdir 4, .closedir 4, .opendir exCur, .readdir 7, .closedir 7] (results false) := by
  unfold traceA
  rw [Own.mainP_eq]
  unfold Own.mainK
  simp only [confA, Own.blocks_cons, Own.blocks_nil, Own.paths_cons, Own.paths_nil, dry_walk_G _ _ ruleA (by decide)]
  simp only [ruleA, eval]
  decide +kernel

/-- The `fork` (call 8) carries the three configured strings as three arguments, byte for byte, and the handle 6 that the
call before (`open("/dev/null")`) returned. -/
theorem tablesA :
    traceA[7]? = some (.openPath Own.devNull, .ok 6) ∧
    traceA[8]? = some (.fork [ofString "printf", ofString "a b 'c' *", ofString "-x"] 6, .ok 0) := by
  rw [traceA_eq]
  decide +kernel

/-- `match command "false" move "/d"` -/
def ruleC : Expr := .mtch 1 (.command 1 [ofString "false"]) (.move 1 [47, 100])

def confC : List ConfBlock := [{ paths := [[47, 109]], expr := ruleC }]

/-- The child of the condition exits with 1 (wait status 256): no match. -/
def resultsC : List Res :=
  [.ok 3, .ok 0,                        -- fopen, fclose of the configuration
   .ok 4, .name exName,                 -- opendir /m/new, readdir
   .ok 5, .ok 7, .ok 0,                 -- openat 1.h, read, read (end of file)
   .ok 6, .ok 0, .ok 256,               -- open /dev/null, fork, waitpid
   .ok 0, .ok 0,                        -- close 6, close 5
   .eof, .ok 0, .ok 7, .eof, .ok 0]     -- readdir, closedir 4, opendir /m/cur, readdir, closedir 7

def orclC : Nat → Call → Res := fun i _ => (resultsC[i]?).getD (.ok 0)

def traceC : List (Call × Res) :=
  (runOracle orclC (mainP exEnv wholeExOrc true confC wholeExFiles []) 0 []).2

theorem traceC_eq :
    traceC = List.zip
      [.fopen exEnv.confpath, .fclose 3, .opendir exNew, .readdir 4, .openRd 4 exName, .read 5, .read 5,
       .openPath (ofString "/dev/null"), .fork [ofString "false"] 6, .waitpid, .close 6, .close 5,
       .readdir 4, .closedir 4, .opendir exCur, .readdir 7, .closedir 7] resultsC := by
  unfold traceC
  rw [Own.mainP_eq]
  unfold Own.mainK
  simp only [confC, Own.blocks_cons, Own.blocks_nil, Own.paths_cons, Own.paths_nil, dry_walk_eqG, processMessage_eqGP]
  simp only [ruleC, evalP, evalTop, evalT, eval]
  decide +kernel

/-- The run with the `command` condition: the `fork` of evaluation is call 8; the table there is the stream of `/m/new`,
the message and `/dev/null` (opened by the call before); the condition does not match, nothing is moved, and at the end
nothing is open. -/
theorem tablesC :
    traceC.map (·.1) =
      [.fopen exEnv.confpath, .fclose 3, .opendir exNew, .readdir 4, .openRd 4 exName, .read 5, .read 5,
       .openPath (ofString "/dev/null"), .fork [ofString "false"] 6, .waitpid, .close 6, .close 5,
       .readdir 4, .closedir 4, .opendir exCur, .readdir 7, .closedir 7] ∧
    traceC[8]? = some (.fork [ofString "false"] 6, .ok 0) ∧
    openFdsBy (traceC.take 8) = [(4, .opendir exNew), (5, .openRd 4 exName), (6, .openPath (ofString "/dev/null"))] ∧
    (traceC.take 8).getLast? = some (.openPath Own.devNull, .ok 6) ∧ openFds traceC = [] := by
  rw [traceC_eq]
  decide +kernel

end Mdsort.Proofs.FdsEx
