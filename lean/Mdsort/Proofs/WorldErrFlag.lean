import Mdsort.Proofs.WorldFrameWalk

/-!
# Error isolation in the walk and where the error flag comes from (C04)

The flag after a walk is set iff it was set before or one of the causes `WalkErr` occurred (`walk_error_iff`): from the flag
to a cause by induction on the fuel, introducing the cause of each branch of `walkK`; from a cause to the flag by induction on
the cause; so no proof takes a `WalkErr` hypothesis apart by `cases` (every constructor has the index `fuel + 1`).
-/

namespace Mdsort.Proofs
open Mdsort Mdsort.Model
open Mdsort.Proofs.Own (runO)

/-- The error bit of the processing of one message when the next call has index `i`: the file is
not known, the parse phase failed, the verdict of the rules IN THIS RUN is an error (evaluation asks the operating
system, so the verdict is `evVerdict` of what `evalP` returns on the results `orcl` gives its calls), or the action
list reported an error.  Written as a match tree over the runs of the three phases, each started at the index the
one before ended at, so that `C04_message_error_iff` can be read against `processMessage` phase by phase. -/
def msgError (env : PEnv) (orc : EvalOracles) (expr : Expr) (md : Maildir) (name : Bytes) (st : MainSt)
    (orcl : Nat → Call → Res) (i : Nat) : Bool :=
  match md.dirH with
  | none => false
  | some d =>
    match st.files.get md.path name with
    | none => true
    | some content =>
      match (runO orcl (messageParseP d md.path name content) i).1 with
      | none => true
      | some ms =>
        match evVerdict env orc ms (runO orcl (evalMs env orc expr ms) (runO orcl (messageParseP d md.path name content) i).2.2).1 with
        | .nomatch => false
        | .act ml msgs fl =>
          if env.dryrun then false
          else
            (runO orcl (matchesExec env ml { src := md, chsrc := false, ms := { ms with msg := msgs 0, flags := fl }, reject := false })
              (runO orcl (evalMs env orc expr ms) (runO orcl (messageParseP d md.path name content) i).2.2).2.2).1.2
        | _ => true

def isDot (n : Bytes) : Bool := n == [46] || n == [46, 46]

/-- The causes that set the error flag during `walk env orc expr fuel md st` when the next call has
index `i` and results are given by `orcl`. -/
inductive WalkErr (env : PEnv) (orc : EvalOracles) (expr : Expr) (orcl : Nat → Call → Res) :
    Nat → Maildir → MainSt → Nat → Prop
  /-- `readdir` failed. -/
  | readdirFailed {fuel md st i d} (hd : md.dirH = some d)
      (hr : ∀ n, orcl i (.readdir d) ≠ .name n) (he : orcl i (.readdir d) ≠ .eof) : WalkErr env orc expr orcl (fuel + 1) md st i
  /-- The message `n` returned by `readdir` has its error bit set. -/
  | message {fuel md st i d n} (hd : md.dirH = some d) (hr : orcl i (.readdir d) = .name n) (hn : isDot n = false)
      (he : msgError env orc expr md n st orcl (i + 1) = true) : WalkErr env orc expr orcl (fuel + 1) md st i
  /-- A cause occurs in the rest of the walk, after the message `n`. -/
  | later {fuel md st i d n} (hd : md.dirH = some d) (hr : orcl i (.readdir d) = .name n) (hn : isDot n = false)
      (h : WalkErr env orc expr orcl fuel md (runO orcl (processMessage env orc expr md n st) (i + 1)).1.1
        (runO orcl (processMessage env orc expr md n st) (i + 1)).2.2) : WalkErr env orc expr orcl (fuel + 1) md st i
  /-- A cause occurs in the rest of the walk, after `.` or `..`. -/
  | afterDot {fuel md st i d n} (hd : md.dirH = some d) (hr : orcl i (.readdir d) = .name n) (hn : isDot n = true)
      (h : WalkErr env orc expr orcl fuel md st (i + 1)) : WalkErr env orc expr orcl (fuel + 1) md st i
  /-- `new` is exhausted and the path of `cur` does not fit. -/
  | curJoin {fuel md st i d} (hd : md.dirH = some d) (hr : orcl i (.readdir d) = .eof) (hs : md.stdin = false)
      (hsub : md.subdir = .new) (hp : pathjoin PATH_MAX md.root (subdirName .cur) = none) : WalkErr env orc expr orcl (fuel + 1) md st i
  /-- `new` is exhausted and `cur` cannot be opened. -/
  | curOpen {fuel md st i d p} (hd : md.dirH = some d) (hr : orcl i (.readdir d) = .eof) (hs : md.stdin = false)
      (hsub : md.subdir = .new) (hp : pathjoin PATH_MAX md.root (subdirName .cur) = some p)
      (ho : (runO orcl (maildirOpendir { md with subdir := .cur, path := p } p) (i + 1)).1.2 = true) :
      WalkErr env orc expr orcl (fuel + 1) md st i
  /-- A cause occurs in the walk over `cur`. -/
  | inCur {fuel md st i d p} (hd : md.dirH = some d) (hr : orcl i (.readdir d) = .eof) (hs : md.stdin = false)
      (hsub : md.subdir = .new) (hp : pathjoin PATH_MAX md.root (subdirName .cur) = some p)
      (ho : (runO orcl (maildirOpendir { md with subdir := .cur, path := p } p) (i + 1)).1.2 = false)
      (h : WalkErr env orc expr orcl fuel (runO orcl (maildirOpendir { md with subdir := .cur, path := p } p) (i + 1)).1.1 st
        (runO orcl (maildirOpendir { md with subdir := .cur, path := p } p) (i + 1)).2.2) :
      WalkErr env orc expr orcl (fuel + 1) md st i

end Mdsort.Proofs

namespace Mdsort.Proofs.Own
open Mdsort Mdsort.Model Mdsort.Proofs

theorem walk_readdir (env : PEnv) (orc : EvalOracles) (expr : Expr) (fuel : Nat) (md : Maildir) (st : MainSt) (d : Handle)
    (orcl : Nat → Call → Res) (i : Nat) (r : Res) (hd : md.dirH = some d) (hr : orcl i (.readdir d) = r) :
    runO orcl (walk env orc expr (fuel + 1) md st) i =
      ((runO orcl (walkK env orc expr fuel md st r) (i + 1)).1,
       (.readdir d, r) :: (runO orcl (walkK env orc expr fuel md st r) (i + 1)).2.1,
       (runO orcl (walkK env orc expr fuel md st r) (i + 1)).2.2) := by
  rw [walk_succ]
  simp only [hd]
  rw [runO_call, hr]

theorem walk_step (env : PEnv) (orc : EvalOracles) (expr : Expr) (fuel : Nat) (md : Maildir) (st : MainSt) (d : Handle)
    (n : Bytes) (orcl : Nat → Call → Res) (i : Nat)
    (hd : md.dirH = some d) (hr : orcl i (.readdir d) = .name n) (hn : isDot n = false) :
    runO orcl (walk env orc expr (fuel + 1) md st) i =
      ((runO orcl (walk env orc expr fuel md (runO orcl (processMessage env orc expr md n st) (i + 1)).1.1)
          (runO orcl (processMessage env orc expr md n st) (i + 1)).2.2).1,
       (.readdir d, .name n) :: ((runO orcl (processMessage env orc expr md n st) (i + 1)).2.1 ++
         (runO orcl (walk env orc expr fuel md (runO orcl (processMessage env orc expr md n st) (i + 1)).1.1)
          (runO orcl (processMessage env orc expr md n st) (i + 1)).2.2).2.1),
       (runO orcl (walk env orc expr fuel md (runO orcl (processMessage env orc expr md n st) (i + 1)).1.1)
          (runO orcl (processMessage env orc expr md n st) (i + 1)).2.2).2.2) := by
  have hmd : (runO orcl (processMessage env orc expr md n st) (i + 1)).1.2 = md :=
    all_runO (all_processMessage_md env orc expr md n st) orcl (i + 1)
  unfold isDot at hn
  rw [walk_readdir _ _ _ _ _ _ _ _ _ _ hd hr]
  simp only [walkK, hn, Bool.false_eq_true, if_false]
  rw [runO_bind, hmd]

theorem walk_dot (env : PEnv) (orc : EvalOracles) (expr : Expr) (fuel : Nat) (md : Maildir) (st : MainSt) (d : Handle)
    (n : Bytes) (orcl : Nat → Call → Res) (i : Nat)
    (hd : md.dirH = some d) (hr : orcl i (.readdir d) = .name n) (hn : isDot n = true) :
    runO orcl (walk env orc expr (fuel + 1) md st) i =
      ((runO orcl (walk env orc expr fuel md st) (i + 1)).1,
       (.readdir d, .name n) :: (runO orcl (walk env orc expr fuel md st) (i + 1)).2.1,
       (runO orcl (walk env orc expr fuel md st) (i + 1)).2.2) := by
  unfold isDot at hn
  rw [walk_readdir _ _ _ _ _ _ _ _ _ _ hd hr]
  simp only [walkK, hn, if_true]

theorem walk_first_call (env : PEnv) (orc : EvalOracles) (expr : Expr) (fuel : Nat) (md : Maildir) (st : MainSt) (d : Handle)
    (orcl : Nat → Call → Res) (j : Nat) (hd : md.dirH = some d) :
    (runO orcl (walk env orc expr (fuel + 1) md st) j).2.1.head? = some (.readdir d, orcl j (.readdir d)) := by
  rw [walk_readdir _ _ _ _ _ _ _ _ _ _ hd rfl]
  rfl

theorem setErr_of_error {st : MainSt} (h : st.error = true) : setErr true st = st := by
  cases st
  simp_all [setErr]

theorem setErr_clean (st : MainSt) : setErr st.error { st with error := false } = st := by
  cases st
  simp [setErr]

/-- (`Limits.walkL_sticky` at `stdLimits` is the same fact, through `Kept` and `walkL_inv`.) -/
theorem walk_error_sticky (env : PEnv) (orc : EvalOracles) (expr : Expr) (fuel : Nat) (md : Maildir) (st : MainSt)
    (orcl : Nat → Call → Res) (i : Nat) (h : st.error = true) :
    (runO orcl (walk env orc expr fuel md st) i).1.1.error = true := by
  have := walk_setErr env orc expr fuel md st true
  rw [setErr_of_error h] at this
  rw [this, runO_mapP]
  rfl

/-- The run from a state with the error flag set issues the same calls and ends in the same state,
up to the flag, as the run from the state with the flag cleared. -/
theorem processMessage_run_clean (env : PEnv) (orc : EvalOracles) (expr : Expr) (md : Maildir) (name : Bytes) (st : MainSt)
    (orcl : Nat → Call → Res) (i : Nat) :
    runO orcl (processMessage env orc expr md name st) i =
      (orErr st.error (runO orcl (processMessage env orc expr md name { st with error := false }) i).1,
       (runO orcl (processMessage env orc expr md name { st with error := false }) i).2.1,
       (runO orcl (processMessage env orc expr md name { st with error := false }) i).2.2) := by
  have := processMessage_setErr env orc expr md name { st with error := false } st.error
  rw [setErr_clean] at this
  rw [this, runO_mapP]

theorem walk_run_clean (env : PEnv) (orc : EvalOracles) (expr : Expr) (fuel : Nat) (md : Maildir) (st : MainSt)
    (orcl : Nat → Call → Res) (i : Nat) :
    runO orcl (walk env orc expr fuel md st) i =
      (orErr st.error (runO orcl (walk env orc expr fuel md { st with error := false }) i).1,
       (runO orcl (walk env orc expr fuel md { st with error := false }) i).2.1,
       (runO orcl (walk env orc expr fuel md { st with error := false }) i).2.2) := by
  have := walk_setErr env orc expr fuel md { st with error := false } st.error
  rw [setErr_clean] at this
  rw [this, runO_mapP]

theorem runO_freeThen {β} (orcl : Nat → Call → Res) (ms : MsgSt) (r : β) (j : Nat) :
    (runO orcl ((freeP ms).bind fun _ => Prog.ret r) j).1 = r :=
  all_runO (freeThen ms r).2 orcl j

/-- `msgError` is a match tree over the runs of the parse phase, of evaluation and of the action list, so the proof
walks `processMessage` along the same three phases (`processMessage_eq`).  Going through `processMessage_effect`
would leave `(runO orcl (messageEffect ..) i).1.error = msgError ..`, which is the same walk over `messageEffect`. -/
theorem processMessage_error_eq (env : PEnv) (orc : EvalOracles) (expr : Expr) (md : Maildir) (name : Bytes) (st : MainSt)
    (orcl : Nat → Call → Res) (i : Nat) :
    (runO orcl (processMessage env orc expr md name st) i).1.1.error =
      (st.error || msgError env orc expr md name st orcl i) := by
  unfold msgError
  cases hd : md.dirH with
  | none => rw [processMessage_noDir env orc expr md name st hd]; simp
  | some d =>
    dsimp only
    cases hf : st.files.get md.path name with
    | none => rw [processMessage_unknown env orc expr md name st d hd hf]; simp
    | some content =>
      dsimp only
      rw [processMessage_eq env orc expr md name st d content hd hf, runO_bind]
      have hpm : ParsedAs md.path name content (runO orcl (messageParseP d md.path name content) i).1 :=
        all_runO (all_messageParseP_as d md.path name content) orcl i
      generalize (runO orcl (messageParseP d md.path name content) i).2.2 = j at *
      generalize (runO orcl (messageParseP d md.path name content) i).1 = pm at *
      cases pm with
      | none => simp [afterParse]
      | some ms =>
        dsimp only
        rw [afterParse, runO_bind]
        generalize (runO orcl (evalMs env orc expr ms) j).2.2 = j2 at *
        generalize (runO orcl (evalMs env orc expr ms) j).1 = ev at *
        cases evVerdict env orc ms ev with
        | act ml msgs fl =>
          simp only [afterVerdict]
          split
          · simp only [runO_freeThen]; simp
          · rw [runO_bind]
            simp only [runO_freeThen]
        | _ => simp only [afterVerdict, runO_freeThen]; simp

theorem walkK_eof_stdin (env : PEnv) (orc : EvalOracles) (expr : Expr) (fuel : Nat) (md : Maildir) (st : MainSt)
    (hs : md.stdin = true) : walkK env orc expr fuel md st .eof = .ret (st, md) := by
  simp only [walkK, hs, if_true]

theorem walkK_eof_cur (env : PEnv) (orc : EvalOracles) (expr : Expr) (fuel : Nat) (md : Maildir) (st : MainSt)
    (hs : md.stdin = false) (hsub : md.subdir = .cur) : walkK env orc expr fuel md st .eof = .ret (st, md) := by
  simp only [walkK, hs, hsub, Bool.false_eq_true, if_false]

theorem walkK_eof_join (env : PEnv) (orc : EvalOracles) (expr : Expr) (fuel : Nat) (md : Maildir) (st : MainSt)
    (hs : md.stdin = false) (hsub : md.subdir = .new) (hp : pathjoin PATH_MAX md.root (subdirName .cur) = none) :
    walkK env orc expr fuel md st .eof = .ret ({ st with error := true }, md) := by
  simp only [walkK, hs, hsub, hp, Bool.false_eq_true, if_false]

theorem walkK_eof_open (env : PEnv) (orc : EvalOracles) (expr : Expr) (fuel : Nat) (md : Maildir) (st : MainSt) (p : Bytes)
    (hs : md.stdin = false) (hsub : md.subdir = .new) (hp : pathjoin PATH_MAX md.root (subdirName .cur) = some p) :
    walkK env orc expr fuel md st .eof =
      (maildirOpendir { md with subdir := .cur, path := p } p).bind fun x =>
        if x.2 then .ret ({ st with error := true }, x.1) else walk env orc expr fuel x.1 st := by
  obtain ⟨root, path, dirH, subdir, wlk, stdin⟩ := md
  dsimp only at hs hsub hp
  subst hs hsub
  simp only [walkK, hp, Bool.false_eq_true, if_false]

theorem walk_error_of_cause (env : PEnv) (orc : EvalOracles) (expr : Expr) (orcl : Nat → Call → Res)
    (fuel : Nat) (md : Maildir) (st : MainSt) (i : Nat) (h : WalkErr env orc expr orcl fuel md st i) :
    (runO orcl (walk env orc expr fuel md st) i).1.1.error = true := by
  induction h with
  | readdirFailed hd hr he =>
    rename_i fuel md st i d
    rw [walk_readdir _ _ _ _ _ _ _ _ _ _ hd rfl]
    cases hres : orcl i (.readdir d) with
    | name n => exact absurd hres (hr n)
    | eof => exact absurd hres he
    | _ => rfl
  | message hd hr hn he =>
    rw [walk_step _ _ _ _ _ _ _ _ _ _ hd hr hn]
    refine walk_error_sticky _ _ _ _ _ _ _ _ ?_
    rw [processMessage_error_eq, he]
    simp
  | later hd hr hn _ ih =>
    rw [walk_step _ _ _ _ _ _ _ _ _ _ hd hr hn]
    exact ih
  | afterDot hd hr hn _ ih =>
    rw [walk_dot _ _ _ _ _ _ _ _ _ _ hd hr hn]
    exact ih
  | curJoin hd hr hs hsub hp =>
    rw [walk_readdir _ _ _ _ _ _ _ _ _ _ hd hr, walkK_eof_join _ _ _ _ _ _ hs hsub hp]
    rfl
  | curOpen hd hr hs hsub hp ho =>
    rw [walk_readdir _ _ _ _ _ _ _ _ _ _ hd hr, walkK_eof_open _ _ _ _ _ _ _ hs hsub hp, runO_bind]
    simp only [ho, if_true]
    rfl
  | inCur hd hr hs hsub hp ho _ ih =>
    rw [walk_readdir _ _ _ _ _ _ _ _ _ _ hd hr, walkK_eof_open _ _ _ _ _ _ _ hs hsub hp, runO_bind]
    simp only [ho, Bool.false_eq_true, if_false]
    exact ih

theorem walk_cause_of_error (env : PEnv) (orc : EvalOracles) (expr : Expr) (orcl : Nat → Call → Res)
    (fuel : Nat) (md : Maildir) (st : MainSt) (i : Nat)
    (h : (runO orcl (walk env orc expr fuel md st) i).1.1.error = true) :
    st.error = true ∨ WalkErr env orc expr orcl fuel md st i := by
  induction fuel generalizing md st i with
  | zero => exact .inl h
  | succ fuel ih =>
    cases hd : md.dirH with
    | none =>
      rw [walk_succ] at h
      simp only [hd] at h
      exact .inl h
    | some d =>
      cases hr : orcl i (.readdir d) with
      | name n =>
        cases hn : isDot n with
        | true =>
          rw [walk_dot _ _ _ _ _ _ _ _ _ _ hd hr hn] at h
          rcases ih _ _ _ h with h' | h'
          · exact .inl h'
          · exact .inr (.afterDot hd hr hn h')
        | false =>
          rw [walk_step _ _ _ _ _ _ _ _ _ _ hd hr hn] at h
          rcases ih _ _ _ h with h' | h'
          · rw [processMessage_error_eq] at h'
            cases hse : st.error with
            | true => exact .inl rfl
            | false =>
              rw [hse, Bool.false_or] at h'
              exact .inr (.message hd hr hn h')
          · exact .inr (.later hd hr hn h')
      | eof =>
        rw [walk_readdir _ _ _ _ _ _ _ _ _ _ hd hr] at h
        cases hs : md.stdin with
        | true =>
          rw [walkK_eof_stdin _ _ _ _ _ _ hs] at h
          exact .inl h
        | false =>
          cases hsub : md.subdir with
          | cur =>
            rw [walkK_eof_cur _ _ _ _ _ _ hs hsub] at h
            exact .inl h
          | new =>
            cases hp : pathjoin PATH_MAX md.root (subdirName .cur) with
            | none => exact .inr (.curJoin hd hr hs hsub hp)
            | some p =>
              rw [walkK_eof_open _ _ _ _ _ _ _ hs hsub hp, runO_bind] at h
              cases ho : (runO orcl (maildirOpendir { md with subdir := .cur, path := p } p) (i + 1)).1.2 with
              | true => exact .inr (.curOpen hd hr hs hsub hp ho)
              | false =>
                simp only [ho, Bool.false_eq_true, if_false] at h
                rcases ih _ _ _ h with h' | h'
                · exact .inl h'
                · exact .inr (.inCur hd hr hs hsub hp ho h')
      | _ =>
        refine .inr (.readdirFailed hd ?_ ?_)
        · intro n e; rw [hr] at e; cases e
        · intro e; rw [hr] at e; cases e

theorem walk_error_iff (env : PEnv) (orc : EvalOracles) (expr : Expr) (orcl : Nat → Call → Res)
    (fuel : Nat) (md : Maildir) (st : MainSt) (i : Nat) :
    (runO orcl (walk env orc expr fuel md st) i).1.1.error = true ↔
      st.error = true ∨ WalkErr env orc expr orcl fuel md st i :=
  ⟨walk_cause_of_error env orc expr orcl fuel md st i, fun h => h.elim
    (walk_error_sticky env orc expr fuel md st orcl i) (walk_error_of_cause env orc expr orcl fuel md st i)⟩

end Mdsort.Proofs.Own

namespace Mdsort.Proofs
open Mdsort Mdsort.Model
open Mdsort.Proofs.Own

theorem processMessage_error_oracle (env : PEnv) (orc : EvalOracles) (expr : Expr) (md : Maildir) (name : Bytes) (st : MainSt)
    (orcl : Nat → Call → Res) (i : Nat) (tr : List (Call × Res)) :
    (runOracle orcl (processMessage env orc expr md name st) i tr).1.1.error =
      (st.error || msgError env orc expr md name st orcl i) := by
  rw [runOracle_eq]
  exact processMessage_error_eq env orc expr md name st orcl i

theorem walk_error_oracle_iff (env : PEnv) (orc : EvalOracles) (expr : Expr) (fuel : Nat) (md : Maildir) (st : MainSt)
    (orcl : Nat → Call → Res) (i : Nat) (tr : List (Call × Res)) :
    (runOracle orcl (walk env orc expr fuel md st) i tr).1.1.error = true ↔
      st.error = true ∨ WalkErr env orc expr orcl fuel md st i := by
  rw [runOracle_eq]
  exact walk_error_iff env orc expr orcl fuel md st i

/-- Error isolation: the run of the walk over a name is the run of that message's processing
followed by the run of the rest of the walk, whatever the message's outcome. -/
theorem walk_isolated (env : PEnv) (orc : EvalOracles) (expr : Expr) (fuel : Nat) (md : Maildir) (st : MainSt) (d : Handle)
    (n : Bytes) (orcl : Nat → Call → Res) (tr : List (Call × Res))
    (hd : md.dirH = some d) (hr : orcl tr.length (.readdir d) = .name n) (hn : (n == [46] || n == [46, 46]) = false) :
    let one := runOracle orcl (processMessage env orc expr md n st) (tr.length + 1) (tr ++ [(.readdir d, .name n)])
    let all := runOracle orcl (walk env orc expr (fuel + 1) md st) tr.length tr
    all = runOracle orcl (walk env orc expr fuel md one.1.1) one.2.length one.2 ∧
    one.1.2 = md ∧
    (fuel ≠ 0 → all.2[one.2.length]? = some (.readdir d, orcl one.2.length (.readdir d))) ∧
    (one.1.1.error = true → all.1.1.error = true) ∧
    (st.error = true → one.1.1.error = true) := by
  intro one all
  have hx := runO_index orcl (processMessage env orc expr md n st) (tr.length + 1)
  have hmd := all_runO (all_processMessage_md env orc expr md n st) orcl (tr.length + 1)
  have herr := processMessage_error_eq env orc expr md n st orcl (tr.length + 1)
  have hone : one = (_, _) := runOracle_eq orcl _ (tr.length + 1) (tr ++ [(.readdir d, .name n)])
  have hall : all = (_, _) := runOracle_eq orcl _ tr.length tr
  rw [walk_step env orc expr fuel md st d n orcl tr.length hd hr hn] at hall
  -- `x`: value, calls and next index of the message's processing
  generalize runO orcl (processMessage env orc expr md n st) (tr.length + 1) = x at hx hmd herr hone hall
  have hlen : (tr ++ [(Call.readdir d, Res.name n)] ++ x.2.1).length = x.2.2 := by
    rw [hx]
    simp only [List.length_append, List.length_cons, List.length_nil]
  rw [hone, hall]
  dsimp only
  rw [hlen, runOracle_eq]
  refine ⟨by simp, hmd, ?_, walk_error_sticky env orc expr fuel md x.1.1 orcl x.2.2, fun hs => by rw [herr, hs]; rfl⟩
  intro hf
  obtain ⟨f, rfl⟩ := Nat.exists_eq_succ_of_ne_zero hf
  -- the rest of the walk starts at position `x.2.2` of the trace, with its `readdir` (`walk_first_call`)
  rw [show tr ++ (Call.readdir d, Res.name n) :: (x.2.1 ++ (runO orcl (walk env orc expr (f + 1) md x.1.1) x.2.2).2.1) =
      (tr ++ [(Call.readdir d, Res.name n)] ++ x.2.1) ++ (runO orcl (walk env orc expr (f + 1) md x.1.1) x.2.2).2.1 by simp,
    List.getElem?_append_right (Nat.le_of_eq hlen), hlen, Nat.sub_self, ← List.head?_eq_getElem?]
  exact walk_first_call env orc expr f md x.1.1 d orcl x.2.2 hd

end Mdsort.Proofs
