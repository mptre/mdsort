import Mdsort.Proofs.PartiesStep

/-! One step of ANY party on the shared file system (nothing here is specific to rename-only parties): what
`H_iso` says of the step (`iso_facts`, `isoStep_of_names`), which calls bind or remove an entry, and what a
successful create or rename does. -/

namespace Mdsort.Proofs.Parties
open Mdsort Mdsort.Model
open Mdsort.Proofs.World

theorem mem_foreignInFlight (s : Shared) (a : Nat) (x : Bytes × Bytes) :
    x ∈ foreignInFlight s a ↔ ∃ i q, i ≠ a ∧ s.parties[i]? = some q ∧ x ∈ q.inFlight := by
  simp only [foreignInFlight, List.mem_flatMap, List.mem_filter]
  constructor
  · rintro ⟨⟨q, i⟩, ⟨hm, hne⟩, hx⟩
    exact ⟨i, q, by simpa using hne, List.mem_zipIdx_iff_getElem?.1 hm, hx⟩
  · rintro ⟨i, q, hne, hq, hx⟩
    exact ⟨(q, i), ⟨List.mem_zipIdx_iff_getElem?.2 hq, by simpa using hne⟩, hx⟩

theorem iso_facts {s : Shared} {a : Nat} {ps : PState} {c : Call} {k : Res → Prog Bool}
    (hp : s.parties[a]? = some ps) (hc : ps.prog = .call c k) (h : isoStep s a = true) :
    (∀ i q x, i ≠ a → s.parties[i]? = some q → x ∈ q.inFlight →
      callSrc (s.view ps) c ≠ some x ∧ (c.isRename = true → callDst (s.view ps) c ≠ some x)) ∧
    (c.isRename = true → ∀ x ∈ ps.inFlight, callSrc (s.view ps) c ≠ some x) := by
  unfold isoStep at h
  simp only [hp, hc, Bool.and_eq_true, List.all_eq_true, List.mem_append, Option.mem_toList, Bool.not_eq_true',
    Bool.or_eq_true] at h
  obtain ⟨h1, h2⟩ := h
  refine ⟨?_, ?_⟩
  · intro i q x hi hq hx
    have hmem : x ∈ foreignInFlight s a := (mem_foreignInFlight s a x).2 ⟨i, q, hi, hq, hx⟩
    refine ⟨fun e => ?_, fun hr e => ?_⟩
    · have := h1 x (.inl e)
      simp [hmem] at this
    · have := h1 x (.inr (by simp [hr, e]))
      simp [hmem] at this
  · intro hr x hx e
    rcases h2 with h2 | h2
    · simp [hr] at h2
    · have := h2 x e
      simp [hx] at this

/-- The names a call removes (`unlinkat`, source of `renameat`) or replaces (target of `renameat`). -/
def touchedNames : Call → List Bytes
  | .renameat _ n1 _ n2 => [n1, n2]
  | .unlinkat _ n => [n]
  | _ => []

/-- Isolation of a step from names: no name the call touches is the name of an entry another party has in
flight, and the local clause of `H_iso` holds. -/
theorem isoStep_of_names {s : Shared} {a : Nat} {ps : PState} {c : Call} {k : Res → Prog Bool}
    (hp : s.parties[a]? = some ps) (hc : ps.prog = .call c k)
    (hfor : ∀ n ∈ touchedNames c, ∀ y ∈ foreignInFlight s a, y.2 ≠ n)
    (hown : (!c.isRename || (callSrc (s.view ps) c).toList.all fun x => !ps.inFlight.contains x) = true) :
    isoStep s a = true := by
  unfold isoStep
  simp only [hp, hc, Bool.and_eq_true, List.all_eq_true, Bool.not_eq_true']
  refine ⟨fun y hy => ?_, hown⟩
  cases hct : (foreignInFlight s a).contains y with
  | false => rfl
  | true =>
    have hm : y ∈ foreignInFlight s a := by simpa using hct
    cases c <;> simp [callSrc, callDst, Call.isRename] at hy
    · rcases hy with ⟨q, _, rfl⟩ | ⟨q, _, rfl⟩
      · exact absurd rfl (hfor _ (by simp [touchedNames]) _ hm)
      · exact absurd rfl (hfor _ (by simp [touchedNames]) _ hm)
    · obtain ⟨q, _, rfl⟩ := hy
      exact absurd rfl (hfor _ (by simp [touchedNames]) _ hm)

theorem dst_kind {w : World} {c : Call} {x : Bytes × Bytes} (h : callDst w c = some x) :
    isCreate c = true ∨ c.isRename = true := by
  cases c <;> simp [callDst] at h <;> simp [isCreate, Call.isRename]

theorem src_kind {w : World} {c : Call} {x : Bytes × Bytes} (h : callSrc w c = some x) :
    c.isRename = true ∨ isUnlink c = true := by
  cases c <;> simp [callSrc] at h <;> simp [isUnlink, Call.isRename]

theorem create_not_rename {c : Call} (h : isCreate c = true) : c.isRename = false ∧ isUnlink c = false := by
  cases c <;> simp [isCreate] at h <;> simp [Call.isRename, isUnlink]

theorem rename_not_unlink {c : Call} (h : c.isRename = true) : isUnlink c = false ∧ isCreate c = false := by
  cases c <;> simp [Call.isRename] at h <;> simp [isCreate, isUnlink]

theorem unlink_not_rename {c : Call} (h : isUnlink c = true) : c.isRename = false := by
  cases c <;> simp [isUnlink] at h <;> rfl

theorem dst_dirPath {w : World} {c : Call} {x : Bytes × Bytes} (h : callDst w c = some x) : ∃ d, w.dirPath d = some x.1 := by
  cases c <;> simp [callDst] at h
  · obtain ⟨p, hp, rfl⟩ := h; exact ⟨_, hp⟩
  · obtain ⟨p, hp, rfl⟩ := h; exact ⟨_, hp⟩

theorem create_ok {w : World} {c : Call} (hk : isCreate c = true) (hok : isOk (predict w c) = true) :
    ∃ x, callDst w c = some x ∧ w.lookup x.1 x.2 = none ∧ boundBy w c = some w.nextFid ∧
      (core w c (predict w c)).nextFid = w.nextFid + 1 := by
  obtain ⟨d, n, rfl⟩ := isCreate_iff.1 hk
  rcases openExcl_state w d n with ⟨p, hp, hl, hpr, hco⟩ | ⟨e, hpr⟩
  · refine ⟨(p, n), by simp [callDst, hp], hl, rfl, ?_⟩
    rw [hpr, hco]; simp [created]
  · rw [hpr] at hok; simp [isOk] at hok

theorem nextFid_not_create {w : World} {c : Call} (hk : ¬ (isCreate c = true ∧ isOk (predict w c) = true)) (ha : Allowed c) :
    (core w c (predict w c)).nextFid = w.nextFid := by
  -- not `Allowed`: `ha.elim`; allowed and creating no file: `core_nextFid_eq`; left: `openExcl`
  cases c <;> first | exact ha.elim | (exact core_nextFid_eq w _ _ rfl) | skip
  rename_i d n
  rcases openExcl_state w d n with ⟨p, hp, hl, hpr, hco⟩ | ⟨e, hpr⟩
  · exact absurd ⟨rfl, by rw [hpr]; rfl⟩ hk
  · rw [hpr, core_fail w e rfl]

theorem rename_ok {w : World} {c : Call} (hk : c.isRename = true) (hok : isOk (predict w c) = true) :
    ∃ x y f, callSrc w c = some x ∧ callDst w c = some y ∧ w.lookup x.1 x.2 = some f ∧ boundBy w c = some f := by
  obtain ⟨d1, n1, d2, n2, rfl⟩ := isRename_iff.1 hk
  rcases renameat_state w d1 n1 d2 n2 with ⟨p1, p2, f, hp1, hp2, hl, hpr, hco⟩ | ⟨e, hpr, _, _⟩
  · exact ⟨(p1, n1), (p2, n2), f, by simp [callSrc, hp1], by simp [callDst, hp2], hl,
      by simp [boundBy, World.lookupE, hp1, hl]⟩
  · rw [hpr] at hok; simp [isOk] at hok

theorem rename_boundBy {w : World} {c : Call} (hk : c.isRename = true) : boundBy w c = w.lookupE (callSrc w c) := by
  cases c <;> simp [Call.isRename] at hk
  rfl

end Mdsort.Proofs.Parties
