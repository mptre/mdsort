import Mdsort.Model.Header
import Mdsort.Proofs.Basics

/-! `strcasecmp` is a total preorder; generic facts about the stable `List.mergeSort`. -/


namespace Mdsort.Proofs
open Mdsort Mdsort.Model

theorem strcasecmp_cons (a b : UInt8) (as bs : Bytes) :
    strcasecmp (a :: as) (b :: bs) =
      if tolower a < tolower b then .lt else if tolower b < tolower a then .gt else strcasecmp as bs := by
  rw [strcasecmp]

theorem strcasecmp_swap (a b : Bytes) : strcasecmp b a = (strcasecmp a b).swap := by
  induction a generalizing b with
  | nil => cases b <;> simp [strcasecmp]
  | cons x xs ih =>
    cases b with
    | nil => simp [strcasecmp]
    | cons y ys =>
      simp only [strcasecmp_cons]
      rcases Std.lt_trichotomy (tolower x) (tolower y) with h | h | h
      · simp [h, UInt8.lt_asymm h]
      · simp [h, ih]
      · simp [h, UInt8.lt_asymm h]

theorem strcasecmp_refl (a : Bytes) : strcasecmp a a = .eq := by
  induction a with
  | nil => simp [strcasecmp]
  | cons x xs ih => simp [strcasecmp_cons, ih]

/-- `strcasecmp` is the lexicographic order of the lower-cased strings (core's order on lists). -/
theorem strcasecmp_ne_gt (a b : Bytes) : strcasecmp a b ≠ .gt ↔ a.map tolower ≤ b.map tolower := by
  induction a generalizing b with
  | nil => cases b <;> simp [strcasecmp]
  | cons x xs ih =>
    cases b with
    | nil => simp [strcasecmp]
    | cons y ys =>
      simp only [strcasecmp_cons, List.map_cons, List.cons_le_cons_iff]
      rcases Std.lt_trichotomy (tolower x) (tolower y) with h | h | h
      · simp [h]
      · simp [h, ih]
      · have : tolower x ≠ tolower y := fun e => by rw [e] at h; exact UInt8.lt_irrefl _ h
        simp [h, UInt8.lt_asymm h, this]

theorem strcasecmp_le_trans (a b c : Bytes) (h1 : strcasecmp a b ≠ .gt) (h2 : strcasecmp b c ≠ .gt) :
    strcasecmp a c ≠ .gt :=
  (strcasecmp_ne_gt a c).2 (List.le_trans ((strcasecmp_ne_gt a b).1 h1) ((strcasecmp_ne_gt b c).1 h2))

theorem strcasecmp_eq_iff (a b : Bytes) : strcasecmp a b = .eq ↔ a.map tolower = b.map tolower := by
  have hge : strcasecmp b a ≠ .gt ↔ strcasecmp a b ≠ .lt := by
    rw [strcasecmp_swap a b]; cases strcasecmp a b <;> simp [Ordering.swap]
  constructor
  · intro h
    exact List.le_antisymm ((strcasecmp_ne_gt a b).1 (by simp [h])) ((strcasecmp_ne_gt b a).1 (hge.2 (by simp [h])))
  · intro h
    have h1 := (strcasecmp_ne_gt a b).2 (h ▸ List.le_refl _)
    have h2 := hge.1 ((strcasecmp_ne_gt b a).2 (h ▸ List.le_refl _))
    revert h1 h2
    cases strcasecmp a b <;> simp

theorem keyLe_trans (a b c : Hdr) (h1 : keyLe a b = true) (h2 : keyLe b c = true) : keyLe a c = true := by
  unfold keyLe at *
  simp only [bne_iff_ne, ne_eq] at *
  exact strcasecmp_le_trans _ _ _ h1 h2

theorem keyLe_total (a b : Hdr) : (keyLe a b || keyLe b a) = true := by
  unfold keyLe
  rw [strcasecmp_swap a.key b.key]
  cases strcasecmp a.key b.key <;> rfl

theorem idLe_trans (a b c : Hdr) (h1 : idLe a b = true) (h2 : idLe b c = true) : idLe a c = true := by
  unfold idLe at *
  simp only [decide_eq_true_eq] at *
  omega

theorem idLe_total (a b : Hdr) : (idLe a b || idLe b a) = true := by
  unfold idLe
  simp only [Bool.or_eq_true, decide_eq_true_eq]
  omega

theorem strcasecmp_lt_of_lt_of_le (key x y : Bytes) (h1 : strcasecmp key x = .lt) (h2 : strcasecmp x y ≠ .gt) :
    strcasecmp key y = .lt := by
  have e1 : strcasecmp x key = .gt := by rw [strcasecmp_swap key x, h1]; rfl
  have e2 : strcasecmp y key = .gt := by
    apply Classical.byContradiction
    intro h
    exact strcasecmp_le_trans x y key h2 h e1
  rw [strcasecmp_swap y key, e2]; rfl

section SortLemmas
variable {α : Type} {le : α → α → Bool}

/-- Stability, as an equation: a class of mutually `le` elements keeps its order. -/
theorem filter_mergeSort_class
    (trans : ∀ (a b c : α), le a b → le b c → le a c)
    (total : ∀ (a b : α), le a b || le b a)
    (p : α → Bool) (hp : ∀ a b, p a = true → p b = true → le a b = true) (l : List α) :
    (l.mergeSort le).filter p = l.filter p := by
  have hsub : List.Sublist (l.filter p) (l.mergeSort le) := by
    apply List.sublist_mergeSort trans total _ List.filter_sublist
    apply List.pairwise_of_forall_mem_list
    intro a ha b hb
    exact hp a b (List.mem_filter.mp ha).2 (List.mem_filter.mp hb).2
  have h2 := hsub.filter p
  rw [List.filter_filter] at h2
  simp only [Bool.and_self] at h2
  have hlen : (l.filter p).length = ((l.mergeSort le).filter p).length :=
    ((List.mergeSort_perm l le).filter p).length_eq.symm
  exact (h2.eq_of_length hlen).symm

theorem eq_of_sorted_of_class
    (total : ∀ (a b : α), le a b || le b a)
    (l1 l2 : List α) (h1 : l1.Pairwise (le · ·)) (h2 : l2.Pairwise (le · ·))
    (hc : ∀ x, l1.filter (fun y => le x y && le y x) = l2.filter (fun y => le x y && le y x)) :
    l1 = l2 := by
  have refl : ∀ a, le a a = true := fun a => by simpa using total a a
  induction l1 generalizing l2 with
  | nil =>
    cases l2 with
    | nil => rfl
    | cons b t2 =>
      have := hc b
      simp [refl] at this
  | cons a t1 ih =>
    cases l2 with
    | nil =>
      have := hc a
      simp [refl] at this
    | cons b t2 =>
      have ha : a ∈ b :: t2 := by
        have : a ∈ (a :: t1).filter (fun y => le a y && le y a) := by simp [refl]
        rw [hc a] at this
        exact (List.mem_filter.mp this).1
      have hb : b ∈ a :: t1 := by
        have : b ∈ (b :: t2).filter (fun y => le b y && le y b) := by simp [refl]
        rw [← hc b] at this
        exact (List.mem_filter.mp this).1
      have hba : le b a = true := by
        rcases List.mem_cons.mp ha with e | hm
        · rw [e]; exact refl b
        · exact List.rel_of_pairwise_cons h2 hm
      have hab : le a b = true := by
        rcases List.mem_cons.mp hb with e | hm
        · rw [e]; exact refl a
        · exact List.rel_of_pairwise_cons h1 hm
      have hcab := hc a
      simp only [List.filter_cons, refl, hab, hba, Bool.and_self, if_true, List.cons.injEq] at hcab
      have e : a = b := hcab.1
      subst e
      congr 1
      apply ih t2 h1.tail h2.tail
      intro x
      have hx := hc x
      simp only [List.filter_cons] at hx
      split at hx
      · exact (List.cons.inj hx).2
      · exact hx

/-- The stable sort commutes with a filter: both sides are sorted and keep every class in its order. -/
theorem mergeSort_filter
    (trans : ∀ (a b c : α), le a b → le b c → le a c)
    (total : ∀ (a b : α), le a b || le b a)
    (p : α → Bool) (l : List α) :
    (l.filter p).mergeSort le = (l.mergeSort le).filter p := by
  apply eq_of_sorted_of_class total
  · exact List.pairwise_mergeSort trans total _
  · exact (List.pairwise_mergeSort trans total l).filter p
  · intro x
    have hcls : ∀ a b, (le x a && le a x) = true → (le x b && le b x) = true → le a b = true := by
      intro a b ha hb
      simp only [Bool.and_eq_true] at ha hb
      exact trans _ _ _ ha.2 hb.1
    have hcomm : ∀ m : List α, (m.filter p).filter (fun y => le x y && le y x) =
        (m.filter (fun y => le x y && le y x)).filter p := by
      intro m
      rw [List.filter_filter, List.filter_filter]
      exact List.filter_congr fun a _ => Bool.and_comm _ _
    rw [filter_mergeSort_class trans total _ hcls, hcomm, hcomm, filter_mergeSort_class trans total _ hcls]

theorem eq_of_perm_of_strict (k : α → Nat) (l1 l2 : List α)
    (h1 : l1.Pairwise (fun a b => k a < k b)) (h2 : l2.Pairwise (fun a b => k a ≤ k b))
    (hp : l1.Perm l2) : l1 = l2 := by
  refine List.Perm.eq_of_pairwise (le := fun a b => k a ≤ k b) ?_ (h1.imp Nat.le_of_lt) h2 hp
  intro a b ha hb hab hba
  -- members of `l1` with the same key are the same
  have key := List.Pairwise.forall_of_forall_of_flip (R := fun a b => k a = k b → a = b) (fun _ _ _ => rfl)
    (h1.imp fun h e => by omega) (h1.imp fun h e => by omega)
  exact key ha (hp.symm.subset hb) (by omega)

end SortLemmas

end Mdsort.Proofs
