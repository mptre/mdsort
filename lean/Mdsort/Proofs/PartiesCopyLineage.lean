import Mdsort.Proofs.PartiesCopyTmp

/-! Preservation of `CInv` by one step, third part: how the lineage `originIn` changes with one step, and where an entry in
nobody's flight comes from (`StepCtx.classify`). -/

namespace Mdsort.Proofs.Parties
open Mdsort Mdsort.Model
open Mdsort.Proofs.World

variable {M : Msg → Prop} {s0 s : Shared} {a : Nat} {ps : PState} {c : Call} {k : Res → Prog Bool}

theorem stepEvent_commits_iff (s : Shared) (a : Nat) (ps : PState) (c : Call) :
    (stepEvent s a ps c).commits = true ↔
      isUnlink c = true ∧ isOk (predict (s.view ps) c) = true ∧
        ∃ y, callSrc (s.view ps) c = some y ∧ ps.inFlight ≠ [] ∧ y ∉ ps.inFlight := by
  cases c
  case unlinkat d n =>
    simp only [Event.commits, stepEvent, isUnlink, true_and]
    cases hs : callSrc (s.view ps) (.unlinkat d n) with
    | none => simp
    | some y => simp [and_assoc]
  -- no other call commits, by evaluation
  all_goals exact ⟨nofun, fun h => nomatch h.1⟩

theorem commits_of_unlink {y z : Bytes × Bytes} (hul : isUnlink c = true) (hok : isOk (predict (s.view ps) c) = true)
    (hs : callSrc (s.view ps) c = some y) (hfl : ps.inFlight = [z]) (hne : y ≠ z) : (stepEvent s a ps c).commits = true :=
  (stepEvent_commits_iff s a ps c).2 ⟨hul, hok, y, hs, by rw [hfl]; simp, by rw [hfl]; simpa using hne⟩

/-- A call that commits a copy is allowed by the third clause of `CopyI` at `unlinkat`: it unlinks neither the name in flight
nor with nothing in flight, and the client has nothing in flight. -/
theorem LocalOKr.commit {R : Call → Res → Prop} (h : LocalOKr R M ps) (hc : ps.prog = .call c k)
    (hcm : (stepEvent s a ps c).commits = true) :
    (locOf ps.trace).st = none ∧ ∃ m, M m ∧ (locOf ps.trace).wr = (messageWrite m).1 := by
  obtain ⟨hul, _, y, hy, hne, hny⟩ := (stepEvent_commits_iff s a ps c).1 hcm
  obtain ⟨d, n, rfl⟩ := isUnlink_iff.1 hul
  rcases localOKr_I h hc with hI | ⟨_, h0⟩
  · have hI : (d, n) ∈ inFlightH ps.trace ∨ inFlightH ps.trace = [] ∨ ((locOf ps.trace).st = none ∧
        (locOf ps.trace).dup = none ∧ ∃ m, M m ∧ (locOf ps.trace).wr = (messageWrite m).1) := hI
    rcases hI with h1 | h1 | h3
    · simp only [callSrc, Option.map_eq_some_iff] at hy
      obtain ⟨p, hp, rfl⟩ := hy
      have hp : handlesDirPath ps.handles d = some p := hp
      exact absurd (List.mem_filterMap.2 ⟨(d, n), h1, by simp [hp]⟩) hny
    · exact absurd (inFlight_of_nil h1) hne
    · exact ⟨h3.1, h3.2.2⟩
  · exact absurd (inFlight_of_nil h0) hne

theorem stepCall_origin_other (g : Nat) (h : ∀ y ∈ ps.inFlight, s.fs.lookup y.1 y.2 ≠ some g) :
    originIn (stepCall s a ps c k).log g = originIn s.log g := by
  rw [stepCall_log]
  apply originIn_snoc_same
  right
  show (s.view ps).lookupE ps.inFlight.head? ≠ some g
  cases hf : ps.inFlight with
  | nil => simp [World.lookupE]
  | cons y rest =>
    simp only [List.head?_cons, World.lookupE, Option.bind_some]
    exact h y (by rw [hf]; exact List.mem_cons_self ..)

theorem StepCtx.origin_settled (x : StepCtx M s0 s a ps c k) {p n : Bytes} {g : Nat} (hl : s.fs.lookup p n = some g)
    (hnf : (p, n) ∉ ps.inFlight) : originIn (stepCall s a ps c k).log g = originIn s.log g := by
  apply stepCall_origin_other
  intro y hy hg
  obtain ⟨e1, e2⟩ := x.inv.inj y.1 y.2 p n g hg hl
  apply hnf
  rw [← e1, ← e2]; exact hy

theorem stepCall_origin_commit {y z : Bytes × Bytes} {gy gz : Nat}
    (hul : isUnlink c = true) (hok : isOk (predict (s.view ps) c) = true) (hs : callSrc (s.view ps) c = some y)
    (hfl : ps.inFlight = [z]) (hne : y ≠ z) (hy : s.fs.lookup y.1 y.2 = some gy) (hz : s.fs.lookup z.1 z.2 = some gz) :
    originIn (stepCall s a ps c k).log gz = originIn s.log gy := by
  rw [stepCall_log, originIn_snoc]
  have h1 := commits_of_unlink (a := a) hul hok hs hfl hne
  have h2 : (stepEvent s a ps c).flightFid = some gz := by
    show (s.view ps).lookupE ps.inFlight.head? = some gz
    rw [hfl]; exact hz
  have h3 : (stepEvent s a ps c).srcRoot = some (originIn s.log gy) := by
    show ((s.view ps).lookupE (callSrc (s.view ps) c)).map (originIn s.log) = _
    rw [hs]
    show (s.fs.lookup y.1 y.2).map _ = _
    rw [hy]; rfl
  simp [h1, h2, h3]

theorem StepCtx.noFlight_iff (x : StepCtx M s0 s a ps c k) {e : Bytes × Bytes} :
    NoFlight (stepCall s a ps c k) e ↔
      e ∉ (stepLocal s ps c k).inFlight ∧ ∀ i q, i ≠ a → s.parties[i]? = some q → e ∉ q.inFlight := by
  constructor
  · exact fun h => ⟨h a _ (by rw [x.hpar]; simp), fun i q hi hq => h i q (by rw [x.hpar]; simp [hi, hq])⟩
  · rintro ⟨h1, h2⟩ i q hq
    rcases x.party hq with ⟨rfl, rfl⟩ | ⟨hi, hq⟩
    · exact h1
    · exact h2 i q hi hq

theorem StepCtx.noFlight_keep (x : StepCtx M s0 s a ps c k) {e : Bytes × Bytes} {g : Nat} (h : NoFlight s e)
    (hl : s.fs.lookup e.1 e.2 = some g) : NoFlight (stepCall s a ps c k) e := by
  refine x.noFlight_iff.2 ⟨fun he => ?_, fun i q _ hq => h i q hq⟩
  rcases x.flight_sub he with h1 | h1
  · exact h a ps x.hp h1
  · rw [hl] at h1; cases h1

/-- An entry that is in nobody's flight after the step received the file of the source of a successful
rename (A), is the copy whose original has just been removed (B), or was such an entry before and was
not touched (C). -/
theorem StepCtx.classify (x : StepCtx M s0 s a ps c k) {p n : Bytes} {g : Nat}
    (hl : (stepCall s a ps c k).fs.lookup p n = some g) (hnf : NoFlight (stepCall s a ps c k) (p, n)) :
    (∃ y, c.isRename = true ∧ isOk (predict (s.view ps) c) = true ∧ callDst (s.view ps) c = some (p, n) ∧
        callSrc (s.view ps) c = some y ∧ s.fs.lookup y.1 y.2 = some g ∧ NoFlight s y ∧ y ∉ ps.inFlight ∧
        originIn (stepCall s a ps c k).log g = originIn s.log g) ∨
    (∃ y gy, isUnlink c = true ∧ isOk (predict (s.view ps) c) = true ∧ callSrc (s.view ps) c = some y ∧
        ps.inFlight = [(p, n)] ∧ y ≠ (p, n) ∧ s.fs.lookup y.1 y.2 = some gy ∧ NoFlight s y ∧ s.fs.lookup p n = some g ∧
        originIn (stepCall s a ps c k).log g = originIn s.log gy) ∨
    (s.fs.lookup p n = some g ∧ NoFlight s (p, n) ∧ originIn (stepCall s a ps c k).log g = originIn s.log g ∧
        ¬ (isOk (predict (s.view ps) c) = true ∧ callSrc (s.view ps) c = some (p, n)) ∧
        ¬ (isOk (predict (s.view ps) c) = true ∧ callDst (s.view ps) c = some (p, n))) := by
  have hown := (x.noFlight_iff.1 hnf).1
  rw [x.hL] at hl
  split at hl
  · -- the target of the call
    rename_i hd
    rcases dst_kind hd.2 with hk | hk
    · rw [x.flightAfter, if_pos ⟨hk, hd.1⟩, hd.2] at hown
      exact absurd (List.mem_singleton.2 rfl) hown
    · obtain ⟨y, z, gy, hy, hz, hly, hb⟩ := rename_ok hk hd.1
      rw [hb] at hl; cases hl
      have hyown : y ∉ ps.inFlight := fun h => x.isoF.2 hk y h hy
      have hynf : NoFlight s y := by
        intro i q hq
        by_cases hi : i = a
        · rw [hi, x.hp] at hq; cases hq; exact hyown
        · exact fun h => x.src_not_foreign i q y hi hq h hy
      exact .inl ⟨y, hk, hd.1, hd.2, hy, hly, hynf, hyown, x.origin_settled hly hyown⟩
  rename_i hnd
  split at hl
  · cases hl
  rename_i hns
  by_cases hold : NoFlight s (p, n)
  · exact .inr (.inr ⟨hl, hold, x.origin_settled hl (hold a ps x.hp), hns, hnd⟩)
  · -- it was in flight: only the issuing party can have committed it
    have hex : ∃ (i : Nat) (q : PState), s.parties[i]? = some q ∧ (p, n) ∈ q.inFlight := by
      apply Classical.byContradiction
      intro hne
      exact hold (fun i q hq h => hne ⟨i, q, hq, h⟩)
    obtain ⟨i, q, hq, hin⟩ := hex
    by_cases hi : i = a
    · rw [hi, x.hp] at hq; cases hq
      have hncr : ¬ (isCreate c = true ∧ isOk (predict (s.view ps) c) = true) := by
        rintro ⟨hk, _⟩
        rw [inFlight_of_nil (copyI_create_nil x.loc x.hc hk)] at hin
        cases hin
      have hsec : (c.isRename = true ∨ isUnlink c = true) ∧ isOk (predict (s.view ps) c) = true := by
        apply Classical.byContradiction
        intro hne
        apply hown
        rw [x.flightAfter, if_neg hncr, if_neg hne]
        exact hin
      have hfl := x.flight_eq hin
      rcases hsec.1 with hrn | hul
      · -- a rename onto the name in flight: it is the target
        exfalso
        obtain ⟨y, z, gy, hy, hz, hly, hb⟩ := rename_ok hrn hsec.2
        rcases x.proto with hI | ⟨_, h0⟩
        · obtain ⟨d1, n1, d2, n2, rfl⟩ := isRename_iff.1 hrn
          obtain ⟨p', hp', hfl'⟩ := x.flight_of_mem (show (d2, n2) ∈ inFlightH ps.trace from hI)
          cases hfl.symm.trans hfl'
          exact hnd ⟨hsec.2, by simp [callDst, view_dirPath, hp']⟩
        · rw [inFlight_of_nil h0] at hin; cases hin
      · -- the original has been removed: the copy is the message
        have hsrc : ∃ y gy, callSrc (s.view ps) c = some y ∧ s.fs.lookup y.1 y.2 = some gy := by
          obtain ⟨d, n0, rfl⟩ := isUnlink_iff.1 hul
          rcases unlinkat_state (s.view ps) d n0 with ⟨p', f, hp', hl', hpr, _⟩ | ⟨_, hpr⟩
          · exact ⟨(p', n0), f, by simp [callSrc, hp'], hl'⟩
          · rw [hpr] at hsec; simp [isOk] at hsec
        obtain ⟨y, gy, hy, hly⟩ := hsrc
        have hne : y ≠ (p, n) := by
          rintro rfl
          exact hns ⟨hsec.2, hy⟩
        have hynf : NoFlight s y := by
          intro i q hq
          by_cases hi : i = a
          · rw [hi, x.hp] at hq; cases hq
            rw [hfl]; simpa using hne
          · exact fun h => x.src_not_foreign i q y hi hq h hy
        exact .inr (.inl ⟨y, gy, hul, hsec.2, hy, hfl, hne, hly, hynf, hl,
          stepCall_origin_commit hul hsec.2 hy hfl hne hly hl⟩)
    · exact absurd hin ((x.noFlight_iff.1 hnf).2 i q hi hq)

end Mdsort.Proofs.Parties
