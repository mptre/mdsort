import Mdsort.Proofs.WorldFuel

/-!
# Along an observed trace the fuel suffices as soon as it exceeds the length of the trace

Every iteration of a `readdir` loop of the model issues a call, and `Model.conform` consumes one element of the observed
trace per call: a loop with more fuel than the trace is long cannot stop for lack of fuel - the conformance walk ends
(`done`) only where the program ends by itself, or it reports a divergence.  So with `env.extraFuel ≥ |trace|` the flag
`fuelOut` is never set in a `done` answer: the conformance check compares the real run with the UNBOUNDED loops.
-/

namespace Mdsort.Proofs.Fuel
open Mdsort Mdsort.Model Mdsort.Proofs
open Mdsort.Proofs.World (bind_eq pure_eq call_bind All)

theorem conform_rest_le {α} (p : Prog α) (w : World) (tr : List (Call × Res)) (pos : Nat)
    {a : α} {w' : World} {rest : List (Call × Res)} (h : conform p w tr pos = .done a w' rest) : rest.length ≤ tr.length := by
  induction p generalizing w tr pos with
  | ret b =>
    simp only [conform] at h
    cases h
    exact Nat.le_refl _
  | call c k ih =>
    obtain ⟨_, _, _, _, rfl, _, _, h⟩ := conform_call_done.1 h
    exact Nat.le_succ_of_le (ih _ _ _ _ h)

theorem conform_bind_done {α β} (p : Prog α) (f : α → Prog β) (w : World) (tr : List (Call × Res)) (pos : Nat)
    {b : β} {w2 : World} {rest2 : List (Call × Res)} (h : conform (p.bind f) w tr pos = .done b w2 rest2) :
    ∃ a w1 rest1 pos1, conform p w tr pos = .done a w1 rest1 ∧ conform (f a) w1 rest1 pos1 = .done b w2 rest2 := by
  induction p generalizing w tr pos with
  | ret a => exact ⟨a, w, tr, pos, rfl, h⟩
  | call c k ih =>
    obtain ⟨c', r, tr1, w1, htr, hs, hw, h⟩ := conform_call_done.1 h
    obtain ⟨a, w3, rest1, pos1, hp, hk⟩ := ih _ _ _ _ h
    exact ⟨a, w3, rest1, pos1, conform_call_done.2 ⟨c', r, tr1, w1, htr, hs, hw, hp⟩, hk⟩

theorem conform_walk_fuel (env : PEnv) (orc : EvalOracles) (expr : Expr) (fuel : Nat) :
    ∀ (md : Maildir) (st : MainSt) (w : World) (tr : List (Call × Res)) (pos : Nat) (r : MainSt × Maildir) (w' : World)
      (rest : List (Call × Res)), conform (walk env orc expr fuel md st) w tr pos = .done r w' rest → tr.length < fuel →
      r.1.fuelOut = st.fuelOut := by
  induction fuel with
  | zero => intro _ _ _ tr _ _ _ _ _ hlt; exact absurd hlt (Nat.not_lt_zero _)
  | succ n ih =>
    intro md st w tr pos r w' rest h hlt
    rw [Own.walk_succ] at h
    cases hd : md.dirH with
    | none =>
      rw [hd] at h
      simp only [conform] at h
      cases h
      rfl
    | some d =>
      rw [hd] at h
      dsimp only at h
      obtain ⟨c', rr, tr1, w1, rfl, -, -, h1⟩ := conform_call_done.1 h
      have hlt1 : tr1.length < n := by simp only [List.length_cons] at hlt; omega
      unfold Own.walkK at h1
      cases rr with
      | name x =>
        dsimp only at h1
        split at h1
        · exact ih _ _ _ _ _ _ _ _ h1 hlt1
        · obtain ⟨a, w2, rest1, pos1, hp, hk⟩ := conform_bind_done _ _ _ _ _ h1
          have hle := conform_rest_le _ _ _ _ hp
          have h2 := ih _ _ _ _ _ _ _ _ hk (by omega)
          have h3 := all_conform (processMessage_fuelOut env orc expr md x st) _ _ _ hp
          exact h2.trans h3
      | eof =>
        dsimp only at h1
        split at h1
        · simp only [conform] at h1; cases h1; rfl
        · split at h1
          · simp only [conform] at h1; cases h1; rfl
          · split at h1
            · simp only [conform] at h1; cases h1; rfl
            · obtain ⟨a, w2, rest1, pos1, hp, hk⟩ := conform_bind_done _ _ _ _ _ h1
              have hle := conform_rest_le _ _ _ _ hp
              split at hk
              · simp only [conform] at hk; cases hk; rfl
              · exact ih _ _ _ _ _ _ _ _ hk (by omega)
      | ok v => simp only [conform] at h1; cases h1; rfl
      | err e => simp only [conform] at h1; cases h1; rfl

theorem conform_closeLoop_fuel (d : Handle) (fuel : Nat) :
    ∀ (w : World) (tr : List (Call × Res)) (pos : Nat) (fo : Bool) (w' : World) (rest : List (Call × Res)),
      conform (closeStdin.loop d fuel) w tr pos = .done fo w' rest → tr.length < fuel → fo = false := by
  induction fuel with
  | zero => intro _ tr _ _ _ _ _ hlt; exact absurd hlt (Nat.not_lt_zero _)
  | succ n ih =>
    intro w tr pos fo w' rest h hlt
    unfold closeStdin.loop at h
    simp only [bind_eq, pure_eq, call_bind] at h
    obtain ⟨c', rr, tr1, w1, rfl, -, -, h1⟩ := conform_call_done.1 h
    have hlt1 : tr1.length < n := by simp only [List.length_cons] at hlt; omega
    split at h1
    · split at h1
      · exact ih _ _ _ _ _ _ h1 hlt1
      · obtain ⟨c'', r2, tr2, w2, rfl, -, -, h2⟩ := conform_call_done.1 h1
        exact ih _ _ _ _ _ _ h2 (by simp only [List.length_cons] at hlt1; omega)
    · simp only [conform] at h1; cases h1; rfl

theorem conform_closeStdin_fuel (fuel : Nat) (md : Maildir) (w : World) (tr : List (Call × Res)) (pos : Nat) (fo : Bool) (w' : World)
    (rest : List (Call × Res)) (h : conform (closeStdin fuel md) w tr pos = .done fo w' rest) (hlt : tr.length < fuel) :
    fo = false := by
  unfold closeStdin at h
  simp only [bind_eq, pure_eq] at h
  obtain ⟨a, w1, rest1, pos1, hp, hk⟩ := conform_bind_done _ _ _ _ _ h
  have ha : a = false := by
    cases hdh : md.dirH with
    | some d =>
      rw [hdh] at hp
      simp only [call_bind] at hp
      obtain ⟨c', rr, tr1, w2, rfl, -, -, h1⟩ := conform_call_done.1 hp
      exact conform_closeLoop_fuel _ _ _ _ _ _ _ _ h1 (by simp only [List.length_cons] at hlt; omega)
    | none =>
      rw [hdh] at hp
      simp only [conform] at hp; cases hp; rfl
  subst ha
  have hall : All (fun b : Bool => b = false)
      ((call (.rmdir md.path)).bind fun _ => (call (.rmdir md.root)).bind fun _ =>
        match md.dirH with
        | some d => (call (.closedir d)).bind fun _ => Prog.ret false
        | none => Prog.ret false) := by
    refine World.All.bind_of_forall _ fun _ => World.All.bind_of_forall _ fun _ => ?_
    split
    · exact World.All.bind_of_forall _ fun _ => rfl
    · exact rfl
  exact all_conform hall _ _ _ hk

theorem spooledSt_fuelOut (st : MainSt) (md : Maildir) (input : Bytes) (o : Option Bytes) :
    (spooledSt st md input o).fuelOut = st.fuelOut := by
  cases o <;> rfl

theorem conform_paths_fuel (env : PEnv) (orc : EvalOracles) (input : Bytes) (b : ConfBlock) (ps : List Bytes) :
    ∀ (st : MainSt) (w : World) (tr : List (Call × Res)) (pos : Nat) (st' : MainSt) (w' : World) (rest : List (Call × Res)),
      conform (mainP.blocks.paths env orc input b ps st) w tr pos = .done st' w' rest → tr.length ≤ env.extraFuel →
      st'.fuelOut = st.fuelOut := by
  induction ps with
  | nil =>
    intro st w tr pos st' w' rest h _
    rw [Own.paths_nil] at h
    simp only [conform] at h
    cases h
    rfl
  | cons p more ih =>
    intro st w tr pos st' w' rest h hlen
    rw [Own.paths_cons] at h
    split at h
    · exact ih _ _ _ _ _ _ _ h hlen
    · split at h
      · obtain ⟨x, w1, rest1, pos1, hp1, hk1⟩ := conform_bind_done _ _ _ _ _ h
        have hle1 := conform_rest_le _ _ _ _ hp1
        split at hk1
        · obtain ⟨fo, w2, rest2, pos2, hp2, hk2⟩ := conform_bind_done _ _ _ _ _ hk1
          have hle2 := conform_rest_le _ _ _ _ hp2
          have hfo := conform_closeStdin_fuel _ _ _ _ _ _ _ _ hp2 (by simp only [stdinFuel]; omega)
          subst hfo
          have := ih _ _ _ _ _ _ _ hk2 (by omega)
          simpa [orFuel] using this
        · obtain ⟨y, w2, rest2, pos2, hp2, hk2⟩ := conform_bind_done _ _ _ _ _ hk1
          have hle2 := conform_rest_le _ _ _ _ hp2
          have hy := conform_walk_fuel _ _ _ _ _ _ _ _ _ _ _ _ hp2 (by simp only [stdinFuel]; omega)
          obtain ⟨fo, w3, rest3, pos3, hp3, hk3⟩ := conform_bind_done _ _ _ _ _ hk2
          have hle3 := conform_rest_le _ _ _ _ hp3
          have hfo := conform_closeStdin_fuel _ _ _ _ _ _ _ _ hp3 (by simp only [stdinFuel]; omega)
          subst hfo
          have := ih _ _ _ _ _ _ _ hk3 (by omega)
          rw [this]
          simp only [orFuel, Bool.or_false]
          rw [hy, spooledSt_fuelOut]
      · split at h
        · rename_i root np _ _
          obtain ⟨x, w1, rest1, pos1, hp1, hk1⟩ := conform_bind_done _ _ _ _ _ h
          have hle1 := conform_rest_le _ _ _ _ hp1
          split at hk1
          · exact ih { st with error := true } _ _ _ _ _ _ hk1 (by omega)
          · obtain ⟨y, w2, rest2, pos2, hp2, hk2⟩ := conform_bind_done _ _ _ _ _ hk1
            have hle2 := conform_rest_le _ _ _ _ hp2
            have hy := conform_walk_fuel _ _ _ _ _ _ _ _ _ _ _ _ hp2 (by simp only [walkFuel]; omega)
            obtain ⟨u, w3, rest3, pos3, hp3, hk3⟩ := conform_bind_done _ _ _ _ _ hk2
            have hle3 := conform_rest_le _ _ _ _ hp3
            have := ih _ _ _ _ _ _ _ hk3 (by omega)
            exact this.trans hy
        · exact ih { st with error := true } _ _ _ _ _ _ h hlen

theorem conform_blocks_fuel (env : PEnv) (orc : EvalOracles) (input : Bytes) (bs : List ConfBlock) :
    ∀ (st : MainSt) (w : World) (tr : List (Call × Res)) (pos : Nat) (st' : MainSt) (w' : World) (rest : List (Call × Res)),
      conform (mainP.blocks env orc input bs st) w tr pos = .done st' w' rest → tr.length ≤ env.extraFuel →
      st'.fuelOut = st.fuelOut := by
  induction bs with
  | nil =>
    intro st w tr pos st' w' rest h _
    rw [Own.blocks_nil] at h
    simp only [conform] at h
    cases h
    rfl
  | cons b rest' ih =>
    intro st w tr pos st' w' rest h hlen
    rw [Own.blocks_cons] at h
    obtain ⟨x, w1, rest1, pos1, hp1, hk1⟩ := conform_bind_done _ _ _ _ _ h
    have hle1 := conform_rest_le _ _ _ _ hp1
    have h1 := conform_paths_fuel env orc input b b.paths _ _ _ _ _ _ _ hp1 hlen
    have h2 := ih _ _ _ _ _ _ _ hk1 (by omega)
    exact h2.trans h1

/-- Along an observed trace, fuel above the length of the trace suffices: if `env.extraFuel` is at least the
length of the trace and the conformance walk of `mainP` ends (`done`), the final state does not have `fuelOut` - no
`readdir` loop of the model stopped for lack of fuel.  (Whatever the trace is: results possible in the abstract file
system or not, a real run or an invented one.) -/
theorem fuel_suffices_conform (env : PEnv) (orc : EvalOracles) (confOk : Bool) (conf : List ConfBlock) (files : Files)
    (input : Bytes) (w : World) (tr : List (Call × Res)) (hlen : tr.length ≤ env.extraFuel)
    {a : Nat × MainSt} {w' : World} {rest : List (Call × Res)}
    (hd : conform (mainP env orc confOk conf files input) w tr 0 = .done a w' rest) : a.2.fuelOut = false := by
  rw [Own.mainP_eq] at hd
  obtain ⟨c', r, tr1, w1, rfl, -, -, h1⟩ := conform_call_done.1 hd
  cases r with
  | ok h =>
    dsimp only at h1
    obtain ⟨c'', r2, tr2, w2, rfl, -, -, h2⟩ := conform_call_done.1 h1
    unfold Own.mainK at h2
    split at h2
    · simp only [conform] at h2; cases h2; rfl
    · split at h2
      · simp only [conform] at h2; cases h2; rfl
      · obtain ⟨x, w3, rest3, pos3, hp3, hk3⟩ := conform_bind_done _ _ _ _ _ h2
        simp only [conform] at hk3
        cases hk3
        exact conform_blocks_fuel env orc input conf _ _ _ _ _ _ _ hp3 (by simp only [List.length_cons] at hlen; omega)
  | err e => simp only [conform] at h1; cases h1; rfl
  | name x => simp only [conform] at h1; cases h1; rfl
  | eof => simp only [conform] at h1; cases h1; rfl

end Mdsort.Proofs.Fuel
