import Mdsort.Proofs.WorldCountExec
import Mdsort.Proofs.World
import Mdsort.Proofs.EvalPWorld

/-!
# `message_parse` under EVERY fault plan: nothing changes but one new read-only descriptor

`whole_start_of_parse`: a successful parse of a bound, complete file leads to a world that satisfies
`Start` / `StartAt` (World.lean) with `orig` = the content of the file.
-/

namespace Mdsort.Proofs.World
open Mdsort Mdsort.Model

/-- An object through which nothing can be written. -/
def WholeNonW (o : Obj) : Prop := (∀ fid off, o ≠ .file fid off true) ∧ ∀ fid buf, o ≠ .stream fid buf

/-- The footprint of the parse phase relative to `w`: directories, files, ids and older handles are
the same; the handles created since cannot be written through. -/
structure WholePF (w w' : World) : Prop where
  dirs : w'.dirs = w.dirs
  files : w'.files = w.files
  nextFid : w'.nextFid = w.nextFid
  objs : ∀ h, h < w.handles.length → w'.obj h = w.obj h
  len : w.handles.length ≤ w'.handles.length
  noW : ∀ h, w.handles.length ≤ h → WholeNonW (w'.obj h)

theorem WholePF.refl (w : World) : WholePF w w := by
  refine ⟨rfl, rfl, rfl, fun _ _ => rfl, Nat.le_refl _, ?_⟩
  intro h hh
  rw [obj_of_ge w h hh]
  exact ⟨(by intro _ _ h; cases h), (by intro _ _ h; cases h)⟩

theorem WholePF.trace {w w1 : World} (pf : WholePF w w1) (tr : List (Call × Res)) : WholePF w { w1 with trace := tr } :=
  ⟨pf.dirs, pf.files, pf.nextFid, pf.objs, pf.len, pf.noW⟩

theorem WholePF.step_of_core {w w1 X : World} {c : Call} {r : Res} (h : core w1 c r = X) (hX : WholePF w X) :
    WholePF w (stepWorld w1 c r) := by
  rw [stepWorld_eq, h]; exact hX.trace _

theorem WholePF.setObj {w w1 : World} (pf : WholePF w w1) {fd : Handle} {o : Obj} (hfd : w.handles.length ≤ fd) (ho : WholeNonW o) :
    WholePF w (w1.setObj fd o) := by
  refine ⟨pf.dirs, pf.files, pf.nextFid, ?_, ?_, ?_⟩
  · intro h hh
    rw [obj_setObj]
    have : ¬ (h = fd ∧ fd < w1.handles.length) := by intro hc; omega
    simp only [this, if_false]
    exact pf.objs h hh
  · rw [len_setObj]; exact pf.len
  · intro h hh
    rw [obj_setObj]
    split
    · exact ho
    · exact pf.noW h hh

theorem WholePF.newHandle {w w1 : World} (pf : WholePF w w1) {o : Obj} (ho : WholeNonW o) :
    WholePF w (w1.newHandle o).1 := by
  refine ⟨pf.dirs, pf.files, pf.nextFid, ?_, ?_, ?_⟩
  · intro h hh
    rw [obj_newHandle]
    have : h ≠ w1.handles.length := by have := pf.len; omega
    simp only [this, if_false]
    exact pf.objs h hh
  · rw [len_newHandle]; exact Nat.le_succ_of_le pf.len
  · intro h hh
    rw [obj_newHandle]
    split
    · exact ho
    · exact pf.noW h hh

theorem WholePF.trans {w0 w1 w2 : World} (a : WholePF w0 w1) (b : WholePF w1 w2) : WholePF w0 w2 := by
  refine ⟨b.dirs.trans a.dirs, b.files.trans a.files, b.nextFid.trans a.nextFid, ?_, Nat.le_trans a.len b.len, ?_⟩
  · intro h hh
    rw [b.objs h (Nat.lt_of_lt_of_le hh a.len)]
    exact a.objs h hh
  · intro h hh
    rcases Nat.lt_or_ge h w1.handles.length with h1 | h1
    · rw [b.objs h h1]; exact a.noW h hh
    · exact b.noW h h1

/-- The footprint of evaluation (EvalPWorld) is inside that of the parse phase: its new handles are `/dev/null` descriptors. -/
theorem EvalFoot.pf {w w' : World} (ef : EvalFoot w w') : WholePF w w' := by
  refine ⟨ef.dirs, ef.files, ef.nextFid, ef.objs, ef.len, fun h hh => ?_⟩
  rcases ef.new h hh with h2 | h2 <;> rw [h2] <;> exact ⟨nofun, nofun⟩

theorem WholePF.toK {w w' : World} (pf : WholePF w w') (a : Ent) : WholeK a w.handles.length w w' := by
  refine ⟨?_, ?_, Nat.le_of_eq pf.nextFid.symm, pf.objs, pf.len, ?_, Nat.le_refl _⟩
  · intro x fid _ h
    unfold lk
    rw [lookup_of_dirs pf.dirs]; exact h
  · intro g _; exact file_of_files pf.files g
  · intro q hq; rw [dir_of_dirs pf.dirs q]; exact hq

theorem whole_nonW_ro (fid off : Nat) : WholeNonW (.file fid off false) :=
  ⟨(by intro _ _ h; cases h), (by intro _ _ h; cases h)⟩

theorem whole_nonW_closed : WholeNonW .closed :=
  ⟨(by intro _ _ h; cases h), (by intro _ _ h; cases h)⟩

theorem whole_readAll (fd : Handle) (fid : Nat) {w : World} (hfd : w.handles.length ≤ fd) (fuel : Nat) {w1 : World} {off : Nat}
    (pf : WholePF w w1) (ho : w1.obj fd = .file fid off false) :
    wp (WholePF w) (readAll fd fuel) (fun _ w' => WholePF w w' ∧ ∃ off', w'.obj fd = .file fid off' false) w1 := by
  induction fuel generalizing w1 off with
  | zero => exact ⟨pf, off, ho⟩
  | succ fuel ih =>
    unfold readAll
    simp only [bind_eq, pure_eq, call_bind]
    refine wp_call_any fun r => ?_
    have hlt : fd < w1.handles.length := lt_of_obj_ne_closed w1 fd (by rw [ho]; intro h; cases h)
    have key : WholePF w (stepWorld w1 (.read fd) r) ∧ ∃ off', (stepWorld w1 (.read fd) r).obj fd = .file fid off' false := by
      rcases core_read ho r with hc | ⟨n, hc⟩
      · exact ⟨WholePF.step_of_core hc pf, off, by rw [stepWorld_obj, hc]; exact ho⟩
      · refine ⟨WholePF.step_of_core hc (pf.setObj hfd (whole_nonW_ro _ _)), off + n, ?_⟩
        rw [stepWorld_obj, hc, obj_setObj]
        simp [hlt]
    obtain ⟨pf1, off1, ho1⟩ := key
    refine ⟨pf1, ?_⟩
    split
    · split
      · exact ⟨pf1, off1, ho1⟩
      · exact ih pf1 ho1
    · exact ⟨pf1, off1, ho1⟩

theorem whole_messageParseP (d : Handle) (dir name content : Bytes) {w : World} :
    wp (WholePF w) (messageParseP d dir name content)
      (fun r w' => WholePF w w' ∧ ∀ ms, r = some ms →
        ms.name = name ∧ ms.loc = some (dir, name) ∧ ms.content = content ∧ ms.fd = some w.handles.length ∧
        w.handles.length < w'.handles.length) w := by
  unfold messageParseP
  simp only [bind_eq, pure_eq, call_bind]
  intro ft
  rcases whole_openRd_results ft w d name with ⟨e, he⟩ | ⟨he, p, fid, hp, hl⟩
  · rw [he]
    have pf1 : WholePF w (stepWorld w (.openRd d name) (.err e)) :=
      WholePF.step_of_core (core_fail w e rfl) (WholePF.refl w)
    exact ⟨pf1, pf1, by intro _ h; cases h⟩
  · rw [he]
    have hc := core_openRd_ok hp hl w.handles.length
    have pf1 : WholePF w (stepWorld w (.openRd d name) (.ok w.handles.length)) :=
      WholePF.step_of_core hc ((WholePF.refl w).newHandle (whole_nonW_ro fid 0))
    have ho1 : (stepWorld w (.openRd d name) (.ok w.handles.length)).obj w.handles.length = .file fid 0 false := by
      rw [stepWorld_obj, hc, obj_newHandle]; simp
    refine ⟨pf1, ?_⟩
    dsimp only
    refine wp_bind_mono (whole_readAll w.handles.length fid (Nat.le_refl _) _ pf1 ho1) ?_
    rintro failed w2 ⟨pf2, off2, ho2⟩
    have hlt2 : w.handles.length < w2.handles.length := lt_of_obj_ne_closed w2 _ (by rw [ho2]; intro h; cases h)
    have closeNone : wp (WholePF w) (Prog.call (Call.close w.handles.length) fun _ => Prog.ret (none : Option MsgSt))
        (fun r w' => WholePF w w' ∧ ∀ ms, r = some ms →
          ms.name = name ∧ ms.loc = some (dir, name) ∧ ms.content = content ∧ ms.fd = some w.handles.length ∧
          w.handles.length < w'.handles.length) w2 := by
      refine wp_call_any fun r => ?_
      have pf3 := WholePF.step_of_core (core_close w2 w.handles.length r) (pf2.setObj (Nat.le_refl _) whole_nonW_closed)
      exact ⟨pf3, pf3, by intro _ h; cases h⟩
    split
    · exact closeNone
    · split
      · split
        · -- path and name fit and the flags parse; `hn`: the name fits (`strlcpyFits`)
          rename_i hn _ _ _
          refine ⟨pf2, ?_⟩
          intro ms h
          cases h
          exact ⟨eq_of_strlcpyFits hn, rfl, rfl, rfl, hlt2⟩
        · exact closeNone
      · exact closeNone

end Mdsort.Proofs.World

namespace Mdsort.Proofs
open Mdsort Mdsort.Model

theorem whole_wp_all {α} {I : World → Prop} {p : Prog α} {Q : α → World → Prop} {P : α → Prop} {w : World}
    (h : World.wp I p Q w) (ha : World.All P p) : World.wp I p (fun a w' => Q a w' ∧ P a) w :=
  World.wp_inv_mono (World.wp_both h (World.wp_of_all ha)) fun _ h => h.1

/-- The side conditions of `Start` that concern the world only. -/
structure WholeClean (w : World) : Prop where
  noWriters : ∀ h fid off, w.obj h ≠ .file fid off true
  noStreams : ∀ h fid buf, w.obj h ≠ .stream fid buf
  freshIds : ∀ p, p ∈ w.files → p.1 < w.nextFid
  uniqueNames : ∀ d es, w.dir d = some es → (es.map (·.1)).Nodup

/-- `WholeClean` as a check, for literal worlds. -/
def wholeCleanOk (w : World) : Bool :=
  w.handles.all (fun o => match o with | .file _ _ true => false | .stream _ _ => false | _ => true) &&
  w.files.all (fun p => decide (p.1 < w.nextFid)) && w.dirs.all (fun d => decide (d.2.map (·.1)).Nodup)

theorem wholeClean_of_ok {w : World} (h : wholeCleanOk w = true) : WholeClean w := by
  simp only [wholeCleanOk, Bool.and_eq_true, List.all_eq_true, decide_eq_true_eq] at h
  obtain ⟨⟨h1, h2⟩, h3⟩ := h
  have hobj : ∀ hd, w.obj hd = .closed ∨ w.obj hd ∈ w.handles := by
    intro hd
    by_cases hlt : hd < w.handles.length
    · right
      unfold World.obj
      simp only [List.getD_eq_getElem?_getD, List.getElem?_eq_getElem hlt, Option.getD_some]
      exact List.getElem_mem hlt
    · exact .inl (World.obj_of_ge w hd (Nat.le_of_not_lt hlt))
  refine ⟨fun hd fid off he => ?_, fun hd fid buf he => ?_, fun p hp => h2 p hp, fun d es hd => ?_⟩
  · rcases hobj hd with hc | hm
    · rw [hc] at he; cases he
    · have := h1 _ hm; rw [he] at this; cases this
  · rcases hobj hd with hc | hm
    · rw [hc] at he; cases he
    · have := h1 _ hm; rw [he] at this; cases this
  · exact h3 (d, es) (World.mem_dirs_of_dir hd)

theorem WholeClean.of_pf {w w' : World} (hc : WholeClean w) (pf : World.WholePF w w') : WholeClean w' := by
  refine ⟨?_, ?_, ?_, ?_⟩
  · intro h fid off
    by_cases hh : h < w.handles.length
    · rw [pf.objs h hh]; exact hc.noWriters h fid off
    · exact (pf.noW h (Nat.le_of_not_lt hh)).1 fid off
  · intro h fid buf
    by_cases hh : h < w.handles.length
    · rw [pf.objs h hh]; exact hc.noStreams h fid buf
    · exact (pf.noW h (Nat.le_of_not_lt hh)).2 fid buf
  · intro p hp
    rw [pf.files] at hp
    rw [pf.nextFid]
    exact hc.freshIds p hp
  · intro d es hd
    rw [World.dir_of_dirs pf.dirs d] at hd
    exact hc.uniqueNames d es hd

/-- `StartAt` from the footprint of the parse phase (and of everything that stays inside it, such as evaluation). -/
theorem whole_startAt_of_pf (md : Maildir) (d : Handle) (name content : Bytes) (w w' : World) (fid : Nat)
    (hd : md.dirH = some d) (hp : w.dirPath d = some md.path)
    (hwf : pathjoin PATH_MAX md.root (subdirName md.subdir) = some md.path)
    (hl : w.lookup md.path name = some fid) (hf : w.file fid = some ⟨content, content⟩) (hc : WholeClean w)
    (pf : World.WholePF w w') (ms : MsgSt) (h1 : ms.name = name) (h2 : ms.loc = some (md.path, name)) (h3 : ms.content = content)
    (h4 : ms.fd = some w.handles.length) (h5 : w.handles.length < w'.handles.length) (m : Msg) (fl : MFlags) :
    StartAt w' { src := md, chsrc := false, ms := { ms with msg := m, flags := fl }, reject := false } content := by
  have hc' := hc.of_pf pf
  have hdlt : d < w.handles.length := World.lt_of_dirPath hp
  refine ⟨⟨⟨d, hd, ?_⟩, ⟨fid, ?_, ?_⟩, hc'.noWriters, hc'.noStreams, hc'.freshIds, hc'.uniqueNames⟩, hwf, ?_, h3, ?_⟩
  · rw [← hp]; exact World.dirPath_congr (pf.objs d hdlt)
  · show w'.lookup md.path ms.name = some fid
    rw [h1, World.lookup_of_dirs pf.dirs]; exact hl
  · rw [World.file_of_files pf.files]; exact hf
  · show ms.loc = some (md.path, ms.name)
    rw [h2, h1]
  · intro h hh
    have : h = w.handles.length := by
      have : ms.fd = some h := hh
      rw [h4] at this
      cases this; rfl
    subst this
    refine ⟨h5, ?_⟩
    show md.dirH ≠ some w.handles.length
    rw [hd]
    intro hcontra
    cases hcontra
    exact Nat.lt_irrefl _ hdlt

/-- C01, `C01_start_of_parse`, in the terms of `runPlan`.  `m` and `fl`: whatever interpolated message and flag set
`processMessage` hands to `matches_exec`. -/
theorem whole_start_of_parse (md : Maildir) (d : Handle) (name content : Bytes) (w : World) (fid : Nat) (plan : Plan)
    (i : Nat) (hist : List World)
    (hd : md.dirH = some d) (hp : w.dirPath d = some md.path)
    (hwf : pathjoin PATH_MAX md.root (subdirName md.subdir) = some md.path)
    (hl : w.lookup md.path name = some fid) (hf : w.file fid = some ⟨content, content⟩) (hc : WholeClean w)
    (ms : MsgSt) (hr : (runPlan plan (messageParseP d md.path name content) w i hist).1 = some ms) (m : Msg) (fl : MFlags) :
    StartAt (runPlan plan (messageParseP d md.path name content) w i hist).2.1
      { src := md, chsrc := false, ms := { ms with msg := m, flags := fl }, reject := false } content := by
  obtain ⟨pf, hms⟩ := (World.wp_sound plan (World.whole_messageParseP d md.path name content (w := w)) i).2
  rw [World.runPlan_eq] at hr ⊢
  obtain ⟨h1, h2, h3, h4, h5⟩ := hms ms hr
  exact whole_startAt_of_pf md d name content w _ fid hd hp hwf hl hf hc pf ms h1 h2 h3 h4 h5 m fl

end Mdsort.Proofs
