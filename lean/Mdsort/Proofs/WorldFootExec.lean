import Mdsort.Proofs.WorldMid

/-! The scripts of the `exec` action (`writefd`, the write loop, `message_get_fd`, `exec()`) and the destination open,
walked once for every relation of admissible results that are `Sane`.  The scripts of `exec` change no directory and write
temporary files only (`FrNew w0` = `Fr1 (NewS w0) w0` after every call); what `message_get_fd` returns is described as
exactly as any user needs it (ExecSeqFrame: the content of the temporary file, the last call). -/

namespace Mdsort.Proofs.World
open Mdsort Mdsort.Model Mdsort.Spec

/-- Files created after `w0`. -/
abbrev NewS (w0 : World) : Nat → Prop := fun g => w0.nextFid ≤ g

theorem Fr1.of_frW {S : Nat → Prop} {fid : Nat} {w w1 w2 : World} (a : Fr1 S w w1) (fr : FrW fid w1 w2)
    (hS : S fid) : Fr1 S w w2 := by
  refine ⟨fr.dirs.trans a.dirs, ?_, Nat.le_trans a.len fr.len, ?_, ?_⟩
  · intro h hh
    rw [fr.objs h (Nat.lt_of_lt_of_le hh a.len), a.objs h hh]
  · rw [fr.nextFid]; exact a.nextFid
  · intro g hg hs
    rw [fr.files g (Nat.lt_of_lt_of_le hg a.nextFid) (by rintro rfl; exact hs hS), a.files g hg hs]

abbrev FrNew (w0 : World) : World → Prop := fun w' => Fr1 (NewS w0) w0 w'

theorem GoodAt.of_fr1 {w w' : World} {cs : List Bytes} {p n : Bytes} {g : Nat} (hg : GoodAt w cs p n g)
    (fr : FrNew w w') : GoodAt w' cs p n g := by
  obtain ⟨hl, hlt, f, hf, h1, h2⟩ := hg
  exact ⟨by rw [lookup_of_dirs fr.dirs]; exact hl, Nat.lt_of_lt_of_le hlt fr.nextFid, f,
    by rw [fr.files g hlt (Nat.not_le.2 hlt)]; exact hf, h1, h2⟩

theorem GoodAt.of_mid {w w' : World} {cs : List Bytes} {p n : Bytes} {g : Nat} (hg : GoodAt w cs p n g)
    (m : Mid w w' (lk w)) : GoodAt w' cs p n g := by
  obtain ⟨hl, hlt, f, hf, h1, h2⟩ := hg
  exact ⟨(m.look (p, n)).trans hl, Nat.lt_of_lt_of_le hlt m.nextFid, f, (m.files g hlt).trans hf, h1, h2⟩

section
variable {R : World → Call → Res → Prop} (hR : ∀ {w c r}, R w c r → Sane w c r)
include hR

theorem wpg_writefd (tmpdir : Bytes) {w0 w : World} (fr : FrNew w0 w) :
    wpg R (FrNew w0) (writefd tmpdir)
      (fun r w' => FrNew w0 w' ∧
        ∀ fd, r = some fd → w0.handles.length ≤ fd ∧ ∃ N, w.nextFid ≤ N ∧ N < w'.nextFid ∧
          w'.obj fd = .file N 0 true ∧ w'.file N = some ⟨[], []⟩) w := by
  unfold writefd
  split
  · exact ⟨fr, by intro _ h; cases h⟩
  rename_i tmpl _
  simp only [bind_eq, pure_eq, call_bind]
  intro r hr
  have fr1 := fr.step (.mkostemp tmpl) r rfl (by intro _ h; cases h) (fun _ _ _ => trivial)
  refine ⟨fr1, ?_⟩
  rcases (hR hr).handle rfl with rfl | ⟨e, rfl⟩
  · have hc := core_mkostemp_ok w tmpl w.handles.length
    dsimp only
    refine wpg_call_any fun r2 => ?_
    have fr2 := fr1.step (.unlink tmpl) r2 rfl (by intro _ h; cases h) (fun _ _ _ => trivial)
    refine ⟨fr2, ?_⟩
    split
    · refine ⟨fr2, ?_⟩
      intro fd h
      cases h
      refine ⟨fr.len, w.nextFid, Nat.le_refl _, ?_, ?_, ?_⟩
      · rw [stepWorld_nextFid, core_unlink, stepWorld_nextFid, hc]; simp
      · rw [stepWorld_obj, core_unlink, stepWorld_obj, hc]; simp [obj_newHandle]
      · rw [stepWorld_file, core_unlink, stepWorld_file, hc]; simp [file_setFile]
    · refine wpg_call_any fun r3 => ?_
      have fr3 := fr2.step (.close w.handles.length) r3 rfl (by intro _ h; cases h; exact fr.len) (fun _ _ _ => trivial)
      exact ⟨fr3, fr3, by intro _ h; cases h⟩
  · exact ⟨fr1, by intro _ h; cases h⟩

theorem wpg_writeAll (fd : Handle) (N : Nat) {w0 : World} (hfd : w0.handles.length ≤ fd) (hN : w0.nextFid ≤ N)
    (fuel : Nat) (data : Bytes) {w : World} {off : Nat} {f0 : File} (fr : FrNew w0 w)
    (ho : w.obj fd = .file N off true) (hf : w.file N = some f0) (hlt : N < w.nextFid) :
    wpg R (FrNew w0) (writeAll fd fuel data)
      (fun e w' => FrNew w0 w' ∧ N < w'.nextFid ∧ ∃ off' f, w'.obj fd = .file N off' true ∧ w'.file N = some f ∧
        (e = false → f.data = f0.data ++ data)) w := by
  induction fuel generalizing data w off f0 with
  | zero => exact ⟨fr, hlt, off, f0, ho, hf, by intro h; cases h⟩
  | succ fuel ih =>
    unfold writeAll
    split
    · rename_i hemp
      refine ⟨fr, hlt, off, f0, ho, hf, fun _ => ?_⟩
      have : data = [] := by simpa using hemp
      simp [this]
    rename_i hemp
    simp only [bind_eq, pure_eq, call_bind]
    intro r hr
    have fr1 := fr.step (.write fd data) r rfl (by intro _ h; cases h; exact hfd)
      (fun g hg _ => by
        simp only [fileSafe, ho, objFid, ne_eq, Option.some.injEq]
        intro h; omega)
    have hlt1 : N < (stepWorld w (.write fd data) r).nextFid := by
      simpa using Nat.lt_of_lt_of_le hlt (core_nextFid w (.write fd data) r)
    refine ⟨fr1, ?_⟩
    rcases (hR hr).write _ _ rfl (by simpa using hemp) with ⟨n, rfl, hn0, hnle⟩ | ⟨e, rfl⟩
    · have hc := core_write_file_ok ho hf data n hn0 hnle
      have hfdlt : fd < w.handles.length := lt_of_obj_ne_closed w fd (by simp [ho])
      dsimp only
      have hnz : (n == 0) = false := by simp; omega
      simp only [hnz, Bool.false_eq_true, if_false]
      refine wpg_mono (ih (data.drop n) (off := off + n) (f0 := { f0 with data := f0.data ++ data.take n }) fr1
        (by rw [stepWorld_obj, hc]; simp [obj_setObj, hfdlt])
        (by rw [stepWorld_file, hc]; simp [file_setFile]) hlt1) ?_
      rintro e w' ⟨fr', hlt', off', f, ho', hf', hd⟩
      refine ⟨fr', hlt', off', f, ho', hf', fun he => ?_⟩
      rw [hd he]
      simp [List.append_assoc, List.take_append_drop]
    · have hc := core_fail w (c := .write fd data) e rfl
      exact ⟨fr1, hlt1, off, f0, by rw [stepWorld_obj, hc]; exact ho, by rw [stepWorld_file, hc]; exact hf, by intro h; cases h⟩

omit hR in
theorem wpg_close_none (fd : Handle) {w0 w : World} (hfd : w0.handles.length ≤ fd) (fr : FrNew w0 w)
    {P : Handle → World → Prop} :
    wpg R (FrNew w0) (Prog.call (.close fd) fun _ => Prog.ret (none : Option Handle))
      (fun r w' => FrNew w0 w' ∧ ∀ fd', r = some fd' → P fd' w') w := by
  refine wpg_call_any fun r => ?_
  have fr1 := fr.step (.close fd) r rfl (by intro _ h; cases h; exact hfd) (fun _ _ _ => trivial)
  exact ⟨fr1, fr1, by intro _ h; cases h⟩

/-- A duplicate of the message's descriptor refers to the same object provided the `dupfd` that made it was possible. -/
theorem wpg_messageGetFd (env : PEnv) (ms : MsgSt) (part : Option Msg) (dobody : Bool) {w : World} :
    wpg R (FrNew w) (messageGetFd env ms part dobody)
      (fun r w' => FrNew w w' ∧ ∀ fd, r = some fd →
        w.handles.length ≤ fd ∧
        (∃ rr, w'.trace.getLast? = some (.lseek fd, rr) ∧ rr.isErr = false) ∧
        (dobody = true → ∃ body N off f, getBody (part.getD ms.msg) = some body ∧ w'.obj fd = .file N off true ∧
            w.nextFid ≤ N ∧ w'.file N = some f ∧ f.data = cstr body) ∧
        (dobody = false → part = none → ∃ mfd, ms.fd = some mfd ∧
            ((∀ {w c r}, R w c r → Possible w c r) → w'.obj fd = w.obj mfd))) w := by
  rw [messageGetFd_eq]
  refine wpg_bind_mono
    (S := fun r w' => FrNew w w' ∧ ∀ fd, r = some fd →
        w.handles.length ≤ fd ∧
        (dobody = true → ∃ body N off f, getBody (part.getD ms.msg) = some body ∧ w'.obj fd = .file N off true ∧
            w.nextFid ≤ N ∧ w'.file N = some f ∧ f.data = cstr body) ∧
        (dobody = false → part = none → ∃ mfd, ms.fd = some mfd ∧
            ((∀ {w c r}, R w c r → Possible w c r) → w'.obj fd = w.obj mfd))) ?_ ?_
  · split
    · -- the body, written to a temporary file
      rename_i hb
      split
      · exact ⟨Fr1.refl _ w, by intro _ h; cases h⟩
      · rename_i body hbody
        unfold tmpCopy
        refine wpg_bind_mono (wpg_writefd hR env.tmpdir (Fr1.refl _ w)) ?_
        rintro f w1 ⟨fr1, hf⟩
        cases f with
        | none => exact ⟨fr1, by intro _ h; cases h⟩
        | some fd =>
          obtain ⟨hfd, N, hN, hlt, ho, hfile⟩ := hf fd rfl
          dsimp only
          refine wpg_bind_mono (wpg_writeAll hR fd N hfd hN _ _ fr1 ho hfile hlt) ?_
          rintro e w2 ⟨fr2, hlt2, off', f2, ho2, hf2, hd2⟩
          cases e with
          | true =>
            simp only [if_true]
            exact wpg_close_none fd hfd fr2
          | false =>
            simp only [Bool.false_eq_true, if_false]
            refine ⟨fr2, ?_⟩
            intro fd' h
            cases h
            refine ⟨hfd, fun _ => ?_, by intro h; simp [hb] at h⟩
            exact ⟨body, N, off', f2, hbody, ho2, hN, hf2, by simpa using hd2 rfl⟩
    · rename_i hb
      split
      · -- a part, rendered into a temporary file
        rename_i hpart
        unfold tmpCopy
        refine wpg_bind_mono (wpg_writefd hR env.tmpdir (Fr1.refl _ w)) ?_
        rintro f w1 ⟨fr1, hf⟩
        cases f with
        | none => exact ⟨fr1, by intro _ h; cases h⟩
        | some fd =>
          obtain ⟨hfd, N, hN, -, ho, hfile⟩ := hf fd rfl
          dsimp only
          refine wpg_bind_mono (wpg_inv_mono (wpg_messageWriteP hR _ fd ho hfile) fun _ h => fr1.of_frW h.fr hN) ?_
          rintro e w2 ⟨-, mw⟩
          have fr2 := fr1.of_frW mw.fr hN
          split
          · exact wpg_close_none fd hfd fr2
          · refine ⟨fr2, ?_⟩
            intro fd' h
            cases h
            refine ⟨hfd, by intro h; simp [hb] at h, ?_⟩
            intro _ hp
            rw [hp] at hpart
            simp at hpart
      · -- a duplicate of the message's own descriptor
        split
        · exact ⟨Fr1.refl _ w, by intro _ h; cases h⟩
        · rename_i mfd hmfd
          intro r hr
          have fr1 := (Fr1.refl (NewS w) w).step (.dupfd mfd) r rfl (by intro _ h; cases h) (fun _ _ _ => trivial)
          refine ⟨fr1, fr1, ?_⟩
          intro fd h
          rcases (hR hr).handle rfl with rfl | ⟨e, rfl⟩
          · simp only [resHandle, Option.some.injEq] at h
            subst h
            refine ⟨Nat.le_refl _, by intro h; simp [hb] at h, fun _ _ => ⟨mfd, hmfd, fun hP => ?_⟩⟩
            rw [stepWorld_obj, ExecSeq.core_dupfd_possible (hP hr), obj_newHandle, if_pos rfl]
          · simp [resHandle] at h
  · rintro fdo w1 ⟨fr1, hfd⟩
    cases fdo with
    | none => exact ⟨fr1, by intro _ h; cases h⟩
    | some fd =>
      obtain ⟨hN, hbody, hmsg⟩ := hfd fd rfl
      unfold rewindFd
      refine wpg_call_any fun r => ?_
      have fr2 := fr1.step (.lseek fd) r rfl (by intro _ h; cases h) (fun _ _ _ => trivial)
      refine ⟨fr2, ?_⟩
      split
      · rename_i hok
        refine ⟨fr2, ?_⟩
        intro fd' h
        cases h
        refine ⟨hN, ⟨r, by simp [stepWorld_trace], by simpa only [isOk_eq_not_isErr, Bool.not_eq_true'] using hok⟩, ?_, ?_⟩
        · intro hb
          obtain ⟨body, N, off, f, h1, h2, h3, h5, h6⟩ := hbody hb
          exact ⟨body, N, off, f, h1, by rw [stepWorld_obj, core_lseek]; exact h2, h3,
            by rw [stepWorld_file, core_lseek]; exact h5, h6⟩
        · intro hb hp
          obtain ⟨mfd, h1, h2⟩ := hmsg hb hp
          exact ⟨mfd, h1, fun hP => by rw [stepWorld_obj, core_lseek]; exact h2 hP⟩
      · refine wpg_call_any fun r2 => ?_
        have fr3 := fr2.step (.close fd) r2 rfl (by intro _ h; cases h; exact hN) (fun _ _ _ => trivial)
        exact ⟨fr3, fr3, by intro _ h; cases h⟩

/-- `exec()` under any invariant that its calls keep: `open("/dev/null")`, `fork`, `waitpid`, and `close` of a handle made
since `w0` (the `/dev/null` descriptor is one: `hlen`). -/
theorem wpg_execP_keeps {J : World → Prop} (argv : List Bytes) (fdin : Option Handle) {w0 w : World}
    (hlen : ∀ w, J w → w0.handles.length ≤ w.handles.length)
    (hopen : ∀ w r, R w (.openPath (ofString "/dev/null")) r → J w → J (stepWorld w (.openPath (ofString "/dev/null")) r))
    (hfork : ∀ w s r, J w → J (stepWorld w (.fork argv s) r)) (hwait : ∀ w r, J w → J (stepWorld w .waitpid r))
    (hclose : ∀ w h r, J w → w0.handles.length ≤ h → J (stepWorld w (.close h) r)) (hj : J w) :
    wpg R J (execP argv fdin) (fun _ w' => J w') w := by
  unfold execP
  simp only [bind_eq, pure_eq, call_bind]
  refine wpg_bind_mono (S := fun dn w' => J w' ∧ ∀ h, dn = some (some h) → w0.handles.length ≤ h) ?_ ?_
  · split
    · exact ⟨hj, by intro _ h; cases h⟩
    · intro r hr
      have j1 := hopen w r hr hj
      refine ⟨j1, ?_⟩
      rcases (hR hr).handle rfl with rfl | ⟨e, rfl⟩
      · exact ⟨j1, by intro h hh; cases hh; exact hlen w hj⟩
      · exact ⟨j1, by intro _ h; cases h⟩
  · rintro dn w1 ⟨j1, hdn⟩
    cases dn with
    | none => exact j1
    | some devnull =>
      dsimp only
      refine wpg_call_any fun r => ?_
      have j2 := hfork w1 (childStdin fdin devnull) r j1
      refine ⟨j2, ?_⟩
      refine wpg_bind_mono (S := fun _ w' => J w') ?_ ?_
      · split
        · refine wpg_call_any fun r2 => ?_
          have j3 := hwait _ r2 j2
          refine ⟨j3, ?_⟩
          split <;> exact j3
        · exact j2
      · intro res w3 j3
        cases devnull with
        | none => exact j3
        | some h =>
          dsimp only
          refine wpg_call_any fun r3 => ?_
          have j4 := hclose w3 h r3 j3 (hdn h rfl)
          exact ⟨j4, j4⟩

theorem wpg_execP (argv : List Bytes) (fdin : Option Handle) {w0 w : World} (fr : FrNew w0 w) :
    wpg R (FrNew w0) (execP argv fdin) (fun _ w' => FrNew w0 w') w :=
  wpg_execP_keeps hR argv fdin (fun _ fr => fr.len)
    (fun _ r _ fr => fr.step _ r rfl (by intro _ h; cases h) (fun _ _ _ => trivial))
    (fun _ _ r fr => fr.step _ r rfl (by intro _ h; cases h) (fun _ _ _ => trivial))
    (fun _ r fr => fr.step _ r rfl (by intro _ h; cases h) (fun _ _ _ => trivial))
    (fun _ _ r fr hh => fr.step _ r rfl (by intro _ h; cases h; exact hh) (fun _ _ _ => trivial)) fr

end

/-- The directory `maildir_open` joins from the path of a move/flag/flags action. -/
def dstPathOf (path : Bytes) : Option Bytes :=
  match parseSubdir path with
  | none => none
  | some sd =>
    match pathslice path PATH_MAX 0 (-1) with
    | none => none
    | some root => pathjoin PATH_MAX root (subdirName sd)

section
variable {R : World → Call → Res → Prop} (hR : ∀ {w c r}, R w c r → Sane w c r)
include hR

/-- `maildir_open` of the destination, under any invariant its one `opendir` keeps; it ends in `Mid w w1 (lk w)`: nothing but
handles made since has changed. -/
theorem wpg_maildirOpenDst (path : Bytes) {I : World → Prop} {w : World} (hI : ∀ p r, I (stepWorld w (.opendir p) r)) :
    wpg R I (maildirOpenDst path)
      (fun r w1 => Mid w w1 (lk w) ∧ ∀ dst, r = some dst → ∃ dh, dst.dirH = some dh ∧
        w1.dirPath dh = some dst.path ∧ (w.dir dst.path).isSome ∧ w.handles.length ≤ dh ∧ dh < w1.handles.length ∧
        pathjoin PATH_MAX dst.root (subdirName dst.subdir) = some dst.path ∧ dstPathOf path = some dst.path) w := by
  unfold maildirOpenDst
  split
  · exact ⟨Mid.refl w, by intro _ h; cases h⟩
  split
  · exact ⟨Mid.refl w, by intro _ h; cases h⟩
  split
  · exact ⟨Mid.refl w, by intro _ h; cases h⟩
  rename_i _ sd hsd _ root hroot _ p hp
  have hdst : dstPathOf path = some p := by
    unfold dstPathOf
    simp only [hsd, hroot]
    exact hp
  unfold maildirOpendir
  simp only [bind_eq, pure_eq, call_bind]
  intro r hr
  refine ⟨hI _ _, ?_⟩
  rcases (hR hr).opendir _ rfl with ⟨e, rfl⟩ | ⟨rfl, hd⟩
  · exact ⟨(Mid.refl w).err _ _ rfl, by intro _ h; cases h⟩
  · have m1 := (Mid.refl w).step (.opendir p) (.ok w.handles.length) rfl (by intro _ h; cases h) (fun _ _ => trivial)
    refine ⟨m1, ?_⟩
    intro dst h
    cases h
    have hc := core_opendir_ok hd w.handles.length
    refine ⟨w.handles.length, rfl, ?_, hd, Nat.le_refl _, ?_, hp, hdst⟩
    · rw [stepWorld_dirPath, hc]; simp [World.dirPath, obj_newHandle]
    · rw [stepWorld_handles, hc]; simp

end

theorem whole_messageGetFd (env : PEnv) (ms : MsgSt) (part : Option Msg) (dobody : Bool) {w : World} :
    wp (FrNew w) (messageGetFd env ms part dobody)
      (fun r w' => FrNew w w' ∧ ∀ fd, r = some fd → w.handles.length ≤ fd) w :=
  wp_mono (wp_of_wpg (wpg_messageGetFd sane_fault env ms part dobody)) fun _ _ h => ⟨h.1, fun fd hfd => (h.2 fd hfd).1⟩

theorem whole_execP (argv : List Bytes) (fdin : Option Handle) {w0 w : World} (fr : FrNew w0 w) :
    wp (FrNew w0) (execP argv fdin) (fun _ w' => FrNew w0 w') w :=
  wp_of_wpg (wpg_execP sane_fault argv fdin fr)

theorem whole_execOne_exec (env : PEnv) (mh : Match) (st : ExecSt) (hty : mh.ty = .exec) {w : World} :
    wp (FrNew w) (execOne env mh st) (fun r w' => FrNew w w' ∧ r = (st, r.2)) w := by
  rw [execOne_exec env mh st hty]
  refine wp_bind_mono (R := fun fdr w1 => FrNew w w1 ∧ ∀ h, fdr = some (some h) → w.handles.length ≤ h) ?_ ?_
  · split
    · refine wp_bind_mono (whole_messageGetFd env st.ms _ mh.execBody) ?_
      rintro f w1 ⟨fr1, hf⟩
      refine ⟨fr1, ?_⟩
      intro h hh
      cases f with
      | none => cases hh
      | some fd => cases hh; exact hf _ rfl
    · exact ⟨Fr1.refl _ w, by intro _ h; cases h⟩
  · rintro fdr w1 ⟨fr1, hfd⟩
    cases fdr with
    | none => exact ⟨fr1, rfl⟩
    | some fd =>
      dsimp only
      refine wp_bind_mono (whole_execP _ fd fr1) ?_
      intro rc w2 fr2
      cases fd with
      | none => exact ⟨fr2, rfl⟩
      | some h =>
        dsimp only
        refine wp_call_any fun r => ?_
        have fr3 := fr2.step (.close h) r rfl (by intro _ hh; cases hh; exact hfd h rfl) (fun _ _ _ => trivial)
        exact ⟨fr3, fr3, rfl⟩

theorem mid_maildirOpenDst (path : Bytes) {I : World → Prop} {w : World} (hI : ∀ p r, I (stepWorld w (.opendir p) r)) :
    wp I (maildirOpenDst path)
      (fun r w1 => Mid w w1 (lk w) ∧ ∀ dst, r = some dst → ∃ dh, dst.dirH = some dh ∧
        w1.dirPath dh = some dst.path ∧ (w.dir dst.path).isSome ∧ w.handles.length ≤ dh ∧ dh < w1.handles.length ∧
        pathjoin PATH_MAX dst.root (subdirName dst.subdir) = some dst.path ∧ dstPathOf path = some dst.path) w :=
  wp_of_wpg (wpg_maildirOpenDst sane_fault path hI)

end Mdsort.Proofs.World
