import Mdsort.Proofs.B64
import Mdsort.Proofs.Rfc2047

/-! No declarations: the one import for "the model decoders of decode.c compute their reference decoders" (C16), which is proved in
`Proofs/Qp.lean` (`qpLoop_eq_spec`), `Proofs/B64Bits.lean` and `Proofs/B64.lean` (`b64pton_eq_spec`), `Proofs/Rfc2047.lean`
(`rfc2047_eq_spec`). -/
