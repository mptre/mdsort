import Mdsort.Spec.Mime
import Mdsort.Proofs.Scanners

/-! For C11: the model's string literals as byte lists, `parseBoundary` against `Spec.boundaryParam`, and `findBoundary`
read line by line for a boundary without newline. -/

namespace Mdsort.Proofs
open Mdsort Mdsort.Model

theorem ofString_multipart :
    ofString "multipart/" = [109, 117, 108, 116, 105, 112, 97, 114, 116, 47] := by decide +kernel

theorem ofString_boundaryq :
    ofString "boundary=\"" = [98, 111, 117, 110, 100, 97, 114, 121, 61, 34] := by decide +kernel

theorem ofString_alternative :
    ofString "multipart/alternative" =
      [109, 117, 108, 116, 105, 112, 97, 114, 116, 47, 97, 108, 116, 101, 114, 110, 97, 116, 105, 118, 101] := by
  decide +kernel

theorem ofString_plain :
    ofString "text/plain" = [116, 101, 120, 116, 47, 112, 108, 97, 105, 110] := by decide +kernel

theorem ofString_html :
    ofString "text/html" = [116, 101, 120, 116, 47, 104, 116, 109, 108] := by decide +kernel

theorem ofString_base64 :
    ofString "base64" = [98, 97, 115, 101, 54, 52] := by decide +kernel

theorem ofString_qp :
    ofString "quoted-printable" =
      [113, 117, 111, 116, 101, 100, 45, 112, 114, 105, 110, 116, 97, 98, 108, 101] := by decide +kernel

def boundaryToSpec : Boundary → Spec.BoundaryParam
  | .notMultipart => .none
  | .invalid => .bad
  | .ok b => .some b

theorem takeWhile_length_eq_iff {α} (p : α → Bool) (l : List α) :
    ((l.takeWhile p).length == l.length) = (l.dropWhile p).isEmpty := by
  have h := List.length_takeWhile_add_length_dropWhile p l
  cases hd : l.dropWhile p with
  | nil => simp [hd] at h; simp [h]
  | cons x r => simp [hd] at h; simp; omega

theorem tolower_eq_lowerAscii : tolower = Spec.lowerAscii := by
  funext c; rfl

theorem startsWithCI_eq (s p : Bytes) : startsWithCI s p = Spec.tokenEq (s.take p.length) p := by
  unfold startsWithCI Spec.tokenEq
  rw [tolower_eq_lowerAscii]

theorem boundaryParam_eq (t : Bytes) :
    Spec.boundaryParam t = boundaryToSpec (parseBoundary t) := by
  unfold Spec.boundaryParam parseBoundary
  simp only [ofString_multipart, ofString_boundaryq, startsWithCI_eq, drop_nspaces, List.length_cons, List.length_nil, Nat.zero_add, Nat.reduceAdd]
  by_cases h1 : Spec.tokenEq (t.take 10)
      [109, 117, 108, 116, 105, 112, 97, 114, 116, 47]
  · simp only [h1, Bool.not_true, Bool.false_eq_true, if_false]
    generalize List.dropWhile (fun c => c != 59) (List.drop _ t) = s
    cases s with
    | nil => rfl
    | cons x s1 =>
      simp only
      generalize List.dropWhile isblank s1 = p
      by_cases h2 : Spec.tokenEq (p.take 10)
          [98, 111, 117, 110, 100, 97, 114, 121, 61, 34]
      · simp only [h2, Bool.not_true, Bool.false_eq_true, if_false]
        generalize List.drop _ p = v
        rw [takeWhile_length_eq_iff]
        cases hd : List.dropWhile (fun c => c != 34) v with
        | nil => rfl
        | cons y r =>
          simp only [List.isEmpty_cons, Bool.false_eq_true, if_false]
          split <;> rfl
      · simp [h2, boundaryToSpec]
  · simp [h1, boundaryToSpec]

theorem lines_induction {P : Bytes → Prop}
    (h0 : ∀ t : Bytes, 10 ∉ t → P t)
    (h1 : ∀ l r : Bytes, 10 ∉ l → P r → P (l ++ 10 :: r)) : ∀ t, P t := by
  have key : ∀ t pre : Bytes, 10 ∉ pre → P (pre ++ t) := by
    intro t
    induction t with
    | nil => intro pre hp; simpa using h0 pre hp
    | cons c r ih =>
      intro pre hp
      by_cases hc : c = 10
      · subst hc
        exact h1 pre r hp (by simpa using ih [] (by simp))
      · have : 10 ∉ pre ++ [c] := by
          simp only [List.mem_append, List.mem_singleton, not_or]
          exact ⟨hp, fun h => hc h.symm⟩
        simpa using ih (pre ++ [c]) this
  intro t
  simpa using key t [] (by simp)

theorem termLines_noNL (l cur : Bytes) (hl : 10 ∉ l) : Spec.termLines l cur = ([], cur ++ l) := by
  induction l generalizing cur with
  | nil => simp [Spec.termLines]
  | cons c r ih =>
    have hc : c ≠ 10 := fun h => hl (by simp [h])
    have hr : 10 ∉ r := fun h => hl (by simp [h])
    simp [Spec.termLines, hc, ih _ hr]

theorem termLines_line (l r cur : Bytes) (hl : 10 ∉ l) :
    (Spec.termLines (l ++ 10 :: r) cur).1 = (cur ++ l) :: (Spec.termLines r []).1 := by
  induction l generalizing cur with
  | nil => simp [Spec.termLines]
  | cons c l' ih =>
    have hc : c ≠ 10 := fun h => hl (by simp [h])
    have hr : 10 ∉ l' := fun h => hl (by simp [h])
    simp [Spec.termLines, hc, ih _ hr]

theorem first_nl_unique {a b x y : Bytes} (ha : 10 ∉ a) (hb : 10 ∉ b)
    (h : a ++ 10 :: x = b ++ 10 :: y) : a = b := by
  have cut : ∀ {l r : Bytes}, 10 ∉ l → (l ++ 10 :: r).takeWhile (· != 10) = l := fun hl =>
    (List.span_stop (fun y hy => by simpa using fun e : y = 10 => hl (e ▸ hy)) (by simp)).1
  rw [← cut (r := x) ha, h, cut hb]

/-- The separator and terminator lines for a boundary, as the specification writes them. -/
def sepOf (b : Bytes) : Bytes := [45, 45] ++ b

def finOf (b : Bytes) : Bytes := sepOf b ++ [45, 45]

/-- The predicate of the specification's preamble scan. -/
abbrev notDelim (b : Bytes) : Bytes → Bool := fun l => l != sepOf b && l != finOf b

theorem isPrefixOf_append_self (p x : Bytes) : p.isPrefixOf (p ++ x) = true :=
  List.isPrefixOf_iff_prefix.mpr (List.prefix_append _ _)

theorem delimiterLine_sep (bnd r : Bytes) : delimiterLine bnd (sepOf bnd ++ 10 :: r) = some false := by
  simp [sepOf, delimiterLine, startsWith, isPrefixOf_append_self, List.isPrefixOf]

theorem delimiterLine_fin (bnd r : Bytes) : delimiterLine bnd (finOf bnd ++ 10 :: r) = some true := by
  simp [finOf, sepOf, delimiterLine, startsWith, isPrefixOf_append_self]

/-- The comparisons of one round of `findboundary`, done once for `delimiterLine` and `continueAt`: the text does not begin
with `--`; or `--` is not followed by the boundary; or `--` boundary is not followed by `--`; or it is. -/
theorem delimiter_stage (bnd s : Bytes) :
    (continueAt bnd s = s ∧ delimiterLine bnd s = none) ∨
    (∃ s1, s = [45, 45] ++ s1 ∧ continueAt bnd s = s1 ∧ delimiterLine bnd s = none) ∨
    (∃ s2, s = [45, 45] ++ bnd ++ s2 ∧ continueAt bnd s = s2 ∧
      delimiterLine bnd s = match s2 with | 10 :: _ => some false | _ => none) ∨
    (∃ s3, s = [45, 45] ++ bnd ++ [45, 45] ++ s3 ∧ continueAt bnd s = s3 ∧
      delimiterLine bnd s = match s3 with | 10 :: _ => some true | _ => none) := by
  unfold continueAt delimiterLine
  simp only [startsWith]
  by_cases h1 : List.isPrefixOf [45, 45] s
  · obtain ⟨s1, rfl⟩ := List.isPrefixOf_iff_prefix.mp h1
    have hd : ([45, 45] ++ s1 : Bytes).drop 2 = s1 := rfl
    simp only [h1, hd, Bool.not_true, Bool.false_eq_true, if_false]
    by_cases h2 : List.isPrefixOf bnd s1
    · obtain ⟨s2, rfl⟩ := List.isPrefixOf_iff_prefix.mp h2
      simp only [h2, Bool.not_true, Bool.false_eq_true, if_false, List.drop_left]
      by_cases h3 : List.isPrefixOf [45, 45] s2
      · obtain ⟨s3, rfl⟩ := List.isPrefixOf_iff_prefix.mp h3
        have hd3 : ([45, 45] ++ s3 : Bytes).drop 2 = s3 := rfl
        simp only [h3, if_true, hd3]
        exact Or.inr (Or.inr (Or.inr ⟨s3, by simp, rfl, rfl⟩))
      · simp only [h3, Bool.false_eq_true, if_false]
        exact Or.inr (Or.inr (Or.inl ⟨s2, by simp, rfl, rfl⟩))
    · simp only [h2, Bool.not_false, if_true]
      -- the conjuncts `none = none` are `True` after `simp only`
      exact Or.inr (Or.inl ⟨s1, rfl, rfl, trivial⟩)
  · simp only [h1, Bool.not_false, if_true]
    exact Or.inl ⟨trivial, trivial⟩

theorem delimiterLine_some {bnd s : Bytes} {tm : Bool} (h : delimiterLine bnd s = some tm) :
    (∃ r, s = sepOf bnd ++ 10 :: r) ∨ (∃ r, s = finOf bnd ++ 10 :: r) := by
  rcases delimiter_stage bnd s with ⟨_, hd⟩ | ⟨_, _, _, hd⟩ | ⟨s2, rfl, _, hd⟩ | ⟨s3, rfl, _, hd⟩
  · rw [hd] at h; cases h
  · rw [hd] at h; cases h
  · rw [hd] at h
    split at h
    · exact Or.inl ⟨_, rfl⟩
    · cases h
  · rw [hd] at h
    split at h
    · exact Or.inr ⟨_, rfl⟩
    · cases h

theorem delimiterLine_noNL {bnd l : Bytes} (hl : 10 ∉ l) : delimiterLine bnd l = none := by
  cases h : delimiterLine bnd l with
  | none => rfl
  | some tm =>
    rcases delimiterLine_some h with ⟨r, rfl⟩ | ⟨r, rfl⟩ <;> exact absurd (by simp) hl

theorem sepOf_noNL {bnd : Bytes} (hb : 10 ∉ bnd) : 10 ∉ sepOf bnd := by
  simp [sepOf, hb]

theorem finOf_noNL {bnd : Bytes} (hb : 10 ∉ bnd) : 10 ∉ finOf bnd := by
  simp [finOf, sepOf, hb]

theorem delimiterLine_line {bnd l : Bytes} (r : Bytes) (hb : 10 ∉ bnd) (hl : 10 ∉ l) :
    delimiterLine bnd (l ++ 10 :: r) = if notDelim bnd l then none else some (l == finOf bnd) := by
  by_cases hf : l = finOf bnd
  · simp [notDelim, hf, delimiterLine_fin]
  · by_cases hs : l = sepOf bnd
    · have hf' : (l == finOf bnd) = false := by simpa using hf
      rw [if_neg (by simp [notDelim, hs]), hf', hs, delimiterLine_sep]
    · rw [if_pos (by simp [notDelim, hf, hs])]
      cases h : delimiterLine bnd (l ++ 10 :: r) with
      | none => rfl
      | some tm =>
        rcases delimiterLine_some h with ⟨r', e⟩ | ⟨r', e⟩
        · exact absurd (first_nl_unique hl (sepOf_noNL hb) e) hs
        · exact absurd (first_nl_unique hl (finOf_noNL hb) e) hf

def prependPre (l : Bytes) (x : Bytes × Bool × Bytes) : Bytes × Bool × Bytes := (l ++ x.1, x.2.1, x.2.2)

theorem findBoundaryAux_nil (bnd : Bytes) (n : Nat) : findBoundaryAux bnd [] n = none := by
  cases n <;> rfl

theorem findBoundaryAux_succ (bnd : Bytes) (c : UInt8) (r : Bytes) (n : Nat) :
    findBoundaryAux bnd (c :: r) (n + 1) = (findBoundaryAux bnd r n).map (prependPre [c]) := by
  conv => lhs; unfold findBoundaryAux
  rfl

theorem findBoundaryAux_cons (bnd : Bytes) (c : UInt8) (r : Bytes) :
    findBoundaryAux bnd (c :: r) 0 =
      match delimiterLine bnd (c :: r) with
      | some term => some ([], term, c :: r)
      | none => (findBoundaryAux bnd r (nextLineDist bnd (c :: r) - 1)).map (prependPre [c]) := by
  conv => lhs; unfold findBoundaryAux
  rfl

theorem map_prependPre_nil (o : Option (Bytes × Bool × Bytes)) : o.map (prependPre []) = o := by
  cases o <;> simp [prependPre]

theorem map_prependPre_append (o : Option (Bytes × Bool × Bytes)) (p q : Bytes) :
    (o.map (prependPre q)).map (prependPre p) = o.map (prependPre (p ++ q)) := by
  cases o <;> simp [prependPre]

theorem findBoundaryAux_hop (bnd p t : Bytes) :
    findBoundaryAux bnd (p ++ t) p.length = (findBoundaryAux bnd t 0).map (prependPre p) := by
  induction p with
  | nil => simp [map_prependPre_nil]
  | cons c p ih =>
    simp only [List.cons_append, List.length_cons]
    rw [findBoundaryAux_succ, ih, map_prependPre_append]
    rfl

theorem findBoundaryAux_hop_take (bnd s : Bytes) (n : Nat) (h : n ≤ s.length) :
    findBoundaryAux bnd s n = (findBoundaryAux bnd (s.drop n) 0).map (prependPre (s.take n)) := by
  have := findBoundaryAux_hop bnd (s.take n) (s.drop n)
  rw [List.take_append_drop, List.length_take, Nat.min_eq_left h] at this
  exact this

/-- What the comparisons of one round have passed over: nothing, `--`, `--` boundary, or `--` boundary `--`. -/
theorem continueAt_split (bnd s : Bytes) :
    ∃ p, s = p ++ continueAt bnd s ∧
      (p = [] ∨ p = [45, 45] ∨ p = [45, 45] ++ bnd ∨ p = [45, 45] ++ bnd ++ [45, 45]) := by
  rcases delimiter_stage bnd s with ⟨hc, _⟩ | ⟨s1, hs, hc, _⟩ | ⟨s2, hs, hc, _⟩ | ⟨s3, hs, hc, _⟩
  · exact ⟨[], by rw [hc]; rfl, Or.inl rfl⟩
  · exact ⟨_, by rw [hc]; exact hs, Or.inr (Or.inl rfl)⟩
  · exact ⟨_, by rw [hc]; exact hs, Or.inr (Or.inr (Or.inl rfl))⟩
  · exact ⟨_, by rw [hc]; exact hs, Or.inr (Or.inr (Or.inr rfl))⟩

theorem continueAt_suffix (bnd s : Bytes) : continueAt bnd s <:+ s := by
  obtain ⟨p, hp, _⟩ := continueAt_split bnd s
  exact ⟨p, hp.symm⟩

theorem continueAt_length_le (bnd s : Bytes) : (continueAt bnd s).length ≤ s.length :=
  (continueAt_suffix bnd s).length_le

theorem continueAt_noNL_prefix (bnd s : Bytes) (hb : 10 ∉ bnd) : ∃ p, s = p ++ continueAt bnd s ∧ 10 ∉ p := by
  obtain ⟨p, hp, hc⟩ := continueAt_split bnd s
  refine ⟨p, hp, ?_⟩
  rcases hc with rfl | rfl | rfl | rfl <;> simp [hb]

/-- The line the next round examines. -/
def nextLine (bnd s : Bytes) : Bytes := skipLine (continueAt bnd s)

theorem nextLine_suffix (bnd s : Bytes) : nextLine bnd s <:+ s :=
  (skipLine_isSuffix _).trans (continueAt_suffix bnd s)

theorem nextLine_length_lt (bnd : Bytes) {s : Bytes} (h : s ≠ []) : (nextLine bnd s).length < s.length := by
  unfold nextLine
  by_cases hc : continueAt bnd s = []
  · rw [hc]
    cases s with
    | nil => contradiction
    | cons c r => simp [skipLine]
  · have := skipLine_length_lt hc
    have := continueAt_length_le bnd s
    omega

theorem nextLine_eq_drop (bnd s : Bytes) : nextLine bnd s = s.drop (nextLineDist bnd s) :=
  List.suffix_iff_eq_drop.1 (nextLine_suffix bnd s)

/-- The loop of `findboundary`, one round: the line at `s` is a delimiter line, or the loop goes on with the line
`skipline` finds from where the comparisons stopped. -/
theorem findBoundaryAux_round (bnd s : Bytes) :
    findBoundaryAux bnd s 0 =
      match s, delimiterLine bnd s with
      | [], _ => none
      | _ :: _, some term => some ([], term, s)
      | _ :: _, none => (findBoundaryAux bnd (nextLine bnd s) 0).map (prependPre (s.take (nextLineDist bnd s))) := by
  cases s with
  | nil => rfl
  | cons c r =>
    rw [findBoundaryAux_cons]
    cases hd : delimiterLine bnd (c :: r) with
    | some term => rfl
    | none =>
      simp only
      have hlt := nextLine_length_lt bnd (List.cons_ne_nil c r)
      have hdist : nextLineDist bnd (c :: r) = (c :: r).length - (nextLine bnd (c :: r)).length := rfl
      obtain ⟨k, hk⟩ : ∃ k, nextLineDist bnd (c :: r) = k + 1 := ⟨nextLineDist bnd (c :: r) - 1, by omega⟩
      have hkl : k ≤ r.length := by simp only [List.length_cons] at hdist; omega
      rw [nextLine_eq_drop, hk, Nat.add_sub_cancel, List.drop_succ_cons, List.take_succ_cons,
        findBoundaryAux_hop_take bnd r k hkl, map_prependPre_append]
      rfl

theorem findBoundaryAux_found {bnd s : Bytes} {term : Bool} (hd : delimiterLine bnd s = some term) :
    findBoundaryAux bnd s 0 = some ([], term, s) := by
  rw [findBoundaryAux_round bnd s, hd]
  cases s with
  | nil => simp [delimiterLine, startsWith] at hd
  | cons c r => rfl

theorem findBoundaryAux_continue {bnd s : Bytes} (hs : s ≠ []) (hd : delimiterLine bnd s = none) :
    findBoundaryAux bnd s 0 =
      (findBoundaryAux bnd (nextLine bnd s) 0).map (prependPre (s.take (nextLineDist bnd s))) := by
  rw [findBoundaryAux_round bnd s, hd]
  cases s with
  | nil => exact absurd rfl hs
  | cons c r => rfl

theorem findBoundaryAux_split {bnd s pre rest : Bytes} {n : Nat} {term : Bool}
    (h : findBoundaryAux bnd s n = some (pre, term, rest)) :
    s = pre ++ rest ∧ rest ≠ [] ∧ delimiterLine bnd rest = some term := by
  revert pre
  fun_induction findBoundaryAux bnd s n
  case case1 => nofun
  case case3 c r t ht => intro _ h; cases h; exact ⟨rfl, List.cons_ne_nil _ _, ht⟩
  -- a byte passed over, counted or after a failed comparison: it goes in front of what the rest of the scan returns
  all_goals
    rename_i ih
    intro pre h
    obtain ⟨⟨a, t, b'⟩, hab, heq⟩ := Option.map_eq_some_iff.1 h
    cases heq
    obtain ⟨h1, h2, h3⟩ := ih hab
    exact ⟨by rw [h1]; rfl, h2, h3⟩

theorem findBoundaryAux_noNL (bnd l : Bytes) (n : Nat) (hl : 10 ∉ l) : findBoundaryAux bnd l n = none := by
  cases h : findBoundaryAux bnd l n with
  | none => rfl
  | some x =>
    obtain ⟨pre, term, rest⟩ := x
    obtain ⟨h1, _, h3⟩ := findBoundaryAux_split h
    have : 10 ∉ rest := fun hm => hl (by rw [h1]; exact List.mem_append_right _ hm)
    rw [delimiterLine_noNL this] at h3
    cases h3

/-- For a newline-free boundary the comparisons of a round stay inside the line, so the next line examined is the next line of
the text. -/
theorem nextLine_eq_skipLine {bnd : Bytes} (hb : 10 ∉ bnd) (s : Bytes) : nextLine bnd s = skipLine s := by
  obtain ⟨p, hp, hpn⟩ := continueAt_noNL_prefix bnd s hb
  conv => rhs; rw [hp, skipLine_append_noNL _ hpn]
  rfl

theorem findBoundaryAux_line (bnd l r : Bytes) (hb : 10 ∉ bnd) (hl : 10 ∉ l) :
    findBoundaryAux bnd (l ++ 10 :: r) 0 =
      if notDelim bnd l then (findBoundaryAux bnd r 0).map (prependPre (l ++ [10]))
      else some ([], l == finOf bnd, l ++ 10 :: r) := by
  have hd := delimiterLine_line r hb hl
  by_cases hnd : notDelim bnd l = true
  · have hnl : nextLine bnd (l ++ 10 :: r) = r := by rw [nextLine_eq_skipLine hb, skipLine_line l r hl]
    have htake : (l ++ 10 :: r).take (nextLineDist bnd (l ++ 10 :: r)) = l ++ [10] := by
      have := List.take_append_drop (nextLineDist bnd (l ++ 10 :: r)) (l ++ 10 :: r)
      rw [← nextLine_eq_drop, hnl] at this
      exact List.append_cancel_right (this.trans (by simp))
    rw [if_pos hnd] at hd ⊢
    rw [findBoundaryAux_continue (by simp) hd, htake, hnl]
  · rw [if_neg hnd] at hd ⊢
    exact findBoundaryAux_found hd

/-- For a newline-free boundary, `findBoundary` on a text at the beginning of a line finds the
first terminated line that is a delimiter line: nothing if there is none, otherwise the lines
before it, whether it is the terminator, and a text from which `skipLine` leads to the text
whose terminated lines are the remaining ones. -/
theorem findBoundary_lines (bnd : Bytes) (hb : 10 ∉ bnd) (t : Bytes) :
    ((Spec.termLines t []).1.dropWhile (notDelim bnd) = [] → findBoundary bnd t = none) ∧
    (∀ d rest, (Spec.termLines t []).1.dropWhile (notDelim bnd) = d :: rest →
      ∃ fromLine,
        findBoundary bnd t =
          some (Spec.unlines ((Spec.termLines t []).1.takeWhile (notDelim bnd)), d == finOf bnd, fromLine)
        ∧ (Spec.termLines (skipLine fromLine) []).1 = rest
        ∧ (skipLine fromLine).length < t.length) := by
  induction t using lines_induction with
  | h0 t ht =>
    simp [termLines_noNL t [] ht, findBoundary, findBoundaryAux_noNL bnd t 0 ht]
  | h1 l r hl ih =>
    have hls : (Spec.termLines (l ++ 10 :: r) []).1 = l :: (Spec.termLines r []).1 := by
      simpa using termLines_line l r [] hl
    rw [hls, findBoundary, findBoundaryAux_line bnd l r hb hl]
    by_cases hnd : notDelim bnd l = true
    · simp only [List.dropWhile_cons, List.takeWhile_cons, hnd, if_true]
      refine ⟨fun h => by rw [show findBoundaryAux bnd r 0 = none from ih.1 h]; rfl, ?_⟩
      intro d rest h
      obtain ⟨fromLine, h1, h2, h3⟩ := ih.2 d rest h
      refine ⟨fromLine, ?_, h2, ?_⟩
      · rw [show findBoundaryAux bnd r 0 = _ from h1]; simp [prependPre, Spec.unlines]
      · simp; omega
    · simp only [List.dropWhile_cons, List.takeWhile_cons, hnd, Bool.false_eq_true, if_false]
      refine ⟨by simp, ?_⟩
      intro d rest h
      simp only [List.cons.injEq] at h
      refine ⟨l ++ 10 :: r, ?_, ?_, ?_⟩
      · simp [Spec.unlines, ← h.1]
      · rw [skipLine_line l r hl, h.2]
      · rw [skipLine_line l r hl]; simp; omega

end Mdsort.Proofs
