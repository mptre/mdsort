import Mdsort.Bytes

/-!
# The bytes of a string literal, for proofs by evaluation

The kernel reads a literal `"abc"` as `String.ofList ['a', 'b', 'c']`, and `String.ofList l` is the structure
`⟨(l.flatMap String.utf8EncodeChar).toByteArray, _⟩`.  Evaluated the way it is defined, `"abc".toUTF8.toList` builds a
`ByteArray` by `push` (`List.concat`) and reads it back by `ByteArray.toList` (well-founded recursion over `get!`): both
are quadratic in the length, and neither is part of what an example about the bytes of a text says.  `toUTF8_ofList`
says what the detour computes; after rewriting with it the kernel evaluates `['a', 'b', 'c'].flatMap String.utf8EncodeChar`,
which is linear.

`toUTF8_lit` is the form to rewrite with.  `rw [toUTF8_lit]` finds `s.toUTF8.toList` for any `s`, leaves the literal in the
rewritten position as it is, and asks for `"abc" = String.ofList ?l`, which `rfl` solves for `?l`: elaborator and kernel
both read a literal as its characters when they compare it with `String.ofList _` (no evaluation).  One `rw` per distinct
literal of the goal; a literal inside a definition has to be brought into the goal first (`rw [theDefinition]`).  Traps:

* `simp only` finds no literal (its index keeps a literal as a literal), and there is no lemma over a variable `s` to give
  it: every function from `String` to its characters decodes the `ByteArray`.
* Rewriting with `toUTF8_ofList` itself unifies `"abc" =?= String.ofList ?l` as well, but the cast that `rw` builds then
  compares the goal holding `"abc"` with the goal holding `String.ofList [..]`; where the literal stands under a `match`
  of the statement the kernel unfolds the matcher on both sides before it compares arguments, and evaluates both.  With
  `toUTF8_lit` the two goals are syntactically equal.
* Every `rw` traverses the goal: for a goal with dozens of literals of a few characters each the detour is cheaper.
-/

namespace Mdsort.Proofs
open Mdsort

theorem toList_loop (bs : ByteArray) : ∀ (k i : Nat) (r : List UInt8), bs.size - i = k →
    ByteArray.toList.loop bs i r = r.reverse ++ bs.data.toList.drop i := by
  have hsz : bs.size = bs.data.toList.length := by
    cases bs with | mk d => simp [ByteArray.size]
  intro k
  induction k with
  | zero =>
    intro i r h
    rw [ByteArray.toList.loop]
    have : ¬ i < bs.size := by omega
    have hd : bs.data.toList.drop i = [] := by
      apply List.drop_eq_nil_of_le; omega
    simp [this, hd]
  | succ k ih =>
    intro i r h
    rw [ByteArray.toList.loop]
    have hi : i < bs.size := by omega
    rw [if_pos hi, ih (i + 1) _ (by omega)]
    have hi' : i < bs.data.toList.length := by omega
    rw [List.drop_eq_getElem_cons hi']
    have : bs.get! i = bs.data.toList[i] := by
      have h2 : i < bs.data.size := by simpa using hi'
      simp only [ByteArray.get!, Array.getElem_toList]
      exact getElem!_pos bs.data i h2
    simp [this]

theorem byteArray_toList (bs : ByteArray) : bs.toList = bs.data.toList := by
  simp [ByteArray.toList, toList_loop bs _ 0 [] rfl]

theorem toUTF8_ofList (l : List Char) : (String.ofList l).toUTF8.toList = l.flatMap String.utf8EncodeChar := by
  rw [String.toUTF8_eq_toByteArray, String.toByteArray_ofList, byteArray_toList, List.utf8Encode, List.data_toByteArray]

theorem toUTF8_lit {s : String} {l : List Char} (h : s = String.ofList l) :
    s.toUTF8.toList = l.flatMap String.utf8EncodeChar := h ▸ toUTF8_ofList l

theorem ofString_lit {s : String} {l : List Char} (h : s = String.ofList l) :
    ofString s = l.flatMap String.utf8EncodeChar := toUTF8_lit h

theorem toUTF8_append (s t : String) : (s ++ t).toUTF8.toList = s.toUTF8.toList ++ t.toUTF8.toList := by
  simp only [String.toUTF8_eq_toByteArray, String.toByteArray_append, byteArray_toList, ByteArray.toList_data_append]

/-- Evaluation by the kernel after every string literal under `toUTF8.toList` / `ofString` has been replaced by the
list of its characters (head of this file). -/
macro "decide_lit" : tactic =>
  `(tactic| ((repeat rw [toUTF8_append]); (repeat (rw [toUTF8_lit]; rotate_left; rfl));
             (repeat (rw [ofString_lit]; rotate_left; rfl)); decide +kernel))

end Mdsort.Proofs
