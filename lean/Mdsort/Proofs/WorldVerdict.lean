import Mdsort.Proofs.Captures
import Mdsort.Proofs.WorldOwnScripts
import Mdsort.Proofs.EvalPCalls

/-!
`processMessage` is the parse phase (`messageParseP`), the evaluation of the rules (`evalP`: the `command`,
`isdirectory` and file-time `date` conditions ask the operating system) and a continuation that depends only
on the *verdict* of the rules on the parsed message: no match, evaluation error, interpolation
failure, or a list of actions.  In the first three cases the continuation only closes the message's
descriptor (`C03_no_match_no_effect`), and under `-d` in all four (`afterVerdict_dry`, `calls_processMessage_dry`: C05).
The frame of one message's processing (C04, `framed_processMessage`) follows the same decomposition.
-/

namespace Mdsort.Proofs
open Mdsort Mdsort.Model
open Mdsort.Proofs.World (Calls All)
open Mdsort.Proofs.Own (runO runO_bind runO_ret runOracle_eq all_runO calls_runO_mem)

/-- What evaluation and interpolation decide for one message.  (The stdin statements, WorldStdinProc, have a coarser
`World.Verdict` of their own for the one message of a spool.) -/
inductive Verdict where
  | unparsable                -- the path does not fit, the name is too long or its flag suffix is invalid
  | nomatch
  | error                     -- evaluation error
  | interpFail                -- the rules matched, interpolation of an action's strings failed
  | act (ml : MatchList) (msgs : Nat → Msg) (flags : MFlags)

def Verdict.acts : Verdict → Bool
  | .act .. => true
  | _ => false

/-- The verdicts after which `error` is set whatever else happens: all but no match and a list of actions (whose
error is that of `matchesExec`). -/
def Verdict.isErr : Verdict → Bool
  | .unparsable | .error | .interpFail => true
  | _ => false

/-- What interpolation decides once evaluation has returned `ev`. -/
def evVerdict (env : PEnv) (orc : EvalOracles) (ms : MsgSt) : Tri × St → Verdict
  | (.error, _) => .error
  | (.nomatch, _) => .nomatch
  | (.match, est) =>
    match matchesInterpolate (msgEnv env orc ms.path) est.ml (partMsg ms.msg ms.parts) with
    | none => .interpFail
    | some (ml, msgs) => .act ml msgs est.flags

/-- The evaluation of the rules on a parsed message, as `processMessage` runs it. -/
def evalMs (env : PEnv) (orc : EvalOracles) (expr : Expr) (ms : MsgSt) : Prog (Tri × St) :=
  evalP (msgEnv env orc ms.path) expr ms.msg ms.flags

/-- The verdict on a parsed message when evaluation asks nothing (or every question fails): the pure `Model.eval`. -/
def msVerdict (env : PEnv) (orc : EvalOracles) (expr : Expr) (ms : MsgSt) : Verdict :=
  evVerdict env orc ms (eval (msgEnv env orc ms.path) ms.msg expr 0 ms.msg { ml := [], flags := ms.flags })

/-- The verdict on a parsed message for the answers `as` of the operating system. -/
def msVerdictA (env : PEnv) (orc : EvalOracles) (expr : Expr) (ms : MsgSt) (as : List SysAns) : Verdict :=
  evVerdict env orc ms (evalR (msgEnv env orc ms.path) expr ms.msg ms.flags as).1

/-- The file `name` of directory `dir` with content `content` as `message_parse` returns it (without descriptor). -/
def fileMs (dir name content : Bytes) : Option MsgSt :=
  match pathjoin PATH_MAX dir name, strlcpyFits NAME_MAX1 name with
  | some p, some n =>
    match flagsParse n with
    | some mf =>
      some { name := n, path := p, fd := none, msg := parseMessage content,
             parts := (getAttachments (parseMessage content)).getD [], flags := mf, loc := none, content := content }
    | none => none
  | _, _ => none

/-- The verdict on the file `name` of directory `dir` with content `content` when evaluation asks nothing. -/
def verdict (env : PEnv) (orc : EvalOracles) (expr : Expr) (dir name content : Bytes) : Verdict :=
  match fileMs dir name content with
  | some ms => msVerdict env orc expr ms
  | none => .unparsable

/-- The verdict on that file for the answers `as` of the operating system. -/
def verdictA (env : PEnv) (orc : EvalOracles) (expr : Expr) (dir name content : Bytes) (as : List SysAns) : Verdict :=
  match fileMs dir name content with
  | some ms => msVerdictA env orc expr ms as
  | none => .unparsable

/-- The verdict on that file in a run against the call results `orcl` in which evaluation starts at call index `j`.  By
`evalP_replay` (EvalPReplay) it is `verdictA` at the answers `(evalTop ..).answers orcl j` read off `orcl`. -/
def verdictAt (env : PEnv) (orc : EvalOracles) (expr : Expr) (dir name content : Bytes) (orcl : Nat → Call → Res) (j : Nat) :
    Verdict :=
  match fileMs dir name content with
  | some ms => evVerdict env orc ms (runO orcl (evalMs env orc expr ms) j).1
  | none => .unparsable

/-- `message_free`. -/
def freeP (ms : MsgSt) : Prog Unit :=
  match ms.fd with
  | some h => (call (.close h)).bind fun _ => .ret ()
  | none => .ret ()

/-- What `processMessage` does once the rules have decided.  The branch `.unparsable` is never taken from
`afterParse`: `evVerdict` returns the other four, and a name that does not parse ends in `afterParse none`.
`.unparsable` is the value `verdict`, `verdictA`, `verdictAt` give such a file; the branch makes `afterVerdict` total
and agrees with `Verdict.isErr`. -/
def afterVerdict (env : PEnv) (md : Maildir) (name : Bytes) (st : MainSt) (ms : MsgSt) : Verdict → Prog (MainSt × Maildir)
  | .unparsable => (freeP ms).bind fun _ => .ret ({ st with error := true }, md)
  | .error => (freeP ms).bind fun _ => .ret ({ st with error := true }, md)
  | .interpFail => (freeP ms).bind fun _ => .ret ({ st with error := true }, md)
  | .nomatch => (freeP ms).bind fun _ => .ret (st, md)
  | .act ml msgs fl =>
    let ms1 : MsgSt := { ms with msg := msgs 0, flags := fl }
    let st1 : MainSt := { st with log := st.log ++ inspectLines env ml ms.path }
    if env.dryrun then (freeP ms1).bind fun _ => .ret (st1, md)
    else
      (matchesExec env ml { src := md, chsrc := false, ms := ms1, reject := false }).bind fun x =>
        (freeP x.1.ms).bind fun _ =>
          .ret ({ st1 with error := st1.error || x.2, reject := st1.reject || x.1.reject,
                           files := afterExec st1.files md.path name x.1.ms }, md)

def afterParse (env : PEnv) (orc : EvalOracles) (expr : Expr) (md : Maildir) (name : Bytes) (st : MainSt) :
    Option MsgSt → Prog (MainSt × Maildir)
  | none => .ret ({ st with error := true }, md)
  | some ms => (evalMs env orc expr ms).bind fun ev => afterVerdict env md name st ms (evVerdict env orc ms ev)

theorem processMessage_eq (env : PEnv) (orc : EvalOracles) (expr : Expr) (md : Maildir) (name : Bytes) (st : MainSt)
    (d : Handle) (content : Bytes) (hd : md.dirH = some d) (hf : st.files.get md.path name = some content) :
    processMessage env orc expr md name st =
      (messageParseP d md.path name content).bind (afterParse env orc expr md name st) := by
  unfold processMessage
  simp only [hd, hf]
  show (messageParseP d md.path name content).bind _ = _
  congr 1
  funext pm
  cases pm with
  | none => rfl
  | some ms =>
    simp only [afterParse, evalMs, msgEnv]
    show (evalP _ _ _ _).bind _ = _
    congr 1
    funext r
    obtain ⟨t, est⟩ := r
    cases t with
    | error => rfl
    | «nomatch» => rfl
    | «match» =>
      simp only [evVerdict, msgEnv]
      generalize matchesInterpolate _ est.ml (partMsg ms.msg ms.parts) = r2
      cases r2 with
      | none => rfl
      | some x =>
        obtain ⟨ml, msgs⟩ := x
        dsimp only [afterVerdict]
        cases env.dryrun <;> rfl

theorem processMessage_noDir (env : PEnv) (orc : EvalOracles) (expr : Expr) (md : Maildir) (name : Bytes) (st : MainSt)
    (hd : md.dirH = none) : processMessage env orc expr md name st = .ret (st, md) := by
  unfold processMessage
  simp only [hd]
  rfl

theorem processMessage_unknown (env : PEnv) (orc : EvalOracles) (expr : Expr) (md : Maildir) (name : Bytes) (st : MainSt)
    (d : Handle) (hd : md.dirH = some d) (hf : st.files.get md.path name = none) :
    processMessage env orc expr md name st = .ret ({ st with error := true }, md) := by
  unfold processMessage
  simp only [hd, hf]
  rfl

theorem fileMs_of_parsed {dir name content : Bytes} {ms : MsgSt} (h : ParsedAs dir name content (some ms)) :
    ∃ ms0, fileMs dir name content = some ms0 ∧ ms0.path = ms.path ∧ ms0.msg = ms.msg ∧ ms0.flags = ms.flags ∧
      ms0.parts = ms.parts := by
  obtain ⟨p, mf, hp, hn, hmf, h1, h2, h3, h4, h5⟩ := h ms rfl
  refine ⟨{ name := name, path := p, fd := none, msg := parseMessage content,
            parts := (getAttachments (parseMessage content)).getD [], flags := mf, loc := none, content := content },
    by unfold fileMs; simp only [hp, hn, hmf], h2.symm, h3.symm, h4.symm, h5.symm⟩

theorem evVerdict_congr (env : PEnv) (orc : EvalOracles) {ms ms0 : MsgSt} (h1 : ms0.path = ms.path) (h2 : ms0.msg = ms.msg)
    (h3 : ms0.parts = ms.parts) (ev : Tri × St) : evVerdict env orc ms0 ev = evVerdict env orc ms ev := by
  obtain ⟨t, est⟩ := ev
  cases t <;> simp only [evVerdict, h1, h2, h3]

/-- What is computed from the path, message and flags of a parsed message is computed alike from the
file it was parsed from. -/
theorem evVerdict_of_parsed (env : PEnv) (orc : EvalOracles) {dir name content : Bytes} {ms : MsgSt}
    (h : ParsedAs dir name content (some ms)) (F : Bytes → Msg → MFlags → Tri × St) :
    evVerdict env orc ms (F ms.path ms.msg ms.flags) =
      match fileMs dir name content with
      | some ms0 => evVerdict env orc ms0 (F ms0.path ms0.msg ms0.flags)
      | none => .unparsable := by
  obtain ⟨ms0, h0, h1, h2, h3, h4⟩ := fileMs_of_parsed h
  rw [h0]
  dsimp only
  rw [evVerdict_congr env orc h1 h2 h4, h1, h2, h3]

theorem msVerdict_of_parsed (env : PEnv) (orc : EvalOracles) (expr : Expr) (dir name content : Bytes) (ms : MsgSt)
    (h : ParsedAs dir name content (some ms)) : msVerdict env orc expr ms = verdict env orc expr dir name content :=
  evVerdict_of_parsed env orc h fun p m f => eval (msgEnv env orc p) m expr 0 m { ml := [], flags := f }

theorem verdictAt_of_parsed (env : PEnv) (orc : EvalOracles) (expr : Expr) (dir name content : Bytes) (ms : MsgSt)
    (h : ParsedAs dir name content (some ms)) (orcl : Nat → Call → Res) (j : Nat) :
    evVerdict env orc ms (runO orcl (evalMs env orc expr ms) j).1 = verdictAt env orc expr dir name content orcl j :=
  evVerdict_of_parsed env orc h fun p m f => (runO orcl (evalP (msgEnv env orc p) expr m f) j).1

theorem msVerdictA_of_parsed (env : PEnv) (orc : EvalOracles) (expr : Expr) (dir name content : Bytes) (ms : MsgSt)
    (h : ParsedAs dir name content (some ms)) (as : List SysAns) :
    msVerdictA env orc expr ms as = verdictA env orc expr dir name content as :=
  evVerdict_of_parsed env orc h fun p m f => (evalR (msgEnv env orc p) expr m f as).1

theorem noSys_msgEnv (env : PEnv) (orc : EvalOracles) (p : Bytes) : noSys (msgEnv env orc p) = msgEnv env orc p := rfl

theorem evalMs_asksFree (env : PEnv) (orc : EvalOracles) (expr : Expr) (h : asksFree expr = true) (ms : MsgSt) :
    evalMs env orc expr ms = .ret (eval (msgEnv env orc ms.path) ms.msg expr 0 ms.msg { ml := [], flags := ms.flags }) := by
  unfold evalMs
  rw [← noSys_msgEnv]
  exact evalP_asksFree (msgEnv env orc ms.path) expr h ms.msg ms.flags

theorem afterParse_asksFree (env : PEnv) (orc : EvalOracles) (expr : Expr) (h : asksFree expr = true) (md : Maildir)
    (name : Bytes) (st : MainSt) (ms : MsgSt) :
    afterParse env orc expr md name st (some ms) = afterVerdict env md name st ms (msVerdict env orc expr ms) := by
  simp only [afterParse, evalMs_asksFree env orc expr h, msVerdict]
  rfl

theorem verdictAt_asksFree (env : PEnv) (orc : EvalOracles) (expr : Expr) (h : asksFree expr = true) (dir name content : Bytes)
    (orcl : Nat → Call → Res) (j : Nat) :
    verdictAt env orc expr dir name content orcl j = verdict env orc expr dir name content := by
  unfold verdictAt verdict
  cases fileMs dir name content with
  | none => rfl
  | some ms => simp only [evalMs_asksFree env orc expr h, msVerdict]; rfl

theorem verdictA_asksFree (env : PEnv) (orc : EvalOracles) (expr : Expr) (h : asksFree expr = true) (dir name content : Bytes)
    (as : List SysAns) : verdictA env orc expr dir name content as = verdict env orc expr dir name content := by
  unfold verdictA verdict
  cases fileMs dir name content with
  | none => rfl
  | some ms =>
    have h1 := evalT_asksFree (msgEnv env orc ms.path) ms.msg expr h 0 ms.msg { ml := [], flags := ms.flags }
    simp only [msVerdictA, msVerdict, evalR, evalTop]
    rw [← noSys_msgEnv, h1]
    rfl

theorem calls_evalMs (env : PEnv) (orc : EvalOracles) (expr : Expr) (ms : MsgSt) :
    Calls (EvalCallOf expr) (evalMs env orc expr ms) :=
  evalP_calls_of _ _ _ _

theorem close_freeP (ms : MsgSt) : Calls IsClose (freeP ms) := by
  unfold freeP
  split
  · exact Calls.step ⟨_, rfl⟩ fun _ => Calls.ret _
  · exact Calls.ret _

theorem calls_freeP {P : Call → Prop} (hP : ∀ fd, P (.close fd)) (ms : MsgSt) : Calls P (freeP ms) :=
  (close_freeP ms).mono fun _ ⟨_, h⟩ => h ▸ hP _

/-- Every branch of `afterVerdict` ends like this: the message's descriptor is closed, then the outcome is returned. -/
theorem freeThen {β} (ms : MsgSt) (r : β) :
    Calls IsClose ((freeP ms).bind fun _ => Prog.ret r) ∧ All (fun x => x = r) ((freeP ms).bind fun _ => Prog.ret r) :=
  ⟨World.Calls.bind (close_freeP ms) fun _ => Calls.ret _, World.All.bind_of_forall _ fun _ => rfl⟩

def noActOutcome (st : MainSt) (v : Verdict) : MainSt := if v.isErr then { st with error := true } else st

theorem afterVerdict_noAct (env : PEnv) (md : Maildir) (name : Bytes) (st : MainSt) (ms : MsgSt) (v : Verdict)
    (hv : v.acts = false) :
    Calls IsClose (afterVerdict env md name st ms v) ∧
    All (fun r => r = (noActOutcome st v, md)) (afterVerdict env md name st ms v) := by
  cases v with
  | act ml msgs fl => cases hv
  | _ => exact freeThen ms _

/-- Under `-d` no action is executed, whatever the verdict: what is left of the processing is closing the message's descriptor. -/
theorem afterVerdict_dry (env : PEnv) (md : Maildir) (name : Bytes) (st : MainSt) (ms : MsgSt) (v : Verdict)
    (hd : env.dryrun = true) : Calls IsClose (afterVerdict env md name st ms v) := by
  cases v with
  | act ml msgs fl =>
    simp only [afterVerdict, hd, if_true]
    exact (freeThen _ _).1
  | _ => exact (freeThen ms _).1

/-- A call of the parse phase (`ParseCall`: `openat`, `read`, and the `close` of the message's descriptor, wherever it
is issued) or of evaluation. -/
def ParseEvalCall (d : Handle) (expr : Expr) (c : Call) : Prop := ParseCall d c ∨ EvalCallOf expr c

theorem ParseEvalCall.quiet {d : Handle} {expr : Expr} {c : Call} (h : ParseEvalCall d expr c) : c.mutating = false := by
  rcases h with h | h
  · exact h.quiet.1
  · exact h.evalCall.quiet

theorem ParseEvalCall.fork {d : Handle} {expr : Expr} {argv : List Bytes} {s : Handle}
    (h : ParseEvalCall d expr (.fork argv s)) : hasCommand expr = true := by
  rcases h with h | ⟨h, _⟩ | ⟨_, p, hp⟩
  · exact absurd h.quiet.2 (by simp [Call.isFork])
  · exact h
  · cases hp

theorem ParseEvalCall.fork' {d : Handle} {expr : Expr} {c : Call} (h : ParseEvalCall d expr c) (hf : c.isFork = true) :
    hasCommand expr = true := by
  obtain ⟨av, s, rfl⟩ := Call.isFork_iff.1 hf
  exact h.fork

theorem EvalCallOf.not_asksFree {expr : Expr} {c : Call} (hf : asksFree expr = true) (h : EvalCallOf expr c) : False := by
  simp only [asksFree, Bool.and_eq_true, Bool.not_eq_true'] at hf
  rcases h with ⟨h, _⟩ | ⟨h | h, _⟩
  · rw [hf.1.1] at h; cases h
  · rw [hf.1.2] at h; cases h
  · rw [hf.2] at h; cases h

theorem ParseEvalCall.of_asksFree {d : Handle} {expr : Expr} {c : Call} (hf : asksFree expr = true)
    (h : ParseEvalCall d expr c) : ParseCall d c :=
  h.elim id fun h => (h.not_asksFree hf).elim

/-- A dry run of one message (C05), whatever the verdict and whatever the calls return.  The handle is bound inside the
predicate so that users need no hypothesis on `md.dirH` (no open maildir: no call at all). -/
theorem calls_processMessage_dry (env : PEnv) (orc : EvalOracles) (expr : Expr) (md : Maildir) (name : Bytes) (st : MainSt)
    (hd : env.dryrun = true) :
    Calls (fun c => ∃ d, md.dirH = some d ∧ ParseEvalCall d expr c) (processMessage env orc expr md name st) := by
  cases hdir : md.dirH with
  | none => rw [processMessage_noDir env orc expr md name st hdir]; exact Calls.ret _
  | some d =>
    cases hf : st.files.get md.path name with
    | none => rw [processMessage_unknown env orc expr md name st d hdir hf]; exact Calls.ret _
    | some content =>
      rw [processMessage_eq env orc expr md name st d content hdir hf]
      refine World.Calls.bind ((parse_messageParseP d md.path name content).mono fun _ hc => ⟨d, rfl, .inl hc⟩) fun pm => ?_
      cases pm with
      | none => exact Calls.ret _
      | some ms =>
        exact World.Calls.bind ((calls_evalMs env orc expr ms).mono fun _ hc => ⟨d, rfl, .inr hc⟩) fun ev =>
          (afterVerdict_dry env md name st ms _ hd).mono fun _ hc => ⟨d, rfl, .inl (.inr (.inr hc))⟩

/-- Whatever the calls return: when in this run the rules do not produce actions for the message (no match,
evaluation error, interpolation failure, unparsable name), the run of `processMessage` is the run of
the parse phase, then the calls of evaluation (`open("/dev/null")`, `fork`, `waitpid`, `close` for a `command`
condition, `stat` for `isdirectory` and the file-time `date` conditions - none if the tree has none of them),
then at most one `close`; no call is mutating; the state changes in the `error` bit only, which is
set iff the parse failed or the verdict is an error. -/
theorem processMessage_noAct_run (env : PEnv) (orc : EvalOracles) (expr : Expr) (md : Maildir) (name : Bytes)
    (st : MainSt) (d : Handle) (content : Bytes)
    (hd : md.dirH = some d) (hf : st.files.get md.path name = some content)
    (orcl : Nat → Call → Res)
    (hv : (verdictAt env orc expr md.path name content orcl (runO orcl (messageParseP d md.path name content) 0).2.2).acts = false) :
    (∀ x ∈ (runOracle orcl (processMessage env orc expr md name st) 0 []).2,
      ParseEvalCall d expr x.1 ∧ x.1.mutating = false) ∧
    (∃ E L, (runOracle orcl (processMessage env orc expr md name st) 0 []).2 =
        (runOracle orcl (messageParseP d md.path name content) 0 []).2 ++ E ++ L ∧
        (∀ x ∈ E, EvalCallOf expr x.1) ∧ ∀ x ∈ L, IsClose x.1) ∧
    (runOracle orcl (processMessage env orc expr md name st) 0 []).1 =
      (if (runOracle orcl (messageParseP d md.path name content) 0 []).1.isNone ||
          (verdictAt env orc expr md.path name content orcl (runO orcl (messageParseP d md.path name content) 0).2.2).isErr
        then { st with error := true } else st, md) := by
  have hK := processMessage_eq env orc expr md name st d content hd hf
  have hall := all_messageParseP_as d md.path name content
  have hpm : ParsedAs md.path name content (runO orcl (messageParseP d md.path name content) 0).1 := all_runO hall orcl 0
  have hparse := calls_runO_mem (parse_messageParseP d md.path name content) orcl 0
  rw [hK]
  simp only [runOracle_eq, runO_bind, List.nil_append]
  generalize runO orcl (messageParseP d md.path name content) 0 = P at hv hpm hparse ⊢
  obtain ⟨pm, trP, j⟩ := P
  dsimp only at hv hpm hparse ⊢
  cases pm with
  | none =>
    simp only [afterParse, runO_ret, List.append_nil, Option.isNone_none, Bool.true_or, if_true]
    exact ⟨fun x hx => ⟨.inl (hparse x hx), (hparse x hx).quiet.1⟩, ⟨[], [], by simp, by simp, by simp⟩, True.intro⟩
  | some ms =>
    have hvd := verdictAt_of_parsed env orc expr md.path name content ms hpm orcl j
    have heval := calls_runO_mem (calls_evalMs env orc expr ms) orcl j
    simp only [afterParse, runO_bind]
    generalize runO orcl (evalMs env orc expr ms) j = E at hvd heval ⊢
    obtain ⟨ev, trE, j2⟩ := E
    dsimp only at hvd heval ⊢
    rw [hvd]
    obtain ⟨hc, ha⟩ := afterVerdict_noAct env md name st ms _ hv
    have hclose := calls_runO_mem hc orcl j2
    have hval := all_runO ha orcl j2
    refine ⟨?_, ⟨trE, _, by simp, heval, hclose⟩, ?_⟩
    · intro x hx
      simp only [List.mem_append] at hx
      rcases hx with hx | hx | hx
      · exact ⟨.inl (hparse x hx), (hparse x hx).quiet.1⟩
      · exact ⟨.inr (heval x hx), (heval x hx).evalCall.quiet⟩
      · exact ⟨.inl (.inr (.inr (hclose x hx))), by obtain ⟨fd, h⟩ := hclose x hx; rw [h]; rfl⟩
    · rw [hval]
      simp [noActOutcome]

theorem verdict_of_parts (env : PEnv) (orc : EvalOracles) (expr : Expr) (dir name content p n : Bytes) (mf : MFlags)
    (hp : pathjoin PATH_MAX dir name = some p) (hn : strlcpyFits NAME_MAX1 name = some n) (hmf : flagsParse n = some mf) :
    verdict env orc expr dir name content =
      match eval (msgEnv env orc p) (parseMessage content) expr 0 (parseMessage content) { ml := [], flags := mf } with
      | (.error, _) => .error
      | (.nomatch, _) => .nomatch
      | (.match, est) =>
        match matchesInterpolate (msgEnv env orc p) est.ml
            (partMsg (parseMessage content) ((getAttachments (parseMessage content)).getD [])) with
        | none => .interpFail
        | some (ml, msgs) => .act ml msgs est.flags := by
  unfold verdict fileMs
  simp only [hp, hn, hmf, msVerdict]
  generalize eval (msgEnv env orc p) (parseMessage content) expr 0 (parseMessage content) { ml := [], flags := mf } = r
  obtain ⟨t, est⟩ := r
  cases t <;> rfl

theorem verdictAt_of_parts (env : PEnv) (orc : EvalOracles) (expr : Expr) (dir name content p n : Bytes) (mf : MFlags)
    (hp : pathjoin PATH_MAX dir name = some p) (hn : strlcpyFits NAME_MAX1 name = some n) (hmf : flagsParse n = some mf)
    (orcl : Nat → Call → Res) (j : Nat) :
    verdictAt env orc expr dir name content orcl j =
      match (runO orcl (evalP (msgEnv env orc p) expr (parseMessage content) mf) j).1 with
      | (.error, _) => .error
      | (.nomatch, _) => .nomatch
      | (.match, est) =>
        match matchesInterpolate (msgEnv env orc p) est.ml
            (partMsg (parseMessage content) ((getAttachments (parseMessage content)).getD [])) with
        | none => .interpFail
        | some (ml, msgs) => .act ml msgs est.flags := by
  unfold verdictAt fileMs
  simp only [hp, hn, hmf, evalMs]
  generalize (runO orcl (evalP (msgEnv env orc p) expr (parseMessage content) mf) j).1 = r
  obtain ⟨t, est⟩ := r
  cases t <;> rfl

/-- `processMessage_noAct_run` with the hypothesis spelled out: in this run evaluation says no match or error, or
interpolation of the list it produced fails. -/
theorem processMessage_noMatch_run (env : PEnv) (orc : EvalOracles) (expr : Expr) (md : Maildir) (name : Bytes)
    (st : MainSt) (d : Handle) (content p n : Bytes) (mf : MFlags)
    (hd : md.dirH = some d) (hf : st.files.get md.path name = some content)
    (hp : pathjoin PATH_MAX md.path name = some p) (hn : strlcpyFits NAME_MAX1 name = some n)
    (hmf : flagsParse n = some mf)
    (orcl : Nat → Call → Res) (ev : Tri × St)
    (hev : (runO orcl (evalP (msgEnv env orc p) expr (parseMessage content) mf)
      (runO orcl (messageParseP d md.path name content) 0).2.2).1 = ev)
    (hno : ev.1 = .nomatch ∨ ev.1 = .error ∨
      (ev.1 = .match ∧ (matchesInterpolate (msgEnv env orc p) ev.2.ml
          (partMsg (parseMessage content) ((getAttachments (parseMessage content)).getD []))).isNone = true)) :
    (∀ x ∈ (runOracle orcl (processMessage env orc expr md name st) 0 []).2,
      ParseEvalCall d expr x.1 ∧ x.1.mutating = false) ∧
    (∃ E L, (runOracle orcl (processMessage env orc expr md name st) 0 []).2 =
        (runOracle orcl (messageParseP d md.path name content) 0 []).2 ++ E ++ L ∧
        (∀ x ∈ E, EvalCallOf expr x.1) ∧ ∀ x ∈ L, ∃ fd, x.1 = .close fd) ∧
    (runOracle orcl (processMessage env orc expr md name st) 0 []).1 =
      (if (runOracle orcl (messageParseP d md.path name content) 0 []).1.isNone || ev.1 != .nomatch
        then { st with error := true } else st, md) := by
  have hv := verdictAt_of_parts env orc expr md.path name content p n mf hp hn hmf orcl
    (runO orcl (messageParseP d md.path name content) 0).2.2
  rw [hev] at hv
  obtain ⟨t, est⟩ := ev
  have key : (verdictAt env orc expr md.path name content orcl (runO orcl (messageParseP d md.path name content) 0).2.2).acts = false ∧
      (verdictAt env orc expr md.path name content orcl (runO orcl (messageParseP d md.path name content) 0).2.2).isErr = (t != .nomatch) := by
    cases t with
    | «match» =>
      rcases hno with h1 | h1 | ⟨-, h1⟩
      · cases h1
      · cases h1
      · dsimp only at h1 hv
        generalize matchesInterpolate (msgEnv env orc p) est.ml _ = mi at h1 hv
        cases mi with
        | none => rw [hv]; exact ⟨rfl, rfl⟩
        | some x => cases h1
    | «nomatch» => rw [hv]; exact ⟨rfl, rfl⟩
    | error => rw [hv]; exact ⟨rfl, rfl⟩
  obtain ⟨ha, he⟩ := key
  have := processMessage_noAct_run env orc expr md name st d content hd hf orcl ha
  rw [he] at this
  exact this

/-- `processMessage_noMatch_run` for a rule tree that asks the operating system nothing, in terms of the pure evaluator:
only the calls of parsing, no `fork`. -/
theorem processMessage_noMatch_run_pure (env : PEnv) (orc : EvalOracles) (expr : Expr) (md : Maildir) (name : Bytes)
    (st : MainSt) (d : Handle) (content p n : Bytes) (mf : MFlags)
    (hd : md.dirH = some d) (hf : st.files.get md.path name = some content)
    (hp : pathjoin PATH_MAX md.path name = some p) (hn : strlcpyFits NAME_MAX1 name = some n)
    (hmf : flagsParse n = some mf) (hfree : asksFree expr = true)
    (hno :
      (eval (msgEnv env orc p) (parseMessage content) expr 0 (parseMessage content) { ml := [], flags := mf }).1 = .nomatch ∨
      (eval (msgEnv env orc p) (parseMessage content) expr 0 (parseMessage content) { ml := [], flags := mf }).1 = .error ∨
      ((eval (msgEnv env orc p) (parseMessage content) expr 0 (parseMessage content) { ml := [], flags := mf }).1 = .match ∧
       (matchesInterpolate (msgEnv env orc p)
          (eval (msgEnv env orc p) (parseMessage content) expr 0 (parseMessage content) { ml := [], flags := mf }).2.ml
          (partMsg (parseMessage content) ((getAttachments (parseMessage content)).getD []))).isNone = true))
    (orcl : Nat → Call → Res) :
    (∀ x ∈ (runOracle orcl (processMessage env orc expr md name st) 0 []).2,
      ((∃ nm, x.1 = .openRd d nm) ∨ (∃ fd, x.1 = .read fd) ∨ ∃ fd, x.1 = .close fd) ∧
        x.1.mutating = false ∧ x.1.isFork = false) ∧
    (∃ L, (runOracle orcl (processMessage env orc expr md name st) 0 []).2 =
        (runOracle orcl (messageParseP d md.path name content) 0 []).2 ++ L ∧ ∀ x ∈ L, ∃ fd, x.1 = .close fd) ∧
    (runOracle orcl (processMessage env orc expr md name st) 0 []).1 =
      (if (runOracle orcl (messageParseP d md.path name content) 0 []).1.isNone ||
          (eval (msgEnv env orc p) (parseMessage content) expr 0 (parseMessage content) { ml := [], flags := mf }).1 != .nomatch
        then { st with error := true } else st, md) := by
  have hev : (Own.runO orcl (evalP (msgEnv env orc p) expr (parseMessage content) mf)
      (Own.runO orcl (messageParseP d md.path name content) 0).2.2).1 =
      eval (msgEnv env orc p) (parseMessage content) expr 0 (parseMessage content) { ml := [], flags := mf } := by
    rw [← noSys_msgEnv, evalP_asksFree (msgEnv env orc p) expr hfree]
    rfl
  obtain ⟨h1, ⟨E, L, h2, hE, hL⟩, h3⟩ :=
    processMessage_noMatch_run env orc expr md name st d content p n mf hd hf hp hn hmf orcl _ hev hno
  have hE0 : E = [] := List.eq_nil_iff_forall_not_mem.2 fun x hx => (hE x hx).not_asksFree hfree
  subst hE0
  refine ⟨fun x hx => ?_, ⟨L, by simpa using h2, hL⟩, h3⟩
  have hpc := ParseEvalCall.of_asksFree hfree (h1 x hx).1
  exact ⟨hpc, hpc.quiet⟩

theorem processMessage_degenerate_run (env : PEnv) (orc : EvalOracles) (expr : Expr) (md : Maildir) (name : Bytes)
    (st : MainSt) (orcl : Nat → Call → Res) (i : Nat) (tr : List (Call × Res)) :
    (md.dirH = none → runOracle orcl (processMessage env orc expr md name st) i tr = ((st, md), tr)) ∧
    (md.dirH.isSome = true → st.files.get md.path name = none →
      runOracle orcl (processMessage env orc expr md name st) i tr = (({ st with error := true }, md), tr)) := by
  constructor
  · intro hd
    rw [processMessage_noDir env orc expr md name st hd]
    rfl
  · intro hd hf
    cases hd' : md.dirH with
    | none => rw [hd'] at hd; cases hd
    | some d =>
      rw [processMessage_unknown env orc expr md name st d hd' hf]
      rfl

theorem IsClose.inert {c : Call} (h : IsClose c) : Own.Inert c := by
  obtain ⟨fd, rfl⟩ := h
  exact True.intro

theorem ParseCall.inert {d : Handle} {c : Call} (h : ParseCall d c) : Own.Inert c := by
  rcases h with ⟨nm, rfl⟩ | ⟨fd, rfl⟩ | ⟨fd, rfl⟩ <;> exact True.intro

theorem EvalCall.inert {c : Call} (h : EvalCall c) : Own.Inert c := by
  rcases h with rfl | h | rfl | ⟨_, rfl⟩ | ⟨_, rfl⟩
  · exact True.intro
  · obtain ⟨_, _, rfl⟩ := Call.isFork_iff.1 h
    exact True.intro
  all_goals exact True.intro

end Mdsort.Proofs

namespace Mdsort.Proofs.Own
open Mdsort Mdsort.Model Mdsort.Proofs
open Mdsort.Proofs.World (Calls)

/-- The calls on which `Framed` puts no condition, and `unlinkat` / `renameat` (the two whose condition mentions the
message's name): a `Calm` call touches no descriptor, temporary file or directory that `Framed` guards.
`calm_messageParseP` and `calm_freeP` state it of the two phases of `processMessage` that do the same whatever the name;
no proof goes through `Calm` (the frame proofs use the stronger `Inert`). -/
def Calm : Call → Prop
  | .utimensat .. | .write .. | .fprintf .. | .unlink .. | .mkdtemp .. | .mkdir .. | .rmdir .. | .readdir .. => False
  | _ => True

theorem Inert.calm {c : Call} (h : Inert c) : Calm c := by
  cases c <;> first | exact h.elim | exact True.intro

variable {R : Call → Res → Prop}

theorem calm_messageParseP (d : Handle) (dir name content : Bytes) : Calls Calm (messageParseP d dir name content) :=
  Calls.mono (parse_messageParseP d dir name content) fun _ h => h.inert.calm

theorem calm_freeP (ms : MsgSt) : Calls Calm (freeP ms) :=
  Calls.mono (close_freeP ms) fun _ h => h.inert.calm

theorem framed_freeP (src : Bytes) (ms : MsgSt) (tr : Trace) : wp R (Framed src) (freeP ms) (fun _ _ => True) tr :=
  wp_inert src (Calls.mono (close_freeP ms) fun _ h => h.inert) tr

theorem framed_afterVerdict (env : PEnv) (md : Maildir) (name : Bytes) (st : MainSt) (ms : MsgSt) (v : Verdict)
    (hname : ms.name = name) (tr : Trace) :
    wp R (Framed name) (afterVerdict env md name st ms v) (fun _ _ => True) tr := by
  have hfree : ∀ (ms' : MsgSt) (r : MainSt × Maildir) (T : Trace),
      wp R (Framed name) ((freeP ms').bind fun _ => .ret r) (fun _ _ => True) T := by
    intro ms' r T
    exact wp_bind_ext (framed_freeP name ms' T) fun _ _ _ => True.intro
  cases v with
  | act ml msgs fl =>
    unfold afterVerdict
    dsimp only
    split
    · exact hfree _ _ _
    · refine wp_bind_ext (framed_matchesExec name env ml _ tr (by rw [← hname]; exact Own.src _ _)) ?_
      intro x L _
      exact hfree _ _ _
  | _ => exact hfree _ _ _

theorem framed_processMessage (env : PEnv) (orc : EvalOracles) (expr : Expr) (md : Maildir) (name : Bytes) (st : MainSt)
    (tr : Trace) : wp R (Framed name) (processMessage env orc expr md name st) (fun _ _ => True) tr := by
  cases hd : md.dirH with
  | none => rw [processMessage_noDir env orc expr md name st hd]; exact True.intro
  | some d =>
    cases hf : st.files.get md.path name with
    | none => rw [processMessage_unknown env orc expr md name st d hd hf]; exact True.intro
    | some content =>
      rw [processMessage_eq env orc expr md name st d content hd hf]
      have hparse : wp R (Framed name) (messageParseP d md.path name content)
          (fun pm _ => ParsedAs md.path name content pm) tr :=
        wp_calls (fun tr _ (h : Inert _) => h.framed name tr)
          (Calls.mono (parse_messageParseP d md.path name content) fun _ h => h.inert)
          (all_messageParseP_as d md.path name content) tr
      refine wp_bind_ext hparse ?_
      intro pm L hpm
      cases pm with
      | none => exact True.intro
      | some ms =>
        obtain ⟨p, mf, -, -, -, hname, -⟩ := hpm ms rfl
        simp only [afterParse]
        refine wp_bind_ext (wp_inert name (Calls.mono (calls_evalMs env orc expr ms) fun _ h => h.evalCall.inert) _) ?_
        intro ev L2 _
        exact framed_afterVerdict env md name st ms _ hname _

end Mdsort.Proofs.Own
