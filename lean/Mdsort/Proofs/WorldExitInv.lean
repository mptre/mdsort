import Mdsort.Proofs.WorldExitStep
import Mdsort.Proofs.WorldErrFlag

/-!
# The invariant of a whole maildir run in which no message is visited twice

The directories the run walks (`C.dirs`, in order, each with the rules of its block) are split into
those already walked, the one being walked (`cur`: path, rules, names its stream will still yield) and
those still to be walked (`later`).  A registered message is *pending* (`exit0_Pend`) when its directory
is still to be walked or it is among the remaining names of the current one.
-/

namespace Mdsort.Proofs
open Mdsort Mdsort.Model

structure exit0_Ctx where
  env : PEnv
  orc : EvalOracles
  dirs : List (Bytes × Expr)
  files0 : Files
  w0 : World

/-- The log lines of the names `names` of directory `D` under the rules `e`, for the initial registry. -/
def exit0_refNames (C : exit0_Ctx) (D : Bytes) (e : Expr) (names : List Bytes) : List Bytes :=
  names.flatMap fun n =>
    if isDot n then []
    else
      match C.files0.get D n with
      | some c => exit0_lines C.env C.orc e D n c
      | none => []

/-- The reference log: every directory in walking order, its names in the order of its stream. -/
def exit0_refDirs (C : exit0_Ctx) (ds : List (Bytes × Expr)) : List Bytes :=
  ds.flatMap fun de => exit0_refNames C de.1 de.2 (((C.w0.dir de.1).map sortedNames).getD [])

/-- The directory being walked: its path, its rules, the names its stream will still yield. -/
abbrev exit0_Cur := Option (Bytes × Expr × List Bytes)

def exit0_Pend (later : List (Bytes × Expr)) (cur : exit0_Cur) (x : Bytes × Bytes) : Prop :=
  x.1 ∈ later.map (·.1) ∨ ∃ D e rem, cur = some (D, e, rem) ∧ x.1 = D ∧ x.2 ∈ rem ∧ isDot x.2 = false

theorem exit0_Pend_some {later : List (Bytes × Expr)} {D : Bytes} {e : Expr} {rem : List Bytes} {x : Bytes × Bytes} :
    exit0_Pend later (some (D, e, rem)) x ↔ x.1 ∈ later.map (·.1) ∨ (x.1 = D ∧ x.2 ∈ rem ∧ isDot x.2 = false) := by
  constructor
  · rintro (hx | ⟨_, _, _, hc, h⟩)
    · exact .inl hx
    · cases hc
      exact .inr h
  · rintro (hx | h)
    · exact .inl hx
    · exact .inr ⟨_, _, _, rfl, h⟩

theorem exit0_Pend_cons {later : List (Bytes × Expr)} {D : Bytes} {e : Expr} {n : Bytes} {t : List Bytes} {x : Bytes × Bytes} :
    exit0_Pend later (some (D, e, n :: t)) x ↔ (x = (D, n) ∧ isDot n = false) ∨ exit0_Pend later (some (D, e, t)) x := by
  rw [exit0_Pend_some, exit0_Pend_some]
  constructor
  · rintro (hx | ⟨h1, h2, h3⟩)
    · exact .inr (.inl hx)
    · rcases List.mem_cons.1 h2 with h2 | h2
      · exact .inl ⟨Prod.ext h1 h2, h2 ▸ h3⟩
      · exact .inr (.inr ⟨h1, h2, h3⟩)
  · rintro (⟨rfl, hn⟩ | hx | ⟨h1, h2, h3⟩)
    · exact .inr ⟨rfl, List.mem_cons_self .., hn⟩
    · exact .inl hx
    · exact .inr ⟨h1, List.mem_cons_of_mem _ h2, h3⟩

def exit0_curRef (C : exit0_Ctx) : exit0_Cur → List Bytes
  | some (D, e, rem) => exit0_refNames C D e rem
  | none => []

/-- The invariant between two messages; `later`: the directories still to be walked, `cur`: the one being walked.
`reg`, `uniq`: the registry is consistent with the world, names are distinct.  `same`: a directory still to be walked has the
entries it had initially (so its stream will yield the initial names: `exit0_Inv.open`).  `cnt`: and the registry has the
initial messages for it - read only for the fuel bound of the walk (a stream yields at most as many names as the registry has
files for the directory).  `track` is the heart: a pending message is registered as at the start, every other one has been
placed as the rules say, at an entry that is not pending.  `log`: what is logged, plus the lines still to come, is the
reference log. -/
structure exit0_Inv (C : exit0_Ctx) (later : List (Bytes × Expr)) (cur : exit0_Cur) (st : MainSt) (w : World) : Prop where
  reg : WholeReg w st.files
  uniq : exit0_Unique w
  same : ∀ D ∈ later.map (·.1), ∀ n, w.lookup D n = C.w0.lookup D n
  cnt : ∀ D ∈ later.map (·.1), st.files.filter (fun x => x.1 == D) = C.files0.filter (fun x => x.1 == D)
  track : ∀ D e n c, (D, e) ∈ C.dirs → C.files0.get D n = some c → isDot n = false →
      (exit0_Pend later cur (D, n) → st.files.get D n = some c) ∧
      (¬ exit0_Pend later cur (D, n) → ∃ key c' lines, ¬ exit0_Pend later cur key ∧ st.files.get key.1 key.2 = some c' ∧
          exit0_Outcome C.env C.orc e D n c key c' lines)
  log : st.log ++ exit0_curRef C cur ++ exit0_refDirs C later = exit0_refDirs C C.dirs

/-- The hypotheses on the configuration, the initial registry and the initial world.  `nodup`: no directory is walked twice;
`uniq0`: distinct names in every directory; `listed`: every name of a walked directory is a registered message; `norev`: no
message is sent to a directory still to be walked - the hypothesis the development stands on: it is what makes every message
visited once (without it: F21, `dry_general_false`). -/
structure exit0_Good (C : exit0_Ctx) : Prop where
  nodup : (C.dirs.map (·.1)).Nodup
  uniq0 : exit0_Unique C.w0
  listed : ∀ D e, (D, e) ∈ C.dirs → ∀ n, (C.w0.lookup D n).isSome → isDot n = false ∧ (C.files0.get D n).isSome
  norev : ∀ pre D e post, C.dirs = pre ++ (D, e) :: post → ∀ n c, C.files0.get D n = some c →
      exit0_dest C.env C.orc e D n c ∉ post.map (·.1)

/-- What is known of the names the current stream will still yield. -/
structure exit0_RemOk (C : exit0_Ctx) (D : Bytes) (rem : List Bytes) : Prop where
  nodup : (rem.filter fun n => !isDot n).Nodup
  known : ∀ m ∈ rem, isDot m = false → (C.files0.get D m).isSome

theorem exit0_RemOk.tail {C : exit0_Ctx} {D n : Bytes} {t : List Bytes} (h : exit0_RemOk C D (n :: t)) : exit0_RemOk C D t := by
  refine ⟨?_, fun m hm => h.known m (List.mem_cons_of_mem _ hm)⟩
  have := h.nodup
  rw [List.filter_cons] at this
  split at this
  · exact (List.nodup_cons.1 this).2
  · exact this

theorem exit0_RemOk.head_notin {C : exit0_Ctx} {D n : Bytes} {t : List Bytes} (h : exit0_RemOk C D (n :: t)) (hn : isDot n = false) :
    n ∉ t := by
  intro hm
  have := h.nodup
  rw [List.filter_cons] at this
  simp only [hn, Bool.not_false, if_true] at this
  exact (List.nodup_cons.1 this).1 (List.mem_filter.2 ⟨hm, by simp [hn]⟩)

theorem exit0_split_notin {C : exit0_Ctx} (hG : exit0_Good C) {pre later : List (Bytes × Expr)} {D : Bytes} {e : Expr}
    (hs : C.dirs = pre ++ (D, e) :: later) : D ∉ later.map (·.1) := by
  have := hG.nodup
  rw [hs, List.map_append, List.map_cons, List.nodup_append] at this
  exact (List.nodup_cons.1 this.2.1).1

theorem exit0_split_mem {C : exit0_Ctx} {pre later : List (Bytes × Expr)} {D : Bytes} {e : Expr}
    (hs : C.dirs = pre ++ (D, e) :: later) : (D, e) ∈ C.dirs := by
  rw [hs]; simp

theorem exit0_expr_unique {C : exit0_Ctx} (hG : exit0_Good C) {D : Bytes} {e e' : Expr} (h : (D, e) ∈ C.dirs)
    (h' : (D, e') ∈ C.dirs) : e = e' :=
  congrArg Prod.snd (List.eq_of_nodup_map (·.1) hG.nodup h h' rfl)

theorem exit0_Inv.step {C : exit0_Ctx} {later : List (Bytes × Expr)} {cur : exit0_Cur} {st : MainSt} {w : World}
    (h : exit0_Inv C later cur st w) (c : Call) (r : Res) (hd : World.Call.dirOp c = false) (hfs : ∀ g, World.fileSafe w g c) :
    exit0_Inv C later cur st (stepWorld w c r) :=
  ⟨h.reg.step c r hd hfs, exit0_unique_step h.uniq c r,
    fun D hD n => (World.lk_step w c r hd (D, n)).trans (h.same D hD n), h.cnt, h.track, h.log⟩

theorem exit0_Inv.setErr {C : exit0_Ctx} {later : List (Bytes × Expr)} {cur : exit0_Cur} {st : MainSt} {w : World}
    (h : exit0_Inv C later cur st w) : exit0_Inv C later cur { st with error := true } w :=
  ⟨h.reg, h.uniq, h.same, h.cnt, h.track, h.log⟩

/-- Changing the description of what is pending, for the registered entries and the placement keys. -/
theorem exit0_Inv.congr {C : exit0_Ctx} {later later' : List (Bytes × Expr)} {cur cur' : exit0_Cur} {st : MainSt} {w : World}
    (h : exit0_Inv C later cur st w) (hsub : ∀ D, D ∈ later'.map (·.1) → D ∈ later.map (·.1))
    (himp : ∀ x, exit0_Pend later' cur' x → exit0_Pend later cur x)
    (hreg : ∀ D n c, isDot n = false → st.files.get D n = some c →
      exit0_Pend later cur (D, n) → exit0_Pend later' cur' (D, n))
    (hlog : exit0_curRef C cur' ++ exit0_refDirs C later' = exit0_curRef C cur ++ exit0_refDirs C later) :
    exit0_Inv C later' cur' st w := by
  refine ⟨h.reg, h.uniq, fun D hD => h.same D (hsub D hD), fun D hD => h.cnt D (hsub D hD), ?_, ?_⟩
  · intro D e n c hmem hc hn
    obtain ⟨t1, t2⟩ := h.track D e n c hmem hc hn
    refine ⟨fun hp => t1 (himp _ hp), fun hnp => ?_⟩
    by_cases hp : exit0_Pend later cur (D, n)
    · exact absurd (hreg D n c hn (t1 hp) hp) hnp
    · obtain ⟨key, c', lines, hk, hget, hout⟩ := t2 hp
      exact ⟨key, c', lines, fun hk' => hk (himp _ hk'), hget, hout⟩
  · rw [List.append_assoc, hlog, ← List.append_assoc]
    exact h.log

theorem exit0_refNames_cons_dot (C : exit0_Ctx) (D : Bytes) (e : Expr) (n : Bytes) (t : List Bytes) (hn : isDot n = true) :
    exit0_refNames C D e (n :: t) = exit0_refNames C D e t := by
  simp [exit0_refNames, List.flatMap_cons, hn]

theorem exit0_refNames_cons (C : exit0_Ctx) (D : Bytes) (e : Expr) (n c : Bytes) (t : List Bytes) (hn : isDot n = false)
    (hc : C.files0.get D n = some c) :
    exit0_refNames C D e (n :: t) = exit0_lines C.env C.orc e D n c ++ exit0_refNames C D e t := by
  simp [exit0_refNames, List.flatMap_cons, hn, hc]

theorem exit0_Inv.dot {C : exit0_Ctx} {later : List (Bytes × Expr)} {D : Bytes} {e : Expr} {n : Bytes} {t : List Bytes}
    {st : MainSt} {w : World} (h : exit0_Inv C later (some (D, e, n :: t)) st w) (hn : isDot n = true) :
    exit0_Inv C later (some (D, e, t)) st w := by
  refine h.congr (fun _ hD => hD) (fun x hx => exit0_Pend_cons.2 (.inr hx)) ?_ ?_
  · intro D' m c _ _ hp
    exact (exit0_Pend_cons.1 hp).resolve_left fun hx => by rw [hn] at hx; cases hx.2
  · simp only [exit0_curRef]
    rw [exit0_refNames_cons_dot C D e n t hn]

theorem exit0_Inv.eof {C : exit0_Ctx} {later : List (Bytes × Expr)} {D : Bytes} {e : Expr} {st : MainSt} {w : World}
    (h : exit0_Inv C later (some (D, e, [])) st w) : exit0_Inv C later none st w := by
  have nil : ∀ x, exit0_Pend later (some (D, e, [])) x → exit0_Pend later none x := by
    intro x hx
    rcases exit0_Pend_some.1 hx with hx | ⟨_, h2, _⟩
    · exact .inl hx
    · cases h2
  refine h.congr (fun _ hD => hD) ?_ (fun _ _ _ _ _ hp => nil _ hp) ?_
  · rintro x (hx | ⟨_, _, _, hc, _⟩)
    · exact .inl hx
    · cases hc
  · simp [exit0_curRef, exit0_refNames]

theorem exit0_Inv.msg {C : exit0_Ctx} (hG : exit0_Good C) {pre later : List (Bytes × Expr)} {D : Bytes} {e : Expr}
    {n c : Bytes} {t : List Bytes} {st st' : MainSt} {w w' : World}
    (hs : C.dirs = pre ++ (D, e) :: later) (h : exit0_Inv C later (some (D, e, n :: t)) st w)
    (hrem : exit0_RemOk C D (n :: t)) (hn : isDot n = false) (hc : C.files0.get D n = some c)
    (hreg' : WholeReg w' st'.files) (huniq' : exit0_Unique w')
    {key : Bytes × Bytes} {c' : Bytes} {lines : List Bytes}
    (hout : exit0_Outcome C.env C.orc e D n c key c' lines) (hupd : exit0_FilesUpd st.files (D, n) key c' st'.files)
    (hlog : st'.log = st.log ++ lines) (hfresh : key ≠ (D, n) → w.lookup key.1 key.2 = none)
    (hoth : ∀ x : Bytes × Bytes, x ≠ (D, n) → x ≠ key → w'.lookup x.1 x.2 = w.lookup x.1 x.2) :
    exit0_Inv C later (some (D, e, t)) st' w' := by
  have hDn : D ∉ later.map (·.1) := exit0_split_notin hG hs
  have hmemD : (D, e) ∈ C.dirs := exit0_split_mem hs
  have hkeyL : key.1 ∉ later.map (·.1) := by rw [hout.dest]; exact hG.norev pre D e later hs n c hc
  have hnt : n ∉ t := hrem.head_notin hn
  have F1 : ∀ x, exit0_Pend later (some (D, e, t)) x → exit0_Pend later (some (D, e, n :: t)) x :=
    fun x hx => exit0_Pend_cons.2 (.inr hx)
  have F2 : ∀ x, exit0_Pend later (some (D, e, n :: t)) x → ¬ exit0_Pend later (some (D, e, t)) x → x = (D, n) :=
    fun x hp hnp => ((exit0_Pend_cons.1 hp).resolve_right hnp).1
  have F3 : ¬ exit0_Pend later (some (D, e, t)) (D, n) := by
    intro hp
    rcases exit0_Pend_some.1 hp with hx | ⟨_, h2, _⟩
    · exact hDn hx
    · exact hnt h2
  have F4 : exit0_Pend later (some (D, e, n :: t)) (D, n) := exit0_Pend_cons.2 (.inl ⟨rfl, hn⟩)
  have bound : ∀ (x : Bytes × Bytes) y, st.files.get x.1 x.2 = some y → (w.lookup x.1 x.2).isSome := by
    intro x y hy
    obtain ⟨fid, hl, _, _⟩ := h.reg x.1 x.2 y hy
    rw [hl]; rfl
  have neKey : ∀ (x : Bytes × Bytes) y, st.files.get x.1 x.2 = some y → x ≠ (D, n) → x ≠ key := by
    intro x y hy hx hk
    by_cases hkn : key = (D, n)
    · exact hx (hk.trans hkn)
    · have := bound x y hy
      rw [hk, hfresh hkn] at this
      cases this
  -- the new key is not pending: not in a later directory (`norev`), and not a remaining name of `D` - those are bound
  -- (registered, `reg`), while `hfresh` says the key was free unless it is the message's own entry
  have F5 : ¬ exit0_Pend later (some (D, e, t)) key := by
    intro hp
    rcases exit0_Pend_some.1 hp with hx | ⟨h1, h2, h3⟩
    · exact hkeyL hx
    · by_cases hkn : key = (D, n)
      · rw [hkn] at h2; exact hnt h2
      · obtain ⟨cx, hcx⟩ := Option.isSome_iff_exists.1 (hrem.known key.2 (List.mem_cons_of_mem _ h2) h3)
        have hp : exit0_Pend later (some (D, e, n :: t)) (D, key.2) :=
          exit0_Pend_some.2 (.inr ⟨rfl, List.mem_cons_of_mem _ h2, h3⟩)
        have hget := (h.track D e key.2 cx hmemD hcx h3).1 hp
        have hb := bound (D, key.2) cx hget
        have hk : key = (D, key.2) := Prod.ext h1 rfl
        rw [hk] at hkn
        have := hfresh (by rw [hk]; exact hkn)
        rw [hk] at this
        simp only at hb this
        rw [this] at hb
        cases hb
  refine ⟨hreg', huniq', ?_, ?_, ?_, ?_⟩
  · intro D' hD' m
    have h1 : ((D', m) : Bytes × Bytes) ≠ (D, n) := by
      intro hh; cases hh; exact hDn hD'
    have h2 : ((D', m) : Bytes × Bytes) ≠ key := by
      intro hh; rw [← hh] at hkeyL; exact hkeyL hD'
    exact (hoth (D', m) h1 h2).trans (h.same D' hD' m)
  · intro D' hD'
    rw [hupd.2 D' (fun hh => hDn (by have hh' : D' = D := hh; rw [← hh']; exact hD')) (fun hh => hkeyL (by rw [← hh]; exact hD'))]
    exact h.cnt D' hD'
  · intro Dx ex m cx hmem hcx hm
    obtain ⟨t1, t2⟩ := h.track Dx ex m cx hmem hcx hm
    refine ⟨fun hp => ?_, fun hnp => ?_⟩
    · have hget := t1 (F1 _ hp)
      have hne : ((Dx, m) : Bytes × Bytes) ≠ (D, n) := by
        intro hh; rw [hh] at hp; exact F3 hp
      have := hupd.1 (Dx, m)
      simp only [neKey (Dx, m) cx hget hne, hne, if_false] at this
      rw [this]; exact hget
    · by_cases hp : exit0_Pend later (some (D, e, n :: t)) (Dx, m)
      · have heq := F2 _ hp hnp
        cases heq
        have hee : ex = e := exit0_expr_unique hG hmem hmemD
        subst hee
        have hcc : cx = c := by rw [hc] at hcx; cases hcx; rfl
        subst hcc
        refine ⟨key, c', lines, F5, ?_, hout⟩
        have := hupd.1 key
        simp only [if_true] at this
        exact this
      · obtain ⟨key0, c0, lines0, hk0, hget0, hout0⟩ := t2 hp
        refine ⟨key0, c0, lines0, fun hh => hk0 (F1 _ hh), ?_, hout0⟩
        have hne : key0 ≠ (D, n) := by
          intro hh; rw [hh] at hk0; exact hk0 F4
        have := hupd.1 key0
        simp only [neKey key0 c0 hget0 hne, hne, if_false] at this
        rw [this]; exact hget0
  · have hl := h.log
    simp only [exit0_curRef] at hl ⊢
    rw [exit0_refNames_cons C D e n c t hn hc, ← hout.lines_eq] at hl
    rw [hlog]
    simpa [List.append_assoc] using hl

end Mdsort.Proofs
