import Mdsort.Bytes

/-! List and byte lemmas used throughout the proofs: `takeWhile` / `dropWhile` against `append` and `drop`,
`findIdx?`, and the reduction of a statement about all bytes to the 256 values. -/

-- In the root namespace `List` so that dot notation works; none of the names exists in core.
namespace List
variable {α : Type _} {p : α → Bool}

theorem drop_length_takeWhile (p : α → Bool) (l : List α) : l.drop (l.takeWhile p).length = l.dropWhile p := by
  conv => lhs; arg 2; rw [← takeWhile_append_dropWhile (p := p) (l := l)]
  exact drop_left

theorem take_length_takeWhile (p : α → Bool) (l : List α) : l.take (l.takeWhile p).length = l.takeWhile p := by
  conv => lhs; arg 2; rw [← takeWhile_append_dropWhile (p := p) (l := l)]
  exact take_left

theorem of_mem_takeWhile {l : List α} {x : α} (h : x ∈ l.takeWhile p) : p x = true :=
  all_eq_true.mp all_takeWhile x h

theorem takeWhile_eq_self {l : List α} (h : ∀ x ∈ l, p x = true) : l.takeWhile p = l := by
  induction l with
  | nil => rfl
  | cons a r ih => rw [takeWhile_cons, if_pos (h a mem_cons_self), ih fun x hx => h x (mem_cons_of_mem _ hx)]

theorem length_takeWhile_add_length_dropWhile (p : α → Bool) (l : List α) :
    (l.takeWhile p).length + (l.dropWhile p).length = l.length := by
  rw [← length_append, takeWhile_append_dropWhile]

theorem not_of_dropWhile_eq_cons {l r : List α} {x : α} (h : l.dropWhile p = x :: r) : p x = false := by
  have := head_dropWhile_not p (l := l) (by rw [h]; exact cons_ne_nil _ _)
  simpa only [h, head_cons] using this

/-- `not_of_dropWhile_eq_cons` for the head, in the form the `_stop` lemmas below take. -/
theorem head?_dropWhile_neg (p : α → Bool) (l : List α) : ∀ x, (l.dropWhile p).head? = some x → p x = false := by
  intro x hx
  cases hd : l.dropWhile p with
  | nil => rw [hd] at hx; cases hx
  | cons y r => rw [hd] at hx; cases hx; exact not_of_dropWhile_eq_cons hd

theorem eq_of_dropWhile_ne_eq_cons [BEq α] [LawfulBEq α] {c x : α} {l r : List α}
    (h : l.dropWhile (· != c) = x :: r) : x = c := by
  simpa using not_of_dropWhile_eq_cons h

theorem takeWhile_of_head {b : List α} (hb : ∀ x, b.head? = some x → p x = false) : b.takeWhile p = [] := by
  cases b with
  | nil => rfl
  | cons x r => rw [takeWhile_cons, hb x rfl]; rfl

theorem dropWhile_of_head {b : List α} (hb : ∀ x, b.head? = some x → p x = false) : b.dropWhile p = b := by
  cases b with
  | nil => rfl
  | cons x r => rw [dropWhile_cons, hb x rfl]; rfl

theorem takeWhile_append_stop {a b : List α} (ha : ∀ x ∈ a, p x = true) (hb : ∀ x, b.head? = some x → p x = false) :
    (a ++ b).takeWhile p = a := by
  rw [takeWhile_append_of_pos ha, takeWhile_of_head hb, append_nil]

theorem dropWhile_append_stop {a b : List α} (ha : ∀ x ∈ a, p x = true) (hb : ∀ x, b.head? = some x → p x = false) :
    (a ++ b).dropWhile p = b := by
  rw [dropWhile_append_of_pos ha, dropWhile_of_head hb]

theorem span_stop {a : List α} {x : α} {b : List α} (ha : ∀ y ∈ a, p y = true) (hx : p x = false) :
    (a ++ x :: b).takeWhile p = a ∧ (a ++ x :: b).dropWhile p = x :: b :=
  ⟨takeWhile_append_stop ha (by simp [hx]), dropWhile_append_stop ha (by simp [hx])⟩

theorem takeWhile_append_cons_of_neg (a : List α) {x : α} (b : List α) (hx : p x = false) :
    (a ++ x :: b).takeWhile p = a.takeWhile p := by
  induction a with
  | nil => simp [hx]
  | cons c r ih => simp only [cons_append, takeWhile_cons, ih]

theorem dropWhile_append_cons_of_neg (a : List α) {x : α} (b : List α) (hx : p x = false) :
    (a ++ x :: b).dropWhile p = a.dropWhile p ++ x :: b := by
  induction a with
  | nil => simp [hx]
  | cons c r ih =>
    simp only [cons_append, dropWhile_cons, ih]
    split <;> rfl

theorem findIdx?_eq_none_all {l : List α} (h : l.findIdx? p = none) : ∀ x ∈ l, p x = false := by
  simpa using findIdx?_eq_none_iff.1 h

/-- What `find? dec` returns has the property `good`, if some element `c` with `dec c` has it and so does every element before `c`
on which `dec` holds.  (The clients search a list of candidates for the first one that decides the outcome.) -/
theorem find?_good {dec : α → Bool} {good : α → Prop} {c : α} (post : List α) (hdec : dec c = true) (hc : good c) :
    ∀ pre : List α, (∀ x ∈ pre, dec x = true → good x) → ∃ r, (pre ++ c :: post).find? dec = some r ∧ good r
  | [], _ => ⟨c, by rw [nil_append, find?_cons_of_pos hdec], hc⟩
  | x :: pre, h => by
    cases hx : dec x with
    | true => exact ⟨x, by rw [cons_append, find?_cons_of_pos hx], h x mem_cons_self hx⟩
    | false =>
      obtain ⟨r, hr, hg⟩ := find?_good post hdec hc pre fun y hy => h y (mem_cons_of_mem _ hy)
      exact ⟨r, by rw [cons_append, find?_cons_of_neg (by simp [hx]), hr], hg⟩

variable {q : α → Bool}

theorem dropWhile_takeWhile_comm (h : ∀ x, p x = true → q x = true) (l : List α) :
    (l.dropWhile p).takeWhile q = (l.takeWhile q).dropWhile p := by
  induction l with
  | nil => rfl
  | cons a r ih =>
    by_cases hp : p a = true
    · simp only [dropWhile_cons, takeWhile_cons, hp, h a hp, if_true, ih]
    · by_cases hq : q a = true
      · simp only [dropWhile_cons, takeWhile_cons, hp, hq, if_true, Bool.false_eq_true, if_false]
      · simp only [dropWhile_cons, takeWhile_cons, hp, hq, Bool.false_eq_true, if_false, dropWhile_nil]

theorem takeWhile_takeWhile_of_imp (h : ∀ x, p x = true → q x = true) (l : List α) :
    (l.takeWhile q).takeWhile p = l.takeWhile p := by
  induction l with
  | nil => rfl
  | cons a r ih =>
    by_cases hp : p a = true
    · simp only [takeWhile_cons, h a hp, hp, if_true, ih]
    · by_cases hq : q a = true
      · simp only [takeWhile_cons, hq, hp, if_true, Bool.false_eq_true, if_false]
      · simp only [takeWhile_cons, hq, hp, Bool.false_eq_true, if_false, takeWhile_nil]

theorem dropWhile_dropWhile_of_imp (h : ∀ x, p x = true → q x = true) (l : List α) :
    (l.dropWhile p).dropWhile q = l.dropWhile q := by
  induction l with
  | nil => rfl
  | cons a r ih =>
    by_cases hp : p a = true
    · simp only [dropWhile_cons, hp, h a hp, if_true, ih]
    · simp only [dropWhile_cons, hp, Bool.false_eq_true, if_false]

theorem dropWhile_idem (p : α → Bool) (l : List α) : (l.dropWhile p).dropWhile p = l.dropWhile p :=
  dropWhile_dropWhile_of_imp (fun _ h => h) l

theorem eq_of_nodup_map {β : Type _} (f : α → β) {l : List α} (h : (l.map f).Nodup) {x y : α} (hx : x ∈ l) (hy : y ∈ l)
    (e : f x = f y) : x = y :=
  Pairwise.forall_of_forall_of_flip (R := fun a b => f a = f b → a = b) (fun _ _ _ => rfl)
    ((pairwise_map.1 h).imp fun hne e => absurd e hne) ((pairwise_map.1 h).imp fun hne e => absurd e.symm hne) hx hy e

theorem eq_singleton_of_mem {L : List α} {x : α} (hl : L.length ≤ 1) (hx : x ∈ L) : L = [x] := by
  match L, hl, hx with
  | [y], _, hx => simp at hx; rw [hx]
  | _ :: _ :: _, hl, _ => simp at hl

theorem mapM_cons_opt {α β} (f : α → Option β) (a : α) (l : List α) :
    (a :: l).mapM f = (f a).bind fun b => (l.mapM f).map (b :: ·) := by
  simp [List.mapM_cons]
  cases f a <;> simp
  cases l.mapM f <;> simp

theorem mapM_eq_some_map {α β} {f : α → Option β} {g : α → β} {l : List α} (h : ∀ a ∈ l, f a = some (g a)) :
    l.mapM f = some (l.map g) := by
  induction l with
  | nil => rfl
  | cons a l ih =>
    rw [mapM_cons_opt, h a mem_cons_self, ih fun x hx => h x (mem_cons_of_mem _ hx)]
    rfl

theorem mapM_congr {α β} {f g : α → Option β} {l : List α} (h : ∀ a ∈ l, f a = g a) : l.mapM f = l.mapM g := by
  induction l with
  | nil => rfl
  | cons a l ih => rw [mapM_cons_opt, mapM_cons_opt, h a mem_cons_self, ih fun x hx => h x (mem_cons_of_mem _ hx)]

theorem mapM_eq_map {α β} (f : α → Option β) (dflt : β) : ∀ (l : List α) (out : List β), l.mapM f = some out →
    out = l.map (fun a => (f a).getD dflt) ∧ ∀ a ∈ l, (f a).isSome = true
  | [], out, h => by
    simp at h
    subst h
    simp
  | a :: l, out, h => by
    rw [mapM_cons_opt] at h
    cases hb : f a with
    | none => rw [hb] at h; cases h
    | some b =>
      cases hbs : l.mapM f with
      | none => rw [hb, hbs] at h; cases h
      | some bs =>
        rw [hb, hbs] at h
        cases h
        obtain ⟨h1, h2⟩ := mapM_eq_map f dflt l bs hbs
        refine ⟨by simp [hb, ← h1], fun x hx => ?_⟩
        rcases mem_cons.mp hx with rfl | hx
        · simp [hb]
        · exact h2 x hx

theorem mapM_eq_none_iff {α β} (f : α → Option β) {l : List α} : l.mapM f = none ↔ ∃ t ∈ l, f t = none := by
  induction l with
  | nil => simp
  | cons a l ih =>
    rw [mapM_cons_opt]
    cases hfa : f a with
    | none => simp [hfa]
    | some b =>
      cases hl : l.mapM f with
      | none =>
        obtain ⟨t, ht, hf⟩ := ih.mp hl
        simp only [Option.bind_some, Option.map_none, true_iff]
        exact ⟨t, mem_cons_of_mem _ ht, hf⟩
      | some bs =>
        simp only [Option.bind_some, Option.map_some, reduceCtorEq, mem_cons, exists_eq_or_imp, hfa, false_or, false_iff]
        intro ⟨t, ht, hf⟩
        have := ih.mpr ⟨t, ht, hf⟩
        rw [hl] at this
        cases this

end List

namespace Mdsort.Proofs

theorem strchr_eq (s : Bytes) (c : UInt8) :
    strchr s c = match s.dropWhile (fun x => x != c) with
      | [] => none
      | q => some q := by
  induction s with
  | nil => simp [strchr]
  | cons x r ih =>
    unfold strchr
    by_cases hx : x = c
    · subst hx; simp
    · have : (x == c) = false := by simpa using hx
      simp only [this, Bool.false_eq_true, if_false, ih]
      have : (x != c) = true := by simpa using hx
      simp [this]

/-- A statement about every byte follows from its 256 instances (which `decide +kernel` can then evaluate). -/
theorem forall_u8 {P : UInt8 → Prop} (h : ∀ n, n < 256 → P (UInt8.ofNat n)) : ∀ c, P c := by
  intro c
  have := h c.toNat c.toNat_lt
  rwa [UInt8.ofNat_toNat] at this

end Mdsort.Proofs

namespace Mdsort

theorem cstr_length_le (s : Bytes) : (cstr s).length ≤ s.length := (List.takeWhile_sublist _).length_le

/-! The `<ctype.h>` classes of `Bytes.lean` against each other and against single bytes, by evaluation over the 256 bytes. -/

theorem isspace_of_isblank : ∀ c : UInt8, isblank c = true → isspace c = true := by
  apply Proofs.forall_u8; decide +kernel

theorem isblank_ne_nl {x : UInt8} (h : isblank x = true) : x ≠ 10 := by
  intro e; subst e; revert h; decide

theorem isspace_ne_61 {c : UInt8} (h : isspace c = true) : c ≠ 61 := by
  intro e; subst e; revert h; decide

theorem isdigit_not_isspace : ∀ c : UInt8, isdigit c = true → isspace c = false := by
  apply Proofs.forall_u8; decide +kernel

theorem tolower_eq_zero : ∀ c : UInt8, tolower c = 0 → c = 0 := by
  apply Proofs.forall_u8; decide +kernel

end Mdsort
