import Mdsort.Proofs.EvalList
import Mdsort.Spec.HeaderCond

/-!
# The conditions of `expr_eval` in closed form

One equation per leaf that is a condition, `eval env root (.X ..) part m st = ..` with no loop left on the right
(`eval_header_model`: the two loops of `expr_eval_header` are a `find?` over the candidates, then one `expr_regexec`).
A fact about a condition is a case analysis of its equation.  The `date` condition is `date_fields`
(Proofs/DateFields.lean), the two attachment nodes `eval_attachment_eq`, `eval_attBlock_eq` (Proofs/AttachmentCond.lean).
-/

namespace Mdsort.Proofs
open Mdsort Mdsort.Model Mdsort.Spec

/-- The entry `expr_regexec` appends for a pattern that matched: type, line, part, the captured texts (after the `l`/`u`
flags) and the pattern; name and value only in a dry run.  `Spec.headerEntry`, `Spec.dateEntry` are its instances (by `rfl`). -/
def regexEntry (dry : Bool) (ty : MType) (lno part : Nat) (p : Pat) (k v : Bytes) (groups : List (Option (Nat × Nat))) : Match :=
  { ty := ty, lno := lno, part := part, subs := matchCopy p v groups, pat := some p,
    key := if dry then some k else none, val := if dry then some v else none }

/-- What `expr_regexec` makes of the answer of the regex engine on the value `v`. -/
def regexHit (env : Env) (ty : MType) (lno part : Nat) (p : Pat) (k v : Bytes) (st : St) : Tri × St :=
  match env.rx p v with
  | .nomatch => (.nomatch, st)
  | .error => (.error, st)
  | .ok groups => (.match, { st with ml := st.ml ++ [regexEntry env.dryrun ty lno part p k v groups] })

/-- `expr_regexec` for an entry type that `matches_append` neither merges nor completes (so that it cannot fail). -/
theorem exprRegexec_eq (env : Env) (ty : MType) (lno part : Nat) (p : Pat) (k v : Bytes) (st : St)
    (hp : ty.isPath = false) (hmf : isMF ty = false) :
    exprRegexec env ty lno part p k v st = regexHit env ty lno part p k v st := by
  unfold exprRegexec regexHit
  cases env.rx p v with
  | «nomatch» => rfl
  | error => rfl
  | ok groups =>
    dsimp only
    rw [matchesAppend_plain env st.ml _ hp hmf]
    cases env.dryrun <;> simp [regexEntry]

-- The three are read off the generated expression table.
theorem header_not_path : MType.header.isPath = false := by decide
theorem date_not_path : MType.date.isPath = false := by decide
theorem body_not_path : MType.body.isPath = false := by decide

theorem exprRegexec_header (env : Env) (lno part : Nat) (p : Pat) (k v : Bytes) (st : St) :
    exprRegexec env .header lno part p k v st = regexHit env .header lno part p k v st :=
  exprRegexec_eq env .header lno part p k v st header_not_path (by decide)

theorem firstNonNomatch_nil (rx : Bytes → RxRes) : firstNonNomatch rx [] = none := rfl

theorem firstNonNomatch_cons (rx : Bytes → RxRes) (c : Bytes × Bytes) (rest : List (Bytes × Bytes)) :
    firstNonNomatch rx (c :: rest) = if rx c.2 = .nomatch then firstNonNomatch rx rest else some c := by
  by_cases h : rx c.2 = .nomatch <;> simp [firstNonNomatch, h]

theorem firstNonNomatch_append (rx : Bytes → RxRes) (l1 l2 : List (Bytes × Bytes)) :
    firstNonNomatch rx (l1 ++ l2) = (firstNonNomatch rx l1).or (firstNonNomatch rx l2) := by
  simp [firstNonNomatch, List.find?_append]

theorem values_eq (env : Env) (lno part : Nat) (p : Pat) (k : Bytes) (st : St) : ∀ (vs : List Bytes),
    eval.keys.values env lno p part k vs st =
      (firstNonNomatch (env.rx p) (vs.map fun v => (k, v))).map fun c => regexHit env .header lno part p c.1 c.2 st := by
  intro vs
  induction vs with
  | nil => simp [eval.keys.values, firstNonNomatch]
  | cons v more ih =>
    unfold eval.keys.values
    rw [exprRegexec_header, List.map_cons]
    cases h : env.rx p v with
    | «nomatch» =>
      rw [firstNonNomatch_cons, if_pos h]
      simp only [regexHit, h]
      exact ih
    | error =>
      rw [firstNonNomatch_cons, if_neg (by simp [h])]
      simp only [regexHit, h, Option.map_some]
    | ok g =>
      rw [firstNonNomatch_cons, if_neg (by simp [h])]
      simp only [regexHit, h, Option.map_some]

/-- Candidates as the model sees them: `message_get_header` per name. -/
def modelCands (m : Msg) (names : List Bytes) : List (Bytes × Bytes) :=
  names.flatMap fun k => ((getHeader m k).getD []).map fun v => (k, v)

theorem keys_eq (env : Env) (lno part : Nat) (p : Pat) (m : Msg) (st : St) : ∀ (ks : List Bytes),
    eval.keys env lno p part m ks st =
      match firstNonNomatch (env.rx p) (modelCands m ks) with
      | none => (.nomatch, st)
      | some c => regexHit env .header lno part p c.1 c.2 st := by
  intro ks
  induction ks with
  | nil => simp [eval.keys, modelCands, firstNonNomatch]
  | cons k rest ih =>
    unfold eval.keys
    have hc : modelCands m (k :: rest) = (((getHeader m k).getD []).map fun v => (k, v)) ++ modelCands m rest := by
      simp [modelCands]
    rw [hc, firstNonNomatch_append]
    cases hg : getHeader m k with
    | none =>
      simp only [Option.getD_none, List.map_nil, firstNonNomatch_nil, Option.none_or]
      exact ih
    | some vals =>
      dsimp only
      rw [values_eq, Option.getD_some]
      cases hf : firstNonNomatch (env.rx p) (vals.map fun v => (k, v)) with
      | none => simp only [Option.map_none, Option.none_or]; exact ih
      | some c => simp only [Option.map_some, Option.some_or]

theorem eval_header_model (env : Env) (root : Msg) (lno : Nat) (names : List Bytes) (p : Pat) (part : Nat)
    (m : Msg) (st : St) :
    eval env root (.header lno names p) part m st =
      match firstNonNomatch (env.rx p) (modelCands m names) with
      | none => (.nomatch, st)
      | some c => regexHit env .header lno part p c.1 c.2 st := by
  rw [eval]
  exact keys_eq env lno part p m st names

theorem eval_body_eq (env : Env) (root : Msg) (lno : Nat) (p : Pat) (part : Nat) (m : Msg) (st : St) :
    eval env root (.body lno p) part m st =
      match getBody m with
      | none => (.error, st)
      | some b => regexHit env .body lno part p (ofString "Body") b st := by
  rw [eval]
  cases getBody m with
  | none => rfl
  | some b => exact exprRegexec_eq env .body lno part p _ b st body_not_path (by decide)

/-- The verdict of `isdirectory "path"` when the entries `before` precede it: both copies must fit `PATH_MAX`. -/
def statTri (env : Env) (before : MatchList) (path : Bytes) : Tri :=
  match strlcpyFits PATH_MAX path with
  | none => .error
  | some p =>
    match interpolate before none p with
    | none => .error
    | some ip =>
      match strlcpyFits PATH_MAX ip with
      | none => .error
      | some ip => if env.isDir ip then .match else .nomatch

/-- An `isdirectory` node: the match list is left as it was (the temporary entry is removed again). -/
theorem eval_stat_eq (env : Env) (root : Msg) (lno : Nat) (path : Bytes) (part : Nat) (m : Msg) (st : St) :
    eval env root (.stat lno path) part m st = (statTri env st.ml path, st) := by
  rw [eval, matchesAppend_plain env st.ml _ (by dsimp only; decide) (by dsimp only; decide)]
  simp only [List.dropLast_concat, Bool.false_eq_true, if_false]
  cases st
  rfl

/-- `expr_eval_command`'s mapping of the value of `exec()`. -/
def commandTri (rc : Int) : Tri := if rc == 0 then .match else if rc < 0 then .error else .nomatch

theorem eval_command (env : Env) (root : Msg) (lno : Nat) (argv : List Bytes) (part : Nat) (m : Msg) (st : St) :
    eval env root (.command lno argv) part m st =
      ((match argv.mapM (interpolate st.ml none) with
        | none => Tri.error
        | some av => commandTri (env.command av)), st) := by
  rw [eval, matchesAppend_plain env st.ml _ (by dsimp only; decide) (by dsimp only; decide)]
  simp only [List.dropLast_concat, Bool.false_eq_true, if_false]
  cases st
  rfl

end Mdsort.Proofs
