import Mdsort.Model.Inspect
import Mdsort.Proofs.Basics

/-!
# Display columns: `strnwidth` is additive over text made of whole characters

`expr_inspect` accounts for the head `conf:lno: key: ` in columns: the configuration path and the header
name are measured by `strnwidth`, the punctuation (`~`, `:`, the digits of the line number, the blanks) in bytes
(`inspectHeadWidth`; /repo fix 951a0f1).  The blanks before `^` (`marker_columns`, Proofs/InspectTrue.lean) are therefore
the display width of everything printed before the first matched byte whenever the path and the name are texts of whole
characters (`Chars`: the decoding of each character does not depend on what follows it) and the punctuation consists of
one-byte one-column characters (`OneColumn`; ASCII in every locale): `strnwidth_head`, used by `marker_display_columns`. -/

namespace Mdsort.Proofs
open Mdsort Mdsort.Model

/-- `c` is a character of one byte and one column wherever it stands. -/
def OneColumn (mb : Bytes → Option (Nat × Nat)) (wcw : Nat → Int) (c : UInt8) : Prop :=
  ∀ rest, ∃ wc, mb (c :: rest) = some (1, wc) ∧ wcw wc = 1

/-- `a` is a text of whole characters for `mb`: it splits into bytes that `mbtowc` rejects and characters `mbtowc` decodes,
each with the same answer whatever follows the text. -/
inductive Chars (mb : Bytes → Option (Nat × Nat)) : Bytes → Prop
  | nil : Chars mb []
  | invalid (c : UInt8) (rest : Bytes) : (∀ s, mb (c :: (rest ++ s)) = none) → Chars mb rest → Chars mb (c :: rest)
  | char (ch rest : Bytes) (n wc : Nat) : ch.length = n + 1 → (∀ s, mb (ch ++ (rest ++ s)) = some (n + 1, wc)) →
      Chars mb rest → Chars mb (ch ++ rest)

namespace Insp

theorem strnwidth_go (mb : Bytes → Option (Nat × Nat)) (wcw : Nat → Int) :
    ∀ (fuel rem : Nat) (s : Bytes) (w : Nat), rem ≤ fuel →
      strnwidth.go mb wcw fuel rem s w = w + strnwidth mb wcw s rem := by
  intro fuel
  induction fuel using Nat.strongRecOn with
  | _ fuel ih =>
    intro rem s w h
    cases rem with
    | zero => cases fuel <;> simp [strnwidth, strnwidth.go]
    | succ r =>
      obtain ⟨n, rfl⟩ : ∃ n, fuel = n + 1 := ⟨fuel - 1, by omega⟩
      rw [strnwidth, strnwidth.go, strnwidth.go, if_neg (by simp), if_neg (by simp)]
      cases mb s with
      | none =>
        dsimp only
        rw [Nat.add_sub_cancel, ih n (by omega) _ _ _ (by omega), ih r (by omega) _ _ _ (Nat.le_refl _)]
        omega
      | some p =>
        obtain ⟨k, wc⟩ := p
        cases k with
        | zero => rfl
        | succ k =>
          dsimp only
          rw [ih n (by omega) _ _ _ (by omega), ih r (by omega) _ _ _ (by omega)]
          omega

end Insp

theorem strnwidth_step (mb : Bytes → Option (Nat × Nat)) (wcw : Nat → Int) (t : Bytes) (m : Nat) :
    strnwidth mb wcw t (m + 1) =
      match mb t with
      | none => 1 + strnwidth mb wcw (t.drop 1) m
      | some (0, _) => 0
      | some (n + 1, wc) => (wcw wc).toNat + strnwidth mb wcw (t.drop (n + 1)) (m + 1 - (n + 1)) := by
  rw [strnwidth, strnwidth.go, if_neg (by simp)]
  cases mb t with
  | none => dsimp only; rw [Nat.add_sub_cancel, Insp.strnwidth_go mb wcw m m _ _ (Nat.le_refl _)]
  | some p =>
    obtain ⟨k, wc⟩ := p
    cases k with
    | zero => rfl
    | succ k => dsimp only; rw [Insp.strnwidth_go mb wcw m _ _ _ (by omega), Nat.zero_add]

theorem strnwidth_chars (mb : Bytes → Option (Nat × Nat)) (wcw : Nat → Int) (a : Bytes) (h : Chars mb a) :
    ∀ (s : Bytes) (k : Nat), strnwidth mb wcw (a ++ s) (a.length + k) = strnwidth mb wcw a a.length + strnwidth mb wcw s k := by
  induction h with
  | nil => intro s k; simp [strnwidth, strnwidth.go]
  | invalid c rest hmb _ ih =>
    intro s k
    have e1 : (c :: rest).length + k = (rest.length + k) + 1 := by simp only [List.length_cons]; omega
    have e2 : (c :: rest).length = rest.length + 1 := by simp
    have h0 := hmb []
    rw [List.append_nil] at h0
    rw [e1, List.cons_append, strnwidth_step, hmb s, e2, strnwidth_step, h0]
    dsimp only
    rw [List.drop_succ_cons, List.drop_zero, List.drop_succ_cons, List.drop_zero, ih s k, Nat.add_assoc]
  | char ch rest n wc hlen hmb _ ih =>
    intro s k
    have e1 : (ch ++ rest).length + k = (n + rest.length + k) + 1 := by simp only [List.length_append, hlen]; omega
    have e2 : (ch ++ rest).length = (n + rest.length) + 1 := by simp only [List.length_append, hlen]; omega
    have h0 := hmb []
    rw [List.append_nil] at h0
    have d1 : List.drop (n + 1) (ch ++ (rest ++ s)) = rest ++ s := by
      rw [← hlen]; exact List.drop_left ..
    have d2 : List.drop (n + 1) (ch ++ rest) = rest := by
      rw [← hlen]; exact List.drop_left ..
    rw [e1, List.append_assoc, strnwidth_step, hmb s, e2, strnwidth_step, h0]
    dsimp only
    have a1 : n + rest.length + k + 1 - (n + 1) = rest.length + k := by omega
    have a2 : n + rest.length + 1 - (n + 1) = rest.length := by omega
    rw [d1, d2, a1, a2, ih s k, Nat.add_assoc]

theorem strnwidth_prefix (mb : Bytes → Option (Nat × Nat)) (wcw : Nat → Int) (pre s : Bytes) (k : Nat)
    (h : ∀ c ∈ pre, OneColumn mb wcw c) :
    strnwidth mb wcw (pre ++ s) (pre.length + k) = pre.length + strnwidth mb wcw s k := by
  induction pre with
  | nil => simp
  | cons c r ih =>
    obtain ⟨wc, hmb, hw⟩ := h c (List.mem_cons_self ..) (r ++ s)
    rw [show (c :: r).length + k = (r.length + k) + 1 by simp only [List.length_cons]; omega, List.cons_append,
      strnwidth_step, hmb]
    simp only [hw, Nat.zero_add, List.drop_succ_cons, List.drop_zero, Nat.add_sub_cancel]
    rw [ih fun x hx => h x (List.mem_cons_of_mem _ hx)]
    simp only [List.length_cons, Int.toNat_one]
    omega

/-- The head `~ path :lno:  key : ` in front of any text: punctuation in bytes, path and key in columns. -/
theorem strnwidth_head (mb : Bytes → Option (Nat × Nat)) (wcw : Nat → Int) (t p l key e s : Bytes) (k : Nat)
    (ht : ∀ c ∈ t, OneColumn mb wcw c) (hp : Chars mb p) (hl : ∀ c ∈ l, OneColumn mb wcw c) (hk : Chars mb key)
    (he : ∀ c ∈ e, OneColumn mb wcw c) :
    strnwidth mb wcw (t ++ p ++ l ++ key ++ e ++ s) ((t ++ p ++ l ++ key ++ e).length + k) =
      t.length + strnwidth mb wcw p p.length + l.length + strnwidth mb wcw key key.length + e.length + strnwidth mb wcw s k := by
  have e1 : t ++ p ++ l ++ key ++ e ++ s = t ++ (p ++ (l ++ (key ++ (e ++ s)))) := by simp only [List.append_assoc]
  have e2 : (t ++ p ++ l ++ key ++ e).length + k = t.length + (p.length + (l.length + (key.length + (e.length + k)))) := by
    simp only [List.length_append]; omega
  rw [e1, e2, strnwidth_prefix mb wcw t _ _ ht, strnwidth_chars mb wcw p hp, strnwidth_prefix mb wcw l _ _ hl,
    strnwidth_chars mb wcw key hk, strnwidth_prefix mb wcw e _ _ he]
  omega

/-! A small `mbtowc`/`wcwidth` pair for evaluated examples: ASCII, U+00E9 (two bytes, one column), U+4E2D (three bytes,
two columns), U+0301 (two bytes, no column); every other byte >= 0x80 is an invalid sequence. -/
namespace markerWit

def mb : Bytes → Option (Nat × Nat)
  | [] => some (0, 0)
  | 0xE4 :: 0xB8 :: 0xAD :: _ => some (3, 0x4E2D)
  | 0xC3 :: 0xA9 :: _ => some (2, 0xE9)
  | 0xCC :: 0x81 :: _ => some (2, 0x301)
  | c :: _ => if c < 128 then some (1, c.toNat) else none

def wcw (wc : Nat) : Int :=
  if wc == 0x4E2D then 2 else if wc == 0x301 then 0 else if wc == 0xE9 then 1
  else if 32 ≤ wc && wc ≤ 126 then 1 else -1

/-- value `中é hi` + U+0301 + `!`, the pattern matched `hi` + U+0301 (bytes 6..10). -/
def val : Bytes := [0xE4, 0xB8, 0xAD, 0xC3, 0xA9, 32, 104, 105, 0xCC, 0x81, 33]
def entry (key : Bytes) : Match :=
  { ty := .header, lno := 2, part := 0, subs := [{ str := [104, 105, 0xCC, 0x81], off := some (6, 10) }],
    key := some key, val := some val }

theorem ascii (c : UInt8) (h : c < 128) (rest : Bytes) : mb (c :: rest) = some (1, c.toNat) := by
  unfold mb
  -- the rows of `mb`: `[]`; three lead bytes ≥ 0x80 (`h1.1 : c = 0xE4`, `0xC3`, `0xCC`, against `h`); any other byte: the test `c < 128`
  split
  · simp_all
  · rename_i h1; simp at h1; exact absurd h (by rw [h1.1]; decide)
  · rename_i h1; simp at h1; exact absurd h (by rw [h1.1]; decide)
  · rename_i h1; simp at h1; exact absurd h (by rw [h1.1]; decide)
  · rename_i h1; simp at h1; obtain ⟨rfl, _⟩ := h1; simp [h]

theorem oneColumn (l : Bytes) (h : (l.all fun c => c < 128 && wcw c.toNat == 1) = true) : ∀ c ∈ l, OneColumn mb wcw c := by
  intro c hc rest
  have := List.all_eq_true.1 h c hc
  simp only [Bool.and_eq_true, decide_eq_true_eq, beq_iff_eq] at this
  exact ⟨c.toNat, ascii c this.1 rest, this.2⟩

theorem charsAscii (l : Bytes) (h : (l.all fun c => c < 128) = true) (tail : Bytes) (ht : Chars mb tail) : Chars mb (l ++ tail) := by
  induction l with
  | nil => exact ht
  | cons c r ih =>
    have hc := List.all_eq_true.1 h c (List.mem_cons_self ..)
    have hr : (r.all fun c => c < 128) = true :=
      List.all_eq_true.2 fun x hx => List.all_eq_true.1 h x (List.mem_cons_of_mem _ hx)
    exact Chars.char [c] (r ++ tail) 0 c.toNat rfl (fun s => ascii c (by simpa using hc) _) (ih hr)

theorem charsE9 (tail : Bytes) (ht : Chars mb tail) : Chars mb ([0xC3, 0xA9] ++ tail) :=
  Chars.char [0xC3, 0xA9] tail 1 0xE9 rfl (fun _ => rfl) ht

theorem chars4E2D (tail : Bytes) (ht : Chars mb tail) : Chars mb ([0xE4, 0xB8, 0xAD] ++ tail) :=
  Chars.char [0xE4, 0xB8, 0xAD] tail 2 0x4E2D rfl (fun _ => rfl) ht

end markerWit

end Mdsort.Proofs
