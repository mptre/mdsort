import Mdsort.Model.Strptime
import Mdsort.Spec.Rfc5322Date
import Mdsort.Proofs.FlagsTime

/-!
# C15 - the text of an RFC 5322 date-time through the model of `strptime` (helpers for Props/C15.lean)

The printer of Spec/Rfc5322Date.lean produces tokens; per directive of Model/Strptime.lean there is a lemma saying what
the directive does on the token it is meant for (names by finite case analysis over the 7 / 12 names of the grammar in
lower case plus a lemma about the case-insensitive comparison; numbers by unfolding `get_number`), then one lemma per
group of directives (`%a, ` / `%d %b %Y %H:%M` / `:%S`), the loop of `timeparse` over the parsed table
(`layouts_parse` is the only place where the content of `Gen.dateFormats` enters), and `time_parse` on top
(`Proofs.true_age`: `timegm` = day counting, numeric zone).
-/

namespace Mdsort.Proofs.Strp
open Mdsort Mdsort.Model

/-- The character classes of `<ctype.h>` in the C locale, byte by byte: one evaluation over the 256 bytes. -/
theorem byte_classes : ∀ c : UInt8,
    tolower (tolower c) = tolower c ∧ tolower (Spec.flipCase c) = tolower c ∧ isalpha (tolower c) = isalpha c ∧
      islower (tolower c) = isalpha c ∧ (isalpha c = true → isspace c = false) := by
  apply forall_u8
  decide +kernel

theorem tolower_idem (c : UInt8) : tolower (tolower c) = tolower c := (byte_classes c).1
theorem tolower_flip (c : UInt8) : tolower (Spec.flipCase c) = tolower c := (byte_classes c).2.1
theorem isalpha_tolower (c : UInt8) : isalpha (tolower c) = isalpha c := (byte_classes c).2.2.1
theorem islower_tolower (c : UInt8) : islower (tolower c) = isalpha c := (byte_classes c).2.2.2.1
theorem not_space_of_alpha (c : UInt8) : isalpha c = true → isspace c = false := (byte_classes c).2.2.2.2

theorem tolower_ne_of_alpha_of_not (a c : UInt8) (ha : isalpha a = true) (hc : isalpha c = false) :
    (tolower a == tolower c) = false := by
  have h1 := (islower_tolower a).trans ha
  have h2 := (islower_tolower c).trans hc
  cases h : tolower a == tolower c with
  | false => rfl
  | true =>
    have e : tolower a = tolower c := by simpa using h
    rw [e, h2] at h1
    exact absurd h1 (by decide)

theorem nameMatches_append_nonalpha (c : UInt8) (rest : Bytes) (hc : isalpha c = false) :
    ∀ (n x : Bytes), (∀ a ∈ n, isalpha a = true) → nameMatches n (x ++ c :: rest) = nameMatches n x := by
  intro n x hn
  fun_induction nameMatches n x with
  | case1 => rfl
  | case2 a ns =>
    have := tolower_ne_of_alpha_of_not a c (hn a (by simp)) hc
    simp [nameMatches, this]
  | case3 a ns y x' ih =>
    simp only [List.cons_append, nameMatches]
    rw [ih (fun b hb => hn b (by simp [hb]))]

theorem nameMatches_map_tolower : ∀ (n x : Bytes), nameMatches n (x.map tolower) = nameMatches n x := by
  intro n x
  fun_induction nameMatches n x with
  | case1 => rfl
  | case2 => rfl
  | case3 a ns y x' ih => simp only [List.map_cons, nameMatches, tolower_idem, ih]

theorem bestName_congr (s s' : Bytes) : ∀ (tbl : List (Bytes × Bytes)) (idx : Nat) (best : Option (Nat × Nat)),
    (∀ p ∈ tbl, nameMatches p.1 s = nameMatches p.1 s' ∧ nameMatches p.2 s = nameMatches p.2 s') →
    bestName tbl idx best s = bestName tbl idx best s' := by
  intro tbl
  induction tbl with
  | nil => intro idx best _; rfl
  | cons p tbl ih =>
    intro idx best h
    obtain ⟨full, ab⟩ := p
    have hp := h (full, ab) (by simp)
    simp only [bestName, hp.1, hp.2]
    exact ih _ _ (fun q hq => h q (by simp [hq]))

def tableAlpha (tbl : List (Bytes × Bytes)) : Bool := tbl.all fun p => p.1.all isalpha && p.2.all isalpha

theorem tableAlpha_mem {tbl : List (Bytes × Bytes)} (h : tableAlpha tbl = true) :
    ∀ p ∈ tbl, (∀ a ∈ p.1, isalpha a = true) ∧ (∀ a ∈ p.2, isalpha a = true) := by
  intro p hp
  simp only [tableAlpha, List.all_eq_true, Bool.and_eq_true] at h
  exact h p hp

theorem bestName_text (tbl : List (Bytes × Bytes)) (htbl : tableAlpha tbl = true) (x : Bytes) (c : UInt8) (rest : Bytes)
    (hc : isalpha c = false) :
    bestName tbl 0 none (x ++ c :: rest) = bestName tbl 0 none (x.map tolower) := by
  apply bestName_congr
  intro p hp
  have ha := tableAlpha_mem htbl p hp
  rw [nameMatches_append_nonalpha c rest hc p.1 x ha.1, nameMatches_append_nonalpha c rest hc p.2 x ha.2,
    nameMatches_map_tolower, nameMatches_map_tolower]
  exact ⟨rfl, rfl⟩

theorem weekday_alpha : tableAlpha (nameTable weekdayNames) = true := by decide +kernel
theorem month_alpha : tableAlpha (nameTable monthNames) = true := by decide +kernel

theorem month_lower : ∀ i < 12, bestName (nameTable monthNames) 0 none ((Spec.nameBytes Spec.monthNames i).map tolower) = some (i, 3) := by
  decide +kernel

/-- `(i + 1) % 7`: Sunday is first in the table of `strptime`, last in the grammar. -/
theorem weekday_lower : ∀ i < 7, bestName (nameTable weekdayNames) 0 none ((Spec.nameBytes Spec.dayNames i).map tolower) = some ((i + 1) % 7, 3) := by
  decide +kernel

theorem month_len : ∀ i < 12, (Spec.nameBytes Spec.monthNames i).length = 3 := by decide +kernel
theorem weekday_len : ∀ i < 7, (Spec.nameBytes Spec.dayNames i).length = 3 := by decide +kernel

theorem recase_lower : ∀ (m : List Bool) (x : Bytes), (Spec.recase m x).map tolower = x.map tolower := by
  intro m x
  fun_induction Spec.recase m x with
  | case1 => rfl
  | case2 => rfl
  | case3 b m c x' ih =>
    simp only [List.map_cons, ih]
    cases b <;> simp [tolower_flip]

theorem recase_length (m : List Bool) (x : Bytes) : (Spec.recase m x).length = x.length := by
  have := congrArg List.length (recase_lower m x)
  simpa using this

theorem matchName_recased (t : List (String × String)) (ht : tableAlpha (nameTable t) = true) (x : Bytes) (idx : Nat)
    (hx : bestName (nameTable t) 0 none (x.map tolower) = some (idx, x.length)) (m : List Bool) (c : UInt8) (rest : Bytes)
    (hc : isalpha c = false) : matchName t (Spec.recase m x ++ c :: rest) = some (idx, c :: rest) := by
  unfold matchName
  rw [bestName_text _ ht _ c rest hc, recase_lower, hx]
  simp only
  rw [← recase_length m x, List.drop_append_of_le_length (Nat.le_refl _), List.drop_length]
  rfl

theorem matchName_month (m : List Bool) (i : Nat) (hi : i < 12) (c : UInt8) (rest : Bytes) (hc : isalpha c = false) :
    matchName monthNames (Spec.recase m (Spec.nameBytes Spec.monthNames i) ++ c :: rest) = some (i, c :: rest) :=
  matchName_recased _ month_alpha _ i (by rw [month_lower i hi, month_len i hi]) m c rest hc

theorem matchName_weekday (m : List Bool) (i : Nat) (hi : i < 7) (c : UInt8) (rest : Bytes) (hc : isalpha c = false) :
    matchName weekdayNames (Spec.recase m (Spec.nameBytes Spec.dayNames i) ++ c :: rest) = some ((i + 1) % 7, c :: rest) :=
  matchName_recased _ weekday_alpha _ _ (by rw [weekday_lower i hi, weekday_len i hi]) m c rest hc

theorem matchName_none (t : List (String × String)) (ht : tableAlpha (nameTable t) = true)
    (hn : bestName (nameTable t) 0 none [] = none) (s : Bytes) (hs : ∀ c, s.head? = some c → isalpha c = false) :
    matchName t s = none := by
  unfold matchName
  cases s with
  | nil => rw [hn]
  | cons c rest =>
    have := bestName_text _ ht [] c rest (hs c rfl)
    simp only [List.nil_append, List.map_nil] at this
    rw [this, hn]

theorem weekday_none_nil : bestName (nameTable weekdayNames) 0 none [] = none := by decide +kernel

theorem digit_facts : ∀ n < 10, digitVal (UInt8.ofNat (48 + n)) = some n ∧ isspace (UInt8.ofNat (48 + n)) = false ∧
    isalpha (UInt8.ofNat (48 + n)) = false := by decide +kernel

theorem digitVal_digit (n : Nat) : digitVal (Spec.digit n) = some (n % 10) := (digit_facts (n % 10) (Nat.mod_lt _ (by decide))).1
theorem isspace_digit (n : Nat) : isspace (Spec.digit n) = false := (digit_facts (n % 10) (Nat.mod_lt _ (by decide))).2.1
theorem isalpha_digit (n : Nat) : isalpha (Spec.digit n) = false := (digit_facts (n % 10) (Nat.mod_lt _ (by decide))).2.2

theorem wsp_facts (c : UInt8) (h : Spec.isWsp c = true) :
    isspace c = true ∧ isblank c = true ∧ isalpha c = false ∧ digitVal c = none ∧ (c == 58) = false := by
  have : c = 32 ∨ c = 9 := by simpa [Spec.isWsp] using h
  rcases this with rfl | rfl <;> decide

theorem optFws_space {w : Bytes} (h : Spec.isOptFws w = true) : ∀ c ∈ w, isspace c = true := by
  intro c hc
  simp only [Spec.isOptFws, List.all_eq_true] at h
  exact (wsp_facts c (h c hc)).1

theorem optFws_blank {w : Bytes} (h : Spec.isOptFws w = true) : ∀ c ∈ w, isblank c = true := by
  intro c hc
  simp only [Spec.isOptFws, List.all_eq_true] at h
  exact (wsp_facts c (h c hc)).2.1

theorem dropWhile_ws (w : Bytes) (hw : Spec.isOptFws w = true) (c : UInt8) (r : Bytes) (hc : isspace c = false) :
    (w ++ c :: r).dropWhile isspace = c :: r := by
  rw [List.dropWhile_append_of_pos (optFws_space hw)]
  simp [hc]

theorem getNumber_digits2 (lo hi v : Nat) (w rest : Bytes) (hw : Spec.isOptFws w = true) (h1 : lo ≤ v) (h2 : v ≤ hi) (h3 : v < 100) :
    getNumber lo hi 2 (w ++ (Spec.digits2 v ++ rest)) = some (v, rest) := by
  unfold getNumber
  simp only [Spec.digits2, List.cons_append, List.nil_append]
  rw [dropWhile_ws w hw _ _ (isspace_digit _)]
  simp only [digitVal_digit]
  have e1 : v / 10 % 10 = v / 10 := Nat.mod_eq_of_lt (by omega)
  have hle : v / 10 * 10 ≤ hi := by omega
  have e2 : v / 10 * 10 + v % 10 = v := by omega
  simp only [numLoop, e1, hle, if_true, digitVal_digit, e2]
  have : (v < lo || hi < v) = false := by simp; omega
  simp [this]

theorem getNumber_digit1 (lo hi v : Nat) (w : Bytes) (c : UInt8) (rest : Bytes) (hw : Spec.isOptFws w = true) (h1 : lo ≤ v) (h2 : v ≤ hi)
    (h3 : v < 10) (hc : digitVal c = none) :
    getNumber lo hi 2 (w ++ (Spec.digit v :: c :: rest)) = some (v, c :: rest) := by
  unfold getNumber
  rw [dropWhile_ws w hw _ _ (isspace_digit _)]
  simp only [digitVal_digit]
  have e1 : v % 10 = v := Nat.mod_eq_of_lt h3
  have : (v < lo || hi < v) = false := by simp; omega
  by_cases hle : v * 10 ≤ hi
  · simp [numLoop, e1, hle, hc, this]
  · simp [numLoop, e1, hle, this]

theorem getNumber_digits4 (v : Nat) (rest : Bytes) (h2 : v ≤ 9999) :
    getNumber 0 9999 4 (Spec.digits4 v ++ rest) = some (v, rest) := by
  unfold getNumber
  simp only [Spec.digits4, List.cons_append, List.nil_append, List.dropWhile_cons, isspace_digit, Bool.false_eq_true, if_false,
    digitVal_digit]
  have e1 : v / 1000 % 10 = v / 1000 := Nat.mod_eq_of_lt (by omega)
  have l1 : v / 1000 * 10 ≤ 9999 := by omega
  have e2 : v / 1000 * 10 + v / 100 % 10 = v / 100 := by omega
  have l2 : v / 100 * 10 ≤ 9999 := by omega
  have e3 : v / 100 * 10 + v / 10 % 10 = v / 10 := by omega
  have l3 : v / 10 * 10 ≤ 9999 := by omega
  have e4 : v / 10 * 10 + v % 10 = v := by omega
  simp only [numLoop, e1, l1, if_true, digitVal_digit, e2, l2, e3, l3, e4]
  simp
  omega

theorem recase_alpha (m : List Bool) (x : Bytes) (hx : ∀ a ∈ x, isalpha a = true) : ∀ a ∈ Spec.recase m x, isalpha a = true := by
  intro a ha
  have h1 : tolower a ∈ (Spec.recase m x).map tolower := List.mem_map_of_mem ha
  rw [recase_lower] at h1
  obtain ⟨b, hb, e⟩ := List.mem_map.mp h1
  have := hx b hb
  rw [← isalpha_tolower, e, isalpha_tolower] at this
  exact this

theorem month_name_alpha : ∀ i < 12, ∀ a ∈ Spec.nameBytes Spec.monthNames i, isalpha a = true := by decide +kernel
theorem day_name_alpha : ∀ i < 7, ∀ a ∈ Spec.nameBytes Spec.dayNames i, isalpha a = true := by decide +kernel

theorem dropWhile_ws_word (w x r : Bytes) (hw : Spec.isOptFws w = true) (hx : ∀ a ∈ x, isalpha a = true) (hne : x ≠ []) :
    (w ++ (x ++ r)).dropWhile isspace = x ++ r := by
  cases x with
  | nil => exact absurd rfl hne
  | cons a x' => exact dropWhile_ws w hw a (x' ++ r) (not_space_of_alpha a (hx a (by simp)))

theorem fws_cons {w : Bytes} (h : Spec.isFws w = true) : ∃ c w', w = c :: w' ∧ Spec.isWsp c = true ∧ Spec.isOptFws w = true := by
  cases w with
  | nil => simp [Spec.isFws] at h
  | cons c w' =>
    simp only [Spec.isFws, List.isEmpty_cons, Bool.not_false, Bool.true_and] at h
    refine ⟨c, w', rfl, ?_, h⟩
    simp only [List.all_cons, Bool.and_eq_true] at h
    exact h.1

theorem step_space (w : Bytes) (hw : Spec.isOptFws w = true) (c : UInt8) (r : Bytes) (hc : isspace c = false) (tm : Tm) :
    stepDir .space (w ++ c :: r) tm = some (tm, c :: r) := by
  simp only [stepDir, dropWhile_ws w hw c r hc]

theorem step_lit (c : UInt8) (r : Bytes) (tm : Tm) : stepDir (.lit c) (c :: r) tm = some (tm, r) := by
  simp [stepDir]

theorem step_lit_fail (c : UInt8) (s : Bytes) (tm : Tm) (h : ∀ x, s.head? = some x → (x == c) = false) : stepDir (.lit c) s tm = none := by
  cases s with
  | nil => rfl
  | cons x r => simp [stepDir, h x rfl]

theorem runDirs_append (a b : List Dir) : ∀ (s : Bytes) (tm : Tm), runDirs (a ++ b) s tm =
    (match runDirs a s tm with
     | (tm', some s') => runDirs b s' tm'
     | (tm', none) => (tm', none)) := by
  induction a with
  | nil => intro s tm; rfl
  | cons d a ih =>
    intro s tm
    simp only [List.cons_append, runDirs]
    cases stepDir d s tm with
    | none => rfl
    | some p => exact ih p.2 p.1

def dowPrefix : List Dir := [.wday, .lit 44, .space]
def coreDirs : List Dir := [.mday, .space, .month, .space, .year, .space, .hour, .lit 58, .minute]
def secSuffix : List Dir := [.lit 58, .second]

/-- `day month year hour ":" minute` of the printer, in front of `r`. -/
def coreText (dt : Spec.DateTime) (l : Spec.DateLayout) (r : Bytes) : Bytes :=
  l.fwsDay ++ (Spec.dayDigits dt.day l.dayOneDigit ++ (l.fwsMonth ++
  (Spec.recase l.monCase (Spec.nameBytes Spec.monthNames (dt.month - 1)) ++
  (l.fwsYear ++ (Spec.yearDigits dt.year ++ (l.fwsTime ++
  (Spec.digits2 dt.hour ++ (58 :: (Spec.digits2 dt.minute ++ r)))))))))

/-- What the grammar and the field ranges say about the part `day month year hour ":" minute`. -/
structure CoreOK (dt : Spec.DateTime) (l : Spec.DateLayout) : Prop where
  wDay : Spec.isOptFws l.fwsDay = true
  wMonth : Spec.isFws l.fwsMonth = true
  wYear : Spec.isFws l.fwsYear = true
  wTime : Spec.isFws l.fwsTime = true
  day1 : 1 ≤ dt.day
  day31 : dt.day ≤ 31
  mon1 : 1 ≤ dt.month
  mon12 : dt.month ≤ 12
  year : dt.year ≤ 9999
  hour : dt.hour ≤ 23
  minute : dt.minute ≤ 59

theorem step_mday (dt : Spec.DateTime) (l : Spec.DateLayout) (h : CoreOK dt l) (r : Bytes) (tm : Tm) :
    stepDir .mday (l.fwsDay ++ (Spec.dayDigits dt.day l.dayOneDigit ++ (l.fwsMonth ++ r))) tm =
      some ({ tm with mday := (dt.day : Int) }, l.fwsMonth ++ r) := by
  obtain ⟨c, w', e, hc, _⟩ := fws_cons h.wMonth
  unfold Spec.dayDigits
  split
  · rename_i h1
    have h10 : dt.day < 10 := by
      simp only [Bool.and_eq_true, decide_eq_true_eq] at h1
      exact h1.2
    rw [e]
    simp only [stepDir, List.cons_append, List.nil_append]
    rw [getNumber_digit1 1 31 dt.day l.fwsDay c (w' ++ r) h.wDay h.day1 h.day31 h10 (wsp_facts c hc).2.2.2.1]
    rfl
  · simp only [stepDir]
    rw [getNumber_digits2 1 31 dt.day l.fwsDay _ h.wDay h.day1 h.day31 (by have := h.day31; omega)]
    rfl

theorem run_core (dt : Spec.DateTime) (l : Spec.DateLayout) (h : CoreOK dt l) (r : Bytes) (tm : Tm) :
    runDirs coreDirs (coreText dt l r) tm =
      ({ tm with mday := (dt.day : Int), mon := ((dt.month - 1 : Nat) : Int), year := (dt.year : Int), hour := (dt.hour : Int),
                 min := (dt.minute : Int) }, some r) := by
  obtain ⟨cy, wy, ey, hcy, hwy⟩ := fws_cons h.wYear
  obtain ⟨_, _, _, _, hwm⟩ := fws_cons h.wMonth
  obtain ⟨_, _, _, _, hwt⟩ := fws_cons h.wTime
  have hi : dt.month - 1 < 12 := by have := h.mon12; omega
  have hma := recase_alpha l.monCase _ (month_name_alpha _ hi)
  have hmne : Spec.recase l.monCase (Spec.nameBytes Spec.monthNames (dt.month - 1)) ≠ [] := by
    intro e
    have := recase_length l.monCase (Spec.nameBytes Spec.monthNames (dt.month - 1))
    rw [e, month_len _ hi] at this
    exact absurd this (by decide)
  have hyd : Spec.yearDigits dt.year = Spec.digits4 dt.year := by
    have := h.year
    simp only [Spec.yearDigits]
    rw [if_pos (by omega)]
  unfold coreDirs coreText
  simp only [runDirs, step_mday dt l h]
  -- the white space in front of the month, the month
  simp only [stepDir, dropWhile_ws_word l.fwsMonth _ _ hwm hma hmne]
  rw [ey]
  simp only [List.cons_append, matchName_month l.monCase _ hi cy _ (wsp_facts cy hcy).2.2.1, Option.map]
  -- the white space in front of the year, the year
  rw [← List.cons_append, ← ey, hyd]
  simp only [Spec.digits4, List.cons_append, List.nil_append, dropWhile_ws l.fwsYear hwy _ _ (isspace_digit _)]
  have hy := getNumber_digits4 dt.year (l.fwsTime ++ (Spec.digits2 dt.hour ++ (58 :: (Spec.digits2 dt.minute ++ r)))) h.year
  simp only [Spec.digits4, List.cons_append, List.nil_append] at hy
  simp only [hy]
  -- hour ":" minute
  simp only [Spec.digits2, List.cons_append, List.nil_append, dropWhile_ws l.fwsTime hwt _ _ (isspace_digit _)]
  have hh := getNumber_digits2 0 23 dt.hour [] (58 :: (Spec.digits2 dt.minute ++ r)) rfl (Nat.zero_le _) h.hour (by have := h.hour; omega)
  have hm := getNumber_digits2 0 59 dt.minute [] r rfl (Nat.zero_le _) h.minute (by have := h.minute; omega)
  simp only [Spec.digits2, List.cons_append, List.nil_append] at hh hm
  simp only [hh, BEq.rfl, if_true, hm]

theorem getNumber_dropWhile (lo hi n : Nat) (s : Bytes) : getNumber lo hi n (s.dropWhile isspace) = getNumber lo hi n s := by
  unfold getNumber
  rw [List.dropWhile_idem]

/-- `%a, ` in front of `%d`: the day name of the grammar in any letter case and the comma are consumed; the white space
is left to `%d`, which skips it as well. -/
theorem run_dow (i : Nat) (hi : i < 7) (m : List Bool) (r : Bytes) (ds : List Dir) (tm : Tm) :
    runDirs (dowPrefix ++ (.mday :: ds)) (Spec.recase m (Spec.nameBytes Spec.dayNames i) ++ (44 :: r)) tm =
      runDirs (.mday :: ds) r tm := by
  simp only [dowPrefix, List.cons_append, List.nil_append, runDirs, stepDir,
    matchName_weekday m i hi 44 r (by decide), Option.map, BEq.rfl, if_true, getNumber_dropWhile]

theorem run_dow_fail (s : Bytes) (hs : ∀ c, s.head? = some c → isalpha c = false) (ds : List Dir) (tm : Tm) :
    runDirs (dowPrefix ++ ds) s tm = (tm, none) := by
  simp only [dowPrefix, List.cons_append, runDirs, stepDir, matchName_none weekdayNames weekday_alpha weekday_none_nil s hs, Option.map]

theorem run_sec (v : Nat) (hv : v ≤ 61) (r : Bytes) (tm : Tm) :
    runDirs secSuffix (58 :: (Spec.digits2 v ++ r)) tm = ({ tm with sec := (v : Int) }, some r) := by
  have h := getNumber_digits2 0 61 v [] r rfl (Nat.zero_le _) hv (by omega)
  simp only [List.nil_append] at h
  simp only [secSuffix, runDirs, stepDir, BEq.rfl, if_true, h, Option.map]

theorem run_sec_fail (s : Bytes) (hs : ∀ x, s.head? = some x → (x == 58) = false) (tm : Tm) :
    runDirs secSuffix s tm = (tm, none) := by
  simp only [secSuffix, runDirs, step_lit_fail 58 s tm hs]

/-- `timeparse` over layouts that have been split into directives already. -/
def timeparseDirs : List (Option (List Dir)) → Bytes → Tm → Option (Tm × Bytes)
  | [], _, _ => none
  | none :: fs, s, tm => timeparseDirs fs s tm
  | some ds :: fs, s, tm =>
    match runDirs ds s tm with
    | (tm', some rest) => some (tm', rest)
    | (tm', none) => timeparseDirs fs s tm'

theorem timeparseFrom_eq : ∀ (fs : List String) (s : Bytes) (tm : Tm),
    timeparseFrom fs s tm = timeparseDirs (fs.map fun f => parseFmt (ofString f)) s tm := by
  intro fs
  induction fs with
  | nil => intro s tm; rfl
  | cons f fs ih =>
    intro s tm
    simp only [timeparseFrom, strptimeFrom, List.map_cons]
    cases parseFmt (ofString f) with
    | none => simp only [timeparseDirs]; exact ih s tm
    | some ds =>
      simp only [timeparseDirs]
      rcases runDirs ds s tm with ⟨tm', _ | rest⟩
      · exact ih s tm'
      · rfl

/-- The table of time.c read by the interpreter: every directive of every layout is known, and the three layouts are
`%a, ` + core + `:%S`, `%a, ` + core, core + `:%S` with core = `%d %b %Y %H:%M`. -/
theorem layouts_parse : (Gen.dateFormats.map fun f => parseFmt (ofString f)) =
    [some (dowPrefix ++ (coreDirs ++ secSuffix)), some (dowPrefix ++ coreDirs), some (coreDirs ++ secSuffix)] := by
  decide +kernel

theorem timeparseC_eq (s : Bytes) : timeparseC s =
    timeparseDirs [some (dowPrefix ++ (coreDirs ++ secSuffix)), some (dowPrefix ++ coreDirs), some (coreDirs ++ secSuffix)] s tmZero := by
  rw [timeparseC, timeparseFrom_eq, layouts_parse]

/-- The zone and what follows it. -/
def zoneText (dt : Spec.DateTime) (l : Spec.DateLayout) : Bytes :=
  l.fwsZone ++ ((if dt.zonePlus then 43 else 45) :: (Spec.digits2 dt.zoneHour ++ (Spec.digits2 dt.zoneMinute ++ l.trailer)))

/-- The broken-down time of the fields. -/
def tmOf (dt : Spec.DateTime) : Tm :=
  { year := (dt.year : Int), mon := ((dt.month - 1 : Nat) : Int), mday := (dt.day : Int), hour := (dt.hour : Int),
    min := (dt.minute : Int), sec := ((dt.second.getD 0 : Nat) : Int) }

/-- What the text must satisfy for the layouts to read it: the grammar's white space, the field ranges `strptime`
checks, a four-digit year, and no white space in front of a day name. -/
structure TextOK (dt : Spec.DateTime) (l : Spec.DateLayout) : Prop extends CoreOK dt l where
  wZone : Spec.isFws l.fwsZone = true
  sec : ∀ s, dt.second = some s → s ≤ 61
  dow : ∀ i, dt.dayOfWeek = some i → i < 7 ∧ l.fwsDow = []

theorem zoneText_head (dt : Spec.DateTime) (l : Spec.DateLayout) (h : Spec.isFws l.fwsZone = true) :
    ∀ x, (zoneText dt l).head? = some x → (x == 58) = false := by
  obtain ⟨c, w', e, hc, _⟩ := fws_cons h
  intro x hx
  rw [zoneText, e] at hx
  simp only [List.cons_append, List.head?_cons, Option.some.injEq] at hx
  rw [← hx]
  exact (wsp_facts c hc).2.2.2.2

theorem coreText_head (dt : Spec.DateTime) (l : Spec.DateLayout) (h : Spec.isOptFws l.fwsDay = true) (r : Bytes) :
    ∀ c, (coreText dt l r).head? = some c → isalpha c = false := by
  intro c hc
  unfold coreText at hc
  cases hw : l.fwsDay with
  | nil =>
    rw [hw] at hc
    unfold Spec.dayDigits at hc
    -- one digit or two: a digit either way
    split at hc
    · simp only [List.nil_append, List.cons_append, List.head?_cons, Option.some.injEq] at hc
      rw [← hc]
      exact isalpha_digit _
    · simp only [Spec.digits2, List.nil_append, List.cons_append, List.head?_cons, Option.some.injEq] at hc
      rw [← hc]
      exact isalpha_digit _
  | cons x w' =>
    rw [hw] at hc h
    simp only [List.cons_append, List.head?_cons, Option.some.injEq] at hc
    simp only [Spec.isOptFws, List.all_cons, Bool.and_eq_true] at h
    rw [← hc]
    exact (wsp_facts x h.1).2.2.1

theorem renderDate_eq (dt : Spec.DateTime) (l : Spec.DateLayout) :
    Spec.renderDate dt l =
      (match dt.dayOfWeek with
       | none => []
       | some i => l.fwsDow ++ (Spec.recase l.dowCase (Spec.nameBytes Spec.dayNames i) ++ [44])) ++
      coreText dt l ((match dt.second with | none => [] | some s => 58 :: Spec.digits2 s) ++ zoneText dt l) := rfl

theorem run_dow_core (dt : Spec.DateTime) (l : Spec.DateLayout) (h : CoreOK dt l) (i : Nat) (hi : i < 7) (tail : List Dir)
    (r : Bytes) (tm : Tm) :
    runDirs (dowPrefix ++ (coreDirs ++ tail)) (Spec.recase l.dowCase (Spec.nameBytes Spec.dayNames i) ++ (44 :: coreText dt l r)) tm =
      runDirs tail r { tm with mday := (dt.day : Int), mon := ((dt.month - 1 : Nat) : Int), year := (dt.year : Int),
                               hour := (dt.hour : Int), min := (dt.minute : Int) } := by
  have e : dowPrefix ++ (coreDirs ++ tail) = dowPrefix ++ (.mday :: (coreDirs.tail ++ tail)) := rfl
  have e' : (Dir.mday :: (coreDirs.tail ++ tail)) = coreDirs ++ tail := rfl
  rw [e, run_dow i hi, e', runDirs_append, run_core dt l h]

theorem run_dow_core_nil (dt : Spec.DateTime) (l : Spec.DateLayout) (h : CoreOK dt l) (i : Nat) (hi : i < 7)
    (r : Bytes) (tm : Tm) :
    runDirs (dowPrefix ++ coreDirs) (Spec.recase l.dowCase (Spec.nameBytes Spec.dayNames i) ++ (44 :: coreText dt l r)) tm =
      ({ tm with mday := (dt.day : Int), mon := ((dt.month - 1 : Nat) : Int), year := (dt.year : Int),
                 hour := (dt.hour : Int), min := (dt.minute : Int) }, some r) := by
  have := run_dow_core dt l h i hi [] r tm
  rw [List.append_nil] at this
  rw [this]
  rfl

theorem text_dow (dt : Spec.DateTime) (l : Spec.DateLayout) (i : Nat) (hd : dt.dayOfWeek = some i) (hw : l.fwsDow = []) (r : Bytes) :
    (match dt.dayOfWeek with
       | none => []
       | some i => l.fwsDow ++ (Spec.recase l.dowCase (Spec.nameBytes Spec.dayNames i) ++ [44])) ++ coreText dt l r =
    Spec.recase l.dowCase (Spec.nameBytes Spec.dayNames i) ++ (44 :: coreText dt l r) := by
  rw [hd, hw]
  simp only [List.nil_append, List.append_assoc, List.cons_append]

/-- Which alternatives of the grammar the three layouts cover: a text with NEITHER a day of week nor seconds is read by
none of the three. -/
theorem timeparseC_render (dt : Spec.DateTime) (l : Spec.DateLayout) (h : TextOK dt l) :
    timeparseC (Spec.renderDate dt l) =
      (if dt.dayOfWeek.isSome || dt.second.isSome then some (tmOf dt, zoneText dt l) else none) := by
  rw [timeparseC_eq, renderDate_eq]
  have hc := h.toCoreOK
  cases hd : dt.dayOfWeek with
  | some i =>
    obtain ⟨hi, hw⟩ := h.dow i hd
    have ht := text_dow dt l i hd hw
    rw [hd] at ht
    rw [ht]
    simp only [Option.isSome_some, Bool.true_or, if_true]
    cases hs : dt.second with
    | some sv =>
      simp only [timeparseDirs, List.cons_append, run_dow_core dt l hc i hi, run_sec sv (h.sec sv hs)]
      simp only [tmOf, hs, Option.getD_some]
    | none =>
      simp only [timeparseDirs, List.nil_append, run_dow_core dt l hc i hi, run_sec_fail _ (zoneText_head dt l h.wZone),
        run_dow_core_nil dt l hc i hi]
      simp only [tmOf, tmZero, hs, Option.getD_none]
      rfl
  | none =>
    simp only [List.nil_append, Option.isSome_none, Bool.false_or]
    simp only [timeparseDirs, run_dow_fail _ (coreText_head dt l hc.wDay _)]
    rw [runDirs_append, run_core dt l hc]
    cases hs : dt.second with
    | some sv =>
      simp only [List.cons_append, run_sec sv (h.sec sv hs), Option.isSome_some, if_true]
      simp only [tmOf, hs, Option.getD_some]
    | none =>
      simp only [List.nil_append, run_sec_fail _ (zoneText_head dt l h.wZone), Option.isSome_none]
      rfl

theorem digits2_eq_twoDigits (n : Nat) (h : n < 100) : Spec.digits2 n = twoDigits n := by
  have e : n / 10 % 10 = n / 10 := Nat.mod_eq_of_lt (by omega)
  simp only [Spec.digits2, Spec.digit, twoDigits, e]

theorem nspaces_append (w : Bytes) (hw : Spec.isOptFws w = true) (c : UInt8) (r : Bytes) (hc : isblank c = false) :
    (w ++ c :: r).drop (nspaces (w ++ c :: r)) = c :: r := by
  rw [nspaces, (List.span_stop (optFws_blank hw) hc).1, List.drop_left]

theorem zoneText_drop (dt : Spec.DateTime) (l : Spec.DateLayout) (hw : Spec.isFws l.fwsZone = true) (h1 : dt.zoneHour ≤ 23)
    (h2 : dt.zoneMinute ≤ 59) :
    (zoneText dt l).drop (nspaces (zoneText dt l)) =
      (if dt.zonePlus then 43 else 45) :: (twoDigits dt.zoneHour ++ twoDigits dt.zoneMinute ++ l.trailer) := by
  obtain ⟨_, _, _, _, hw'⟩ := fws_cons hw
  rw [zoneText, nspaces_append _ hw' _ _ (by cases dt.zonePlus <;> decide),
    digits2_eq_twoDigits _ (by omega), digits2_eq_twoDigits _ (by omega), List.append_assoc]

/-- `hne` excludes the civil time 1969-12-31 23:59:59: `time_parse` takes the value -1 of `timegm` for an error. -/
theorem timeParse_render (dt : Spec.DateTime) (l : Spec.DateLayout) (zn : Bytes → Option Int) (h : TextOK dt l)
    (hcov : (dt.dayOfWeek.isSome || dt.second.isSome) = true) (hy : 1 ≤ dt.year) (h1 : dt.zoneHour ≤ 23) (h2 : dt.zoneMinute ≤ 59)
    (hne : Spec.civilSeconds dt ≠ -1) :
    timeParse timeparseC zn (Spec.renderDate dt l) = some (Spec.instant dt) := by
  have hs := timeparseC_render dt l h
  rw [hcov, if_pos rfl] at hs
  have hm : dt.month - 1 + 1 = dt.month := by have := h.mon1; omega
  have hne' : Spec.epoch dt.year (dt.month - 1 + 1) dt.day dt.hour dt.minute (dt.second.getD 0) ≠ -1 := by
    rw [hm]; exact hne
  have key := (true_age timeparseC zn (Spec.renderDate dt l) (zoneText dt l) dt.year (dt.month - 1) dt.day dt.hour dt.minute
    (dt.second.getD 0) dt.zonePlus dt.zoneHour dt.zoneMinute l.trailer hy (by have := h.mon12; omega) h1 h2 hs
    (zoneText_drop dt l h.wZone h1 h2) hne').1
  rw [key, hm]
  rfl

theorem timeParse_render_uncovered (dt : Spec.DateTime) (l : Spec.DateLayout) (zn : Bytes → Option Int) (h : TextOK dt l)
    (hd : dt.dayOfWeek = none) (hs : dt.second = none) :
    timeParse timeparseC zn (Spec.renderDate dt l) = none := by
  have := timeparseC_render dt l h
  rw [hd, hs] at this
  simp only [timeParse, this]
  rfl

/-- The grammar and the semantic rules of RFC 5322 3.3 imply what the layouts need, apart from the four-digit year
and the white space in front of a day name. -/
theorem textOK_of_wellFormed (dt : Spec.DateTime) (l : Spec.DateLayout) (h : Spec.WellFormed dt l) (hy : dt.year ≤ 9999)
    (hw : dt.dayOfWeek.isSome = true → l.fwsDow = []) : TextOK dt l := by
  -- the white space of the grammar and the range of a day name; then the ranges of the fields
  obtain ⟨⟨_, wDay, wMonth, wYear, wTime, wZone, _, dow7, _⟩, ⟨_, mon1, mon12, day1, dayDim, hour, minute, sec60, _, _⟩⟩ := h
  have hdim : Spec.daysInMonth dt.year dt.month ≤ 31 := by
    unfold Spec.daysInMonth
    split <;> try split
    all_goals decide
  exact { wDay := wDay, wMonth := wMonth, wYear := wYear, wTime := wTime, day1 := day1, day31 := Nat.le_trans dayDim hdim,
          mon1 := mon1, mon12 := mon12, year := hy, hour := hour, minute := minute, wZone := wZone,
          sec := fun s hs => Nat.le_trans (sec60 s hs) (by decide),
          dow := fun i hi => ⟨dow7 i hi, hw (by rw [hi]; rfl)⟩ }

end Mdsort.Proofs.Strp
