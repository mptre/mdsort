import Mdsort.Proofs.HeaderTable
import Mdsort.Proofs.HeaderReparse

/-! C08 for the table update `setHeaderRaw` (the value as it is; `message_set_header` itself, which first replaces line breaks, is
Proofs/HeaderBlank.lean): one set and `message_write` seen on the file-order list of fields, then any sequence of sets.
Also the statement of `C10_binary_search` (`keyMatch`, `KeySorted`, `searchHeader_spec`). -/

namespace Mdsort.Proofs
open Mdsort Mdsort.Model

/-- The table in file order, as (name, raw value) pairs. -/
def fileOrder (m : Msg) : List (Bytes × Bytes) := (sortById m.headers).map fun h => (h.key, h.val)

theorem qk_kv (k : Bytes) (h : Hdr) : qk k (h.key, h.val) = kmatch k h := (kmatch_eq_nameEq k h).symm

/-- One set seen on the fields a reader sees (`seen` keeps the names, so the filters are those of the table: `e1`, `e2`). -/
theorem stepRel_of_tableStep (k v : Bytes) (L L' : List Hdr) (h : TableStep k v L L') :
    StepRel k (v.dropWhile isblank) (L.map fun h => seen (h.key, h.val)) (L'.map fun h => seen (h.key, h.val)) := by
  have e1 : ((fun f : Fld => !qk k f) ∘ fun h : Hdr => seen (h.key, h.val)) = fun x => !kmatch k x := by
    funext x; simp [seen, qk, ← qk_kv]
  have e2 : (qk k ∘ fun h : Hdr => seen (h.key, h.val)) = kmatch k := by
    funext x; simp [seen, qk, ← qk_kv]
  refine ⟨?_, ?_, ?_⟩
  · rw [List.filter_map, List.filter_map, e1, h.others]
  · obtain ⟨h', hf, hv⟩ := h.once
    rw [List.filter_map, e2, hf]
    simp [seen, hv]
  · intro hany
    rw [List.any_map, e2] at hany
    rw [List.takeWhile_map, List.takeWhile_map, e1, h.pos hany]

/-- Every header of the table keeps the line structure when printed. -/
def TOk (hs : List Hdr) : Prop := ∀ h ∈ hs, KeyOk h.key ∧ ValOk h.val

/-- A message whose table `message_write` prints faithfully: the table invariant, and every field keeps the line structure. -/
structure GoodMsg (M : Msg) : Prop where
  inv : TInv M.headers
  ok : TOk M.headers

theorem setHeaderRaw_good (M : Msg) (k v : Bytes) (hM : GoodMsg M) (hk : KeyOk k) (hv : ValOk v) :
    GoodMsg (setHeaderRaw M k v) ∧ (setHeaderRaw M k v).body = M.body ∧
    StepRel k (v.dropWhile isblank) ((fileOrder M).map seen) ((fileOrder (setHeaderRaw M k v)).map seen) := by
  obtain ⟨h1, h2, h3, h4⟩ := setHeaderRaw_step M k v hM.inv
  refine ⟨⟨h1, ?_⟩, h2, ?_⟩
  · intro x hx
    rcases h3 x hx with hx | ⟨hxv, hxk⟩
    · exact hM.ok x hx
    · refine ⟨?_, by rw [hxv]; exact hv⟩
      rcases hxk with hxk | ⟨y, hy, hyk⟩
      · rw [hxk]; exact hk
      · rw [← hyk]; exact (hM.ok y hy).1
  · unfold fileOrder
    rw [List.map_map, List.map_map]
    exact stepRel_of_tableStep k v _ _ h4

/-- `message_write` re-sorts the table by name after printing (fix "restore header ordering by name"): under the invariant that gives the
table back. -/
theorem messageWrite_snd (M : Msg) (h : TInv M.headers) : (messageWrite M).2 = M := by
  unfold messageWrite
  simp only
  rw [sortByKey_sortById M.headers h]

theorem write_read (M : Msg) (hM : GoodMsg M) (hb0 : ∀ c ∈ M.body, c ≠ 0)
    (hb : ∀ c, M.body.head? = some c → c ≠ 10) :
    Spec.read (messageWrite M).1 = some ((fileOrder M).map seen, M.body) := by
  have e : (messageWrite M).1 = renderF (fileOrder M) M.body := by
    unfold messageWrite fileOrder
    simp only
    rw [render_eq]
  rw [e]
  apply read_renderF _ _ _ hb0 hb
  intro f hf
  unfold fileOrder at hf
  rw [List.mem_map] at hf
  obtain ⟨h, hh, rfl⟩ := hf
  rw [sortById, List.mem_mergeSort] at hh
  exact hM.ok h hh

theorem parse_good (m : Bytes) (fs : List Fld) (b : Bytes) (h : Spec.read m = some (fs, b)) :
    GoodMsg (parseMessage m) ∧ fileOrder (parseMessage m) = fs ∧ (parseMessage m).body = b := by
  obtain ⟨hok, -, -⟩ := read_fields_ok m fs b h
  obtain ⟨e1, e2, -⟩ := parseMessage_eq_read m fs b h
  refine ⟨⟨TInv_parseHeaders _, ?_⟩, e1, e2⟩
  rw [parseMessage_read m fs b h]
  intro x hx
  simp only at hx
  rw [sortByKey, List.mem_mergeSort] at hx
  have : (x.key, x.val) ∈ fs := by
    have hm : (x.key, x.val) ∈ (mkHdrs 0 fs).map (fun h => (h.key, h.val)) :=
      List.mem_map.mpr ⟨x, hx, rfl⟩
    rw [mkHdrs_map_kv] at hm
    exact hm
  exact ⟨(hok _ this).1, (hok _ this).2.1⟩

/-- The match predicate of `searchheader` (`kmatch` of Proofs/HeaderSearch.lean, under the name `C10_binary_search` uses). -/
def keyMatch (key : Bytes) (h : Hdr) : Bool := strcasecmp key h.key == .eq

/-- Sortedness as produced by `sortByKey`. -/
def KeySorted (hs : List Hdr) : Prop := hs.Pairwise (fun a b => keyLe a b = true)

theorem sortByKey_sorted (hs : List Hdr) : KeySorted (sortByKey hs) :=
  List.pairwise_mergeSort keyLe_trans keyLe_total hs

/-- `searchHeader_list` in the vocabulary of `C10_binary_search`. -/
theorem searchHeader_spec (hs : List Hdr) (key : Bytes) (hsorted : KeySorted hs) :
    match searchHeader hs key with
    | none => hs.filter (keyMatch key) = []
    | some (i, n) => 0 < n ∧ (hs.drop i).take n = hs.filter (keyMatch key) ∧
        (∀ h ∈ hs.take i, keyMatch key h = false) ∧ (∀ h ∈ hs.drop (i + n), keyMatch key h = false) :=
  searchHeader_list hs key hsorted

/-- Apply a sequence of header settings (label / add-header, in order). -/
def applySetsRaw (m : Msg) : List (Bytes × Bytes) → Msg
  | [] => m
  | (k, v) :: rest => applySetsRaw (setHeaderRaw m k v) rest

/-- Names and values a configuration can set without breaking the line structure: the hypothesis of `rewrite_preserves` only (C08 is
stated with `SetRes`, Proofs/HeaderBlank.lean, and `C08_SetOk` of Props/C08.lean). -/
def SetOk (kv : Bytes × Bytes) : Prop :=
  (∀ c ∈ kv.1, c ≠ 58 ∧ isspace c = false ∧ c ≠ 0) ∧ (∀ c ∈ kv.2, c ≠ 10 ∧ c ≠ 0) ∧
  (∀ c, kv.2.head? = some c → isblank c = false)

theorem setOk_ok (kv : Bytes × Bytes) (h : SetOk kv) : KeyOk kv.1 ∧ ValOk kv.2 ∧ seen kv = kv := by
  obtain ⟨h1, h2, h3⟩ := h
  have hshape : ValShape kv.2 [] kv.2 [] :=
    ⟨by simp, by simp, fun hm => (h2 10 hm).1 rfl, h3, by simp⟩
  refine ⟨h1, ⟨fun c hc => (h2 c hc).2, _, _, _, hshape⟩, ?_⟩
  simpa using seen_of_shape hshape kv.1

theorem applySetsRaw_inv (M : Msg) (kvs : List (Bytes × Bytes)) (h : TInv M.headers) :
    TInv (applySetsRaw M kvs).headers := by
  induction kvs generalizing M with
  | nil => exact h
  | cons kv rest ih =>
    obtain ⟨k, v⟩ := kv
    exact ih _ (setHeaderRaw_step M k v h).1

theorem applySetsRaw_good (M : Msg) (kvs : List (Bytes × Bytes)) (hM : GoodMsg M)
    (hk : ∀ kv ∈ kvs, KeyOk kv.1 ∧ ValOk kv.2) :
    GoodMsg (applySetsRaw M kvs) ∧ (applySetsRaw M kvs).body = M.body ∧
    Chain (kvs.map seen) ((fileOrder M).map seen) ((fileOrder (applySetsRaw M kvs)).map seen) := by
  induction kvs generalizing M with
  | nil => exact ⟨hM, rfl, rfl⟩
  | cons kv rest ih =>
    obtain ⟨k, v⟩ := kv
    obtain ⟨hk1, hv1⟩ := hk (k, v) (by simp)
    obtain ⟨g1, b1, s1⟩ := setHeaderRaw_good M k v hM hk1 hv1
    obtain ⟨g2, b2, c2⟩ := ih (setHeaderRaw M k v) g1 (fun kv hkv => hk kv (by simp [hkv]))
    exact ⟨g2, b2.trans b1, _, s1, c2⟩

theorem map_seen_of_fixed {fs : List Fld} (h : ∀ f ∈ fs, seen f = f) : fs.map seen = fs :=
  (List.map_congr_left h).trans (List.map_id fs)

/-- For a well-formed message and settings that keep the line structure, the file `message_write` prints after the
settings is accepted by `Spec.rewriteOk` for the values a reader sees (leading blanks dropped).  Proofs/HeaderBlank.lean and
Props/C08.lean build on this one. -/
theorem rewrite_preserves_seen (m : Bytes) (kvs : List (Bytes × Bytes)) (hwf : Spec.WF m)
    (hk : ∀ kv ∈ kvs, KeyOk kv.1 ∧ ValOk kv.2) :
    Spec.rewriteOk m (kvs.map seen) (messageWrite (applySetsRaw (parseMessage m) kvs)).1 = true := by
  unfold Spec.WF at hwf
  obtain ⟨⟨fs, b⟩, hread⟩ := Option.isSome_iff_exists.mp hwf
  obtain ⟨hfs, hb0, hb⟩ := read_fields_ok m fs b hread
  obtain ⟨g0, hfo, hbody⟩ := parse_good m fs b hread
  obtain ⟨g, hbd, hchain⟩ := applySetsRaw_good (parseMessage m) kvs g0 hk
  rw [hfo] at hchain
  have hbd' : (applySetsRaw (parseMessage m) kvs).body = b := hbd.trans hbody
  have hout := write_read _ g (by rw [hbd']; exact hb0) (by rw [hbd']; exact hb)
  rw [hbd'] at hout
  rw [map_seen_of_fixed (fun f hf => (hfs f hf).2.2)] at hchain
  exact chain_rewriteOk m _ _ fs _ b hread hout hchain

/-- The special case of settings a reader sees as they are (`SetOk`: no line break, no leading blank), for the settings as given.
Props/C08.lean states C08 through `rewrite_preserves_any` (Proofs/HeaderBlank.lean) and its own `C08_SetOk`. -/
theorem rewrite_preserves (m : Bytes) (kvs : List (Bytes × Bytes)) (hwf : Spec.WF m)
    (hk : ∀ kv ∈ kvs, SetOk kv) :
    Spec.rewriteOk m kvs (messageWrite (applySetsRaw (parseMessage m) kvs)).1 = true := by
  have h := rewrite_preserves_seen m kvs hwf (fun kv hkv => ⟨(setOk_ok kv (hk kv hkv)).1, (setOk_ok kv (hk kv hkv)).2.1⟩)
  rwa [map_seen_of_fixed (fun kv hkv => (setOk_ok kv (hk kv hkv)).2.2)] at h

theorem second_write_same (m : Bytes) (kvs : List (Bytes × Bytes)) :
    let w := messageWrite (applySetsRaw (parseMessage m) kvs)
    (messageWrite w.2).1 = w.1 := by
  intro w
  have : w.2 = applySetsRaw (parseMessage m) kvs :=
    messageWrite_snd _ (applySetsRaw_inv _ kvs (TInv_parseHeaders _))
  rw [this]

theorem lookup_after_write (m : Bytes) (kvs : List (Bytes × Bytes)) (name : Bytes) :
    let msg := applySetsRaw (parseMessage m) kvs
    getHeader (messageWrite msg).2 name = getHeader msg name := by
  intro msg
  rw [messageWrite_snd msg (applySetsRaw_inv _ kvs (TInv_parseHeaders _))]

end Mdsort.Proofs
