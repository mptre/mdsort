import Mdsort.Proofs.WorldWholeMsg

/-!
# No error bit means final place: one message through `processMessage`, in the terms of `runPlan`

`exec_exit0_final` (C01_exit0_final) is about one action list started in a `StartAt` world.  Through `processMessage` -
parse, evaluation, execution, `message_free`, the update of the registry - the statement is the last clause of
`whole_processMessage` (WorldWholeMsg, every fault plan); here it is read in the terms of `WholeFinalPlace`.
-/

namespace Mdsort.Proofs
open Mdsort Mdsort.Model

/-- The message `name` of `md` is at its final place: the registry and the world have it in the directory of the last
move/flag/flags action (`finalDir`), under a name that is its own or was free, complete; the original entry is free unless it is
the final one; every other entry is bound as before. -/
def WholeFinalPlace (w : World) (md : Maildir) (name content : Bytes) (ml : MatchList) (msg : Msg)
    (r : MainSt × Maildir) (w' : World) : Prop :=
  ∃ n fid' c', r.1.files.get (World.finalDir ml md.path) n = some c' ∧
    w'.lookup (World.finalDir ml md.path) n = some fid' ∧ w'.file fid' = some ⟨c', c'⟩ ∧
    (World.rewrites ml = true → c' = (messageWrite msg).1) ∧ (c' = content ∨ c' = (messageWrite msg).1) ∧
    ((World.finalDir ml md.path, n) ≠ (md.path, name) →
      w'.lookup md.path name = none ∧ w.lookup (World.finalDir ml md.path) n = none) ∧
    ∀ q m, (q, m) ≠ (md.path, name) → (q, m) ≠ (World.finalDir ml md.path, n) → w'.lookup q m = w.lookup q m

/-- What `processMessage` establishes when it returns without the error bit, by the verdict `v` of the rules in that run. -/
def WholeExit0V (w : World) (md : Maildir) (name content : Bytes) (st : MainSt) (r : MainSt × Maildir) (w' : World) : Verdict → Prop
  | .act ml msgs _ => WholeFinalPlace w md name content ml (msgs 0) r w'
  | .nomatch => r.1.files = st.files
  | _ => False

theorem WholeDone.exit0V {env : PEnv} {w w' : World} {md : Maildir} {name content : Bytes} {st : MainSt} {r : MainSt × Maildir}
    {v : Verdict} (hdry : env.dryrun = false) (h : WholeDone env w md name content st r w' v) :
    WholeExit0V w md name content st r w' v := by
  cases v with
  | act ml msgs fl =>
    have h2 := h.2
    rw [if_neg (by rw [hdry]; exact Bool.false_ne_true)] at h2
    obtain ⟨n, c', fid, hfiles, dl, hlk, hf, hrw, hc⟩ := h2
    refine ⟨n, fid, c', by rw [hfiles, Files.whole_get_put]; simp, hlk, hf, hrw, hc,
      fun hne => ⟨dl.gone (Ne.symm hne), dl.fresh (Ne.symm hne)⟩, fun q m h1 h2 => dl.others (q, m) h1 h2⟩
  | «nomatch» => exact h.1
  | unparsable => exact h
  | error => exact h
  | interpFail => exact h

/-- C01, no error bit means final place (`C01_message_exit0`), under EVERY fault plan - the faults may also hit calls of
evaluation: the verdict is the one for SOME answers `as` of the operating system to the questions of evaluation (those of the run;
irrelevant for a rule tree without `command` / `isdirectory` / file-time `date` conditions). -/
theorem whole_message_exit0 (env : PEnv) (orc : EvalOracles) (expr : Expr) (md : Maildir) (name : Bytes) (st : MainSt)
    (w : World) (plan : Plan) {d : Handle} {content : Bytes} {fid : Nat}
    (hd : md.dirH = some d) (hp : w.dirPath d = some md.path)
    (hwf : pathjoin PATH_MAX md.root (subdirName md.subdir) = some md.path)
    (hfc : st.files.get md.path name = some content)
    (hl : w.lookup md.path name = some fid) (hf : w.file fid = some ⟨content, content⟩) (hc : WholeClean w)
    (hnd : WholeNoDiscard env orc expr) (hdry : env.dryrun = false)
    (he : (runPlan plan (processMessage env orc expr md name st) w 0 []).1.1.error = false) :
    ∃ as, WholeExit0V w md name content st (runPlan plan (processMessage env orc expr md name st) w 0 []).1
      (runPlan plan (processMessage env orc expr md name st) w 0 []).2.1 (verdictA env orc expr md.path name content as) := by
  rw [World.runPlan_eq] at he ⊢
  obtain ⟨as, h⟩ := (World.wp_sound plan (whole_processMessage env orc expr md name st hd hp hwf hfc hl
    (hc.freshIds _ (World.mem_files_of_file hf)) hf fun _ => hnd) 0).2.2.2.2 he
  exact ⟨as, h.exit0V hdry⟩

end Mdsort.Proofs
