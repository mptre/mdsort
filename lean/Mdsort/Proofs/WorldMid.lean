import Mdsort.Proofs.WorldFoot

/-! Directory entries as a function (`lk`), the state of the world in the middle of a script relative to the world at
its start (`Mid`: exactly which entries are bound to what, and everything that existed untouched), the net effect of an action
on the entries (`Delta`), and, stated with them, where the message is (`Located`).  What `maildir_move` / `maildir_write` guarantee
is `MoveC` / `WriteC` (WorldCountMove, WorldCountWrite); `MovePost`, `WritePost` at the end of this file are their exact halves as
predicates, which no script is proved to satisfy.  How `Mid` stands to the other relations "relative to the start" is said at the
head of WorldFoot. -/

namespace Mdsort.Proofs.World
open Mdsort Mdsort.Model

/-- A directory entry: directory path and name. -/
abbrev Ent := Bytes × Bytes

def lk (w : World) (x : Ent) : Option Nat := w.lookup x.1 x.2

theorem lk_bind (w : World) (b : Ent) (fid : Nat) (x : Ent) (hp : (w.dir b.1).isSome) :
    lk (w.bind b.1 b.2 fid) x = if x = b then some fid else lk w x := by
  unfold lk
  rw [lookup_bind _ _ _ _ _ _ hp]
  obtain ⟨x1, x2⟩ := x
  obtain ⟨b1, b2⟩ := b
  simp only [Prod.mk.injEq]

theorem lk_unbind (w : World) (a x : Ent) : lk (w.unbind a.1 a.2) x = if x = a then none else lk w x := by
  unfold lk
  rw [lookup_unbind]
  obtain ⟨x1, x2⟩ := x
  obtain ⟨a1, a2⟩ := a
  simp only [Prod.mk.injEq]

/-- While a script runs: the world `w'` relative to the world `w` at its start.  The entries are
described by `L`; directories exist as before; files and handles that existed at the start are
untouched. -/
structure Mid (w w' : World) (L : Ent → Option Nat) : Prop where
  look : ∀ x, lk w' x = L x
  dirSome : ∀ q, (w'.dir q).isSome = (w.dir q).isSome
  objs : ∀ h, h < w.handles.length → w'.obj h = w.obj h
  len : w.handles.length ≤ w'.handles.length
  nextFid : w.nextFid ≤ w'.nextFid
  files : ∀ g, g < w.nextFid → w'.file g = w.file g

theorem Mid.refl (w : World) : Mid w w (lk w) :=
  ⟨fun _ => rfl, fun _ => rfl, fun _ _ => rfl, Nat.le_refl _, Nat.le_refl _, fun _ _ => rfl⟩

theorem Mid.congr {w w' : World} {L L' : Ent → Option Nat} (m : Mid w w' L) (h : ∀ x, L x = L' x) : Mid w w' L' :=
  ⟨fun x => (m.look x).trans (h x), m.dirSome, m.objs, m.len, m.nextFid, m.files⟩

theorem Mid.dirPath {w w' : World} {L : Ent → Option Nat} (m : Mid w w' L) {h : Handle} {p : Bytes}
    (hp : w.dirPath h = some p) : w'.dirPath h = some p := by
  rw [← hp]; exact dirPath_congr (m.objs h (lt_of_dirPath hp))

theorem Mid.call {w w' : World} {L : Ent → Option Nat} (m : Mid w w' L) (c : Call) (r : Res)
    (hd : Call.mkrm c = false) (hsub : ∀ h, Call.subject c = some h → w.handles.length ≤ h)
    (hfs : ∀ g, g < w.nextFid → fileSafe w' g c) : Mid w (stepWorld w' c r) (lk (core w' c r)) := by
  refine ⟨fun _ => rfl, fun q => ?_, fun h hh => ?_, ?_, ?_, fun g hg => ?_⟩
  · rw [stepWorld_dir, core_dir_isSome_eq w' c r q hd, m.dirSome q]
  · rw [stepWorld_obj, core_obj w' c r h (Nat.lt_of_lt_of_le hh m.len) fun hs => Nat.not_le_of_lt hh (hsub h hs), m.objs h hh]
  · exact Nat.le_trans m.len (core_len w' c r)
  · exact Nat.le_trans m.nextFid (core_nextFid w' c r)
  · rw [stepWorld_file, core_file w' c r g (Nat.lt_of_lt_of_le hg m.nextFid) (hfs g hg), m.files g hg]

theorem Mid.step {w w' : World} {L : Ent → Option Nat} (m : Mid w w' L) (c : Call) (r : Res)
    (hd : Call.dirOp c = false) (hsub : ∀ h, Call.subject c = some h → w.handles.length ≤ h)
    (hfs : ∀ g, g < w.nextFid → fileSafe w' g c) : Mid w (stepWorld w' c r) L :=
  (m.call c r (mkrm_of_not_dirOp hd) hsub hfs).congr fun x =>
    (lookup_of_dirs (core_dirs w' c r hd) x.1 x.2).trans (m.look x)

theorem Mid.err {w w' : World} {L : Ent → Option Nat} (m : Mid w w' L) (c : Call) (e : String)
    (hc : Call.released c = none) : Mid w (stepWorld w' c (.err e)) L := by
  have hc := core_fail w' e hc
  refine ⟨fun x => ?_, fun q => ?_, fun h hh => ?_, ?_, ?_, fun g hg => ?_⟩
  · simp only [lk, stepWorld_lookup, hc]; exact m.look x
  · simp only [stepWorld_dir, hc]; exact m.dirSome q
  · simp only [stepWorld_obj, hc]; exact m.objs h hh
  · simp only [stepWorld_handles, hc]; exact m.len
  · simp only [stepWorld_nextFid, hc]; exact m.nextFid
  · simp only [stepWorld_file, hc]; exact m.files g hg

theorem Mid.frame {w w1 w2 : World} {L : Ent → Option Nat} {S : Nat → Prop} (m : Mid w w1 L) (fr : Fr1 S w1 w2)
    (hS : ∀ g, S g → w.nextFid ≤ g) : Mid w w2 L := by
  refine ⟨?_, ?_, ?_, ?_, ?_, ?_⟩
  · intro x
    rw [← m.look x]
    exact lookup_of_dirs fr.dirs x.1 x.2
  · intro q
    rw [← m.dirSome q, dir_of_dirs fr.dirs q]
  · intro h hh
    rw [fr.objs h (Nat.lt_of_lt_of_le hh m.len), m.objs h hh]
  · exact Nat.le_trans m.len fr.len
  · exact Nat.le_trans m.nextFid fr.nextFid
  · intro g hg
    rw [fr.files g (Nat.lt_of_lt_of_le hg m.nextFid) (fun hs => by have := hS g hs; omega), m.files g hg]

theorem Mid.create {w w1 : World} {L : Ent → Option Nat} (m : Mid w w1 L) {d : Handle} {p name : Bytes}
    (hp : w1.dirPath d = some p) (hl : w1.lookup p name = none) (hdir : (w1.dir p).isSome) (v : Nat) :
    Mid w (stepWorld w1 (.openExcl d name) (.ok v)) (fun x => if x = (p, name) then some w1.nextFid else L x) := by
  refine (m.call (.openExcl d name) (.ok v) rfl (fun _ h => nomatch h) fun _ _ => trivial).congr fun x => ?_
  rw [core_openExcl_ok hp hl v, ← m.look x]
  exact lk_bind _ (p, name) _ x hdir

theorem Mid.rename {w w1 : World} {L : Ent → Option Nat} (m : Mid w w1 L) {d1 d2 : Handle} {n1 n2 p1 p2 : Bytes} {fid : Nat}
    (hp1 : w1.dirPath d1 = some p1) (hp2 : w1.dirPath d2 = some p2) (hl : w1.lookup p1 n1 = some fid)
    (hdir : (w1.dir p2).isSome) (v : Nat) :
    Mid w (stepWorld w1 (.renameat d1 n1 d2 n2) (.ok v))
      (fun x => if x = (p2, n2) then some fid else if x = (p1, n1) then none else L x) := by
  refine (m.call (.renameat d1 n1 d2 n2) (.ok v) rfl (fun _ h => nomatch h) fun _ _ => trivial).congr fun x => ?_
  rw [core_renameat_ok hp1 hp2 hl v, lk_bind (w1.unbind p1 n1) (p2, n2) fid x (by rw [dir_unbind_isSome]; exact hdir),
    lk_unbind w1 (p1, n1) x, m.look x]

theorem Mid.unlink {w w1 : World} {L : Ent → Option Nat} (m : Mid w w1 L) {d : Handle} {n p : Bytes} {fid : Nat}
    (hp : w1.dirPath d = some p) (hl : w1.lookup p n = some fid) (v : Nat) :
    Mid w (stepWorld w1 (.unlinkat d n) (.ok v)) (fun x => if x = (p, n) then none else L x) := by
  refine (m.call (.unlinkat d n) (.ok v) rfl (fun _ h => nomatch h) fun _ _ => trivial).congr fun x => ?_
  rw [core_unlinkat_ok hp hl v, lk_unbind w1 (p, n) x, m.look x]

theorem Mid.at_new {w w' : World} {b : Ent} {N : Nat} {L : Ent → Option Nat}
    (m : Mid w w' (fun x => if x = b then some N else L x)) : w'.lookup b.1 b.2 = some N := by
  have := m.look b
  simp only [if_true] at this
  exact this

theorem Mid.at_old {w w' : World} {a b : Ent} {N : Nat} {L : Ent → Option Nat}
    (m : Mid w w' (fun x => if x = b then some N else L x)) (hne : a ≠ b) : w'.lookup a.1 a.2 = L a := by
  have := m.look a
  simp only [hne, if_false] at this
  exact this

theorem Mid.unlink_new {w w' : World} {d : Handle} {p n : Bytes} {N : Nat}
    (m : Mid w w' (fun x => if x = (p, n) then some N else lk w x)) (hfree : lk w (p, n) = none)
    (hp : w'.dirPath d = some p) (v : Nat) : Mid w (stepWorld w' (.unlinkat d n) (.ok v)) (lk w) := by
  refine (m.unlink hp m.at_new v).congr ?_
  intro x
  by_cases h : x = (p, n)
  · subst h; simp [hfree]
  · simp [h]

/-- `[] ++ c` is the shape in which `traj_messageWriteP` states the data of the new file: old data ++ rendered message. -/
theorem File.eq_of_written {f : File} {c : Bytes} (hd : f.data = [] ++ c) (hu : f.durable = f.data) : f = ⟨c, c⟩ := by
  obtain ⟨fd, fu⟩ := f
  simp only [List.nil_append] at hd hu
  subst hd hu
  rfl

/-- From world `w` to world `w'` the message's entry went from `a` to `b`: `b` is `a` or was
free, `a` is free now unless it is `b`, every other entry is bound as before; the files that
existed keep their contents; the directories are the same. -/
structure Delta (w w' : World) (a b : Ent) : Prop where
  len : w.handles.length ≤ w'.handles.length
  nextFid : w.nextFid ≤ w'.nextFid
  files : ∀ g, g < w.nextFid → w'.file g = w.file g
  dirSome : ∀ q, (w'.dir q).isSome = (w.dir q).isSome
  others : ∀ x, x ≠ a → x ≠ b → lk w' x = lk w x
  gone : a ≠ b → lk w' a = none
  fresh : a ≠ b → lk w b = none

theorem Delta.refl (w : World) (a : Ent) : Delta w w a a :=
  ⟨Nat.le_refl _, Nat.le_refl _, fun _ _ => rfl, fun _ => rfl, fun _ _ _ => rfl, fun h => absurd rfl h, fun h => absurd rfl h⟩

theorem Delta.trans {w0 w1 w2 : World} {a b c : Ent} (d01 : Delta w0 w1 a b) (d12 : Delta w1 w2 b c) : Delta w0 w2 a c := by
  refine ⟨Nat.le_trans d01.len d12.len, Nat.le_trans d01.nextFid d12.nextFid, ?_, ?_, ?_, ?_, ?_⟩
  · intro g hg
    rw [d12.files g (Nat.lt_of_lt_of_le hg d01.nextFid), d01.files g hg]
  · intro q; rw [d12.dirSome, d01.dirSome]
  · intro x hxa hxc
    by_cases hxb : x = b
    · subst hxb
      rw [d12.gone hxc, d01.fresh (Ne.symm hxa)]
    · rw [d12.others x hxb hxc, d01.others x hxa hxb]
  · intro hac
    by_cases hab : a = b
    · subst hab; exact d12.gone hac
    · rw [d12.others a hab hac]; exact d01.gone hab
  · intro hac
    by_cases hbc : b = c
    · subst hbc; exact d01.fresh hac
    · rw [← d01.others c (Ne.symm hac) (Ne.symm hbc)]; exact d12.fresh hbc

theorem Mid.delta_same {w w' : World} (m : Mid w w' (lk w)) (a : Ent) : Delta w w' a a :=
  ⟨m.len, m.nextFid, m.files, m.dirSome, fun x _ _ => m.look x, fun h => absurd rfl h, fun h => absurd rfl h⟩

theorem Mid.delta_moved {w w' : World} {a b : Ent} {fid : Nat}
    (m : Mid w w' (fun x => if x = b then some fid else if x = a then none else lk w x))
    (hfresh : a ≠ b → lk w b = none) : Delta w w' a b := by
  refine ⟨m.len, m.nextFid, m.files, m.dirSome, ?_, ?_, hfresh⟩
  · intro x hxa hxb
    rw [m.look x]; simp [hxa, hxb]
  · intro hab
    rw [m.look a]; simp [hab]

theorem Delta.step {w w' : World} {a b : Ent} (d : Delta w w' a b) (c : Call) (r : Res)
    (hd : Call.dirOp c = false) (hfs : ∀ g, g < w.nextFid → fileSafe w' g c) : Delta w (stepWorld w' c r) a b := by
  have hdirs : (stepWorld w' c r).dirs = w'.dirs := by rw [stepWorld_dirs]; exact core_dirs w' c r hd
  have hlk : ∀ x, lk (stepWorld w' c r) x = lk w' x := fun x => lookup_of_dirs hdirs x.1 x.2
  refine ⟨?_, ?_, ?_, ?_, ?_, ?_, d.fresh⟩
  · simpa using Nat.le_trans d.len (core_len w' c r)
  · simpa using Nat.le_trans d.nextFid (core_nextFid w' c r)
  · intro g hg
    rw [stepWorld_file, core_file w' c r g (Nat.lt_of_lt_of_le hg d.nextFid) (hfs g hg), d.files g hg]
  · intro q
    rw [← d.dirSome q, dir_of_dirs hdirs q]
  · intro x hxa hxb; rw [hlk, d.others x hxa hxb]
  · intro hab; rw [hlk, d.gone hab]

theorem Delta.frame {w w1 w2 : World} {a b : Ent} {S : Nat → Prop} (d : Delta w w1 a b) (fr : Fr1 S w1 w2)
    (hS : ∀ g, S g → w.nextFid ≤ g) : Delta w w2 a b := by
  have hlk : ∀ x, lk w2 x = lk w1 x := fun x => lookup_of_dirs fr.dirs x.1 x.2
  refine ⟨Nat.le_trans d.len fr.len, Nat.le_trans d.nextFid fr.nextFid, ?_, ?_, ?_, ?_, d.fresh⟩
  · intro g hg
    rw [fr.files g (Nat.lt_of_lt_of_le hg d.nextFid) (fun hs => by have := hS g hs; omega), d.files g hg]
  · intro q
    rw [← d.dirSome q, dir_of_dirs fr.dirs q]
  · intro x hxa hxb; rw [hlk, d.others x hxa hxb]
  · intro hab; rw [hlk, d.gone hab]

theorem Mid.of_same {w w1 w2 : World} {L : Ent → Option Nat} (m : Mid w w1 L) (h : SameFs w1 w2) : Mid w w2 L := by
  refine ⟨?_, ?_, ?_, ?_, ?_, ?_⟩
  · intro x; unfold lk; rw [h.lookup]; exact m.look x
  · intro q; rw [h.dir]; exact m.dirSome q
  · intro x hx; rw [h.obj]; exact m.objs x hx
  · rw [h.handles]; exact m.len
  · rw [h.nextFid]; exact m.nextFid
  · intro g hg; rw [h.file]; exact m.files g hg

/-- The message's entry `nb` is bound to a file that holds (also durably) the content recorded in `ms`. -/
def Located (w : World) (ms : MsgSt) (nb : Ent) : Prop :=
  ms.loc = some nb ∧ ∃ fid, lk w nb = some fid ∧ fid < w.nextFid ∧ w.file fid = some ⟨ms.content, ms.content⟩

theorem file_step {w : World} {g : Nat} {f : File} (hf : w.file g = some f) (hlt : g < w.nextFid) (c : Call) (r : Res)
    (hfs : fileSafe w g c) : (stepWorld w c r).file g = some f ∧ g < (stepWorld w c r).nextFid := by
  refine ⟨?_, ?_⟩
  · rw [stepWorld_file, core_file w c r g hlt hfs]; exact hf
  · rw [stepWorld_nextFid]; exact Nat.lt_of_lt_of_le hlt (core_nextFid w c r)

theorem lk_step (w : World) (c : Call) (r : Res) (hd : Call.dirOp c = false) (x : Ent) :
    lk (stepWorld w c r) x = lk w x := by
  have hdirs : (stepWorld w c r).dirs = w.dirs := by rw [stepWorld_dirs]; exact core_dirs w c r hd
  exact lookup_of_dirs hdirs x.1 x.2

/-- `MoveC` (WorldCountMove) with `Delta` unconditionally: the form its exact clause takes under at most one fault.  No theorem says
that `maildir_move` satisfies it (the walks prove and read `MoveC`); it is proved of the unchanged world only (`.unchanged`). -/
def MovePost (w : World) (src dst : Maildir) (ms : MsgSt) (r : MsgSt × Bool) (w' : World) : Prop :=
  ∃ nb, Located w' r.1 nb ∧ Delta w w' (src.path, ms.name) nb ∧
    (∀ h, h < w.handles.length → w'.obj h = w.obj h) ∧
    r.1.msg = ms.msg ∧ r.1.fd = ms.fd ∧
    (r.1.content = ms.content ∨ r.1.content = (messageWrite ms.msg).1) ∧
    (r.2 = false → nb = (dst.path, r.1.name))

theorem MovePost.unchanged {w w' : World} {src dst : Maildir} {ms : MsgSt} {fid0 : Nat}
    (hlk : lk w (src.path, ms.name) = some fid0) (hlt : fid0 < w.nextFid)
    (hf : w.file fid0 = some ⟨ms.content, ms.content⟩) (hloc : ms.loc = some (src.path, ms.name))
    (m : Mid w w' (lk w)) : MovePost w src dst ms (ms, true) w' :=
  ⟨(src.path, ms.name), ⟨hloc, fid0, by rw [m.look]; exact hlk, Nat.lt_of_lt_of_le hlt m.nextFid, (m.files fid0 hlt).trans hf⟩,
    m.delta_same _, m.objs, rfl, rfl, .inl rfl, by intro h; cases h⟩

theorem maildirUnlink_some {md : Maildir} {d : Handle} (h : md.dirH = some d) (n : Bytes) :
    maildirUnlink md n = Prog.call (.unlinkat d n) fun r => Prog.ret (!isOk r) := by
  rw [maildirUnlink_eq, h]

/-- `WriteC` (WorldCountWrite) with `Delta` unconditionally: the form its exact clause takes under at most one fault.  No theorem
says that `maildir_write` satisfies it (the walks prove and read `WriteC`); it is proved of the unchanged world only (`.unchanged`). -/
def WritePost (w : World) (md : Maildir) (ms : MsgSt) (r : MsgSt × Bool) (w' : World) : Prop :=
  ∃ nb, Located w' r.1 nb ∧ Delta w w' (md.path, ms.name) nb ∧
    (∀ h, h < w.handles.length → ms.fd ≠ some h → w'.obj h = w.obj h) ∧
    r.1.msg = ms.msg ∧
    (r.1.content = ms.content ∨ r.1.content = (messageWrite ms.msg).1) ∧
    (r.2 = false → nb = (md.path, r.1.name) ∧ r.1.content = (messageWrite ms.msg).1 ∧
      ∃ rd, r.1.fd = some rd ∧ w.handles.length ≤ rd ∧ rd < w'.handles.length)

theorem WritePost.unchanged {w w' : World} {md : Maildir} {ms : MsgSt} {fid0 : Nat}
    (hlk : lk w (md.path, ms.name) = some fid0) (hlt : fid0 < w.nextFid)
    (hf : w.file fid0 = some ⟨ms.content, ms.content⟩) (hloc : ms.loc = some (md.path, ms.name))
    (m : Mid w w' (lk w)) : WritePost w md ms (ms, true) w' :=
  ⟨(md.path, ms.name), ⟨hloc, fid0, by rw [m.look]; exact hlk, Nat.lt_of_lt_of_le hlt m.nextFid, (m.files fid0 hlt).trans hf⟩,
    m.delta_same _, fun h hh _ => m.objs h hh, rfl, .inl rfl, by intro h; cases h⟩

end Mdsort.Proofs.World
