import Mdsort.Proofs.PartiesReaddir
import Mdsort.Proofs.PartiesWitness

/-! Witness for the readdir-level isolation with name spaces: a `label` party and a LISTING `move` party on the
same maildir, interleaved call by call.  (That the implication `HisoReaddir => Hiso` fails without name spaces
is part of `run_facts`: parties that are handed a name and never list.) -/

namespace Mdsort.Proofs.Parties.W
open Mdsort Mdsort.Model

/-- Name spaces by prefix `now.pid_`. -/
def pfx (i : Nat) : Bytes := decimalInt 7 ++ [46] ++ decimal (i + 1) ++ [95]

def NB (i : Nat) (n : Bytes) : Bool :=
  match i with
  | 0 => (pfx 0).isPrefixOf n
  | 1 => (pfx 1).isPrefixOf n
  | _ => false

def NS (i : Nat) (n : Bytes) : Prop := NB i n = true

theorem genName_pfx (i : Nat) (flags : Option Bytes) (count : Nat) :
    genName (env (i + 1)) flags count = pfx i ++ (decimal count ++ [46] ++ [104] ++ flags.getD []) := by
  simp [genName, env, pfx, List.append_assoc]

theorem ns_gen0 : GenNames (NS 0) (env 1) := by
  intro flags count
  show (pfx 0).isPrefixOf _ = true
  rw [genName_pfx 0, List.isPrefixOf_iff_prefix]
  exact List.prefix_append _ _

theorem ns_gen1 : GenNames (NS 1) (env 2) := by
  intro flags count
  show (pfx 1).isPrefixOf _ = true
  rw [genName_pfx 1, List.isPrefixOf_iff_prefix]
  exact List.prefix_append _ _

theorem pfx_ne : pfx 0 ≠ pfx 1 := by decide +kernel
theorem pfx_len : (pfx 0).length = (pfx 1).length := by decide +kernel

theorem ns_disj (i j : Nat) (n : Bytes) (hij : i ≠ j) (hi : NS i n) : ¬ NS j n := by
  intro hj
  have key : ∀ n, (pfx 0).isPrefixOf n = true → (pfx 1).isPrefixOf n = true → False := by
    intro n h0 h1
    rw [List.isPrefixOf_iff_prefix] at h0 h1
    have := List.prefix_of_prefix_length_le h0 h1 (Nat.le_of_eq pfx_len)
    exact pfx_ne (this.eq_of_length pfx_len)
  match i, j, hij, hi, hj with
  | 0, 0, h, _, _ => exact h rfl
  | 1, 1, h, _, _ => exact h rfl
  | 0, 1, _, h0, h1 => exact key n h0 h1
  | 1, 0, _, h1, h0 => exact key n h0 h1
  | i + 2, _, _, h, _ => simp [NS, NB] at h
  | 0, j + 2, _, _, h => simp [NS, NB] at h
  | 1, j + 2, _, _, h => simp [NS, NB] at h

/-- Boolean form of one step of `HisoReaddirNS` for two parties. -/
def nsStep (s : Shared) (a : Nat) : Bool :=
  match s.parties[a]? with
  | none => true
  | some p =>
    match p.prog with
    | .call (.readdir d) _ =>
      match predict (s.view p) (.readdir d) with
      | .name n => (a == 0 || !NB 0 n) && (a == 1 || !NB 1 n)
      | _ => true
    | _ => true

def nsSched (s : Shared) : List Nat → Bool
  | [] => true
  | a :: rest => nsStep s a && nsSched (stepParty s a) rest

theorem ns_of_step (s : Shared) (a : Nat) (h : nsStep s a = true) :
    ∀ (ps : PState) (d : Handle) (k : Res → Prog Bool) (n : Bytes), s.parties[a]? = some ps → ps.prog = .call (.readdir d) k →
      predict (s.view ps) (.readdir d) = .name n → ∀ j, j ≠ a → ¬ NS j n := by
  intro ps d k n hp hc hr j hj
  simp only [nsStep, hp, hc, hr, Bool.and_eq_true, Bool.or_eq_true, beq_iff_eq, Bool.not_eq_true'] at h
  intro hN
  match j, hN with
  | 0, hN =>
    rcases h.1 with h1 | h1
    · exact hj h1.symm
    · rw [show NB 0 n = true from hN] at h1; cases h1
  | 1, hN =>
    rcases h.2 with h1 | h1
    · exact hj h1.symm
    · rw [show NB 1 n = true from hN] at h1; cases h1
  | j + 2, hN => simp [NS, NB] at hN

theorem ns_of_sched (sched : List Nat) : ∀ s, nsSched s sched = true → HisoReaddirNS NS s sched := by
  induction sched with
  | nil => intro _ _; exact True.intro
  | cons a rest ih =>
    intro s h
    simp only [nsSched, Bool.and_eq_true] at h
    exact ⟨ns_of_step s a h.1, ih _ h.2⟩

/-- A labels `a`; B lists `/m/new` and moves every name to `/d`. -/
def r0 : Shared := Shared.init fs [(partyA, dirH), (partyB, dirH)]
def r0' : Shared := Shared.init fs [(partyA', dirH), (partyB, dirH)]

theorem r0_eq : r0 = r0' := by unfold r0 r0'; rw [partyA_eq]

/-- B's first `readdir` comes first: it takes the snapshot of `/m/new` (`.`, `..`, `a`) and returns `.`; then the two alternate
call by call; B's `renameat` comes before A's `unlinkat`, B wins. -/
def schedR : List Nat := 1 :: (List.replicate 4 [1, 0] ++ List.replicate 12 [0, 1]).flatten

theorem sorted_a : sortedNames [(ofString "a", 0)] = [[46], [46, 46], ofString "a"] :=
  List.mergeSort_of_pairwise (by decide +kernel)

/-- The initial state with B's listing stored in its stream. -/
def rMid : Shared := setSnap r0' 1 0 (ofString "/m/new") [[46], [46, 46], ofString "a"]

theorem r_first : stepParty r0' 1 = stepParty rMid 1 := by
  unfold rMid
  rw [readdir_snapshot r0' 1 0 (ofString "/m/new") [(ofString "a", 0)] (by decide +kernel), sorted_a]

def restR : List Nat := (List.replicate 4 [1, 0] ++ List.replicate 12 [0, 1]).flatten

theorem schedR_eq : schedR = 1 :: restR := rfl

/-- B's first `readdir` returns `.`; the rest of the run, evaluated once. -/
theorem r_rest' : ownStep r0' 1 = true ∧ (stepParty rMid 1).log.map (·.res) = [.name [46]] ∧
    nsSched (stepParty rMid 1) restR = true ∧ HisoOwn (stepParty rMid 1) restR = true ∧
    (runSched (stepParty rMid 1) restR).quiescent = true ∧
    (runSched (stepParty rMid 1) restR).parties.map (·.result) = [some true, some false] ∧
    (runSched (stepParty rMid 1) restR).fs.entries = [(ofString "/d/new", ofString "7.2_1.h:2,", 0)] := by decide +kernel

theorem r_first_ok : nsStep rMid 1 = true ∧ ownStep rMid 1 = true := by decide +kernel

theorem ns_dot (j : Nat) : ¬ NS j [46] := by
  intro h
  match j, h with
  | 0, h => exact absurd h (show ¬ (NB 0 [46] = true) by decide +kernel)
  | 1, h => exact absurd h (show ¬ (NB 1 [46] = true) by decide +kernel)
  | j + 2, h => simp [NS, NB] at h

theorem r_first_ns : ∀ (ps : PState) (d : Handle) (k : Res → Prog Bool) (n : Bytes), r0'.parties[1]? = some ps →
    ps.prog = .call (.readdir d) k → predict (r0'.view ps) (.readdir d) = .name n → ∀ j, j ≠ 1 → ¬ NS j n := by
  intro ps d k n hp hc hr j _
  have h1 : (stepParty r0' 1).log.map (·.res) = [.name [46]] := by rw [r_first]; exact r_rest'.2.1
  rw [stepParty_call hp hc] at h1
  have hlog : r0'.log = [] := rfl
  simp only [stepCall_log, hlog, List.nil_append, List.map_cons, List.map_nil, stepEvent, List.cons.injEq, and_true] at h1
  rw [hr] at h1
  cases h1
  exact ns_dot j

theorem r_ns' : HisoReaddirNS NS r0' schedR := by
  rw [schedR_eq]
  refine ⟨r_first_ns, ?_⟩
  rw [r_first]
  exact ns_of_sched restR _ r_rest'.2.2.1

theorem r_own' : HisoOwn r0' schedR = true := by
  rw [schedR_eq]
  simp only [HisoOwn, Bool.and_eq_true]
  refine ⟨r_rest'.1, ?_⟩
  rw [r_first]
  exact r_rest'.2.2.2.1

theorem r_facts' : (runSched r0' schedR).quiescent = true ∧
    (runSched r0' schedR).parties.map (·.result) = [some true, some false] ∧
    (runSched r0' schedR).fs.entries = [(ofString "/d/new", ofString "7.2_1.h:2,", 0)] := by
  rw [schedR_eq, runSched_cons, r_first]
  exact r_rest'.2.2.2.2

theorem r_parties (i : Nat) (ps : PState) (h : r0.parties[i]? = some ps) : ReaddirParty NS i ps := by
  match i, h with
  | 0, h =>
    cases h
    refine .inr (.inl ⟨env 1, [labelAct], stOf (ofString "a") labelled, ns_gen0, ?_, rfl⟩)
    intro j hj hN
    match j, hN with
    | 0, _ => exact hj rfl
    | 1, hN => exact absurd hN (show ¬ (NB 1 (ofString "a") = true) by decide +kernel)
    | j + 2, hN => simp [NS, NB] at hN
  | 1, h =>
    cases h
    refine .inl ⟨env 2, md, fun n => some ([moveAct], ms n msg), 8, false, ns_gen1, ?_, rfl⟩
    intro n ml ms' hr
    simp only [Option.some.injEq, Prod.mk.injEq] at hr
    rw [← hr.2]; rfl
  | i + 2, h => simp [r0, Shared.init] at h

theorem r_ns0 : HisoReaddirNS NS r0 schedR := by rw [r0_eq]; exact r_ns'
theorem r_own0 : HisoOwn r0 schedR = true := by rw [r0_eq]; exact r_own'
theorem r_facts : (runSched r0 schedR).quiescent = true ∧
    (runSched r0 schedR).parties.map (·.result) = [some true, some false] ∧
    (runSched r0 schedR).fs.entries = [(ofString "/d/new", ofString "7.2_1.h:2,", 0)] := by rw [r0_eq]; exact r_facts'

end Mdsort.Proofs.Parties.W
