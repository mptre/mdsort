import Mdsort.Proofs.Lex
import Mdsort.Spec.Time

/-!
# Age literals: every digit string, every unit abbreviation (C14 / C15)

The lexer on ANY non-empty digit string (`lex_digits`: the value when it fits 32 bits, a diagnostic otherwise - there is
no length at which the verdict changes back) and on every lexeme `Spec.unitOf` maps to a unit (`lex_unit`: the seven names
and their unambiguous abbreviations).
-/

namespace Mdsort.Spec
open Mdsort

/-- The number a string of decimal digits denotes, read left to right (`0007` is 7).  It stands here, beside the
lexer facts stated with it (`lex_digits` below, Proofs/AgeLiteral.lean; `C14_int_literals`, `C15_age_literal_exact`), and not
in Spec/. -/
def decimal (ds : Bytes) : Nat := ds.foldl (fun a d => a * 10 + (d.toNat - 48)) 0

end Mdsort.Spec

namespace Mdsort.Proofs
open Mdsort Mdsort.Model

theorem decimal_eq_dval (ds : Bytes) : Spec.decimal ds = LexAux.dval 0 ds := rfl

theorem decimal_leading_zeros (k : Nat) (ds : Bytes) : Spec.decimal (List.replicate k 48 ++ ds) = Spec.decimal ds := by
  induction k with
  | zero => rfl
  | succ k ih =>
    rw [List.replicate_succ, List.cons_append]
    have : Spec.decimal (48 :: (List.replicate k 48 ++ ds)) = Spec.decimal (List.replicate k 48 ++ ds) := by
      simp only [Spec.decimal, List.foldl_cons]
      rfl
    rw [this, ih]

theorem decimal_toString (n : Nat) : Spec.decimal (toString n).toUTF8.toList = n := by
  obtain ⟨ds, hb, _, _, hv⟩ := LexAux.toString_bytes n
  rw [hb, decimal_eq_dval, hv]

theorem lex1_space_lower (pflag sflag : Bool) (sp : Bytes) (c : UInt8) (r : Bytes) (hsp : ∀ x ∈ sp, isspace x = true)
    (hl : islower c = true) : lex1 pflag sflag false (sp ++ c :: r) = lex1.lexTok pflag sflag c r 0 := by
  obtain ⟨h1, _, h3, _, _⟩ := LexAux.islower_facts c hl
  rw [LexAux.lex1_skip _ _ _ sp c r hsp h1 h3, LexAux.lex1_of_lower _ _ _ _ hl]

theorem lex1_space_digit (sflag : Bool) (sp : Bytes) (c : UInt8) (r : Bytes) (hsp : ∀ x ∈ sp, isspace x = true)
    (hd : isdigit c = true) :
    lex1 false sflag false (sp ++ c :: r) =
      { tok := .int (lexDigits (r.length + 2) (c :: r) 0 false 0).1,
        rest := (lexDigits (r.length + 2) (c :: r) 0 false 0).2.1,
        errors := 0 + (lexDigits (r.length + 2) (c :: r) 0 false 0).2.2 } := by
  obtain ⟨h1, _, h3, _⟩ := LexAux.isdigit_facts c hd
  rw [LexAux.lex1_skip _ _ _ sp c r hsp h1 h3, LexAux.lex1_of_digit _ _ _ hd]

theorem lex_digits (sflag : Bool) (sp ds rest : Bytes) (hsp : ∀ x ∈ sp, isspace x = true) (hne : ds ≠ [])
    (hd : ∀ d ∈ ds, isdigit d = true) (hr : ∀ c, rest.head? = some c → isdigit c = false) :
    let r := lex1 false sflag false (sp ++ ds ++ rest)
    (Spec.decimal ds < 2 ^ 32 → r = { tok := .int (Spec.decimal ds), rest := rest, errors := 0 }) ∧
    (2 ^ 32 ≤ Spec.decimal ds → r.errors ≥ 1 ∧ r.rest = rest) ∧
    (r.errors = 0 ↔ Spec.decimal ds < 2 ^ 32) := by
  cases ds with
  | nil => exact absurd rfl hne
  | cons c t =>
    have hc : isdigit c = true := hd c (by simp)
    have hspec := LexAux.lexDigits_spec rest hr (c :: t) ((t ++ rest).length + 2) 0 0 hd
      (by simp only [List.length_cons, List.length_append]; omega) (by decide)
    rw [List.cons_append] at hspec
    obtain ⟨h1, h2, h3⟩ := hspec
    have hin : sp ++ (c :: t) ++ rest = sp ++ c :: (t ++ rest) := by simp
    simp only [hin, lex1_space_digit sflag sp c (t ++ rest) hsp hc, decimal_eq_dval]
    refine ⟨fun hn => ?_, fun hn => ⟨?_, h1⟩, ⟨fun he => ?_, fun hn => ?_⟩⟩
    · rw [h2 hn, Nat.zero_add]
    · rw [h3 hn]; omega
    · apply Classical.byContradiction
      intro hge
      rw [h3 (by omega)] at he
      omega
    · rw [h2 hn]
      rfl

/-- The digit string that `toString` prints. -/
theorem lex_int (sflag : Bool) (n : Nat) (rest : Bytes) (hr : ∀ c, rest.head? = some c → isdigit c = false) :
    let r := lex1 false sflag false ((toString n).toUTF8.toList ++ rest)
    (n < 2 ^ 32 → r = { tok := .int n, rest := rest, errors := 0 }) ∧ (n ≥ 2 ^ 32 → r.errors ≥ 1 ∧ r.rest = rest) := by
  obtain ⟨ds, hb, hne, hd, -⟩ := LexAux.toString_bytes n
  have h := lex_digits sflag [] ds rest nofun hne hd hr
  rw [List.nil_append, ← hb, decimal_toString] at h
  exact ⟨h.1, h.2.1⟩

/-- What the lexer needs of a pair (lexeme, unit): where the grammar expects a unit, the word is no keyword, selects
exactly that entry of the generated unit table, and is a word of at most `BUFSIZ - 1` lower-case letters. -/
def unitLexOk (p : String × Nat) : Bool :=
  let bs := p.1.toUTF8.toList
  let w := String.ofList (bs.map fun b => Char.ofNat b.toNat)
  (Gen.keywords.find? (fun kv => kv.1 == w)).isNone &&
  ((Gen.scalars.filter fun (name, _) => w.toList.isPrefixOf name.toList).map (·.2) == [p.2]) &&
  bs.all isKwChar && (match bs with | [] => false | c :: _ => islower c) && decide (bs.length ≤ BUFSIZ - 1)

theorem scalars_units : Gen.scalars = Spec.units := by decide

theorem kw_not_unit : Gen.keywords.all (fun kv => (Spec.unitOf kv.1).isNone) = true := by decide +kernel

theorem units_table :
    Spec.units.all (fun u => u.1.toList.all Char.isLower && decide (u.1.toList.length ≤ 7) && decide (1 ≤ u.2)) = true := by
  decide +kernel

theorem unitOf_some {w : String} {u : Nat} (h : Spec.unitOf w = some u) :
    ∃ x ∈ Spec.units, (Spec.units.filter fun y => w.toList.isPrefixOf y.1.toList) = [x] ∧ x.2 = u ∧
      w.toList <+: x.1.toList ∧ w.toList ≠ [] := by
  unfold Spec.unitOf at h
  generalize hms : (Spec.units.filter fun u => w.toList.isPrefixOf u.1.toList) = ms at h
  -- `unitOf` is `some` only when exactly one name matches: for every other shape of `ms`, `h` is `none = some u`
  match ms, h with
  | [x], h =>
    have hx : x ∈ Spec.units.filter fun u => w.toList.isPrefixOf u.1.toList := by rw [hms]; simp
    rw [List.mem_filter] at hx
    refine ⟨x, hx.1, rfl, by simpa using h, List.isPrefixOf_iff_prefix.mp hx.2, fun he => ?_⟩
    -- the empty lexeme is a prefix of all seven names
    rw [he] at hms
    have := congrArg List.length hms
    simp [Spec.units] at this

theorem unitLexOk_of_unitOf (w : String) (u : Nat) (hw : Spec.unitOf w = some u) : unitLexOk (w, u) = true := by
  obtain ⟨x, hxu, hfil, hx2, hpre, hne⟩ := unitOf_some hw
  have hx := List.all_eq_true.mp units_table x hxu
  simp only [Bool.and_eq_true, List.all_eq_true, decide_eq_true_eq] at hx
  obtain ⟨⟨hxlow, hxlen⟩, _⟩ := hx
  have hlow : ∀ c ∈ w.toList, 97 ≤ c.toNat ∧ c.toNat ≤ 122 := fun c hc => LexAux.isLower_range c (hxlow c (hpre.subset hc))
  -- the bytes are the characters, and the characters are read back from the bytes
  have hbs : w.toUTF8.toList = w.toList.map (fun c => UInt8.ofNat c.toNat) := by
    have := LexAux.utf8_ascii w.toList (fun c hc => by have := hlow c hc; omega)
    rwa [String.ofList_toList] at this
  have hback : String.ofList ((w.toList.map fun c => UInt8.ofNat c.toNat).map fun b => Char.ofNat b.toNat) = w := by
    rw [List.map_map]
    have : w.toList.map ((fun b : UInt8 => Char.ofNat b.toNat) ∘ fun c => UInt8.ofNat c.toNat) = w.toList.map id :=
      List.map_congr_left fun c hc => by
        show Char.ofNat (UInt8.ofNat c.toNat).toNat = c
        rw [(LexAux.islower_ofNat _ (hlow c hc).1 (hlow c hc).2).2, Char.ofNat_toNat]
    rw [this, List.map_id, String.ofList_toList]
  have hlower : ∀ b ∈ w.toList.map (fun c => UInt8.ofNat c.toNat), islower b = true := by
    intro b hb
    obtain ⟨c, hc, rfl⟩ := List.mem_map.mp hb
    exact (LexAux.islower_ofNat _ (hlow c hc).1 (hlow c hc).2).1
  simp only [unitLexOk, hbs, hback, Bool.and_eq_true, decide_eq_true_eq, beq_iff_eq, Option.isNone_iff_eq_none]
  refine ⟨⟨⟨⟨?_, ?_⟩, ?_⟩, ?_⟩, ?_⟩
  · -- a keyword with this name would denote the unit
    rw [List.find?_eq_none]
    intro kv hkv he
    have := List.all_eq_true.mp kw_not_unit kv hkv
    rw [eq_of_beq he, hw] at this
    cases this
  · rw [scalars_units, hfil, List.map_cons, List.map_nil, hx2]
  · exact List.all_eq_true.mpr fun b hb => LexAux.islower_isKwChar (hlower b hb)
  · cases hl : w.toList with
    | nil => exact absurd hl hne
    | cons c t => exact hlower _ (by rw [hl]; simp)
  · rw [List.length_map]
    have := hpre.length_le
    simp only [BUFSIZ]
    omega

theorem unit_bytes (w : String) (u : Nat) (hw : Spec.unitOf w = some u) :
    ∃ c t, w.toUTF8.toList = c :: t ∧ islower c = true := by
  have hok := unitLexOk_of_unitOf w u hw
  simp only [unitLexOk, Bool.and_eq_true, decide_eq_true_eq, beq_iff_eq, Option.isNone_iff_eq_none] at hok
  obtain ⟨⟨⟨⟨_, _⟩, _⟩, hhead⟩, _⟩ := hok
  cases hbs : w.toUTF8.toList with
  | nil => rw [hbs] at hhead; simp at hhead
  | cons c t => rw [hbs] at hhead; exact ⟨c, t, rfl, hhead⟩

theorem unit_pos (w : String) (u : Nat) (hw : Spec.unitOf w = some u) : 1 ≤ u := by
  obtain ⟨x, hxu, _, hx2, _, _⟩ := unitOf_some hw
  have hx := List.all_eq_true.mp units_table x hxu
  simp only [Bool.and_eq_true, decide_eq_true_eq] at hx
  exact hx2 ▸ hx.2

theorem lex_unit (sp rest : Bytes) (w : String) (u : Nat) (hsp : ∀ x ∈ sp, isspace x = true)
    (hw : Spec.unitOf w = some u) (hr : ∀ c, rest.head? = some c → isKwChar c = false) :
    lex1 false true false (sp ++ w.toUTF8.toList ++ rest) = { tok := .scalar (some u), rest := rest, errors := 0 } := by
  have hok := unitLexOk_of_unitOf w u hw
  simp only [unitLexOk, Bool.and_eq_true, decide_eq_true_eq, beq_iff_eq, Option.isNone_iff_eq_none] at hok
  obtain ⟨⟨⟨⟨hfind, hfilter⟩, hall⟩, hhead⟩, hlen⟩ := hok
  cases hbs : w.toUTF8.toList with
  | nil => rw [hbs] at hhead; simp at hhead
  | cons c t =>
    rw [hbs] at hfind hfilter hall hhead hlen
    simp only at hhead
    have hin : sp ++ (c :: t) ++ rest = sp ++ c :: (t ++ rest) := by simp
    rw [hin, lex1_space_lower false true sp c (t ++ rest) hsp hhead]
    obtain ⟨_, _, _, h34, hd⟩ := LexAux.islower_facts c hhead
    have htw := List.takeWhile_append_stop (b := rest) (List.all_eq_true.mp hall) hr
    have hdw := List.dropWhile_append_stop (b := rest) (List.all_eq_true.mp hall) hr
    rw [List.cons_append] at htw hdw
    unfold lex1.lexTok
    simp only [h34, hd, hhead, htw, hdw, if_true, Bool.false_eq_true, if_false]
    rw [if_neg (by omega), hfind]
    simp only
    generalize hms : (Gen.scalars.filter fun (x : String × Nat) =>
      (String.ofList ((c :: t).map fun b => Char.ofNat b.toNat)).toList.isPrefixOf x.1.toList) = ms at hfilter
    -- as in `unitOf_some`: `hfilter` is contradictory unless exactly one entry of the table matches
    match ms, hfilter with
    | [(n, v)], hf =>
      have : v = u := by simpa using hf
      rw [this]

end Mdsort.Proofs
