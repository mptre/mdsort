import Mdsort.Proofs.PartiesCopyMain

/-! The external client needs no isolation hypothesis when it keeps to names outside the name space
of the running mdsort processes: every name an mdsort party has in flight was generated by
`maildir_genname` (`genName env flags count`), so a client that never mentions such a name never
touches a name in flight.  `HisoExcept cl` (isolation asked of the other parties only) then implies
`Hiso`. -/

namespace Mdsort.Proofs.Parties
open Mdsort Mdsort.Model
open Mdsort.Proofs.World (Calls)

variable {N : Bytes → Prop}

theorem nq_matchesExec (env : PEnv) (hN : GenNames N env) (ml : MatchList) (st : ExecSt) :
    Calls (NameQ N) (matchesExec env ml st) :=
  (World.issues_matchesExec (A := fun _ => True) env hN ml st fun _ _ _ => True.intro).mono fun _ h => h.2.1

theorem nq_errOf {α} (p : Prog (α × Bool)) (h : Calls (NameQ N) p) : Calls (NameQ N) (errOf p) := by
  unfold errOf
  exact Calls.bind h fun _ => True.intro

theorem nq_scanExec (env : PEnv) (hN : GenNames N env) (md : Maildir) (rule : Bytes → Option (MatchList × MsgSt)) (fuel : Nat) (e : Bool) :
    Calls (NameQ N) (scanExec env md rule fuel e) := by
  induction fuel generalizing e with
  | zero => exact True.intro
  | succ fuel ih =>
    unfold scanExec
    -- the `readdir` and the branches on its answer (`kinds_step`); the leaves are the next round or an action list
    repeat' (first | kinds_step | exact ih _ | exact nq_matchesExec env hN _ _)

theorem nq_clientProg (ops : List ClientOp) : Calls (NameQ N) (clientProg ops) := by
  induction ops with
  | nil => exact True.intro
  | cons op rest ih =>
    refine ⟨?_, fun _ => ih⟩
    cases op <;> exact True.intro

/-- The party's remaining program creates names of `N` only, and so did it so far. -/
def NameOK (N : Bytes → Prop) (ps : PState) : Prop := Calls (NameQ N) ps.prog ∧ ∀ y ∈ inFlightH ps.trace, N y.2

def ClientOK (N : Bytes → Prop) (ps : PState) : Prop :=
  ∃ ops, ps.prog = clientProg ops ∧ (∀ op ∈ ops, op.avoids N) ∧ inFlightH ps.trace = []

theorem nameOK_step {s : Shared} {ps : PState} {c : Call} {k : Res → Prog Bool} (hc : ps.prog = .call c k) (h : NameOK N ps) :
    NameOK N (stepLocal s ps c k) := by
  obtain ⟨h1, h2⟩ := h
  rw [hc] at h1
  refine ⟨h1.2 _, ?_⟩
  intro y hy
  have hy' : y ∈ inFlightUpd (inFlightH ps.trace) (c, predict (s.view ps) c) := by
    rw [← inFlightH_snoc]; exact hy
  rcases mem_inFlightUpd hy' with hold | ⟨d, n, v, rfl, _, rfl⟩
  · exact h2 y hold
  · exact h1.1

theorem clientOK_step {s : Shared} {ps : PState} {c : Call} {k : Res → Prog Bool} (hc : ps.prog = .call c k) (h : ClientOK N ps) :
    ClientOK N (stepLocal s ps c k) := by
  obtain ⟨ops, hp, hav, h0⟩ := h
  cases ops with
  | nil => rw [hp] at hc; cases hc
  | cons op rest =>
    rw [hp] at hc
    simp only [clientProg, Prog.call.injEq] at hc
    obtain ⟨rfl, rfl⟩ := hc
    refine ⟨rest, rfl, fun o ho => hav o (List.mem_cons_of_mem _ ho), ?_⟩
    show inFlightH (ps.trace ++ [(op.call, predict (s.view ps) op.call)]) = []
    rw [inFlightH_snoc, h0]
    exact client_upd_nil (by cases op <;> exact True.intro) _

theorem mem_inFlight_name {ps : PState} {y : Bytes × Bytes} (hy : y ∈ ps.inFlight) : ∃ d, (d, y.2) ∈ inFlightH ps.trace := by
  simp only [PState.inFlight, List.mem_filterMap, Option.map_eq_some_iff] at hy
  obtain ⟨z, hz, q, _, rfl⟩ := hy
  exact ⟨z.1, hz⟩

theorem avoids_touched {N : Bytes → Prop} {op : ClientOp} (h : op.avoids N) : ∀ n ∈ touchedNames op.call, ¬ N n := by
  cases op <;> simpa [touchedNames, ClientOp.call, ClientOp.avoids] using h

theorem isoStep_client (s : Shared) (a : Nat) (ps : PState) (hp : s.parties[a]? = some ps) (hcl : ClientOK N ps)
    (hall : ∀ (i : Nat) (q : PState), s.parties[i]? = some q → NameOK N q) : isoStep s a = true := by
  obtain ⟨ops, hprog, hav, h0⟩ := hcl
  cases ops with
  | nil => simp [isoStep, hp, hprog, clientProg]
  | cons op rest =>
    refine isoStep_of_names hp (by rw [hprog]; rfl) ?_ (by rw [inFlight_of_nil h0]; simp)
    intro n hn y hy e
    obtain ⟨i, q, _, hq, hyq⟩ := (mem_foreignInFlight s a y).1 hy
    obtain ⟨d, hd⟩ := mem_inFlight_name hyq
    exact avoids_touched (hav op (List.mem_cons_self ..)) n hn (e ▸ (hall i q hq).2 (d, y.2) hd)

/-- The invariant of `hiso_of_except`. -/
def NamesInv (N : Bytes → Prop) (cl : List Nat) (s : Shared) : Prop :=
  (∀ (i : Nat) (q : PState), s.parties[i]? = some q → NameOK N q) ∧
  (∀ (i : Nat) (q : PState), i ∈ cl → s.parties[i]? = some q → ClientOK N q)

theorem namesInv_step (cl : List Nat) (s : Shared) (a : Nat) (h : NamesInv N cl s) : NamesInv N cl (stepParty s a) :=
  ⟨parties_step a h.1 fun ps _ _ hp hc => nameOK_step hc (h.1 a ps hp),
   fun i q hcl hq => parties_step (P := fun i q => i ∈ cl → ClientOK N q) a (fun i q hq hcl => h.2 i q hcl hq)
     (fun ps _ _ hp hc hcl => clientOK_step hc (h.2 a ps hcl hp)) i q hq hcl⟩

theorem hiso_of_except_from (cl : List Nat) (sched : List Nat) :
    ∀ s, NamesInv N cl s → HisoExcept cl s sched = true → Hiso s sched = true := by
  induction sched with
  | nil => intro s _ _; rfl
  | cons a rest ih =>
    intro s hinv h
    simp only [HisoExcept, Bool.and_eq_true, Bool.or_eq_true] at h
    simp only [Hiso, Bool.and_eq_true]
    refine ⟨?_, ih _ (namesInv_step cl s a hinv) h.2⟩
    rcases h.1 with hc | hi
    · have hmem : a ∈ cl := by simpa using hc
      cases hp : s.parties[a]? with
      | none => simp [isoStep, hp]
      | some ps => exact isoStep_client s a ps hp (hinv.2 a ps hmem hp) hinv.1
    · exact hi

theorem hiso_of_except (cl : List Nat) (s0 : Shared) (hf : Fresh s0)
    (hm : ∀ (i : Nat) (ps : PState), s0.parties[i]? = some ps → Calls (NameQ N) ps.prog)
    (hc : ∀ (i : Nat) (ps : PState), i ∈ cl → s0.parties[i]? = some ps → ∃ ops, ps.prog = clientProg ops ∧ ∀ op ∈ ops, op.avoids N)
    (sched : List Nat) (h : HisoExcept cl s0 sched = true) : Hiso s0 sched = true := by
  refine hiso_of_except_from (N := N) cl sched s0 ⟨?_, ?_⟩ h
  · intro i q hq
    refine ⟨hm i q hq, ?_⟩
    rw [hf.2 q (List.mem_of_getElem? hq)]
    intro y hy; cases hy
  · intro i q hcl hq
    obtain ⟨ops, hp, hav⟩ := hc i q hcl hq
    exact ⟨ops, hp, hav, by rw [hf.2 q (List.mem_of_getElem? hq)]; rfl⟩

end Mdsort.Proofs.Parties
