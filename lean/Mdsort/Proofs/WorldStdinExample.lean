import Mdsort.Proofs.WorldStdinTop

/-! A concrete stdin run for the non-vacuity examples of C02 / C04 / C05: a 10-byte message, TMPDIR
`/tmp`, the rule `match all move "/m/inbox"`, the destination directory present. -/

namespace Mdsort.Proofs.StdinExample
open Mdsort Mdsort.Model Mdsort.Proofs.World

def env0 : PEnv :=
  { now := 1700000000, pid := 42, host := [104], random := 7, tmpdir := [47, 116, 109, 112], home := [47, 104],
    confpath := [47, 99], dryrun := false, syntaxOnly := false, stdinMode := true }

/-- `A: b\n\nhey\n` -/
def input0 : Bytes := [65, 58, 32, 98, 10, 10, 104, 101, 121, 10]

/-- `/m/inbox` -/
def inbox : Bytes := [47, 109, 47, 105, 110, 98, 111, 120]

/-- Standard input is descriptor 0 on a file holding the message; `/m/inbox/new` exists and is empty. -/
def w0 : World :=
  { dirs := [(inbox ++ [47, 110, 101, 119], [])], files := [(0, ⟨input0, input0⟩)], nextFid := 1,
    handles := [.file 0 0 false], devs := [], trace := [] }

def orc0 : EvalOracles := { rx := fun _ _ => .nomatch, strptime := fun _ => none, zoneName := fun _ => none }

/-- `stdin { match all move "/m/inbox" }` -/
def expr0 : Expr := .block 1 (.mtch 2 (.all 2) (.move 2 inbox))
/-- `stdin { match old move "/m/inbox" }`: never matches a freshly spooled message. -/
def expr1 : Expr := .block 1 (.mtch 2 (.old 2) (.move 2 inbox))

def conf0 : List ConfBlock := [⟨[ofString "/dev/stdin"], expr0⟩]

/-- The first name `maildir_genname` tries (`arc4random() % 128 = 7`; the counter is incremented before it is used). -/
def name0 : Bytes := gennameName env0 none 8
def path0 : Bytes := spoolPath env0 ++ [47] ++ name0

/-- The call with index 5 of `maildir_stdin` is the first `write`: it transfers 3 of the 10 bytes. -/
def shortWrite : Plan := fun i => if i = 5 then some (.short 3) else none

/-- Boolean form of `DeliversV` (WorldStdinTop), with the spool path as a parameter.
Trap: `Verdict` here and in `unmatchedB` is `World.Verdict` only as long as no import of this module reaches WorldVerdict - its
`Mdsort.Proofs.Verdict` sits in a parent namespace of this one, and a parent namespace goes before an `open`.  The nearest
module that would bring it is WorldWholeMsg (WorldStdinProc imports WorldWholeParse, one step below it). -/
def deliversB (sp : Bytes) : Verdict → Bool
  | .actions ml _ =>
    ml.all (fun m => m.ty != .discard) && ml.any (fun m => m.ty == .move || m.ty == .flag || m.ty == .flags) &&
      ml.all (fun m => !(m.ty == .move || m.ty == .flag || m.ty == .flags) || destPath m.path != some sp)
  | _ => false

def unmatchedB : Verdict → Bool
  | .unmatched => true
  | _ => false

theorem ex_stdinExprs : stdinExprs conf0 = [expr0] := by
  have : isStdinPath (ofString "/dev/stdin") = true := by decide +kernel
  simp [stdinExprs, conf0, this]

theorem ex_stdinIs : StdinIs w0 input0 := ⟨0, ⟨input0, input0⟩, rfl, rfl, rfl, by decide⟩

theorem ex_fresh : SpoolFresh env0 w0 := by
  constructor <;> decide +kernel

theorem ex_stdin_ok : (runPlan Plan.none (maildirStdin env0 input0) w0 0 []).1.2.1 = false := by decide +kernel

/-- With the short `write` it still succeeds (the loop writes the remaining 7 bytes). -/
theorem ex_stdin_short_ok : (runPlan shortWrite (maildirStdin env0 input0) w0 0 []).1.2.1 = false := by decide +kernel

theorem ex_flags : flagsParse name0 = some MFlags.empty := by decide +kernel

/-- The rule set of the example yields one move to `/m/inbox/new`: no discard, a move, not into the spool. -/
theorem ex_delivers : deliversB (spoolPath env0) (stdinVerdict env0 orc0 expr0 input0 path0 MFlags.empty) = true := by
  simp only [stdinVerdict, verdictOf, expr0, eval]
  decide +kernel

/-- `match old …` does not match the spooled message: the "nothing matched" case of `Delivered` occurs. -/
theorem ex_unmatched : unmatchedB (stdinVerdict env0 orc0 expr1 input0 path0 MFlags.empty) = true := by
  simp only [stdinVerdict, verdictOf, expr1, eval]
  decide +kernel

end Mdsort.Proofs.StdinExample
