import Mdsort.Spec.Cmdline
import Mdsort.Proofs.World
import Mdsort.Proofs.Basics

/-!
# The command line: `parseArgs` computes the documented meaning; what a run from `argv` is

Lemmas for `Props.C05_options_select_mode`, `C14_usage_error_no_call`, `C04_usage_status`, `C12_D_overrides`.
-/

namespace Mdsort.Proofs.Opts
open Mdsort Mdsort.Model Mdsort.Spec

/-- The entry `-D name=value` creates. -/
def stickyEntry (n v : Bytes) (l : Nat) : Macro := { name := n, value := v, refs := 0, defs := 0, lno := l, sticky := true }

theorem insert_sticky (ms : List Macro) (n v : Bytes) (l : Nat) :
    macrosInsert ms n v l true =
      if isPathMacro n || ms.any (fun m => m.name == n) then none else some (ms ++ [stickyEntry n v l]) := by
  unfold macrosInsert stickyEntry
  by_cases hp : isPathMacro n = true
  · simp [hp]
  · by_cases ha : (ms.any fun m => m.name == n) = true
    · have h2 : (ms.any fun m => m.name == n && m.sticky && !true && m.defs == 0) = false := by simp
      simp only [hp, ha, h2, Bool.false_eq_true, if_false, if_true, Bool.false_or]
    · simp only [hp, ha, Bool.false_eq_true, if_false, Bool.or_self]

theorem any_name_eq_contains (ms : List Macro) (n : Bytes) :
    (ms.any fun m => m.name == n) = (ms.map (·.name)).contains n := by
  induction ms with
  | nil => rfl
  | cons m r ih =>
    simp only [List.any_cons, List.map_cons, List.contains_cons, ih]
    congr 1
    exact Bool.beq_comm

theorem flagLetter_cases {c : UInt8} (h : isFlagLetter c = true) : c = 100 ∨ c = 110 ∨ c = 118 := by
  simp only [isFlagLetter, Bool.or_eq_true, beq_iff_eq] at h
  rcases h with (h | h) | h
  · exact .inl h
  · exact .inr (.inl h)
  · exact .inr (.inr h)

theorem look_flag {c : UInt8} (h : isFlagLetter c = true) : optLookup Gen.optstring c = some false := by
  rcases flagLetter_cases h with rfl | rfl | rfl <;> decide

theorem look_D : optLookup Gen.optstring 68 = some true := by decide
theorem look_f : optLookup Gen.optstring 102 = some true := by decide

theorem look_argopt (a : ArgOpt) : optLookup Gen.optstring a.letter = some true := by
  cases a with
  | conf _ => exact look_f
  | define _ _ => exact look_D

theorem flagLetter_ne_dash {c : UInt8} (h : isFlagLetter c = true) : c ≠ 45 := by
  rcases flagLetter_cases h with rfl | rfl | rfl <;> decide

theorem argLetter_ne_dash (a : ArgOpt) : a.letter ≠ 45 := by
  cases a with
  | conf _ => show (102 : UInt8) ≠ 45; decide
  | define _ _ => show (68 : UInt8) ≠ 45; decide

theorem cluster_flags (ls r : Bytes) (h : ls.all isFlagLetter = true) :
    cluster Gen.optstring (ls ++ r) = (ls.map OptEv.flag ++ (cluster Gen.optstring r).1, (cluster Gen.optstring r).2) := by
  induction ls with
  | nil => simp
  | cons c ls ih =>
    simp only [List.all_cons, Bool.and_eq_true] at h
    simp only [List.cons_append, cluster, look_flag h.1, ih h.2, List.map_cons]

theorem cluster_arg_last (c : UInt8) (h : optLookup Gen.optstring c = some true) :
    cluster Gen.optstring [c] = ([], some c) := by
  simp [cluster, h]

theorem cluster_arg_joined (c : UInt8) (p : Bytes) (h : optLookup Gen.optstring c = some true) (hp : p.isEmpty = false) :
    cluster Gen.optstring (c :: p) = ([.arg c p], none) := by
  simp [cluster, h, hp]

theorem word_not_dashdash (c : UInt8) (r : Bytes) (hc : c ≠ 45) : ((45 :: c :: r : Bytes) == dashdash) = false := by
  apply beq_eq_false_iff_ne.2
  intro h
  simp only [dashdash, List.cons.injEq] at h
  exact hc h.2.1

/-- One option word, `-` then flag letters `ls` then `x`: the letters are flags, the cluster of `x` follows, and a
letter it leaves waiting takes the next element (`?` when there is none). -/
theorem scan_word (p : Bool) (ls x : Bytes) (hl : ls.all isFlagLetter = true) (hne : ls ++ x ≠ [])
    (hnd : ((45 :: (ls ++ x) : Bytes) == dashdash) = false) (rest sk : List Bytes) :
    getoptScan Gen.optstring p ((45 :: (ls ++ x)) :: rest) sk =
      match (cluster Gen.optstring x).2, rest with
      | none, _ =>
        ⟨ls.map OptEv.flag ++ (cluster Gen.optstring x).1 ++ (getoptScan Gen.optstring p rest sk).events,
         (getoptScan Gen.optstring p rest sk).operands⟩
      | some _, [] => ⟨ls.map OptEv.flag ++ (cluster Gen.optstring x).1 ++ [.bad], sk⟩
      | some c, b :: rest' =>
        ⟨ls.map OptEv.flag ++ (cluster Gen.optstring x).1 ++ .arg c b :: (getoptScan Gen.optstring p rest' sk).events,
         (getoptScan Gen.optstring p rest' sk).operands⟩ := by
  have hno : isNonOption (45 :: (ls ++ x)) = false := by
    cases h : ls ++ x with
    | nil => exact absurd h hne
    | cons c r => rfl
  rw [getoptScan]
  simp only [hnd, hno, List.drop_succ_cons, List.drop_zero, Bool.false_eq_true, if_false, cluster_flags ls x hl]
  cases (cluster Gen.optstring x).2 with
  | none => rfl
  | some c => cases rest <;> rfl

/-- What `getopt` returns for one option word. -/
def itemEvents (it : CmdItem) : List OptEv :=
  it.letters.map OptEv.flag ++
    match it.tail with
    | none => []
    | some (a, _) => [.arg a.letter a.payload]

theorem body_not_dashdash (ls x : Bytes) (hl : ls.all isFlagLetter = true) (hx : ∀ c r, x = c :: r → c ≠ 45) :
    ((45 :: (ls ++ x) : Bytes) == dashdash) = false := by
  cases ls with
  | nil =>
    cases x with
    | nil => rfl
    | cons c r => exact word_not_dashdash c r (hx c r rfl)
  | cons c ls =>
    simp only [List.all_cons, Bool.and_eq_true] at hl
    exact word_not_dashdash c (ls ++ x) (flagLetter_ne_dash hl.1)

theorem scan_item (p : Bool) (it : CmdItem) (hwf : it.wf = true) (rest sk : List Bytes) :
    getoptScan Gen.optstring p (it.render ++ rest) sk =
      ⟨itemEvents it ++ (getoptScan Gen.optstring p rest sk).events, (getoptScan Gen.optstring p rest sk).operands⟩ := by
  obtain ⟨ls, tail⟩ := it
  simp only [CmdItem.wf, Bool.and_eq_true] at hwf
  obtain ⟨hl, ht⟩ := hwf
  have hx : ∀ (a : ArgOpt) (y : Bytes) c r, a.letter :: y = c :: r → c ≠ 45 := fun a _ _ _ h => by
    cases h; exact argLetter_ne_dash a
  rcases tail with _ | ⟨a, _ | _⟩
  · have hne : ls ++ [] ≠ [] := by
      intro h; rw [List.append_nil] at h; rw [h] at ht; simp at ht
    have h := scan_word p ls [] hl hne (body_not_dashdash ls [] hl (fun _ _ h => nomatch h)) rest sk
    simpa [CmdItem.render, itemEvents, cluster] using h
  · have h := scan_word p ls [a.letter] hl (by simp) (body_not_dashdash ls _ hl (hx a [])) (a.payload :: rest) sk
    rw [cluster_arg_last a.letter (look_argopt a)] at h
    simpa [CmdItem.render, itemEvents] using h
  · have hpe : a.payload.isEmpty = false := by
      simp only [Bool.and_eq_true] at ht
      simpa using ht.1
    have h := scan_word p ls (a.letter :: a.payload) hl (by simp) (body_not_dashdash ls _ hl (hx a a.payload)) rest sk
    rw [cluster_arg_joined a.letter a.payload (look_argopt a) hpe] at h
    simpa [CmdItem.render, itemEvents] using h

def itemsEvents (items : List CmdItem) : List OptEv := items.flatMap itemEvents

theorem scan_items (p : Bool) (items : List CmdItem) (hwf : ∀ it ∈ items, it.wf = true) (rest sk : List Bytes) :
    getoptScan Gen.optstring p (renderCmd items ++ rest) sk =
      ⟨itemsEvents items ++ (getoptScan Gen.optstring p rest sk).events, (getoptScan Gen.optstring p rest sk).operands⟩ := by
  induction items with
  | nil => simp [renderCmd, itemsEvents]
  | cons it r ih =>
    have h1 := hwf it (by simp)
    have h2 : ∀ x ∈ r, x.wf = true := fun x hx => hwf x (by simp [hx])
    have : renderCmd (it :: r) ++ rest = it.render ++ (renderCmd r ++ rest) := by simp [renderCmd]
    rw [this, scan_item p it h1, ih h2]
    simp [itemsEvents]

theorem nonOption_not_dashdash (a : Bytes) (h : isNonOption a = true) : (a == dashdash) = false := by
  apply beq_eq_false_iff_ne.2
  intro he
  rw [he] at h
  cases h

theorem scan_operands (p : Bool) (ops sk : List Bytes) (h : ops.all isNonOption = true) :
    getoptScan Gen.optstring p ops sk = ⟨[], sk ++ ops⟩ := by
  induction ops generalizing sk with
  | nil => simp [getoptScan]
  | cons a r ih =>
    simp only [List.all_cons, Bool.and_eq_true] at h
    rw [getoptScan]
    simp only [nonOption_not_dashdash a h.1, h.1, Bool.false_eq_true, if_false, if_true]
    cases p with
    | true => simp only [if_true]; rw [ih _ h.2]; simp
    | false => simp

theorem scan_dashdash (p : Bool) (ops sk : List Bytes) :
    getoptScan Gen.optstring p (dashdash :: ops) sk = ⟨[], sk ++ ops⟩ := by
  rw [getoptScan]; simp

theorem scan_skip (ops rest sk : List Bytes) (h : ops.all isNonOption = true) :
    getoptScan Gen.optstring true (ops ++ rest) sk = getoptScan Gen.optstring true rest (sk ++ ops) := by
  induction ops generalizing sk with
  | nil => simp
  | cons a r ih =>
    simp only [List.all_cons, Bool.and_eq_true] at h
    rw [List.cons_append, getoptScan]
    simp only [nonOption_not_dashdash a h.1, h.1, Bool.false_eq_true, if_false, if_true]
    rw [ih _ h.2]; simp

theorem optLoop_append (e1 e2 : List OptEv) (st : OptSt) :
    optLoop (e1 ++ e2) st = match optLoop e1 st with
      | .ok st' => optLoop e2 st'
      | .error x => .error x := by
  fun_induction optLoop e1 st with
  | case1 => rfl
  | case2 e r st st' hs ih => simp only [List.cons_append, optLoop, hs, ih]
  | case3 e r st x hs => simp only [List.cons_append, optLoop, hs]

theorem optStep_flag (st : OptSt) {c : UInt8} (h : isFlagLetter c = true) :
    optStep st (.flag c) = .ok { st with opts := letterStep st.opts c } := by
  rcases flagLetter_cases h with rfl | rfl | rfl <;> rfl

theorem optLoop_flags (ls : Bytes) (h : ls.all isFlagLetter = true) (st : OptSt) :
    optLoop (ls.map OptEv.flag) st = .ok { st with opts := ls.foldl letterStep st.opts } := by
  induction ls generalizing st with
  | nil => rfl
  | cons c r ih =>
    simp only [List.all_cons, Bool.and_eq_true] at h
    simp only [List.map_cons, optLoop, optStep_flag st h.1, List.foldl_cons]
    rw [ih h.2]

theorem splitEq_join (n v : Bytes) (h : n.contains 61 = false) : splitEq (n ++ 61 :: v) = some (n, v) := by
  have hc : (n ++ 61 :: v).contains 61 = true := by simp
  have hn : ∀ c ∈ n, (c != 61) = true := fun c hc => by
    rw [bne_iff_ne]
    rintro rfl
    rw [List.contains_iff_mem.mpr hc] at h
    cases h
  have hstop : ∀ x, (61 :: v).head? = some x → (x != 61) = false := fun x hx => by
    rw [List.head?_cons, Option.some.injEq] at hx
    rw [← hx]
    rfl
  simp only [splitEq, hc, if_true, List.takeWhile_append_stop hn hstop, List.dropWhile_append_stop hn hstop,
    List.drop_succ_cons, List.drop_zero]

theorem letterStep_fields (o : Opts) (c : UInt8) :
    (letterStep o c).defs = o.defs ∧ (letterStep o c).stdinMode = o.stdinMode ∧
    (letterStep o c).syntaxOnly = (o.syntaxOnly || (110 == c)) ∧ (letterStep o c).dryrun = (o.dryrun || (100 == c)) := by
  fun_cases letterStep o c
  case case1 h =>
    -- `c` is `d`
    cases beq_iff_eq.1 h
    simp
  case case2 _ h =>
    -- `c` is `n`
    cases beq_iff_eq.1 h
    simp
  case case3 h1 h2 =>
    -- any other letter counts as `v`
    rw [Bool.beq_comm] at h1 h2
    simp [h1, h2]

/-- What the letters of an option word change: `d` and `n` set their flag; definitions and input mode stay. -/
theorem foldl_letterStep (ls : Bytes) (o : Opts) :
    (ls.foldl letterStep o).defs = o.defs ∧ (ls.foldl letterStep o).stdinMode = o.stdinMode ∧
    (ls.foldl letterStep o).syntaxOnly = (o.syntaxOnly || ls.contains 110) ∧
    (ls.foldl letterStep o).dryrun = (o.dryrun || ls.contains 100) := by
  induction ls generalizing o with
  | nil => simp
  | cons c r ih =>
    obtain ⟨h1, h2, h3, h4⟩ := letterStep_fields o c
    obtain ⟨i1, i2, i3, i4⟩ := ih (letterStep o c)
    rw [List.foldl_cons, i1, i2, i3, i4, h1, h2, h3, h4, List.contains_cons, List.contains_cons, Bool.or_assoc, Bool.or_assoc]
    exact ⟨rfl, rfl, rfl, rfl⟩

theorem macrosOfDefs_eq (ds : List (Bytes × Bytes)) (ms0 ms : List Macro) (h : macrosOfDefs ds ms0 = some ms) :
    ms = ms0 ++ ds.map fun d => stickyEntry d.1 d.2 0 := by
  fun_induction macrosOfDefs ds ms0 with
  | case1 ms0 =>
    cases h
    simp
  | case2 n v r ms0 ms1 hi ih =>
    rw [insert_sticky] at hi
    split at hi
    · cases hi
    · cases hi
      rw [ih h]
      simp
  | case3 => cases h

theorem macrosOfDefs_append (ds : List (Bytes × Bytes)) (n v : Bytes) (ms0 : List Macro) :
    macrosOfDefs (ds ++ [(n, v)]) ms0 = match macrosOfDefs ds ms0 with
      | none => none
      | some ms => macrosInsert ms n v 0 true := by
  fun_induction macrosOfDefs ds ms0 with
  | case1 ms0 =>
    simp only [List.nil_append, macrosOfDefs]
    cases macrosInsert ms0 n v 0 true <;> rfl
  | case2 n0 v0 r ms0 ms1 hi ih => simp only [List.cons_append, macrosOfDefs, hi, ih]
  | case3 n0 v0 r ms0 hi => simp only [List.cons_append, macrosOfDefs, hi]

/-- The state of the option loop: the table holds exactly the accepted definitions. -/
def TableOK (st : OptSt) : Prop := macrosOfDefs st.opts.defs [] = some st.macros

theorem optStep_tableOK (st st' : OptSt) (e : OptEv) (hi : TableOK st) (h : optStep st e = .ok st') : TableOK st' := by
  revert h
  fun_cases optStep st e
  case case3 a name value _ ms hins =>
    -- `-D name=value` accepted: one more definition, and the table with its entry
    intro h
    cases h
    show macrosOfDefs (st.opts.defs ++ [(name, value)]) [] = some ms
    rw [macrosOfDefs_append, hi]
    exact hins
  -- refused: `-D` without `=`, `-D` with a name the table does not take, an event that is no option of mdsort
  case case1 | case2 | case8 => exact nofun
  -- `d`, `f`, `n`, `v` leave the definitions and the table as they are
  all_goals exact fun h => by cases h; exact hi

theorem optLoop_tableOK (evs : List OptEv) (st st' : OptSt) (hi : TableOK st) (h : optLoop evs st = .ok st') : TableOK st' := by
  fun_induction optLoop evs st with
  | case1 st => cases h; exact hi
  | case2 e r st st1 hs ih => exact ih (optStep_tableOK st st1 e hi hs) h
  | case3 => cases h

theorem TableOK.names {st : OptSt} (h : TableOK st) : st.macros.map (·.name) = st.opts.defs.map (·.1) := by
  rw [macrosOfDefs_eq _ _ _ h]
  simp [stickyEntry, Function.comp_def]

/-- The `switch` over the events of one option word computes the documented meaning of the word. -/
theorem loop_item (it : CmdItem) (hwf : it.wf = true) (st : OptSt) (hinv : TableOK st) :
    match it.apply st.opts with
    | .error e => optLoop (itemEvents it) st = .error e
    | .ok o' => ∃ st', optLoop (itemEvents it) st = .ok st' ∧ st'.opts = o' := by
  obtain ⟨ls, tail⟩ := it
  simp only [CmdItem.wf, Bool.and_eq_true] at hwf
  obtain ⟨hl, ht⟩ := hwf
  cases tail with
  | none =>
    simp only [CmdItem.apply, itemEvents, List.append_nil]
    exact ⟨_, optLoop_flags ls hl st, rfl⟩
  | some aj =>
    obtain ⟨a, joined⟩ := aj
    simp only [itemEvents, optLoop_append, optLoop_flags ls hl st]
    cases a with
    | conf f =>
      simp only [CmdItem.apply]
      exact ⟨_, rfl, rfl⟩
    | define n v =>
      simp only [Bool.and_eq_true, Bool.not_eq_true'] at ht
      have hn : n.contains 61 = false := ht.2
      simp only [CmdItem.apply, ArgOpt.letter, ArgOpt.payload, optLoop, optStep, splitEq_join n v hn, insert_sticky,
        any_name_eq_contains, hinv.names, (foldl_letterStep ls st.opts).1]
      by_cases hb : (isPathMacro n || (st.opts.defs.map (·.1)).contains n) = true
      · simp only [hb, if_true]
      · simp only [hb, Bool.false_eq_true, if_false]
        exact ⟨_, rfl, rfl⟩

theorem loop_items (items : List CmdItem) (hwf : ∀ it ∈ items, it.wf = true) (st : OptSt) (hinv : TableOK st) :
    match cmdMeaning items st.opts with
    | .error e => optLoop (itemsEvents items) st = .error e
    | .ok o' => ∃ st', optLoop (itemsEvents items) st = .ok st' ∧ st'.opts = o' := by
  induction items generalizing st with
  | nil => exact ⟨st, rfl, rfl⟩
  | cons it r ih =>
    have h1 := hwf it (by simp)
    have h2 : ∀ x ∈ r, x.wf = true := fun x hx => hwf x (by simp [hx])
    have hi := loop_item it h1 st hinv
    have hev : itemsEvents (it :: r) = itemEvents it ++ itemsEvents r := by simp [itemsEvents]
    simp only [cmdMeaning, hev, optLoop_append]
    cases ha : it.apply st.opts with
    | error e =>
      rw [ha] at hi
      simp only [hi]
    | ok o' =>
      rw [ha] at hi
      obtain ⟨st', hs, ho⟩ := hi
      simp only [hs]
      have := ih h2 st' (optLoop_tableOK _ st st' hinv hs)
      rw [ho] at this
      exact this

theorem parseArgs_of_scan (p : Bool) (items : List CmdItem) (hwf : ∀ it ∈ items, it.wf = true) (tail ops : List Bytes)
    (h : getoptScan Gen.optstring p tail [] = ⟨[], ops⟩) :
    parseArgs p (renderCmd items ++ tail) =
      match cmdMeaning items {} with
      | .error e => .error e
      | .ok o =>
        match operandStep o ops with
        | .error e => .error e
        | .ok o' => .ok (dryVerbosity o') := by
  have hs := scan_items p items hwf tail []
  rw [h] at hs
  have hl := loop_items items hwf {} rfl
  simp only [parseArgs, parseArgsWith, hs, List.append_nil]
  cases hm : cmdMeaning items ({} : OptSt).opts with
  | error e =>
    rw [hm] at hl
    simp only [hl]
  | ok o =>
    rw [hm] at hl
    obtain ⟨st', h1, h2⟩ := hl
    simp only [h1, h2]
    rfl

theorem parseArgs_words_operands (p : Bool) (items : List CmdItem) (hwf : ∀ it ∈ items, it.wf = true) (ops : List Bytes)
    (hops : ops.all isNonOption = true) :
    parseArgs p (renderCmd items ++ ops) =
      match cmdMeaning items {} with
      | .error e => .error e
      | .ok o =>
        match operandStep o ops with
        | .error e => .error e
        | .ok o' => .ok (dryVerbosity o') :=
  parseArgs_of_scan p items hwf ops ops (scan_operands p ops [] hops)

theorem parseArgs_words_dashdash (p : Bool) (items : List CmdItem) (hwf : ∀ it ∈ items, it.wf = true) (ops : List Bytes) :
    parseArgs p (renderCmd items ++ dashdash :: ops) =
      match cmdMeaning items {} with
      | .error e => .error e
      | .ok o =>
        match operandStep o ops with
        | .error e => .error e
        | .ok o' => .ok (dryVerbosity o') :=
  parseArgs_of_scan p items hwf (dashdash :: ops) ops (scan_dashdash p ops [])

theorem parseArgs_cmdline (p : Bool) (items : List CmdItem) (hwf : ∀ it ∈ items, it.wf = true) (stdin : Bool) :
    parseArgs p (renderCmd items ++ (if stdin then [[45]] else [])) = cmdline items stdin := by
  have h := parseArgs_words_operands p items hwf (if stdin then [[45]] else []) (by cases stdin <;> rfl)
  rw [h]
  unfold cmdline
  cases cmdMeaning items {} with
  | error e => rfl
  | ok o => cases stdin <;> simp [operandStep]

/-- glibc's permutation: operands may stand between option words. -/
theorem parseArgs_permuted (items1 items2 : List CmdItem) (h1 : ∀ it ∈ items1, it.wf = true) (h2 : ∀ it ∈ items2, it.wf = true)
    (ops : List Bytes) (hops : ops.all isNonOption = true) :
    parseArgs true (renderCmd items1 ++ ops ++ renderCmd items2) = parseArgs true (renderCmd (items1 ++ items2) ++ ops) := by
  have hl : getoptScan Gen.optstring true (renderCmd items1 ++ ops ++ renderCmd items2) [] =
      getoptScan Gen.optstring true (renderCmd (items1 ++ items2) ++ ops) [] := by
    have e1 : renderCmd items1 ++ ops ++ renderCmd items2 = renderCmd items1 ++ (ops ++ (renderCmd items2 ++ [])) := by simp
    have e2 : renderCmd (items1 ++ items2) ++ ops = renderCmd items1 ++ (renderCmd items2 ++ ops) := by simp [renderCmd]
    rw [e1, e2, scan_items true items1 h1, scan_items true items1 h1, scan_skip ops _ [] hops, scan_items true items2 h2,
      scan_items true items2 h2, scan_operands true ops [] hops]
    simp [getoptScan]
  simp only [parseArgs, parseArgsWith, hl]

/-- POSIXLY_CORRECT: the first non-option ends the options; what follows is operands. -/
theorem parseArgs_posix_stops (items : List CmdItem) (hwf : ∀ it ∈ items, it.wf = true) (a : Bytes) (ha : isNonOption a = true)
    (rest : List Bytes) :
    parseArgs false (renderCmd items ++ a :: rest) =
      match cmdMeaning items {} with
      | .error e => .error e
      | .ok o =>
        match operandStep o (a :: rest) with
        | .error e => .error e
        | .ok o' => .ok (dryVerbosity o') := by
  refine parseArgs_of_scan false items hwf (a :: rest) (a :: rest) ?_
  rw [getoptScan]; simp [nonOption_not_dashdash a ha, ha]

theorem parseArgs_of_events (p : Bool) (args : List Bytes) (evs1 : List OptEv) (e : OptEv) (more : List OptEv) (st : OptSt) (x : ArgsErr)
    (hs : (getoptScan Gen.optstring p args []).events = evs1 ++ e :: more)
    (h1 : optLoop evs1 {} = .ok st) (h2 : optStep st e = .error x) : parseArgs p args = .error x := by
  have : optLoop (evs1 ++ e :: more) {} = .error x := by
    rw [optLoop_append, h1]
    simp only [optLoop, h2]
  simp only [parseArgs, parseArgsWith, hs, this]

theorem scan_items_then_word (p : Bool) (items : List CmdItem) (hwf : ∀ it ∈ items, it.wf = true) (ls : Bytes)
    (hl : ls.all isFlagLetter = true) (c : UInt8) (r : Bytes) (rest : List Bytes)
    (hnd : ls = [] → ((45 :: c :: r : Bytes) == dashdash) = false) :
    ∃ more, (getoptScan Gen.optstring p (renderCmd items ++ (45 :: (ls ++ c :: r)) :: rest) []).events =
      itemsEvents items ++ (ls.map OptEv.flag ++ (cluster Gen.optstring (c :: r)).1) ++ more := by
  have hnd' : ((45 :: (ls ++ c :: r) : Bytes) == dashdash) = false := by
    cases ls with
    | nil => exact hnd rfl
    | cons c0 ls' =>
      simp only [List.all_cons, Bool.and_eq_true] at hl
      exact word_not_dashdash c0 _ (flagLetter_ne_dash hl.1)
  rw [scan_items p items hwf, scan_word p ls (c :: r) hl (by simp) hnd']
  cases (cluster Gen.optstring (c :: r)).2 with
  | none => exact ⟨_, by simp only [List.append_assoc]; rfl⟩
  | some c' => cases rest <;> exact ⟨_, by simp only [List.append_assoc]; rfl⟩

theorem loop_items_flags (items : List CmdItem) (hwf : ∀ it ∈ items, it.wf = true) (o : Opts) (hm : cmdMeaning items {} = .ok o)
    (ls : Bytes) (hl : ls.all isFlagLetter = true) :
    ∃ st, optLoop (itemsEvents items ++ ls.map OptEv.flag) {} = .ok st := by
  have h := loop_items items hwf {} rfl
  have hm' : cmdMeaning items ({} : OptSt).opts = .ok o := hm
  rw [hm'] at h
  obtain ⟨st', h1, -⟩ := h
  refine ⟨{ st' with opts := ls.foldl letterStep st'.opts }, ?_⟩
  rw [optLoop_append, h1]
  exact optLoop_flags ls hl st'

theorem parseArgs_unknown_option (p : Bool) (items : List CmdItem) (hwf : ∀ it ∈ items, it.wf = true) (o : Opts)
    (hm : cmdMeaning items {} = .ok o) (ls : Bytes) (hl : ls.all isFlagLetter = true) (c : UInt8) (r : Bytes) (rest : List Bytes)
    (hc : optLookup Gen.optstring c = none) (hnd : ls = [] → ((45 :: c :: r : Bytes) == dashdash) = false) :
    parseArgs p (renderCmd items ++ (45 :: (ls ++ c :: r)) :: rest) = .error .usage := by
  obtain ⟨more, hs⟩ := scan_items_then_word p items hwf ls hl c r rest hnd
  obtain ⟨st, h1⟩ := loop_items_flags items hwf o hm ls hl
  have hcl : (cluster Gen.optstring (c :: r)).1 = .bad :: (cluster Gen.optstring r).1 := by simp only [cluster, hc]
  rw [hcl] at hs
  refine parseArgs_of_events p _ (itemsEvents items ++ ls.map OptEv.flag) .bad ((cluster Gen.optstring r).1 ++ more) st .usage ?_ h1 rfl
  rw [hs]; simp only [List.append_assoc, List.cons_append]

theorem parseArgs_missing_argument (p : Bool) (items : List CmdItem) (hwf : ∀ it ∈ items, it.wf = true) (o : Opts)
    (hm : cmdMeaning items {} = .ok o) (ls : Bytes) (hl : ls.all isFlagLetter = true) (c : UInt8)
    (hc : optLookup Gen.optstring c = some true) (hc45 : c ≠ 45) :
    parseArgs p (renderCmd items ++ [45 :: (ls ++ [c])]) = .error .usage := by
  obtain ⟨st, h1⟩ := loop_items_flags items hwf o hm ls hl
  have hs : (getoptScan Gen.optstring p (renderCmd items ++ [45 :: (ls ++ [c])]) []).events =
      (itemsEvents items ++ ls.map OptEv.flag) ++ .bad :: [] := by
    rw [scan_items p items hwf, scan_word p ls [c] hl (by simp)
      (body_not_dashdash ls _ hl fun _ _ h => by cases h; exact hc45), cluster_arg_last c hc]
    simp
  exact parseArgs_of_events p _ _ .bad [] st .usage hs h1 rfl

theorem parseArgs_missing_separator (p : Bool) (items : List CmdItem) (hwf : ∀ it ∈ items, it.wf = true) (o : Opts)
    (hm : cmdMeaning items {} = .ok o) (ls : Bytes) (hl : ls.all isFlagLetter = true) (a : Bytes) (ha : a.contains 61 = false)
    (rest : List Bytes) :
    parseArgs p (renderCmd items ++ (45 :: (ls ++ [68])) :: a :: rest) = .error (.macroSeparator a) := by
  obtain ⟨st, h1⟩ := loop_items_flags items hwf o hm ls hl
  have hs : (getoptScan Gen.optstring p (renderCmd items ++ (45 :: (ls ++ [68])) :: a :: rest) []).events =
      (itemsEvents items ++ ls.map OptEv.flag) ++ .arg 68 a :: (getoptScan Gen.optstring p rest []).events := by
    rw [scan_items p items hwf, scan_word p ls [68] hl (by simp)
      (body_not_dashdash ls _ hl fun _ _ h => by cases h; decide), cluster_arg_last 68 look_D]
    simp
  refine parseArgs_of_events p _ _ (.arg 68 a) _ st (.macroSeparator a) hs h1 ?_
  simp only [optStep, splitEq, ha, Bool.false_eq_true, if_false]

theorem operandStep_usage (o : Opts) (ops : List Bytes) : operandStep o ops = .error .usage ↔ ops ≠ [] ∧ ops ≠ [[45]] := by
  cases ops with
  | nil => simp [operandStep]
  | cons a r =>
    cases r with
    | nil =>
      by_cases h : a = [45]
      · simp [operandStep, h]
      · simp [operandStep, h]
    | cons b r => simp [operandStep]

theorem apply_fields (it : CmdItem) (o o' : Opts) (h : it.apply o = .ok o') :
    o'.syntaxOnly = (o.syntaxOnly || it.letters.contains 110) ∧ o'.dryrun = (o.dryrun || it.letters.contains 100) ∧
    o'.stdinMode = o.stdinMode ∧ o'.defs = o.defs ++ it.defineOf.toList := by
  obtain ⟨ls, tail⟩ := it
  obtain ⟨hdefs, hstdin, hs, hd⟩ := foldl_letterStep ls o
  cases tail with
  | none =>
    simp only [CmdItem.apply, Except.ok.injEq] at h
    subst h
    exact ⟨hs, hd, hstdin, by simp [CmdItem.defineOf, hdefs]⟩
  | some aj =>
    obtain ⟨a, j⟩ := aj
    cases a with
    | conf f =>
      simp only [CmdItem.apply, Except.ok.injEq] at h
      subst h
      exact ⟨hs, hd, hstdin, by simp [CmdItem.defineOf, hdefs]⟩
    | define n v =>
      simp only [CmdItem.apply] at h
      split at h
      · cases h
      · simp only [Except.ok.injEq] at h
        subst h
        exact ⟨hs, hd, hstdin, by simp [CmdItem.defineOf, hdefs]⟩

theorem cmdMeaning_fields (items : List CmdItem) (o o' : Opts) (h : cmdMeaning items o = .ok o') :
    o'.syntaxOnly = (o.syntaxOnly || items.any fun it => it.letters.contains 110) ∧
    o'.dryrun = (o.dryrun || items.any fun it => it.letters.contains 100) ∧
    o'.stdinMode = o.stdinMode ∧ o'.defs = o.defs ++ items.filterMap CmdItem.defineOf := by
  fun_induction cmdMeaning items o with
  | case1 o =>
    cases h
    simp
  | case3 => cases h
  | case2 it r o o1 ha ih =>
    obtain ⟨a1, a2, a3, a4⟩ := apply_fields it o o1 ha
    obtain ⟨b1, b2, b3, b4⟩ := ih h
    refine ⟨by rw [b1, a1]; simp [Bool.or_assoc], by rw [b2, a2]; simp [Bool.or_assoc], by rw [b3, a3], ?_⟩
    rw [b4, a4]
    cases hd : it.defineOf with
    | none => simp [hd]
    | some d => simp [hd]

theorem dryVerbosity_fields (o : Opts) :
    (dryVerbosity o).syntaxOnly = o.syntaxOnly ∧ (dryVerbosity o).dryrun = o.dryrun ∧ (dryVerbosity o).stdinMode = o.stdinMode ∧
    (dryVerbosity o).defs = o.defs := by
  unfold dryVerbosity
  split <;> exact ⟨rfl, rfl, rfl, rfl⟩

theorem macrosOfDefs_find (ds : List (Bytes × Bytes)) (ms0 ms : List Macro) (h : macrosOfDefs ds ms0 = some ms) (n v : Bytes)
    (hm : (n, v) ∈ ds) :
    isPathMacro n = false ∧ ms.find? (fun m => m.name == n) = some (stickyEntry n v 0) := by
  fun_induction macrosOfDefs ds ms0 with
  | case1 => cases hm
  | case3 => cases h
  | case2 n0 v0 r ms0 ms1 hi ih =>
    rw [insert_sticky] at hi
    split at hi
    · cases hi
    · rename_i hcond
      cases hi
      simp only [Bool.or_eq_true, not_or, Bool.not_eq_true] at hcond
      rcases List.mem_cons.1 hm with he | hr
      · cases he
        refine ⟨hcond.1, ?_⟩
        rw [macrosOfDefs_eq r _ ms h, List.append_assoc, List.find?_append]
        have : ms0.find? (fun m => m.name == n) = none := by
          rw [List.find?_eq_none]
          intro x hx
          have := List.any_eq_false.1 hcond.2 x hx
          simpa using this
        simp [this, stickyEntry]
      · exact ih h hr

theorem operandStep_defs (o o' : Opts) (ops : List Bytes) (h : operandStep o ops = .ok o') : o'.defs = o.defs := by
  revert h
  fun_cases operandStep o ops <;> intro h <;> cases h <;> rfl

/-- Accepted command line: its `-D` options form a table (`macrosOfDefs` cannot fail afterwards). -/
theorem parseArgs_defs_table (p : Bool) (args : List Bytes) (o : Opts) (h : parseArgs p args = .ok o) :
    ∃ ms, macrosOfDefs o.defs [] = some ms := by
  simp only [parseArgs, parseArgsWith] at h
  cases hl : optLoop (getoptScan Gen.optstring p args []).events {} with
  | error e => rw [hl] at h; cases h
  | ok st =>
    rw [hl] at h
    simp only at h
    cases ho : operandStep st.opts (getoptScan Gen.optstring p args []).operands with
    | error e => rw [ho] at h; cases h
    | ok o1 =>
      rw [ho] at h
      simp only [Except.ok.injEq] at h
      subst h
      refine ⟨st.macros, ?_⟩
      rw [(dryVerbosity_fields o1).2.2.2, operandStep_defs _ _ _ ho]
      exact optLoop_tableOK _ {} st rfl hl

theorem mainArgs_refused (p : Bool) (args : List Bytes) (raw : RawEnv) (env : PEnv) (orc : EvalOracles) (rxOk : Pat → Bool)
    (confText : Bytes) (files : Files) (input : Bytes) (e : ArgsErr) (h : parseArgs p args = .error e) :
    mainArgs p args raw env orc rxOk confText files input = .ret (earlyExit files) := by
  simp only [mainArgs, h]

/-- The environment `mainArgs` hands on. -/
def runEnv (env : PEnv) (o : Opts) (home tmpdir confpath : Bytes) : PEnv :=
  { env with home := home, tmpdir := tmpdir, confpath := confpath, dryrun := o.dryrun, syntaxOnly := o.syntaxOnly, stdinMode := o.stdinMode }

theorem mainText_shape (env : PEnv) (orc : EvalOracles) (rxOk : Pat → Bool) (defs : List (Bytes × Bytes)) (confText : Bytes)
    (files : Files) (input : Bytes) :
    mainText env orc rxOk defs confText files input = .ret (earlyExit files) ∨
    ∃ ok conf, mainText env orc rxOk defs confText files input = mainP env orc ok conf files input := by
  cases hp : parseConfig env.home defs rxOk confText with
  | invalidDefs => left; simp only [mainText, hp]; rfl
  | ok blocks =>
    cases hc : confBlocksOf blocks with
    | some conf => exact .inr ⟨true, conf, by simp only [mainText, hp, hc]⟩
    | none => exact .inr ⟨false, [], by simp only [mainText, hp, hc]⟩
  | error l => exact .inr ⟨false, [], by simp only [mainText, hp]⟩
  | fuel => exact .inr ⟨false, [], by simp only [mainText, hp]⟩

/-- An accepted command line: the run ends with status 1 before any call (`readenv` / `defaultconf` give up), or it is
`mainP` in the modes and with the paths the options select. -/
theorem mainArgs_accepted (p : Bool) (args : List Bytes) (raw : RawEnv) (env : PEnv) (orc : EvalOracles) (rxOk : Pat → Bool)
    (confText : Bytes) (files : Files) (input : Bytes) (o : Opts) (h : parseArgs p args = .ok o) :
    mainArgs p args raw env orc rxOk confText files input = .ret (earlyExit files) ∨
    ∃ home tmpdir confpath ok conf, startPaths raw o.confpath = .ok (home, tmpdir, confpath) ∧
      mainArgs p args raw env orc rxOk confText files input = mainP (runEnv env o home tmpdir confpath) orc ok conf files input := by
  simp only [mainArgs, h]
  cases hs : startPaths raw o.confpath with
  | error e => exact .inl rfl
  | ok t =>
    obtain ⟨home, tmpdir, confpath⟩ := t
    rcases mainText_shape (runEnv env o home tmpdir confpath) orc rxOk o.defs confText files input with h1 | ⟨ok, conf, h2⟩
    · exact .inl h1
    · exact .inr ⟨home, tmpdir, confpath, ok, conf, rfl, h2⟩

theorem ret_run {α} (plan : Plan) (x : α) (w : World) :
    (runPlan plan (Prog.ret x) w 0 []).1 = x ∧ callsOf plan (Prog.ret x) w = [] := by
  simp [runPlan, callsOf]

end Mdsort.Proofs.Opts
