import Mdsort.Proofs.Decode
import Mdsort.Proofs.HeaderSort
import Mdsort.Proofs.MimeScan
import Mdsort.Model.MimeEntity

/-! C11.  First the part loop of `parseattachments` against `Spec.cutParts.go`, by the first delimiter line (`cutParts_go_eq`,
`collectParts`, `partsLoop_eq`; the scanning itself is Proofs/MimeScan.lean).  Then the two theorems Props/C11.lean exports:
`parseAttachments_eq_spec_partial` and `getBody_eq_spec_partial`, under the hypothesis `BoundaryOk` (no announced boundary holds a
newline), with the tests of media type and encoding against the specification's token comparison; and the counterexamples
`cexParts`, `cexBody` that show the hypothesis is needed. -/

namespace Mdsort.Proofs
open Mdsort Mdsort.Model

theorem cutParts_go_eq (b : Bytes) (ls cur : List Bytes) :
    Spec.cutParts.go (sepOf b) (finOf b) ls cur =
      match ls.dropWhile (notDelim b) with
      | [] => none
      | d :: rest =>
        if d == finOf b then some [Spec.unlines (cur ++ ls.takeWhile (notDelim b))]
        else (Spec.cutParts.go (sepOf b) (finOf b) rest []).map
          (Spec.unlines (cur ++ ls.takeWhile (notDelim b)) :: ·) := by
  fun_induction Spec.cutParts.go (sepOf b) (finOf b) ls cur
  -- no line left; the terminator line; a separator line; any other line (it joins the part being collected)
  case case1 => rfl
  case case2 l ls cur hf => simp [notDelim, beq_iff_eq.1 hf]
  case case3 l ls cur hf hs _ =>
    cases beq_iff_eq.1 hs
    simp [notDelim, show sepOf b ≠ finOf b by simpa using hf]
  case case4 l ls cur hf hs ih =>
    have hnd : notDelim b l = true := by simpa [notDelim] using ⟨by simpa using hs, by simpa using hf⟩
    simp only [List.dropWhile_cons, List.takeWhile_cons, hnd, if_true, ih]
    simp

/-- What `Spec.parts` does with the cut texts, for an arbitrary reader `sub` of the nested parts. -/
def collectParts (sub : Msg → Option (List Msg)) (texts : List Bytes) : Option (List Msg) :=
  (texts.mapM fun t => (sub (parseHeaders t)).map fun s => parseHeaders t :: s).map List.flatten

theorem collectParts_nil (sub : Msg → Option (List Msg)) : collectParts sub [] = some [] := by
  simp [collectParts]

theorem collectParts_cons (sub : Msg → Option (List Msg)) (t : Bytes) (ts : List Bytes) :
    collectParts sub (t :: ts) =
      match sub (parseHeaders t) with
      | none => none
      | some n => (collectParts sub ts).map (parseHeaders t :: n ++ ·) := by
  unfold collectParts
  rw [List.mapM_cons]
  cases sub (parseHeaders t) with
  | none => rfl
  | some n =>
    cases List.mapM (fun t => (sub (parseHeaders t)).map fun s => parseHeaders t :: s) ts with
    | none => rfl
    | some xs => simp

theorem collectParts_congr {sub1 sub2 : Msg → Option (List Msg)} {texts : List Bytes}
    (h : ∀ t ∈ texts, sub1 (parseHeaders t) = sub2 (parseHeaders t)) :
    collectParts sub1 texts = collectParts sub2 texts := by
  induction texts with
  | nil => simp [collectParts_nil]
  | cons t ts ih =>
    rw [collectParts_cons, collectParts_cons, h t (by simp), ih (fun t' ht' => h t' (by simp [ht']))]

theorem partsLoop_eq (sub : Msg → Option (List Msg)) (bnd : Bytes) (hb : 10 ∉ bnd) :
    ∀ (n : Nat) (t : Bytes), t.length < n →
      partsLoop sub bnd n t =
        (Spec.cutParts.go (sepOf bnd) (finOf bnd) (Spec.termLines t []).1 []).bind (collectParts sub) := by
  intro n
  induction n with
  | zero => intro t ht; omega
  | succ n ih =>
    intro t ht
    rw [partsLoop, cutParts_go_eq]
    obtain ⟨h0, h1⟩ := findBoundary_lines bnd hb t
    cases hd : (Spec.termLines t []).1.dropWhile (notDelim bnd) with
    | nil => simp [h0 hd]
    | cons d rest =>
      obtain ⟨fromLine, hfb, hrest, hlen⟩ := h1 d rest hd
      simp only [hfb, List.nil_append]
      generalize Spec.unlines ((Spec.termLines t []).1.takeWhile (notDelim bnd)) = u
      cases hsub : sub (parseHeaders u) with
      | none =>
        by_cases hf : (d == finOf bnd) = true
        · simp [hf, collectParts_cons, hsub]
        · simp only [hf]
          cases Spec.cutParts.go (sepOf bnd) (finOf bnd) rest [] <;> simp [collectParts_cons, hsub]
      | some nested =>
        by_cases hf : (d == finOf bnd) = true
        · simp [hf, collectParts_cons, collectParts_nil, hsub]
        · simp only [hf]
          rw [ih (skipLine fromLine) (by omega), hrest]
          cases Spec.cutParts.go (sepOf bnd) (finOf bnd) rest [] <;> simp [collectParts_cons, hsub]

/-- Every multipart entity reached by the specification's traversal of `m` (at most `fuel`
levels) announces a boundary without a newline (byte 10).  RFC 2046 boundaries never contain
one; mdsort can obtain one from an RFC 2047 encoded word in the Content-Type value, and then
`findboundary`, which compares bytes and not lines, matches across line ends. -/
def BoundaryOk : Nat → Msg → Bool
  | 0, _ => true
  | fuel + 1, m =>
    match getHeader1 m contentTypeName with
    | none => true
    | some ct =>
      match Spec.boundaryParam ct with
      | .some b =>
        b.all (· != 10) &&
          (match Spec.cutParts b (Spec.termLines m.body []).1 with
           | none => true
           | some texts => texts.all fun t => BoundaryOk fuel (parseHeaders t))
      | _ => true

theorem cutParts_eq (b : Bytes) (ls : List Bytes) :
    Spec.cutParts b ls =
      match ls.dropWhile (notDelim b) with
      | [] => none
      | d :: rest => if d == finOf b then some [] else Spec.cutParts.go (sepOf b) (finOf b) rest [] := rfl

theorem parts_succ (fuel : Nat) (m : Msg) :
    Spec.parts entity (fuel + 1) m =
      match getHeader1 m contentTypeName with
      | none => some []
      | some ct =>
        match Spec.boundaryParam ct with
        | .none => some []
        | .bad => none
        | .some b =>
          match Spec.cutParts b (Spec.termLines m.body []).1 with
          | none => none
          | some texts => collectParts (Spec.parts entity fuel) texts := rfl

theorem parseAttachments_eq_spec_partial (fuel : Nat) (m : Msg) (h : BoundaryOk fuel m = true) :
    parseAttachments fuel m = Spec.parts entity fuel m := by
  induction fuel generalizing m with
  | zero => rfl
  | succ fuel ih =>
    rw [parts_succ, parseAttachments]
    unfold BoundaryOk at h
    cases hct : getHeader1 m contentTypeName with
    | none => rfl
    | some t =>
      simp only [hct] at h ⊢
      rw [boundaryParam_eq] at h ⊢
      cases hpb : parseBoundary t with
      | notMultipart => rfl
      | invalid => rfl
      | ok bnd =>
        simp only [hpb, boundaryToSpec, Bool.and_eq_true] at h ⊢
        have hb : 10 ∉ bnd := by
          intro hmem
          have := List.all_eq_true.mp h.1 10 hmem
          simp at this
        have h2 := h.2
        rw [cutParts_eq] at h2 ⊢
        obtain ⟨h0, h1⟩ := findBoundary_lines bnd hb m.body
        cases hd : (Spec.termLines m.body []).1.dropWhile (notDelim bnd) with
        | nil => simp [h0 hd]
        | cons d rest =>
          obtain ⟨fromLine, hfb, hrest, hlen⟩ := h1 d rest hd
          simp only [hfb, hd] at h2 ⊢
          by_cases hf : (d == finOf bnd) = true
          · simp [hf, collectParts_nil]
          · simp only [hf] at h2 ⊢
            rw [partsLoop_eq _ bnd hb _ _ (Nat.lt_succ_of_lt hlen), hrest]
            cases hgo : Spec.cutParts.go (sepOf bnd) (finOf bnd) rest [] with
            | none => rfl
            | some texts =>
              simp only [hgo, Bool.false_eq_true, if_false, List.all_eq_true] at h2
              simp only [Option.bind_some, Bool.false_eq_true, if_false]
              exact collectParts_congr fun t ht => ih _ (h2 t ht)

theorem lowerAscii_semi : ∀ d : UInt8, Spec.lowerAscii d = 59 → d = 59 := by
  apply forall_u8; decide +kernel

/-- `strncasecmp` prefix test followed by "`;` or end" is the token comparison of the media type. -/
theorem typeTest_eq (t ty : Bytes) (hty : (59 : UInt8) ∉ ty) :
    (startsWithCI t ty && (match t.drop ty.length with | [] => true | c :: _ => c == 59)) =
      Spec.tokenEq (Spec.mediaType t) ty := by
  rw [startsWithCI_eq, Bool.eq_iff_iff]
  unfold Spec.tokenEq Spec.mediaType
  simp only [Bool.and_eq_true, beq_iff_eq]
  have hnosemi : ∀ a : Bytes, a.map Spec.lowerAscii = ty.map Spec.lowerAscii → (59 : UInt8) ∉ a := by
    intro a ha hm
    have : Spec.lowerAscii 59 ∈ a.map Spec.lowerAscii := List.mem_map_of_mem hm
    rw [ha] at this
    obtain ⟨d, hd, hd2⟩ := List.mem_map.1 this
    have : Spec.lowerAscii 59 = 59 := by decide
    rw [this] at hd2
    exact hty (lowerAscii_semi d hd2 ▸ hd)
  constructor
  · rintro ⟨h1, h2⟩
    have hns := hnosemi _ h1
    have hsplit : t = t.take ty.length ++ t.drop ty.length := (List.take_append_drop _ _).symm
    have htw : t.takeWhile (fun c => c != 59) = t.take ty.length := by
      conv => lhs; rw [hsplit]
      refine List.takeWhile_append_stop ?_ ?_
      · intro x hx
        have : x ≠ 59 := fun e => hns (e ▸ hx)
        simpa using this
      · intro x hx
        cases hd : t.drop ty.length with
        | nil => rw [hd] at hx; cases hx
        | cons c r => rw [hd] at hx h2; cases hx; simpa using h2
    rw [htw]; exact h1
  · intro h
    have hlen : (t.takeWhile (fun c => c != 59)).length = ty.length := by
      have := congrArg List.length h; simpa using this
    have hpre : t.takeWhile (fun c => c != 59) = t.take ty.length := by
      rw [← hlen]
      exact (List.prefix_iff_eq_take.mp (List.takeWhile_prefix _))
    refine ⟨by rw [← hpre]; exact h, ?_⟩
    have hdrop : t.drop ty.length = t.dropWhile (fun c => c != 59) := by
      rw [← hlen]; exact List.drop_length_takeWhile _ _
    rw [hdrop]
    cases hd : t.dropWhile (fun c => c != 59) with
    | nil => rfl
    | cons c r =>
      have := List.not_of_dropWhile_eq_cons hd
      simpa using this

theorem isContentType_eq (a : Msg) (ty : Bytes) (hty : (59 : UInt8) ∉ ty) :
    isContentType a ty = Spec.isType (entity.contentType a) ty := by
  unfold isContentType Spec.isType
  show (match getHeader1 a contentTypeName with | none => false | some t => _) =
    (match getHeader1 a contentTypeName with | none => false | some t => _)
  cases getHeader1 a contentTypeName with
  | none => rfl
  | some t => exact typeTest_eq t ty hty

theorem isContentType_alt (a : Msg) : isContentType a (ofString "multipart/alternative") =
    Spec.isType (entity.contentType a)
      [109, 117, 108, 116, 105, 112, 97, 114, 116, 47, 97, 108, 116, 101, 114, 110, 97, 116, 105, 118, 101] := by
  rw [ofString_alternative]; exact isContentType_eq a _ (by decide)

theorem isContentType_plain (a : Msg) : isContentType a (ofString "text/plain") =
    Spec.isType (entity.contentType a) [116, 101, 120, 116, 47, 112, 108, 97, 105, 110] := by
  rw [ofString_plain]; exact isContentType_eq a _ (by decide)

theorem isContentType_html (a : Msg) : isContentType a (ofString "text/html") =
    Spec.isType (entity.contentType a) [116, 101, 120, 116, 47, 104, 116, 109, 108] := by
  rw [ofString_html]; exact isContentType_eq a _ (by decide)

theorem caseCmp_eq_tokenEq (a b : Bytes) : (strcasecmp a b == .eq) = Spec.tokenEq a b := by
  unfold Spec.tokenEq
  rw [← tolower_eq_lowerAscii, Bool.eq_iff_iff]
  simp only [beq_iff_eq, strcasecmp_eq_iff]

theorem decodeBody_eq (p : Msg) : decodeBody p = Spec.decoded entity p := by
  unfold decodeBody Spec.decoded
  simp only [ofString_base64, ofString_qp, caseCmp_eq_tokenEq]
  show (match getHeader1 p cteName with | some enc => _ | none => _) =
    (match getHeader1 p cteName with | some enc => _ | none => _)
  cases getHeader1 p cteName with
  | none => rfl
  | some enc =>
    simp only [entity, base64Decode, base64DecodeRaw, qpDecode, qpDecodeRaw,
      b64pton_eq_spec p.body (p.body.length + 1) (Nat.lt_succ_self _), qpLoop_eq_spec]

theorem pickAlternative_eq (ps : List Msg) (found : Option Msg) :
    pickAlternative ps found =
      match ps.find? (fun p => isContentType p (ofString "text/plain")) with
      | some p => some p
      | none =>
        match found with
        | some f => some f
        | none => ps.find? (fun p => isContentType p (ofString "text/html")) := by
  fun_induction pickAlternative ps found
  -- no part left; a text/plain part (taken); a text/html part (remembered if it is the first); any other part
  case case1 found => cases found <;> rfl
  case case2 a rest found hp => simp [hp]
  case case3 a rest found hp hh ih =>
    simp only [hp, hh, List.find?_cons, ih]
    cases found <;> rfl
  case case4 a rest found hp hh ih =>
    simp only [hp, hh, List.find?_cons, ih]

theorem getBody_eq_spec_of_parts (m : Msg)
    (h : getAttachments m = Spec.parts entity (Gen.mimeDepthLimit + 1) m) :
    getBody m = Spec.decodedBody entity Gen.mimeDepthLimit m := by
  unfold getBody Spec.decodedBody
  simp only [isContentType_alt]
  split
  · exact decodeBody_eq m
  · rw [h]
    cases Spec.parts entity (Gen.mimeDepthLimit + 1) m with
    | none => rfl
    | some ps =>
      simp only [pickAlternative_eq, isContentType_plain, isContentType_html]
      cases List.find? (fun p => Spec.isType (entity.contentType p)
          [116, 101, 120, 116, 47, 112, 108, 97, 105, 110]) ps with
      | some p => exact decodeBody_eq p
      | none =>
        simp only
        cases List.find? (fun p => Spec.isType (entity.contentType p)
            [116, 101, 120, 116, 47, 104, 116, 109, 108]) ps with
        | some p => exact decodeBody_eq p
        | none => rfl

theorem getBody_eq_spec_partial (m : Msg) (h : BoundaryOk (Gen.mimeDepthLimit + 1) m = true) :
    getBody m = Spec.decodedBody entity Gen.mimeDepthLimit m :=
  getBody_eq_spec_of_parts m (parseAttachments_eq_spec_partial _ m h)

/-! ### the statements without the hypothesis are false

`parseAttachments fuel m = Spec.parts entity fuel m` and
`getBody m = Spec.decodedBody entity Gen.mimeDepthLimit m` do NOT hold for every `m`.
The Content-Type value is RFC 2047-decoded before `parseboundary` sees it, so the encoded word
`=?x?Q?a=0A?=` yields the boundary `a\n`.  `findboundary` compares bytes, so for it
`--a\n\n` is a separator and `--a\n--\n` the terminator, although no *line* of the body
equals `--a\n`: the model delivers one (empty) part, the line-based specification reports
the missing terminator as an error. -/

/-- `Content-Type: multipart/;boundary="=?x?Q?a=0A?="`, body `--a\n\n--a\n--\n`. -/
def cexParts : Msg :=
  { headers := [{ id := 1, key := ofString "Content-Type",
                  val := ofString "multipart/;boundary=\"=?x?Q?a=0A?=\"" }],
    body := ofString "--a\n\n--a\n--\n" }

/-- The same with `multipart/alternative`. -/
def cexBody : Msg :=
  { headers := [{ id := 1, key := ofString "Content-Type",
                  val := ofString "multipart/alternative;boundary=\"=?x?Q?a=0A?=\"" }],
    body := ofString "--a\n\n--a\n--\n" }

theorem cexParts_model : getAttachments cexParts = some [{ headers := [], body := [] }] := by
  decide +kernel

theorem cexParts_spec : Spec.parts entity (Gen.mimeDepthLimit + 1) cexParts = none := by
  decide +kernel

theorem cexParts_boundaryOk : BoundaryOk (Gen.mimeDepthLimit + 1) cexParts = false := by
  decide +kernel

theorem cexBody_model : getBody cexBody = some (ofString "--a\n\n--a\n--\n") := by decide +kernel

theorem cexBody_spec : Spec.decodedBody entity Gen.mimeDepthLimit cexBody = none := by decide +kernel

/-- Stated for every fuel; Props/C11.lean refutes the instance at the depth limit (`C11_parts_unrestricted_false`) from the same
two evaluations. -/
theorem parseAttachments_eq_spec_false :
    ¬ ∀ (fuel : Nat) (m : Msg), parseAttachments fuel m = Spec.parts entity fuel m := by
  intro h
  have := h (Gen.mimeDepthLimit + 1) cexParts
  rw [show parseAttachments (Gen.mimeDepthLimit + 1) cexParts = getAttachments cexParts from rfl,
    cexParts_model, cexParts_spec] at this
  cases this

theorem getBody_eq_spec_false :
    ¬ ∀ m : Msg, getBody m = Spec.decodedBody entity Gen.mimeDepthLimit m := by
  intro h
  have := h cexBody
  rw [cexBody_model, cexBody_spec] at this
  cases this

end Mdsort.Proofs
