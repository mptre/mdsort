import Mdsort.Proofs.WorldCrashTop
import Mdsort.Proofs.WorldLinEx

/-!
# Crash states of a concrete run (evaluated)

The twin world of WorldLinEx (two byte-identical messages), message 1 processed by `move "/m/cur"`, `label`, no fault
(20 calls).  `crashEntries cw`: the entries of a crash state with the file and the content each is bound to.  The copy
`label` writes (file 3) holds the bytes of the original (see WorldLinEx): "complete" and "empty" are what the states tell apart.
-/

namespace Mdsort.Proofs
open Mdsort Mdsort.Model

/-- The entries of a (crash) state: directory, name, file, content. -/
def crashEntries (cw : World) : List (Bytes × Bytes × Nat × Bytes) :=
  cw.dirs.flatMap fun d => d.2.map fun e => (d.1, e.1, e.2, ((cw.file e.2).map (·.data)).getD [])

/-- The world after the first `j` calls of the fault-free run of the example. -/
def twinAt (j : Nat) : World :=
  worldAt twinExecWorld (traceSince twinExecWorld
    (runPlan Plan.none (matchesExec exEnv exList exSt) twinExecWorld 0 []).2.1) j

/-- Three crash states: (directories after call 12, stable storage at the end): the renamed original AND the labelled
copy are complete; (directories after call 12, stable storage after call 12 - the power fails between `fflush` and
`fsync` of the copy): the copy `..._9` is EMPTY on stable storage, the renamed original `..._8` (file 0) is complete;
(directories after call 3 - placeholder created, nothing renamed yet -, stable storage after call 14): the message is
still `/m/new/1.h`, the placeholder is empty. -/
theorem twin_crash_states :
    crashEntries (crashState (twinAt 12) (twinAt 20)) =
      [(exNew, wholeExName2, 1, exOrig), (exCur, twinName 8, 0, exOrig), (exCur, twinName 9, 3, exOrig)] ∧
    crashEntries (crashState (twinAt 12) (twinAt 12)) =
      [(exNew, wholeExName2, 1, exOrig), (exCur, twinName 8, 0, exOrig), (exCur, twinName 9, 3, [])] ∧
    crashEntries (crashState (twinAt 3) (twinAt 14)) =
      [(exNew, exName, 0, exOrig), (exNew, wholeExName2, 1, exOrig), (exCur, twinName 8, 2, [])] := by
  decide +kernel

end Mdsort.Proofs
