import Mdsort.Proofs.ExecSeqContent

/-!
# Evaluated runs of the action list up to the fork

Three runs (kernel evaluation, `decide +kernel`) for the statements about what an exec child reads across the action list:

* run 1: `label "..." exec stdin CMD` - every hypothesis of `C13_exec_stdin_sees_current` holds, the
  run reaches the fork, and the descriptor's file holds the REWRITTEN message (non-vacuity);
* run 1b: the same with `exec stdin body`;
* run 2: `move "/b/new" exec stdin CMD` with `/b` on another device (`renameat` = EXDEV, the message is
  copied through `message_write`) - the descriptor still refers to the source file with the
  ORIGINAL bytes `A:b`, while the ghost `MsgSt.content` (what the ENTRY in `/b/new` holds) is the
  re-serialised `A: b`: the witness of `C13_exec_stdin_sees_content_false`.
-/

namespace Mdsort.Proofs.ExecSeq
open Mdsort Mdsort.Model Mdsort.Spec

def exOrig : Bytes := ofString "A:b\n\nx\n"
def exNew : Bytes := ofString "A: b\n\nx\n"

def exW : World :=
  { dirs := [(ofString "/a/new", [(ofString "1", 0)]), (ofString "/b/new", [])],
    files := [(0, ⟨exOrig, exOrig⟩)], nextFid := 1,
    handles := [.other, .other, .other, .dir (ofString "/a/new") none 0, .file 0 0 false],
    devs := [(ofString "/b", 1)], trace := [] }

def exEnv : PEnv :=
  { now := 0, pid := 1, host := [104], random := 0, tmpdir := ofString "/tmp", home := [], confpath := [],
    dryrun := false, syntaxOnly := false, stdinMode := false }

def exSt : ExecSt :=
  { src := { root := ofString "/a", path := ofString "/a/new", dirH := some 3, subdir := .new, walk := true, stdin := false },
    chsrc := false,
    ms := { name := ofString "1", path := ofString "/a/new/1", fd := some 4, msg := parseMessage exOrig, parts := [],
            flags := MFlags.empty, loc := some (ofString "/a/new", ofString "1"), content := exOrig },
    reject := false }

def exExec : Match := { ty := .exec, lno := 1, part := 0, execStdin := true }
def exBody : Match := { ty := .exec, lno := 1, part := 0, execStdin := true, execBody := true }
def exLabel : Match := { ty := .label, lno := 1, part := 0 }
def exMove : Match := { ty := .move, lno := 1, part := 0, path := ofString "/b/new" }

/-- Run 1: every call succeeds; descriptors as the world numbers them. -/
def exOrc1 : Nat → Call → Res := fun _ c =>
  match c with
  | .openExcl .. => .ok 5
  | .dupfd 5 => .ok 6
  | .openRd .. => .ok 7
  | .dupfd _ => .ok 8
  | .mkostemp _ => .ok 8
  | .fprintf _ d => .ok d.length
  | .write _ d => .ok (min 2 d.length)
  | _ => .ok 0

/-- Run 2: the destination is on another device. -/
def exOrc2 : Nat → Call → Res := fun _ c =>
  match c with
  | .opendir _ => .ok 5
  | .openExcl .. => .ok 6
  | .renameat .. => .err "EXDEV"
  | .dupfd 6 => .ok 7
  | .dupfd _ => .ok 8
  | .fprintf _ d => .ok d.length
  | _ => .ok 0

def forkFd : AtFork → Option Handle
  | .fork _ fd => some fd
  | _ => none

def forkContent : AtFork → Bytes
  | .fork st _ => st.ms.content
  | _ => []

theorem forkFd_eq {r : AtFork} {fd : Handle} (h : forkFd r = some fd) : ∃ st', r = .fork st' fd := by
  cases r with
  | fork st fd' => simp only [forkFd, Option.some.injEq] at h; subst h; exact ⟨st, rfl⟩
  | abandoned st => cases h
  | nofd st => cases h

theorem ex_open : MsgOpen exW exSt exOrig :=
  ⟨4, 0, 0, ⟨exOrig, exOrig⟩, rfl, by decide +kernel, by decide +kernel, by decide +kernel, rfl, by decide +kernel⟩

theorem ex1_run :
    PossibleRun exOrc1 (uptoFork exEnv [exLabel] exExec exSt) exW 0 ∧
    forkFd (runW exOrc1 (uptoFork exEnv [exLabel] exExec exSt) exW 0).1 = some 8 := by decide +kernel

theorem ex1_possible : PossibleRun exOrc1 (uptoFork exEnv [exLabel] exExec exSt) exW 0 := ex1_run.1
theorem ex1_fork : forkFd (runW exOrc1 (uptoFork exEnv [exLabel] exExec exSt) exW 0).1 = some 8 := ex1_run.2
theorem ex1_content : rewrittenBefore [exLabel] exSt.ms.msg exOrig = exNew := by decide +kernel

theorem ex1b_run :
    PossibleRun exOrc1 (uptoFork exEnv [exLabel] exBody exSt) exW 0 ∧
    forkFd (runW exOrc1 (uptoFork exEnv [exLabel] exBody exSt) exW 0).1 = some 8 := by decide +kernel

theorem ex1b_possible : PossibleRun exOrc1 (uptoFork exEnv [exLabel] exBody exSt) exW 0 := ex1b_run.1
theorem ex1b_fork : forkFd (runW exOrc1 (uptoFork exEnv [exLabel] exBody exSt) exW 0).1 = some 8 := ex1b_run.2
theorem ex1b_body : getBody ((execPart exBody exSt.ms).getD exSt.ms.msg) = some (ofString "x\n") := by decide +kernel

/-- The run is evaluated once for all it is asked about. -/
theorem ex2_run :
    PossibleRun exOrc2 (uptoFork exEnv [exMove] exExec exSt) exW 0 ∧
    forkFd (runW exOrc2 (uptoFork exEnv [exMove] exExec exSt) exW 0).1 = some 8 ∧
    (runW exOrc2 (uptoFork exEnv [exMove] exExec exSt) exW 0).2.obj 8 = .file 0 0 false ∧
    (runW exOrc2 (uptoFork exEnv [exMove] exExec exSt) exW 0).2.file 0 = some ⟨exOrig, exOrig⟩ ∧
    forkContent (runW exOrc2 (uptoFork exEnv [exMove] exExec exSt) exW 0).1 = exNew := by decide +kernel

theorem ex2_possible : PossibleRun exOrc2 (uptoFork exEnv [exMove] exExec exSt) exW 0 := ex2_run.1
theorem ex2_fork : forkFd (runW exOrc2 (uptoFork exEnv [exMove] exExec exSt) exW 0).1 = some 8 := ex2_run.2.1
theorem ex2_obj : (runW exOrc2 (uptoFork exEnv [exMove] exExec exSt) exW 0).2.obj 8 = .file 0 0 false := ex2_run.2.2.1
theorem ex2_file : (runW exOrc2 (uptoFork exEnv [exMove] exExec exSt) exW 0).2.file 0 = some ⟨exOrig, exOrig⟩ :=
  ex2_run.2.2.2.1
theorem ex2_content : forkContent (runW exOrc2 (uptoFork exEnv [exMove] exExec exSt) exW 0).1 = exNew := ex2_run.2.2.2.2
theorem ex_differ : exOrig ≠ exNew := by decide +kernel

end Mdsort.Proofs.ExecSeq
