import Mdsort.Proofs.WorldVerdict
import Mdsort.Proofs.WorldFs

/-!
`processMessage` has no hidden state (C04).  What processing one message does is a program of the configuration
(`env`, `orc`, `expr`), the maildir being walked (`md`), the message's name, the ONE entry of the loop state the message
itself reads, `st.files.get md.path name` (its content), and the results of its own calls; it changes the loop state by an
*effect* (`MsgEffect`) that is applied to whatever the state was.  Nothing an earlier message left in `MainSt` - the flags,
the log, any other entry of `files` - is looked at.
-/

namespace Mdsort.Proofs.Own
open Mdsort Mdsort.Model
open Mdsort.Proofs.World (bind_assoc All)

def mapP {α β} (f : α → β) (p : Prog α) : Prog β := p.bind fun a => .ret (f a)

theorem mapP_ret {α β} (f : α → β) (a : α) : mapP f (.ret a) = .ret (f a) := rfl

theorem mapP_bind {α β γ} (f : β → γ) (p : Prog α) (g : α → Prog β) :
    mapP f (p.bind g) = p.bind fun a => mapP f (g a) := bind_assoc _ _ _

theorem mapP_call {α β} (f : α → β) (c : Call) (k : Res → Prog α) :
    mapP f (.call c k) = .call c fun r => mapP f (k r) := rfl

theorem mapP_mapP {α β γ} (g : β → γ) (f : α → β) (p : Prog α) : mapP g (mapP f p) = mapP (g ∘ f) p :=
  bind_assoc _ _ _

theorem runO_mapP {α β} (orcl : Nat → Call → Res) (f : α → β) (p : Prog α) (i : Nat) :
    runO orcl (mapP f p) i = (f (runO orcl p i).1, (runO orcl p i).2.1, (runO orcl p i).2.2) := by
  unfold mapP
  rw [runO_bind]
  simp

theorem all_mapP {α β} {P : β → Prop} (f : α → β) (p : Prog α) (h : ∀ a, P (f a)) : All P (mapP f p) :=
  World.All.bind_of_forall _ fun a => h a

end Mdsort.Proofs.Own

namespace Mdsort.Proofs
open Mdsort Mdsort.Model
open Mdsort.Proofs.Own (runO runO_call runOracle_eq mapP mapP_ret mapP_bind runO_mapP)

/-- What one message contributes to the loop state.  `file = none`: the registry of files is untouched;
`some none`: the message's own entry is gone (discarded); `some (some (d, n, c))`: its own entry is gone and
`(d, n)` is bound to `c` (where `matches_exec` left the file, with the content it has now). -/
structure MsgEffect where
  error : Bool
  reject : Bool
  lines : List Bytes
  file : Option (Option (Bytes × Bytes × Bytes))

def MsgEffect.noop : MsgEffect := ⟨false, false, [], none⟩
def MsgEffect.fail : MsgEffect := ⟨true, false, [], none⟩

/-- Where a message's file is (ghost fields of `MsgSt`). -/
def effectFile (ms : MsgSt) : Option (Bytes × Bytes × Bytes) := ms.loc.map fun p => (p.1, p.2, ms.content)

def MsgEffect.apply (dir name : Bytes) (e : MsgEffect) (st : MainSt) : MainSt :=
  { files := match e.file with
      | none => st.files
      | some none => st.files.del dir name
      | some (some x) => (st.files.del dir name).put x.1 x.2.1 x.2.2
    error := st.error || e.error
    reject := st.reject || e.reject
    log := st.log ++ e.lines
    fuelOut := st.fuelOut }

theorem MsgEffect.apply_noop (dir name : Bytes) (st : MainSt) : MsgEffect.noop.apply dir name st = st := by
  cases st
  simp [MsgEffect.apply, MsgEffect.noop]

theorem MsgEffect.apply_fail (dir name : Bytes) (st : MainSt) :
    MsgEffect.fail.apply dir name st = { st with error := true } := by
  cases st
  simp [MsgEffect.apply, MsgEffect.fail]

theorem afterExec_eq (files : Files) (dir name : Bytes) (ms : MsgSt) :
    afterExec files dir name ms =
      (match effectFile ms with
       | none => files.del dir name
       | some x => (files.del dir name).put x.1 x.2.1 x.2.2) := by
  unfold afterExec effectFile
  cases ms.loc with
  | none => rfl
  | some p => obtain ⟨d, n⟩ := p; rfl

/-- `afterVerdict` without the loop state. -/
def verdictEffect (env : PEnv) (md : Maildir) (ms : MsgSt) : Verdict → Prog MsgEffect
  | .unparsable => (freeP ms).bind fun _ => .ret MsgEffect.fail
  | .error => (freeP ms).bind fun _ => .ret MsgEffect.fail
  | .interpFail => (freeP ms).bind fun _ => .ret MsgEffect.fail
  | .nomatch => (freeP ms).bind fun _ => .ret MsgEffect.noop
  | .act ml msgs fl =>
    let ms1 : MsgSt := { ms with msg := msgs 0, flags := fl }
    if env.dryrun then (freeP ms1).bind fun _ => .ret ⟨false, false, inspectLines env ml ms.path, none⟩
    else
      (matchesExec env ml { src := md, chsrc := false, ms := ms1, reject := false }).bind fun x =>
        (freeP x.1.ms).bind fun _ =>
          .ret ⟨x.2, x.1.reject, inspectLines env ml ms.path, some (effectFile x.1.ms)⟩

/-- The loop state an effect leads to, with the maildir (which `processMessage` returns unchanged). -/
def applyTo (md : Maildir) (name : Bytes) (st : MainSt) (e : MsgEffect) : MainSt × Maildir :=
  (e.apply md.path name st, md)

theorem afterVerdict_effect (env : PEnv) (md : Maildir) (name : Bytes) (st : MainSt) (ms : MsgSt) (v : Verdict) :
    afterVerdict env md name st ms v = mapP (applyTo md name st) (verdictEffect env md ms v) := by
  cases v with
  | unparsable => simp only [afterVerdict, verdictEffect, mapP_bind, mapP_ret, applyTo, MsgEffect.apply_fail]
  | error => simp only [afterVerdict, verdictEffect, mapP_bind, mapP_ret, applyTo, MsgEffect.apply_fail]
  | interpFail => simp only [afterVerdict, verdictEffect, mapP_bind, mapP_ret, applyTo, MsgEffect.apply_fail]
  | «nomatch» => simp only [afterVerdict, verdictEffect, mapP_bind, mapP_ret, applyTo, MsgEffect.apply_noop]
  | act ml msgs fl =>
    simp only [afterVerdict, verdictEffect]
    split
    · rw [mapP_bind]
      congr 1
      funext _
      rw [mapP_ret]
      congr 1
      cases st
      simp [applyTo, MsgEffect.apply]
    · rw [mapP_bind]
      congr 1
      funext x
      rw [mapP_bind]
      congr 1
      funext _
      rw [mapP_ret]
      congr 1
      simp only [applyTo, MsgEffect.apply, afterExec_eq]
      cases effectFile x.1.ms <;> rfl

/-- `afterParse` without the loop state. -/
def parseEffect (env : PEnv) (orc : EvalOracles) (expr : Expr) (md : Maildir) : Option MsgSt → Prog MsgEffect
  | none => .ret MsgEffect.fail
  | some ms => (evalMs env orc expr ms).bind fun ev => verdictEffect env md ms (evVerdict env orc ms ev)

theorem afterParse_effect (env : PEnv) (orc : EvalOracles) (expr : Expr) (md : Maildir) (name : Bytes) (st : MainSt)
    (pm : Option MsgSt) :
    afterParse env orc expr md name st pm = mapP (applyTo md name st) (parseEffect env orc expr md pm) := by
  cases pm with
  | none => simp only [afterParse, parseEffect, mapP_ret, applyTo, MsgEffect.apply_fail]
  | some ms =>
    simp only [afterParse, parseEffect, mapP_bind]
    congr 1
    funext ev
    exact afterVerdict_effect env md name st ms _

/-- The effect of one message, as a program of the configuration, the maildir, the name and the content
registered for `(md.path, name)` (`none`: the model knows no such file) - and of nothing else. -/
def messageEffect (env : PEnv) (orc : EvalOracles) (expr : Expr) (md : Maildir) (name : Bytes) (content : Option Bytes) :
    Prog MsgEffect :=
  match md.dirH with
  | none => .ret MsgEffect.noop
  | some d =>
    match content with
    | none => .ret MsgEffect.fail
    | some c => (messageParseP d md.path name c).bind (parseEffect env orc expr md)

theorem processMessage_effect (env : PEnv) (orc : EvalOracles) (expr : Expr) (md : Maildir) (name : Bytes) (st : MainSt) :
    processMessage env orc expr md name st =
      mapP (applyTo md name st) (messageEffect env orc expr md name (st.files.get md.path name)) := by
  unfold messageEffect
  cases hd : md.dirH with
  | none =>
    rw [processMessage_noDir env orc expr md name st hd]
    simp only [mapP_ret, applyTo, MsgEffect.apply_noop]
  | some d =>
    cases hf : st.files.get md.path name with
    | none =>
      rw [processMessage_unknown env orc expr md name st d hd hf]
      simp only [mapP_ret, applyTo, MsgEffect.apply_fail]
    | some content =>
      rw [processMessage_eq env orc expr md name st d content hd hf]
      simp only [mapP_bind]
      congr 1
      funext pm
      exact afterParse_effect env orc expr md name st pm

theorem Own.all_processMessage_md (env : PEnv) (orc : EvalOracles) (expr : Expr) (md : Maildir) (name : Bytes) (st : MainSt) :
    World.All (fun r => r.2 = md) (processMessage env orc expr md name st) := by
  rw [processMessage_effect]
  exact Own.all_mapP _ _ fun _ => rfl

theorem runO_shift {α} (orcl orcl' : Nat → Call → Res) (p : Prog α) (i i' : Nat)
    (h : ∀ k c, orcl (i + k) c = orcl' (i' + k) c) :
    (runO orcl p i).1 = (runO orcl' p i').1 ∧ (runO orcl p i).2.1 = (runO orcl' p i').2.1 := by
  induction p generalizing i i' with
  | ret a => exact ⟨rfl, rfl⟩
  | call c k ih =>
    have h0 : orcl i c = orcl' i' c := by simpa using h 0 c
    have hs : ∀ k c, orcl (i + 1 + k) c = orcl' (i' + 1 + k) c := by
      intro k c
      have := h (k + 1) c
      rwa [show i + (k + 1) = i + 1 + k by omega, show i' + (k + 1) = i' + 1 + k by omega] at this
    rw [runO_call, runO_call, h0]
    obtain ⟨h1, h2⟩ := ih (orcl' i' c) (i + 1) (i' + 1) hs
    exact ⟨h1, by rw [h2]⟩

/-- Two runs of `processMessage` for the same message - from ANY two loop states that agree on the message's own
entry, at ANY two positions of a run (call indices `i`, `i'`, traces so far `tr`, `tr'`), against call results that
agree on the message's own calls - issue the same calls with the same results and change their loop states by the
same effect. -/
theorem processMessage_independent (env : PEnv) (orc : EvalOracles) (expr : Expr) (md : Maildir) (name : Bytes)
    (st st' : MainSt) (hfile : st.files.get md.path name = st'.files.get md.path name)
    (orcl orcl' : Nat → Call → Res) (i i' : Nat) (tr tr' : List (Call × Res))
    (hres : ∀ k c, orcl (i + k) c = orcl' (i' + k) c) :
    ∃ (e : MsgEffect) (calls : List (Call × Res)),
      runOracle orcl (processMessage env orc expr md name st) i tr = ((e.apply md.path name st, md), tr ++ calls) ∧
      runOracle orcl' (processMessage env orc expr md name st') i' tr' = ((e.apply md.path name st', md), tr' ++ calls) := by
  refine ⟨(runO orcl (messageEffect env orc expr md name (st.files.get md.path name)) i).1,
    (runO orcl (messageEffect env orc expr md name (st.files.get md.path name)) i).2.1, ?_, ?_⟩
  · rw [runOracle_eq, processMessage_effect, runO_mapP]
    rfl
  · obtain ⟨h1, h2⟩ := runO_shift orcl orcl' (messageEffect env orc expr md name (st.files.get md.path name)) i i' hres
    rw [runOracle_eq, processMessage_effect, runO_mapP, ← hfile, ← h1, ← h2]
    rfl

/-- An effect leaves every entry of the registry alone except the message's own `(dir, name)` and the place the
message's file is taken to - so the entry a LATER message reads is the initial one unless an earlier message was
moved to exactly that directory and name. -/
theorem MsgEffect.apply_files_frame (dir name : Bytes) (e : MsgEffect) (st : MainSt) (d' n' : Bytes)
    (hown : ¬ (d' = dir ∧ n' = name))
    (hdst : ∀ x, e.file = some (some x) → ¬ (d' = x.1 ∧ n' = x.2.1)) :
    (e.apply dir name st).files.get d' n' = st.files.get d' n' := by
  unfold MsgEffect.apply
  cases hf : e.file with
  | none => rfl
  | some o =>
    cases o with
    | none =>
      simp only [Files.whole_get_del, hown, if_false]
    | some x =>
      simp only [Files.whole_get_put, Files.whole_get_del, hown, hdst x hf, if_false]

end Mdsort.Proofs
