import Mdsort.Proofs.WorldWrite

/-! The walk over `maildir_move`: rename, or copy and unlink across devices. -/

namespace Mdsort.Proofs.World
open Mdsort Mdsort.Model

/-- Handle `dh` is an open directory stream on an existing directory.  The second half is what makes a create or a rename
through `dh` bind the name (`NewFile.bound`, `lookup_bind`): a stream can outlive its directory. -/
def DirH (w : World) (dh : Handle) : Prop := ∃ p, w.dirPath dh = some p ∧ (w.dir p).isSome

theorem DirH.step {w : World} {dh : Handle} (h : DirH w dh) (c : Call) (r : Res)
    (hs : Call.subject c ≠ some dh) (hc : ∀ q, c ≠ .rmdir q) : DirH (stepWorld w c r) dh := by
  obtain ⟨p, hp, hd⟩ := h
  refine ⟨p, dirPath_step hp c r hs, ?_⟩
  rw [stepWorld_dir]; exact core_dir_isSome w c r p hd hc

/-- After a successful rename the tracked entry has moved (same file) or is untouched. -/
theorem goodN_renameat_ok {N0 fid0 : Nat} {cs : List Bytes} {w : World} {p0 n0 : Bytes} {g0 : Nat} (hg : GoodAt w cs p0 n0 g0)
    (hA : g0 = fid0 ∨ N0 ≤ g0)
    {d1 d2 : Handle} {n1 n2 p1 p2 : Bytes} {fid : Nat}
    (hp1 : w.dirPath d1 = some p1) (hp2 : w.dirPath d2 = some p2) (hl : w.lookup p1 n1 = some fid)
    (hd2 : (w.dir p2).isSome) (hneq : ¬(p2 = p0 ∧ n2 = n0)) (v : Nat) :
    GoodN N0 fid0 (stepWorld w (.renameat d1 n1 d2 n2) (.ok v)) cs := by
  by_cases hX : p1 = p0 ∧ n1 = n0
  · obtain ⟨rfl, rfl⟩ := hX
    have hfid : fid = g0 := by rw [hg.1] at hl; cases hl; rfl
    subst hfid
    have hc := core_renameat_ok (n2 := n2) hp1 hp2 hl v
    obtain ⟨_, hlt, f, hf, h1, h2⟩ := hg
    refine ⟨p2, n2, fid, ⟨?_, ?_, f, ?_, h1, h2⟩, hA⟩
    · rw [stepWorld_lookup, hc, lookup_bind _ _ _ _ _ _ (by rw [dir_unbind_isSome]; exact hd2)]
      simp
    · rw [stepWorld_nextFid, hc]; simpa using hlt
    · rw [stepWorld_file, hc]; simpa using hf
  · refine (hg.step (.renameat d1 n1 d2 n2) (.ok v) ?_ trivial).goodN hA
    simp only [dirSafe, hp1, hp2, Option.some.injEq]
    exact ⟨hX, hneq⟩

section
variable {J : World → Prop} {N0 fid0 : Nat} {cs : List Bytes}

/-- The end of `maildir_move` after a rename or a complete copy: nothing is removed any more. -/
theorem goodN_moveTail_ok (ss : Subdir) (dst : Maildir) (dh fd : Handle) (dstname : Bytes) (mt : Option Nat) (ms : MsgSt)
    {w : World} (hg : GoodN N0 fid0 w cs) :
    wp (fun w' => GoodN N0 fid0 w' cs) (moveTail ss dst dh fd dstname mt false ms) (fun _ w' => GoodN N0 fid0 w' cs) w := by
  obtain ⟨p, n, g, hg, hA⟩ := hg
  rw [moveTail_ok]
  refine wp_call_any fun r => ?_
  have h1 := hg.step (.close fd) r trivial trivial
  refine ⟨h1.goodN hA, ?_⟩
  cases mt with
  | none => exact h1.goodN hA
  | some t =>
    refine wp_call_any fun r2 => ?_
    have h2 := h1.step (.utimensat dh dstname none (some t)) r2 trivial trivial
    refine ⟨h2.goodN hA, ?_⟩
    split
    · exact h2.goodN hA
    · exact h2.goodN hA

/-- The roll-back of `maildir_move` removes the new name, which is not the tracked entry. -/
theorem goodN_moveTail_err (ss : Subdir) (dst : Maildir) (dh fd : Handle) (dstname : Bytes) (mt : Option Nat) (ms : MsgSt)
    {w : World} {p0 n0 p2 : Bytes} {g0 : Nat} (hg : GoodAt w cs p0 n0 g0) (hA : g0 = fid0 ∨ N0 ≤ g0)
    (hdh : dst.dirH = some dh) (hdp : w.dirPath dh = some p2) (hneq : ¬(p2 = p0 ∧ dstname = n0)) :
    wp (fun w' => GoodN N0 fid0 w' cs) (moveTail ss dst dh fd dstname mt true ms) (fun _ w' => GoodN N0 fid0 w' cs) w := by
  rw [moveTail_err, maildirUnlink_eq, hdh]
  refine wp_call_any fun r => ?_
  have h1 := hg.step (.unlinkat dh dstname) r (by simp only [dirSafe, hdp, Option.some.injEq]; exact hneq) trivial
  refine ⟨h1.goodN hA, ?_⟩
  refine wp_call_any fun r2 => ?_
  have h2 := h1.step (.close fd) r2 trivial trivial
  exact ⟨h2.goodN hA, h2.goodN hA⟩

/-- After a failed rename, with the placeholder `fid` still empty under `(p2, dstname)`: either the tracked entry is
as it was and the roll-back follows, or (`EXDEV`) the copy is complete and the source name has been removed. -/
theorem goodN_moveCopy_err (src dst : Maildir) (ms : MsgSt) (fd : Handle) (dstname : Bytes) (e : String)
    {w : World} {p0 n0 p2 : Bytes} {g0 fid : Nat} {sh d : Handle} (hg : GoodAt w cs p0 n0 g0) (hA : g0 = fid0 ∨ N0 ≤ g0)
    (hm : (messageWrite ms.msg).1 ∈ cs) (hsh : src.dirH = some sh) (nf : NewFile w d fd dstname p2 fid)
    (hdir : (w.dir p2).isSome) (hfne : fid ≠ g0) (hN : N0 ≤ fid) (hneq : ¬(p2 = p0 ∧ dstname = n0)) :
    wp (fun w' => GoodN N0 fid0 w' cs) (moveCopy src dst ms fd dstname (.err e))
      (fun a w' => (a = (true, ms) ∧ GoodAt w' cs p0 n0 g0 ∧ w'.dirPath d = some p2) ∨
        (a.1 = false ∧ GoodN N0 fid0 w' cs)) w := by
  simp only [moveCopy, bind_eq, pure_eq]
  split
  · refine wp_bind_mono (wp_inv_mono (spec_messageWriteP ms.msg fd hg nf.obj hfne nf.file) fun _ h => h.goodN hA) ?_
    rintro we w3 ⟨fr3, f3, hf3, hcontent⟩
    have hdp3 : w3.dirPath d = some p2 := by
      rw [← nf.dirPath]; exact dirPath_congr (fr3.objs d (lt_of_dirPath nf.dirPath))
    cases we with
    | true => exact .inl ⟨rfl, fr3.good, hdp3⟩
    | false =>
      simp only [Bool.false_eq_true, if_false, maildirUnlink_eq, hsh, call_bind']
      refine wp_call_any fun ru => ?_
      rcases isOk_cases ru with ⟨e', rfl⟩ | hok
      · have hg4 := fr3.good.fail (c := .unlinkat sh ms.name) e' rfl
        refine ⟨hg4.goodN hA, .inl ⟨rfl, hg4, ?_⟩⟩
        rw [stepWorld_dirPath, core_fail _ e' rfl]
        exact hdp3
      · have hgood4 := fr3.good.unlinkat_other hA hN hneq sh ms.name ru fun _ _ =>
          goodAt_of_copy (by rw [lookup_of_dirs fr3.dirs]; exact nf.bound hdir)
            (Nat.lt_of_lt_of_le nf.fidLt fr3.nextFid) hf3 (hcontent rfl) hm
        refine ⟨hgood4, ?_⟩
        simp only [hok, Bool.not_true, ret_bind]
        exact .inr ⟨rfl, hgood4⟩
  · exact .inl ⟨rfl, hg, nf.dirPath⟩

/-- The side invariant after a failed rename: the only `fsync` is that of the copy, into the file that is still empty. -/
theorem side_moveCopy_err (hS : Side N0 cs J) (src dst : Maildir) (ms : MsgSt) (fd : Handle) (dstname : Bytes) (e : String)
    {w : World} {fid off : Nat} {wr : Bool} (ho : w.obj fd = .file fid off wr) (hf : w.file fid = some ⟨[], []⟩)
    (hm : (messageWrite ms.msg).1 ∈ cs) (hj : J w) :
    wp J (moveCopy src dst ms fd dstname (.err e)) (fun _ w' => J w') w := by
  simp only [moveCopy, bind_eq, pure_eq]
  split
  · refine wp_bind_mono (hS.write ms.msg fd ho hf hm hj) ?_
    intro we w2 hj2
    split
    · exact hj2
    · rw [maildirUnlink_eq]
      split
      · exact hj2
      · exact wp_call_any fun r => ⟨hS.step _ _ r True.intro True.intro hj2, hS.step _ _ r True.intro True.intro hj2⟩
  · exact hj

theorem side_moveTail (hS : Side N0 cs J) (ss : Subdir) (dst : Maildir) (dh fd : Handle) (dstname : Bytes) (mt : Option Nat)
    (err1 : Bool) (ms : MsgSt) {w : World} (hj : J w) :
    wp J (moveTail ss dst dh fd dstname mt err1 ms) (fun _ w' => J w') w :=
  hS.calls ((kinds_moveTail ..).mono fun _ => NotOpenRd.of_kind (by decide))
    ((kinds_moveTail ..).mono fun _ => NotFsync.of_kind (by decide)) hj

theorem tracked_moveRest (hS : Side N0 cs J) (env : PEnv) (src dst : Maildir) (ms : MsgSt) (sh dh : Handle) (mt : Option Nat)
    {w : World} {p0 n0 : Bytes} {g0 : Nat} (hj : J w) (hg : GoodAt w cs p0 n0 g0) (hA : g0 = fid0 ∨ N0 ≤ g0)
    (hm : (messageWrite ms.msg).1 ∈ cs) (hsh : src.dirH = some sh) (hdh : dst.dirH = some dh) (hd : DirH w dh) :
    wp (Tracked J N0 fid0 cs) (moveRest env src dst ms sh dh mt) (fun _ w' => Tracked J N0 fid0 cs w') w := by
  unfold moveRest gennameStart
  simp only [bind_eq, pure_eq, call_bind]
  -- with the literal fuel, every `refine` against the goal would evaluate `genname`
  generalize gennameAttempts = fuel
  split
  · exact ⟨hj, hg.goodN hA⟩
  rename_i fl _
  refine wp_bind_mono (wp_inv_mono (wp_both (wp_both (spec_genname env dst (some fl) cs p0 n0 g0 (fun w' => DirH w' dh)
    (fun w d n r h => h.step _ r (by simp [Call.subject]) (by intro _ h; cases h))
    fuel _ hg hd) (genname_fid_ge env dst (some fl) N0 fuel _ (hS.ge hj)))
    (hS.calls (nord_genname ..) (nofs_genname ..) hj)) fun _ h => ⟨h.2, h.1.1.goodN hA⟩) ?_
  rintro g w1 ⟨⟨⟨hg1, hd1, hnew⟩, hge⟩, hj1⟩
  cases g with
  | none => exact ⟨hj1, hg1.goodN hA⟩
  | some x =>
  obtain ⟨fd, dstname⟩ := x
  obtain ⟨d, p2, fid, hd', nf, hlt, hneq⟩ := hnew fd dstname rfl
  have hfidN : N0 ≤ fid := hge fd dstname rfl fid 0 true nf.obj
  obtain rfl : d = dh := by rw [hdh] at hd'; cases hd'; rfl
  have hdir2 : (w1.dir p2).isSome := by
    obtain ⟨p, hp, hdp⟩ := hd1
    rw [nf.dirPath] at hp; cases hp; exact hdp
  dsimp only
  intro ft
  have hj2 := hS.step w1 (.renameat sh ms.name d dstname) (faultResult ft w1 (.renameat sh ms.name d dstname))
    True.intro True.intro hj1
  rcases renameat_results ft w1 sh ms.name d dstname with ⟨e, he⟩ | ⟨he, p1, p2', fidX, hp1, hp2', hl⟩
  · rw [he] at hj2 ⊢
    have hg2 := hg1.fail (c := .renameat sh ms.name d dstname) e rfl
    have nf2 := nf.fail (c := .renameat sh ms.name d dstname) e rfl
    refine ⟨⟨hj2, hg2.goodN hA⟩, ?_⟩
    refine wp_bind_mono (wp_both (side_moveCopy_err hS src dst ms fd dstname e nf2.obj nf2.file hm hj2)
      (goodN_moveCopy_err src dst ms fd dstname e hg2 hA hm hsh nf2
        (by rw [stepWorld_dir, core_fail _ e rfl]; exact hdir2) (Nat.ne_of_gt hlt) hfidN hneq)) ?_
    rintro a w' ⟨hjX, ⟨rfl, hgX, hdpX⟩ | ⟨ha1, hgoodX⟩⟩
    · exact tracked_both (side_moveTail hS _ dst d fd dstname mt true ms hjX)
        (goodN_moveTail_err _ dst d fd dstname mt ms hgX hA hdh hdpX hneq)
    · obtain ⟨a1, a2⟩ := a
      subst ha1
      exact tracked_both (side_moveTail hS _ dst d fd dstname mt false a2 hjX)
        (goodN_moveTail_ok _ dst d fd dstname mt a2 hgoodX)
  · rw [he] at hj2 ⊢
    obtain rfl : p2' = p2 := by rw [nf.dirPath] at hp2'; cases hp2'; rfl
    have hgood2 := goodN_renameat_ok (N0 := N0) (fid0 := fid0) hg1 hA hp1 hp2' hl hdir2 hneq 0
    exact ⟨⟨hj2, hgood2⟩, tracked_both (side_moveTail hS _ dst d fd dstname mt false _ hj2)
      (goodN_moveTail_ok _ dst d fd dstname mt _ hgood2)⟩

theorem tracked_maildirMove (hS : Side N0 cs J) (env : PEnv) (src dst : Maildir) (ms : MsgSt) {w : World}
    (h : Tracked J N0 fid0 cs w) (hm : (messageWrite ms.msg).1 ∈ cs) (hdst : ∀ dh, dst.dirH = some dh → DirH w dh) :
    wp (Tracked J N0 fid0 cs) (maildirMove env src dst ms) (fun _ w' => Tracked J N0 fid0 cs w') w := by
  obtain ⟨hj, p0, n0, g0, hg, hA⟩ := h
  rw [maildirMove_eq]
  split
  · exact ⟨hj, hg.goodN hA⟩
  split
  rotate_left
  · exact ⟨hj, hg.goodN hA⟩
  rename_i sh dh hsh hdh
  have hdh0 := hdst dh hdh
  refine wp_bind_mono (R := fun _ w' => J w' ∧ GoodAt w' cs p0 n0 g0 ∧ DirH w' dh) ?_ ?_
  · split
    · refine wp_call_any fun r => ?_
      have hj1 := hS.step w (.fstatat sh ms.name) r True.intro True.intro hj
      have h1 := hg.step (.fstatat sh ms.name) r trivial trivial
      have h2 := hdh0.step (.fstatat sh ms.name) r (by simp [Call.subject]) (by intro _ h; cases h)
      exact ⟨⟨hj1, h1.goodN hA⟩, hj1, h1, h2⟩
    · exact ⟨hj, hg, hdh0⟩
  rintro mt w0 ⟨hj0, hg0, hdh0⟩
  exact tracked_moveRest hS env src dst ms sh dh mt hj0 hg0 hA hm hsh hdh hdh0

end

end Mdsort.Proofs.World
