import Mdsort.Proofs.ConfAnywhere1

/-!
# A defect behind a written prefix: the error classes at every position of a written configuration

The statements `C14_error_anywhere_rejects_file` (Props/C14.lean) is made of: for each class, the written prefix up
to a position (`Spec.RulePos` / `ActPos` / `CondPos`: any block, any rule, any nesting depth), the defect, and then
ANY text - `parseConfig` reports a diagnostic on line 1.
-/

namespace Mdsort.Proofs.Conf
open Mdsort Mdsort.Model Mdsort.Spec

/-- Lists of written tokens all of which can be read back (`Up` asks for `lexOK`; a printed tree gives `tokOK`). -/
theorem lexOK_all {l : List PTok} (h : l.all tokOK = true) : l.all lexOK = true :=
  List.all_eq_true.2 (lexOK_mem h)

theorem strsToks_lex (l : List Bytes) (h : l.all strLexOK = true) : (strsToks l).all lexOK = true := by
  simp only [strsToks, List.all_append, List.all_cons, List.all_nil, Bool.and_true, List.all_map, Bool.and_eq_true]
  refine ⟨⟨rfl, ?_⟩, rfl⟩
  simpa [Function.comp_def, lexOK] using h

theorem strOK_all_lex {l : List Bytes} (h : l.all strOK = true) : l.all strLexOK = true := by
  simp only [List.all_eq_true] at h ⊢
  exact fun x hx => strLexOK_of_strOK (h x hx)

theorem flatMap_lexOK {α : Type} {f : α → List PTok} {ok : α → Bool} (hf : ∀ a, ok a = true → (f a).all lexOK = true)
    {l : List α} (h : l.all ok = true) : (l.flatMap f).all lexOK = true := by
  rw [List.all_flatMap, List.all_eq_true]
  exact fun a ha => hf a (List.all_eq_true.mp h a ha)

theorem acts_lexOK (rx : Pat → Bool) (acts : List CTree) (h : (acts.all fun a => wfK rx .act a && treePOK a) = true) :
    (acts.flatMap (toks .act)).all lexOK = true :=
  flatMap_lexOK (fun a ha => lexOK_all (toks_all rx a .act (Bool.and_eq_true_iff.1 ha).1 (Bool.and_eq_true_iff.1 ha).2)) h

theorem condStep_lexOK (rx : Pat → Bool) (st : CondStep) (h : st.ok rx = true) : st.toks.all lexOK = true := by
  cases st with
  | andR a | orR a =>
    simp only [CondStep.ok, Bool.and_eq_true] at h
    simp [CondStep.toks, List.all_append, lexOK_all (toks_all rx a .cond h.1 h.2), lexOK, tokOK]
  | _ => simp [CondStep.toks, lexOK, tokOK]

theorem ruleStep_lexOK (rx : Pat → Bool) (st : RuleStep) (h : st.ok rx = true) : st.toks.all lexOK = true := by
  cases st with
  | rule r =>
    simp only [RuleStep.ok, Bool.and_eq_true] at h
    exact lexOK_all (toks_all rx r .rule h.1 h.2)
  | nested c =>
    simp only [RuleStep.ok, Bool.and_eq_true] at h
    simp [RuleStep.toks, List.all_append, lexOK_all (toks_all rx c .cond h.1 h.2), lexOK, tokOK]
  | attach c acts =>
    simp only [RuleStep.ok, Bool.and_eq_true] at h
    simp [RuleStep.toks, List.all_append, lexOK_all (toks_all rx c .cond h.1.1 h.1.2), acts_lexOK rx acts h.2, lexOK, tokOK]

theorem headToks_lexOK (paths : List Bytes) (h : paths.all strOK = true) : (headToks paths).all lexOK = true := by
  unfold headToks
  split
  · rfl
  · simp [strsToks_lex paths (strOK_all_lex h), lexOK, tokOK]

theorem rulePos_lexOK (rx : Pat → Bool) (p : RulePos) (h : p.ok rx = true) : p.toks.all lexOK = true := by
  simp only [RulePos.ok, Bool.and_eq_true] at h
  obtain ⟨⟨⟨hpre, hpaths⟩, _⟩, hsteps⟩ := h
  simp [RulePos.toks, List.all_append, lexOK_all (confToks_all rx p.pre hpre), headToks_lexOK p.paths hpaths,
    flatMap_lexOK (ruleStep_lexOK rx) hsteps, lexOK, tokOK]

theorem actPos_lexOK (rx : Pat → Bool) (p : ActPos) (h : p.ok rx = true) : p.toks.all lexOK = true := by
  simp only [ActPos.ok, Bool.and_eq_true] at h
  obtain ⟨⟨⟨hrp, hw⟩, hpk⟩, hacts⟩ := h
  simp [ActPos.toks, List.all_append, rulePos_lexOK rx p.rp hrp, lexOK_all (toks_all rx p.cond .cond hw hpk), acts_lexOK rx p.acts hacts,
    lexOK, tokOK]

theorem condPos_lexOK (rx : Pat → Bool) (p : CondPos) (h : p.ok rx = true) : p.toks.all lexOK = true := by
  simp only [CondPos.ok, Bool.and_eq_true] at h
  simp [CondPos.toks, List.all_append, rulePos_lexOK rx p.rp h.1, flatMap_lexOK (condStep_lexOK rx) h.2, lexOK, tokOK]

theorem badList_all (l1 l2 : List Bytes) (b : Bytes) (h1 : l1.all strOK = true) (h2 : l2.all strLexOK = true)
    (hb : strLexOK b = true) : (l1 ++ b :: l2).all strLexOK = true := by
  simp [List.all_append, strOK_all_lex h1, h2, hb]

theorem actSite_lexOK (site : ActSite) (hsite : site.ok = true) (b : Bytes) (hb : strLexOK b = true) :
    (site.toks b).all lexOK = true := by
  cases site with
  | move => simp [ActSite.toks, lexOK, tokOK, hb]
  | flags => simp [ActSite.toks, lexOK, tokOK, hb]
  | label l1 l2 =>
    simp only [ActSite.ok, Bool.and_eq_true] at hsite
    simp [ActSite.toks, strsToks_lex _ (badList_all l1 l2 b hsite.1 hsite.2 hb), lexOK, tokOK]
  | exec si bo l1 l2 =>
    simp only [ActSite.ok, Bool.and_eq_true] at hsite
    cases si <;> cases bo <;>
      simp [ActSite.toks, strsToks_lex _ (badList_all l1 l2 b hsite.1 hsite.2 hb), lexOK, tokOK]
  | addHeaderKey v =>
    have hv : strLexOK v = true := hsite
    simp [ActSite.toks, lexOK, tokOK, hb, hv]
  | addHeaderValue k =>
    have hk : strOK k = true := hsite
    simp [ActSite.toks, lexOK, tokOK, hb, strLexOK_of_strOK hk]

theorem condSite_lexOK (site : CondSite) (hsite : site.ok = true) (b : Bytes) (hb : strLexOK b = true) :
    (site.toks b).all lexOK = true := by
  cases site with
  | header l1 l2 p =>
    simp only [CondSite.ok, Bool.and_eq_true] at hsite
    simp [CondSite.toks, List.all_append, strsToks_lex _ (badList_all l1 l2 b hsite.1.1 hsite.1.2 hb), lexOK, tokOK, hsite.2]
  | isdirectory => simp [CondSite.toks, lexOK, tokOK, hb]
  | command l1 l2 =>
    simp only [CondSite.ok, Bool.and_eq_true] at hsite
    simp [CondSite.toks, strsToks_lex _ (badList_all l1 l2 b hsite.1 hsite.2 hb), lexOK, tokOK]

theorem actSite_head (site : ActSite) (b : Bytes) : ∃ k tks, site.toks b = .kw k :: tks ∧ stopBin (.kw k) = true := by
  cases site <;> exact ⟨_, _, rfl, rfl⟩

theorem rej_at_actPos (home : Bytes) (rx : Pat → Bool) (p : ActPos) (hp : p.ok rx = true) (k0 : Kw) (r0 : List PTok)
    (hs0 : stopBin (.kw k0) = true) (hts : (PTok.kw k0 :: r0).all lexOK = true) (tl : Bytes) (htl : tailOK tl = true)
    (h0 : ∀ cx : PCtx, BadActs cx tl (.kw k0 :: r0)) :
    parseConfig home [] rx (Spec.render (p.toks ++ .kw k0 :: r0) ++ tl) = .error 1 := by
  refine parseConfig_rejected home rx _ tl htl ?_ ?_
  · exact List.all_eq_true.mp (by rw [List.all_append, actPos_lexOK rx p hp, hts]; rfl)
  · intro fuel s hs
    generalize hcx : ({ nl := countNl tl, home := home, rxOk := rx } : PCtx) = cx at hs ⊢
    have hrx : cx.rxOk = rx := by rw [← hcx]
    simp only [ActPos.ok, Bool.and_eq_true] at hp
    obtain ⟨⟨⟨hrp, hw⟩, hpk⟩, hacts⟩ := hp
    rw [← hrx] at hrp hw hacts
    have h1 := badActs_acts (h0 cx) p.acts hacts
    obtain ⟨k, tks, hk, hsb⟩ := actList_head cx.rxOk p.acts hacts k0 r0 hs0
    rw [hk] at h1
    refine rej_top cx p.rp hrp _ (badRules_of_acts h1 hsb p.cond hw hpk) fuel s ?_
    rw [← hk]
    simpa [ActPos.toks, List.append_assoc] using hs

theorem rej_at_condPos (home : Bytes) (rx : Pat → Bool) (p : CondPos) (hp : p.ok rx = true) (ts : List PTok)
    (hts : ts.all lexOK = true) (tl : Bytes) (htl : tailOK tl = true) (h0 : ∀ cx : PCtx, BadUnary cx tl ts) :
    parseConfig home [] rx (Spec.render (p.toks ++ ts) ++ tl) = .error 1 := by
  refine parseConfig_rejected home rx _ tl htl ?_ ?_
  · exact List.all_eq_true.mp (by rw [List.all_append, condPos_lexOK rx p hp, hts]; rfl)
  · intro fuel s hs
    generalize hcx : ({ nl := countNl tl, home := home, rxOk := rx } : PCtx) = cx at hs ⊢
    have hrx : cx.rxOk = rx := by rw [← hcx]
    simp only [CondPos.ok, Bool.and_eq_true] at hp
    rw [← hrx] at hp
    refine rej_top cx p.rp hp.1 _ (badRules_of_unary (badUnary_steps (h0 cx) p.steps hp.2)) fuel s ?_
    simpa [CondPos.toks, List.append_assoc] using hs

/-- Unknown macro (or `${path}` where it is not allowed) in a string of an action, at any action position. -/
theorem anywhere_action_string (home : Bytes) (rx : Pat → Bool) (p : ActPos) (hp : p.ok rx = true) (site : ActSite)
    (hsite : site.ok = true) (b : Bytes) (hb : BadRef site.action b) (tl : Bytes) (htl : tailOK tl = true) :
    parseConfig home [] rx (Spec.render (p.toks ++ site.toks b) ++ tl) = .error 1 := by
  obtain ⟨k0, r0, hk0, hs0⟩ := actSite_head site b
  have hall := actSite_lexOK site hsite b hb.1
  rw [hk0] at hall ⊢
  exact rej_at_actPos home rx p hp k0 r0 hs0 hall tl htl fun cx => by simpa [hk0] using badActs_site cx site hsite b hb []

/-- Unknown macro, or `${path}`, in a string of a condition, at any operand position of any condition. -/
theorem anywhere_cond_string (home : Bytes) (rx : Pat → Bool) (p : CondPos) (hp : p.ok rx = true) (site : CondSite)
    (hsite : site.ok = true) (b : Bytes) (hb : BadRef false b) (tl : Bytes) (htl : tailOK tl = true) :
    parseConfig home [] rx (Spec.render (p.toks ++ site.toks b) ++ tl) = .error 1 :=
  rej_at_condPos home rx p hp _ (condSite_lexOK site hsite b hb.1) tl htl fun cx => by
    simpa using badUnary_site cx site hsite b hb []

/-- A `date` condition whose unit is a word that is no unit, at any operand position of any condition. -/
theorem anywhere_unit (home : Bytes) (rx : Pat → Bool) (p : CondPos) (hp : p.ok rx = true) (f : DateField) (c : DateCmp)
    (n : Nat) (hn : n < 2 ^ 32) (w tail : Bytes) (hw : badUnitWord w = true)
    (htail : ∀ x, tail.head? = some x → isKwChar x = false) :
    parseConfig home [] rx
      (Spec.render (p.toks ++ (.kw .date :: (fieldToks f ++ [cmpTok c, .int n]))) ++ 32 :: (w ++ tail)) = .error 1 :=
  rej_at_condPos home rx p hp _ (by cases f <;> cases c <;> simp [fieldToks, cmpTok, lexOK, tokOK, hn]) _ rfl
    fun cx => badUnary_unit cx f c n w tail hw htail

/-- Unknown macro, or `${path}`, in a path of a `maildir` block, behind any complete blocks. -/
theorem anywhere_path (home : Bytes) (rx : Pat → Bool) (pre : List PBlock) (hpre : ConfOK rx pre = true)
    (l1 l2 : List Bytes) (h1 : l1.all strOK = true) (h2 : l2.all strLexOK = true) (b : Bytes) (hb : BadRef false b)
    (tl : Bytes) (htl : tailOK tl = true) :
    parseConfig home [] rx (Spec.render (pre.flatMap blockToks ++ (.kw .maildir :: strsToks (l1 ++ b :: l2))) ++ tl) = .error 1 := by
  refine parseConfig_rejected home rx _ tl htl ?_ ?_
  · exact List.all_eq_true.mp (by
      simp [List.all_append, lexOK_all (confToks_all rx pre hpre), strsToks_lex _ (badList_all l1 l2 b h1 h2 hb.1), lexOK, tokOK])
  · intro fuel s hs
    exact rej_top_paths { nl := countNl tl, home := home, rxOk := rx } pre hpre l1 l2 b hb h1 [] fuel s (by simpa using hs)

/-- `stdin` behind complete blocks one of which reads from stdin. -/
theorem anywhere_second_stdin (home : Bytes) (rx : Pat → Bool) (pre : List PBlock) (hpre : ConfOK rx pre = true)
    (hany : (pre.any fun x => x.paths.any isStdinStr) = true) (tl : Bytes) (htl : tailOK tl = true) :
    parseConfig home [] rx (Spec.render (pre.flatMap blockToks ++ [.kw .stdin]) ++ tl) = .error 1 := by
  refine parseConfig_rejected home rx _ tl htl ?_ ?_
  · exact List.all_eq_true.mp (by simp [List.all_append, lexOK_all (confToks_all rx pre hpre), lexOK, tokOK])
  · intro fuel s hs
    exact rej_top_stdin { nl := countNl tl, home := home, rxOk := rx } pre hpre hany [] fuel s hs

theorem tailOK_render (ts : List PTok) : tailOK (Spec.render ts) = true := by
  cases ts with
  | nil => rfl
  | cons t ts => rw [render_cons]; rfl

/-- `anywhere_second_stdin` for whole written files: the second block written `stdin`, at any two positions. -/
theorem second_stdin_file (home : Bytes) (rx : Pat → Bool) (pre : List PBlock) (b1 : PBlock) (mid : List PBlock) (b2 : PBlock)
    (post : List PBlock) (hpre : ConfOK rx (pre ++ b1 :: mid) = true) (h1 : b1.paths.any isStdinStr = true)
    (h2 : b2.paths = [stdinStr]) :
    parseConfig home [] rx (printBlocks (pre ++ b1 :: (mid ++ b2 :: post))) = .error 1 := by
  have := anywhere_second_stdin home rx (pre ++ b1 :: mid) hpre (by simp [h1])
    (Spec.render (toks .block b2.tree ++ post.flatMap blockToks)) (tailOK_render _)
  rw [← render_append] at this
  have he : (pre ++ b1 :: mid).flatMap blockToks ++ [PTok.kw .stdin] ++ (toks .block b2.tree ++ post.flatMap blockToks) =
      (pre ++ b1 :: (mid ++ b2 :: post)).flatMap blockToks := by
    simp [List.flatMap_append, List.flatMap_cons, blockToks, h2, List.append_assoc]
  rw [he] at this
  exact this

/-! ## The macro class stated on trees

A configuration written by `Spec.printBlocks` in which ONE string of ONE action - of any rule of any block, behind any
actions of that rule - holds a macro reference that cannot be expanded, everything before it being well formed, is
rejected.  (Positions inside nested blocks and attachment blocks, conditions, paths and units: the statements on
written prefixes, `anywhere_*`.)
-/

/-- A list folded into a left-nested tree by `node` is written part by part. -/
theorem toks_foldl {K K' : Kind} {node : CTree → CTree → CTree} (h : ∀ a x, toks K (node a x) = toks K a ++ toks K' x) :
    ∀ (l : List CTree) (a : CTree), toks K (l.foldl node a) = toks K a ++ l.flatMap (toks K')
  | [], a => by simp
  | x :: l, a => by rw [List.foldl_cons, toks_foldl h l, h, List.flatMap_cons, List.append_assoc]

theorem toks_rulesTree (rs : List CTree) (r : CTree) :
    toks .rules (rulesTree r rs) = toks .rules r ++ rs.flatMap (toks .rule) :=
  toks_foldl (fun _ _ => rfl) rs r

theorem toks_actsTree (as : List CTree) (a : CTree) :
    toks .acts (actsTree a as) = toks .acts a ++ as.flatMap (toks .act) :=
  toks_foldl (fun _ _ => rfl) as a

theorem isBlock_actsTree : ∀ (as : List CTree) (a : CTree), isBlock a = false → isBlock (actsTree a as) = false := by
  intro as
  induction as with
  | nil => intro a h; simpa [actsTree] using h
  | cons x as ih =>
    intro a _
    have := ih (.and 1 a x) rfl
    simpa [actsTree, List.foldl_cons] using this

theorem toks_acts_of_act (rx : Pat → Bool) (a : CTree) (h : wfK rx .act a = true) :
    toks .acts a = toks .act a ∧ isBlock a = false := by
  cases a <;> simp_all [wfK, toks, isBlock]

theorem actLeafToks_site (site : ActSite) (b : Bytes) : actLeafToks (site.expr b) = site.toks b := by
  cases site <;> simp [ActSite.expr, ActSite.toks, actLeafToks, List.append_assoc]

theorem toks_ruleOfActs (rx : Pat → Bool) (c : CTree) (as1 as2 : List CTree) (site : ActSite) (b : Bytes)
    (h1 : (as1.all fun a => wfK rx .act a && treePOK a) = true) :
    toks .rule (ruleOfActs c (as1 ++ .leaf (site.expr b) :: as2)) =
      .kw .mtch :: (toks .cond c ++ (as1.flatMap (toks .act) ++ (site.toks b ++ as2.flatMap (toks .act)))) := by
  cases as1 with
  | nil =>
    simp only [List.nil_append, ruleOfActs, toks, isBlock_actsTree as2 (.leaf (site.expr b)) rfl, Bool.false_eq_true, if_false,
      toks_actsTree, actLeafToks_site, List.flatMap_nil]
  | cons a as1 =>
    simp only [List.all_cons, Bool.and_eq_true] at h1
    obtain ⟨he, hb⟩ := toks_acts_of_act rx a h1.1.1
    simp only [List.cons_append, ruleOfActs, toks, isBlock_actsTree _ a hb, Bool.false_eq_true, if_false,
      toks_actsTree, he, List.flatMap_cons, List.flatMap_append, actLeafToks_site, List.append_assoc]

theorem toks_blockOfRules (rx : Pat → Bool) (rs1 rs2 : List CTree) (l : Nat) (c a : CTree)
    (h1 : (rs1.all fun r => wfK rx .rule r && treePOK r) = true) :
    toks .block (blockOfRules (rs1 ++ .mtch l c a :: rs2)) =
      .lbrace :: (rs1.flatMap (toks .rule) ++ (toks .rule (.mtch l c a) ++ (rs2.flatMap (toks .rule) ++ [.rbrace]))) := by
  cases rs1 with
  | nil =>
    simp only [List.nil_append, blockOfRules, toks, toks_rulesTree, List.flatMap_nil, List.cons_append, List.append_assoc]
  | cons r rs1 =>
    simp only [List.all_cons, Bool.and_eq_true] at h1
    have hr : toks .rules r = toks .rule r := by
      obtain ⟨_, _, _, rfl⟩ := wfK_rule_inv rx r h1.1.1
      rfl
    simp only [List.cons_append, blockOfRules, toks, toks_rulesTree, hr, List.flatMap_cons, List.flatMap_append,
      List.cons_append, List.nil_append, List.append_assoc]

theorem action_string_file (home : Bytes) (rx : Pat → Bool) (pre post : List PBlock) (paths : List Bytes)
    (rs1 rs2 : List CTree) (c : CTree) (as1 as2 : List CTree) (site : ActSite) (b : Bytes)
    (hpos : ({ rp := { pre := pre, paths := paths, steps := rs1.map .rule }, cond := c, acts := as1 } : ActPos).ok rx = true)
    (hsite : site.ok = true) (hb : BadRef site.action b) :
    parseConfig home [] rx (printBlocks (pre ++
      ⟨paths, blockOfRules (rs1 ++ ruleOfActs c (as1 ++ .leaf (site.expr b) :: as2) :: rs2)⟩ :: post)) = .error 1 := by
  have hrs1 : (rs1.all fun r => wfK rx .rule r && treePOK r) = true := by
    simp only [ActPos.ok, RulePos.ok, Bool.and_eq_true, List.all_map] at hpos
    simpa [Function.comp_def, RuleStep.ok] using hpos.1.1.1.2
  have has1 : (as1.all fun a => wfK rx .act a && treePOK a) = true := by
    simp only [ActPos.ok, Bool.and_eq_true] at hpos
    exact hpos.2
  have hrule := toks_ruleOfActs rx c as1 as2 site b has1
  obtain ⟨l, c', a', hshape⟩ : ∃ l c' a', ruleOfActs c (as1 ++ .leaf (site.expr b) :: as2) = .mtch l c' a' := by
    cases as1 <;> exact ⟨_, _, _, rfl⟩
  have hblock := toks_blockOfRules rx rs1 rs2 l c' a' hrs1
  rw [← hshape, hrule] at hblock
  have := anywhere_action_string home rx _ hpos site hsite b hb
    (Spec.render (as2.flatMap (toks .act) ++ (rs2.flatMap (toks .rule) ++ (.rbrace :: post.flatMap blockToks))))
    (tailOK_render _)
  rw [← render_append] at this
  have he : (pre ++ ⟨paths, blockOfRules (rs1 ++ ruleOfActs c (as1 ++ .leaf (site.expr b) :: as2) :: rs2)⟩ :: post).flatMap blockToks =
      ({ rp := { pre := pre, paths := paths, steps := rs1.map .rule }, cond := c, acts := as1 } : ActPos).toks ++ site.toks b ++
        (as2.flatMap (toks .act) ++ (rs2.flatMap (toks .rule) ++ (.rbrace :: post.flatMap blockToks))) := by
    simp only [List.flatMap_append, List.flatMap_cons, blockToks, hblock, ActPos.toks, RulePos.toks, headToks, List.flatMap_map,
      RuleStep.toks, List.append_assoc, List.cons_append, List.nil_append]
  unfold printBlocks
  rw [he]
  exact this

section

variable {tl : Bytes}

theorem execFlags_repeated (cx : PCtx) (ts : List PTok) (ks : List Kw) (si bo : Bool) (h : optsRepeatFrom si bo ks = true)
    (fuel : Nat) (s : ParseSt) (hs : Up cx tl s (ks.map PTok.kw ++ ts)) : Rej (parseExecFlags cx fuel si bo) s := by
  fun_induction optsRepeatFrom si bo ks generalizing fuel s  -- 1 no option left, 2 `stdin`, 3 `body`, 4 another keyword
  case case1 | case4 => cases h
  -- `stdin` / `body`: given before, or repeated further on
  all_goals
    obtain _ | fuel := fuel
    · exact trivial
    unfold parseExecFlags
    refine wpl_eat hs rfl rfl fun s2 h2 => ?_
  case case2 si bo r ih =>
    cases si with
    | true => exact h2.tokl
    | false => exact ih (by simpa using h) fuel s2 h2
  case case3 si bo r ih =>
    cases bo with
    | true => exact h2.tokl
    | false => exact ih (by simpa using h) fuel s2 h2

theorem badActs_execRepeat (cx : PCtx) (ks : List Kw) (h : optsRepeat ks = true) (ts : List PTok) :
    BadActs cx tl (.kw .exec :: (ks.map PTok.kw ++ ts)) := by
  intro fuel acc s hs
  obtain _ | fuel := fuel
  · exact trivial
  unfold parseActions
  refine wpl_eat_bind hs rfl rfl fun s2 h2 => ?_
  rw [wpl_bind]
  exact (execFlags_repeated cx ts ks false false h fuel s2 h2).bind

/-- "exec options cannot be repeated", at any action position. -/
theorem anywhere_exec_option (home : Bytes) (rx : Pat → Bool) (p : ActPos) (hp : p.ok rx = true) (ks : List Kw)
    (hks : optsRepeat ks = true) (tl : Bytes) (htl : tailOK tl = true) :
    parseConfig home [] rx (Spec.render (p.toks ++ (.kw .exec :: ks.map PTok.kw)) ++ tl) = .error 1 := by
  have hk : (PTok.kw .exec :: ks.map PTok.kw).all lexOK = true := by
    simp [List.all_map, Function.comp_def, lexOK, tokOK]
  exact rej_at_actPos home rx p hp .exec _ rfl hk tl htl fun cx => by simpa using badActs_execRepeat cx ks hks []

end

end Mdsort.Proofs.Conf
