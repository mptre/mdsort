import Mdsort.Model.Crash
import Mdsort.Proofs.WorldLin

/-!
# Crash states (C02): from per-call invariants to every state a power failure can leave

`Model.crashState wd wf`: the directories of the world `wd` after some earlier call, every file holding what the world
`wf` at the moment of the failure has on stable storage.  `CrashSafe`: every such state (for every prefix of the calls
issued so far) has an entry bound to a file that is the message's own file or one made since, whose durable content is a
complete version.  `wp_crash` derives it from three facts about the world after every call:

* `DI`: the durable content of a file made by this run is empty or a complete version, and always a prefix of its
  visible content - `fsync` is the only call that changes durable content (`core_file_cases`);
* the message's own file holds what it held (never written);
* `GoodN` (WorldWrite): the tracked entry is bound to the message's own file or to one made since.

`DI` through `matches_exec`: the only `fsync` (outside the temporary file of `exec stdin` of an attachment) is the one of
`message_write`, issued after `fflush` has put the complete message into the file `maildir_genname` has just made; `MW.di`
reads that off the description `MW` of `message_write` (WorldFoot).  So `DI` is a side invariant of the walk of
WorldWrite / WorldMove / WorldExec (`Side.withDI`), and the crash concern has no walk of its own.
-/

namespace Mdsort.Proofs.World
open Mdsort Mdsort.Model

theorem crashState_lookup (wd wf : World) (p n : Bytes) : (crashState wd wf).lookup p n = wd.lookup p n := rfl

theorem find_map_durable (l : List (Nat × File)) (g : Nat) :
    ((l.map fun x => (x.1, ({ data := x.2.durable, durable := x.2.durable } : File))).find? (·.1 == g)).map (·.2) =
      ((l.find? (·.1 == g)).map (·.2)).map fun f => ({ data := f.durable, durable := f.durable } : File) := by
  induction l with
  | nil => rfl
  | cons x rest ih =>
    simp only [List.map_cons, List.find?_cons]
    by_cases h : (x.1 == g) = true
    · simp [h]
    · simp only [h]
      exact ih

theorem crashState_file (wd wf : World) (g : Nat) :
    (crashState wd wf).file g = (wf.file g).map fun f => ({ data := f.durable, durable := f.durable } : File) :=
  find_map_durable wf.files g

/-- Visible content is only appended to; durable content stays, or becomes what was visible. -/
structure FileStep (f f' : File) : Prop where
  dur : f'.durable = f.durable ∨ f'.durable = f.data
  app : ∃ s, f'.data = f.data ++ s

theorem FileStep.of_data {f : File} (s : Bytes) : FileStep f { f with data := f.data ++ s } := ⟨.inl rfl, s, rfl⟩

theorem FileStep.of_sync {f : File} : FileStep f { f with durable := f.data } := ⟨.inr rfl, [], by simp⟩

/-- A file after data has been appended, or nothing happened. -/
def Appended (w : World) (g : Nat) (w' : World) : Prop :=
  w'.file g = w.file g ∨ ∃ f s, w.file g = some f ∧ w'.file g = some { f with data := f.data ++ s }

/-- What one call does to a file below `nextFid`: nothing, an append (its durable content is what it was), or - a
successful `fsync` - its visible content becomes durable. -/
theorem core_file_cases (w : World) (c : Call) (r : Res) (g : Nat) (hl : g < w.nextFid) :
    Appended w g (core w c r) ∨
      ∃ fd f, c = .fsync fd ∧ w.file g = some f ∧ (core w c r).file g = some { f with durable := f.data } := by
  have hne : ¬ g = w.nextFid := Nat.ne_of_lt hl
  core_cases w c r
  case writeFile fid _ _ f data n _ hf | fprintfFile fid _ _ f data n _ hf =>
    by_cases hg : g = fid
    · subst hg
      exact .inl (.inr ⟨f, data.take n, hf, by simp only [file_setObj, file_setFile, if_true]⟩)
    · exact .inl (.inl (by simp only [file_setObj, file_setFile, hg, if_false]))
  case fflush fid buf f _ hf | fclose fid buf f _ hf =>
    by_cases hg : g = fid
    · subst hg
      exact .inl (.inr ⟨f, buf, hf, by simp only [file_setObj, file_setFile, if_true]⟩)
    · exact .inl (.inl (by simp only [file_setObj, file_setFile, hg, if_false]))
  case fsync fd fid f _ hf =>
    by_cases hg : g = fid
    · subst hg
      exact .inr ⟨fd, f, rfl, hf, by simp only [file_setFile, if_true]⟩
    · exact .inl (.inl (by simp only [file_setFile, hg, if_false]))
  case openExcl | mkostemp =>
    refine .inl (.inl ?_)
    simp only [file_newHandle, file_bind, file_setFile, hne, if_false]
    rfl
  case renameat | unlinkat => exact .inl (.inl (by simp only [file_bind, file_unbind]))
  all_goals exact .inl (.inl rfl)

theorem core_file_new (w : World) (c : Call) (r : Res) {g : Nat} {f : File} (hge : w.nextFid ≤ g)
    (hlt : g < (core w c r).nextFid) (hf : (core w c r).file g = some f) : f = ⟨[], []⟩ := by
  revert hlt hf
  core_cases w c r
  case openExcl | mkostemp =>
    simp only [nextFid_newHandle, nextFid_bind, nextFid_setFile, file_newHandle, file_bind, file_setFile]
    intro hlt hf
    rw [if_pos (Nat.le_antisymm (Nat.le_of_lt_succ hlt) hge)] at hf
    exact (Option.some.inj hf).symm
  case renameat | unlinkat =>
    simp only [nextFid_bind, nextFid_unbind]
    exact fun hlt _ => absurd hlt (Nat.not_lt.2 hge)
  all_goals exact fun hlt _ => absurd hlt (Nat.not_lt.2 hge)

/-- The `D`urable-content `I`nvariant.  Every file made since the reference point `N0`: its durable content is a prefix of its visible content, and it is
empty or a complete version. -/
def DI (N0 : Nat) (cs : List Bytes) (w : World) : Prop :=
  ∀ g f, N0 ≤ g → g < w.nextFid → w.file g = some f → f.durable <+: f.data ∧ (f.durable = [] ∨ f.durable ∈ cs)

theorem DI.step {N0 : Nat} {cs : List Bytes} {w : World} (h : DI N0 cs w) (c : Call) (r : Res) (hc : NotFsync c) :
    DI N0 cs (stepWorld w c r) := by
  intro g f' h1 h2 hf'
  rw [stepWorld_nextFid] at h2
  rw [stepWorld_file] at hf'
  by_cases hlt : g < w.nextFid
  · rcases core_file_cases w c r g hlt with (heq | ⟨f, s, hf, hf2⟩) | ⟨fd, f, rfl, -⟩
    · rw [heq] at hf'; exact h g f' h1 hlt hf'
    · rw [hf2] at hf'
      cases hf'
      obtain ⟨hp, hd⟩ := h g f h1 hlt hf
      exact ⟨hp.trans (List.prefix_append _ _), hd⟩
    · exact hc.elim
  · cases core_file_new w c r (Nat.le_of_not_lt hlt) h2 hf'
    exact ⟨List.prefix_refl _, .inl rfl⟩

/-- For every prefix `i` of the calls issued since `w0`: the directories after those `i` calls have an entry bound to a
file - the message's own file `fid0`, or one made since `N0` - whose durable content NOW (in `w`) is a complete version. -/
def CrashSafe (w0 : World) (N0 fid0 : Nat) (cs : List Bytes) (w : World) : Prop :=
  ∀ i, i ≤ (traceSince w0 w).length →
    ∃ p n g f, (worldAt w0 (traceSince w0 w) i).lookup p n = some g ∧ (g = fid0 ∨ N0 ≤ g) ∧ g < w.nextFid ∧
      w.file g = some f ∧ f.durable ∈ cs

theorem CrashSafe.start {w0 : World} {N0 fid0 : Nat} {cs : List Bytes} (h : GoodN N0 fid0 w0 cs) : CrashSafe w0 N0 fid0 cs w0 := by
  intro i hi
  have hts : traceSince w0 w0 = [] := by unfold traceSince; simp
  rw [hts] at hi ⊢
  obtain ⟨p, n, g, ⟨h1, h2, f, h3, _, h5⟩, hA⟩ := h
  exact ⟨p, n, g, f, by simpa [worldAt, replay] using h1, hA, h2, h3, h5⟩

theorem CrashSafe.step {w0 : World} {N0 fid0 : Nat} {cs : List Bytes} {orig : Bytes} {w : World} (hH : Hist w0 w)
    (hc : CrashSafe w0 N0 fid0 cs w) (c : Call) (r : Res)
    (hdi : DI N0 cs w) (hdi' : DI N0 cs (stepWorld w c r))
    (horig : (stepWorld w c r).file fid0 = some ⟨orig, orig⟩) (ho : orig ∈ cs)
    (hg' : GoodN N0 fid0 (stepWorld w c r) cs) : CrashSafe w0 N0 fid0 cs (stepWorld w c r) := by
  obtain ⟨tr, h1, h2⟩ := hH
  have hts : traceSince w0 w = tr := Hist.since h1
  have hts' : traceSince w0 (stepWorld w c r) = tr ++ [(c, r)] :=
    Hist.since (by rw [stepWorld_trace, h1, List.append_assoc])
  have hnf : w.nextFid ≤ (stepWorld w c r).nextFid := by rw [stepWorld_nextFid]; exact core_nextFid _ _ _
  intro i hi
  rw [hts'] at hi ⊢
  simp only [List.length_append, List.length_cons, List.length_nil] at hi
  by_cases hle : i ≤ tr.length
  · -- a prefix that existed before the call
    obtain ⟨p, n, g, f, hl, hA, hlt, hf, hd⟩ := hc i (by rw [hts]; exact hle)
    rw [hts] at hl
    have hwa : worldAt w0 (tr ++ [(c, r)]) i = worldAt w0 tr i := by
      unfold worldAt; rw [List.take_append_of_le_length hle]
    rw [hwa]
    rcases hA with rfl | hge
    · exact ⟨p, n, g, _, hl, .inl rfl, Nat.lt_of_lt_of_le hlt hnf, horig, ho⟩
    · -- a file this run made
      rcases core_file_cases w c r g hlt with (heq | ⟨f1, s, hf1, hf2⟩) | ⟨fd, f1, rfl, hf1, hf2⟩
      · exact ⟨p, n, g, f, hl, .inr hge, Nat.lt_of_lt_of_le hlt hnf, by rw [stepWorld_file, heq]; exact hf, hd⟩
      · rw [hf] at hf1; cases hf1
        exact ⟨p, n, g, { f with data := f.data ++ s }, hl, .inr hge, Nat.lt_of_lt_of_le hlt hnf,
          by rw [stepWorld_file]; exact hf2, hd⟩
      · rw [hf] at hf1; cases hf1
        refine ⟨p, n, g, { f with durable := f.data }, hl, .inr hge, Nat.lt_of_lt_of_le hlt hnf,
          by rw [stepWorld_file]; exact hf2, ?_⟩
        -- the new durable content is the visible one: a complete version, or empty - and then the old one was empty
        rcases (hdi' g _ hge (Nat.lt_of_lt_of_le hlt hnf) (by rw [stepWorld_file]; exact hf2)).2 with he | hin
        · have he' : f.data = [] := he
          have hde : f.durable = [] := List.prefix_nil.1 (he' ▸ (hdi g f hge hlt hf).1)
          show f.data ∈ cs
          rw [he', ← hde]
          exact hd
        · exact hin
  · -- the world after the call itself
    have hi' : i = tr.length + 1 := by omega
    have hwa : worldAt w0 (tr ++ [(c, r)]) i = stepWorld w c r := by
      unfold worldAt
      rw [hi', List.take_of_length_le (by simp), replay_snoc, h2]
    rw [hwa]
    obtain ⟨p, n, g, ⟨a1, a2, f, a3, _, a5⟩, hA⟩ := hg'
    exact ⟨p, n, g, f, a1, hA, a2, a3, a5⟩

/-- From per-call invariants to crash states: if after every call of `p` the tracked entry, `DI` and "the message's own
file is untouched" hold, every crash state is safe after every call. -/
theorem wp_crash {α} {w0 : World} {N0 fid0 : Nat} {cs : List Bytes} {orig : Bytes} (ho : orig ∈ cs)
    {I : World → Prop} {p : Prog α} {Q : α → World → Prop} {w : World}
    (hI : ∀ w', I w' → DI N0 cs w' ∧ w'.file fid0 = some ⟨orig, orig⟩ ∧ GoodN N0 fid0 w' cs)
    (h : wp I p Q w) (hw : I w) (hH : Hist w0 w) (hc : CrashSafe w0 N0 fid0 cs w) :
    wp (fun w' => I w' ∧ Hist w0 w' ∧ CrashSafe w0 N0 fid0 cs w') p Q w := by
  induction p generalizing w with
  | ret a => exact h
  | call c k ih =>
    intro ft
    have hstep := h ft
    have hI' := hI _ hstep.1
    have hc' := hc.step hH c _ (hI w hw).1 hI'.1 hI'.2.1 ho hI'.2.2
    exact ⟨⟨hstep.1, hH.step c _, hc'⟩, ih _ hstep.2 hstep.1 (hH.step c _) hc'⟩

section
variable {N0 : Nat} {cs : List Bytes}

/-- A file made since `N0` that was empty, being `Written` with a complete version: `DI` goes on holding.  The one `fsync`
of `message_write` comes when the complete message has reached the file. -/
theorem MW.di {fid : Nat} {c : Bytes} {w0 w : World} (h : MW fid ⟨[], []⟩ c w0 w) (hdi : DI N0 cs w0) (hc : c ∈ cs) :
    DI N0 cs w := by
  intro g f hg hlt hf
  rw [h.fr.nextFid] at hlt
  by_cases hgf : g = fid
  · subst hgf
    obtain ⟨f', hf', -, hw⟩ := h.file
    cases hf.symm.trans hf'
    rcases hw with hd | ⟨hd, hp⟩
    · rw [hd]; exact ⟨List.nil_prefix, .inl rfl⟩
    · exact ⟨hp, .inr (by rw [hd]; exact hc)⟩
  · rw [h.fr.files g hlt hgf] at hf
    exact hdi g f hg hlt hf

theorem di_messageWriteP (m : Msg) (fd : Handle) {w : World} {fid off : Nat} {wr : Bool}
    (ho : w.obj fd = .file fid off wr) (hf : w.file fid = some ⟨[], []⟩) (hm : (messageWrite m).1 ∈ cs) (hdi : DI N0 cs w) :
    wp (DI N0 cs) (messageWriteP m fd) (fun _ w' => DI N0 cs w') w :=
  wp_mono (wp_inv_mono (traj_messageWriteP m fd ho hf) fun _ h => h.di hdi hm) fun _ _ h => h.2.di hdi hm

/-- `DI` beside any side invariant of the walk. -/
theorem Side.withDI {J : World → Prop} (hS : Side N0 cs J) : Side N0 cs fun w => J w ∧ DI N0 cs w where
  ge h := hS.ge h.1
  step w c r hn hf h := ⟨hS.step w c r hn hf h.1, h.2.step c r hf⟩
  openNew d n r h hnew := ⟨hS.openNew d n r h.1 hnew, h.2.step _ r True.intro⟩
  write m fd ho hf hm h := wp_both (hS.write m fd ho hf hm h.1) (di_messageWriteP m fd ho hf hm h.2)

end

end Mdsort.Proofs.World
