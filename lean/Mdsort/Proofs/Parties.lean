import Mdsort.Model.Parties
import Mdsort.Proofs.WorldStep
import Mdsort.Proofs.WorldOwnBasic
import Mdsort.Proofs.Basics

/-! Parties on one file system: steps, invariants along schedules, and the bridge between a
party's run inside a schedule and `runOracle` (whatever the others did is "some results").

Names in the `Parties*` modules.  The exactly-once theorem is developed for every action kind, listing parties and the
client; its notions carry `Copy` / a trailing `c` or `C` / a leading `C` (`PartiesCopy*`, `StartOKc`, `LocalOKc`, `startChecksC`,
`CInv`, `CAllowed`, `exactly_once_copy`; `LocalOKr` is `LocalOKc` over any condition `R` on results).  The same names without the
mark (`StartOK`, `LocalOK`, `Allowed`, `MInv`, `exactly_once_movers`) belong to rename-only parties on one device; of these
`Allowed`, `LocalOK`, `MInv` (with `MoverI`, `Neutral` of `PartiesMoverLocal`) state that protocol by themselves and no proof
passes through them: `exactly_once_movers` is read off the general theorem (`plain_run`). -/

namespace Mdsort.Proofs.Parties
open Mdsort Mdsort.Model
open Mdsort.Proofs.World (core)
open Mdsort.Proofs.Own (Trace runOracle_eq runO_bind)

theorem stepParty_none {s : Shared} {i : Nat} (h : s.parties[i]? = none) : stepParty s i = s := by
  simp [stepParty, h]

theorem stepParty_ret {s : Shared} {i : Nat} {p : PState} {e : Bool} (h : s.parties[i]? = some p)
    (hp : p.prog = .ret e) : stepParty s i = s := by
  simp [stepParty, h, hp]

theorem stepParty_call {s : Shared} {i : Nat} {p : PState} {c : Call} {k : Res → Prog Bool}
    (h : s.parties[i]? = some p) (hp : p.prog = .call c k) : stepParty s i = stepCall s i p c k := by
  simp [stepParty, h, hp]

theorem stepParty_cases {P : Shared → Prop} {s : Shared} {i : Nat} (h0 : P s)
    (hc : ∀ p c k, s.parties[i]? = some p → p.prog = .call c k → P (stepCall s i p c k)) : P (stepParty s i) := by
  fun_cases stepParty s i
  · exact h0
  · exact h0
  · exact hc _ _ _ ‹_› ‹_›

theorem runSched_cons (s : Shared) (a : Nat) (rest : List Nat) : runSched s (a :: rest) = runSched (stepParty s a) rest := rfl

theorem runSched_append (s : Shared) (a b : List Nat) : runSched s (a ++ b) = runSched (runSched s a) b := by
  induction a generalizing s with
  | nil => rfl
  | cons i a ih => simp [runSched, ih]

theorem Hiso_append (s : Shared) (a b : List Nat) : Hiso s (a ++ b) = (Hiso s a && Hiso (runSched s a) b) := by
  induction a generalizing s with
  | nil => simp [Hiso, runSched]
  | cons i a ih => simp [Hiso, runSched, ih, Bool.and_assoc]

theorem runSched_inv {P : Shared → Prop} (hstep : ∀ s i, P s → P (stepParty s i)) (sched : List Nat) (s : Shared)
    (h : P s) : P (runSched s sched) := by
  induction sched generalizing s with
  | nil => exact h
  | cons i rest ih => exact ih _ (hstep s i h)

theorem stepView_eq (s : Shared) (p : PState) (c : Call) : stepView s p c = core (s.view p) c (predict (s.view p) c) := rfl

@[simp] theorem stepCall_fs (s : Shared) (i : Nat) (p : PState) (c : Call) (k : Res → Prog Bool) :
    (stepCall s i p c k).fs = (stepView s p c).shared := rfl
@[simp] theorem stepCall_log (s : Shared) (i : Nat) (p : PState) (c : Call) (k : Res → Prog Bool) :
    (stepCall s i p c k).log = s.log ++ [stepEvent s i p c] := rfl
@[simp] theorem stepCall_parties (s : Shared) (i : Nat) (p : PState) (c : Call) (k : Res → Prog Bool) :
    (stepCall s i p c k).parties = s.parties.set i (stepLocal s p c k) := rfl

theorem stepCall_party (s : Shared) (i j : Nat) (p : PState) (c : Call) (k : Res → Prog Bool)
    (h : s.parties[i]? = some p) :
    (stepCall s i p c k).parties[j]? = if j = i then some (stepLocal s p c k) else s.parties[j]? := by
  have hl : i < s.parties.length := by
    rcases List.getElem?_eq_some_iff.1 h with ⟨hl, _⟩; exact hl
  simp only [stepCall_parties, List.getElem?_set]
  by_cases hj : j = i
  · subst hj; simp [hl]
  · have : ¬ i = j := fun e => hj e.symm
    simp [hj, this]

theorem stepCall_party_cases {s : Shared} {i j : Nat} {p q : PState} {c : Call} {k : Res → Prog Bool}
    (h : s.parties[i]? = some p) (hq : (stepCall s i p c k).parties[j]? = some q) :
    (i = j ∧ q = stepLocal s p c k) ∨ (j ≠ i ∧ s.parties[j]? = some q) := by
  rw [stepCall_party s i j p c k h] at hq
  split at hq
  · exact .inl ⟨‹j = i›.symm, (Option.some.inj hq).symm⟩
  · exact .inr ⟨‹¬ j = i›, hq⟩

theorem quiescent_finished {s : Shared} {i : Nat} {p : PState} (hq : s.quiescent = true) (h : s.parties[i]? = some p) :
    p.finished = true :=
  List.all_eq_true.1 hq p (List.mem_of_getElem? h)

theorem stepParty_length (s : Shared) (i : Nat) : (stepParty s i).parties.length = s.parties.length := by
  apply stepParty_cases (P := fun s' => s'.parties.length = s.parties.length) rfl
  intro p c k _ _
  simp

theorem runSched_length (s : Shared) (sched : List Nat) : (runSched s sched).parties.length = s.parties.length := by
  induction sched generalizing s with
  | nil => rfl
  | cons i rest ih => simp [runSched, ih, stepParty_length]

@[simp] theorem shared_dirs (w : World) : w.shared.dirs = w.dirs := rfl
@[simp] theorem shared_files (w : World) : w.shared.files = w.files := rfl
@[simp] theorem shared_nextFid (w : World) : w.shared.nextFid = w.nextFid := rfl
@[simp] theorem shared_devs (w : World) : w.shared.devs = w.devs := rfl
@[simp] theorem shared_lookup (w : World) (p n : Bytes) : w.shared.lookup p n = w.lookup p n := rfl
@[simp] theorem shared_file (w : World) (f : Nat) : w.shared.file f = w.file f := rfl
@[simp] theorem shared_dir (w : World) (p : Bytes) : w.shared.dir p = w.dir p := rfl
@[simp] theorem view_lookup (s : Shared) (q : PState) (p n : Bytes) : (s.view q).lookup p n = s.fs.lookup p n := rfl
@[simp] theorem view_file (s : Shared) (q : PState) (f : Nat) : (s.view q).file f = s.fs.file f := rfl
@[simp] theorem view_dir (s : Shared) (q : PState) (p : Bytes) : (s.view q).dir p = s.fs.dir p := rfl
@[simp] theorem view_dirs (s : Shared) (q : PState) : (s.view q).dirs = s.fs.dirs := rfl
@[simp] theorem view_nextFid (s : Shared) (q : PState) : (s.view q).nextFid = s.fs.nextFid := rfl
@[simp] theorem view_devs (s : Shared) (q : PState) : (s.view q).devs = s.fs.devs := rfl
@[simp] theorem view_handles (s : Shared) (q : PState) : (s.view q).handles = q.handles := rfl
theorem view_dirPath (s : Shared) (q : PState) (d : Handle) : (s.view q).dirPath d = handlesDirPath q.handles d := rfl

theorem parties_step {P : Nat → PState → Prop} {s : Shared} (a : Nat) (h : ∀ i p, s.parties[i]? = some p → P i p)
    (hstep : ∀ p c k, s.parties[a]? = some p → p.prog = .call c k → P a (stepLocal s p c k)) :
    ∀ i p, (stepParty s a).parties[i]? = some p → P i p := by
  apply stepParty_cases (P := fun s' => ∀ i p, s'.parties[i]? = some p → P i p) h
  intro p c k hp hc i q hq
  rcases stepCall_party_cases hp hq with ⟨rfl, rfl⟩ | ⟨_, hq⟩
  · exact hstep p c k hp hc
  · exact h i q hq

theorem local_inv (P : Nat → PState → Prop)
    (hstep : ∀ (s : Shared) i p c k, s.parties[i]? = some p → p.prog = .call c k → P i p → P i (stepLocal s p c k))
    (sched : List Nat) (s : Shared) (h : ∀ i p, s.parties[i]? = some p → P i p) :
    ∀ i p, (runSched s sched).parties[i]? = some p → P i p :=
  runSched_inv (P := fun s => ∀ i p, s.parties[i]? = some p → P i p)
    (fun s a hs => parties_step a hs fun p c k hp hc => hstep s a p c k hp hc (hs a p hp)) sched s h

def Agree (orc : Nat → Call → Res) (tr : Trace) : Prop := ∀ j c r, tr[j]? = some (c, r) → orc j c = r

def replay (tr : Trace) : Nat → Call → Res := fun j _ =>
  match tr[j]? with
  | some (_, r) => r
  | none => .err ""

theorem agree_replay (tr : Trace) : Agree (replay tr) tr := by
  intro j c r h
  simp [replay, h]

theorem Agree.prefix {orc : Nat → Call → Res} {tr L : Trace} (h : Agree orc (tr ++ L)) : Agree orc tr := by
  intro j c r hj
  apply h j c r
  have hl : j < tr.length := by
    rcases List.getElem?_eq_some_iff.1 hj with ⟨hl, _⟩; exact hl
  rw [List.getElem?_append_left hl]; exact hj

/-- Running the initial program against any oracle that agrees with the party's trace so far
continues with the party's current program. -/
def Sim (p0 : Prog Bool) (ps : PState) : Prop :=
  ∀ orc, Agree orc ps.trace → runOracle orc p0 0 [] = runOracle orc ps.prog ps.trace.length ps.trace

theorem sim_step (p0 : Prog Bool) (s : Shared) (p : PState) (c : Call) (k : Res → Prog Bool)
    (hc : p.prog = .call c k) (h : Sim p0 p) : Sim p0 (stepLocal s p c k) := by
  intro orc ha
  simp only [stepLocal] at ha ⊢
  rw [h orc ha.prefix, hc]
  have hr : orc p.trace.length c = predict (s.view p) c := by
    apply ha p.trace.length
    simp
  simp only [runOracle, hr, List.length_append, List.length_cons, List.length_nil]

def Fresh (s : Shared) : Prop := s.log = [] ∧ ∀ p ∈ s.parties, p.trace = []

theorem fresh_init (fs : World) (ps : List (Prog Bool × List Obj)) : Fresh (Shared.init fs ps) := by
  refine ⟨rfl, ?_⟩
  intro p hp
  simp only [Shared.init, List.mem_map] at hp
  obtain ⟨x, _, rfl⟩ := hp
  rfl

theorem sim_run (s0 : Shared) (hf : Fresh s0) (sched : List Nat) (i : Nat) (p0 ps : PState)
    (h0 : s0.parties[i]? = some p0) (hs : (runSched s0 sched).parties[i]? = some ps) : Sim p0.prog ps := by
  have := local_inv (fun i ps => ∀ p0, s0.parties[i]? = some p0 → Sim p0.prog ps) ?_ sched s0 ?_ i ps hs p0 h0
  · exact this
  · intro s i p c k _ hc hP p0 h0
    exact sim_step p0.prog s p c k hc (hP p0 h0)
  · intro i p hp p0 h0
    rw [hp] at h0
    cases h0
    intro orc _
    have : p.trace = [] := hf.2 p (List.mem_of_getElem? hp)
    simp [this]

theorem runOracle_trace_ext {α} (orc : Nat → Call → Res) (p : Prog α) (i : Nat) (tr : Trace) :
    ∃ L, (runOracle orc p i tr).2 = tr ++ L := ⟨_, by rw [runOracle_eq]⟩

theorem trace_is_oracle_prefix (s0 : Shared) (hf : Fresh s0) (sched : List Nat) (i : Nat) (p0 ps : PState)
    (h0 : s0.parties[i]? = some p0) (hs : (runSched s0 sched).parties[i]? = some ps) :
    ∃ L, (runOracle (replay ps.trace) p0.prog 0 []).2 = ps.trace ++ L := by
  rw [sim_run s0 hf sched i p0 ps h0 hs _ (agree_replay _)]
  exact runOracle_trace_ext _ _ _ _

theorem finished_is_oracle_run (s0 : Shared) (hf : Fresh s0) (sched : List Nat) (i : Nat) (p0 ps : PState) (e : Bool)
    (h0 : s0.parties[i]? = some p0) (hs : (runSched s0 sched).parties[i]? = some ps) (he : ps.prog = .ret e)
    (orc : Nat → Call → Res) (ha : Agree orc ps.trace) :
    runOracle orc p0.prog 0 [] = (e, ps.trace) := by
  rw [sim_run s0 hf sched i p0 ps h0 hs orc ha, he]
  rfl

theorem runOracle_errOf {α} (orc : Nat → Call → Res) (p : Prog (α × Bool)) :
    runOracle orc (errOf p) 0 [] = ((runOracle orc p 0 []).1.2, (runOracle orc p 0 []).2) := by
  simp only [errOf, runOracle_eq, runO_bind, Own.runO_ret, List.nil_append, List.append_nil]

end Mdsort.Proofs.Parties
