import Mdsort.Proofs.PartiesMoverLocal
import Mdsort.Proofs.WorldScripts

/-! The local protocol of EVERY action of `matches_exec` (C17): besides the rename-based deliveries
of `PartiesMoverLocal`, the copying ones (`maildir_write` for label / add-header, `maildir_move`
across devices: create a name exclusively, write the message through a stdio stream on a duplicate
of the descriptor, flush, sync, close, then remove the original - or, failing that, the new name),
`discard`, and `exec` with its unlinked temporary files.

What a party can know from its OWN calls and their results is a function of its trace:
`inFlightH` (the created name it has neither committed nor rolled back) and `locOf` (the descriptor
of that name, the stream on it, the bytes handed to the stream so far, the descriptors and streams
of its temporary files).  `CopyI M` says which calls may be issued in which such state; the results
quantified over are the ones the abstract file system can predict (`PredR`: no injected faults, a
party only ever sees what the others did). -/

namespace Mdsort.Proofs.Parties
open Mdsort Mdsort.Model
open Mdsort.Proofs.World (Calls All hdrLine render_eq)
open Mdsort.Proofs.Own

structure Loc where
  fd : Option Handle      -- descriptor returned by the exclusive create of the name in flight
  dup : Option Handle     -- its duplicate, before `fdopen`
  st : Option Handle      -- the stdio stream on the duplicate
  wr : Bytes              -- bytes handed to that stream so far
  tmp : List Handle       -- descriptors of unlinked temporary files (`mkostemp`, and duplicates)
  tst : List Handle       -- stdio streams on temporary files

def Loc.init : Loc := ⟨none, none, none, [], [], []⟩

def clr (o : Option Handle) (h : Handle) : Option Handle := if o = some h then none else o

def Loc.drop (l : Loc) (h : Handle) : Loc :=
  { l with fd := clr l.fd h, dup := clr l.dup h, st := clr l.st h, tmp := l.tmp.filter (· != h), tst := l.tst.filter (· != h) }

/-- What the party knows of its descriptors after one more call.  `fdopen h` makes the descriptor `h` a stream under the SAME
handle (the model replaces the object behind it): `st := some h`, and `h` leaves `dup` / `tmp`.  `fclose h` drops `h` everywhere
but from `fd`: the handle `dupfd` returned is only known to be predicted in SOME world (`PredR`), so the walk
`copy_messageWriteP` cannot tell it from `fd` and must still be allowed to `close fd` afterwards; that the two differ is known
on the file-system side (`WrOK`, clause `dup`). -/
def locUpd (l : Loc) : Call × Res → Loc
  | (.openExcl _ _, .ok h) => { l with fd := some h, dup := none, st := none, wr := [] }
  | (.close h, _) => l.drop h
  | (.closedir h, _) => l.drop h
  | (.fclose h, _) => { l.drop h with fd := l.fd }
  | (.dupfd fd, .ok h) =>
    { l with dup := if l.fd = some fd then some h else l.dup, tmp := if l.tmp.contains fd then h :: l.tmp else l.tmp }
  | (.fdopen h, .ok _) =>
    { l with st := if l.dup = some h then some h else l.st, dup := clr l.dup h,
             tmp := l.tmp.filter (· != h), tst := if l.tmp.contains h then h :: l.tst else l.tst }
  | (.fprintf h data, .ok _) => if l.st = some h then { l with wr := l.wr ++ data } else l
  | (.mkostemp _, .ok h) => { l with tmp := h :: l.tmp }
  | _ => l

def locOf (tr : Trace) : Loc := tr.foldl locUpd Loc.init

theorem locOf_snoc (tr : Trace) (e : Call × Res) : locOf (tr ++ [e]) = locUpd (locOf tr) e := by
  simp [locOf, List.foldl_append]

def PredR (c : Call) (r : Res) : Prop := ∃ w : World, r = predict w c

/-- Which call may be issued when (`M`: the messages the party may write out).
`openExcl`: with nothing in flight.  `renameat`: only ONTO the name in flight (the commit of a rename-based delivery; the
source is constrained by `OwnI` and `H_iso`, not here).  `unlinkat`: of the name in flight (roll-back); or of anything with
nothing in flight (`discard`); or the commit of a copy: the stream is closed, no duplicate is open and what was handed to
the stream is a complete `messageWrite m` for some `m` of `M` - from then on the copy is the message.  `close`: with nothing
in flight, or of the descriptor of the name in flight; `closedir`: with nothing in flight.  The stream calls and `fdopen`: on
the stream / the duplicate of the name in flight, or on a temporary file; `write`: to a temporary file.  Never `read`, `fopen`,
`mkdtemp`, `mkdir`, `rmdir` (parsing and the stdin spool are not part of a party).  Any other call at any time. -/
def CopyI (M : Msg → Prop) (tr : Trace) : Call → Prop
  | .openExcl _ _ => inFlightH tr = []
  | .renameat _ _ d2 n2 => (d2, n2) ∈ inFlightH tr
  | .unlinkat d n => (d, n) ∈ inFlightH tr ∨ inFlightH tr = [] ∨
      ((locOf tr).st = none ∧ (locOf tr).dup = none ∧ ∃ m, M m ∧ (locOf tr).wr = (messageWrite m).1)
  | .close h => inFlightH tr = [] ∨ (locOf tr).fd = some h
  | .closedir _ => inFlightH tr = []
  | .fclose h | .fprintf h _ | .fflush h | .fsync h =>
    (inFlightH tr ≠ [] ∧ (locOf tr).st = some h) ∨ h ∈ (locOf tr).tst
  | .fdopen h => (inFlightH tr ≠ [] ∧ (locOf tr).dup = some h ∧ (locOf tr).st = none) ∨ h ∈ (locOf tr).tmp
  | .write h _ => h ∈ (locOf tr).tmp
  | .read _ | .fopen _ | .mkdtemp _ | .mkdir _ | .rmdir _ => False
  | _ => True

/-- Calls that are allowed with nothing in flight and leave it so. -/
def Quiet0 : Call → Prop
  | .openExcl .. | .renameat .. | .unlinkat .. | .fclose _ | .fprintf .. | .fflush _ | .fsync _ | .fdopen _ | .write ..
  | .read _ | .fopen _ | .mkdtemp _ | .mkdir _ | .rmdir _ => False
  | _ => True

theorem quiet0_upd {c : Call} {r : Res} (h : Quiet0 c) (acc : List (Handle × Bytes)) : inFlightUpd acc (c, r) = acc := by
  -- not `Quiet0`: `h.elim`; a `Quiet0` call is none of the three `inFlightUpd` looks at
  cases c <;> first | exact h.elim | rfl

theorem quiet0_I {M : Msg → Prop} {tr : Trace} {c : Call} (h : Quiet0 c) (h0 : inFlightH tr = []) : CopyI M tr c := by
  -- not `Quiet0`: `h.elim`; `closedir`: `h0`; `close`: `.inl h0`; every other `Quiet0` call: `CopyI` is `True`
  cases c <;> first | exact h.elim | exact h0 | exact .inl h0 | exact True.intro

variable {M : Msg → Prop}

theorem wp_quiet0_flight {α} {p : Prog α} (hc : Calls Quiet0 p) (tr : Trace) (h0 : inFlightH tr = []) :
    wp PredR (CopyI M) p (fun _ tr' => inFlightH tr' = []) tr :=
  wp_mono (wp_of_calls (C := Quiet0) (J := fun tr => inFlightH tr = []) (fun _ _ h h0 => quiet0_I h h0)
    (fun _ _ _ h h0 => by rw [inFlightH_snoc, quiet0_upd h, h0]) hc (All.trivial p) h0) fun _ _ h => h.2

theorem Quiet0.of_kind {K : List World.Kind}
    (hK : ∀ k ∈ K, k ∉ [.openExcl, .renameat, .unlinkat, .fclose, .fprintf, .fflush, .fsync, .fdopen, .write, .read, .fopen,
      .mkdtemp, .mkdir, .rmdir])
    {c : Call} (h : c.kind ∈ K) : Quiet0 c := by
  -- `Quiet0 c` is `True`, or the kind of `c` is one of the fourteen listed and `hK` excludes it
  cases c <;> first | exact True.intro | exact (hK _ h (World.Kind.mem rfl)).elim

theorem q0_maildirClose (md : Maildir) : Calls Quiet0 (maildirClose md) :=
  (World.kinds_maildirClose md).mono fun _ => Quiet0.of_kind (by decide)

theorem q0_maildirOpenDst (path : Bytes) : Calls Quiet0 (maildirOpenDst path) :=
  (World.kinds_maildirOpenDst path).mono fun _ => Quiet0.of_kind (by decide)

theorem q0_messageSetFile (ms : MsgSt) (dir name : Bytes) (fd : Option Handle) : Calls Quiet0 (messageSetFile ms dir name fd) :=
  (World.kinds_messageSetFile ms dir name fd).mono fun _ => Quiet0.of_kind (by decide)

theorem q0_execP (argv : List Bytes) (fdin : Option Handle) : Calls Quiet0 (execP argv fdin) :=
  (World.kinds_execP argv fdin).mono fun _ => Quiet0.of_kind (by decide)

/-- The abstract file system never makes these calls fail (`predict` answers `.ok 0`): under `PredR` a party
sees no failing `fdopen` / `fflush` / `fsync` / `fclose`, hence `err = false` after `message_write`; nor a failing
`unlink` of a temporary path (`writefd`). -/
theorem predR_ok0 {c : Call} {r : Res} (h : PredR c r)
    (hc : (∃ h, c = .fdopen h) ∨ (∃ h, c = .fflush h) ∨ (∃ h, c = .fsync h) ∨ (∃ h, c = .fclose h) ∨ (∃ p, c = .unlink p)) :
    r = .ok 0 := by
  obtain ⟨w, rfl⟩ := h
  rcases hc with ⟨_, rfl⟩ | ⟨_, rfl⟩ | ⟨_, rfl⟩ | ⟨_, rfl⟩ | ⟨_, rfl⟩ <;> rfl

theorem predR_fprintf {h : Handle} {d : Bytes} {r : Res} (hr : PredR (.fprintf h d) r) : r = .ok d.length := by
  obtain ⟨w, rfl⟩ := hr; rfl

theorem predR_write {h : Handle} {d : Bytes} {r : Res} (hr : PredR (.write h d) r) : r = .ok d.length := by
  obtain ⟨w, rfl⟩ := hr; rfl

theorem predR_dupfd {h : Handle} {r : Res} (hr : PredR (.dupfd h) r) : ∃ v, r = .ok v := by
  obtain ⟨w, rfl⟩ := hr; exact ⟨_, rfl⟩

theorem predR_mkostemp {t : Bytes} {r : Res} (hr : PredR (.mkostemp t) r) : ∃ v, r = .ok v := by
  obtain ⟨w, rfl⟩ := hr; exact ⟨_, rfl⟩

theorem predR_plain {c : Call} {r : Res} (hr : PredR c r) (hc : ExecSeq.Call.plain c = true) :
    (∃ v, r = .ok v) ∨ (∃ e, r = .err e) := by
  obtain ⟨w, rfl⟩ := hr
  exact World.predict_plain w hc

theorem predR_openExcl {d : Handle} {n : Bytes} {r : Res} (hr : PredR (.openExcl d n) r) :
    (∃ v, r = .ok v) ∨ (∃ e, r = .err e) :=
  predR_plain hr rfl

theorem predR_renameat {d1 d2 : Handle} {n1 n2 : Bytes} {r : Res} (hr : PredR (.renameat d1 n1 d2 n2) r) :
    (∃ v, r = .ok v) ∨ (∃ e, r = .err e) :=
  predR_plain hr rfl

theorem predR_unlinkat {d : Handle} {n : Bytes} {r : Res} (hr : PredR (.unlinkat d n) r) :
    (∃ v, r = .ok v) ∨ (∃ e, r = .err e) :=
  predR_plain hr rfl

/-- A created name `x` is in flight, `fd` is its descriptor, nothing is open on it besides. -/
structure Fresh1 (tr : Trace) (x : Handle × Bytes) (fd : Handle) (wr : Bytes) : Prop where
  flight : inFlightH tr = [x]
  fd : (locOf tr).fd = some fd
  dup : (locOf tr).dup = none
  st : (locOf tr).st = none
  wr : (locOf tr).wr = wr

/-- ... and the stream `h` is open on it. -/
structure Streaming (tr : Trace) (x : Handle × Bytes) (fd h : Handle) (wr : Bytes) : Prop where
  flight : inFlightH tr = [x]
  fd : (locOf tr).fd = some fd
  dup : (locOf tr).dup = none
  st : (locOf tr).st = some h
  wr : (locOf tr).wr = wr

theorem flight_ne_nil {tr : Trace} {x : Handle × Bytes} (h : inFlightH tr = [x]) : inFlightH tr ≠ [] := by
  rw [h]; simp

theorem Streaming.I_stream {tr x fd h wr} (s : Streaming tr x fd h wr) :
    (inFlightH tr ≠ [] ∧ (locOf tr).st = some h) ∨ h ∈ (locOf tr).tst := .inl ⟨flight_ne_nil s.flight, s.st⟩

theorem Streaming.fprintf {tr x fd h wr} (s : Streaming tr x fd h wr) (data : Bytes) (v : Nat) :
    Streaming (tr ++ [(.fprintf h data, .ok v)]) x fd h (wr ++ data) := by
  have hl : locOf (tr ++ [(Call.fprintf h data, Res.ok v)]) = { locOf tr with wr := (locOf tr).wr ++ data } := by
    rw [locOf_snoc]; simp [locUpd.eq_def, s.st]
  refine ⟨?_, ?_, ?_, ?_, ?_⟩
  · rw [inFlightH_snoc]; exact s.flight
  · rw [hl]; exact s.fd
  · rw [hl]; exact s.dup
  · rw [hl]; exact s.st
  · rw [hl]; simp [s.wr]

theorem Streaming.same {tr x fd h wr} (s : Streaming tr x fd h wr) (c : Call) (r : Res)
    (hc : (∃ h', c = .fflush h') ∨ (∃ h', c = .fsync h')) : Streaming (tr ++ [(c, r)]) x fd h wr := by
  have hl : locOf (tr ++ [(c, r)]) = locOf tr := by
    rw [locOf_snoc]; rcases hc with ⟨_, rfl⟩ | ⟨_, rfl⟩ <;> rfl
  have hf : inFlightH (tr ++ [(c, r)]) = inFlightH tr := by
    rw [inFlightH_snoc]; rcases hc with ⟨_, rfl⟩ | ⟨_, rfl⟩ <;> rfl
  exact ⟨hf ▸ s.flight, hl ▸ s.fd, hl ▸ s.dup, hl ▸ s.st, hl ▸ s.wr⟩

/-- A state `S wr` of the stream `h` (`wr`: the bytes handed to it so far) in which the protocol allows the stream
calls and which they keep.  The header lines and the tail of `message_write` (`stream_hdrs`, `stream_tail`) are walked once for
any such state; `dupfd`, `fdopen` before and `fclose` after them once per kind of stream (`copy_messageWriteP`, `tmp_messageWriteP`). -/
structure StreamState (h : Handle) (S : Bytes → Trace → Prop) : Prop where
  allowed : ∀ {wr tr}, S wr tr → (inFlightH tr ≠ [] ∧ (locOf tr).st = some h) ∨ h ∈ (locOf tr).tst
  fprintf : ∀ {wr tr} (data : Bytes) (v : Nat), S wr tr → S (wr ++ data) (tr ++ [(.fprintf h data, .ok v)])
  same : ∀ {wr tr} (c : Call) (r : Res), ((∃ h', c = .fflush h') ∨ (∃ h', c = .fsync h')) → S wr tr → S wr (tr ++ [(c, r)])

theorem streaming_state (x : Handle × Bytes) (fd h : Handle) : StreamState h fun wr tr => Streaming tr x fd h wr :=
  ⟨Streaming.I_stream, fun data v s => s.fprintf data v, fun c r hc s => s.same c r hc⟩

theorem stream_hdrs {h : Handle} {S : Bytes → Trace → Prop} (σ : StreamState h S) (hs : List Hdr) {wr : Bytes} {tr : Trace}
    (s : S wr tr) :
    wp PredR (CopyI M) (messageWriteP.hdrs h hs) (fun err tr' => err = false ∧ S (wr ++ hs.flatMap hdrLine) tr') tr := by
  induction hs generalizing tr wr with
  | nil =>
    rw [World.hdrs_nil]
    exact ⟨rfl, by simpa using s⟩
  | cons hd rest ih =>
    rw [World.hdrs_cons]
    refine wp_call (σ.allowed s) fun r hr => ?_
    rw [predR_fprintf hr]
    simp only [isOk, if_true]
    refine wp_mono (ih (σ.fprintf (hdrLine hd) _ s)) ?_
    rintro err tr' ⟨he, hs'⟩
    exact ⟨he, by simpa [List.flatMap_cons, List.append_assoc] using hs'⟩

theorem stream_tail {h : Handle} {S : Bytes → Trace → Prop} (σ : StreamState h S) (body : Bytes) {wr : Bytes} {tr : Trace}
    (s : S wr tr) :
    wp PredR (CopyI M) (World.mwTail h body false) (fun err tr' => err = false ∧ S (wr ++ ([10] ++ body)) tr') tr := by
  unfold World.mwTail
  simp only [Bool.false_eq_true, if_false]
  refine wp_call (σ.allowed s) fun r hr => ?_
  rw [predR_fprintf hr]
  simp only [isOk, Bool.not_true, Bool.false_eq_true, if_false]
  have s4 := σ.fprintf ([10] ++ body) ([10] ++ body).length s
  refine wp_call (σ.allowed s4) fun r4 hr4 => ?_
  rw [predR_ok0 hr4 (.inr (.inl ⟨_, rfl⟩))]
  simp only [Bool.not_true, Bool.false_eq_true, if_false]
  have s5 := σ.same (.fflush h) (.ok 0) (.inl ⟨_, rfl⟩) s4
  refine wp_call (σ.allowed s5) fun r5 hr5 => ?_
  rw [predR_ok0 hr5 (.inr (.inr (.inl ⟨_, rfl⟩)))]
  exact ⟨rfl, σ.same (.fsync h) (.ok 0) (.inr ⟨_, rfl⟩) s5⟩

theorem copy_messageWriteP (m : Msg) {tr : Trace} {x : Handle × Bytes} {fd : Handle} (s : Fresh1 tr x fd []) :
    wp PredR (CopyI M) (messageWriteP m fd) (fun err tr' => err = false ∧ Fresh1 tr' x fd (messageWrite m).1) tr := by
  rw [World.messageWriteP_eq]
  refine wp_call True.intro fun r hr => ?_
  obtain ⟨h, rfl⟩ := predR_dupfd hr
  dsimp only
  -- after the dup: the slots of `locOf` are read off `locUpd` by unfolding
  have hf1 : inFlightH (tr ++ [(Call.dupfd fd, Res.ok h)]) = [x] := by rw [inFlightH_snoc]; exact s.flight
  have hd1 : (locOf (tr ++ [(Call.dupfd fd, Res.ok h)])).dup = some h := by rw [locOf_snoc]; exact if_pos s.fd
  refine wp_call (.inl ⟨flight_ne_nil hf1, hd1, by rw [locOf_snoc]; exact s.st⟩) fun r2 hr2 => ?_
  rw [predR_ok0 hr2 (.inl ⟨_, rfl⟩)]
  simp only [isOk, Bool.not_true, Bool.false_eq_true, if_false]
  have s2 : Streaming (tr ++ [(Call.dupfd fd, Res.ok h)] ++ [(Call.fdopen h, Res.ok 0)]) x fd h [] := by
    refine ⟨?_, ?_, ?_, ?_, ?_⟩
    · rw [inFlightH_snoc]; exact hf1
    · rw [locOf_snoc, locOf_snoc]; exact s.fd
    · rw [locOf_snoc]; exact if_pos hd1
    · rw [locOf_snoc]; exact if_pos hd1
    · rw [locOf_snoc, locOf_snoc]; exact s.wr
  refine wp_bind_ext (stream_hdrs (streaming_state x fd h) (sortById m.headers) s2) ?_
  rintro herr L1 ⟨rfl, s3⟩
  refine wp_bind_ext (stream_tail (streaming_state x fd h) m.body s3) ?_
  rintro err1 L2 ⟨rfl, s6⟩
  refine wp_call s6.I_stream fun r6 hr6 => ?_
  rw [predR_ok0 hr6 (.inr (.inr (.inr (.inl ⟨_, rfl⟩))))]
  refine ⟨by simp, ?_, ?_, ?_, ?_, ?_⟩
  · rw [inFlightH_snoc]; exact s6.flight
  · rw [locOf_snoc]; exact s6.fd
  · rw [locOf_snoc]; exact (if_neg (by rw [s6.dup]; nofun)).trans s6.dup
  · rw [locOf_snoc]; exact if_pos s6.st
  · rw [locOf_snoc]
    show (locOf _).wr = _
    rw [s6.wr, render_eq]
    simp [List.append_assoc]

end Mdsort.Proofs.Parties
