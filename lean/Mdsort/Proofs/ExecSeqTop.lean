import Mdsort.Proofs.ExecSeqMaildirWrite
import Mdsort.Proofs.ExecSeqFrame
import Mdsort.Proofs.WorldVal

/-!
# `matches_exec` up to the fork of an exec entry

`matches_exec` over a whole action list, against arbitrary possible results: the invariant
"the message's descriptor is a read-only handle on a file holding the content produced by the
rewriting actions so far", through every kind of entry; the program up to the fork of one exec
entry (`Spec.uptoFork`); and `matches_exec` as that program followed by the fork.
-/

namespace Mdsort.Proofs.ExecSeq
open Mdsort Mdsort.Model Mdsort.Spec Mdsort.Proofs.World

/-- `Spec.MsgOpen` with its witnesses named. -/
structure MO (w : World) (st : ExecSt) (c : Bytes) (h : Handle) (fid : Nat) : Prop where
  fd : st.ms.fd = some h
  obj : ∃ off, w.obj h = .file fid off false
  file : FileAt w fid c
  src : ∀ d, st.src.dirH = some d → d ≠ h ∧ d < w.handles.length

theorem msgOpen_iff {w : World} {st : ExecSt} {c : Bytes} : MsgOpen w st c ↔ ∃ h fid, MO w st c h fid := by
  constructor
  · rintro ⟨h, fid, off, f, h1, h2, h3, h4, h5, h6⟩
    exact ⟨h, fid, h1, ⟨off, h2⟩, ⟨h3, f, h4, h5⟩, h6⟩
  · rintro ⟨h, fid, h1, ⟨off, h2⟩, ⟨h3, f, h4, h5⟩, h6⟩
    exact ⟨h, fid, off, f, h1, h2, h3, h4, h5, h6⟩

theorem MO.hlt {w st c h fid} (m : MO w st c h fid) : h < w.handles.length := by
  obtain ⟨off, ho⟩ := m.obj
  exact lt_of_obj_ne_closed w h (by simp [ho])

theorem MO.frm {w w' : World} {st st' : ExecSt} {c h fid} (m : MO w st c h fid) (fr : Frm fid c w w')
    (hfd : st'.ms.fd = st.ms.fd) (hsrc : ∀ d, st'.src.dirH = some d → d ≠ h ∧ d < w'.handles.length) :
    MO w' st' c h fid := by
  obtain ⟨off, ho⟩ := m.obj
  exact ⟨hfd.trans m.fd, ⟨off, by rw [fr.objs h m.hlt]; exact ho⟩, fr.file, hsrc⟩

theorem MO.src_mono {w w' : World} {st : ExecSt} {c h fid} (m : MO w st c h fid) (hl : w.handles.length ≤ w'.handles.length) :
    ∀ d, st.src.dirH = some d → d ≠ h ∧ d < w'.handles.length :=
  fun d hd => ⟨(m.src d hd).1, Nat.lt_of_lt_of_le (m.src d hd).2 hl⟩

theorem spec_moveBranch (env : PEnv) (mh : Match) (st : ExecSt) {w : World} {c : Bytes} {h : Handle} {fid : Nat}
    (m : MO w st c h fid) :
    wpo (moveBranch env mh st)
      (fun r w' => r.2 = false → MO w' r.1 c h fid ∧ r.1.ms.msg = st.ms.msg ∧ r.1.ms.parts = st.ms.parts) w := by
  unfold moveBranch
  refine wpo_bind_mono (spec_maildirOpenDst mh.path (Frm.refl m.file)) ?_
  rintro d w1 ⟨fr1, hd1⟩
  cases d with
  | none => intro h; cases h
  | some dst =>
    obtain ⟨dh, hdh, hdge, hdlt⟩ := hd1 dst rfl
    dsimp only
    -- framed from `w1`, not from `w`: `fr12.len` keeps the handle `dh` of `dst`, which was opened after `w`
    refine wpo_bind_mono (wpo_with_all (spec_maildirMove env st.src dst st.ms (Frm.refl fr1.file))
      (val_maildirMove env st.src dst st.ms)) ?_
    rintro x w2 ⟨fr12, hfd, hmsg, hparts, -⟩
    have fr2 := fr1.trans fr12
    have hdlt2 : dh < w2.handles.length := Nat.lt_of_lt_of_le hdlt fr12.len
    split
    · unfold maildirClose
      err_leaves
    · split
      · -- the message now lives in another maildir: `dst` replaces the source.  `hnew` is the field `MO.src` for the new
        -- source, with `some dh` where the field has `r.1.src.dirH`: each use rewrites `dst.dirH` to it (`rw [hdh]`)
        have hnew : ∀ (w3 : World), w2.handles.length ≤ w3.handles.length →
            ∀ d, (some dh : Option Handle) = some d → d ≠ h ∧ d < w3.handles.length := by
          intro w3 hl d hd
          cases hd
          exact ⟨Nat.ne_of_gt (Nat.lt_of_lt_of_le m.hlt hdge), Nat.lt_of_lt_of_le hdlt2 hl⟩
        split
        · unfold maildirClose
          cases hsd : st.src.dirH with
          | none =>
            dsimp only
            intro _
            exact ⟨m.frm fr2 hfd (by rw [hdh]; exact hnew w2 (Nat.le_refl _)), hmsg, hparts⟩
          | some d0 =>
            simp only [bind_eq, pure_eq, call_bind]
            intro r _ _
            obtain ⟨hne0, hlt0⟩ := m.src d0 hsd
            have m2 : MO w2 st c h fid := m.frm fr2 rfl (m.src_mono fr2.len)
            obtain ⟨off, ho⟩ := m2.obj
            refine ⟨⟨hfd.trans m.fd, ⟨off, ?_⟩, m2.file.step (.closedir d0) r trivial, ?_⟩, hmsg, hparts⟩
            · rw [stepWorld_obj, core_obj w2 _ _ h m2.hlt (by simp [Call.subject]; exact fun e => hne0 e)]
              exact ho
            · rw [hdh]
              exact hnew _ (by simpa using core_len w2 (.closedir d0) r)
        · intro _
          exact ⟨m.frm fr2 hfd (by rw [hdh]; exact hnew w2 (Nat.le_refl _)), hmsg, hparts⟩
      · -- same maildir and subdirectory: close `dst`
        refine wpo_bind_mono (Frm.calls (calls_maildirClose _ dst (by intro d hd; rw [hdh] at hd; cases hd; exact hdge)) fr2) ?_
        intro _ w3 fr3 _
        exact ⟨m.frm fr3 hfd (m.src_mono fr3.len), hmsg, hparts⟩

theorem isRewrite_of_ty {mh : Match} : isRewrite mh = (mh.ty == .label || mh.ty == .addHeader) := rfl

theorem isRewrite_iff {mh : Match} : isRewrite mh = true ↔ mh.ty = .label ∨ mh.ty = .addHeader := by
  rw [isRewrite_of_ty, Bool.or_eq_true, beq_iff_eq, beq_iff_eq]

theorem spec_execOne (env : PEnv) (mh : Match) (st : ExecSt) {w : World} {c : Bytes} (hm : MsgOpen w st c) :
    wpo (execOne env mh st)
      (fun r w' => r.2 = false →
        MsgOpen w' r.1 (if isRewrite mh = true then (messageWrite st.ms.msg).1 else c) ∧
        r.1.ms.msg = st.ms.msg ∧ r.1.ms.parts = st.ms.parts) w := by
  obtain ⟨h, fid, m⟩ := msgOpen_iff.1 hm
  by_cases hw : mh.ty = .label ∨ mh.ty = .addHeader
  · rw [execOne_write env mh st hw]
    refine wpo_bind_mono (spec_maildirWrite env st.src st.ms m.file (by intro h' hh; rw [m.fd] at hh; cases hh; exact m.hlt)) ?_
    rintro ⟨ms', e⟩ w1 hpost he
    dsimp only at he ⊢
    obtain ⟨hmsg, hparts, hlen, h', fid', hfd', hge, hobj, hfile⟩ := hpost he
    rw [isRewrite_iff.2 hw]
    refine ⟨msgOpen_iff.2 ⟨h', fid', hfd', ⟨0, hobj⟩, hfile, ?_⟩, hmsg, hparts⟩
    intro d hd
    obtain ⟨_, hlt⟩ := m.src d hd
    exact ⟨Nat.ne_of_lt (Nat.lt_of_lt_of_le hlt hge), Nat.lt_of_lt_of_le hlt hlen⟩
  have hnr : isRewrite mh = false := Bool.eq_false_iff.2 (mt isRewrite_iff.1 hw)
  have same : ∀ (st' : ExecSt) (w' : World), Frm fid c w w' → st'.ms.fd = st.ms.fd →
      st'.src = st.src → MsgOpen w' st' (if isRewrite mh = true then (messageWrite st.ms.msg).1 else c) := by
    intro st' w' fr hfd hsrc
    rw [hnr]
    exact msgOpen_iff.2 ⟨h, fid, m.frm fr hfd (by rw [hsrc]; exact m.src_mono fr.len)⟩
  rcases execOne_ty_cases mh.ty with hty | hty | hty | hty | hty | hty
  · rw [execOne_move env mh st hty]
    refine wpo_mono (spec_moveBranch env mh st m) fun r w' hr he => ?_
    obtain ⟨m', h1, h2⟩ := hr he
    rw [hnr]
    exact ⟨msgOpen_iff.2 ⟨h, fid, m'⟩, h1, h2⟩
  · rw [execOne_discard env mh st hty]
    refine wpo_bind_mono (Frm.calls (calls_maildirUnlink _ st.src st.ms.name) (Frm.refl m.file)) ?_
    intro e w1 fr1 he
    dsimp only at he ⊢
    subst he
    exact ⟨same _ w1 fr1 rfl rfl, rfl, rfl⟩
  · exact absurd hty hw
  · rw [execOne_reject env mh st hty]
    intro _
    exact ⟨same _ w (Frm.refl m.file) rfl rfl, rfl, rfl⟩
  · rw [execOne_exec env mh st hty]
    refine wpo_bind_mono
      (R := fun (fdr : Option (Option Handle)) w' => Frm fid c w w' ∧ ∀ fd, fdr = some (some fd) → w.handles.length ≤ fd) ?_ ?_
    · split
      · refine wpo_bind_mono (spec_messageGetFd env st.ms _ mh.execBody m.file) ?_
        rintro f w1 ⟨fr1, hf⟩
        refine ⟨fr1, ?_⟩
        intro fd hfd
        cases f with
        | none => cases hfd
        | some fd' =>
          simp only [Option.map_some, Option.some.injEq] at hfd
          subst hfd
          exact (hf fd' rfl).1
      · exact ⟨Frm.refl m.file, by intro _ h; cases h⟩
    · rintro fdr w1 ⟨fr1, hfd⟩
      cases fdr with
      | none => intro h; cases h
      | some fd =>
        dsimp only
        refine wpo_bind_mono (spec_execP _ fd fr1) ?_
        intro rc w2 fr2
        cases fd with
        | none =>
          dsimp only
          intro _
          exact ⟨same _ w2 fr2 rfl rfl, rfl, rfl⟩
        | some hh =>
          dsimp only
          intro r _ _
          have fr3 := fr2.step (.close hh) r (by intro _ h; cases h; exact hfd hh rfl) trivial
          exact ⟨same _ _ fr3 rfl rfl, rfl, rfl⟩
  · rw [execOne_other env mh st hty]
    intro _
    exact ⟨same _ w (Frm.refl m.file) rfl rfl, rfl, rfl⟩

theorem rewrittenBefore_cons (mh : Match) (rest : MatchList) (msg : Msg) (c : Bytes) :
    rewrittenBefore (mh :: rest) msg c = rewrittenBefore rest msg (if isRewrite mh = true then (messageWrite msg).1 else c) := by
  unfold rewrittenBefore
  cases hm : isRewrite mh <;> cases hr : rest.any isRewrite <;> simp [hm, hr]

theorem spec_execList (env : PEnv) (pre : MatchList) (st : ExecSt) {w : World} {c : Bytes} (hm : MsgOpen w st c) :
    wpo (execList env pre st)
      (fun r w' => r.2 = false →
        MsgOpen w' r.1 (rewrittenBefore pre st.ms.msg c) ∧ r.1.ms.msg = st.ms.msg ∧ r.1.ms.parts = st.ms.parts) w := by
  induction pre generalizing st w c with
  | nil =>
    intro _
    exact ⟨by simpa [rewrittenBefore] using hm, rfl, rfl⟩
  | cons mh rest ih =>
    unfold execList
    refine wpo_bind_mono (spec_execOne env mh st hm) ?_
    rintro ⟨st1, e⟩ w1 hpost
    dsimp only at hpost ⊢
    split
    · intro h; cases h
    · rename_i he
      have he' : e = false := by simpa using he
      obtain ⟨hm1, hmsg1, hparts1⟩ := hpost he'
      refine wpo_mono (ih st1 hm1) ?_
      intro r w2 hr hre
      obtain ⟨hm2, hmsg2, hparts2⟩ := hr hre
      refine ⟨?_, hmsg2.trans hmsg1, hparts2.trans hparts1⟩
      rw [rewrittenBefore_cons]
      rw [hmsg1] at hm2
      exact hm2

/-- `exec stdin` of the message (not `body`, not in an attachment block). -/
theorem spec_uptoFork_stdin (env : PEnv) (pre : MatchList) (mh : Match) (st : ExecSt) {w : World} {c : Bytes}
    (hb : mh.execBody = false) (hp : mh.part = 0) (hm : MsgOpen w st c) :
    wpo (uptoFork env pre mh st)
      (fun r w' => ∀ st' fd, r = .fork st' fd → RewoundOn w' fd (rewrittenBefore pre st.ms.msg c)) w := by
  unfold uptoFork
  refine wpo_bind_mono (spec_execList env pre st hm) ?_
  rintro ⟨st1, e⟩ w1 hpost
  dsimp only at hpost ⊢
  split
  · intro _ _ h; cases h
  · rename_i he
    have he' : e = false := by simpa using he
    obtain ⟨hm1, -, -⟩ := hpost he'
    obtain ⟨h, fid, m⟩ := msgOpen_iff.1 hm1
    have hpart : execPart mh st1.ms = none := by simp [execPart, hp]
    rw [hpart, hb]
    refine wpo_bind_mono (spec_messageGetFd env st1.ms none false m.file) ?_
    rintro f w2 ⟨fr2, hf⟩
    intro st' fd hr
    cases f with
    | none => cases hr
    | some fd' =>
      simp only [AtFork.fork.injEq] at hr
      obtain ⟨-, rfl⟩ := hr
      obtain ⟨-, hrew, -, hmsg⟩ := hf fd' rfl
      obtain ⟨mfd, hmfd, hobj⟩ := hmsg rfl rfl
      rw [m.fd] at hmfd
      cases hmfd
      obtain ⟨off, ho⟩ := m.obj
      obtain ⟨f, hfile, hdata⟩ := fr2.file.file
      exact ⟨⟨fid, off, f, by rw [hobj]; exact ho, hfile, hdata⟩, hrew⟩

/-- `exec stdin body` (of the message or of a part). -/
theorem spec_uptoFork_body (env : PEnv) (pre : MatchList) (mh : Match) (st : ExecSt) {w : World} {c : Bytes}
    (hb : mh.execBody = true) (hm : MsgOpen w st c) :
    wpo (uptoFork env pre mh st)
      (fun r w' => ∀ st' fd, r = .fork st' fd →
        ∃ body, getBody ((execPart mh st.ms).getD st.ms.msg) = some body ∧ BodyOn w' st' fd body) w := by
  unfold uptoFork
  refine wpo_bind_mono (spec_execList env pre st hm) ?_
  rintro ⟨st1, e⟩ w1 hpost
  dsimp only at hpost ⊢
  split
  · intro _ _ h; cases h
  · rename_i he
    have he' : e = false := by simpa using he
    obtain ⟨hm1, hmsg1, hparts1⟩ := hpost he'
    obtain ⟨h, fid, m⟩ := msgOpen_iff.1 hm1
    have hpart : execPart mh st1.ms = execPart mh st.ms := by simp [execPart, hparts1]
    rw [hb]
    refine wpo_bind_mono (spec_messageGetFd env st1.ms (execPart mh st1.ms) true m.file) ?_
    rintro f w2 ⟨fr2, hf⟩
    intro st' fd hr
    cases f with
    | none => cases hr
    | some fd' =>
      simp only [AtFork.fork.injEq] at hr
      obtain ⟨rfl, rfl⟩ := hr
      obtain ⟨-, hrew, hbody, -⟩ := hf fd' rfl
      obtain ⟨body, fidT, off, f, hgb, hobj, hge, hfile, hdata⟩ := hbody rfl
      rw [hpart, hmsg1] at hgb
      refine ⟨body, hgb, ⟨fidT, off, f, hobj, hfile, hdata, ?_⟩, hrew⟩
      intro h' fid' off' wr hfd' hobj'
      have hh : h' = h := by rw [m.fd] at hfd'; exact (Option.some.inj hfd').symm
      subst hh
      obtain ⟨off0, ho⟩ := m.obj
      rw [fr2.objs h' m.hlt, ho] at hobj'
      cases hobj'
      have := m.file.lt
      omega

/-- `World.matchesExec_cons` with the closing of the source maildir as one step before the common `ret`: the form in which
`afterFork` and `execList` continue. -/
theorem matchesExec_step (env : PEnv) (mh : Match) (rest : MatchList) (st : ExecSt) :
    matchesExec env (mh :: rest) st =
      (execOne env mh st).bind fun x =>
        if x.2 = true then (if x.1.chsrc = true then maildirClose x.1.src else .ret ()).bind fun _ => .ret (x.1, true)
        else matchesExec env rest x.1 := by
  rw [World.matchesExec_cons]
  congr 1
  funext x
  unfold Own.errTail
  split
  · split <;> rfl
  · rfl

theorem matchesExec_factor (env : PEnv) (pre post : MatchList) (mh : Match) (st : ExecSt)
    (hty : mh.ty = .exec) (hs : mh.execStdin = true) :
    matchesExec env (pre ++ mh :: post) st = (uptoFork env pre mh st).bind (afterFork env mh.argv post) := by
  induction pre generalizing st with
  | nil =>
    rw [List.nil_append, matchesExec_step, execOne_exec env mh st hty]
    unfold uptoFork execList
    simp only [hs, ret_bind, if_true, Bool.false_eq_true, if_false, bind_assoc]
    congr 1
    funext f
    cases f with
    | none => rfl
    | some fd =>
      simp only [Option.map_some, afterFork, bind_assoc]
      congr 1
  | cons m0 rest ih =>
    rw [List.cons_append, matchesExec_step]
    unfold uptoFork
    conv => rhs; unfold execList
    simp only [bind_assoc]
    congr 1
    funext x
    by_cases hx : x.2 = true
    · simp only [hx, if_true, ret_bind, afterFork]
    · have hx' : x.2 = false := by simpa using hx
      simp only [hx', Bool.false_eq_true, if_false]
      rw [ih x.1]
      unfold uptoFork
      rw [bind_assoc]

end Mdsort.Proofs.ExecSeq
