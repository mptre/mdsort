import Mdsort.Proofs.LimitsBridge

/-!
# The evaluator under two sets of limits

For `L ≤ L'` a condition or action evaluated under `L` gives what it gives under `L'`, or its verdict is `error`; the same
for the interpolation of the match list.  Only `new`, `old`, `isdirectory`, `move`, `flag`, `flags`, `label`, `add-header`
read the limits at all (the leaves on which `fillsNoBuffer` is `false`).  The one place where an over-long string is NOT an error is the `new` / `old`
condition: `pathslice` of the `new`/`cur` component into a `NAME_MAX + 1` buffer, a failure counts as "no match".  That is
harmless as long as the buffer can hold `new` and `cur` themselves (`Limits.Sane`: at least 4 bytes; the platform has 256) -
a component that does not fit is then not `new` or `cur` for unbounded strings either.
-/

namespace Mdsort.Proofs.Limits
open Mdsort Mdsort.Model

/-- The name buffer can hold `new` and `cur` (3 characters and the terminator). -/
def Sane (L : Limits) : Prop := L.nameMax1.fits 3 = true

instance (L : Limits) : Decidable (Sane L) := inferInstanceAs (Decidable (_ = true))

theorem sane_std : Sane stdLimits := by decide
theorem sane_unbounded : Sane Limits.unbounded := rfl

theorem Sane.of_le {L L' : Limits} (h : L ≤ L') (hs : Sane L) : Sane L' := Lim.fits_mono h.2.1 hs

def EqOrErr (a b : Tri × St) : Prop := a = b ∨ a.1 = .error

theorem EqOrErr.rfl' (a : Tri × St) : EqOrErr a a := .inl rfl

theorem pathsliceL_beq3 {l l' : Lim} (hl : l.fits 3 = true) (hl' : l'.fits 3 = true) (path : Bytes) (b e : Int) (w : Bytes)
    (hw : w.length = 3) : (pathsliceL path l b e == some w) = (pathsliceL path l' b e == some w) := by
  have h := pathsliceL_Exact path b e
  rw [Bool.eq_iff_iff, beq_iff_eq, beq_iff_eq, h.eq_some_iff (l := l), h.eq_some_iff (l := l'), hw, hl, hl']

/-- A field of the entry that is filled from the message path only when it is empty (`mh_maildir`, `mh_subdir`). -/
theorem ite_mono {o o' : Option Bytes} (h : o = none ∨ o = o') (c : Bool) (x : Bytes) :
    (if c then o else some x) = none ∨ (if c then o else some x) = (if c then o' else some x) := by
  cases c
  · exact .inr rfl
  · exact h

theorem matchesAppendL_mono {L L' : Limits} (hle : L ≤ L') (env : Env) (ml : MatchList) (mh : Match) :
    Below (·.2 = true) (matchesAppendL L env ml mh) (matchesAppendL L' env ml mh) := by
  unfold matchesAppendL
  simp only
  split
  · exact .inl rfl
  · exact optStep (ite_mono ((pathsliceL_Exact env.path 0 (-2)).mono hle.1) _ _) (Below.bad rfl) fun maildir =>
      optStep (ite_mono ((pathsliceL_Exact env.path (-2) (-2)).mono hle.2.1) _ _) (Below.bad rfl) fun subdir =>
        optStep ((pathjoinL_Exact maildir subdir).mono hle.1) (Below.bad rfl) fun p => .inl rfl

theorem exprAppendL_mono {L L' : Limits} (hle : L ≤ L') (env : Env) (mh : Match) (st : St) (ok : Tri) :
    EqOrErr (exprAppendL L env mh st ok) (exprAppendL L' env mh st ok) := by
  unfold exprAppendL
  rcases matchesAppendL_mono hle env st.ml mh with h | h
  · rw [h]; exact .inl rfl
  · exact .inr (by simp only [h, if_true])

theorem EqOrErr.error {s : St} (b : Tri × St) : EqOrErr (.error, s) b := .inr rfl

/-- The leaves that fill a buffer and ask the operating system nothing (`isdirectory`, the one that asks, is compared in
`evalTL_leaf_sim`). -/
theorem evalL_leaf_mono {L L' : Limits} (hle : L ≤ L') (hs : Sane L) (env : Env) (root : Msg) {e : Expr} (he : asksNothing e = true)
    (hb : fillsNoBuffer e = false) (part : Nat) (m : Msg) (st : St) :
    EqOrErr (evalL L env root e part m st) (evalL L' env root e part m st) := by
  have hs' : Sane L' := hs.of_le hle
  cases e <;> first | (cases he; done) | (cases hb; done) | skip
  case new lno => exact .inl (by simp only [evalL, pathsliceL_beq3 hs hs' env.path (-2) (-2) [110, 101, 119] rfl])
  case old lno => exact .inl (by simp only [evalL, pathsliceL_beq3 hs hs' env.path (-2) (-2) [99, 117, 114] rfl])
  case move lno path =>
    simp only [evalL]
    exact optStep ((strlcpyL_Exact path).mono hle.1) EqOrErr.error fun p => exprAppendL_mono hle env _ _ _
  case flag lno subdir =>
    simp only [evalL]
    exact optStep ((strlcpyL_Exact subdir).mono hle.2.1) EqOrErr.error fun p => exprAppendL_mono hle env _ _ _
  case flags lno fl =>
    simp only [evalL]
    split
    · exact .inl rfl
    · exact exprAppendL_mono hle env _ _ _
  case label | addHeader =>
    simp only [evalL]
    exact exprAppendL_mono hle env _ _ _

theorem matchInterpolateL_mono {L L' : Limits} (hle : L ≤ L') (macros : Option (List (Bytes × Bytes))) (ml : MatchList) (i : Nat)
    (mh : Match) (msgs : Nat → Msg) :
    matchInterpolateL L macros ml i mh msgs = none ∨ matchInterpolateL L macros ml i mh msgs = matchInterpolateL L' macros ml i mh msgs := by
  have hpath : ∀ (p : Bytes) (f : Bytes → Match × Option (Nat × Msg)),
      (strlcpyL L.pathMax p).map f = none ∨ (strlcpyL L.pathMax p).map f = (strlcpyL L'.pathMax p).map f := fun p f =>
    ((strlcpyL_Exact p).mono hle.1).imp (fun h => by rw [h]; rfl) fun h => by rw [h]
  unfold matchInterpolateL
  cases mh.ty <;> first | exact .inr rfl | (dsimp only; split <;> first | exact .inl rfl | exact hpath _ _)

theorem matchesInterpolateL_go_mono {L L' : Limits} (hle : L ≤ L') (macros : Option (List (Bytes × Bytes))) (rest : MatchList) :
    ∀ (i : Nat) (cur : MatchList) (msgs : Nat → Msg),
      matchesInterpolateL.go L macros i rest cur msgs = none ∨
        matchesInterpolateL.go L macros i rest cur msgs = matchesInterpolateL.go L' macros i rest cur msgs := by
  induction rest with
  | nil => intro i cur msgs; exact .inr (by simp only [matchesInterpolateL.go])
  | cons mh more ih =>
    intro i cur msgs
    simp only [matchesInterpolateL.go]
    rcases matchInterpolateL_mono hle macros cur i mh msgs with h | h
    · rw [h]; exact .inl rfl
    · rw [h]
      cases matchInterpolateL L' macros cur i mh msgs with
      | none => exact .inl rfl
      | some x => exact ih _ _ _

theorem matchesInterpolateL_mono {L L' : Limits} (hle : L ≤ L') (env : Env) (ml : MatchList) (msgs : Nat → Msg) :
    matchesInterpolateL L env ml msgs = none ∨ matchesInterpolateL L env ml msgs = matchesInterpolateL L' env ml msgs := by
  unfold matchesInterpolateL
  exact matchesInterpolateL_go_mono hle _ _ _ _ _

end Mdsort.Proofs.Limits
