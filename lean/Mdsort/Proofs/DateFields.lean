import Mdsort.Proofs.EvalEq

/-!
# C15 - which instant a date condition looks at, and how it compares (`expr_eval_date`, expr.c)

`date [header]` takes the instant from the `Date` header (`message_get_header1` + `time_parse`);
`date access | modified | created` takes it from `stat(path)`: `st_atim`, `st_mtim`, `st_ctim`
respectively.  In the model `stat` is the oracle `env.fileTime : path → Option FileTimes` (the three
`tv_sec` values, `none` = `stat` failed) and `time_format` the oracle `env.timeFormat`; the selection
of the field is part of the model (`Model.eval`, as `ts = &st.st_atim / st_mtim / st_ctim` in the C
code), and the theorems below show that each field looks at exactly its own time stamp of the
message's own path and at nothing else.
-/

namespace Mdsort.Proofs
open Mdsort Mdsort.Model

/-- The documented binding of the file fields: `access` = `st_atim`, `modified` = `st_mtim`,
`created` = `st_ctim` (`header` does not look at the file; the value is irrelevant). -/
def fieldTime (sb : FileTimes) : DateField → Int
  | .access => sb.atime
  | .modified => sb.mtime
  | .created => sb.ctime
  | .header => 0

/-- `stat(path)`, one time stamp of the result, `time_format` of it: `none` = error (either call failed). -/
def statInstant (env : Env) (sel : FileTimes → Int) : Option (Option (Int × Bytes)) :=
  match env.fileTime env.path with
  | none => none
  | some sb =>
    match env.timeFormat (sel sb) with
    | none => none
    | some s => some (some (sel sb, s))

/-- The instant (and the text shown by `-d`) a date condition on `field` looks at: `none` = error,
`some none` = there is nothing to compare (no `Date` header), `some (some (t, text))` otherwise. -/
def dateInstant (env : Env) (m : Msg) : DateField → Option (Option (Int × Bytes))
  | .header =>
    match getHeader1 m (ofString "Date") with
    | none => some none
    | some d =>
      match timeParse env.strptime env.zoneName d with
      | none => none
      | some t => some (some (t, d))
  | .access => statInstant env (·.atime)
  | .modified => statInstant env (·.mtime)
  | .created => statInstant env (·.ctime)

/-- The documented comparison: `date > age` holds iff the message is strictly older than `age`,
`date < age` iff strictly younger; `now - tim` is the age (negative for an instant in the future). -/
def AgeHolds (cmp : DateCmp) (age now tim : Int) : Prop :=
  match cmp with
  | .gt => now - tim > age
  | .lt => now - tim < age

instance (cmp : DateCmp) (age now tim : Int) : Decidable (AgeHolds cmp age now tim) := by
  unfold AgeHolds; cases cmp <;> exact inferInstance

theorem dateMatches_iff (cmp : DateCmp) (age now tim : Int) :
    dateMatches cmp age now tim = true ↔ AgeHolds cmp age now tim := by
  cases cmp <;> simp [dateMatches, AgeHolds]

theorem dateMatches_gt (age now tim : Int) : dateMatches .gt age now tim = true ↔ now - tim > age :=
  dateMatches_iff .gt age now tim

theorem dateMatches_lt (age now tim : Int) : dateMatches .lt age now tim = true ↔ now - tim < age :=
  dateMatches_iff .lt age now tim

def dateOutcome (env : Env) (lno : Nat) (cmp : DateCmp) (age : Nat) (part : Nat) (st : St) :
    Option (Option (Int × Bytes)) → Tri × St
  | none => (.error, st)
  | some none => (.nomatch, st)
  | some (some (tim, text)) =>
    if AgeHolds cmp age env.now tim then
      exprRegexec env .date lno part { src := [46, 42] } (ofString "Date") text st
    else (.nomatch, st)

theorem date_tail (env : Env) (lno : Nat) (cmp : DateCmp) (age : Nat) (part : Nat) (st : St) (tim : Int) (text : Bytes) :
    (if (!dateMatches cmp (age : Int) env.now tim) = true then (Tri.nomatch, st)
      else exprRegexec env .date lno part { src := [46, 42] } (ofString "Date") text st) =
    dateOutcome env lno cmp age part st (some (some (tim, text))) := by
  unfold dateOutcome
  by_cases h : AgeHolds cmp age env.now tim
  · have := (dateMatches_iff cmp age env.now tim).2 h
    simp only [this, Bool.not_true, Bool.false_eq_true, ↓reduceIte, h]
  · have : dateMatches cmp age env.now tim = false := by
      cases hd : dateMatches cmp age env.now tim with
      | false => rfl
      | true => exact absurd ((dateMatches_iff cmp age env.now tim).1 hd) h
    simp only [this, Bool.not_false, ↓reduceIte, h]

theorem date_fields (env : Env) (root : Msg) (lno : Nat) (field : DateField) (cmp : DateCmp) (age : Nat)
    (part : Nat) (m : Msg) (st : St) :
    eval env root (.date lno field cmp age) part m st =
      dateOutcome env lno cmp age part st (dateInstant env m field) := by
  cases field <;> simp only [eval, dateInstant, statInstant]
  · cases getHeader1 m (ofString "Date") with
    | none => rfl
    | some d =>
      dsimp only
      cases timeParse env.strptime env.zoneName d with
      | none => rfl
      | some t => exact date_tail env lno cmp age part st t d
  all_goals
    rcases env.fileTime _ with _ | sb
    · rfl
    · dsimp only
      rcases env.timeFormat _ with _ | s
      · rfl
      · exact date_tail env lno cmp age part st _ s

/-- `date_fields` spelled out for the file fields. -/
theorem date_file_fields (env : Env) (root : Msg) (lno : Nat) (field : DateField) (cmp : DateCmp) (age : Nat)
    (part : Nat) (m : Msg) (st : St) (hf : field ≠ .header) :
    eval env root (.date lno field cmp age) part m st =
      (match env.fileTime env.path with
       | none => (.error, st)
       | some sb =>
         match env.timeFormat (fieldTime sb field) with
         | none => (.error, st)
         | some text =>
           if AgeHolds cmp age env.now (fieldTime sb field) then
             exprRegexec env .date lno part { src := [46, 42] } (ofString "Date") text st
           else (.nomatch, st)) := by
  rw [date_fields]
  cases field
  · exact absurd rfl hf
  all_goals
    simp only [dateInstant, statInstant, fieldTime]
    rcases env.fileTime env.path with _ | sb
    · rfl
    · dsimp only
      rcases env.timeFormat _ with _ | s <;> rfl

/-! ## A file whose three time stamps differ (the environment of the non-vacuity statements in `Props/C15`) -/

def exDateEnv : Env where
  rx := fun _ _ => .ok [some (0, 1)]
  command := fun _ => 0
  isDir := fun _ => false
  now := 1000
  strptime := fun _ => none
  zoneName := fun _ => none
  fileTime := fun p => if p = [47, 109, 47, 110, 101, 119, 47, 49] then some { atime := 300, mtime := 100, ctime := 200 } else none
  timeFormat := fun t => if t = 300 then some [97] else if t = 100 then some [109] else if t = 200 then some [99] else none
  dryrun := false
  path := [47, 109, 47, 110, 101, 119, 47, 49]

end Mdsort.Proofs
