import Mdsort.Proofs.ConfSpec1

/-!
# What every parser function keeps, part 2: conditions, actions, rules, blocks, the file

Every function of Model/Conf.lean that stands for a non-terminal returns a well-formed, clean tree and has
consumed a token sequence that non-terminal derives in `Gen.productions`; `parseConfigFull_acc` says what this
comes to for the whole file.
-/

namespace Mdsort.Proofs.Conf
open Mdsort Mdsort.Model Mdsort.Spec Mdsort.Spec.Cfg Mdsort.Proofs.MainText Mdsort.Proofs.Cfg

variable {α : Type}

theorem expr1_of_expr3 {w : List Sym} (h : Derives GP "expr3" w) : Derives GP "expr1" w :=
  (Derives.node p_expr1_expr3 (.cons h .nil)).cast (by simp)

theorem kwLeaf_acc {cx : PCtx} {mk : Nat → Expr} (k : Kw) {kind : Kind} {x : Sym}
    (hok : ∀ l, TreeOK cx kind (.leaf (mk l))) (hd : Derives GP x [kwSym k]) {m B : Nat} :
    AccAt m B (.kw k) (do shift; leafAt cx mk) (Wtree cx kind x) :=
  .eat (by simp) rfl ((leafAt_acc hok).weaken fun _ _ ⟨ht, hw⟩ => by subst hw; exact ⟨ht, hd⟩)

theorem parseCondKw_acc {cx : PCtx} {fuel B : Nat} {unary : PM CTree} {k : Kw} {p : PM CTree}
    (hp : parseCondKw cx fuel unary k = some p) (hun : Acc fuel B unary (Wtree cx .cond "expr1")) :
    AccAt (fuel + 1) B (.kw k) p (Wtree cx .cond "expr1") := by
  have hleaf : ∀ (mk : Nat → Expr), (∀ l, isCondLeaf (mk l) = true ∧ leafOK cx.rxOk (mk l) = true ∧ leafClean (mk l)) →
      ∀ l, TreeOK cx .cond (.leaf (mk l)) :=
    fun mk h l => ⟨by simp only [wfK, (h l).1, (h l).2.1, Bool.and_self], (h l).2.2⟩
  cases k <;> simp only [parseCondKw] at hp <;> try cases hp
  case all =>
    exact kwLeaf_acc .all (hleaf Expr.all fun _ => ⟨rfl, rfl, trivial⟩)
      (expr1_of_expr3 (Derives.node p_expr3_all (.cons (.leaf t_all) .nil)))
  case new =>
    exact kwLeaf_acc .new (hleaf Expr.new fun _ => ⟨rfl, rfl, trivial⟩)
      (expr1_of_expr3 (Derives.node p_expr3_new (.cons (.leaf t_new) .nil)))
  case old =>
    exact kwLeaf_acc .old (hleaf Expr.old fun _ => ⟨rfl, rfl, trivial⟩)
      (expr1_of_expr3 (Derives.node p_expr3_old (.cons (.leaf t_old) .nil)))
  all_goals refine .eat (by simp) rfl ?_
  case attachment =>
    refine .bind hun fun e w ⟨⟨he, hc⟩, hw⟩ => ?_
    exact .line fun l => .pure ⟨⟨by simpa [wfK] using he, hc⟩,
      Derives.node p_expr1_attachment_expr1 (.cons (.leaf t_attachment) (.cons hw .nil))⟩
  case body =>
    refine .bind parsePattern_acc fun pt w ⟨hpt, hw⟩ => ?_
    refine .line fun l => ?_
    refine .bind checkPattern_acc fun _ w' ⟨hrx, hw'⟩ => ?_
    subst hw'
    exact .pure ⟨⟨by simp [wfK, isCondLeaf, leafOK, hrx], hpt⟩,
      expr1_of_expr3 (Derives.node p_expr3_body_pattern (.cons (.leaf t_body) (.cons hw .nil)))⟩
  case command =>
    refine .bind parseStrings_acc fun ss w hw => ?_
    refine .line fun l => .expandAll fun v => ?_
    exact .pure ⟨⟨by simp [wfK, isCondLeaf, leafOK], trivial⟩,
      expr1_of_expr3 (Derives.node p_expr3_command_strings (.cons (.leaf t_command) (.cons hw .nil)))⟩
  case date =>
    exact parseDate_acc.weaken fun t w ⟨ht, hw⟩ => ⟨ht, expr1_of_expr3 hw⟩
  case header =>
    refine .bind parseStrings_acc fun ss w1 hw1 => ?_
    refine .bind parsePattern_acc fun pt w2 ⟨hpt, hw2⟩ => ?_
    refine .line fun l => ?_
    refine .bind checkPattern_acc fun _ w' ⟨hrx, hw'⟩ => ?_
    subst hw'
    refine .expandAll fun v => ?_
    exact .pure ⟨⟨by simp [wfK, isCondLeaf, leafOK, hrx], hpt⟩,
      expr1_of_expr3 (Derives.node p_expr3_header_strings_pattern (.cons (.leaf t_header) (.cons hw1 (.cons hw2 .nil))))⟩
  case isdirectory =>
    refine .bind parseStr_acc fun str w hw => ?_
    subst hw
    refine .line fun l => .expandOne fun v => ?_
    exact .pure ⟨⟨by simp [wfK, isCondLeaf, leafOK], trivial⟩,
      expr1_of_expr3 (Derives.node p_expr3_isdirectory_string (.cons (.leaf t_isdirectory) (.cons (.leaf t_string) .nil)))⟩

theorem expr1_chain {op : Sym} {w1 w2 : List Sym} (hp : GP.contains ("expr1", ["expr1", op, "expr1"]) = true)
    (ht : isTerminal GP op = true) (h1 : Derives GP "expr1" w1) (h2 : Extends "expr1" w2) :
    Extends "expr1" (op :: (w1 ++ w2)) := by
  intro pre hpre
  have hj : Derives GP "expr1" (pre ++ op :: w1) :=
    (Derives.node hp (.cons hpre (.cons (.leaf ht) (.cons h1 .nil)))).cast (by simp)
  exact (h2 _ hj).cast (by simp)

/-- `parseUnary` and `parseBinTail`, which call each other: one induction on the budget for both. -/
theorem cond_acc {cx : PCtx} {B : Nat} : ∀ fuel : Nat,
    Acc fuel B (parseUnary cx fuel) (Wtree cx .cond "expr1") ∧
    (∀ lhs, TreeOK cx .cond lhs →
      Acc fuel B (parseBinTail cx fuel lhs) (fun t w => TreeOK cx .cond t ∧ Extends "expr1" w)) := by
  intro fuel
  induction fuel with
  | zero => exact ⟨.zero, fun _ _ => .zero⟩
  | succ fuel ih =>
    obtain ⟨ihU, ihB⟩ := ih
    constructor
    · unfold parseUnary
      refine .peek fun t => ?_
      cases t <;> try exact .fail
      · -- neg
        refine .eat (by simp) rfl (.bind ihU fun e w ⟨⟨he, hc⟩, hw⟩ => ?_)
        exact .line fun l => .pure ⟨⟨by simpa [wfK] using he, hc⟩,
          Derives.node p_expr1_neg_expr1 (.cons (.leaf t_neg) (.cons hw .nil))⟩
      · -- kw
        rename_i k
        dsimp only
        cases hp : parseCondKw cx fuel (parseUnary cx fuel) k with
        | none => exact .fail
        | some p => exact (parseCondKw_acc hp ihU).le
      · -- lparen
        refine .eat (by simp) rfl (.bind ihU fun e w1 ⟨he, hw1⟩ => ?_)
        refine .bind (ihB e he) fun e' w2 ⟨he', hw2⟩ => ?_
        refine .bind (expectTk_acc .rparen (by simp) rfl) fun _ w3 hw3 => ?_
        subst hw3
        exact .pure ⟨he', expr1_of_expr3 ((Derives.node p_expr3_lparen_expr1_rparen
          (.cons (.leaf t_lparen) (.cons (hw2 _ hw1) (.cons (.leaf t_rparen) .nil)))).cast (by simp [tkKind]))⟩
    · intro lhs hl
      unfold parseBinTail
      refine .peek fun t => ?_
      have hdef : AccG (fuel + 1) false B (some t) none (pure lhs) (fun t w => TreeOK cx .cond t ∧ Extends "expr1" w) :=
        .pure ⟨hl, Extends.nil _⟩
      cases t <;> try exact hdef
      rename_i k
      cases k <;> try exact hdef
      · -- and
        refine .eat (by simp) rfl (.bind ihU fun r w1 ⟨hr, hw1⟩ => .line fun l => ?_)
        refine (ihB (.and l lhs r) ⟨by simp only [wfK, hl.1, hr.1, Bool.and_self], hl.2, hr.2⟩).weaken fun t w2 ⟨ht, hw2⟩ => ?_
        exact ⟨ht, expr1_chain p_expr1_expr1_and_expr1 t_and hw1 hw2⟩
      · -- or
        refine .eat (by simp) rfl (.bind ihU fun r w1 ⟨hr, hw1⟩ => .line fun l => ?_)
        refine (ihB (.or l lhs r) ⟨by simp only [wfK, hl.1, hr.1, Bool.and_self], hl.2, hr.2⟩).weaken fun t w2 ⟨ht, hw2⟩ => ?_
        exact ⟨ht, expr1_chain p_expr1_expr1_or_expr1 t_or hw1 hw2⟩

theorem validateActions_acc {a : CTree} {m B : Nat} : Acc m B (validateActions a) (fun _ w => aloneOK a = true ∧ w = []) := by
  unfold validateActions
  split
  · exact .failAt _
  · rename_i h
    refine .pure ⟨?_, rfl⟩
    simp only [aloneOK]
    simp only [Bool.and_eq_true, Bool.or_eq_true, decide_eq_true_eq, not_and, not_or] at h
    by_cases h1 : a.countActions ≤ 1
    · simp [h1]
    · have := h (by omega)
      simp only [Bool.or_eq_true, decide_eq_true_eq, Bool.and_eq_true, beq_iff_eq]
      right; omega

/-- After `{`: rules and the closing brace. -/
def BlockRest (w : List Sym) : Prop := ∃ u, w = u ++ ["'}'"] ∧ Extends "exprs" u

theorem exprblock_of_rest {w : List Sym} (h : BlockRest w) : Derives GP "exprblock" ("'{'" :: w) := by
  obtain ⟨u, rfl, hu⟩ := h
  have he : Derives GP "exprs" u := (hu [] (Derives.node p_exprs_empty .nil)).cast (by simp)
  exact (Derives.node p_exprblock_lbrace_exprs_rbrace (.cons (.leaf t_lbrace) (.cons he (.cons (.leaf t_rbrace) .nil)))).cast
    (by simp)

theorem expractions_of_ext {w : List Sym} (h : Extends "expractions" w) : Derives GP "expractions" w :=
  (h [] (Derives.node p_expractions_empty .nil)).cast (by simp)

abbrev Wblock (cx : PCtx) (t : CTree) (w : List Sym) : Prop := TreeOK cx .block t ∧ BlockRest w
abbrev Wacts (cx : PCtx) (r : Option CTree) (w : List Sym) : Prop :=
  (∀ a, r = some a → TreeOK cx .acts a) ∧ Extends "expractions" w

theorem parseRuleWith_acc {cx : PCtx} {fuel B : Nat} {exprs : PM CTree} {actions : PM (Option CTree)}
    (hex : Acc (fuel - 1) B exprs (Wblock cx)) (hac : Acc fuel B actions (Wacts cx)) :
    Acc fuel B (parseRuleWith cx fuel exprs actions) (fun t w => TreeOK cx .rule t ∧ Derives GP "expr" ("MATCH" :: w)) := by
  unfold parseRuleWith
  refine .bind (cond_acc fuel).1 fun c0 w1 ⟨hc0, hw1⟩ => ?_
  refine .bind ((cond_acc fuel).2 c0 hc0) fun c w2 ⟨hc, hw2⟩ => ?_
  have hcond : Derives GP "expr1" (w1 ++ w2) := hw2 _ hw1
  have hrule : ∀ {x w3}, GP.contains ("expr2", [x]) = true → Derives GP x w3 →
      Derives GP "expr" ("MATCH" :: (w1 ++ (w2 ++ w3))) := fun hp h =>
    (Derives.node p_expr_match_expr1_expr2
      (.cons (.leaf t_match) (.cons hcond (.cons (Derives.node hp (.cons h .nil)) .nil)))).cast (by simp)
  refine .peek fun t => ?_
  have hacts : AccG fuel false B (some t) none (do
      let acts ← actions
      match acts with
      | none => failTok
      | some a => do
        validateActions a
        let l ← curLine cx
        pure (CTree.mtch l c a))
      (fun a w3 => TreeOK cx .rule a ∧ Derives GP "expr" ("MATCH" :: (w1 ++ (w2 ++ w3)))) := by
    refine .anyLa (.bind hac fun acts w3 ⟨hw, hw3⟩ => ?_)
    cases acts with
    | none => exact .fail
    | some a =>
      refine .bind validateActions_acc fun _ w4 ⟨hal, hw4⟩ => ?_
      subst hw4
      refine .line fun l => .pure ⟨⟨?_, hc.2, (hw a rfl).2⟩, ?_⟩
      · simp only [wfK, hc.1, (hw a rfl).1, hal, Bool.and_self, Bool.or_true]
      · exact (hrule p_expr2_expractions (expractions_of_ext hw3)).cast (by simp)
  cases t <;> try exact hacts
  -- lbrace
  refine .eat (by simp) rfl (.bind hex fun b w3 ⟨hb, hw3⟩ => ?_)
  split
  · exact .fail
  · rename_i hcount
    have : b.countActions > 0 := by
      simp only [beq_iff_eq] at hcount; omega
    refine .line fun l => .pure ⟨⟨?_, hc.2, hb.2⟩, ?_⟩
    · simp only [wfK, hc.1, hb.1, this, decide_true, Bool.and_self, Bool.true_or]
    · exact (hrule p_expr2_exprblock (exprblock_of_rest hw3)).cast (by simp [tkKind])

theorem parseActionWith_acc {cx : PCtx} {fuel B : Nat} {exprs : PM CTree} {k : Kw} {p : PM CTree}
    (hp : parseActionWith cx fuel exprs k = some p) (hex : Acc fuel B exprs (Wblock cx)) :
    AccAt (fuel + 1) B (.kw k) p (Wtree cx .act "expraction") := by
  have hleaf : ∀ e : Expr, e.leafAction = true → leafOK cx.rxOk e = true → leafClean e → TreeOK cx .act (.leaf e) :=
    fun e h1 h2 h3 => ⟨by simp only [wfK, h1, h2, Bool.and_self], h3⟩
  cases k <;> simp only [parseActionWith] at hp <;> try cases hp
  case brk =>
    exact kwLeaf_acc (mk := Expr.brk) .brk (fun _ => hleaf _ rfl rfl trivial)
      (Derives.node p_expraction_break (.cons (.leaf t_break) .nil))
  case discard =>
    exact kwLeaf_acc (mk := Expr.discard) .discard (fun _ => hleaf _ rfl rfl trivial)
      (Derives.node p_expraction_discard (.cons (.leaf t_discard) .nil))
  case pass =>
    exact kwLeaf_acc (mk := Expr.pass) .pass (fun _ => hleaf _ rfl rfl trivial)
      (Derives.node p_expraction_pass (.cons (.leaf t_pass) .nil))
  case reject =>
    exact kwLeaf_acc (mk := Expr.reject) .reject (fun _ => hleaf _ rfl rfl trivial)
      (Derives.node p_expraction_reject (.cons (.leaf t_reject) .nil))
  all_goals refine .eat (by simp) rfl ?_
  case addheader =>
    refine .bind parseStr_acc fun k w1 hw1 => ?_
    refine .bind parseStr_acc fun v w2 hw2 => ?_
    subst hw1; subst hw2
    refine .line fun l => .expandMac fun k' => .expandMac fun v' => ?_
    exact .pure ⟨hleaf _ rfl rfl trivial, Derives.node p_expraction_addheader_string_string
      (.cons (.leaf t_addheader) (.cons (.leaf t_string) (.cons (.leaf t_string) .nil)))⟩
  case attachment =>
    refine .bind (expectTk_acc .lbrace (by simp) rfl) fun _ w1 hw1 => ?_
    subst hw1
    refine .bind hex fun b w2 ⟨hb, hw2⟩ => ?_
    split
    · exact .fail
    · split
      · exact .fail
      · rename_i h0 hle
        have h0' : b.countActions ≠ 0 := by simpa using h0
        refine .line fun l => .pure ⟨⟨?_, hb.2⟩, ?_⟩
        · simp only [wfK, hb.1, Bool.true_and, Bool.and_eq_true, decide_eq_true_eq]
          omega
        · exact (Derives.node p_expraction_attachment_exprblock
            (.cons (.leaf t_attachment) (.cons (exprblock_of_rest hw2) .nil))).cast (by simp [tkKind, kwSym])
  case exec =>
    refine .bind (parseExecFlags_acc fuel _ _) fun fl w1 hw1 => ?_
    refine .bind parseStrings_acc fun ss w2 hw2 => ?_
    refine .line fun l => .expandAll fun v => ?_
    split
    · exact .fail
    · rename_i hfl
      have hf : Derives GP "exec_flags" w1 := (hw1 [] (Derives.node p_exec_flags_empty .nil)).cast (by simp)
      refine .pure ⟨hleaf _ rfl ?_ trivial,
        Derives.node p_expraction_exec_exec_flags_strings (.cons (.leaf t_exec) (.cons hf (.cons hw2 .nil)))⟩
      simp only [leafOK]
      cases h1 : fl.1 <;> cases h2 : fl.2 <;> simp_all
  case flag =>
    refine .bind parseOptNeg_acc fun ng w1 hw1 => ?_
    refine .bind (expectTk_acc (.kw .new) (by simp) rfl) fun _ w2 hw2 => ?_
    subst hw2
    have hfl : Derives GP "flag" (w1 ++ ["NEW"]) :=
      (Derives.node p_flag_optneg_new (.cons hw1 (.cons (.leaf t_new) .nil))).cast (by simp)
    exact .line fun l => .pure ⟨hleaf _ rfl rfl trivial,
      (Derives.node p_expraction_flag_flag (.cons (.leaf t_flag) (.cons hfl .nil))).cast (by simp [tkKind, kwSym])⟩
  case flags =>
    refine .bind parseStr_acc fun str w hw => ?_
    subst hw
    refine .line fun l => .expandMac fun str' => ?_
    exact .pure ⟨hleaf _ rfl rfl trivial,
      Derives.node p_expraction_flags_string (.cons (.leaf t_flags) (.cons (.leaf t_string) .nil))⟩
  case label =>
    refine .bind parseStrings_acc fun ss w hw => ?_
    refine .line fun l => .expandAll fun v => ?_
    exact .pure ⟨hleaf _ rfl rfl trivial, Derives.node p_expraction_label_strings (.cons (.leaf t_label) (.cons hw .nil))⟩
  case move =>
    refine .bind parseStr_acc fun str w hw => ?_
    subst hw
    refine .line fun l => .expandOne fun v => ?_
    exact .pure ⟨hleaf _ rfl rfl trivial,
      Derives.node p_expraction_move_string (.cons (.leaf t_move) (.cons (.leaf t_string) .nil))⟩

theorem andJoin_acc {cx : PCtx} {acc : Option CTree} {a : CTree} {m B : Nat} :
    Acc m B (andJoin cx acc a) (fun r w => (∃ l, r = some (match acc with | none => a | some p => .and l p a)) ∧ w = []) := by
  unfold andJoin
  exact .line fun l => .pure ⟨⟨l, by cases acc <;> rfl⟩, rfl⟩

/-- `parseExprs` and `parseActions`, which call each other (through `parseRuleWith` and `parseActionWith`): one induction
on the budget for both. -/
theorem block_acc {cx : PCtx} {B : Nat} : ∀ fuel : Nat,
    (∀ acc, (∀ a, acc = some a → TreeOK cx .rules a) → Acc fuel B (parseExprs cx fuel acc) (Wblock cx)) ∧
    (∀ acc, (∀ a, acc = some a → TreeOK cx .acts a) → Acc fuel B (parseActions cx fuel acc) (Wacts cx)) := by
  intro fuel
  induction fuel with
  | zero => exact ⟨fun _ _ => .zero, fun _ _ => .zero⟩
  | succ fuel ih =>
    obtain ⟨ihE, ihA⟩ := ih
    have hnone : ∀ k a, (none : Option CTree) = some a → TreeOK cx k a := fun _ _ h => by cases h
    constructor
    · intro acc hacc
      unfold parseExprs
      refine .peek fun t => ?_
      cases t <;> try exact .fail
      · -- kw
        rename_i k
        cases k <;> try exact .fail
        refine .eat (by simp) rfl ?_
        refine .bind (parseRuleWith_acc ((ihE none (hnone _)).mono (Nat.sub_le _ _)) (ihA none (hnone _)))
          fun r w1 ⟨hr, hw1⟩ => .line fun l => ?_
        refine (ihE _ ?_).weaken ?_
        · intro a ha
          cases acc with
          | none => simp only [Option.some.injEq] at ha; subst ha; exact ⟨wf_rule_rules _ _ hr.1, hr.2⟩
          | some p =>
            simp only [Option.some.injEq] at ha
            subst ha
            exact ⟨by simp only [wfK, (hacc p rfl).1, hr.1, Bool.and_self], (hacc p rfl).2, hr.2⟩
        · intro b w2 ⟨hb, u, hu, hext⟩
          subst hu
          refine ⟨hb, "MATCH" :: (w1 ++ u), by simp [tkKind, kwSym], ?_⟩
          intro pre hpre
          have hj : Derives GP "exprs" (pre ++ "MATCH" :: w1) :=
            (Derives.node p_exprs_exprs_expr (.cons hpre (.cons hw1 .nil))).cast (by simp)
          exact (hext _ hj).cast (by simp)
      · -- rbrace
        refine .eat (by simp) rfl (.line fun l => .pure ⟨?_, [], rfl, Extends.nil _⟩)
        cases acc with
        | none => exact ⟨by simp [wfK], trivial⟩
        | some p => exact ⟨by simp [wfK, (hacc p rfl).1], (hacc p rfl).2⟩
    · intro acc hacc
      unfold parseActions
      refine .peek fun t => ?_
      have hdef : AccG (fuel + 1) false B (some t) none (pure acc) (Wacts cx) := .pure ⟨hacc, Extends.nil _⟩
      cases t <;> try exact hdef
      rename_i k
      dsimp only
      cases hp : parseActionWith cx fuel (parseExprs cx fuel none) k with
      | none => exact hdef
      | some p =>
        refine AccG.le (.bind (parseActionWith_acc hp (ihE none (hnone _))) fun a w1 ⟨ha, hw1⟩ => ?_)
        refine .bind andJoin_acc fun acc' w ⟨⟨l, hacc'⟩, hw⟩ => ?_
        subst hacc' hw
        refine (ihA _ ?_).weaken ?_
        · intro a' ha'
          cases acc with
          | none => simp only [Option.some.injEq] at ha'; subst ha'; exact ⟨wf_act_acts _ _ ha.1, ha.2⟩
          | some q =>
            simp only [Option.some.injEq] at ha'
            subst ha'
            exact ⟨by simp only [wfK, (hacc q rfl).1, ha.1, Bool.and_self], (hacc q rfl).2, ha.2⟩
        · intro r w2 ⟨hr, hw2⟩
          refine ⟨hr, ?_⟩
          intro pre hpre
          have hj : Derives GP "expractions" (pre ++ w1) :=
            (Derives.node p_expractions_expractions_expraction (.cons hpre (.cons hw1 .nil))).cast (by simp)
          exact (hw2 _ hj).cast (by simp)

theorem parseMaildirBody_acc {cx : PCtx} {fuel B : Nat} {paths : List Bytes} :
    Acc fuel B (parseMaildirBody cx fuel paths)
      (fun b w => blockOK cx.rxOk b = true ∧ treeClean b.tree ∧ Derives GP "exprblock" w) := by
  unfold parseMaildirBody
  refine .bind (expectTk_acc .lbrace (by simp) rfl) fun _ w1 hw1 => ?_
  subst hw1
  refine .bind ((block_acc fuel).1 none (fun _ h => by cases h)) fun b w2 ⟨hb, hw2⟩ => ?_
  split
  · exact .fail
  · rename_i hc
    split
    · exact .fail
    · rename_i hr
      refine .pure ⟨?_, hb.2, (exprblock_of_rest hw2).cast (by simp [tkKind])⟩
      have hc' : b.countActions > 0 := by simp only [beq_iff_eq] at hc; omega
      simp only [blockOK, hb.1, hc', decide_true, Bool.and_self, Bool.true_and]
      simp only [Bool.and_eq_true, decide_eq_true_eq, not_and] at hr
      cases hany : (paths.any fun p => !isStdinStr p)
      · simp
      · have := hr hany
        simp only [Bool.not_true, Bool.false_or, beq_iff_eq]
        omega

theorem parseMacroDef_acc {cx : PCtx} {name : Bytes} {m B : Nat} :
    Acc m B (parseMacroDef cx name) (fun _ w => w = ["'='", "STRING"]) := by
  unfold parseMacroDef
  refine .bind (expectTk_acc .eq (by simp) rfl) fun _ w1 hw1 => ?_
  subst hw1
  refine .bind parseStr_acc fun v w2 hw2 => ?_
  subst hw2
  refine .line fun l => .expandOne fun v' => ?_
  intro s hs hlt hla
  rw [wp_bind, wp_getMacros]
  split
  · exact hs.pot
  · exact ⟨[], ⟨hs.macros _, Nat.le_refl _, .none⟩, Back.macros (Back.refl s) _, rfl⟩

abbrev BlocksOK (cx : PCtx) (bs : List PBlock) : Prop := ∀ b ∈ bs, blockOK cx.rxOk b = true ∧ treeClean b.tree

theorem parseTop_acc {cx : PCtx} {B : Nat} : ∀ (fuel : Nat) (blocks : List PBlock), BlocksOK cx blocks →
    AccG fuel false B none (some .eof) (parseTop cx fuel blocks) (fun bs w => BlocksOK cx bs ∧ Extends "grammar" w) := by
  intro fuel
  induction fuel with
  | zero => exact fun _ _ => .zero
  | succ fuel ih =>
    intro blocks hbl
    unfold parseTop
    refine .peek fun t => ?_
    have hadd : ∀ b : PBlock, blockOK cx.rxOk b = true ∧ treeClean b.tree → BlocksOK cx (blocks ++ [b]) := by
      intro b hb b' hb'
      simp only [List.mem_append, List.mem_singleton] at hb'
      rcases hb' with hb' | hb'
      · exact hbl _ hb'
      · subst hb'; exact hb
    have hblock : ∀ {wp1 w2 w3 : List Sym}, Derives GP "maildir_paths" wp1 → Derives GP "exprblock" w2 →
        Extends "grammar" w3 → Extends "grammar" (wp1 ++ (w2 ++ w3)) := by
      intro wp1 w2 w3 h1 h2 h3 pre hpre
      have hm : Derives GP "maildir" (wp1 ++ w2) :=
        (Derives.node p_maildir_maildir_paths_exprblock (.cons h1 (.cons h2 .nil))).cast (by simp)
      have hg : Derives GP "grammar" (pre ++ (wp1 ++ w2)) :=
        (Derives.node p_grammar_grammar_maildir (.cons hpre (.cons hm .nil))).cast (by simp)
      exact (h3 _ hg).cast (by simp)
    cases t <;> try exact .fail
    · -- eof
      exact .pureLa ⟨hbl, Extends.nil _⟩
    · -- macro
      rename_i name
      refine .eat (by simp) rfl (.bind parseMacroDef_acc fun _ w1 hw1 => ?_)
      subst hw1
      refine (ih blocks hbl).weaken fun bs w3 ⟨hbs, hw3⟩ => ⟨hbs, fun pre hpre => ?_⟩
      have hm : Derives GP "macro" ["MACRO", "'='", "STRING"] :=
        Derives.node p_macro_macro_eq_string (.cons (.leaf t_macro) (.cons (.leaf t_eq) (.cons (.leaf t_string) .nil)))
      have hg : Derives GP "grammar" (pre ++ ["MACRO", "'='", "STRING"]) :=
        (Derives.node p_grammar_grammar_macro (.cons hpre (.cons hm .nil))).cast (by simp)
      exact (hw3 _ hg).cast (by simp [tkKind])
    · -- kw
      rename_i k
      cases k <;> try exact .fail
      · -- maildir
        refine .eat (by simp) rfl ?_
        refine .bind parseStrings_acc fun ss w1 hw1 => .expandAll fun paths => ?_
        refine .bind parseMaildirBody_acc fun b w2 ⟨hb, hbc, hw2⟩ => ?_
        refine (ih _ (hadd b ⟨hb, hbc⟩)).weaken fun bs w3 ⟨hbs, hw3⟩ => ⟨hbs, ?_⟩
        have hp : Derives GP "maildir_paths" ("MAILDIR" :: w1) :=
          (Derives.node p_maildir_paths_maildir_strings (.cons (.leaf t_maildir) (.cons hw1 .nil))).cast (by simp)
        exact hblock hp hw2 hw3
      · -- stdin
        refine .eat (by simp) rfl ?_
        split
        · exact .fail
        · refine .bind parseMaildirBody_acc fun b w2 ⟨hb, hbc, hw2⟩ => ?_
          refine (ih _ (hadd b ⟨hb, hbc⟩)).weaken fun bs w3 ⟨hbs, hw3⟩ => ⟨hbs, ?_⟩
          exact hblock (Derives.node p_maildir_paths_stdin (.cons (.leaf t_stdin) .nil)) hw2 hw3

theorem parseConfigFull_of_defs {home : Bytes} {defs : List (Bytes × Bytes)} {rx : Pat → Bool} {input : Bytes} {ms : List Macro}
    (hd : macrosOfDefs defs [] = some ms) :
    parseConfigFull home defs rx input =
      match parseTop { nl := countNl input, home := home, rxOk := rx } (input.length + 1) [] { rest := input, macros := ms } with
      | .ok blocks s =>
        match firstUnused s.macros with
        | some m => { res := .error m.lno, nlex := s.nlex }
        | none => { res := .ok blocks, nlex := s.nlex }
      | .err l s => { res := .error l, nlex := s.nlex }
      | .fuel s => { res := .fuel, nlex := s.nlex } := by
  unfold parseConfigFull
  rw [hd]
  rfl

/-- The parser returns for every input without exhausting its recursion budget and calls the lexer at most
`input.length + 1` times; every block of an accepted configuration is well formed and clean, and the
token kinds the lexer model delivers for an accepted text are the yield of a checked parse tree whose root
is the start symbol. -/
theorem parseConfigFull_acc (home : Bytes) (defs : List (Bytes × Bytes)) (rx : Pat → Bool) (input : Bytes) :
    (parseConfigFull home defs rx input).res ≠ .fuel ∧
    (parseConfigFull home defs rx input).nlex ≤ input.length + 1 ∧
    ∀ blocks, (parseConfigFull home defs rx input).res = .ok blocks →
      (∀ b ∈ blocks, blockOK rx b = true ∧ treeClean b.tree) ∧
      ∃ t : Tree, t.ok Gen.productions = true ∧ t.root = Gen.grammarStart ∧ Lexes false input t.yield := by
  cases hd : macrosOfDefs defs [] with
  | none => simp [parseConfigFull, hd]
  | some ms =>
    rw [parseConfigFull_of_defs hd]
    have := parseTop_acc (cx := { nl := countNl input, home := home, rxOk := rx }) (B := input.length + 1) (input.length + 1) []
      (fun _ h => by cases h) { rest := input, macros := ms }
      ⟨(by show 0 + input.length + 1 ≤ input.length + 1; omega), fun t ht => (by cases ht)⟩
      (by show input.length + 0 < input.length + 1; omega) .none
    unfold wp at this
    have hnl : ∀ s : ParseSt, phi s ≤ input.length + 1 → s.nlex ≤ input.length + 1 := by
      intro s h; unfold phi at h; omega
    split at this
    · rename_i blocks s' heq
      obtain ⟨w, ⟨hg, _, hla⟩, hback, hbs, hext⟩ := this
      rw [heq]
      simp only
      cases hu : firstUnused s'.macros with
      | some m => exact ⟨by simp, hnl _ hg.pot, by simp⟩
      | none =>
        refine ⟨by simp, hnl _ hg.pot, ?_⟩
        intro bl hbl
        simp only [ParseResult.ok.injEq] at hbl
        subst hbl
        refine ⟨hbs, ?_⟩
        have hlex : Lexes false input (w ++ []) := hback [] (by unfold Rem; rw [hla _ rfl]; exact Or.inl ⟨rfl, rfl⟩)
        obtain ⟨t, h1, h2, h3⟩ := (hext [] (Derives.node p_grammar_empty .nil)).cast (List.nil_append w)
        exact ⟨t, h1, by rw [h2, start_symbol], by rw [h3]; simpa using hlex⟩
    · rename_i l s' heq
      rw [heq]
      exact ⟨by simp, hnl _ this, by simp⟩
    · exact absurd this id

/-- `parseConfigFull_acc` without the grammar and `treeClean`. -/
theorem parseConfigFull_spec (home : Bytes) (defs : List (Bytes × Bytes)) (rxOk : Pat → Bool) (input : Bytes) :
    (parseConfigFull home defs rxOk input).res ≠ .fuel ∧
    (parseConfigFull home defs rxOk input).nlex ≤ input.length + 1 ∧
    ∀ blocks, (parseConfigFull home defs rxOk input).res = .ok blocks → ∀ b ∈ blocks, blockOK rxOk b = true :=
  have h := parseConfigFull_acc home defs rxOk input
  ⟨h.1, h.2.1, fun blocks hb b hm => ((h.2.2 blocks hb).1 b hm).1⟩

end Mdsort.Proofs.Conf
