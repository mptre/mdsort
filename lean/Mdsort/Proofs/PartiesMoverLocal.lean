import Mdsort.Proofs.Parties
import Mdsort.Proofs.WorldKinds

/-! The protocol `MoverI` of a rename-based delivery (move / flag / flags on one device) stated by itself: a name is created
exclusively, the message is renamed onto it or, failing that, the name is unlinked; nothing else is created, removed or
written.  `MoverI` allows less than the protocol `CopyI` of every action kind, whatever the messages to copy (`moverI_copyI`,
`LocalOK.general` in `PartiesExactly`).  The exactly-once theorem for rename-only parties is proved on `CopyI` with no message
to copy (`plain_run`), not on `MoverI`.  Before it: names in flight as a function of a party's trace, the results on one
device (`MoverR`). -/

namespace Mdsort.Proofs.Parties
open Mdsort Mdsort.Model
open Mdsort.Proofs.World (Calls)
open Mdsort.Proofs.Own

theorem inFlightH_snoc (tr : Trace) (e : Call × Res) : inFlightH (tr ++ [e]) = inFlightUpd (inFlightH tr) e := by
  simp [inFlightH, List.foldl_append]

theorem inFlightUpd_unlinkat (acc : List (Handle × Bytes)) (d : Handle) (n : Bytes) (r : Res) :
    inFlightUpd acc (.unlinkat d n, r) =
      if acc.contains (d, n) then acc.filter (· != (d, n)) else if isOk r then [] else acc := by
  cases r <;> rfl

/-- Results a mover can see: a `renameat` succeeds or fails, and never with `EXDEV` (one device). -/
def MoverR (c : Call) (r : Res) : Prop :=
  ∀ d1 n1 d2 n2, c = .renameat d1 n1 d2 n2 → (∃ v, r = .ok v) ∨ (∃ e, r = .err e ∧ e ≠ "EXDEV")

def MoverI (tr : Trace) : Call → Prop
  | .unlinkat d n => (d, n) ∈ inFlightH tr
  | .renameat _ _ d2 n2 => (d2, n2) ∈ inFlightH tr
  | .close _ | .closedir _ | .openExcl .. => inFlightH tr = []
  | .opendir _ | .fstatat .. | .utimensat .. => True
  | _ => False

/-- Calls that leave the entries alone and are issued with nothing in flight. -/
def Neutral : Call → Prop
  | .opendir _ | .closedir _ | .close _ | .fstatat .. | .utimensat .. => True
  | _ => False

theorem Neutral.of_kind {K : List World.Kind} (hK : ∀ k ∈ K, k ∈ [.opendir, .closedir, .close, .fstatat, .utimensat])
    {c : Call} (h : c.kind ∈ K) : Neutral c := by
  cases c <;> first | exact True.intro | exact (Bool.false_ne_true (List.elem_eq_true_of_mem (hK _ h))).elim

theorem neutral_setFile_none (ms : MsgSt) (dir name : Bytes) : Calls Neutral (messageSetFile ms dir name none) :=
  (World.kinds_messageSetFile ms dir name none).mono fun _ => Neutral.of_kind (by decide)

/-- The action types that deliver by renaming. -/
def isMover (mh : Match) : Prop := mh.ty = .move ∨ mh.ty = .flag ∨ mh.ty = .flags

end Mdsort.Proofs.Parties
