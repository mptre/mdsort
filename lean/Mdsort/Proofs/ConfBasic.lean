import Mdsort.Model.Conf
import Mdsort.Proofs.Lex

/-!
# Reasoning about the parser monad of Model/Conf.lean

`wp p Q E F s`: running `p` from `s` ends in `ok a s'` with `Q a s'`, or reports a diagnostic in a
state satisfying `E`, or runs out of recursion budget and then `F` holds (`F := False`: it does not).
-/

namespace Mdsort.Proofs.Conf
open Mdsort Mdsort.Model

def wp {α : Type} (p : PM α) (Q : α → ParseSt → Prop) (E : ParseSt → Prop) (F : Prop) (s : ParseSt) : Prop :=
  match p s with
  | .ok a s' => Q a s'
  | .err _ s' => E s'
  | .fuel _ => F

variable {α β : Type} {Q : α → ParseSt → Prop} {E : ParseSt → Prop} {F : Prop} {s : ParseSt}

theorem wp_pure (a : α) : wp (pure a : PM α) Q E F s = Q a s := rfl

theorem wp_failTok : wp (failTok : PM α) Q E F s = E s := rfl
theorem wp_failAt (l : Nat) : wp (failAt l : PM α) Q E F s = E s := rfl
theorem wp_outOfFuel : wp (outOfFuel : PM α) Q E F s = F := rfl
theorem wp_curLine (cx : PCtx) {Q : Nat → ParseSt → Prop} : wp (curLine cx) Q E F s = Q (lineOf cx.nl s.rest) s := rfl
theorem wp_getMacros {Q : List Macro → ParseSt → Prop} : wp getMacros Q E F s = Q s.macros s := rfl
theorem wp_setMacros (ms : List Macro) {Q : Unit → ParseSt → Prop} :
    wp (setMacros ms) Q E F s = Q () { s with macros := ms } := rfl

/-- Tokens still to be shifted: bounded by the unread bytes, plus the lookahead if it is a real token.  The lookahead
`eof` counts 0: end of input is never shifted (`Model.shift`). -/
def mu (s : ParseSt) : Nat :=
  s.rest.length + (match s.la with | some .eof => 0 | some _ => 1 | none => 0)

/-- Potential bounding the number of lexer calls.  Every call consumes at least one byte, except the one that returns end
of input; that one is made at most once (afterwards the lookahead is `eof` and `peek` does not call the lexer): the summand
1 stands for it until it has been made.  At the start `phi` is `input.length + 1`, the bound of `parseConfigFull_spec`. -/
def phi (s : ParseSt) : Nat :=
  s.nlex + s.rest.length + (match s.la with | some .eof => 0 | _ => 1)

/-- At most `n` tokens can still be shifted, potential at most `B`: the form in which `Inv.afterLex` and `Inv.shift` say
what a lexer call and a shift do to the two bounds.  The pass over the parser (`AccG`, Proofs/ConfSpec1.lean) carries the
bounds separately and uses the two lemmas at `n := mu s`. -/
def Inv (n B : Nat) (s : ParseSt) : Prop := mu s ≤ n ∧ phi s ≤ B

theorem mu_macros (s : ParseSt) (ms : List Macro) : mu { s with macros := ms } = mu s := rfl
theorem phi_macros (s : ParseSt) (ms : List Macro) : phi { s with macros := ms } = phi s := rfl
theorem Inv_macros {n B : Nat} (s : ParseSt) (ms : List Macro) : Inv n B { s with macros := ms } = Inv n B s := rfl

theorem ofToken_char (c : UInt8) :
    (c = 123 ∧ Tk.ofToken (.char c) = .lbrace) ∨ (c = 125 ∧ Tk.ofToken (.char c) = .rbrace) ∨
    (c = 40 ∧ Tk.ofToken (.char c) = .lparen) ∨ (c = 41 ∧ Tk.ofToken (.char c) = .rparen) ∨
    (c = 60 ∧ Tk.ofToken (.char c) = .lt) ∨ (c = 62 ∧ Tk.ofToken (.char c) = .gt) ∨
    (c = 61 ∧ Tk.ofToken (.char c) = .eq) ∨ Tk.ofToken (.char c) = .other c := by
  by_cases h1 : c = 123
  · exact .inl ⟨h1, h1 ▸ rfl⟩
  by_cases h2 : c = 125
  · exact .inr (.inl ⟨h2, h2 ▸ rfl⟩)
  by_cases h3 : c = 40
  · exact .inr (.inr (.inl ⟨h3, h3 ▸ rfl⟩))
  by_cases h4 : c = 41
  · exact .inr (.inr (.inr (.inl ⟨h4, h4 ▸ rfl⟩)))
  by_cases h5 : c = 60
  · exact .inr (.inr (.inr (.inr (.inl ⟨h5, h5 ▸ rfl⟩))))
  by_cases h6 : c = 62
  · exact .inr (.inr (.inr (.inr (.inr (.inl ⟨h6, h6 ▸ rfl⟩)))))
  by_cases h7 : c = 61
  · exact .inr (.inr (.inr (.inr (.inr (.inr (.inl ⟨h7, h7 ▸ rfl⟩))))))
  · refine .inr (.inr (.inr (.inr (.inr (.inr (.inr ?_))))))
    simp only [Tk.ofToken, beq_iff_eq, h1, h2, h3, h4, h5, h6, h7, if_false]

theorem ofToken_keyword (n : String) :
    (∃ k, Kw.ofName n = some k ∧ Tk.ofToken (.keyword n) = .kw k) ∨ Tk.ofToken (.keyword n) = .other 0 := by
  simp only [Tk.ofToken]
  cases Kw.ofName n with
  | none => exact .inr rfl
  | some k => exact .inl ⟨k, rfl, rfl⟩

theorem ofToken_eof (t : Token) : Tk.ofToken t = .eof ↔ t = .eof := by
  fun_cases Tk.ofToken t <;> simp

def afterLex (cx : PCtx) (pf sf : Bool) (s : ParseSt) : ParseSt :=
  { s with rest := (lex1 pf sf s.afterMacro s.rest).rest, la := some (Tk.ofToken (lex1 pf sf s.afterMacro s.rest).tok),
           tokLine := tokLineOf cx.nl s.rest,
           afterMacro := (match (lex1 pf sf s.afterMacro s.rest).tok with | .macro _ => true | _ => false),
           nlex := s.nlex + 1 }

theorem afterLex_la (cx : PCtx) (pf sf : Bool) (s : ParseSt) :
    (afterLex cx pf sf s).la = some (Tk.ofToken (lex1 pf sf s.afterMacro s.rest).tok) := rfl

theorem afterLex_rest (cx : PCtx) (pf sf : Bool) (s : ParseSt) :
    (afterLex cx pf sf s).rest = (lex1 pf sf s.afterMacro s.rest).rest := rfl

theorem peek_la {cx : PCtx} {pf sf : Bool} {t : Tk} (h : s.la = some t) : peek cx pf sf s = .ok t s := by
  unfold peek
  rw [h]

theorem peek_lex {cx : PCtx} {pf sf : Bool} (h : s.la = none) :
    peek cx pf sf s =
      if (lex1 pf sf s.afterMacro s.rest).errors > 0 then .err (lexErrLine cx.nl s.afterMacro s.rest) (afterLex cx pf sf s)
      else .ok (Tk.ofToken (lex1 pf sf s.afterMacro s.rest).tok) (afterLex cx pf sf s) := by
  unfold peek
  rw [h]
  rfl

theorem shift_tok {t : Tk} (h : s.la = some t) (ht : t ≠ .eof) : shift s = .ok () { s with la := none } := by
  simp only [shift, h]
  -- only the end of input is not shifted
  cases t with
  | eof => exact absurd rfl ht
  | _ => rfl

theorem Inv.afterLex {n B : Nat} (cx : PCtx) (pf sf : Bool) (hs : Inv n B s) (hla : s.la = none) :
    Inv n B (afterLex cx pf sf s) := by
  have hp := lex_progress pf sf s.afterMacro s.rest
  simp only at hp
  unfold Conf.afterLex
  generalize lex1 pf sf s.afterMacro s.rest = r at hp ⊢
  obtain ⟨⟨pre, hpre⟩, hlt⟩ := hp
  have hlen : r.rest.length ≤ s.rest.length := by
    have := congrArg List.length hpre
    simp only [List.length_append] at this
    omega
  obtain ⟨h1, h2⟩ := hs
  simp only [mu, phi, hla] at h1 h2
  by_cases he : r.tok = .eof
  · have : Tk.ofToken r.tok = .eof := (ofToken_eof _).2 he
    refine ⟨?_, ?_⟩
    · simp only [mu, this]; omega
    · simp only [phi, this]; omega
  · have hne : Tk.ofToken r.tok ≠ .eof := fun h => he ((ofToken_eof _).1 h)
    have hl := hlt he
    generalize Tk.ofToken r.tok = tk at hne
    refine ⟨?_, ?_⟩
    · simp only [mu]
      cases tk with
      | eof => exact absurd rfl hne
      | _ => show r.rest.length + 1 ≤ n; omega
    · simp only [phi]
      cases tk with
      | eof => exact absurd rfl hne
      | _ => show s.nlex + 1 + r.rest.length + 1 ≤ B; omega

theorem Inv.shift {n B : Nat} {t : Tk} (hs : Inv n B s) (hla : s.la = some t) (ht : t ≠ .eof) :
    Inv (n - 1) B { s with la := none } ∧ 0 < n := by
  obtain ⟨h1, h2⟩ := hs
  unfold mu at h1
  unfold phi at h2
  rw [hla] at h1 h2
  -- `mu` and `phi` count a lookahead other than the end of input as one token more
  have h1' : s.rest.length + 1 ≤ n := by
    cases t with
    | eof => exact absurd rfl ht
    | _ => exact h1
  have h2' : s.nlex + s.rest.length + 1 ≤ B := by
    cases t with
    | eof => exact absurd rfl ht
    | _ => exact h2
  refine ⟨⟨?_, ?_⟩, by omega⟩
  · show s.rest.length + 0 ≤ n - 1; omega
  · show s.nlex + s.rest.length + 1 ≤ B; omega

/-- The entries of the regenerated expression table for which `expr_alloc` sets `EXPR_FLAG_ACTION`, by name.
`Expr.leafAction` and `CTree.countActions` (Model/Conf.lean) follow this list; the statement pins the list, the
comparison with the two definitions is by eye. -/
theorem action_flags_table :
    (Gen.exprTable.filter (fun i => i.action)).map (fun i => i.name) =
      ["move", "flag", "flags", "discard", "break", "label", "pass", "reject", "exec", "attachment_block", "add_header"] := by
  decide +kernel

end Mdsort.Proofs.Conf
