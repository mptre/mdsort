import Mdsort.Proofs.WorldExitWalk

/-!
# A whole run in maildir mode under at most one fault: no error flag means every message was placed

The invariant of `WorldExitInv` is carried through the loop over the paths of a block, the loop over
the blocks and `mainP` (`exit0_paths_gen`, `exit0_blocks_gen`, `exit0_mainP_gen`: for an arbitrary `NF` as `exit0_walk_gen`;
the names without `_gen` are the readings for `NF := False`).  `exit0_mainP` with `exit0_final`: for a configuration whose rules meet the per-message
specification (`exit0_StepOK`: rules that ask the operating system nothing, and a dry run or no discard) and in which no message is visited
twice (`exit0_Good`), a run that ends without the error flag has placed every message of the initial
registry as the rules say and has logged the reference log.
-/

namespace Mdsort.Proofs
open Mdsort Mdsort.Model
open Mdsort.Proofs.World (wpS wpS_mono wpS_bind_mono All bind_eq pure_eq call_bind ret_bind call_bind')

/-- The directories the paths `ps` of a block with rules `e` make the run walk, in order. -/
def exit0_pathDirs (e : Expr) (ps : List Bytes) : List (Bytes × Expr) :=
  (ps.filter fun p => !isStdinPath p).flatMap fun p =>
    [(p ++ [47] ++ subdirName .new, e), (p ++ [47] ++ subdirName .cur, e)]

/-- The directories a configuration makes a run in maildir mode walk, in order, with their rules. -/
def exit0_dirsOf (conf : List ConfBlock) : List (Bytes × Expr) := conf.flatMap fun b => exit0_pathDirs b.expr b.paths

theorem exit0_pathDirs_skip (e : Expr) (p : Bytes) (more : List Bytes) (h : isStdinPath p = true) :
    exit0_pathDirs e (p :: more) = exit0_pathDirs e more := by
  simp [exit0_pathDirs, h]

theorem exit0_pathDirs_cons (e : Expr) (p : Bytes) (more : List Bytes) (h : isStdinPath p = false) :
    exit0_pathDirs e (p :: more) =
      (p ++ [47] ++ subdirName .new, e) :: (p ++ [47] ++ subdirName .cur, e) :: exit0_pathDirs e more := by
  simp [exit0_pathDirs, h]

theorem exit0_paths_sticky (env : PEnv) (orc : EvalOracles) (input : Bytes) (b : ConfBlock) (ps : List Bytes) (st : MainSt)
    (he : st.error = true) : All (fun st' => st'.error = true) (mainP.blocks.paths env orc input b ps st) :=
  Limits.paths_inv Limits.kept_error input b (exit0_processMessage_sticky env orc b.expr) ps st he

theorem exit0_blocks_sticky (env : PEnv) (orc : EvalOracles) (input : Bytes) (bs : List ConfBlock) (st : MainSt)
    (he : st.error = true) : All (fun st' => st'.error = true) (mainP.blocks env orc input bs st) :=
  Limits.blocks_inv Limits.kept_error input (exit0_processMessage_sticky env orc) bs st he

theorem exit0_filter_length_mono {α} (l : List α) (p q : α → Bool) (h : ∀ a, p a = true → q a = true) :
    (l.filter p).length ≤ (l.filter q).length := by
  simpa only [← List.countP_eq_length_filter] using List.countP_mono_left fun a _ => h a

/-- If the loop ends without the error flag, the directories it walked existed in `wr` (`exit0_walk_gen`): each was opened.
In the fault-free dry run (`NF`), where the paths are assumed to fit, it does end without the flag. -/
theorem exit0_paths_gen (C : exit0_Ctx) (hG : exit0_Good C) (hm : C.env.stdinMode = false) (input : Bytes) (b : ConfBlock)
    (hstep : exit0_StepOK C.env C.orc b.expr) {NF : Prop} {wr : World} (hH : NF → dryT_Hyp C wr)
    (hfree : NF → asksFree b.expr = true) (ps : List Bytes) :
    (NF → ∀ p ∈ ps, isStdinPath p = false → dryT_Fits p) →
    ∀ (st : MainSt) (w : World) (bb : Bool) (pre rest : List (Bytes × Expr)),
      C.dirs = pre ++ (exit0_pathDirs b.expr ps ++ rest) → exit0_Inv C (exit0_pathDirs b.expr ps ++ rest) none st w →
      DirsSame wr w → (NF → dryT_Quiet bb st) →
      wpS (mainP.blocks.paths C.env C.orc input b ps st)
        (fun b' st' w' => (st'.error = false → exit0_Inv C rest none st' w' ∧ DirsSame wr w' ∧
          (∀ D ∈ (exit0_pathDirs b.expr ps).map (·.1), (wr.dir D).isSome = true) ∧ st'.fuelOut = st.fuelOut ∧
          ∀ p ∈ ps, isStdinPath p = false → dryT_Fits p) ∧ (NF → dryT_Quiet b' st')) bb w := by
  induction ps with
  | nil =>
    intro _ st w bb pre rest _ hinv hw hq
    rw [Own.paths_nil]
    exact ⟨fun _ => ⟨by simpa [exit0_pathDirs] using hinv, hw, by simp [exit0_pathDirs], rfl, fun _ hp => (by cases hp)⟩, hq⟩
  | cons p more ih =>
    intro hfit st w bb pre rest hs hinv hw hq
    have hfitM : NF → ∀ q ∈ more, isStdinPath q = false → dryT_Fits q := fun nf q hq' => hfit nf q (List.mem_cons_of_mem _ hq')
    rw [Own.paths_cons]
    by_cases hsk : skipPath C.env p = true
    · simp only [hsk, if_true]
      have hsp : isStdinPath p = true := by simpa [skipPath, hm] using hsk
      rw [exit0_pathDirs_skip _ _ _ hsp] at hs hinv ⊢
      refine wpS_mono (ih hfitM st w bb pre rest hs hinv hw hq) fun _ _ _ h => ⟨fun he => ?_, h.2⟩
      obtain ⟨hI, hW, hD, hF, hfitsM⟩ := h.1 he
      exact ⟨hI, hW, hD, hF, List.forall_mem_cons.2 ⟨fun h' => (by rw [hsp] at h'; cases h'), hfitsM⟩⟩
    · simp only [hsk, Bool.false_eq_true, if_false]
      have hsp : isStdinPath p = false := by simpa [skipPath, hm] using hsk
      simp only [hsp, Bool.false_eq_true, if_false]
      rw [exit0_pathDirs_cons _ _ _ hsp] at hs hinv
      split
      · rename_i root np hroot hnp
        have hfits : dryT_Fits p := ⟨by rw [hroot]; rfl, by rw [hnp]; rfl⟩
        have hroot' : root = p := World.eq_of_strlcpyFits hroot
        have hnp' : np = p ++ [47] ++ subdirName .new := World.pathjoin_eq hnp
        subst hroot'
        unfold maildirOpendir
        simp only [maildirOf, bind_eq, pure_eq, call_bind, call_bind']
        rw [← hnp'] at hs hinv
        have hmemP : (np, b.expr) ∈ C.dirs := by rw [hs]; simp
        refine wpS_call_ft fun ft b2 hb2 => ?_
        have hw2 := hw.trans (dirsSame_step w (.opendir np) (World.faultResult ft w (.opendir np)) rfl)
        have hq2 := dryT_Quiet.call hq hb2
        rcases World.opendir_results ft w np with ⟨e2, he2⟩ | ⟨he2, hdp⟩
        · rw [he2]
          simp only [ret_bind, if_true]
          exact exit0_wpS_stuck (exit0_paths_sticky C.env C.orc input b more _ rfl)
            (dryT_opendir hH hw hmemP (fun nf => (hq2 nf).1) he2) _ _
        · rw [he2] at hw2 ⊢
          simp only [ret_bind, Bool.false_eq_true, if_false]
          obtain ⟨es, hobj3, hrem3, hinvO, hrokO, hcntO⟩ := exit0_Inv.opendir hG hinv hdp hmemP
          generalize stepWorld w (.opendir np) (.ok w.handles.length) = w3 at hobj3 hrem3 hinvO hw2 ⊢
          generalize w.handles.length = h3 at hobj3 hrem3 ⊢
          have hcntCur : (st.files.filter (fun x => x.1 == root ++ [47] ++ subdirName .cur)).length ≤
              (st.files.filter fun e => e.1 == np || e.1 == (root ++ [47] ++ subdirName .cur)).length :=
            exit0_filter_length_mono _ _ _ (fun a ha => by rw [Bool.or_eq_true]; exact .inr ha)
          have hcntNew : (st.files.filter (fun x => x.1 == np)).length ≤
              (st.files.filter fun e => e.1 == np || e.1 == (root ++ [47] ++ subdirName .cur)).length :=
            exit0_filter_length_mono _ _ _ (fun a ha => by rw [Bool.or_eq_true]; exact .inl ha)
          have hfu : (sortedNames es).length + 1 +
              (if (Subdir.new = Subdir.new) then
                (st.files.filter (fun x => x.1 == root ++ [47] ++ subdirName .cur)).length + 3 else 0) ≤
              walkFuel C.env st root np := by
            rw [World.length_sortedNames]
            simp only [if_true, walkFuel]
            omega
          refine wpS_bind_mono (exit0_walk_gen C hG b.expr hstep hH hfree (walkFuel C.env st root np) _ st w3 b2 pre _ (sortedNames es) h3
            rfl rfl ⟨fun _ hd' => by cases hd'; exact World.dirPath_of_obj hobj3, hnp⟩ hrem3 hs (fun _ => ⟨_, rfl⟩) hrokO hinvO hw2
            (fun nf => (hq2 nf).2) hfu) ?_
          rintro b4 ⟨st4, md4⟩ w4 ⟨hpost, hq4⟩
          dsimp only at hpost hq4 ⊢
          by_cases herr4 : st4.error = true
          · exact wpS_bind_mono exit0_wpS_triv fun _ _ _ _ =>
              exit0_wpS_stuck (exit0_paths_sticky C.env C.orc input b more st4 herr4) (dryT_Quiet.not_of_err hq4 herr4) _ _
          · obtain ⟨hinv4, hw4, hcur4, hfo4⟩ := hpost (by simpa using herr4)
            simp only [if_true] at hinv4
            have fin : ∀ (w5 : World) (b5 : Bool), DirsSame wr w5 →
                exit0_Inv C (exit0_pathDirs b.expr more ++ rest) none st4 w5 → (NF → dryT_Quiet b5 st4) →
                wpS (mainP.blocks.paths C.env C.orc input b more st4)
                  (fun b' st' w' => (st'.error = false → exit0_Inv C rest none st' w' ∧ DirsSame wr w' ∧
                    (∀ D ∈ (exit0_pathDirs b.expr (root :: more)).map (·.1), (wr.dir D).isSome = true) ∧
                    st'.fuelOut = st.fuelOut ∧ ∀ q ∈ root :: more, isStdinPath q = false → dryT_Fits q) ∧
                    (NF → dryT_Quiet b' st')) b5 w5 := by
              intro w5 b5 hw5 hinv5 hq5
              refine wpS_mono (ih hfitM st4 w5 b5 (pre ++ [(np, b.expr), (root ++ [47] ++ subdirName .cur, b.expr)]) rest
                (by rw [hs]; simp) hinv5 hw5 hq5) fun _ st' w' hp => ⟨fun he => ?_, hp.2⟩
              obtain ⟨hI, hW, hD, hF, hfitsM⟩ := hp.1 he
              refine ⟨hI, hW, ?_, hF.trans hfo4, List.forall_mem_cons.2 ⟨fun _ => hfits, hfitsM⟩⟩
              intro D hD'
              rw [exit0_pathDirs_cons _ _ _ hsp, ← hnp'] at hD'
              simp only [List.map_cons, List.mem_cons] at hD'
              rcases hD' with rfl | rfl | hD'
              · rw [← hw D]; exact hdp
              · exact hcur4 rfl
              · exact hD D hD'
            unfold maildirClose
            split
            · rename_i d4 _
              simp only [bind_eq, pure_eq, call_bind, call_bind', ret_bind]
              refine wpS_call_ft fun ft5 b5 hb5 => ?_
              exact fin _ b5 (hw4.trans (dirsSame_step w4 (.closedir d4) _ rfl))
                (hinv4.step (.closedir d4) _ rfl (fun _ => trivial))
                (fun nf => (dryT_Quiet.call hq4 hb5 nf).2)
            · simp only [pure_eq, ret_bind]
              exact fin w4 b4 hw4 hinv4 hq4
      · -- the path does not fit
        rename_i hno
        refine exit0_wpS_stuck (exit0_paths_sticky C.env C.orc input b more _ rfl) (fun nf => ?_) _ _
        obtain ⟨hf1, hf2⟩ := hfit nf p (List.mem_cons_self ..) hsp
        obtain ⟨root, hroot⟩ := Option.isSome_iff_exists.1 hf1
        obtain ⟨np, hnp⟩ := Option.isSome_iff_exists.1 hf2
        exact hno root np hroot hnp

theorem exit0_paths (C : exit0_Ctx) (hG : exit0_Good C) (hm : C.env.stdinMode = false) (input : Bytes) (b : ConfBlock)
    (hstep : exit0_StepOK C.env C.orc b.expr) (ps : List Bytes) :
    ∀ (st : MainSt) (w : World) (bb : Bool) (pre rest : List (Bytes × Expr)),
      C.dirs = pre ++ (exit0_pathDirs b.expr ps ++ rest) → exit0_Inv C (exit0_pathDirs b.expr ps ++ rest) none st w →
      wpS (mainP.blocks.paths C.env C.orc input b ps st)
        (fun _ st' w' => st'.error = false → exit0_Inv C rest none st' w') bb w := by
  intro st w bb pre rest hs hinv
  exact wpS_mono (exit0_paths_gen C hG hm input b hstep (NF := False) False.elim False.elim ps False.elim st w bb pre rest hs hinv
    (DirsSame.refl w) False.elim) fun _ _ _ h he => (h.1 he).1

theorem exit0_blocks_gen (C : exit0_Ctx) (hG : exit0_Good C) (hm : C.env.stdinMode = false) (input : Bytes) (bs : List ConfBlock)
    (hstep : ∀ b ∈ bs, exit0_StepOK C.env C.orc b.expr) {NF : Prop} {wr : World} (hH : NF → dryT_Hyp C wr)
    (hfree : NF → ∀ b ∈ bs, asksFree b.expr = true) :
    (NF → ∀ b ∈ bs, ∀ p ∈ b.paths, isStdinPath p = false → dryT_Fits p) →
    ∀ (st : MainSt) (w : World) (bb : Bool) (pre : List (Bytes × Expr)),
      C.dirs = pre ++ exit0_dirsOf bs → exit0_Inv C (exit0_dirsOf bs) none st w → DirsSame wr w → (NF → dryT_Quiet bb st) →
      wpS (mainP.blocks C.env C.orc input bs st)
        (fun b' st' w' => (st'.error = false → exit0_Inv C [] none st' w' ∧
          (∀ D ∈ (exit0_dirsOf bs).map (·.1), (wr.dir D).isSome = true) ∧ st'.fuelOut = st.fuelOut ∧
          ∀ b ∈ bs, ∀ p ∈ b.paths, isStdinPath p = false → dryT_Fits p) ∧ (NF → dryT_Quiet b' st')) bb w := by
  induction bs with
  | nil =>
    intro _ st w bb pre _ hinv _ hq
    rw [Own.blocks_nil]
    exact ⟨fun _ => ⟨by simpa [exit0_dirsOf] using hinv, by simp [exit0_dirsOf], rfl, fun _ hb => (by cases hb)⟩, hq⟩
  | cons b rest ih =>
    intro hfit st w bb pre hs hinv hw hq
    rw [Own.blocks_cons]
    have hd : exit0_dirsOf (b :: rest) = exit0_pathDirs b.expr b.paths ++ exit0_dirsOf rest := by
      simp [exit0_dirsOf]
    rw [hd] at hs hinv ⊢
    refine wpS_bind_mono (exit0_paths_gen C hG hm input b (hstep b (List.mem_cons_self ..)) hH
      (fun nf => hfree nf b (List.mem_cons_self ..)) b.paths
      (fun nf => hfit nf b (List.mem_cons_self ..)) st w bb pre _ hs hinv hw hq) ?_
    rintro b1 st1 w1 ⟨hpost, hq1⟩
    by_cases herr : st1.error = true
    · exact exit0_wpS_stuck (exit0_blocks_sticky C.env C.orc input rest st1 herr) (dryT_Quiet.not_of_err hq1 herr) b1 w1
    · obtain ⟨hinv1, hw1, hD1, hF1, hfits1⟩ := hpost (by simpa using herr)
      refine wpS_mono (ih (fun b' hb' => hstep b' (List.mem_cons_of_mem _ hb'))
        (fun nf b' hb' => hfree nf b' (List.mem_cons_of_mem _ hb'))
        (fun nf b' hb' => hfit nf b' (List.mem_cons_of_mem _ hb')) st1 w1 b1
        (pre ++ exit0_pathDirs b.expr b.paths) (by rw [hs]; simp) hinv1 hw1 hq1) fun _ st' w' hp => ⟨fun he => ?_, hp.2⟩
      obtain ⟨hI, hD, hF, hfitsR⟩ := hp.1 he
      refine ⟨hI, ?_, hF.trans hF1, List.forall_mem_cons.2 ⟨hfits1, hfitsR⟩⟩
      intro D hD'
      rw [List.map_append, List.mem_append] at hD'
      exact hD'.elim (hD1 D) (hD D)

theorem exit0_blocks (C : exit0_Ctx) (hG : exit0_Good C) (hm : C.env.stdinMode = false) (input : Bytes) (bs : List ConfBlock)
    (hstep : ∀ b ∈ bs, exit0_StepOK C.env C.orc b.expr) :
    ∀ (st : MainSt) (w : World) (bb : Bool) (pre : List (Bytes × Expr)),
      C.dirs = pre ++ exit0_dirsOf bs → exit0_Inv C (exit0_dirsOf bs) none st w →
      wpS (mainP.blocks C.env C.orc input bs st) (fun _ st' w' => st'.error = false → exit0_Inv C [] none st' w') bb w := by
  intro st w bb pre hs hinv
  exact wpS_mono (exit0_blocks_gen C hG hm input bs hstep (NF := False) False.elim False.elim False.elim st w bb pre hs hinv
    (DirsSame.refl w) False.elim) fun _ _ _ h he => (h.1 he).1

theorem exit0_inv_init (C : exit0_Ctx) (hG : exit0_Good C) (hreg : WholeReg C.w0 C.files0) :
    exit0_Inv C C.dirs none { files := C.files0, error := false, reject := false, log := [] } C.w0 := by
  refine ⟨hreg, hG.uniq0, fun _ _ _ => rfl, fun _ _ => rfl, ?_, by simp [exit0_curRef]⟩
  intro D e n c hmem hc _
  have hp : exit0_Pend C.dirs none (D, n) := .inl (List.mem_map.2 ⟨(D, e), hmem, rfl⟩)
  exact ⟨fun _ => hc, fun hnp => absurd hp hnp⟩

theorem exit0_mainP_gen (C : exit0_Ctx) (hG : exit0_Good C) (hm : C.env.stdinMode = false) (hsyn : C.env.syntaxOnly = false)
    (confOk : Bool) (conf : List ConfBlock) (input : Bytes) (hdirs : C.dirs = exit0_dirsOf conf)
    (hstep : ∀ b ∈ conf, exit0_StepOK C.env C.orc b.expr) (hreg : WholeReg C.w0 C.files0) {NF : Prop} (hH : NF → dryT_Hyp C C.w0)
    (hfree : NF → ∀ b ∈ conf, asksFree b.expr = true)
    (hconf : NF → confOk = true ∧ ∀ b ∈ conf, ∀ p ∈ b.paths, isStdinPath p = false → dryT_Fits p) (b : Bool) (hb : NF → b = false) :
    wpS (mainP C.env C.orc confOk conf C.files0 input)
      (fun _ r w' => (r.2.error = false → exit0_Inv C [] none r.2 w' ∧
        (∀ D ∈ (exit0_dirsOf conf).map (·.1), (C.w0.dir D).isSome = true) ∧ r.2.fuelOut = false ∧
        confOk = true ∧ ∀ b ∈ conf, ∀ p ∈ b.paths, isStdinPath p = false → dryT_Fits p) ∧ (NF → r.2.error = false)) b C.w0 := by
  have hinv0 := exit0_inv_init C hG hreg
  have hq0 : NF → dryT_Quiet b { files := C.files0, error := false, reject := false, log := [] } := fun nf => ⟨hb nf, rfl⟩
  rw [Own.mainP_eq]
  refine wpS_call_ft fun ft b1 hb1 => ?_
  have hinv1 := hinv0.step (.fopen C.env.confpath) (World.faultResult ft C.w0 (.fopen C.env.confpath)) rfl (fun _ => trivial)
  have hw1 := dirsSame_step C.w0 (.fopen C.env.confpath) (World.faultResult ft C.w0 (.fopen C.env.confpath)) rfl
  have hq1 := dryT_Quiet.call hq0 hb1
  rcases World.results_simple ft C.w0 (.fopen C.env.confpath) C.w0.handles.length (by intro _ h; cases h)
    (by intro _ _ h; cases h) rfl with hr | ⟨e, hr⟩
  · rw [hr] at hinv1 hw1 ⊢
    dsimp only
    have hobj : (stepWorld C.w0 (.fopen C.env.confpath) (.ok C.w0.handles.length)).obj C.w0.handles.length = .other := by
      rw [World.stepWorld_obj, World.core_fopen_ok, World.obj_newHandle]
      simp
    refine wpS_call_ft fun ft2 b2 hb2 => ?_
    generalize World.faultResult ft2 _ (.fclose C.w0.handles.length) = r2
    have hinv2 := hinv1.step (.fclose C.w0.handles.length) r2 rfl (by
      intro g
      simp only [World.fileSafe, hobj, World.objFid]
      intro h; cases h)
    have hw2 := hw1.trans (dirsSame_step _ (.fclose C.w0.handles.length) r2 rfl)
    have hq2 := fun nf => (dryT_Quiet.call (fun nf => (hq1 nf).2) hb2 nf).2
    unfold Own.mainK
    cases confOk with
    | false => exact ⟨fun h => (by cases h), fun nf => (by cases (hconf nf).1)⟩
    | true =>
      simp only [Bool.not_true, Bool.false_eq_true, if_false, hsyn]
      refine wpS_bind_mono (exit0_blocks_gen C hG hm input conf hstep hH hfree (fun nf => (hconf nf).2) _ _ b2 []
        (by simpa using hdirs) (by rw [← hdirs]; exact hinv2) hw2 hq2) ?_
      rintro _ stf wf ⟨hpost, hqf⟩
      exact ⟨fun he => ⟨(hpost he).1, (hpost he).2.1, (hpost he).2.2.1, trivial, (hpost he).2.2.2⟩, fun nf => (hqf nf).2⟩
  · rw [hr]
    refine ⟨fun h => (by cases h), fun nf => ?_⟩
    rw [(hq1 nf).1] at hr
    cases hr

theorem exit0_mainP (C : exit0_Ctx) (hG : exit0_Good C) (hm : C.env.stdinMode = false) (hsyn : C.env.syntaxOnly = false)
    (confOk : Bool) (conf : List ConfBlock) (input : Bytes) (hdirs : C.dirs = exit0_dirsOf conf)
    (hstep : ∀ b ∈ conf, exit0_StepOK C.env C.orc b.expr) (hreg : WholeReg C.w0 C.files0) (b : Bool) :
    wpS (mainP C.env C.orc confOk conf C.files0 input)
      (fun _ r w' => r.2.error = false → exit0_Inv C [] none r.2 w') b C.w0 :=
  wpS_mono (exit0_mainP_gen C hG hm hsyn confOk conf input hdirs hstep hreg (NF := False) False.elim False.elim False.elim b False.elim)
    fun _ _ _ h he => (h.1 he).1

theorem exit0_final {C : exit0_Ctx} (hG : exit0_Good C) (hreg0 : WholeReg C.w0 C.files0) {st : MainSt} {w : World}
    (h : exit0_Inv C [] none st w) :
    (∀ D e n c, (D, e) ∈ C.dirs → C.files0.get D n = some c →
      ∃ key c' lines fid, exit0_Outcome C.env C.orc e D n c key c' lines ∧ st.files.get key.1 key.2 = some c' ∧
        w.lookup key.1 key.2 = some fid ∧ w.file fid = some ⟨c', c'⟩) ∧
    st.log = exit0_refDirs C C.dirs := by
  refine ⟨?_, ?_⟩
  · intro D e n c hmem hc
    have hnd : isDot n = false := by
      obtain ⟨fid, hl, _, _⟩ := hreg0 D n c hc
      exact (hG.listed D e hmem n (by rw [hl]; rfl)).1
    have hnp : ¬ exit0_Pend [] none (D, n) := by
      rintro (hx | ⟨_, _, _, hcur, _⟩)
      · cases hx
      · cases hcur
    obtain ⟨key, c', lines, _, hget, hout⟩ := (h.track D e n c hmem hc hnd).2 hnp
    obtain ⟨fid, hl, _, hf⟩ := h.reg key.1 key.2 c' hget
    exact ⟨key, c', lines, fid, hout, hget, hl, hf⟩
  · have := h.log
    simpa [exit0_curRef, exit0_refDirs] using this

end Mdsort.Proofs
