import Mdsort.Proofs.WorldStdinSession
import Mdsort.Proofs.World

/-! The stdin-mode statements about `main`: complete spool, exit 0 only when stored durably, the
spool is removed, the status table. -/

namespace Mdsort.Proofs.World
open Mdsort Mdsort.Model

theorem DoneV.closeStdin {S : Spool} {env : PEnv} {input : Bytes} {v : Verdict} {w : World} (fuel : Nat) (h : DoneV S env input v w)
    (hd : ∃ snap pos, w.obj S.d = .dir S.sp snap pos) :
    wp NoInv (Model.closeStdin fuel (spoolMd S)) (fun _ w' => DoneV S env input v w') w := by
  cases v with
  | failed => exact h.elim
  | unmatched => exact wp_mono wp_triv (fun _ _ _ => trivial)
  | actions ml m' =>
    by_cases hyp : env.dryrun = false ∧ (∀ m ∈ ml, m.ty ≠ .discard) ∧ (∃ m ∈ ml, moveTy m.ty) ∧
        (∀ m ∈ ml, moveTy m.ty → destPath m.path ≠ some S.sp)
    · obtain ⟨p, n, fid, hp, hg⟩ := h hyp.1 hyp.2.1 hyp.2.2.1 hyp.2.2.2
      exact wp_mono (closeStdin_keeps S hp fuel hg hd) (fun _ w' hg' _ _ _ _ => ⟨p, n, fid, hp, hg'⟩)
    · exact wp_mono wp_triv (fun _ _ _ h1 h2 h3 h4 => absurd ⟨h1, h2, h3, h4⟩ hyp)

theorem spec_stdinHead (env : PEnv) (orc : EvalOracles) (expr : Expr) (files : Files) (input : Bytes) {w : World}
    (hin : StdinIs w input) (hfresh : SpoolFresh env w) :
    wp NoInv (stdinHead env orc expr files input)
      (fun x w1 => match x with
        | none => ∀ q, w1.dir q = w.dir q
        | some y => HeadPost env orc expr input w y w1) w := by
  obtain ⟨sfid, fs, h0, hs, hsd, hslt⟩ := hin
  have k0 : StdinKept sfid fs w := ⟨h0, hs, hslt⟩
  have hlt0 : (0 : Nat) < w.handles.length := lt_of_obj_ne_closed w 0 (by rw [h0]; simp)
  unfold stdinHead
  intro ft
  refine ⟨trivial, ?_⟩
  have hd1 : ∀ q, (stepWorld w (.fopen env.confpath) (faultResult ft w (.fopen env.confpath))).dir q = w.dir q := by
    exact fun q => dir_of_dirs (core_dirs _ _ _ rfl) q
  have k1 := k0.step (.fopen env.confpath) (faultResult ft w (.fopen env.confpath)) (by simp [Call.subject]) trivial
  have hok : ∀ v, faultResult ft w (.fopen env.confpath) = .ok v → v = w.handles.length ∧
      (stepWorld w (.fopen env.confpath) (faultResult ft w (.fopen env.confpath))).obj v = .other := by
    intro v hv
    have hvl := opener_result ft w _ v rfl hv
    refine ⟨hvl, ?_⟩
    rw [hv, stepWorld_obj, hvl, core_fopen_ok, obj_newHandle, if_pos rfl]
  generalize faultResult ft w (.fopen env.confpath) = r at hd1 k1 hok ⊢
  generalize stepWorld w (.fopen env.confpath) r = w1 at hd1 k1 hok ⊢
  cases r with
  | ok h =>
    obtain ⟨hh, hobjh⟩ := hok h rfl
    dsimp only
    intro ft2
    refine ⟨trivial, ?_⟩
    have hd2 : ∀ q, (stepWorld w1 (.fclose h) (faultResult ft2 w1 (.fclose h))).dir q = w.dir q := by
      intro q; rw [stepWorld_dir, dir_of_dirs (core_dirs _ _ _ rfl) q]; exact hd1 q
    have k2 := k1.step (.fclose h) (faultResult ft2 w1 (.fclose h))
      (by simp only [Call.subject, ne_eq, Option.some.injEq]; intro e; subst e; omega) (by simp [fileSafe, hobjh, objFid])
    generalize stepWorld w1 (.fclose h) (faultResult ft2 w1 (.fclose h)) = w2 at hd2 k2 ⊢
    refine wp_bind_mono (spec_sessionHead env orc input expr (st0 files) ⟨sfid, fs, k2.obj0, k2.file, hsd, k2.fidLt⟩
      ⟨by rw [hd2]; exact hfresh.1, by rw [hd2]; exact hfresh.2⟩) ?_
    rintro y w3 ⟨hc, hdone⟩
    exact ⟨hc.congr (fun q => (hd2 q).symm), hdone⟩
  | _ => exact hd1

end Mdsort.Proofs.World

namespace Mdsort.Proofs
open Mdsort Mdsort.Model

theorem exitStatus_stdin (env : PEnv) (st : MainSt) (h : env.stdinMode = true) :
    (exitStatus env st = 75 ↔ st.error = true) ∧
    (exitStatus env st = 1 ↔ (st.error = false ∧ st.reject = true)) ∧
    (exitStatus env st = 0 ↔ (st.error = false ∧ st.reject = false)) := by
  unfold exitStatus
  simp only [h, if_true]
  cases st.error <;> cases st.reject <;> decide

/-- The status table of a stdin run, read off the final loop state. -/
theorem stdin_status (env : PEnv) (orc : EvalOracles) (ok : Bool) (conf : List ConfBlock) (files : Files) (input : Bytes)
    (w : World) (plan : Plan) (hm : env.stdinMode = true) :
    let r := (runPlan plan (mainP env orc ok conf files input) w 0 []).1
    (r.1 = 75 ↔ r.2.error = true) ∧ (r.1 = 1 ↔ (r.2.error = false ∧ r.2.reject = true)) ∧
      (r.1 = 0 ↔ (r.2.error = false ∧ r.2.reject = false)) := by
  intro r
  have h : r.1 = exitStatus env r.2 := exit_status_table env orc ok conf files input w plan
  rw [h]
  exact exitStatus_stdin env r.2 hm

/-- A successful `maildir_stdin` has stored the complete input, visibly and durably. -/
theorem stdin_spool_complete (env : PEnv) (input : Bytes) (w : World) (plan : Plan) (hin : World.StdinIs w input) :
    let r := runPlan plan (maildirStdin env input) w 0 []
    r.1.2.1 = false →
      ∃ name fid, r.1.2.2 = some name ∧ r.2.1.lookup r.1.1.path name = some fid ∧
        r.2.1.file fid = some { data := input, durable := input } := by
  have h := (World.wp_sound plan (World.spec_maildirStdin env input hin) 0).2
  rw [World.runPlan_eq]
  dsimp only
  generalize (World.run plan (maildirStdin env input) w 0).1 = res at h ⊢
  generalize (World.run plan (maildirStdin env input) w 0).2.1 = w' at h ⊢
  intro hf
  rcases h with ⟨hr, -⟩ | ⟨tmpl, p, d, -, -, hmd, -, ⟨hr, -⟩ | ⟨name, fid, hsp, -, hl, -, hok, -⟩⟩
  · rw [hr] at hf; cases hf
  · rw [hr] at hf; cases hf
  · refine ⟨name, fid, hsp, ?_, hok hf⟩
    rw [hmd]
    exact hl

/-- What a verdict promises for the final world `wf` of a stdin run that ended with exit status 0: `DoneV` (WorldStdinProc) at
the spool path of `env`, keeping of `GoodAt` the binding and the durable content (`delivered_of_done`). -/
def DeliveredV (env : PEnv) (input : Bytes) (wf : World) : World.Verdict → Prop
  | .failed => False
  | .unmatched => True
  | .actions ml m' =>
    env.dryrun = false → NoDiscard ml → (∃ m ∈ ml, World.moveTy m.ty) →
      (∀ m ∈ ml, World.moveTy m.ty → World.destPath m.path ≠ some (World.spoolPath env)) →
      ∃ d n fid f, d ≠ World.spoolPath env ∧ wf.lookup d n = some fid ∧ wf.file fid = some f ∧
        f.durable ∈ [input, (messageWrite m').1]

/-- What exit status 0 of a stdin run means (see `Props/C02`): for the name the spool file got and for SOME answers `as` of the
operating system to the questions of evaluation (the answers of the run; irrelevant for a rule tree that asks nothing), the
verdict of the rules is not "failed", and if it is an action list that delivers, a durable complete copy exists outside the spool. -/
def Delivered (env : PEnv) (orc : EvalOracles) (expr : Expr) (input : Bytes) (wf : World) : Prop :=
  ∃ name0 fl as, (∃ k, name0 = World.gennameName env none k) ∧ flagsParse name0 = some fl ∧
    DeliveredV env input wf (World.stdinVerdictA env orc expr input (World.spoolPath env ++ [47] ++ name0) fl as)

theorem delivered_of_done {S : World.Spool} {env : PEnv} {orc : EvalOracles} {expr : Expr} {input name0 : Bytes} {w' : World}
    (hS : S.sp = World.spoolPath env) (hk : ∃ k, name0 = World.gennameName env none k)
    (h : World.Done S env orc expr input name0 w') : Delivered env orc expr input w' := by
  obtain ⟨fl, as, hfl, hv⟩ := h
  refine ⟨name0, fl, as, hk, hfl, ?_⟩
  rw [hS] at hv
  generalize World.stdinVerdictA env orc expr input (World.spoolPath env ++ [47] ++ name0) fl as = v at hv ⊢
  cases v with
  | failed => exact hv
  | unmatched => trivial
  | actions ml m' =>
    intro h1 h2 h3 h4
    obtain ⟨p, n, fid, hne, hl, _, f, hf, _, hd⟩ := hv h1 h2 h3 (by rw [hS]; exact h4)
    exact ⟨p, n, fid, f, by rw [← hS]; exact hne, hl, hf, hd⟩

/-- The verdict delivers: an action list without discard, with a move/flag/flags action, no destination the spool. -/
def DeliversV (env : PEnv) : World.Verdict → Prop
  | .actions ml _ => NoDiscard ml ∧ (∃ m ∈ ml, World.moveTy m.ty) ∧
      ∀ m ∈ ml, World.moveTy m.ty → World.destPath m.path ≠ some (World.spoolPath env)
  | _ => False

/-- If, WHATEVER the operating system answers, a verdict that is not "failed" delivers, then `Delivered` gives a durable copy
outside the spool whose content is the message or a rewrite of it. -/
theorem delivered_copy {env : PEnv} {orc : EvalOracles} {expr : Expr} {input : Bytes} {wf : World}
    (hdry : env.dryrun = false)
    (hall : ∀ name0 fl as, flagsParse name0 = some fl →
      World.stdinVerdictA env orc expr input (World.spoolPath env ++ [47] ++ name0) fl as = .failed ∨
      DeliversV env (World.stdinVerdictA env orc expr input (World.spoolPath env ++ [47] ++ name0) fl as))
    (h : Delivered env orc expr input wf) :
    ∃ d n fid f, d ≠ World.spoolPath env ∧ wf.lookup d n = some fid ∧ wf.file fid = some f ∧
      (f.durable = input ∨ ∃ name0 fl as ml m', World.stdinVerdictA env orc expr input (World.spoolPath env ++ [47] ++ name0) fl as =
        .actions ml m' ∧ f.durable = (messageWrite m').1) := by
  obtain ⟨name0, fl, as, _, hfl, hv⟩ := h
  rcases hall name0 fl as hfl with hf | hd
  · rw [hf] at hv; exact hv.elim
  · cases hvd : World.stdinVerdictA env orc expr input (World.spoolPath env ++ [47] ++ name0) fl as with
    | failed => rw [hvd] at hd; exact hd.elim
    | unmatched => rw [hvd] at hd; exact hd.elim
    | actions ml m' =>
      rw [hvd] at hv hd
      obtain ⟨d, n, fid, f, h1, h2, h3, h4⟩ := hv hdry hd.1 hd.2.1 hd.2.2
      refine ⟨d, n, fid, f, h1, h2, h3, ?_⟩
      simp only [List.mem_cons, List.mem_nil_iff, or_false] at h4
      rcases h4 with h4 | h4
      · exact .inl h4
      · exact .inr ⟨name0, fl, as, ml, m', hvd, h4⟩

/-- Under every fault plan, exit status 0 of a stdin run means the message is stored durably
outside the spool (or no rule matched / the rules do not deliver). -/
theorem stdin_exit0 (env : PEnv) (orc : EvalOracles) (conf : List ConfBlock) (files : Files) (input : Bytes) (expr : Expr)
    (w : World) (plan : Plan) (hm : env.stdinMode = true) (hs : env.syntaxOnly = false)
    (hc : World.stdinExprs conf = [expr]) (hin : World.StdinIs w input) (hfresh : World.SpoolFresh env w) :
    let r := runPlan plan (mainP env orc true conf files input) w 0 []
    r.1.1 = 0 → Delivered env orc expr input r.2.1 := by
  have hmain : World.wp World.NoInv (mainP env orc true conf files input)
      (fun r w' => r.1 = 0 → Delivered env orc expr input w') w := by
    rw [World.mainP_stdin env orc conf files input expr hm hs hc]
    refine World.wp_bind_mono (World.spec_stdinHead env orc expr files input hin hfresh) ?_
    intro x w1 hx
    cases x with
    | none =>
      intro h0
      exfalso
      have := (exitStatus_stdin env { World.st0 files with error := true } hm).2.2.1 h0
      simp at this
    | some y =>
      obtain ⟨_, hdone⟩ := hx
      show World.wp _ ((closeStdin (stdinFuel env) y.2).bind fun fo =>
        Prog.ret (exitStatus env (orFuel y.1 fo), orFuel y.1 fo)) _ w1
      cases herr : y.1.error with
      | true =>
        refine World.wp_bind_mono World.wp_triv ?_
        intro fo w2 _ h0
        exfalso
        have : y.1.error = false := ((exitStatus_stdin env (orFuel y.1 fo) hm).2.2.1 h0).1
        rw [herr] at this
        cases this
      | false =>
        obtain ⟨S, name0, hS, hmd, hk, hobj, hd⟩ := hdone herr
        obtain ⟨fl, as, hfl, hv⟩ := hd
        rw [hmd]
        refine World.wp_bind_mono (World.DoneV.closeStdin _ hv hobj) ?_
        intro _ w2 hv2 _
        exact delivered_of_done hS hk ⟨fl, as, hfl, hv2⟩
  have := (World.wp_sound plan hmain 0).2
  show (runPlan plan (mainP env orc true conf files input) w 0 []).1.1 = 0 →
    Delivered env orc expr input (runPlan plan (mainP env orc true conf files input) w 0 []).2.1
  rw [World.runPlan_eq]
  exact this

/-- The number of calls a stdin run makes before the cleanup of the spool starts. -/
def stdinCleanupStart (plan : Plan) (env : PEnv) (orc : EvalOracles) (expr : Expr) (files : Files) (input : Bytes) (w : World) : Nat :=
  (World.run plan (World.stdinHead env orc expr files input) w 0).2.2.1

/-- When no call of the cleanup is hit by a fault, no directory the run created is left. -/
theorem stdin_spool_removed (env : PEnv) (orc : EvalOracles) (conf : List ConfBlock) (files : Files) (input : Bytes) (expr : Expr)
    (w : World) (plan : Plan) (hm : env.stdinMode = true) (hs : env.syntaxOnly = false)
    (hc : World.stdinExprs conf = [expr]) (hin : World.StdinIs w input) (hfresh : World.SpoolFresh env w)
    (hplan : ∀ j, stdinCleanupStart plan env orc expr files input w ≤ j → plan j = none) :
    ∀ q, ((runPlan plan (mainP env orc true conf files input) w 0 []).2.1.dir q).isSome → (w.dir q).isSome := by
  unfold stdinCleanupStart at hplan
  rw [World.mainP_stdin env orc conf files input expr hm hs hc, World.runPlan_eq, World.run_bind]
  dsimp only
  have hhead := (World.wp_sound plan (World.spec_stdinHead env orc expr files input hin hfresh) 0).2
  generalize World.run plan (World.stdinHead env orc expr files input) w 0 = R at hhead hplan ⊢
  obtain ⟨x, w1, i1, hist⟩ := R
  dsimp only at hhead hplan ⊢
  cases x with
  | none =>
    intro q hq
    rw [← hhead q]
    exact hq
  | some y =>
    obtain ⟨hclean, _⟩ := hhead
    have hw : World.wpN (World.stdinFinish env files (some y))
        (fun _ w' => ∀ q, (w'.dir q).isSome → (w.dir q).isSome) w1 :=
      World.wpN_bind_mono (f := fun fo => Prog.ret (exitStatus env (orFuel y.1 fo), orFuel y.1 fo))
        (World.closeStdin_clean hclean (stdinFuel env) (by simp [stdinFuel])) (fun _ _ h => h)
    exact World.wpN_sound plan i1 hplan hw

end Mdsort.Proofs
