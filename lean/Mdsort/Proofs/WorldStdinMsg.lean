import Mdsort.Proofs.WorldStdinExecOne
import Mdsort.Proofs.WorldStdinProc
import Mdsort.Proofs.WorldExec

/-! The processing of the spooled message (`message_parse` … `message_free`) in a stdin run. -/

namespace Mdsort.Proofs.World
open Mdsort Mdsort.Model

/-- `struct maildir` of the spool once `maildir_stdin` has opened it. -/
def spoolMd (S : Spool) : Maildir :=
  { root := S.sr, path := S.sp, dirH := some S.d, subdir := .new, walk := true, stdin := true }

/-- The message has not been processed yet. -/
structure Pending (S : Spool) (name0 input : Bytes) (fid0 : Nat) (w : World) (st : MainSt) : Prop where
  dir : w.dir S.sp = some [(name0, fid0)]
  file : w.file fid0 = some ⟨input, input⟩
  fid : fid0 < w.nextFid
  files : st.files.get S.sp name0 = some input
  root : w.dir S.sr = some []

/-- `spec_matchesExec` (a complete version of the message stays bound somewhere while a list without `discard` is executed)
with the condition on the list in the post, so that it can stand beside a statement about every list. -/
theorem good_matchesExec {cs : List Bytes} (env : PEnv) (ml : MatchList) (st : ExecSt) {w : World} (hg : Good w cs)
    (hm : (messageWrite st.ms.msg).1 ∈ cs) :
    wp NoInv (matchesExec env ml st) (fun _ w' => (∀ m ∈ ml, m.ty ≠ .discard) → Good w' cs) w := by
  by_cases hnd : ∀ m ∈ ml, m.ty ≠ .discard
  · exact wp_mono (whole_wp_noInv (spec_matchesExec env ml st hg hm hnd)) fun _ _ h _ => h
  · exact wp_mono wp_triv fun _ _ _ h => absurd h hnd

theorem spec_processMessage_sp (S : Spool) (hS : SpoolShape S) (env : PEnv) (orc : EvalOracles) (expr : Expr) (st : MainSt)
    (name0 input : Bytes) (fid0 : Nat) {w : World}
    (hd : w.dirPath S.d = some S.sp) (P : Pending S name0 input fid0 w st) (h95 : (95 : UInt8) ∈ name0) :
    wp NoInv (processMessage env orc expr (spoolMd S) name0 st)
      (fun r w' => r.2 = spoolMd S ∧ SpoolAll S w w' ∧ (r.1.error = false → Done S env orc expr input name0 w')) w := by
  obtain ⟨hsp, hfile, hfid, hfiles, hroot⟩ := P
  have hnames : NamesIn w S.sp [name0] := ⟨[(name0, fid0)], hsp, by simp, by simp⟩
  have quiet : ∀ {w' : World}, Fr1 (NewS w) w w' → SpoolAll S w w' := fun fr =>
    ⟨((InvX.refl hroot).of_fr1 fr).toX _, name0, name0, h95, h95,
      (hnames.congr (dir_of_dirs fr.dirs _)).mono (by intro x hx; simp at hx; simp [hx])⟩
  have hgood0 : GoodAt w [input] S.sp name0 fid0 := by
    refine ⟨?_, hfid, _, hfile, by simp, by simp⟩
    rw [lookup_eq_of_dir hsp]; simp
  have hdlt : S.d < w.handles.length := lt_of_dirPath hd
  unfold processMessage
  simp only [spoolMd, bind_eq, pure_eq, call_bind, hfiles]
  refine wp_bind_mono (spec_messageParseP_sp S.d S.sp name0 input) ?_
  rintro pm w10 ⟨fr10, hpm⟩
  cases pm with
  | none => exact ⟨rfl, quiet fr10, nofun⟩
  | some ms =>
    obtain ⟨⟨hname, hpath, hmsg, hparts, hflags⟩, fd, hfd, hfdge, hfdlt0⟩ := hpm ms rfl
    obtain ⟨n, p, fdo, m, ps, fl, loc, ct⟩ := ms
    dsimp only at hname hpath hmsg hparts hflags hfd
    subst hname hpath hmsg hparts hfd
    dsimp only
    -- evaluation: the questions to the operating system leave directories, files and older handles alone
    refine wp_bind_mono (whole_wp_noInv (wp_evalFoot _ expr (parseMessage input) fl w10)) ?_
    rintro ev w1 ⟨ef, as, hev⟩
    have fr1 : Fr1 (NewS w) w w1 := fr10.trans (ef.fr1 _)
    have inv1 : Inv S w w1 := (InvX.refl hroot).of_fr1 fr1
    have hfdlt : fd < w1.handles.length := Nat.lt_of_lt_of_le hfdlt0 ef.len
    have all1 := quiet fr1
    -- the verdict on the value of evaluation is the verdict for the answers the world gave
    have hva : verdictOfEv env orc (parseMessage input) ((getAttachments (parseMessage input)).getD []) (S.sp ++ [47] ++ n) ev =
        stdinVerdictA env orc expr input (S.sp ++ [47] ++ n) fl as := by
      rw [hev]; rfl
    have hdfd : S.d < fd := Nat.lt_of_lt_of_le hdlt hfdge
    have closeOnly : ∀ (res : MainSt × Maildir), res.2 = spoolMd S →
        (res.1.error = false → DoneV S env input (stdinVerdictA env orc expr input (S.sp ++ [47] ++ n) fl as) w1) →
        wp NoInv
          ((match (some fd : Option Handle) with
            | some h => Prog.call (Call.close h) fun _ => Prog.ret ()
            | none => Prog.ret ()).bind fun _ => Prog.ret res)
          (fun r w' => r.2 = spoolMd S ∧ SpoolAll S w w' ∧ (r.1.error = false → Done S env orc expr input n w')) w1 := by
      intro res h1 h2
      refine wp_free (some fd) res _ ?_
      rintro w3 (rfl | ⟨f, rc, hf, rfl⟩)
      · exact ⟨h1, all1, fun he => ⟨fl, as, hflags, h2 he⟩⟩
      · cases hf
        exact ⟨h1, all1.close _ rc hdfd, fun he => ⟨fl, as, hflags, (h2 he).step _ _ trivial⟩⟩
    obtain ⟨t, est⟩ := ev
    cases t with
    | error => exact closeOnly _ rfl nofun
    | «nomatch» =>
      refine closeOnly _ rfl fun _ => ?_
      rw [← hva]
      trivial
    | «match» =>
      dsimp only
      split
      · exact closeOnly _ rfl nofun
      · rename_i ml msgs hint
        have hv : stdinVerdictA env orc expr input (S.sp ++ [47] ++ n) fl as = .actions ml (msgs 0) := by
          rw [← hva]
          simp only [verdictOfEv, evalEnv]
          rw [hint]
        split
        · rename_i hdry
          refine closeOnly _ rfl fun _ => ?_
          rw [hv]
          intro h
          rw [hdry] at h
          cases h
        · -- the actions are executed
          have pre : ∀ ms1 : MsgSt, ms1.name = n → ms1.fd = some fd → ms1.msg = msgs 0 →
              ActPre S False (∀ m ∈ ml, moveTy m.ty → destPath m.path ≠ some S.sp) [input, (messageWrite (msgs 0)).1] w1
                { src := spoolMd S, chsrc := false, ms := ms1, reject := false } := by
            intro ms1 e1 e2 e3
            refine ⟨⟨S.d, rfl, inv1.dirPath hd not_false, ?_, fun _ => rfl, nofun, ?_⟩, fun _ => rfl, hS.sp,
              inv1.dirPath hd not_false, inv1.root, ?_, by rw [e1]; exact h95, nofun, by rw [e3]; simp, nofun⟩
            · show (w1.dir S.sp).isSome
              rw [dir_of_dirs fr1.dirs, hsp]; rfl
            · intro f hf
              rw [e2] at hf
              cases hf
              exact ⟨hdfd, Nat.ne_of_gt hdfd, hfdlt⟩
            · show NamesIn w1 S.sp (if S.sp = S.sp then [ms1.name] else [])
              rw [e1]
              simp only [if_true]
              exact hnames.congr (dir_of_dirs fr1.dirs _)
          refine wp_bind_mono (whole_wp_noInv (wp_both (spec_matchesExec_sp S hS _ _ env ml _ (pre _ rfl rfl rfl) fun h => h)
            (good_matchesExec (cs := [input, (messageWrite (msgs 0)).1]) env ml _ ((hgood0.of_fr1 fr1).mono_cs (by simp)).good
              (by simp)))) ?_
          rintro ⟨xs, e⟩ w2 ⟨⟨all2, hok2⟩, hgood2⟩
          dsimp only at hok2 ⊢
          refine wp_free xs.ms.fd _ _ ?_
          intro w3 hw3
          have all2' : SpoolAll S w w2 := ⟨(inv1.toX _).trans all2.1, all2.2.1⟩
          have all3 : SpoolAll S w w3 := by
            rcases hw3 with rfl | ⟨f, rc, hf, rfl⟩
            · exact all2'
            · exact all2'.close f rc (all2.2.2.1 f hf)
          refine ⟨rfl, all3, ?_⟩
          intro he
          have he' : st.error = false ∧ e = false := by simpa using he
          refine ⟨fl, as, hflags, ?_⟩
          rw [hv]
          intro _ hnd hmv hnsd
          obtain ⟨hemp, hch⟩ := hok2 he'.2
          obtain ⟨p, nm, g, hg⟩ := hgood2 hnd
          refine ⟨p, nm, g, fun e => ?_, ?_⟩
          · cases (namesIn_iff.1 (hemp hnsd (hch (.inr hmv)))).2.2 nm g (e ▸ hg.1)
          rcases hw3 with rfl | ⟨f, rc, hf, rfl⟩
          · exact hg
          · exact hg.step _ _ trivial trivial

end Mdsort.Proofs.World
