import Mdsort.Proofs.WorldKinds

/-! `runOracle`: accumulator-free variant, bind law, and a weakest-precondition calculus whose
state is the trace of calls issued so far.

Namespaces.  `Mdsort.Proofs.Own`: statements against ARBITRARY call results (`runOracle`, `Own.wp`) - whatever
the file system, the faults and other parties do.  `Mdsort.Proofs.World`: statements on the abstract file system under a
fault plan (`runPlan`, `World.wp` and its relatives), and the vocabulary both sides use: `Calls`, `All`, `Kind`,
`kinds_<script>`, the equations and named units of the scripts (WorldEqns), `calls_mainP`.  What belongs to neither calculus
is in `Mdsort.Proofs` (`EveryRun`, `Framed`, `Verdict`, `afterVerdict`, `skipPath`, `walkFuel`).  The units of WorldEqns that
the `Own` passes name most (`mainK`, `mainP_eq`, `moveBranch`, `execOne_move`, `matchesExec_nil`, `matchesExec_cons`) are
re-exported into `Own` by WorldSpine and WorldOwnScripts, so that `Own.mainP_eq` and `World.mainP_eq` are one lemma;
`errTail` is `Own.errTail` although WorldEqns defines it. -/

namespace Mdsort.Proofs.Own
open Mdsort Mdsort.Model
open Mdsort.Proofs.World (Calls All)

abbrev Trace := List (Call × Res)

/-- `runOracle` without the accumulator: value, new calls, next index. -/
def runO {α} (orc : Nat → Call → Res) : Prog α → Nat → α × Trace × Nat
  | .ret a, i => (a, [], i)
  | .call c k, i =>
    let x := runO orc (k (orc i c)) (i + 1)
    (x.1, (c, orc i c) :: x.2.1, x.2.2)

@[simp] theorem runO_ret {α} (orc : Nat → Call → Res) (a : α) (i : Nat) : runO orc (.ret a) i = (a, [], i) := rfl

theorem runO_call {α} (orc : Nat → Call → Res) (c : Call) (k : Res → Prog α) (i : Nat) :
    runO orc (.call c k) i =
      ((runO orc (k (orc i c)) (i + 1)).1, (c, orc i c) :: (runO orc (k (orc i c)) (i + 1)).2.1,
        (runO orc (k (orc i c)) (i + 1)).2.2) := rfl

theorem runOracle_eq {α} (orc : Nat → Call → Res) (p : Prog α) (i : Nat) (tr : Trace) :
    runOracle orc p i tr = ((runO orc p i).1, tr ++ (runO orc p i).2.1) := by
  induction p generalizing i tr with
  | ret a => simp [runOracle, runO]
  | call c k ih => simp [runOracle, runO, ih]

theorem runO_bind {α β} (orc : Nat → Call → Res) (p : Prog α) (f : α → Prog β) (i : Nat) :
    runO orc (p.bind f) i =
      ((runO orc (f (runO orc p i).1) (runO orc p i).2.2).1,
       (runO orc p i).2.1 ++ (runO orc (f (runO orc p i).1) (runO orc p i).2.2).2.1,
       (runO orc (f (runO orc p i).1) (runO orc p i).2.2).2.2) := by
  induction p generalizing i with
  | ret a => simp [runO, Prog.bind]
  | call c k ih => simp [runO, Prog.bind, ih]

theorem runO_index {α} (orc : Nat → Call → Res) (p : Prog α) (i : Nat) :
    (runO orc p i).2.2 = i + (runO orc p i).2.1.length := by
  induction p generalizing i with
  | ret a => rfl
  | call c k ih =>
    simp only [runO_call, List.length_cons]
    rw [ih]
    omega

theorem all_runO {α} {P : α → Prop} {p : Prog α} (h : All P p) (orc : Nat → Call → Res) (i : Nat) : P (runO orc p i).1 := by
  induction p generalizing i with
  | ret a => exact h
  | call c k ih => exact ih _ (h _) _

theorem calls_runO_mem {α} {Q : Call → Prop} {p : Prog α} (h : Calls Q p) (orc : Nat → Call → Res) (i : Nat) :
    ∀ x ∈ (runO orc p i).2.1, Q x.1 := by
  induction p generalizing i with
  | ret a => intro x hx; cases hx
  | call c k ih =>
    intro x hx
    rcases List.mem_cons.1 hx with rfl | hx
    · exact h.1
    · exact ih _ (h.2 _) _ x hx

/-- For every choice of results allowed by `R`: every call `c` issued when the trace is `tr`
satisfies `I tr c`, and the final value and trace satisfy `Q`. -/
def wp {α} (R : Call → Res → Prop) (I : Trace → Call → Prop) : Prog α → (α → Trace → Prop) → Trace → Prop
  | .ret a, Q, tr => Q a tr
  | .call c k, Q, tr => I tr c ∧ ∀ r, R c r → wp R I (k r) Q (tr ++ [(c, r)])

variable {R : Call → Res → Prop} {I : Trace → Call → Prop}

theorem wp_ret {α} {a : α} {Q : α → Trace → Prop} {tr : Trace} (h : Q a tr) : wp R I (.ret a) Q tr := h

theorem wp_call {α} {c : Call} {k : Res → Prog α} {Q : α → Trace → Prop} {tr : Trace}
    (hi : I tr c) (h : ∀ r, R c r → wp R I (k r) Q (tr ++ [(c, r)])) : wp R I (.call c k) Q tr := ⟨hi, h⟩

theorem wp_bind {α β} {p : Prog α} {f : α → Prog β} {Q : β → Trace → Prop} {tr : Trace}
    (h : wp R I p (fun a tr' => wp R I (f a) Q tr') tr) : wp R I (p.bind f) Q tr := by
  induction p generalizing tr with
  | ret a => exact h
  | call c k ih => exact ⟨h.1, fun r hr => ih r (h.2 r hr)⟩

theorem wp_mono {α} {p : Prog α} {Q Q' : α → Trace → Prop} {tr : Trace}
    (h : wp R I p Q tr) (hq : ∀ a tr', Q a tr' → Q' a tr') : wp R I p Q' tr := by
  induction p generalizing tr with
  | ret a => exact hq _ _ h
  | call c k ih => exact ⟨h.1, fun r hr => ih r (h.2 r hr)⟩

theorem wp_bind_mono {α β} {p : Prog α} {f : α → Prog β} {Q : β → Trace → Prop} {P : α → Trace → Prop} {tr : Trace}
    (h : wp R I p P tr) (hf : ∀ a tr', P a tr' → wp R I (f a) Q tr') : wp R I (p.bind f) Q tr :=
  wp_bind (wp_mono h hf)

theorem wp_ext {α} {p : Prog α} {Q : α → Trace → Prop} {tr : Trace} (h : wp R I p Q tr) :
    wp R I p (fun a tr' => Q a tr' ∧ ∃ L, tr' = tr ++ L) tr := by
  induction p generalizing tr with
  | ret a => exact ⟨h, [], by simp⟩
  | call c k ih =>
    exact ⟨h.1, fun r hr => wp_mono (ih r (h.2 r hr)) fun _ _ ⟨hq, L, hL⟩ => ⟨hq, (c, r) :: L, by simp [hL]⟩⟩

theorem wp_bind_ext {α β} {p : Prog α} {f : α → Prog β} {Q : β → Trace → Prop} {P : α → Trace → Prop} {tr : Trace}
    (h : wp R I p P tr) (hf : ∀ a L, P a (tr ++ L) → wp R I (f a) Q (tr ++ L)) : wp R I (p.bind f) Q tr := by
  refine wp_bind_mono (wp_ext h) ?_
  rintro a tr' ⟨hp, L, rfl⟩
  exact hf a L hp

theorem wp_sound {α} {p : Prog α} {Q : α → Trace → Prop} {tr : Trace} (orc : Nat → Call → Res)
    (horc : ∀ i c, R c (orc i c)) (h : wp R I p Q tr) (i : Nat) :
    Q (runOracle orc p i tr).1 (runOracle orc p i tr).2 ∧
    ∀ j c r, tr.length ≤ j → (runOracle orc p i tr).2[j]? = some (c, r) → I ((runOracle orc p i tr).2.take j) c := by
  induction p generalizing tr i with
  | ret a =>
    refine ⟨h, ?_⟩
    intro j c r hj hget
    simp only [runOracle] at hget
    rw [List.getElem?_eq_none hj] at hget
    cases hget
  | call c k ih =>
    obtain ⟨hq, hall⟩ := ih (orc i c) (h.2 _ (horc i c)) (i + 1)
    simp only [runOracle]
    refine ⟨hq, ?_⟩
    intro j c' r' hj hget
    by_cases hj' : j = tr.length
    · subst hj'
      rw [runOracle_eq] at hget ⊢
      simp only [List.append_assoc, List.singleton_append, List.getElem?_append_right (Nat.le_refl _),
        Nat.sub_self, List.getElem?_cons_zero, Option.some.injEq, Prod.mk.injEq] at hget
      simp only [List.append_assoc, List.take_left']
      rw [← hget.1]
      exact h.1
    · exact hall j c' r' (by simp; omega) hget

theorem wp_of_calls {α} {C : Call → Prop} {J : Trace → Prop} {P : α → Prop}
    (hI : ∀ tr c, C c → J tr → I tr c) (hJ : ∀ tr c r, C c → J tr → J (tr ++ [(c, r)])) {p : Prog α}
    (hc : Calls C p) (ha : All P p) {tr : Trace} (hj : J tr) : wp R I p (fun a tr' => P a ∧ J tr') tr := by
  induction p generalizing tr with
  | ret a => exact ⟨ha, hj⟩
  | call c k ih => exact ⟨hI _ _ hc.1 hj, fun r _ => ih r (hc.2 r) (ha r) (hJ _ _ r hc.1 hj)⟩

theorem wp_calls {α} {P : α → Prop} {C : Call → Prop} (hC : ∀ tr c, C c → I tr c) {p : Prog α}
    (hc : Calls C p) (ha : All P p) (tr : Trace) : wp R I p (fun a _ => P a) tr :=
  wp_mono (wp_of_calls (J := fun _ => True) (fun tr c h _ => hC tr c h) (fun _ _ _ _ _ => trivial) hc ha trivial)
    fun _ _ h => h.1

theorem wp_with_all {α} {P : α → Prop} {p : Prog α} {Q : α → Trace → Prop} {tr : Trace} (h : wp R I p Q tr) (ha : All P p) :
    wp R I p (fun a tr' => Q a tr' ∧ P a) tr := by
  induction p generalizing tr with
  | ret a => exact ⟨h, ha⟩
  | call c k ih => exact ⟨h.1, fun r hr => ih r (h.2 r hr) (ha r)⟩

/-- `Calls` and `All` are `wp` over every result with nothing said about the trace. -/
theorem calls_iff_wp {α} {C : Call → Prop} {p : Prog α} {tr : Trace} :
    Calls C p ↔ wp (fun _ _ => True) (fun _ c => C c) p (fun _ _ => True) tr := by
  induction p generalizing tr with
  | ret a => exact Iff.rfl
  | call c k ih => exact ⟨fun h => ⟨h.1, fun r _ => (ih r).1 (h.2 r)⟩, fun h => ⟨h.1, fun r => (ih r).2 (h.2 r trivial)⟩⟩

theorem all_iff_wp {α} {P : α → Prop} {p : Prog α} {tr : Trace} :
    All P p ↔ wp (fun _ _ => True) (fun _ _ => True) p (fun a _ => P a) tr := by
  induction p generalizing tr with
  | ret a => exact Iff.rfl
  | call c k ih => exact ⟨fun h => ⟨trivial, fun r _ => (ih r).1 (h r)⟩, fun h r => (ih r).2 (h.2 r trivial)⟩

/-- `World.All.trivial'`, under the name the passes of this namespace use. -/
theorem All.trivial {α} (p : Prog α) : All (fun _ => True) p := World.All.trivial' p

/-- `World.All.ret_intro`. -/
theorem All.ret_intro {α} {P : α → Prop} {a : α} (h : P a) : All P (Prog.ret a) := h

theorem wp_weaken {α} {I I' : Trace → Call → Prop} (hI : ∀ tr c, I tr c → I' tr c) {p : Prog α} {Q : α → Trace → Prop}
    {tr : Trace} (h : wp R I p Q tr) : wp R I' p Q tr := by
  induction p generalizing tr with
  | ret a => exact h
  | call c k ih => exact ⟨hI _ _ h.1, fun r hr => ih r (h.2 r hr)⟩

theorem wp_results {α} {R R' : Call → Res → Prop} (hR : ∀ c r, R c r → R' c r) {p : Prog α} {Q : α → Trace → Prop} {tr : Trace}
    (h : wp R' I p Q tr) : wp R I p Q tr := by
  induction p generalizing tr with
  | ret a => exact h
  | call c k ih => exact ⟨h.1, fun r hr => ih r (h.2 r (hR c r hr))⟩

/-- The model's `match r with | .ok h => A h | _ => B`: the three failure results are one case. -/
theorem wp_call_okOr {α} {c : Call} {A : Nat → Prog α} {B : Prog α} {Q : α → Trace → Prop} {tr : Trace}
    (hi : I tr c) (hok : ∀ v, R c (.ok v) → wp R I (A v) Q (tr ++ [(c, .ok v)]))
    (hno : ∀ r, R c r → (∀ v, r ≠ .ok v) → wp R I B Q (tr ++ [(c, r)])) :
    wp R I (.call c fun r => match r with | .ok h => A h | _ => B) Q tr := by
  refine ⟨hi, fun r hr => ?_⟩
  cases r with
  | ok v => exact hok v hr
  | err e => exact hno _ hr (by intro v hv; cases hv)
  | name n => exact hno _ hr (by intro v hv; cases hv)
  | eof => exact hno _ hr (by intro v hv; cases hv)

/-- No condition on the calls: for passes that only follow the value under a restriction `R` of the results. -/
def NoI : Trace → Call → Prop := fun _ _ => True

theorem wp_top {α} (p : Prog α) (tr : Trace) : wp R NoI p (fun _ _ => True) tr := by
  induction p generalizing tr with
  | ret a => exact True.intro
  | call c k ih => exact ⟨True.intro, fun r _ => ih r _⟩

end Mdsort.Proofs.Own

/-! `EveryRun p Q`: whatever the calls of `p` return, the value and the list of the calls issued, each with its result,
satisfy `Q`.  It is `Own.wp` without an invariant and with the new calls alone as the state, for statements that are
shapes of that list (what `message_get_fd` issues, ExecStdin) or say what a value implies for every call (ExecStatus). -/

namespace Mdsort.Proofs
open Mdsort Mdsort.Model
open Mdsort.Proofs.World (Calls)
open Mdsort.Proofs.Own (Trace runO)

def EveryRun {α : Type} : Prog α → (α → Trace → Prop) → Prop
  | .ret a, Q => Q a []
  | .call c k, Q => ∀ r, EveryRun (k r) fun a L => Q a ((c, r) :: L)

theorem EveryRun.mono {α : Type} {p : Prog α} {Q Q' : α → Trace → Prop} (h : EveryRun p Q) (hq : ∀ a L, Q a L → Q' a L) :
    EveryRun p Q' := by
  induction p generalizing Q Q' with
  | ret a => exact hq _ _ h
  | call c k ih => exact fun r => ih r (h r) fun a L => hq a _

theorem EveryRun.bind {α β : Type} {p : Prog α} {f : α → Prog β} {Q : β → Trace → Prop}
    (h : EveryRun p fun a L1 => EveryRun (f a) fun b L2 => Q b (L1 ++ L2)) : EveryRun (p.bind f) Q := by
  induction p generalizing Q with
  | ret a => exact h
  | call c k ih => exact fun r => ih r (h r)

theorem EveryRun.runO {α : Type} {p : Prog α} {Q : α → Trace → Prop} (h : EveryRun p Q) (orc : Nat → Call → Res) (i : Nat) :
    Q (runO orc p i).1 (runO orc p i).2.1 := by
  induction p generalizing Q i with
  | ret a => exact h
  | call c k ih => exact ih _ (h _) _

theorem EveryRun.of_calls {α : Type} {C : Call → Prop} {p : Prog α} (h : Calls C p) : EveryRun p fun _ L => ∀ x ∈ L, C x.1 := by
  induction p with
  | ret a => exact List.forall_mem_nil _
  | call c k ih => exact fun r => (ih r (h.2 r)).mono fun _ _ hL => List.forall_mem_cons.2 ⟨h.1, hL⟩

end Mdsort.Proofs
