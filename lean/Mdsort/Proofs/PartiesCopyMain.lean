import Mdsort.Proofs.PartiesCopyLineage

/-! Exactly-once delivery for every kind of mdsort party (all action kinds, listing parties) and the
client under `H_iso`: the lineage fields of the invariant, its preservation along schedules, and
the theorem at quiescence. -/

namespace Mdsort.Proofs.Parties
open Mdsort Mdsort.Model
open Mdsort.Proofs.World
open Mdsort.Proofs.Own

variable {M : Msg → Prop} {s0 s : Shared} {a : Nat} {ps : PState} {c : Call} {k : Res → Prog Bool}

theorem settled_transfer {s' : Shared} {g : Nat} (h : Settled M s0 s g) (ho : originIn s'.log g = originIn s.log g)
    (hf : s'.fs.file g = s.fs.file g) : Settled M s0 s' g := by
  obtain ⟨⟨p0, n0, h0⟩, hc⟩ := h
  refine ⟨⟨p0, n0, by rw [ho]; exact h0⟩, ?_⟩
  rcases hc with ⟨h1, h2⟩ | ⟨h1, m, f, hm, hfile, hd⟩
  · exact .inl ⟨h1, by rw [ho]; exact h2⟩
  · exact .inr ⟨h1, m, f, hm, by rw [hf]; exact hfile, hd⟩

theorem StepCtx.settled' (x : StepCtx M s0 s a ps c k) (p n : Bytes) (g : Nat)
    (hl : (stepCall s a ps c k).fs.lookup p n = some g) (hnf : NoFlight (stepCall s a ps c k) (p, n)) :
    Settled M s0 (stepCall s a ps c k) g := by
  rcases x.classify hl hnf with ⟨y, hrn, hok, hd, hs, hly, hynf, hyown, ho⟩ |
      ⟨y, gy, hul, hok, hs, hfl, hne, hly, hynf, hlz, ho⟩ | ⟨hl0, hnf0, ho, _, _⟩
  · exact settled_transfer (x.inv.settled y.1 y.2 g hly hynf) ho (x.file_same hly hyown)
  · -- the copy whose original has just been removed
    obtain ⟨⟨p0, n0, h0⟩, _⟩ := x.inv.settled y.1 y.2 gy hly hynf
    have hin : (p, n) ∈ ps.inFlight := by rw [hfl]; exact List.mem_singleton.2 rfl
    obtain ⟨g', hg', hge, f, hf, _, _, _, h4⟩ := x.flightFile hin
    rw [show s.fs.lookup (p, n).1 (p, n).2 = s.fs.lookup p n from rfl, hlz] at hg'
    cases hg'
    refine ⟨⟨p0, n0, by rw [ho]; exact h0⟩, .inr ⟨hge, ?_⟩⟩
    obtain ⟨hst, m, hm, hwr⟩ := x.loc.commit x.hc (commits_of_unlink (a := a) hul hok hs hfl hne)
    refine ⟨m, f, hm, ?_, by rw [h4 hst, hwr]⟩
    have hsafe : fileSafe (s.view ps) g c := by
      cases c <;> simp [isUnlink] at hul
      exact True.intro
    rw [stepCall_file, core_file (s.view ps) c _ g (x.inv.boundLt p n g hlz) hsafe]
    exact hf
  · exact settled_transfer (x.inv.settled p n g hl0 hnf0) ho (x.file_same hl0 (hnf0 a ps x.hp))

theorem StepCtx.source (x : StepCtx M s0 s a ps c k) {e : Bytes × Bytes} {g : Nat}
    (hl : (stepCall s a ps c k).fs.lookup e.1 e.2 = some g) (hnf : NoFlight (stepCall s a ps c k) e) :
    ∃ σ gσ, s.fs.lookup σ.1 σ.2 = some gσ ∧ NoFlight s σ ∧ originIn (stepCall s a ps c k).log g = originIn s.log gσ ∧
      ((c.isRename = true ∧ isOk (predict (s.view ps) c) = true ∧ callDst (s.view ps) c = some e ∧ callSrc (s.view ps) c = some σ) ∨
       (isUnlink c = true ∧ isOk (predict (s.view ps) c) = true ∧ callSrc (s.view ps) c = some σ ∧ ps.inFlight = [e]) ∨
       (σ = e ∧ ¬ (isOk (predict (s.view ps) c) = true ∧ callSrc (s.view ps) c = some e))) := by
  obtain ⟨p, n⟩ := e
  rcases x.classify hl hnf with ⟨y, hrn, hok, hd, hs, hly, hynf, hyown, ho⟩ |
      ⟨y, gy, hul, hok, hs, hfl, hne, hly, hynf, hlz, ho⟩ | ⟨hl0, hnf0, ho, hns, _⟩
  · exact ⟨y, g, hly, hynf, ho, .inl ⟨hrn, hok, hd, hs⟩⟩
  · exact ⟨y, gy, hly, hynf, ho, .inr (.inl ⟨hul, hok, hs, hfl⟩)⟩
  · exact ⟨(p, n), g, hl0, hnf0, ho, .inr (.inr ⟨rfl, hns⟩)⟩

theorem StepCtx.once' (x : StepCtx M s0 s a ps c k) (p n : Bytes) (g : Nat) (p' n' : Bytes) (g' : Nat)
    (h1 : (stepCall s a ps c k).fs.lookup p n = some g) (h2 : (stepCall s a ps c k).fs.lookup p' n' = some g')
    (f1 : NoFlight (stepCall s a ps c k) (p, n)) (f2 : NoFlight (stepCall s a ps c k) (p', n'))
    (ho : originIn (stepCall s a ps c k).log g = originIn (stepCall s a ps c k).log g') : p = p' ∧ n = n' := by
  obtain ⟨σ1, g1, l1, nf1, o1, t1⟩ := x.source (e := (p, n)) h1 f1
  obtain ⟨σ2, g2, l2, nf2, o2, t2⟩ := x.source (e := (p', n')) h2 f2
  have hσ : σ1 = σ2 := by
    obtain ⟨e1, e2⟩ := x.inv.once σ1.1 σ1.2 g1 σ2.1 σ2.2 g2 l1 l2 nf1 nf2 (by rw [← o1, ← o2]; exact ho)
    exact Prod.ext e1 e2
  have fin : (p, n) = (p', n') → p = p' ∧ n = n' := fun e => by cases e; exact ⟨rfl, rfl⟩
  rcases t1 with ⟨r1, ok1, d1, s1⟩ | ⟨u1, ok1, s1, fl1⟩ | ⟨e1, ns1⟩
  · rcases t2 with ⟨r2, ok2, d2, s2⟩ | ⟨u2, ok2, s2, fl2⟩ | ⟨e2, ns2⟩
    · exact fin (Option.some.inj (d1.symm.trans d2))
    · rw [(rename_not_unlink r1).1] at u2; cases u2
    · exact absurd ⟨ok1, by rw [s1, hσ, e2]⟩ ns2
  · rcases t2 with ⟨r2, ok2, d2, s2⟩ | ⟨u2, ok2, s2, fl2⟩ | ⟨e2, ns2⟩
    · rw [(rename_not_unlink r2).1] at u1; cases u1
    · have := fl1.symm.trans fl2
      exact fin (by simpa using this)
    · exact absurd ⟨ok1, by rw [s1, hσ, e2]⟩ ns2
  · rcases t2 with ⟨r2, ok2, d2, s2⟩ | ⟨u2, ok2, s2, fl2⟩ | ⟨e2, ns2⟩
    · exact absurd ⟨ok2, by rw [s2, ← hσ, e1]⟩ ns1
    · exact absurd ⟨ok2, by rw [s2, ← hσ, e1]⟩ ns1
    · exact fin (e1.symm.trans (hσ.trans e2))

theorem StepCtx.kept' (x : StepCtx M s0 s a ps c k) (p0 n0 : Bytes) (f0 : Nat) (h0 : s0.fs.lookup p0 n0 = some f0) :
    (∃ p n g, (stepCall s a ps c k).fs.lookup p n = some g ∧ NoFlight (stepCall s a ps c k) (p, n) ∧
        originIn (stepCall s a ps c k).log g = f0) ∨
    (∃ e ∈ (stepCall s a ps c k).log, e.destroysRoot f0 = true) := by
  rcases x.inv.kept p0 n0 f0 h0 with ⟨p, n, g, hl, hnf, ho⟩ | ⟨e, he, hde⟩
  rotate_left
  · exact .inr ⟨e, by simp [he], hde⟩
  have hown : (p, n) ∉ ps.inFlight := hnf a ps x.hp
  have hosame : originIn (stepCall s a ps c k).log g = originIn s.log g := x.origin_settled hl hown
  by_cases hd : isOk (predict (s.view ps) c) = true ∧ callDst (s.view ps) c = some (p, n)
  · rcases dst_kind hd.2 with hk | hk
    · obtain ⟨z, hz, hnone, _, _⟩ := create_ok hk hd.1
      rw [hd.2] at hz; cases hz
      rw [show (s.view ps).lookup p n = s.fs.lookup p n from rfl, hl] at hnone; cases hnone
    · obtain ⟨y, z, gy, hy, hz, hly, hb⟩ := rename_ok hk hd.1
      by_cases hyz : y = (p, n)
      · -- renamed onto itself
        subst hyz
        rw [show (s.view ps).lookup p n = s.fs.lookup p n from rfl, hl] at hly
        cases hly
        exact .inl ⟨p, n, g, by rw [x.hL, if_pos hd, hb], x.noFlight_keep hnf hl, by rw [hosame]; exact ho⟩
      · -- replaced by another file
        right
        refine ⟨stepEvent s a ps c, by simp, ?_⟩
        have hsrc : (s.view ps).lookupE (callSrc (s.view ps) c) = some gy := by rw [hy]; exact hly
        have hdstf : (s.view ps).lookupE (callDst (s.view ps) c) = some g := by rw [hd.2]; exact hl
        have hne : gy ≠ g := by
          rintro rfl
          obtain ⟨e1, e2⟩ := x.inv.inj y.1 y.2 p n gy hly hl
          exact hyz (Prod.ext e1 e2)
        simp [Event.destroysRoot, stepEvent, hd.1, hk, hsrc, hdstf, hne, ho]
  by_cases hs : isOk (predict (s.view ps) c) = true ∧ callSrc (s.view ps) c = some (p, n)
  · rcases src_kind hs.2 with hk | hk
    · -- renamed away: the target holds it
      obtain ⟨y, z, gy, hy, hz, hly, hb⟩ := rename_ok hk hs.1
      rw [hs.2] at hy; cases hy
      rw [show (s.view ps).lookup p n = s.fs.lookup p n from rfl, hl] at hly
      cases hly
      left
      refine ⟨z.1, z.2, g, by rw [x.hL, if_pos ⟨hs.1, hz⟩, hb], x.noFlight_iff.2 ⟨?_, ?_⟩, by rw [hosame]; exact ho⟩
      · rw [x.flightAfter, if_neg (fun h => by rw [(rename_not_unlink hk).2] at h; cases h.1), if_pos ⟨.inl hk, hs.1⟩]
        simp
      · exact fun i q hi hq h => x.dst_not_foreign i q z hi hq h ⟨hs.1, hz⟩
    · -- unlinked
      rcases x.shape with ⟨hF0, hfl0⟩ | ⟨d', n', p', hF, hp', hfl⟩
      · -- nothing in flight: removed outright
        right
        refine ⟨stepEvent s a ps c, by simp, ?_⟩
        have hsrc : (s.view ps).lookupE (callSrc (s.view ps) c) = some g := by rw [hs.2]; exact hl
        simp [Event.destroysRoot, stepEvent, hs.1, unlink_not_rename hk, hF0, hsrc, ho]
      · -- the copy takes over
        left
        have hin : (p', n') ∈ ps.inFlight := by rw [hfl]; exact List.mem_singleton.2 rfl
        obtain ⟨gz, hgz, _⟩ := x.inv.flightBound a ps (p', n') x.hp hin
        have hne : (p, n) ≠ (p', n') := by
          intro e; rw [e] at hown; exact hown hin
        have hnd' : ¬ (isOk (predict (s.view ps) c) = true ∧ callDst (s.view ps) c = some (p', n')) := by
          rintro ⟨_, hd'⟩
          rcases dst_kind hd' with h | h
          · rw [(create_not_rename h).2] at hk; cases hk
          · rw [(rename_not_unlink h).1] at hk; cases hk
        have hns' : ¬ (isOk (predict (s.view ps) c) = true ∧ callSrc (s.view ps) c = some (p', n')) := by
          rintro ⟨_, hs'⟩
          rw [hs.2] at hs'
          exact hne (Option.some.inj hs')
        refine ⟨p', n', gz, by rw [x.hL, if_neg hnd', if_neg hns']; exact hgz, x.noFlight_iff.2 ⟨?_, ?_⟩, ?_⟩
        · rw [x.flightAfter, if_neg (fun h => by rw [(create_not_rename h.1).2] at hk; cases hk), if_pos ⟨.inr hk, hs.1⟩]
          simp
        · exact fun i q hi hq h => x.inv.disjoint a i ps q (p', n') (fun e => hi e.symm) x.hp hq hin h
        · rw [stepCall_origin_commit hk hs.1 hs.2 hfl hne hl hgz]; exact ho
  · -- untouched
    exact .inl ⟨p, n, g, by rw [x.hL, if_neg hd, if_neg hs]; exact hl, x.noFlight_keep hnf hl, by rw [hosame]; exact ho⟩

theorem cinv_step (s0 s : Shared) (hlt0 : ∀ p n f, s0.fs.lookup p n = some f → f < s0.fs.nextFid) (a : Nat)
    (hinv : CInv M s0 s) (hiso : isoStep s a = true) : CInv M s0 (stepParty s a) := by
  apply stepParty_cases (P := CInv M s0) hinv
  intro ps c k hp hc
  have x : StepCtx M s0 s a ps c k := ⟨hinv, hp, hc, hiso, hlt0⟩
  exact ⟨Nat.le_trans hinv.nextLe stepCall_nextge, x.boundLt', x.inj', x.dirsOk', x.resolves', x.localOk', x.flightBound',
    x.disjoint', x.writing', x.tmpOk', x.files', x.settled', x.once', x.kept'⟩

def IsExecParty (M : Msg → Prop) (ps : PState) : Prop :=
  ∃ env ml st, M st.ms.msg ∧ ps.prog = errOf (matchesExec env ml st)

def IsScanParty (M : Msg → Prop) (ps : PState) : Prop :=
  ∃ env md rule fuel e, (∀ n ml ms, rule n = some (ml, ms) → M ms.msg) ∧ ps.prog = scanExec env md rule fuel e

/-- What is assumed of the initial state: nobody has started, every bound file id is allocated, no
file is bound twice (no hard links), the directory handles the parties hold refer to existing
directories, and every party is an mdsort run (one action list, or a listing run) or the client.
Any number of parties, any action kinds, any devices. -/
structure StartOKc (M : Msg → Prop) (s0 : Shared) : Prop where
  fresh : Fresh s0
  boundLt : ∀ (p n : Bytes) (f : Nat), s0.fs.lookup p n = some f → f < s0.fs.nextFid
  inj : ∀ (p n p' n' : Bytes) (f : Nat), s0.fs.lookup p n = some f → s0.fs.lookup p' n' = some f → p = p' ∧ n = n'
  dirsOk : ∀ (i : Nat) (ps : PState) (d : Handle) (p : Bytes), s0.parties[i]? = some ps →
    handlesDirPath ps.handles d = some p → (s0.fs.dir p).isSome
  parties : ∀ (i : Nat) (ps : PState), s0.parties[i]? = some ps → IsExecParty M ps ∨ IsScanParty M ps ∨ IsClientParty ps

theorem lookup_mem_entries {w : World} {p n : Bytes} {f : Nat} (h : w.lookup p n = some f) : (p, n, f) ∈ w.entries := by
  obtain ⟨es, hd, he⟩ := mem_dirs_of_lookup h
  simp only [World.entries, List.mem_flatMap, List.mem_map]
  exact ⟨(p, es), hd, (n, f), he, rfl⟩

theorem mem_of_handlesDirPath {hs : List Obj} {d : Handle} {p : Bytes} (h : handlesDirPath hs d = some p) :
    ∃ sn pos, Obj.dir p sn pos ∈ hs := by
  unfold handlesDirPath at h
  rw [List.getD_eq_getElem?_getD] at h
  cases ho : hs[d]? with
  | none => simp [ho] at h
  | some o =>
    have hm := List.mem_of_getElem? ho
    rw [ho] at h
    cases o <;> simp at h
    subst h
    exact ⟨_, _, hm⟩

/-- The decidable part of `StartOKc`. -/
def startChecksC (s0 : Shared) : Bool :=
  s0.fs.entries.all (fun e => e.2.2 < s0.fs.nextFid) &&
  decide ((s0.fs.entries.map (·.2.2)).Nodup) &&
  s0.parties.all fun ps => ps.handles.all fun o =>
    match o with
    | .dir p _ _ => (s0.fs.dir p).isSome
    | _ => true

theorem startOKc_of_checks (s0 : Shared) (hf : Fresh s0) (hc : startChecksC s0 = true)
    (hp : ∀ (i : Nat) (ps : PState), s0.parties[i]? = some ps → IsExecParty M ps ∨ IsScanParty M ps ∨ IsClientParty ps) :
    StartOKc M s0 := by
  simp only [startChecksC, Bool.and_eq_true, List.all_eq_true, decide_eq_true_eq] at hc
  obtain ⟨⟨hlt, hnd⟩, hdirs⟩ := hc
  refine ⟨hf, ?_, ?_, ?_, hp⟩
  · intro p n f h
    exact hlt _ (lookup_mem_entries h)
  · intro p n p' n' f h h'
    have := List.eq_of_nodup_map (fun e : Bytes × Bytes × Nat => e.2.2) hnd (lookup_mem_entries h) (lookup_mem_entries h') rfl
    simp only [Prod.mk.injEq] at this
    exact ⟨this.1, this.2.1⟩
  · intro i ps d p hps hd
    obtain ⟨sn, pos, hin⟩ := mem_of_handlesDirPath hd
    exact hdirs ps (List.mem_of_getElem? hps) _ hin

theorem cinv_init (s0 : Shared) (h : StartOKc M s0) : CInv M s0 s0 := by
  have htr : ∀ (i : Nat) (ps : PState), s0.parties[i]? = some ps → ps.trace = [] :=
    fun i ps hp => h.fresh.2 ps (List.mem_of_getElem? hp)
  have hfl : ∀ (i : Nat) (ps : PState), s0.parties[i]? = some ps → ps.inFlight = [] := by
    intro i ps hp
    simp [PState.inFlight, htr i ps hp, inFlightH]
  have hnf : ∀ y, NoFlight s0 y := by
    intro y i ps hp hy
    rw [hfl i ps hp] at hy; cases hy
  have hlog : s0.log = [] := h.fresh.1
  refine ⟨Nat.le_refl _, h.boundLt, h.inj, h.dirsOk, ?_, ?_, ?_, ?_, ?_, ?_, fun _ _ => rfl, ?_, ?_, ?_⟩
  · intro i ps y hp hy
    simp [htr i ps hp, inFlightH] at hy
  · intro i ps hp
    have ht := htr i ps hp
    refine ⟨by simp [ht, inFlightH], ?_⟩
    rcases h.parties i ps hp with ⟨env, ml, st, hm, hprog⟩ | ⟨env, md, rule, fuel, e, hm, hprog⟩ | ⟨ops, hprog⟩
    · left
      rw [hprog, ht]
      exact copy_party (fun _ _ h => h) env ml st (.inl hm)
    · left
      rw [hprog, ht]
      exact copy_scanExec env md rule hm fuel e [] rfl
    · right
      rw [hprog, ht]
      exact ⟨calls_clientProg ops, rfl⟩
  · intro i ps y hp hy
    rw [hfl i ps hp] at hy; cases hy
  · intro i j ps qs y _ hp _ hy
    rw [hfl i ps hp] at hy; cases hy
  · intro i ps y g hp hy
    rw [hfl i ps hp] at hy; cases hy
  · intro i ps hp
    rw [TmpOK, htr i ps hp]
    exact ⟨(by intro h hh; cases hh), (by intro h hh; cases hh)⟩
  · intro p n g hl _
    refine ⟨⟨p, n, by rw [hlog]; exact hl⟩, .inl ⟨h.boundLt p n g hl, by rw [hlog]; rfl⟩⟩
  · intro p n g p' n' g' h1 h2 _ _ ho
    rw [hlog] at ho
    have : g = g' := ho
    subst this
    exact h.inj p n p' n' g h1 h2
  · intro p0 n0 f0 h0
    exact .inl ⟨p0, n0, f0, h0, hnf _, by rw [hlog]; rfl⟩

theorem cinv_run_from (s0 : Shared) (h : StartOKc M s0) (sched : List Nat) :
    ∀ s, CInv M s0 s → Hiso s sched = true → CInv M s0 (runSched s sched) := by
  induction sched with
  | nil => intro s hs _; exact hs
  | cons a rest ih =>
    intro s hs hi
    simp only [Hiso, Bool.and_eq_true] at hi
    exact ih (stepParty s a) (cinv_step s0 s h.boundLt a hs hi.1) hi.2

theorem cinv_run (s0 : Shared) (h : StartOKc M s0) (sched : List Nat) (hiso : Hiso s0 sched = true) :
    CInv M s0 (runSched s0 sched) :=
  cinv_run_from s0 h sched s0 (cinv_init s0 h) hiso

/-- Only the shape of `LocalOKr` is used: any results `R`, protocol `I` and side condition `C`. -/
theorem finished_inFlight {R : Call → Res → Prop} {I : Trace → Call → Prop} {C : Prop} {ps : PState}
    (h : wp R I ps.prog (fun _ tr => inFlightH tr = []) ps.trace ∨ (C ∧ inFlightH ps.trace = []))
    (hf : ps.finished = true) : ps.inFlight = [] := by
  apply inFlight_of_nil
  rcases h with hw | ⟨_, h0⟩
  · cases hp : ps.prog with
    | ret e => rw [hp] at hw; exact hw
    | call c k => simp [PState.finished, hp] at hf
  · exact h0

/-- Exactly once, for every kind of party, on every complete schedule that respects `H_iso`. -/
theorem exactly_once_copy (s0 : Shared) (h0 : StartOKc M s0) (sched : List Nat) (hiso : Hiso s0 sched = true)
    (hq : (runSched s0 sched).quiescent = true) :
    (∀ p0 n0 f0, s0.fs.lookup p0 n0 = some f0 → (∀ e ∈ (runSched s0 sched).log, e.destroysRoot f0 = false) →
      ∃ p n g, (runSched s0 sched).fs.lookup p n = some g ∧ (runSched s0 sched).origin g = f0 ∧
        ∀ p' n' g', (runSched s0 sched).fs.lookup p' n' = some g' → (runSched s0 sched).origin g' = f0 → p' = p ∧ n' = n) ∧
    (∀ p n g, (runSched s0 sched).fs.lookup p n = some g →
      (∃ p0 n0, s0.fs.lookup p0 n0 = some ((runSched s0 sched).origin g)) ∧
      ((g = (runSched s0 sched).origin g ∧ (runSched s0 sched).fs.file g = s0.fs.file g) ∨
       (s0.fs.nextFid ≤ g ∧ ∃ m f, M m ∧ (runSched s0 sched).fs.file g = some f ∧ f.data = (messageWrite m).1))) ∧
    (∀ p n p' n' g, (runSched s0 sched).fs.lookup p n = some g → (runSched s0 sched).fs.lookup p' n' = some g → p = p' ∧ n = n') := by
  have hinv := cinv_run s0 h0 sched hiso
  have hnf : ∀ y, NoFlight (runSched s0 sched) y := by
    intro y i ps hp hy
    rw [finished_inFlight (hinv.localOk i ps hp).2 (quiescent_finished hq hp)] at hy
    cases hy
  refine ⟨?_, ?_, ?_⟩
  · intro p0 n0 f0 hl hnd
    rcases hinv.kept p0 n0 f0 hl with ⟨p, n, g, h, _, ho⟩ | ⟨e, he, hd⟩
    · refine ⟨p, n, g, h, ho, ?_⟩
      intro p' n' g' h' ho'
      exact hinv.once p' n' g' p n g h' h (hnf _) (hnf _) (ho'.trans ho.symm)
    · rw [hnd e he] at hd; cases hd
  · intro p n g hl
    obtain ⟨hex, hc⟩ := hinv.settled p n g hl (hnf _)
    refine ⟨hex, ?_⟩
    rcases hc with ⟨h1, h2⟩ | h
    · exact .inl ⟨h2.symm, hinv.files g h1⟩
    · exact .inr h
  · intro p n p' n' g h1 h2
    exact hinv.inj p n p' n' g h1 h2

end Mdsort.Proofs.Parties
