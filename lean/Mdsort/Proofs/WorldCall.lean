import Mdsort.Model.World

/-! What one call does to the abstract file system: `applyOk` read as a relation (`Upd`) with one
constructor per shape of update.  Every fact of the form "no call changes X unless ..." is proved by
cases on `Upd`, never by unfolding `applyOk` again. -/

namespace Mdsort.Proofs.World
open Mdsort Mdsort.Model

/-- The world after a call, before the trace is extended.  A result that is impossible in `w` (`applyOk = none`) changes
nothing, as in `stepWorld`: so a statement for all `r` also covers results no run produces, and holds for them trivially. -/
def core (w : World) (c : Call) (r : Res) : World := (applyOk w c r).getD w

def objFid : Obj → Option Nat
  | .file fid _ _ => some fid
  | .stream fid _ => some fid
  | _ => none

/-- The handle a call acts on (the only existing handle whose object it can change). -/
def Call.subject : Call → Option Handle
  | .readdir d | .rewinddir d | .closedir d => some d
  | .read fd | .write fd _ | .close fd | .fdopen fd | .fprintf fd _ | .fflush fd | .fclose fd => some fd
  | _ => none

/-- The handle a call releases even when it fails. -/
def Call.released : Call → Option Handle
  | .closedir d | .close d | .fclose d => some d
  | _ => none

/-- `Upd w c w'`: `w'` is `w` or what a result of call `c` that is possible in `w` makes of it. -/
inductive Upd (w : World) : Call → World → Prop
  | refl (c : Call) : Upd w c w
  /-- `readdir`, `rewinddir`: the stream moves within its directory. -/
  | dirPos {c : Call} {d : Handle} {p : Bytes} {sn : Option (List Bytes)} {pos : Nat} (sn' : Option (List Bytes)) (pos' : Nat) :
      Call.subject c = some d → w.obj d = .dir p sn pos → Upd w c (w.setObj d (.dir p sn' pos'))
  | closedir (d : Handle) : Upd w (.closedir d) (w.setObj d .closed)
  | close (fd : Handle) : Upd w (.close fd) (w.setObj fd .closed)
  /-- `fclose` of a stream that failed, or of the configuration file.  Only "not a directory stream" is recorded: that is what
  "a directory handle keeps its path unless `close`/`closedir`" needs. -/
  | fcloseOnly {fd : Handle} : (∀ p sn pos, w.obj fd ≠ .dir p sn pos) → Upd w (.fclose fd) (w.setObj fd .closed)
  /-- `opendir`, `openRd`, `openPath`, `fopen`, `dupfd`: a new handle and nothing else.  A new directory stream (`opendir`) is on
  an existing directory; no new handle is a stdio stream (only `fdopen` makes one, of an existing descriptor). -/
  | handle (c : Call) {o : Obj} : (∀ fid buf, o ≠ .stream fid buf) → (∀ p sn pos, o = .dir p sn pos → (w.dir p).isSome) →
      Upd w c (w.newHandle o).1
  | read {fd : Handle} {fid off : Nat} {wr : Bool} (n : Nat) :
      w.obj fd = .file fid off wr → Upd w (.read fd) (w.setObj fd (.file fid (off + n) wr))
  | writeFile {fd : Handle} {fid off : Nat} {wr : Bool} {f : File} (data : Bytes) (n : Nat) :
      w.obj fd = .file fid off wr → w.file fid = some f →
      Upd w (.write fd data) ((w.setFile fid { f with data := f.data ++ data.take n }).setObj fd (.file fid (off + n) wr))
  | writeStream {fd : Handle} {fid : Nat} {buf : Bytes} (data : Bytes) (n : Nat) : w.obj fd = .stream fid buf →
      Upd w (.write fd data) (w.setObj fd (.stream fid (buf ++ data.take n)))
  | fprintfFile {fd : Handle} {fid off : Nat} {wr : Bool} {f : File} (data : Bytes) (n : Nat) :
      w.obj fd = .file fid off wr → w.file fid = some f →
      Upd w (.fprintf fd data) ((w.setFile fid { f with data := f.data ++ data.take n }).setObj fd (.file fid (off + n) wr))
  | fprintfStream {fd : Handle} {fid : Nat} {buf : Bytes} (data : Bytes) (n : Nat) : w.obj fd = .stream fid buf →
      Upd w (.fprintf fd data) (w.setObj fd (.stream fid (buf ++ data.take n)))
  | fsync {fd : Handle} {fid : Nat} {f : File} :
      objFid (w.obj fd) = some fid → w.file fid = some f → Upd w (.fsync fd) (w.setFile fid { f with durable := f.data })
  | fdopen {fd : Handle} {fid off : Nat} {wr : Bool} :
      w.obj fd = .file fid off wr → Upd w (.fdopen fd) (w.setObj fd (.stream fid []))
  | fflush {fd : Handle} {fid : Nat} {buf : Bytes} {f : File} : w.obj fd = .stream fid buf → w.file fid = some f →
      Upd w (.fflush fd) ((w.setFile fid { f with data := f.data ++ buf }).setObj fd (.stream fid []))
  | fclose {fd : Handle} {fid : Nat} {buf : Bytes} {f : File} : w.obj fd = .stream fid buf → w.file fid = some f →
      Upd w (.fclose fd) ((w.setFile fid { f with data := f.data ++ buf }).setObj fd .closed)
  | openExcl {d : Handle} {n p : Bytes} : w.dirPath d = some p → w.lookup p n = none →
      Upd w (.openExcl d n)
        (((({ w with nextFid := w.nextFid + 1 } : World).setFile w.nextFid ⟨[], []⟩).bind p n w.nextFid).newHandle (.file w.nextFid 0 true)).1
  | mkostemp (t : Bytes) :
      Upd w (.mkostemp t) ((({ w with nextFid := w.nextFid + 1 } : World).setFile w.nextFid ⟨[], []⟩).newHandle (.file w.nextFid 0 true)).1
  | renameat {d1 d2 : Handle} {n1 n2 p1 p2 : Bytes} {fid : Nat} : w.dirPath d1 = some p1 → w.dirPath d2 = some p2 →
      w.lookup p1 n1 = some fid → Upd w (.renameat d1 n1 d2 n2) ((w.unbind p1 n1).bind p2 n2 fid)
  | unlinkat {d : Handle} {n p : Bytes} {fid : Nat} : w.dirPath d = some p → w.lookup p n = some fid →
      Upd w (.unlinkat d n) (w.unbind p n)
  | utimensat {d : Handle} {n p : Bytes} {fid : Nat} (a : Option Nat) (t : Nat) : w.dirPath d = some p → w.lookup p n = some fid →
      Upd w (.utimensat d n a (some t)) (w.setMtime fid t)
  | mkdtemp (t p : Bytes) : Upd w (.mkdtemp t) { w with dirs := w.dirs ++ [(p, [])] }
  | mkdir (p : Bytes) : Upd w (.mkdir p) { w with dirs := w.dirs ++ [(p, [])] }
  | rmdir {p : Bytes} : w.dir p = some [] → Upd w (.rmdir p) { w with dirs := w.dirs.filter (·.1 != p) }

theorem upd_of_applyOk {w w' : World} {c : Call} {r : Res} (h : applyOk w c r = some w') : Upd w c w' := by
  have wr (fd : Handle) (data : Bytes) (n : Nat) (c : Call) (hf : ∀ {fid off wr f}, w.obj fd = .file fid off wr → w.file fid = some f →
      Upd w c ((w.setFile fid { f with data := f.data ++ data.take n }).setObj fd (.file fid (off + n) wr)))
      (hs : ∀ {fid buf}, w.obj fd = .stream fid buf → Upd w c (w.setObj fd (.stream fid (buf ++ data.take n)))) :
      Upd w c (applyWrite w fd data n) := by
    unfold applyWrite
    split
    · next ho =>
      split
      · next hf' => exact hf ho hf'
      · exact .refl _
    · next ho => exact hs ho
    · exact .refl _
  revert h
  -- one goal for each arm of `applyOk` with its `if`s and `match`es on the object of the handle split; the arms that are `none` go
  fun_cases applyOk w c r <;> intro h <;> try (cases h; done)
  case case1 p _ =>  -- opendir
    obtain ⟨es, hd, rfl⟩ := Option.map_eq_some_iff.1 h
    exact .handle _ (by rintro _ _ ⟨⟩) (by rintro _ _ _ ⟨⟩; rw [hd]; rfl)
  case case2 | case5 | case8 =>  -- readdir (a name, the end), rewinddir
    cases h
    exact .dirPos _ _ rfl (by assumption)
  case case11 d n _ =>  -- openRd
    obtain ⟨p, -, fid, -, rfl⟩ : ∃ p, w.dirPath d = some p ∧ ∃ fid, w.lookup p n = some fid ∧ (w.newHandle (.file fid 0 false)).1 = w' := by
      simpa only [Option.bind_eq_some_iff, Option.map_eq_some_iff] using h
    exact .handle _ (by rintro _ _ ⟨⟩) (by rintro _ _ _ ⟨⟩)
  case case12 =>  -- openExcl
    obtain ⟨p, hp, h⟩ := Option.bind_eq_some_iff.1 h
    split at h
    · cases h
    · next hl =>
        cases h
        exact .openExcl hp hl
  case case15 n _ _ _ ho =>  -- read on a descriptor
    obtain ⟨f, -, h⟩ := Option.bind_eq_some_iff.1 h
    split at h
    · cases h
      exact .read n ho
    · cases h
  case case19 fd data n _ =>  -- write
    cases h
    exact wr fd data n _ (.writeFile data n) (.writeStream data n)
  case case30 fd data n _ =>  -- fprintf
    cases h
    exact wr fd data n _ (.fprintfFile data n) (.fprintfStream data n)
  case case20 ho | case21 ho =>  -- fsync of a descriptor, of a stream
    obtain ⟨f, hf, rfl⟩ := Option.map_eq_some_iff.1 h
    exact .fsync (by rw [ho]; rfl) hf
  case case27 ho =>  -- fdopen
    cases h
    exact .fdopen ho
  case case31 ho =>  -- fflush
    obtain ⟨f, hf, rfl⟩ := Option.map_eq_some_iff.1 h
    exact .fflush ho hf
  case case33 ho =>  -- fclose of a stream: flushed unless it failed
    obtain ⟨f, hf, rfl⟩ := Option.map_eq_some_iff.1 h
    split
    · exact .fcloseOnly (by rw [ho]; rintro _ _ _ ⟨⟩)
    · exact .fclose ho hf
  case case34 ho =>  -- fclose of the configuration file
    cases h
    exact .fcloseOnly (by rw [ho]; rintro _ _ _ ⟨⟩)
  case case36 d1 n1 d2 n2 _ =>  -- renameat
    obtain ⟨p1, hp1, p2, hp2, fid, hl, rfl⟩ : ∃ p1, w.dirPath d1 = some p1 ∧ ∃ p2, w.dirPath d2 = some p2 ∧
        ∃ fid, w.lookup p1 n1 = some fid ∧ (w.unbind p1 n1).bind p2 n2 fid = w' := by
      simpa only [Option.bind_eq_some_iff, Option.map_eq_some_iff] using h
    exact .renameat hp1 hp2 hl
  case case37 d n _ =>  -- unlinkat
    obtain ⟨p, hp, fid, hl, rfl⟩ : ∃ p, w.dirPath d = some p ∧ ∃ fid, w.lookup p n = some fid ∧ w.unbind p n = w' := by
      simpa only [Option.bind_eq_some_iff, Option.map_eq_some_iff] using h
    exact .unlinkat hp hl
  case case39 d n v =>  -- fstatat
    obtain ⟨p, -, fid, -, h⟩ : ∃ p, w.dirPath d = some p ∧ ∃ fid, w.lookup p n = some fid ∧
        (if (w.mtime fid == v) = true then some w else none) = some w' := by
      simpa only [Option.bind_eq_some_iff] using h
    split at h
    · cases h
      exact .refl _
    · cases h
  case case41 d n a mt _ =>  -- utimensat
    obtain ⟨p, hp, fid, hl, rfl⟩ := by
      simpa only [Option.bind_eq_some_iff, Option.map_eq_some_iff] using h
    cases mt with
    | none => exact .refl _
    | some t => exact .utimensat a t hp hl
  case case46 hd =>  -- rmdir of an empty directory
    cases h
    exact .rmdir hd
  -- the remaining arms are `some _` without a condition: `h` says which world `w'` is
  all_goals cases h
  case case10 => exact .closedir _
  case case23 => exact .close _
  -- openPath, fopen, dupfd of a descriptor, dupfd of `/dev/null` or the configuration file: a new handle and nothing else
  case case13 | case14 | case24 | case25 => exact .handle _ (by rintro _ _ ⟨⟩) (by rintro _ _ _ ⟨⟩)
  case case43 => exact .mkostemp _
  case case44 => exact .mkdtemp _ _
  case case45 => exact .mkdir _
  -- read of something that is no descriptor, unlink, stat, lseek, fork, waitpid and the catch-all arm: `w' = w`
  all_goals exact .refl _
theorem core_upd (w : World) (c : Call) (r : Res) : Upd w c (core w c r) := by
  unfold core
  cases h : applyOk w c r with
  | none => exact .refl c
  | some w' => exact upd_of_applyOk h

/-- `core_cases w c r`: one goal for each constructor of `Upd`, the new world written out in place of `core w c r`
(in the goal only) and the call in place of `c` (everywhere) where the constructor fixes it. -/
macro "core_cases " w:term:max c:term:max r:term:max : tactic =>
  `(tactic| (have h := core_upd $w $c $r; generalize core $w $c $r = w' at h ⊢; cases h))

theorem core_eq_self_of_none {w : World} {c : Call} {r : Res} (h : applyOk w c r = none) : core w c r = w := by
  rw [core, h]
  rfl

end Mdsort.Proofs.World
