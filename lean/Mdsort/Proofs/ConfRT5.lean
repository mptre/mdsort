import Mdsort.Proofs.ConfRT1
import Mdsort.Proofs.ConfSpec2

/-!
# Reading back what `Spec.printBlocks` writes: the whole configuration
-/

namespace Mdsort.Proofs.Conf
open Mdsort Mdsort.Model Mdsort.Spec

variable {tl : Bytes} {Err : Nat → ParseSt → Prop}

/-! Every token of a well-formed, writable tree can be read back: Boolean facts that follow the printer (`List.all_append`). -/

theorem strsToks_all (l : List Bytes) : (strsToks l).all tokOK = l.all strOK := by
  simp [strsToks, List.all_append, List.all_map, Function.comp_def, tokOK]

theorem condLeafToks_all (rx : Pat → Bool) (e : Expr) (h1 : leafOK rx e = true) (h2 : leafPOK e = true) :
    (condLeafToks e).all tokOK = true := by
  cases e <;> simp_all [condLeafToks, leafOK, leafPOK, tokOK, List.all_append, strsToks_all]
  case date l f c age => cases f <;> cases c <;> simp

theorem actLeafToks_all (e : Expr) (h2 : leafPOK e = true) : (actLeafToks e).all tokOK = true := by
  cases e <;> simp_all [actLeafToks, leafPOK, tokOK, List.all_append, strsToks_all]

theorem toks_all (rx : Pat → Bool) (t : CTree) (k : Kind) (hw : wfK rx k t = true) (hp : treePOK t = true) :
    (toks k t).all tokOK = true := by
  fun_induction wfK rx k t
  -- the cases are the equations of `Spec.wfK` in the order of Spec/Conf.lean: 1 cond leaf, 2 cond `and`, 3 cond `or`, 4 `!`,
  -- 5 `attachment` cond, 6 rule `match`, 7 rules `match` (first rule), 8 rules `or`, 9 block, 10 empty block, 11 act leaf,
  -- 12 act `attachment { }`, 13 acts leaf, 14 acts `attachment { }`, 15 acts `and`, 16 every other pair (not well formed)
  case case16 => cases hw
  case case10 => rfl
  all_goals try simp only [Bool.and_eq_true, Bool.or_eq_true] at hw
  all_goals simp only [treePOK_leaf, treePOK_and, treePOK_or, treePOK_neg, treePOK_attachment, treePOK_mtch, treePOK_block,
    treePOK_attBlock, Bool.and_eq_true] at hp
  case case1 e => exact condLeafToks_all rx e hw.2 hp
  case case11 e | case13 e => exact actLeafToks_all e hp
  case case6 l c r ihc ihb iha | case7 l c r ihc ihb iha =>
    -- a rule: its right side is written as a block or as a list of actions
    have hr : (if isBlock r then toks .block r else toks .acts r).all tokOK = true := by
      rcases hw.2 with ⟨h1, _⟩ | ⟨h1, _⟩
      · rw [isBlock_of_wf_block _ _ h1, if_pos rfl]; exact ihb h1 hp.2
      · rw [not_isBlock_of_wf_acts _ _ h1]; exact iha h1 hp.2
    simp [toks, List.all_append, ihc hw.1 hp.1, hr, tokOK]
  -- every other production: the tokens of the parts, and punctuation
  case case2 l a b iha ihb | case3 l a b iha ihb | case8 l a b iha ihb | case15 l a b iha ihb =>
    simp [toks, List.all_append, iha hw.1 hp.1, ihb hw.2 hp.2, tokOK]
  case case4 l e ih | case5 l e ih | case9 l e ih => simp [toks, List.all_append, ih hw hp, tokOK]
  case case12 l b ih | case14 l b ih => simp [toks, ih hw.1.1 hp, tokOK]

theorem blockToks_all (rx : Pat → Bool) (b : PBlock) (h1 : blockOK rx b = true) (h2 : treePOK b.tree = true)
    (h3 : b.paths.all strOK = true) : (blockToks b).all tokOK = true := by
  rw [blockToks, List.all_append, toks_all rx b.tree .block (blockOK_parts h1).1 h2]
  split <;> simp [strsToks_all, h3, tokOK]

theorem confOK_parts {rx : Pat → Bool} {bs : List PBlock} (hok : ConfOK rx bs = true) :
    (∀ b ∈ bs, blockOK rx b = true ∧ treePOK b.tree = true ∧ b.paths.all strOK = true) ∧ stdinOK [] bs = true := by
  simp only [ConfOK, Bool.and_eq_true, List.all_eq_true] at hok
  obtain ⟨hall, hstd⟩ := hok
  refine ⟨?_, hstd⟩
  intro b hb
  have := hall b hb
  exact ⟨this.1.1, this.1.2, by simpa [List.all_eq_true] using this.2⟩

theorem confToks_all (rx : Pat → Bool) (bs : List PBlock) (h : ConfOK rx bs = true) : (bs.flatMap blockToks).all tokOK = true := by
  rw [List.all_flatMap, List.all_eq_true]
  exact fun b hb => blockToks_all rx b ((confOK_parts h).1 b hb).1 ((confOK_parts h).1 b hb).2.1 ((confOK_parts h).1 b hb).2.2

theorem lexOK_mem {l : List PTok} (h : l.all tokOK = true) : ∀ x ∈ l, lexOK x = true :=
  fun x hx => lexOK_of_tokOK (List.all_eq_true.1 h x hx)

theorem maildirBody_rt (cx : PCtx) (b : PBlock) (h1 : blockOK cx.rxOk b = true)
    (h2 : treePOK b.tree = true) (fuel : Nat) :
    RT cx tl (parseMaildirBody cx fuel b.paths) (relabelBlock b) (toks .block b.tree) := by
  intro s ts hs
  simp only [blockOK, Bool.and_eq_true, decide_eq_true_eq, Bool.or_eq_true, Bool.not_eq_true', beq_iff_eq] at h1
  obtain ⟨⟨hw, hcount⟩, hrej⟩ := h1
  unfold parseMaildirBody
  rw [toks_block_cons _ _ hw, List.cons_append] at hs
  refine wpl_rt_bind (expectTk_rt .lbrace rfl) hs fun s1 h1 => ?_
  refine wpl_rt_bind (all_rt cx b.tree .block hw h2 NoE fuel) h1 fun s2 h2' => ?_
  have hrj : ((b.paths.any fun p => !isStdinStr p) && decide (b.tree.countLeaf Expr.isReject > 0)) = false := by
    rcases hrej with h | h <;> simp [h]
  rw [countActions_relabel, countLeaf_relabel Expr.isReject isReject_withLno, if_neg (by simp only [beq_iff_eq]; omega), hrj,
    if_neg Bool.false_ne_true]
  exact ⟨rfl, h2'⟩

theorem any_stdin_relabel (l : List PBlock) :
    ((l.map relabelBlock).any fun b => b.paths.any isStdinStr) = (l.any fun b => b.paths.any isStdinStr) := by
  induction l <;> simp_all [relabelBlock]

theorem parseTop_head (cx : PCtx) (paths : List Bytes) (hpaths : paths.all strOK = true) (seen : List PBlock)
    (hstd : paths = [stdinStr] → (seen.any fun x => x.paths.any isStdinStr) = false)
    (ts : List PTok) (Q : List PBlock → ParseSt → Prop)
    (hk : ∀ fuel' s', Up cx tl s' ts →
      wpl (parseMaildirBody cx fuel' paths >>= fun b => parseTop cx fuel' (seen ++ [b])) Q Err True s') :
    ∀ (fuel : Nat) (s : ParseSt), Up cx tl s (headToks paths ++ ts) → wpl (parseTop cx fuel seen) Q Err True s := by
  intro fuel s hs
  obtain _ | fuel := fuel
  · exact trivial
  unfold parseTop
  unfold headToks at hs
  by_cases hp : paths = [stdinStr]
  · rw [if_pos hp] at hs
    refine wpl_eat hs rfl rfl fun s2 h2 => ?_
    rw [hstd hp, if_neg Bool.false_ne_true, ← hp]
    exact hk fuel s2 h2
  · rw [if_neg hp] at hs
    refine wpl_eat hs rfl rfl fun s2 h2 => ?_
    refine wpl_rt_bind (parseStrings_rt paths fuel) h2 fun s3 h3 => ?_
    exact wpl_expandAll_bind hpaths h3 (hk fuel s3 h3)

theorem parseTop_step (cx : PCtx) (b : PBlock)
    (hb : blockOK cx.rxOk b = true ∧ treePOK b.tree = true ∧ b.paths.all strOK = true) (seen : List PBlock)
    (hstd : b.paths = [stdinStr] → (seen.any fun x => x.paths.any isStdinStr) = false)
    (ts : List PTok) (Q : List PBlock → ParseSt → Prop)
    (hQ : ∀ fuel' s', Up cx tl s' ts → wpl (parseTop cx fuel' (seen ++ [relabelBlock b])) Q Err True s') :
    ∀ (fuel : Nat) (s : ParseSt), Up cx tl s (blockToks b ++ ts) → wpl (parseTop cx fuel seen) Q Err True s := by
  intro fuel s hs
  refine parseTop_head cx b.paths hb.2.2 seen hstd (toks .block b.tree ++ ts) Q (fun fuel' s' h' => ?_) fuel s
    (by simpa [blockToks, headToks, List.append_assoc] using hs)
  exact wpl_rt_bind (maildirBody_rt cx b hb.1 hb.2.1 fuel') h' (hQ fuel')

theorem parseTop_prefix (cx : PCtx) : ∀ (pre seen : List PBlock),
    (∀ b ∈ pre, blockOK cx.rxOk b = true ∧ treePOK b.tree = true ∧ b.paths.all strOK = true) →
    stdinOK seen pre = true →
    ∀ (ts : List PTok) (Q : List PBlock → ParseSt → Prop),
    (∀ fuel' s', Up cx tl s' ts → wpl (parseTop cx fuel' ((seen ++ pre).map relabelBlock)) Q Err True s') →
    ∀ (fuel : Nat) (s : ParseSt), Up cx tl s (pre.flatMap blockToks ++ ts) →
      wpl (parseTop cx fuel (seen.map relabelBlock)) Q Err True s := by
  intro pre
  induction pre with
  | nil =>
    intro seen _ _ ts Q hQ fuel s hs
    simpa using hQ fuel s (by simpa using hs)
  | cons b rest ih =>
    intro seen hall hstd ts Q hQ fuel s hs
    have hb := hall b (by simp)
    simp only [stdinOK, Bool.and_eq_true, Bool.or_eq_true, Bool.not_eq_true', decide_eq_false_iff_not] at hstd
    have hno : b.paths = [stdinStr] → ((seen.map relabelBlock).any fun x => x.paths.any isStdinStr) = false := by
      intro hp
      rw [any_stdin_relabel]
      exact hstd.1.resolve_left (fun h => h hp)
    simp only [List.flatMap_cons, List.append_assoc] at hs
    refine parseTop_step cx b hb (seen.map relabelBlock) hno (rest.flatMap blockToks ++ ts) Q ?_ fuel s hs
    intro fuel' s' h'
    have := ih (seen ++ [b]) (fun x hx => hall x (by simp [hx])) hstd.2 ts Q
      (by intro f2 s2 h2; have := hQ f2 s2 h2; simpa using this) fuel' s' h'
    simpa using this

theorem parseTop_rt (cx : PCtx) (rest seen : List PBlock)
    (hall : ∀ b ∈ rest, blockOK cx.rxOk b = true ∧ treePOK b.tree = true ∧ b.paths.all strOK = true)
    (hstd : stdinOK seen rest = true) (fuel : Nat) (s : ParseSt) (hs : Up cx [] s (rest.flatMap blockToks)) :
    wpl (parseTop cx fuel (seen.map relabelBlock))
      (fun r s' => r = (seen ++ rest).map relabelBlock ∧ s'.macros = []) Err True s := by
  refine parseTop_prefix (tl := []) cx rest seen hall hstd [] _ ?_ fuel s (by simpa using hs)
  intro fuel' s' h'
  obtain _ | fuel' := fuel'
  · exact trivial
  unfold parseTop
  exact wpl_see_end h' fun s1 hm => ⟨rfl, hm⟩

theorem peek_tokLine (cx : PCtx) (pf sf : Bool) (s : ParseSt) (hla : s.la = none) (x : Nat) :
    peek cx pf sf { s with tokLine := x } = peek cx pf sf s := by
  unfold peek
  simp only [hla]

theorem parseTop_tokLine (cx : PCtx) (fuel : Nat) (bl : List PBlock) (s : ParseSt) (hla : s.la = none) (x : Nat) :
    parseTop cx (fuel + 1) bl { s with tokLine := x } = parseTop cx (fuel + 1) bl s := by
  unfold parseTop
  show PM.bind (peek cx false false) _ _ = PM.bind (peek cx false false) _ _
  unfold PM.bind
  rw [peek_tokLine cx false false s hla x]

theorem tailOK_head {tl : Bytes} (h : tailOK tl = true) : ∀ c, tl.head? = some c → c = 32 := by
  intro c hc
  cases tl with
  | nil => simp at hc
  | cons x r =>
    simp only [List.head?_cons, Option.some.injEq] at hc
    subst hc
    simpa [tailOK] using h

/-- What the top-level loop does in front of the written tokens `tks` followed by `tl` is what `parseConfig` does on that text
(the budget is not exhausted: `parseConfigFull_spec`). -/
theorem parseConfig_written (home : Bytes) (rx : Pat → Bool) (tks : List PTok) (tl : Bytes) (htl : tailOK tl = true)
    (hok : ∀ t ∈ tks, lexOK t = true) (Q : List PBlock → Prop) (E : Nat → Prop)
    (h : ∀ (fuel : Nat) (s : ParseSt), Up { nl := countNl tl, home := home, rxOk := rx } tl s tks →
      wpl (parseTop { nl := countNl tl, home := home, rxOk := rx } fuel []) (fun bs s' => Q bs ∧ s'.macros = []) (fun l _ => E l) True s) :
    match parseConfig home [] rx (Spec.render tks ++ tl) with
    | .ok bs => Q bs
    | .error l => E l
    | _ => False := by
  have hnl : countNl (Spec.render tks ++ tl) = countNl tl := by
    rw [countNl_append, render_noNl tks hok]; omega
  have htot := (parseConfigFull_spec home [] rx (Spec.render tks ++ tl)).1
  unfold parseConfig parseConfigFull at htot ⊢
  simp only [macrosOfDefs, hnl] at htot ⊢
  -- `Strm.tokl` asks for `tokLine = 1` (every `failTok` in the written part then reports line 1), while `parseConfig` starts
  -- with `tokLine = 0`: the walk starts from the state with 1, and the value before the first `peek` is never read
  -- (`parseTop_tokLine`)
  have := h ((Spec.render tks ++ tl).length + 1) { rest := Spec.render tks ++ tl, macros := [], tokLine := 1 }
    (Or.inl { la_eq := rfl, rest_eq := rfl, am := rfl, mac := rfl, ok := hok, tl_head := tailOK_head htl, nl_eq := rfl, tokl := rfl })
  unfold wpl at this
  rw [parseTop_tokLine _ _ _ ({ rest := Spec.render tks ++ tl, macros := [] } : ParseSt) rfl 1] at this
  split at this
  · rename_i blocks s' heq
    rw [heq]
    simp only [this.2, firstUnused, List.find?_nil]
    exact this.1
  · rename_i l s' heq
    rw [heq]
    exact this
  · rename_i s' heq
    rw [heq] at htot
    exact absurd rfl htot

/-- `parseConfig` reads back every configuration `printBlocks` is meant for, with every node on line 1. -/
theorem printBlocks_roundtrip (home : Bytes) (rx : Pat → Bool) (bs : List PBlock) (hok : ConfOK rx bs = true) :
    parseConfig home [] rx (printBlocks bs) = .ok (bs.map relabelBlock) := by
  obtain ⟨hall, hstd⟩ := confOK_parts hok
  have := parseConfig_written home rx (bs.flatMap blockToks) [] rfl (lexOK_mem (confToks_all rx bs hok)) (· = bs.map relabelBlock)
    (fun _ => False) fun fuel s hs => by simpa using parseTop_rt (Err := fun _ _ => False) _ bs [] hall hstd fuel s hs
  rw [List.append_nil] at this
  unfold printBlocks
  split at this
  · rename_i heq; rw [heq, this]
  · exact this.elim
  · exact this.elim

end Mdsort.Proofs.Conf
