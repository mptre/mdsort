import Mdsort.Proofs.L0Basic

/-!
# libks/buffer.c at index level: every write inside the object, contents = the pieces appended

Invariant `WF`: the object has exactly `bf_siz` bytes and `bf_len <= bf_siz`.  Under it every operation returns
`.ok` (no `Fault.oob`), keeps the invariant, and appends its piece to `contents` (the first `bf_len` bytes).
-/

namespace Mdsort.L0
open Mdsort

namespace LBuf

structure WF (bf : LBuf) : Prop where
  size : bf.store.size = bf.cap
  le : bf.len ≤ bf.cap

theorem grow_ge (a n : Nat) (ha : 0 < a) : a ≤ grow a n ∧ n ≤ grow a n := by
  fun_induction grow a n with
  | case1 a h ih =>
    have := ih (by omega)
    omega
  | case2 a h => omega

theorem empty_wf : WF empty := ⟨rfl, Nat.le_refl _⟩

theorem realloc_size (b : Buf) (n : Nat) : (b.realloc n).size = n := by
  unfold Buf.realloc Buf.size
  simp
  omega

theorem realloc_take (b : Buf) (n k : Nat) (hk : k ≤ b.size) (hn : b.size ≤ n) :
    (b.realloc n).bytes.toList.take k = b.bytes.toList.take k := by
  unfold Buf.size at hk hn
  have e : (b.realloc n).bytes.toList = b.bytes.toList.take n ++ List.replicate (n - b.bytes.size) 0xAA := by
    simp [Buf.realloc]
  have e2 : List.take n b.bytes.toList = b.bytes.toList := List.take_of_length_le (by simpa using hn)
  rw [e, e2, List.take_append_of_le_length (by simpa using hk)]

theorem reserve_spec (bf : LBuf) (n : Nat) (h : WF bf) :
    WF (bf.reserve n) ∧ (bf.reserve n).len = bf.len ∧ bf.len + n ≤ (bf.reserve n).cap ∧
    bf.cap ≤ (bf.reserve n).cap ∧ (bf.reserve n).contents = bf.contents := by
  unfold reserve
  by_cases hc : bf.cap ≥ bf.len + n
  · rw [if_pos hc]
    exact ⟨h, rfl, hc, Nat.le_refl _, rfl⟩
  · rw [if_neg hc]
    have hg := grow_ge (if bf.cap = 0 then 16 else bf.cap) (bf.len + n) (by split <;> omega)
    have hcap : bf.cap ≤ grow (if bf.cap = 0 then 16 else bf.cap) (bf.len + n) := by
      have := hg.1
      split at this <;> omega
    refine ⟨⟨realloc_size _ _, by simp only; omega⟩, rfl, hg.2, hcap, ?_⟩
    unfold contents
    simp only
    exact realloc_take _ _ _ (by rw [h.size]; exact h.le) (by rw [h.size]; exact hcap)

/-- `buffer_alloc(n)`: well formed, empty, at least `n` bytes of capacity, no contents (in this order). -/
theorem alloc_wf (n : Nat) : WF (alloc n) ∧ (alloc n).len = 0 ∧ n ≤ (alloc n).cap ∧ (alloc n).contents = [] := by
  have := reserve_spec empty n empty_wf
  unfold alloc
  refine ⟨this.1, this.2.1, by simpa [empty] using this.2.2.1, ?_⟩
  rw [this.2.2.2.2]
  rfl

theorem contents_eq (bf : LBuf) : bf.contents = bf.store.slice 0 bf.len := by
  rw [Buf.slice_eq]; rfl

theorem append_at (bf : LBuf) (s : Bytes) (h : WF bf) (hfit : bf.len + s.length ≤ bf.cap) :
    ∃ st, bf.store.writeAt bf.len s = .ok st ∧ st.size = bf.cap ∧ st.slice 0 (bf.len + s.length) = bf.contents ++ s := by
  obtain ⟨st, hw, hsz, hsl⟩ := Buf.writeAt_push s bf.store bf.len (by rw [h.size]; exact hfit)
  exact ⟨st, hw, hsz.trans h.size, by rw [hsl, contents_eq]⟩

theorem puts_spec (bf : LBuf) (s : Bytes) (h : WF bf) :
    ∃ bf', bf.puts s = .ok (0, bf') ∧ WF bf' ∧ bf'.contents = bf.contents ++ s ∧ bf.cap ≤ bf'.cap := by
  unfold puts
  by_cases he : s.isEmpty
  · simp only [he, if_true]
    have : s = [] := by simpa using he
    exact ⟨bf, rfl, h, by simp [this], Nat.le_refl _⟩
  · simp only [he]
    obtain ⟨hwf, hlen, hfit, hcap, hcont⟩ := reserve_spec bf s.length h
    obtain ⟨st, hw, hsz, hsl⟩ := append_at (bf.reserve s.length) s hwf (by rw [hlen]; exact hfit)
    rw [hw]
    exact ⟨_, rfl, ⟨hsz, by simp only; rw [hlen]; exact hfit⟩, by rw [contents_eq, hsl, hcont], hcap⟩

theorem putc_spec (bf : LBuf) (c : UInt8) (h : WF bf) :
    ∃ bf', bf.putc c = .ok (0, bf') ∧ WF bf' ∧ bf'.contents = bf.contents ++ [c] ∧ bf.cap ≤ bf'.cap :=
  puts_spec bf [c] h

/-- `vsnprintf` into the free space of a buffer in which the string AND its terminator fit: in bounds; the bytes in
use followed by the string. -/
theorem vsnprintf_fits (bf : LBuf) (s : Bytes) (size : Nat) (h : WF bf) (hfit : bf.len + s.length + 1 ≤ bf.cap)
    (hsize : s.length + 1 ≤ size) :
    ∃ st, vsnprintf bf.store bf.len size s = .ok st ∧ st.size = bf.cap ∧
      st.slice 0 (bf.len + s.length) = bf.contents ++ s := by
  unfold vsnprintf
  have h0 : ¬ size = 0 := by omega
  simp only [h0, if_false]
  have hmin : min s.length (size - 1) = s.length := by omega
  rw [hmin, List.take_length]
  obtain ⟨st, hw, hsz, hsl⟩ := append_at bf s h (by omega)
  rw [hw]
  simp only
  have hset := Buf.set_ok (b := st) (i := bf.len + s.length) 0 (by omega)
  exact ⟨_, hset, (Buf.size_of_set hset).trans hsz, by rw [Buf.slice_of_set hset (Nat.le_refl _), hsl]⟩

/-- `buffer_vprintf` with room reserved for the terminator (`extra >= 1`), guarded or not: never out of bounds,
returns 0, appends exactly the formatted string. -/
theorem vprintfWith_spec (extra : Nat) (guarded : Bool) (hx : 1 ≤ extra) (bf : LBuf) (s : Bytes) (h : WF bf) :
    ∃ bf', bf.vprintfWith extra guarded s = .ok (0, bf') ∧ WF bf' ∧ bf'.contents = bf.contents ++ s ∧ bf.cap ≤ bf'.cap := by
  unfold vprintfWith
  obtain ⟨hwf, hlen, hfit, hcap, hcont⟩ := reserve_spec bf (s.length + extra) h
  simp only
  have hle := hwf.le
  have hfit' : (bf.reserve (s.length + extra)).len + s.length + 1 ≤ (bf.reserve (s.length + extra)).cap := by omega
  obtain ⟨st, hv, hsz, hsl⟩ := vsnprintf_fits (bf.reserve (s.length + extra)) s
    (if guarded = true then (bf.reserve (s.length + extra)).cap - (bf.reserve (s.length + extra)).len else s.length + 1)
    hwf hfit' (by split <;> omega)
  rw [hv]
  have hnot : ¬ s.length ≥ (bf.reserve (s.length + extra)).cap - (bf.reserve (s.length + extra)).len := by omega
  simp only [hnot, if_false]
  exact ⟨_, rfl, ⟨hsz, by simp only; omega⟩, by rw [contents_eq, hsl, hcont], hcap⟩

theorem stepWith_spec (extra : Nat) (guarded : Bool) (hx : 1 ≤ extra) (bf : LBuf) (op : BufOp) (h : WF bf) :
    ∃ bf', bf.stepWith extra guarded op = .ok (0, bf') ∧ WF bf' ∧ bf'.contents = bf.contents ++ op.piece ∧ bf.cap ≤ bf'.cap := by
  cases op with
  | puts s => exact puts_spec bf s h
  | putc c => exact putc_spec bf c h
  | printf s => exact vprintfWith_spec extra guarded hx bf s h

/-- Any sequence of operations from a well-formed buffer, `buffer_vprintf` reserving at least one byte for the
terminator: no fault, every return value 0, invariant kept, the contents are the old contents followed by the pieces
in order. -/
theorem runWith_spec (extra : Nat) (guarded : Bool) (hx : 1 ≤ extra) (ops : List BufOp) : ∀ (bf : LBuf), WF bf →
    ∃ bf', bf.runWith extra guarded ops = .ok (bf', List.replicate ops.length 0) ∧ WF bf' ∧
      bf'.contents = bf.contents ++ ops.flatMap BufOp.piece ∧ bf.cap ≤ bf'.cap := by
  induction ops with
  | nil => intro bf h; exact ⟨bf, rfl, h, by simp, Nat.le_refl _⟩
  | cons op ops ih =>
    intro bf h
    obtain ⟨bf1, hs, hwf1, hc1, hcap1⟩ := stepWith_spec extra guarded hx bf op h
    obtain ⟨bf2, hr, hwf2, hc2, hcap2⟩ := ih bf1 hwf1
    refine ⟨bf2, ?_, hwf2, ?_, by omega⟩
    · unfold runWith
      rw [hs]
      simp only
      rw [hr]
      rfl
    · rw [hc2, hc1]
      simp

/-- libks/buffer.c is the variant that reserves one byte and tells `vsnprintf` the space really left. -/
theorem run_eq_runWith (ops : List BufOp) : ∀ bf : LBuf, bf.run ops = bf.runWith 1 true ops := by
  induction ops with
  | nil => intro bf; rfl
  | cons op ops ih =>
    intro bf
    have hstep : bf.step op = bf.stepWith 1 true op := by cases op <;> rfl
    simp only [run, runWith, hstep, ih]

theorem run_spec (ops : List BufOp) (bf : LBuf) (h : WF bf) :
    ∃ bf', bf.run ops = .ok (bf', List.replicate ops.length 0) ∧ WF bf' ∧
      bf'.contents = bf.contents ++ ops.flatMap BufOp.piece ∧ bf.cap ≤ bf'.cap :=
  run_eq_runWith ops bf ▸ runWith_spec 1 true (Nat.le_refl _) ops bf h

/-! ### Why the terminator needs its own byte

`buffer_vprintf` reserves `n + 1` bytes although `bf_len` advances by `n` only.  With `n` reserved (`extra = 0`) a
formatted string that ends exactly at the capacity is not appended: the guarded `vsnprintf` truncates it, the
function returns 1 (a value no caller in mdsort looks at) and the contents are unchanged - the piece is lost; and
if the `vsnprintf` were not told the real space, its NUL would be written one byte beyond the object. -/

/-- Reserving only `n` bytes, guarded `vsnprintf` (the change to libks/buffer.c kept as a patch in /verif/seeded/C08-r5 and
C12-r5): a non-empty string that ends exactly at the capacity is DROPPED - return value 1, contents unchanged - for every such buffer and string. -/
theorem vprintf_without_room_drops (bf : LBuf) (s : Bytes) (h : WF bf) (hs : s ≠ []) (hend : bf.len + s.length = bf.cap) :
    ∃ bf', bf.vprintfWith 0 true s = .ok (1, bf') ∧ bf'.contents = bf.contents ∧ bf'.len = bf.len := by
  have hpos : 0 < s.length := List.length_pos_iff.mpr hs
  unfold vprintfWith
  have hres : bf.reserve (s.length + 0) = bf := by
    unfold reserve
    rw [if_pos (by omega)]
  simp only [hres, if_true]
  have hav : bf.cap - bf.len = s.length := by omega
  rw [hav]
  unfold vsnprintf
  rw [if_neg (by omega)]
  have hmin : min s.length (s.length - 1) = s.length - 1 := by omega
  rw [hmin]
  have hfit : bf.len + (s.take (s.length - 1)).length ≤ bf.cap := by simp; omega
  obtain ⟨st, hw, hsz, hsl⟩ := append_at bf (s.take (s.length - 1)) h hfit
  rw [hw]
  simp only
  have hset := Buf.set_ok (b := st) (i := bf.len + (s.length - 1)) 0 (by omega)
  rw [hset]
  simp only [Nat.le_refl, ge_iff_le, if_true]
  refine ⟨_, rfl, ?_, rfl⟩
  -- the first `bf_len` bytes of what has been written (`hsl`) are the old contents
  have hlen : bf.contents.length = bf.len := by
    rw [contents_eq, Buf.length_slice (by rw [h.size]; exact h.le)]
    exact Nat.sub_zero _
  have hpre := congrArg (List.take bf.len) hsl
  rw [Buf.take_slice _ (Nat.le_add_right _ _), List.take_left' hlen] at hpre
  rw [contents_eq, Buf.slice_of_set hset (Nat.le_add_right _ _)]
  exact hpre

/-- Reserving only `n` bytes and trusting the reservation (`vsnprintf` told `n + 1`): the NUL is written at index
`bf_siz`, one beyond the object. -/
theorem vprintf_without_room_unguarded_faults (bf : LBuf) (s : Bytes) (h : WF bf) (hend : bf.len + s.length = bf.cap) :
    bf.vprintfWith 0 false s = .error (.oob bf.cap) := by
  unfold vprintfWith
  have hres : bf.reserve (s.length + 0) = bf := by
    unfold reserve
    rw [if_pos (by omega)]
  simp only [hres, Bool.false_eq_true, if_false]
  unfold vsnprintf
  rw [if_neg (by omega)]
  have hmin : min s.length (s.length + 1 - 1) = s.length := by omega
  rw [hmin, List.take_length]
  obtain ⟨st, hw, hsz, -⟩ := append_at bf s h (by omega)
  rw [hw]
  simp only
  rw [Buf.set_oob 0 (by omega), hend]

theorem view_of_contents_snoc_nul {bf : LBuf} {a : Bytes} (hc : bf.contents = a ++ [0]) :
    bf.store.view 0 = cstr a ∧ bf.store.HasNul 0 := by
  have hsplit : bf.store.bytes.toList = a ++ 0 :: bf.store.bytes.toList.drop bf.len := by
    have := List.take_append_drop bf.len bf.store.bytes.toList
    rw [show List.take bf.len bf.store.bytes.toList = a ++ [0] from hc] at this
    simpa using this.symm
  refine ⟨?_, a.length, Nat.zero_le _, ?_⟩
  · unfold Buf.view
    rw [List.drop_zero, hsplit]
    exact Buf.cstr_append_nul_eq_cstr _ _
  · have hlt : a.length < bf.store.bytes.toList.length := by rw [hsplit]; simp
    rw [Buf.get?_eq_ok_iff]
    refine ⟨by simpa using hlt, ?_⟩
    have e : bf.store.bytes.toList[a.length]? = some 0 := by rw [hsplit]; simp
    rw [List.getElem?_eq_getElem hlt] at e
    simpa using e

theorem str_spec (bf : LBuf) (h : WF bf) :
    ∃ b, bf.str = .ok (b, empty) ∧ b.view 0 = cstr bf.contents ∧ b.HasNul 0 := by
  have viaPutc : ∃ b, (match bf.putc 0 with
      | .error e => (.error e : M (Buf × LBuf))
      | .ok (_, bf') => .ok bf'.release) = .ok (b, empty) ∧ b.view 0 = cstr bf.contents ∧ b.HasNul 0 := by
    obtain ⟨bf', hp, _, hc, _⟩ := putc_spec bf 0 h
    rw [hp]
    exact ⟨bf'.store, rfl, view_of_contents_snoc_nul hc⟩
  unfold str
  by_cases h0 : bf.len = 0
  · rw [if_pos h0]
    exact viaPutc
  · rw [if_neg h0]
    have hlt : bf.len - 1 < bf.store.size := by rw [h.size]; have := h.le; omega
    rw [Buf.get?_of_lt hlt]
    simp only
    by_cases hc : bf.store.bytes[bf.len - 1]'hlt = 0
    · have hne : (bf.store.bytes[bf.len - 1]'hlt != 0) = false := by simp [hc]
      rw [hne]
      simp only [Bool.false_eq_true, if_false]
      have hg : bf.store.get? (bf.len - 1) = .ok 0 := by rw [Buf.get?_of_lt hlt, hc]
      have hsn := Buf.slice_snoc hg
      rw [Nat.sub_add_cancel (Nat.pos_of_ne_zero h0)] at hsn
      refine ⟨bf.store, rfl, ?_, bf.len - 1, Nat.zero_le _, hg⟩
      rw [Buf.view_of_nul_at hg, contents_eq, hsn]
      exact (Buf.cstr_append_nul_eq_cstr _ []).symm
    · have hne : (bf.store.bytes[bf.len - 1]'hlt != 0) = true := by simp [hc]
      rw [hne]
      simp only [if_true]
      exact viaPutc

/-- The idiom of decode.c, match.c and parse.y: append pieces, `buffer_putc(bf, '\0')`, `buffer_release`.  In
bounds throughout; a C reader of the released object sees the pieces up to their first NUL. -/
theorem run_putc0_release (ops : List BufOp) (bf : LBuf) (h : WF bf) (he : bf.contents = []) :
    ∃ bf', bf.run (ops ++ [.putc 0]) = .ok (bf', List.replicate (ops.length + 1) 0) ∧ WF bf' ∧
      bf'.release.1.view 0 = cstr (ops.flatMap BufOp.piece) ∧ bf'.release.1.HasNul 0 := by
  obtain ⟨bf', hr, hwf, hc, _⟩ := run_spec (ops ++ [.putc 0]) bf h
  rw [he, List.nil_append, List.flatMap_append] at hc
  simp only [List.flatMap_cons, List.flatMap_nil, List.append_nil, BufOp.piece] at hc
  exact ⟨bf', by simpa using hr, hwf, view_of_contents_snoc_nul hc⟩

/-- Invariant of the read loop: there is always room for at least one more byte when `read` is called (`room`).  It is kept
by `buffer_reserve(bf, bf_siz / 2)` after a read that filled the buffer only if `bf_siz / 2 ≥ 1`: that is `two` (the buffer
starts with 8192 bytes and never shrinks). -/
structure ReadInv (bf : LBuf) : Prop where
  wf : WF bf
  two : 2 ≤ bf.cap
  room : bf.len < bf.cap

theorem readLoop_spec (bf : LBuf) (data : Bytes) (short : List Nat) (h : ReadInv bf) :
    ∃ bf', readLoop bf data short = .ok bf' ∧ WF bf' ∧ bf'.contents = bf.contents ++ data := by
  fun_induction readLoop bf data short with
  -- `n = 0`: nothing left to read
  | case1 bf data short room n hn =>
    refine ⟨bf, rfl, h.wf, ?_⟩
    have hr := h.room
    have : data.length = 0 := by
      cases short with
      | nil => simp only [n] at hn; omega
      | cons k ks => simp only [n] at hn; omega
    have : data = [] := List.eq_nil_of_length_eq_zero this
    simp [this]
  -- the write of the chunk faults: impossible, the chunk fits the room that `ReadInv` keeps
  | case2 bf data short room n hn e hw =>
    exfalso
    have hle : n ≤ room := by omega
    have : bf.len + (data.take n).length ≤ bf.cap := by
      simp only [List.length_take]
      omega
    obtain ⟨st, hw', _⟩ := append_at bf (data.take n) h.wf this
    rw [hw'] at hw
    cases hw
  -- a chunk of `n` bytes is stored, the buffer grows by half, the loop goes on with the rest
  | case3 bf data short room n hn st hw bf1 ih =>
    have hle : n ≤ room := by omega
    have hnd : n ≤ data.length := by omega
    have hfit : bf.len + (data.take n).length ≤ bf.cap := by
      simp only [List.length_take]
      omega
    obtain ⟨st', hw', hsz, hsl⟩ := append_at bf (data.take n) h.wf hfit
    rw [hw'] at hw
    cases hw
    have hlen : (data.take n).length = n := by simp; omega
    have hwf1 : WF bf1 := ⟨hsz, by show bf.len + n ≤ bf.cap; omega⟩
    have hc1 : bf1.contents = bf.contents ++ data.take n := by
      rw [← hsl, hlen]; exact contents_eq bf1
    obtain ⟨hwf2, hlen2, hfit2, hcap2, hcont2⟩ := reserve_spec bf1 (bf1.cap / 2) hwf1
    have hcap1 : bf1.cap = bf.cap := rfl
    have h2 := h.two
    have inv2 : ReadInv (bf1.reserve (bf1.cap / 2)) := ⟨hwf2, by omega, by omega⟩
    obtain ⟨bf', hr, hwf', hc'⟩ := ih inv2
    refine ⟨bf', hr, hwf', ?_⟩
    rw [hc', hcont2, hc1, List.append_assoc, List.take_append_drop]

theorem readFd_spec (data : Bytes) (short : List Nat) :
    ∃ bf, readFd data short = .ok bf ∧ WF bf ∧ bf.contents = data := by
  obtain ⟨hwf, hlen, hcap, hcont⟩ := alloc_wf (1 <<< 13)
  have h13 : (1 <<< 13 : Nat) = 8192 := by decide
  rw [h13] at hwf hlen hcap hcont
  obtain ⟨bf, hr, hwf', hc⟩ := readLoop_spec (alloc 8192) data short ⟨hwf, by omega, by omega⟩
  refine ⟨bf, ?_, hwf', ?_⟩
  · unfold readFd
    rw [h13]
    exact hr
  · rw [hc, hcont]
    rfl

end LBuf

end Mdsort.L0
