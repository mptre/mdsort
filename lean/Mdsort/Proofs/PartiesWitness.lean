import Mdsort.Proofs.PartiesExactly
import Mdsort.Proofs.PartiesSnapshot

/-! Concrete runs on the model, evaluated by the kernel; the programs are the scripts themselves
(`matchesExec`, `scanExec`).  F14: a `label` party and `move` parties on the same maildir deliver the message
twice (handed names, and with a listing party); F13: a listing party picks up a mover's placeholder; and the
isolated round-robin run of two movers and the client that witnesses the exactly-once theorems.  Two evaluations are not kernel-reducible (`List.mergeSort` is defined by
well-founded recursion): the header order in `message_write` and the sorted directory snapshot of
`readdir`; they are rewritten beforehand with proved equations.

The numbers in the schedules (here and in `PartiesCopyWitness`, `PartiesReaddirWitness`).  Exact are only the counts that place
a call of one party between two calls of another (the 8 of `sched` / `schedL`, the 3 of `schedU`, the alternations at the head
of `schedAB` and `schedR`).  Every other count is an upper bound: the step of a finished party changes nothing, A issues 12
calls in all, a `move` party 7, the client 1, the listing parties at most 20.  Likewise the fuel 8 of `scanExec`: a listing here
has at most four names and the end. -/

namespace Mdsort.Proofs.Parties.W
open Mdsort Mdsort.Model
open Mdsort.Proofs.Own (errTail matchesExec_cons)

def env (pid : Nat) : PEnv :=
  { now := 7, pid := pid, host := [104], random := 0, tmpdir := ofString "/t", home := ofString "/h",
    confpath := ofString "/c", dryrun := false, syntaxOnly := false, stdinMode := false }

def content : Bytes := ofString "To: u\n\nhi\n"

def fs : World :=
  { dirs := [(ofString "/m/new", [(ofString "a", 0)]), (ofString "/m/cur", []), (ofString "/d/new", []), (ofString "/d/cur", [])],
    files := [(0, { data := content, durable := content })], nextFid := 1, handles := [], devs := [], mtimes := [], trace := [] }

def md : Maildir :=
  { root := ofString "/m", path := ofString "/m/new", dirH := some 0, subdir := .new, walk := true, stdin := false }

def msg : Msg := { headers := [⟨0, ofString "To", ofString "u"⟩], body := ofString "hi\n" }
/-- The message with the label header added (what `label "l"` hands to `matches_exec`). -/
def labelled : Msg :=
  { headers := [⟨0, ofString "To", ofString "u"⟩, ⟨1, ofString "X-Label", ofString "l"⟩], body := ofString "hi\n" }

def ms (n : Bytes) (m : Msg) : MsgSt :=
  { name := n, path := ofString "/m/new/" ++ n, fd := none, msg := m, parts := [], flags := (flagsParse n).getD MFlags.empty,
    loc := some (ofString "/m/new", n), content := content }

def stOf (n : Bytes) (m : Msg) : ExecSt := { src := md, chsrc := false, ms := ms n m, reject := false }

def labelAct : Match := { ty := .label, lno := 1, part := 0 }
def moveAct : Match := { ty := .move, lno := 1, part := 0, path := ofString "/d/new" }

/-- The name party A gives its labelled copy (`now.pid_count.host:2,`). -/
def nameA : Bytes := ofString "7.1_1.h:2,"

/-- A: `label` on the message `a`. -/
def partyA : Prog Bool := errOf (matchesExec (env 1) [labelAct] (stOf (ofString "a") labelled))
/-- B1: `move "/d"` on the message `a`. -/
def partyB1 : Prog Bool := errOf (matchesExec (env 2) [moveAct] (stOf (ofString "a") msg))
/-- B2: `move "/d"` on the name A created (what a listing of `/m/new` shows while A is at work). -/
def partyB2 : Prog Bool := errOf (matchesExec (env 3) [moveAct] (stOf nameA msg))
/-- B: list `/m/new` and `move "/d"` every name found. -/
def partyB : Prog Bool := scanExec (env 2) md (fun n => some ([moveAct], ms n msg)) 8 false

/-- `move "/d"` on the message `a`, by process `pid`. -/
def mover (pid : Nat) : Prog Bool := errOf (matchesExec (env pid) [moveAct] (stOf (ofString "a") msg))

def dirH : List Obj := [.dir (ofString "/m/new") none 0]

/-! ## `message_write` with the headers already in order -/

def writeSorted (byId : List Hdr) (body : Bytes) (fd : Handle) : Prog Bool := do
  let r ← call (.dupfd fd)
  match r with
  | .ok newfd =>
    let r2 ← call (.fdopen newfd)
    if !isOk r2 then
      let _ ← call (.close newfd)
      pure true
    else
      let herr ← messageWriteP.hdrs newfd byId
      let err1 ← (if herr then pure true else do
        let r ← call (.fprintf newfd ([10] ++ body))
        if !isOk r then pure true
        else
          let r ← call (.fflush newfd)
          if !isOk r then pure true
          else
            let r ← call (.fsync newfd)
            pure (!isOk r))
      let r3 ← call (.fclose newfd)
      pure (err1 || !isOk r3)
  | _ => pure true

theorem messageWriteP_sorted (m : Msg) (fd : Handle) : messageWriteP m fd = writeSorted (sortById m.headers) m.body fd := by
  unfold messageWriteP writeSorted
  rfl

theorem sort_labelled : sortById labelled.headers = labelled.headers :=
  List.mergeSort_of_pairwise (by decide)

/-- `maildir_write` of a message state, with the writing of the message as a parameter. -/
def maildirWriteWith (wr : Handle → Prog Bool) (e : PEnv) (md : Maildir) (ms : MsgSt) : Prog (MsgSt × Bool) := do
  match msgflags md.subdir md.subdir ms.flags with
  | none => pure (ms, true)
  | some fl =>
    let g ← gennameStart e md (some fl)
    match g with
    | none => pure (ms, true)
    | some (fd, name) =>
      let we ← wr fd
      let _ ← call (.close fd)
      let err ← (if we then pure true else maildirUnlink md ms.name)
      if err then
        let _ ← maildirUnlink md name
        pure (ms, true)
      else
        let ms := { ms with loc := some (md.path, name), content := (messageWrite ms.msg).1 }
        match md.dirH with
        | none => pure (ms, true)
        | some d =>
          let r ← call (.openRd d name)
          match r with
          | .ok rdfd =>
            let (ms', e) ← messageSetFile ms md.path name (some rdfd)
            if e then
              let _ ← call (.close rdfd)
              pure (ms', true)
            else pure (ms', false)
          | _ => pure (ms, true)

theorem maildirWrite_with (e : PEnv) (md : Maildir) (ms : MsgSt) :
    maildirWrite e md ms = maildirWriteWith (messageWriteP ms.msg) e md ms := by
  unfold maildirWrite maildirWriteWith
  rfl

theorem write_labelled (n : Bytes) :
    messageWriteP (ms n labelled).msg = writeSorted labelled.headers labelled.body := by
  funext fd
  rw [messageWriteP_sorted]
  show writeSorted (sortById labelled.headers) labelled.body fd = _
  rw [sort_labelled]

/-- A's program with the header order computed: kernel-reducible. -/
def partyA' : Prog Bool :=
  errOf (((maildirWriteWith (writeSorted labelled.headers labelled.body) (env 1) md (ms (ofString "a") labelled)).bind fun x =>
      (Prog.ret ({ stOf (ofString "a") labelled with ms := x.1 }, x.2) : Prog (ExecSt × Bool))).bind fun x =>
    if x.2 = true then errTail x.1 else matchesExec (env 1) [] x.1)

theorem partyA_eq : partyA = partyA' := by
  unfold partyA partyA'
  rw [matchesExec_cons]
  have h : execOne (env 1) labelAct (stOf (ofString "a") labelled) =
      (maildirWrite (env 1) md (ms (ofString "a") labelled)).bind fun x =>
        (Prog.ret ({ stOf (ofString "a") labelled with ms := x.1 }, x.2) : Prog (ExecSt × Bool)) := by
    unfold execOne
    rfl
  rw [h, maildirWrite_with, write_labelled]

/-! ## F14 with three single-message parties -/

/-- A labels `a`; B1 moves `a`; B2 moves the name A created. -/
def s0 : Shared := Shared.init fs [(partyA, dirH), (partyB1, dirH), (partyB2, dirH)]
def s0' : Shared := Shared.init fs [(partyA', dirH), (partyB1, dirH), (partyB2, dirH)]

theorem s0_eq : s0 = s0' := by unfold s0 s0'; rw [partyA_eq]

/-- A up to and including its `fsync` (8 calls), then B2 and B1 to completion, then the rest of A. -/
def sched : List Nat := List.replicate 8 0 ++ List.replicate 12 2 ++ List.replicate 12 1 ++ List.replicate 6 0

/-- The run is complete, the message exists twice; `H_iso` excludes the schedule (B2 renames a name A has in
flight), the isolation stated on `readdir` does not (nobody lists a directory). -/
theorem run_facts' : (runSched s0' sched).quiescent = true ∧ (stageEntries (runSched s0' sched).fs content).length = 2 ∧
    (runSched s0' sched).parties.map (·.result) = [some true, some false, some false] ∧
    Hiso s0' sched = false ∧ HisoReaddir s0' sched = true := by decide +kernel

theorem run_results' : (runSched s0' sched).parties.map (·.result) = [some true, some false, some false] :=
  run_facts'.2.2.1

theorem run_facts : (runSched s0 sched).quiescent = true ∧ (stageEntries (runSched s0 sched).fs content).length = 2 ∧
    (runSched s0 sched).parties.map (·.result) = [some true, some false, some false] ∧
    Hiso s0 sched = false ∧ HisoReaddir s0 sched = true := by rw [s0_eq]; exact run_facts'

/-! ## F14 with a listing party: B lists `/m/new` between A's `fsync` and A's `unlinkat` -/

def t0 : Shared := Shared.init fs [(partyA, dirH), (partyB, dirH)]
def t0' : Shared := Shared.init fs [(partyA', dirH), (partyB, dirH)]

theorem t0_eq : t0 = t0' := by unfold t0 t0'; rw [partyA_eq]

/-- A up to and including its `fsync`; B's first `readdir` (the listing) and the rest of B; the rest of A. -/
def schedL : List Nat := List.replicate 8 0 ++ (1 :: (List.replicate 21 1 ++ List.replicate 6 0))

/-- The directory `/m/new` when B lists it: the original and A's complete copy. -/
def midEntries : List (Bytes × Nat) := [(ofString "a", 0), (nameA, 1)]

theorem sorted_mid : sortedNames midEntries = [[46], [46, 46], nameA, ofString "a"] := by
  have h1 : ([46] : Bytes) ≤ [46, 46] := by decide
  have h2 : ¬ (ofString "a" ≤ ofString "7.1_1.h:2,") := by decide +kernel
  have h3 : ([46] : Bytes) ≤ ofString "7.1_1.h:2," := by decide +kernel
  have h4 : ([46, 46] : Bytes) ≤ ofString "7.1_1.h:2," := by decide +kernel
  simp [midEntries, sortedNames, List.mergeSort, nameA, h1, h2, h3, h4]

/-- The state in which B lists the directory, with the listing stored in B's stream. -/
def tMid : Shared :=
  setSnap (runSched t0' (List.replicate 8 0)) 1 0 (ofString "/m/new") [[46], [46, 46], nameA, ofString "a"]

theorem runL_eq : runSched t0' schedL = runSched (stepParty tMid 1) (List.replicate 21 1 ++ List.replicate 6 0) := by
  unfold schedL tMid
  rw [runSched_append]
  show runSched (stepParty (runSched t0' (List.replicate 8 0)) 1) _ = _
  rw [readdir_snapshot (runSched t0' (List.replicate 8 0)) 1 0 (ofString "/m/new") midEntries (by decide +kernel), sorted_mid]

theorem runL_facts' : (runSched (stepParty tMid 1) (List.replicate 21 1 ++ List.replicate 6 0)).quiescent = true ∧
    (stageEntries (runSched (stepParty tMid 1) (List.replicate 21 1 ++ List.replicate 6 0)).fs content).length = 2 := by
  decide +kernel

theorem runL_facts : (runSched t0 schedL).quiescent = true ∧ (stageEntries (runSched t0 schedL).fs content).length = 2 := by
  rw [t0_eq, runL_eq]; exact runL_facts'

/-! ## F13: a listing party picks up the placeholder of a mover -/

def fs3 : World :=
  { dirs := [(ofString "/m/new", [(ofString "a", 0)]), (ofString "/m/cur", []), (ofString "/d/new", []), (ofString "/d/cur", []),
             (ofString "/x/new", []), (ofString "/x/cur", [])],
    files := [(0, { data := content, durable := content })], nextFid := 1, handles := [], devs := [], mtimes := [], trace := [] }

def mdD : Maildir :=
  { root := ofString "/d", path := ofString "/d/new", dirH := some 0, subdir := .new, walk := true, stdin := false }

def moveX : Match := { ty := .move, lno := 1, part := 0, path := ofString "/x/new" }

def msD (n : Bytes) : MsgSt :=
  { name := n, path := ofString "/d/new/" ++ n, fd := none, msg := msg, parts := [], flags := (flagsParse n).getD MFlags.empty,
    loc := some (ofString "/d/new", n), content := [] }

/-- C: list `/d/new` and `move "/x"` every name found. -/
def partyC : Prog Bool := scanExec (env 2) mdD (fun n => some ([moveX], msD n)) 8 false

/-- A = `move "/d"` of `new/a` (process 1), C lists `/d/new`. -/
def u0 : Shared := Shared.init fs3 [(mover 1, dirH), (partyC, [.dir (ofString "/d/new") none 0])]

/-- A up to and including the exclusive create of its placeholder in `/d/new` (3 calls); C's listing
and the rest of C; the rest of A. -/
def schedU : List Nat := List.replicate 3 0 ++ (1 :: (List.replicate 12 1 ++ List.replicate 6 0))

/-- The placeholder of `mover 1` in `/d/new` has the bytes of `nameA`: process 1, first name generated. -/
theorem sorted_placeholder : sortedNames [(nameA, 1)] = [[46], [46, 46], nameA] :=
  List.mergeSort_of_pairwise (by decide +kernel)

def uMid : Shared := setSnap (runSched u0 (List.replicate 3 0)) 1 0 (ofString "/d/new") [[46], [46, 46], nameA]

/-- C's listing, taken from the stored snapshot. -/
theorem u_first : stepParty (runSched u0 (List.replicate 3 0)) 1 = stepParty uMid 1 := by
  unfold uMid
  rw [readdir_snapshot (runSched u0 (List.replicate 3 0)) 1 0 (ofString "/d/new") [(nameA, 1)] (by decide +kernel),
    sorted_placeholder]

theorem runU_facts' :
    Hiso (stepParty uMid 1) (List.replicate 12 1 ++ List.replicate 6 0) = false ∧
    (runSched (stepParty uMid 1) (List.replicate 12 1 ++ List.replicate 6 0)).quiescent = true ∧
    (runSched (stepParty uMid 1) (List.replicate 12 1 ++ List.replicate 6 0)).parties.map (·.result) = [some false, some false] ∧
    (runSched (stepParty uMid 1) (List.replicate 12 1 ++ List.replicate 6 0)).fs.entries =
      [(ofString "/d/new", nameA, 0), (ofString "/x/new", ofString "7.2_1.h:2,", 1)] ∧
    (runSched (stepParty uMid 1) (List.replicate 12 1 ++ List.replicate 6 0)).fs.content 1 = [] := by
  decide +kernel

/-- `H_iso` excludes the F13 schedule (C renames a name A has in flight). -/
theorem runU_facts :
    Hiso u0 schedU = false ∧
    (runSched u0 schedU).quiescent = true ∧
    (runSched u0 schedU).parties.map (·.result) = [some false, some false] ∧
    (runSched u0 schedU).fs.entries = [(ofString "/d/new", nameA, 0), (ofString "/x/new", ofString "7.2_1.h:2,", 1)] ∧
    (runSched u0 schedU).fs.content 1 = [] := by
  unfold schedU
  rw [Hiso_append, runSched_append]
  show (_ && (_ && Hiso (stepParty (runSched u0 (List.replicate 3 0)) 1) _)) = false ∧
    (runSched (stepParty (runSched u0 (List.replicate 3 0)) 1) _).quiescent = true ∧
    (runSched (stepParty (runSched u0 (List.replicate 3 0)) 1) _).parties.map (·.result) = _ ∧
    (runSched (stepParty (runSched u0 (List.replicate 3 0)) 1) _).fs.entries = _ ∧
    (runSched (stepParty (runSched u0 (List.replicate 3 0)) 1) _).fs.content 1 = _
  rw [u_first]
  exact ⟨by rw [runU_facts'.1]; simp, runU_facts'.2⟩

/-! ## two movers racing for one message, and the client (the setting of the exactly-once theorem) -/

def content2 : Bytes := ofString "To: v\n\nho\n"

def fs2 : World :=
  { dirs := [(ofString "/m/new", [(ofString "a", 0), (ofString "b", 1)]), (ofString "/m/cur", []),
             (ofString "/d/new", []), (ofString "/d/cur", [])],
    files := [(0, { data := content, durable := content }), (1, { data := content2, durable := content2 })],
    nextFid := 2, handles := [], devs := [], mtimes := [], trace := [] }

/-- The client marks `b` as seen: `new/b -> cur/b:2,S`. -/
def client : Prog Bool := clientProg [.rename 0 (ofString "b") 1 (ofString "b:2,S")]
def clientH : List Obj := [.dir (ofString "/m/new") none 0, .dir (ofString "/m/cur") none 0]

def m0 : Shared := Shared.init fs2 [(mover 1, dirH), (mover 2, dirH), (client, clientH)]

def schedM : List Nat := (List.replicate 9 [0, 1, 2]).flatten

theorem m_checks : startChecks m0 = true := by decide +kernel

/-- The round-robin run, evaluated once. -/
theorem m_facts : Hiso m0 schedM = true ∧ HisoExcept [2] m0 schedM = true ∧ (runSched m0 schedM).quiescent = true ∧
    (runSched m0 schedM).parties.map (·.result) = [some false, some true, some false] ∧
    (runSched m0 schedM).fs.entries = [(ofString "/m/cur", ofString "b:2,S", 1), (ofString "/d/new", ofString "7.1_1.h:2,", 0)] ∧
    (runSched m0 schedM).log.all (fun e => !e.binds (ofString "/m/new", ofString "a")) = true ∧
    ((runSched m0 schedM).log.filter (fun e => e.attempts (ofString "/m/new", ofString "a"))).map
      (fun e => (e.party, e.res)) = [(0, .ok 0), (1, .err "ENOENT")] := by decide +kernel

theorem m_iso : Hiso m0 schedM = true := m_facts.1
theorem m_quiescent : (runSched m0 schedM).quiescent = true := m_facts.2.2.1
theorem m_results : (runSched m0 schedM).parties.map (·.result) = [some false, some true, some false] := m_facts.2.2.2.1
theorem m_final : (runSched m0 schedM).fs.entries =
    [(ofString "/m/cur", ofString "b:2,S", 1), (ofString "/d/new", ofString "7.1_1.h:2,", 0)] := m_facts.2.2.2.2.1
theorem m_norebind : (runSched m0 schedM).log.all (fun e => !e.binds (ofString "/m/new", ofString "a")) = true :=
  m_facts.2.2.2.2.2.1
theorem m_removals : ((runSched m0 schedM).log.filter (fun e => e.attempts (ofString "/m/new", ofString "a"))).map
      (fun e => (e.party, e.res)) = [(0, .ok 0), (1, .err "ENOENT")] :=
  m_facts.2.2.2.2.2.2

theorem m_startOK : StartOK m0 := by
  refine startOK_of_checks m0 (fresh_init _ _) m_checks ?_
  intro i ps h
  have hm : ps ∈ m0.parties := List.mem_of_getElem? h
  simp only [m0, Shared.init, List.map_cons, List.map_nil, List.mem_cons, List.not_mem_nil, or_false] at hm
  rcases hm with rfl | rfl | rfl
  · exact .inl ⟨env 1, [moveAct], stOf (ofString "a") msg, by simp [isMover, moveAct], rfl⟩
  · exact .inl ⟨env 2, [moveAct], stOf (ofString "a") msg, by simp [isMover, moveAct], rfl⟩
  · exact .inr ⟨_, rfl⟩

end Mdsort.Proofs.Parties.W
