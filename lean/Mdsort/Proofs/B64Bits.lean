import Mdsort.Model.Decode
import Mdsort.Spec.Decode
import Mdsort.Proofs.Basics

/-! Base64: the alphabet table against RFC 4648's Table 1, and the shift-and-mask arithmetic of the decoder. -/

namespace Mdsort.Proofs
open Mdsort

/-- Each direction is one pass over a finite table (the 256 bytes, the 64 entries). -/
theorem b64val_iff_alphabet {c : UInt8} {i : Nat} :
    Spec.b64val c = some i ↔ Gen.base64Alphabet[i]? = some c := by
  constructor
  · have h : ∀ c, (Spec.b64val c).all (fun i => Gen.base64Alphabet[i]? == some c) = true := by
      apply forall_u8; decide +kernel
    intro hv
    simpa [hv] using h c
  · have h : ∀ i, i < 64 → (Gen.base64Alphabet[i]?).all (fun c => Spec.b64val c == some i) = true := by
      decide +kernel
    intro hi
    have hlt : i < 64 := (List.getElem?_eq_some_iff.1 hi).1
    simpa [hi] using h i hlt

theorem b64idx_eq_b64val (c : UInt8) : Model.b64idx c = (Spec.b64val c).map UInt8.ofNat := by
  unfold Model.b64idx
  cases hv : Spec.b64val c with
  | none =>
    have : Gen.base64Alphabet.idxOf? c = none := by
      rw [List.idxOf?_eq_none_iff, List.mem_iff_getElem?]
      rintro ⟨i, hi⟩
      rw [b64val_iff_alphabet.2 hi] at hv
      cases hv
    rw [this]; rfl
  | some i =>
    obtain ⟨hlt, hi⟩ := List.getElem?_eq_some_iff.1 (b64val_iff_alphabet.1 hv)
    have : Gen.base64Alphabet.idxOf? c = some i := by
      refine List.idxOf?_eq_some_iff.2 ⟨hlt, hi, fun j hj hc => ?_⟩
      have hj' := b64val_iff_alphabet.2 (List.getElem?_eq_some_iff.2 ⟨Nat.lt_trans hj hlt, hc⟩)
      rw [hv] at hj'
      cases hj'
      exact Nat.lt_irrefl _ hj
    rw [this]; rfl

theorem b64val_lt {c : UInt8} {i : Nat} (h : Spec.b64val c = some i) : i < 64 :=
  (List.getElem?_eq_some_iff.1 (b64val_iff_alphabet.1 h)).1

theorem b64val_eq_b64idx (c : UInt8) : Spec.b64val c = (Model.b64idx c).map UInt8.toNat := by
  rw [b64idx_eq_b64val]
  cases h : Spec.b64val c with
  | none => rfl
  | some i => have := b64val_lt h; simp; omega

theorem b64idx_lt {c v : UInt8} (h : Model.b64idx c = some v) : v.toNat < 64 := by
  rw [b64idx_eq_b64val] at h
  cases hv : Spec.b64val c with
  | none => simp [hv] at h
  | some i =>
    have := b64val_lt hv
    simp [hv] at h
    subst h
    simp; omega

theorem toNat_shl {h s : UInt8} (hs : s.toNat < 8) (hh : h.toNat < 2 ^ (8 - s.toNat)) :
    (h <<< s).toNat = h.toNat * 2 ^ s.toNat ∧ h.toNat * 2 ^ s.toNat + 2 ^ s.toNat ≤ 2 ^ 8 := by
  have h8 : (h.toNat + 1) * 2 ^ s.toNat ≤ 2 ^ 8 := by
    calc _ ≤ 2 ^ (8 - s.toNat) * 2 ^ s.toNat := Nat.mul_le_mul_right _ hh
      _ = 2 ^ 8 := by rw [← Nat.pow_add, Nat.sub_add_cancel (Nat.le_of_lt hs)]
  rw [Nat.succ_mul] at h8
  have := Nat.two_pow_pos s.toNat
  rw [UInt8.toNat_shiftLeft, Nat.mod_eq_of_lt hs, Nat.shiftLeft_eq, Nat.mod_eq_of_lt (by omega)]
  exact ⟨rfl, h8⟩

theorem pack {h l s : UInt8} (hs : s.toNat < 8) (hh : h.toNat < 2 ^ (8 - s.toNat)) (hl : l.toNat < 2 ^ s.toNat) :
    (h <<< s) ||| l = Spec.byte (h.toNat * 2 ^ s.toNat + l.toNat) := by
  obtain ⟨hv, h8⟩ := toNat_shl hs hh
  apply UInt8.toNat_inj.1
  rw [UInt8.toNat_or, hv, ← Nat.shiftLeft_eq, ← Nat.shiftLeft_add_eq_or_of_lt hl, Nat.shiftLeft_eq, Spec.byte,
    UInt8.toNat_ofNat_of_lt' (by simp only [UInt8.size]; omega)]

theorem shl_ne_zero {h s : UInt8} (hs : s.toNat < 8) (hh : h.toNat < 2 ^ (8 - s.toNat)) :
    ((h <<< s) != 0) = decide (h.toNat ≠ 0) := by
  rw [Bool.eq_iff_iff]
  simp [← UInt8.toNat_inj, (toNat_shl hs hh).1, Nat.mul_eq_zero]

theorem toNat_and_mask (b : UInt8) (k : Nat) {m : UInt8} (hm : m.toNat = 2 ^ k - 1) :
    (b &&& m).toNat = b.toNat % 2 ^ k ∧ (b &&& m).toNat < 2 ^ k := by
  rw [UInt8.toNat_and, hm, Nat.and_two_pow_sub_one_eq_mod]
  exact ⟨rfl, Nat.mod_lt _ (Nat.two_pow_pos k)⟩

theorem toNat_shr (c : UInt8) (k : Nat) (hk : k < 8) : (c >>> UInt8.ofNat k).toNat = c.toNat / 2 ^ k := by
  rw [UInt8.toNat_shiftRight, UInt8.toNat_ofNat_of_lt' (Nat.lt_trans hk (by decide)), Nat.mod_eq_of_lt hk,
    Nat.shiftRight_eq_div_pow]

theorem byte1 {a b : UInt8} (ha : a.toNat < 64) (hb : b.toNat < 64) :
    (a <<< 2) ||| (b >>> 4) = Spec.byte (a.toNat * 4 + b.toNat / 16) := by
  have hs : (b >>> 4).toNat = b.toNat / 16 := toNat_shr b 4 (by decide)
  simpa [hs] using pack (h := a) (l := b >>> 4) (s := 2) (by decide) ha (by rw [hs]; change _ < 4; omega)

theorem byte2 {b c : UInt8} (hc : c.toNat < 64) :
    ((b &&& 0x0f) <<< 4) ||| (c >>> 2) = Spec.byte (b.toNat % 16 * 16 + c.toNat / 4) := by
  obtain ⟨hm, hlt⟩ := toNat_and_mask b 4 (m := 0x0f) rfl
  have hs : (c >>> 2).toNat = c.toNat / 4 := toNat_shr c 2 (by decide)
  simpa [hs, hm] using pack (l := c >>> 2) (s := 4) (by decide) hlt (by rw [hs]; change _ < 16; omega)

theorem byte3 {c d : UInt8} (hd : d.toNat < 64) :
    ((c &&& 0x03) <<< 6) ||| d = Spec.byte (c.toNat % 4 * 64 + d.toNat) := by
  obtain ⟨hm, hlt⟩ := toNat_and_mask c 2 (m := 0x03) rfl
  simpa [hm] using pack (s := 6) (by decide) hlt hd

/-- The bits of the second sextet that do not fit the one byte of a two-sextet final group (`b64_pton` rejects the input
unless they are zero); `slop3` likewise for a three-sextet group. -/
theorem slop2 {b : UInt8} : (((b &&& 0x0f) <<< 4) != 0) = decide (b.toNat % 16 ≠ 0) := by
  obtain ⟨hm, hlt⟩ := toNat_and_mask b 4 (m := 0x0f) rfl
  rw [shl_ne_zero (by decide) hlt, hm]

theorem slop3 {c : UInt8} : (((c &&& 0x03) <<< 6) != 0) = decide (c.toNat % 4 ≠ 0) := by
  obtain ⟨hm, hlt⟩ := toNat_and_mask c 2 (m := 0x03) rfl
  rw [shl_ne_zero (by decide) hlt, hm]

end Mdsort.Proofs
