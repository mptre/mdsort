import Mdsort.Proofs.B64Bits

/-! Base64: the model of `b64_pton` (decode.c; a state machine over the input with a pending byte) computes the reference
decoder `Spec.b64` (groups of four 6-bit values) for a target of any size: the reference result where it fits, failure where it
does not (`b64pton_eq`).  Idea: scan the input once into alphabet values and what follows the pad (`scan`), fold the state
machine without its size tests over the values (`ustep`), make the size tests once, on the state reached (`Fits`,
`Fits.of_ustep`), and compare the fold with grouping by four (`groups_eq`).  Byte 61 is `=`, the pad. -/

namespace Mdsort.Proofs.B64
open Mdsort Model

/-- One step of `b64_pton`'s state machine on the 6-bit value `v`, without the tests against the target size. -/
def ustep (st : B64St) (v : UInt8) : B64St :=
  match st.state with
  | 0 => { state := 1, out := st.out, pend := v <<< 2 }
  | 1 => { state := 2, out := st.out ++ [st.pend ||| (v >>> 4)], pend := (v &&& 0x0f) <<< 4 }
  | 2 => { state := 3, out := st.out ++ [st.pend ||| (v >>> 2)], pend := (v &&& 0x03) <<< 6 }
  | _ => { state := 0, out := st.out ++ [st.pend ||| v], pend := 0 }

/-- What the tests of `b64_pton` against the target size `n` come to, as a condition on the state they let through.  Clause by
clause, with `tarindex = out.length`, `targsize = n`: every state writes `target[tarindex]` behind `tarindex >= targsize → -1`, so
the bytes written fit; state 0 makes that test before it stores the first sextet, so in state 1 the byte begun has its place
(`tarindex < targsize`); states 1 and 2 store `nextbyte` at `tarindex + 1` only if that is inside the target and otherwise
demand `nextbyte == 0`, so when the target is full (states 2 and 3, and 0 with nothing pending) no bits are left over. -/
def Fits (n : Nat) (st : B64St) : Prop :=
  st.out.length ≤ n ∧ (st.state = 1 → st.out.length < n) ∧ (st.out.length = n → st.state ≠ 0 → st.pend = 0)

instance (n : Nat) (st : B64St) : Decidable (Fits n st) := by unfold Fits; exact inferInstance

theorem b64step_eq (n : Nat) (st : B64St) (v : UInt8) :
    b64step n st v = if Fits n (ustep st v) then some (ustep st v) else none := by
  obtain ⟨state, out, pend⟩ := st
  -- Room for more than the byte this step may write, for exactly that byte, or for none.  In each of the three, and in each of
  -- the four states, both sides are `if`s over comparisons of `out.length` with `n` that the facts at hand decide.
  rcases Nat.lt_trichotomy (out.length + 1) n with h | h | h
  · have h1 : ¬ n ≤ out.length := by omega
    have h2 : out.length + 1 ≤ n := by omega
    have h3 : out.length + 1 ≠ n := by omega
    have h4 : out.length < n := by omega
    have h5 : out.length ≠ n := by omega
    rcases state with _ | _ | _ | k <;> simp [b64step, ustep, Fits, h, h1, h2, h3, h4, h5, Nat.le_of_lt h4]
  · subst h
    rcases state with _ | _ | _ | k <;> simp [b64step, ustep, Fits, Nat.not_succ_le_self]
  · have h1 : n ≤ out.length := by omega
    have h2 : ¬ out.length + 1 ≤ n := by omega
    have h4 : ¬ out.length < n := by omega
    rcases state with _ | _ | _ | k <;> simp [b64step, ustep, Fits, h1, h2, h4]

/-- A state that does not fit is never followed by one that does: the size tests may be made at the end. -/
theorem Fits.of_ustep {n : Nat} {st : B64St} {v : UInt8} (h : Fits n (ustep st v)) : Fits n st := by
  obtain ⟨state, out, pend⟩ := st
  -- state by state: `ustep` adds at most one byte, and into state 1 none, so the bounds of the later state give those of the earlier
  rcases state with _ | _ | _ | k <;> simp [ustep, Fits] at h ⊢ <;> omega

theorem Fits.of_foldl {n : Nat} (vs : List UInt8) {st : B64St} (h : Fits n (vs.foldl ustep st)) : Fits n st := by
  induction vs generalizing st with
  | nil => exact h
  | cons v vs ih => exact (ih h).of_ustep

/-- The input as `b64_pton` reads it: the alphabet values up to the first `=` (white space skipped), and the text after that
`=` if there is one; `none` for a byte outside the alphabet. -/
def scan : Bytes → Option (List UInt8 × Option Bytes)
  | [] => some ([], none)
  | c :: r =>
    if isspace c then scan r
    else if c == 61 then some ([], some r)
    else match b64idx c with
      | none => none
      | some v => (scan r).map fun (vs, p) => (v :: vs, p)

/-- What `b64loop` returns from state `st`, in terms of `scan`. -/
def loopRes (n : Nat) (st : B64St) : Option (List UInt8 × Option Bytes) → B64P1
  | none => .err
  | some (vs, p) =>
    if Fits n (vs.foldl ustep st) then
      match p with
      | none => .eos (vs.foldl ustep st)
      | some r => .pad (vs.foldl ustep st) r
    else .err

theorem b64loop_eq (n : Nat) (s : Bytes) (st : B64St) (h : Fits n st) :
    b64loop n s st = loopRes n st (scan s) := by
  induction s generalizing st with
  | nil => simp [b64loop, scan, loopRes, h]
  | cons c r ih =>
    unfold b64loop scan
    by_cases hs : isspace c = true
    · simp only [hs, if_true]; exact ih st h
    · simp only [hs, Bool.false_eq_true, if_false]
      by_cases hp : c = 61
      · subst hp; simp [Gen.pad64, loopRes, h]
      · have hp' : (c == 61) = false := by simpa using hp
        have hp'' : (c == Gen.pad64) = false := hp'
        simp only [hp', hp'', Bool.false_eq_true, if_false]
        cases hi : b64idx c with
        | none => simp [loopRes]
        | some v =>
          simp only [b64step_eq]
          by_cases hf : Fits n (ustep st v)
          · simp only [if_pos hf, ih _ hf]
            cases scan r <;> rfl
          · simp only [if_neg hf]
            cases scan r with
            | none => rfl
            | some x =>
              have : ¬ Fits n (x.1.foldl ustep (ustep st v)) := fun h' => hf (Fits.of_foldl _ h')
              simp [loopRes, this]

/-- The non-space text from the first `=` on, as `Spec.b64` sees it. -/
def padOf : Option Bytes → Bytes
  | none => []
  | some r => 61 :: r.filter (fun c => !isspace c)

theorem scan_eq_spec (s : Bytes) :
    match scan s with
    | none => ((s.filter (fun c => !isspace c)).takeWhile (fun c => c != 61)).mapM Spec.b64val = none
    | some (vs, p) =>
      ((s.filter (fun c => !isspace c)).takeWhile (fun c => c != 61)).mapM Spec.b64val
          = some (vs.map UInt8.toNat) ∧
      (s.filter (fun c => !isspace c)).dropWhile (fun c => c != 61) = padOf p := by
  fun_induction scan s
  -- the end of the input; white space (skipped); the pad `=`; a byte outside the alphabet; an alphabet byte with value `v`
  case case1 => simp [padOf]
  case case2 c r hs ih => simpa [List.filter_cons, hs] using ih
  case case3 c r hs hp => cases beq_iff_eq.1 hp; simp [hs, padOf]
  case case4 c r hs hp hi =>
    simp only [Bool.not_eq_true] at hs
    simp [hs, show c ≠ 61 by simpa using hp, b64val_eq_b64idx, hi]
  case case5 c r hs hp v hi ih =>
    simp only [Bool.not_eq_true] at hs
    have hne : c ≠ 61 := by simpa using hp
    cases hsc : scan r with
    | none => rw [hsc] at ih; simp [hs, hne, b64val_eq_b64idx, hi, ih]
    | some x =>
      obtain ⟨vs, p⟩ := x
      rw [hsc] at ih
      simp [hs, hne, b64val_eq_b64idx, hi, ih.1, ih.2]

/-- Acceptance at the end of the values: no lone sextet, and no bits of a short final group left in `pend`. -/
def fin (st : B64St) : Option Bytes :=
  match st.state with
  | 0 => some st.out
  | 1 => none
  | _ => if st.pend != 0 then none else some st.out

theorem groups_eq : ∀ (vs : List UInt8) (acc : Bytes), (∀ v ∈ vs, v.toNat < 64) →
    (Spec.b64groups (vs.map UInt8.toNat)).map (acc ++ ·) = fin (vs.foldl ustep ⟨0, acc, 0⟩)
    ∧ (vs.foldl ustep ⟨0, acc, 0⟩).state = vs.length % 4
  | [], acc, _ => by simp [Spec.b64groups, fin]
  | [a], acc, _ => by simp [Spec.b64groups, fin, ustep]
  | [a, b], acc, h => by
    have ha : a.toNat < 64 := h a (by simp)
    have hb : b.toNat < 64 := h b (by simp)
    simp [Spec.b64groups, fin, ustep, slop2, byte1 ha hb]
  | [a, b, c], acc, h => by
    have ha : a.toNat < 64 := h a (by simp)
    have hb : b.toNat < 64 := h b (by simp)
    have hc : c.toNat < 64 := h c (by simp)
    simp [Spec.b64groups, fin, ustep, slop3, byte1 ha hb, byte2 hc]
  | a :: b :: c :: d :: rest, acc, h => by
    have ha : a.toNat < 64 := h a (by simp)
    have hb : b.toNat < 64 := h b (by simp)
    have hc : c.toNat < 64 := h c (by simp)
    have hd : d.toNat < 64 := h d (by simp)
    have ih := groups_eq rest (acc ++ [Spec.byte (a.toNat * 4 + b.toNat / 16),
      Spec.byte (b.toNat % 16 * 16 + c.toNat / 4), Spec.byte (c.toNat % 4 * 64 + d.toNat)])
      (fun v hv => h v (by simp [hv]))
    simp [Spec.b64groups, ustep, byte1 ha hb, byte2 hc, byte3 hd]
    refine ⟨?_, by rw [ih.2]; omega⟩
    rw [← ih.1]
    congr 1
    funext x
    simp

theorem groups_len (vs : List Nat) : ∀ out : Bytes, Spec.b64groups vs = some out → 4 * out.length ≤ 3 * vs.length := by
  fun_induction Spec.b64groups vs
  -- no value; one (refused); two, three (a final quantum, accepted or not); a full group of four and the rest
  case case1 => intro out h; cases h; simp
  case case2 => nofun
  case case3 a b hb => intro out h; cases h; simp
  case case4 => nofun
  case case5 a b c hc => intro out h; cases h; simp
  case case6 => nofun
  case case7 a b c d rest ih =>
    intro out h
    obtain ⟨t, ht, rfl⟩ := Option.map_eq_some_iff.1 h
    have := ih t ht
    simp; omega

theorem scan_values {s : Bytes} {vs : List UInt8} {p : Option Bytes} (h : scan s = some (vs, p)) :
    vs.length ≤ s.length ∧ ∀ v ∈ vs, v.toNat < 64 := by
  have hs := scan_eq_spec s
  rw [h] at hs
  obtain ⟨hmap, hsome⟩ := List.mapM_eq_map Spec.b64val 0 _ _ hs.1
  refine ⟨?_, fun v hv => ?_⟩
  · have h1 := congrArg List.length hmap
    have h2 := (List.takeWhile_sublist (fun c => c != 61) (l := s.filter fun c => !isspace c)).length_le
    have h3 := (List.filter_sublist (p := fun c => !isspace c) (l := s)).length_le
    simp only [List.length_map] at h1
    omega
  · have : v.toNat ∈ vs.map UInt8.toNat := List.mem_map_of_mem hv
    rw [hmap] at this
    obtain ⟨c, hc, hcv⟩ := List.mem_map.1 this
    have := hsome c hc
    cases hb : Spec.b64val c with
    | none => simp [hb] at this
    | some i => rw [hb] at hcv; exact hcv ▸ b64val_lt hb

theorem filter_dropWhile_space (r : Bytes) :
    (r.dropWhile isspace).filter (fun c => !isspace c) = r.filter (fun c => !isspace c) := by
  induction r with
  | nil => rfl
  | cons c r ih =>
    by_cases hs : isspace c = true
    · simp [hs, ih]
    · simp [hs]

theorem all_space_iff (r : Bytes) : r.all isspace = true ↔ r.filter (fun c => !isspace c) = [] := by
  simp [List.filter_eq_nil_iff]

/-- The verdict of `b64tail` once the text after the pad is known to be white space: the bits left in `pend` must be zero. -/
def tailv (n : Nat) (st : B64St) : Option Bytes :=
  if st.out.length < n && st.pend != 0 then none else some st.out

/-- After the last pad (`b64pton` in state 3, and in state 2 behind the second pad): nothing but white space may follow. -/
theorem b64tail_eq (n : Nat) (st : B64St) (r : Bytes) :
    b64tail n st r = if r.filter (fun c => !isspace c) = [] then tailv n st else none := by
  unfold b64tail tailv
  by_cases h : r.all isspace = true
  · rw [if_pos h, if_pos ((all_space_iff r).1 h)]
  · rw [if_neg h, if_neg (fun h' => h ((all_space_iff r).2 h'))]

/-- State 2, one pad seen: what follows must be, white space aside, exactly one more pad. -/
theorem b64tail_second_pad (n : Nat) (st : B64St) (r : Bytes) :
    (match r.dropWhile isspace with
      | c :: r' => if c == Gen.pad64 then b64tail n st r' else none
      | [] => none)
    = if r.filter (fun c => !isspace c) = [61] then tailv n st else none := by
  rw [← filter_dropWhile_space r]
  cases hd : r.dropWhile isspace with
  | nil => simp
  | cons c r' =>
    have hc := List.not_of_dropWhile_eq_cons hd
    simp only [List.filter_cons, hc, Bool.not_false, if_true, b64tail_eq]
    by_cases hp : c = 61
    · subst hp; simp [Gen.pad64]
    · have : (c == Gen.pad64) = false := by simpa [Gen.pad64] using hp
      simp [this, hp]


theorem b64_eq_scan (s : Bytes) :
    Spec.b64 s = match scan s with
      | none => none
      | some (vs, p) =>
        if Spec.b64padOk vs.length (padOf p) then Spec.b64groups (vs.map UInt8.toNat) else none := by
  have hs := scan_eq_spec s
  unfold Spec.b64
  cases hsc : scan s with
  | none => rw [hsc] at hs; simp only [hs]
  | some x =>
    obtain ⟨vs, p⟩ := x
    rw [hsc] at hs
    simp only [hs.1, hs.2, List.length_map]

/-- Among the states `fin` accepts, the size tests let through exactly those whose output fits. -/
theorem filter_fin (n : Nat) (st : B64St) :
    (fin st).filter (fun out => out.length ≤ n) = if Fits n st then fin st else none := by
  obtain ⟨state, out, pend⟩ := st
  rcases state with _ | _ | k
  · simp [fin, Fits, Option.filter]
  · simp [fin]
  · by_cases hp : pend = 0 <;> simp [fin, Fits, Option.filter, hp]

/-- After the pad(s) the size tests have been made: `tailv` only looks at the bits left over. -/
theorem tailv_eq {n : Nat} {st : B64St} (hf : Fits n st) (hs : 2 ≤ st.state) : tailv n st = fin st := by
  obtain ⟨state, out, pend⟩ := st
  obtain ⟨h1, -, h3⟩ := hf
  obtain ⟨k, rfl⟩ : ∃ k, state = k + 2 := ⟨state - 2, by simp only at hs; omega⟩
  by_cases hp : pend = 0
  · simp [tailv, fin, hp]
  · have : out.length < n := Nat.lt_of_le_of_ne h1 fun h => hp (h3 h (by simp))
    simp [tailv, fin, hp, this]

end Mdsort.Proofs.B64

namespace Mdsort.Proofs
open Mdsort Model B64

/-- `b64_pton` with a target of any size `n`: the reference decoder where its result fits the target, failure where it does not. -/
theorem b64pton_eq (s : Bytes) (n : Nat) : b64pton s n = (Spec.b64 s).filter fun out => out.length ≤ n := by
  rw [b64_eq_scan]
  unfold b64pton
  rw [b64loop_eq n s B64St.init ⟨Nat.zero_le n, nofun, fun _ h => absurd rfl h⟩]
  cases hsc : scan s with
  | none => rfl
  | some x =>
    obtain ⟨vs, p⟩ := x
    obtain ⟨hg, hstate⟩ := groups_eq vs [] (scan_values hsc).2
    change (match loopRes n ⟨0, [], 0⟩ _ with | .err => _ | .eos st => _ | .pad st r => _) = _
    have hg' : Spec.b64groups (vs.map UInt8.toNat) = fin (vs.foldl ustep ⟨0, [], 0⟩) := by
      rw [← hg]; cases Spec.b64groups (vs.map UInt8.toNat) <;> simp
    have h4 : (vs.foldl ustep ⟨0, [], 0⟩).state < 4 := by rw [hstate]; exact Nat.mod_lt _ (by decide)
    simp only [loopRes, hg', Spec.b64padOk, ← hstate, apply_ite (Option.filter _), filter_fin, Option.filter_none]
    generalize vs.foldl ustep ⟨0, [], 0⟩ = st at h4
    by_cases hf : Fits n st
    · simp only [if_pos hf]
      cases p with
      | none =>
        obtain ⟨state, out, pend⟩ := st
        rcases state with _ | _ | _ | _ | k
        · simp [fin, padOf]
        · simp
        · simp [padOf]
        · simp [padOf]
        · simp only at h4; omega
      | some r =>
        have ht := fun h => tailv_eq hf h
        obtain ⟨state, out, pend⟩ := st
        rcases state with _ | _ | _ | _ | k
        · simp [padOf]
        · simp
        · simp only [Nat.zero_add, Nat.reduceAdd]
          refine (b64tail_second_pad n _ r).trans ?_
          simp [padOf, ht]
        · simp [padOf, b64tail_eq, ht]
        · simp only at h4; omega
    · simp only [if_neg hf, ite_self]

theorem b64_spec_len (s out : Bytes) (h : Spec.b64 s = some out) : 4 * out.length ≤ 3 * s.length := by
  rw [b64_eq_scan] at h
  cases hsc : scan s with
  | none => rw [hsc] at h; simp at h
  | some x =>
    obtain ⟨vs, p⟩ := x
    rw [hsc] at h
    simp only at h
    split at h
    · have h1 := groups_len _ _ h
      have h2 := (scan_values hsc).1
      simp at h1
      omega
    · contradiction

theorem b64pton_eq_spec (s : Bytes) (n : Nat) (h : s.length < n) : b64pton s n = Spec.b64 s := by
  rw [b64pton_eq]
  cases hb : Spec.b64 s with
  | none => rfl
  | some out =>
    have := b64_spec_len s out hb
    simp only [Option.filter_some, decide_eq_true_eq]
    rw [if_pos (by omega)]

end Mdsort.Proofs
