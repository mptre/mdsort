import Mdsort.Proofs.WorldFoot

/-!
# `matches_exec` under EVERY fault plan: one entry bound to a complete version of the message

The walk over `maildir_write` (here), `maildir_move` (WorldMove), `execOne`, `matchesExec` (WorldExec) follows ONE entry
bound to a complete version of the message (`GoodAt`) together with what kind of file it is bound to - the file `fid0` the
message's entry was bound to at a reference point, or a file made since (`N0 ≤ g`): `GoodN`.  The tag is what lets the
lineage instance conclude that the entry's file descends from the message: of the files that existed at the reference point
only `fid0` is known to, every file made since does.  Beside the entry the walk carries a side invariant `J` of which it
asks only `Side N0 cs J`.  Three instances:

* `J = LinInv` (WorldLin): the entry is bound to a file that DESCENDS FROM the message (by lineage);
* `J = LinInv ∧ DI` (`Side.withDI`, WorldCrash): moreover what the files made since hold on stable storage is
  empty or a complete version (the crash states of C02);
* no side invariant and `N0 = 0`, where the tag says nothing: some entry is bound to a complete version (`Good`, by
  content: `World.spec_matchesExec` in WorldExec).
-/

namespace Mdsort.Proofs.World
open Mdsort Mdsort.Model

theorem Harmless.of_kind {K : List Kind}
    (hK : ∀ k ∈ K, k ∉ [.write, .fprintf, .fsync, .fflush, .fclose, .unlinkat, .renameat, .mkdtemp, .mkdir, .rmdir])
    {c : Call} (h : c.kind ∈ K) : Harmless c := by
  cases c <;> first | exact True.intro | exact (hK _ h (Kind.mem rfl)).elim

theorem harmless_messageSetFile (ms : MsgSt) (dir name : Bytes) (fd : Option Handle) : Calls Harmless (messageSetFile ms dir name fd) :=
  (kinds_messageSetFile ms dir name fd).mono fun _ => Harmless.of_kind (by decide)

theorem GoodAt.fail {w cs p n fid} (hg : GoodAt w cs p n fid) {c : Call} (e : String) (h : Call.released c = none) :
    GoodAt (stepWorld w c (.err e)) cs p n fid :=
  hg.of_same (sameFs_err w c e h)

theorem NewFile.fail {w : World} {d fd : Handle} {name p : Bytes} {fid : Nat} (nf : NewFile w d fd name p fid) {c : Call}
    (e : String) (h : Call.released c = none) : NewFile (stepWorld w c (.err e)) d fd name p fid := by
  obtain ⟨t, ht⟩ := sameFs_err w c e h
  rw [ht]
  -- only the trace differs, and no field of `NewFile` looks at it
  exact ⟨nf.dirPath, nf.bound, nf.file, nf.fidLt, nf.obj, nf.fdLt, nf.dLt⟩

theorem isOk_cases (r : Res) : (∃ e, r = .err e) ∨ isOk r = true := by
  cases r <;> simp [isOk]

/-- The call is not `openRd`, mdsort's `openat(dirfd, name, O_RDONLY | O_CLOEXEC)`: the call by which `message_parse` opens a
message, and the only one that changes which message the lineage takes as the one being processed (`nord_X`: the script
`X` issues none). -/
def NotOpenRd : Call → Prop
  | .openRd .. => False
  | _ => True

theorem NotOpenRd.of_kind {K : List Kind} (hK : .openRd ∉ K) {c : Call} (h : c.kind ∈ K) : NotOpenRd c := by
  cases c <;> first | exact True.intro | exact (hK h).elim

/-- The call is not `fsync`: the only call that changes what a file holds on stable storage. -/
def NotFsync : Call → Prop
  | .fsync _ => False
  | _ => True

theorem NotFsync.of_kind {K : List Kind} (hK : .fsync ∉ K) {c : Call} (h : c.kind ∈ K) : NotFsync c := by
  cases c <;> first | exact True.intro | exact (hK h).elim

theorem Harmless.notFsync {c : Call} (h : Harmless c) : NotFsync c := by
  cases c <;> first | exact True.intro | exact h.elim

theorem nord_genname (env : PEnv) (md : Maildir) (flags : Option Bytes) (fuel count : Nat) :
    Calls NotOpenRd (genname env md flags fuel count) :=
  (kinds_genname env md flags fuel count).mono fun _ => NotOpenRd.of_kind (by decide)

theorem nord_messageWriteP (m : Msg) (fd : Handle) : Calls NotOpenRd (messageWriteP m fd) :=
  (kinds_messageWriteP m fd).mono fun _ => NotOpenRd.of_kind (by decide)

theorem nofs_genname (env : PEnv) (md : Maildir) (flags : Option Bytes) (fuel count : Nat) :
    Calls NotFsync (genname env md flags fuel count) :=
  (kinds_genname env md flags fuel count).mono fun _ => NotFsync.of_kind (by decide)

theorem nord_messageSetFile (ms : MsgSt) (dir name : Bytes) (fd : Option Handle) :
    Calls NotOpenRd (messageSetFile ms dir name fd) :=
  (kinds_messageSetFile ms dir name fd).mono fun _ => NotOpenRd.of_kind (by decide)

/-- Some entry is bound to a file that holds a complete version (`GoodAt`), and that file is `fid0` or was made
since the reference point `N0`. -/
def GoodN (N0 fid0 : Nat) (w : World) (cs : List Bytes) : Prop :=
  ∃ p n g, GoodAt w cs p n g ∧ (g = fid0 ∨ N0 ≤ g)

theorem GoodAt.goodN {N0 fid0 : Nat} {w : World} {cs : List Bytes} {p n : Bytes} {g : Nat} (h : GoodAt w cs p n g)
    (hA : g = fid0 ∨ N0 ≤ g) : GoodN N0 fid0 w cs := ⟨p, n, g, h, hA⟩

theorem GoodN.good {N0 fid0 : Nat} {w : World} {cs : List Bytes} (h : GoodN N0 fid0 w cs) : Good w cs := by
  obtain ⟨p, n, g, hg, _⟩ := h
  exact hg.good

/-- With the reference point `0` the tag says nothing. -/
theorem Good.goodN {w : World} {cs : List Bytes} (h : Good w cs) : GoodN 0 0 w cs := by
  obtain ⟨p, n, g, hg⟩ := h
  exact hg.goodN (.inr (Nat.zero_le g))

theorem wp_harmlessN {α} {N0 fid0 : Nat} {cs : List Bytes} {p : Prog α} (hc : Calls Harmless p) {w : World}
    (hg : GoodN N0 fid0 w cs) : wp (fun w' => GoodN N0 fid0 w' cs) p (fun _ w' => GoodN N0 fid0 w' cs) w := by
  obtain ⟨p0, n0, g0, hg, hA⟩ := hg
  exact wp_mono (wp_inv_mono (wp_of_calls (J := fun w' => GoodAt w' cs p0 n0 g0) hc
    (fun _ c r hc hg => hg.step c r (hc.dirSafe _ _ _) (hc.fileSafe _ _)) hg) fun _ h => h.goodN hA) fun _ _ h => h.goodN hA

theorem genname_fid_ge (env : PEnv) (md : Maildir) (flags : Option Bytes) (N : Nat) (fuel count : Nat) {w : World}
    (hN : N ≤ w.nextFid) :
    wp (fun _ => True) (genname env md flags fuel count)
      (fun res w' => ∀ fd name, res = some (fd, name) → ∀ fid off wr, w'.obj fd = .file fid off wr → N ≤ fid) w := by
  refine wp_mono (wp_genname env md flags (fun _ => True) (fun _ _ => trivial) (fun _ _ _ _ _ _ _ _ => trivial) fuel count
    (SameFs.refl w)) ?_
  rintro g w' (⟨rfl, -⟩ | ⟨d, wk, p, c, -, hs, hp, -, -, hl, rfl, rfl⟩)
  · intro _ _ h; cases h
  · intro fd name h fid off wr ho
    cases h
    rw [(newFile_of_openExcl hp hl).obj] at ho
    cases ho
    rw [hs.nextFid]
    exact hN

/-- `[] ++ c` is the form in which `spec_messageWriteP` gives the content of a file that was empty. -/
theorem goodAt_of_copy {cs : List Bytes} {w : World} {p name c : Bytes} {fid : Nat} {f : File}
    (hl : w.lookup p name = some fid) (hlt : fid < w.nextFid) (hf : w.file fid = some f)
    (hc : f.data = [] ++ c ∧ f.durable = f.data) (hm : c ∈ cs) : GoodAt w cs p name fid :=
  ⟨hl, hlt, f, hf, by rw [hc.1]; exact hm, by rw [hc.2, hc.1]; exact hm⟩

/-- Removing an entry keeps a tracked entry: the one there was or, if that is the one removed, a second entry bound to
a complete file made since the reference point. -/
theorem GoodAt.unlinkat_other {N0 fid0 : Nat} {cs : List Bytes} {w : World} {p0 n0 : Bytes} {g0 : Nat}
    (hg : GoodAt w cs p0 n0 g0) (hA : g0 = fid0 ∨ N0 ≤ g0) {p name : Bytes} {fid : Nat} (hN : N0 ≤ fid)
    (hne : ¬(p = p0 ∧ name = n0)) (d : Handle) (nm : Bytes) (r : Res)
    (hB : w.dirPath d = some p0 → nm = n0 → GoodAt w cs p name fid) :
    GoodN N0 fid0 (stepWorld w (.unlinkat d nm) r) cs := by
  by_cases hX : dirSafe w p0 n0 (.unlinkat d nm)
  · exact (hg.step _ r hX trivial).goodN hA
  · simp only [dirSafe, Classical.not_not] at hX
    refine ((hB hX.1 hX.2).step (.unlinkat d nm) r ?_ trivial).goodN (.inr hN)
    simp only [dirSafe, hX.1, Option.some.injEq]
    rintro ⟨rfl, h⟩
    exact hne ⟨rfl, by rw [← h, hX.2]⟩

/-- What the walk asks of an invariant `J` carried beside the tracked entry: the reference point `N0` is not beyond
the files there are; every call other than an `openRd` and an `fsync` keeps `J`; so does an `openRd` of an entry bound to
a file made since the reference point; so does `message_write` of a complete version into a file that is still empty (the
`fsync` of `maildir_write` and of the copy of `maildir_move`). -/
structure Side (N0 : Nat) (cs : List Bytes) (J : World → Prop) : Prop where
  ge : ∀ {w}, J w → N0 ≤ w.nextFid
  step : ∀ w c r, NotOpenRd c → NotFsync c → J w → J (stepWorld w c r)
  openNew : ∀ {w} (d : Handle) (n : Bytes) (r : Res), J w →
    (∀ p g, w.dirPath d = some p → w.lookup p n = some g → N0 ≤ g ∧ g < w.nextFid) → J (stepWorld w (.openRd d n) r)
  write : ∀ {w : World} {fid off : Nat} {wr : Bool} (m : Msg) (fd : Handle), w.obj fd = .file fid off wr →
    w.file fid = some ⟨[], []⟩ → (messageWrite m).1 ∈ cs → J w → wp J (messageWriteP m fd) (fun _ w' => J w') w

theorem Side.calls {α} {N0 : Nat} {cs : List Bytes} {J : World → Prop} (hS : Side N0 cs J) {p : Prog α}
    (hn : Calls NotOpenRd p) (hf : Calls NotFsync p) {w : World} (hj : J w) : wp J p (fun _ w' => J w') w := by
  induction p generalizing w with
  | ret a => exact hj
  | call c k ih =>
    intro ft
    have := hS.step w c (faultResult ft w c) hn.1 hf.1 hj
    exact ⟨this, ih _ (hn.2 _) (hf.2 _) this⟩

def Tracked (J : World → Prop) (N0 fid0 : Nat) (cs : List Bytes) (w : World) : Prop := J w ∧ GoodN N0 fid0 w cs

section
variable {J : World → Prop} {N0 fid0 : Nat} {cs : List Bytes}

/-- A script walked for the side invariant and for the tracked entry separately. -/
theorem tracked_both {α} {p : Prog α} {w : World} (hj : wp J p (fun _ w' => J w') w)
    (hg : wp (fun w' => GoodN N0 fid0 w' cs) p (fun _ w' => GoodN N0 fid0 w' cs) w) :
    wp (Tracked J N0 fid0 cs) p (fun _ w' => Tracked J N0 fid0 cs w') w :=
  wp_both hj hg

theorem Tracked.step (hS : Side N0 cs J) {w : World} (h : Tracked J N0 fid0 cs w) (c : Call) (r : Res) (hc : Harmless c)
    (hn : NotOpenRd c) : Tracked J N0 fid0 cs (stepWorld w c r) := by
  obtain ⟨hj, p, n, g, hg, hA⟩ := h
  exact ⟨hS.step w c r hn hc.notFsync hj, (hg.step c r (hc.dirSafe _ _ _) (hc.fileSafe _ _)).goodN hA⟩

theorem tracked_harmless {α} (hS : Side N0 cs J) {p : Prog α} (hc : Calls Harmless p) (hn : Calls NotOpenRd p)
    {w : World} (h : Tracked J N0 fid0 cs w) :
    wp (Tracked J N0 fid0 cs) p (fun _ w' => Tracked J N0 fid0 cs w') w :=
  tracked_both (hS.calls hn (hc.mono fun _ => Harmless.notFsync) h.1) (wp_harmlessN hc h.2)

/-- The file `maildir_write` opens for reading at the end is the one it has just written, a file made since the reference
point (`Side.openNew`). -/
theorem tracked_maildirWrite (hS : Side N0 cs J) (env : PEnv) (md : Maildir) (ms : MsgSt) {w : World}
    (hT : Tracked J N0 fid0 cs w) (hm : (messageWrite ms.msg).1 ∈ cs) :
    wp (Tracked J N0 fid0 cs) (maildirWrite env md ms) (fun _ w' => Tracked J N0 fid0 cs w') w := by
  obtain ⟨hj, p0, n0, g0, hg, hA⟩ := hT
  rw [maildirWrite_eq]
  unfold gennameStart
  -- with the literal fuel, every `refine` against the goal would evaluate `genname`
  generalize gennameAttempts = fuel
  split
  · exact ⟨hj, hg.goodN hA⟩
  rename_i fl _
  refine wp_bind_mono (wp_inv_mono (wp_both (wp_both
    (spec_genname env md (some fl) cs p0 n0 g0 (fun _ => True) (fun _ _ _ _ _ => trivial) fuel _ hg trivial)
    (genname_fid_ge env md (some fl) N0 fuel _ (hS.ge hj))) (hS.calls (nord_genname _ _ _ _ _) (nofs_genname _ _ _ _ _) hj))
    fun _ h => ⟨h.2, h.1.1.goodN hA⟩) ?_
  rintro g w1 ⟨⟨⟨hg1, -, hnew⟩, hge⟩, hj1⟩
  cases g with
  | none => exact ⟨hj1, hg1.goodN hA⟩
  | some x =>
  obtain ⟨fd, name⟩ := x
  obtain ⟨d, p, fid, hd, nf, hlt, hneq⟩ := hnew fd name rfl
  have hfidN : N0 ≤ fid := hge fd name rfl fid 0 true nf.obj
  have hfne : fid ≠ g0 := Nat.ne_of_gt hlt
  dsimp only
  refine wp_bind_mono (wp_inv_mono (wp_both (spec_messageWriteP ms.msg fd hg1 nf.obj hfne nf.file)
    (hS.write ms.msg fd nf.obj nf.file hm hj1)) fun _ h => ⟨h.2, h.1.goodN hA⟩) ?_
  rintro we w2 ⟨⟨fr2, f2, hf2, hcontent⟩, hj2⟩
  have hdlt : d < w1.handles.length := Nat.lt_trans nf.dLt nf.fdLt
  have hdp2 : w2.dirPath d = some p := by
    rw [← nf.dirPath]; exact dirPath_congr (fr2.objs d hdlt)
  intro ft
  generalize faultResult ft w2 (.close fd) = rc
  have hg3 := fr2.good.step (.close fd) rc trivial trivial
  have hj3 := hS.step _ (.close fd) rc True.intro True.intro hj2
  refine ⟨⟨hj3, hg3.goodN hA⟩, ?_⟩
  have hcc := core_close w2 fd rc
  have hnf3 : w2.nextFid ≤ (stepWorld w2 (.close fd) rc).nextFid := by
    rw [stepWorld_nextFid]; exact core_nextFid _ _ _
  generalize hw3 : stepWorld w2 (.close fd) rc = w3 at hg3 hj3 hnf3 ⊢
  have hdp3 : w3.dirPath d = some p := by
    rw [← hdp2, ← hw3]
    apply dirPath_congr
    rw [stepWorld_obj, hcc, obj_setObj]
    have : d ≠ fd := Nat.ne_of_lt nf.dLt
    simp [this]
  have hlook3 : ∀ q m, w3.lookup q m = w1.lookup q m := by
    intro q m
    rw [← hw3, stepWorld_lookup, hcc, lookup_setObj]
    exact lookup_of_dirs fr2.dirs q m
  have hfile3 : w3.file fid = some f2 := by
    rw [← hw3, stepWorld_file, hcc, file_setObj]; exact hf2
  have hfid3 : fid < w3.nextFid := by
    have h1 := nf.fidLt
    have h2 := fr2.nextFid
    omega
  have hsafe_new : dirSafe w3 p0 n0 (.unlinkat d name) := by
    simp only [dirSafe, hdp3, Option.some.injEq]
    exact hneq
  have rollback : wp (Tracked J N0 fid0 cs) ((maildirUnlink md name).bind fun _ => Prog.ret (ms, true))
      (fun _ w' => Tracked J N0 fid0 cs w') w3 := by
    rw [maildirUnlink_eq, hd]
    intro ft
    have := hg3.step (.unlinkat d name) (faultResult ft w3 (.unlinkat d name)) hsafe_new trivial
    have hl := hS.step _ (.unlinkat d name) (faultResult ft w3 (.unlinkat d name)) True.intro True.intro hj3
    exact ⟨⟨hl, this.goodN hA⟩, hl, this.goodN hA⟩
  cases we with
  | true =>
    simp only [if_true, ret_bind]
    exact rollback
  | false =>
    simp only [Bool.false_eq_true, if_false, maildirUnlink_eq, hd, call_bind']
    refine wp_call_any fun ru => ?_
    have hj4 := hS.step _ (.unlinkat d ms.name) ru True.intro True.intro hj3
    have hdlt3 : d < w3.handles.length := lt_of_dirPath hdp3
    have hdp4 : (stepWorld w3 (.unlinkat d ms.name) ru).dirPath d = some p := by
      rw [stepWorld_dirPath, ← hdp3]
      exact dirPath_congr (core_obj w3 _ ru d hdlt3 (by simp [Call.subject]))
    rcases isOk_cases ru with ⟨e, rfl⟩ | hok
    · have hg4 := hg3.fail (c := .unlinkat d ms.name) e rfl
      refine ⟨⟨hj4, hg4.goodN hA⟩, ?_⟩
      simp only [isOk, Bool.not_false]
      simp only [ret_bind, if_true]
      refine wp_call_any fun r => ?_
      have := hg4.step (.unlinkat d name) r
        (by simp only [dirSafe, hdp4, Option.some.injEq]; exact hneq) trivial
      have hl := hS.step _ (.unlinkat d name) r True.intro True.intro hj4
      exact ⟨⟨hl, this.goodN hA⟩, hl, this.goodN hA⟩
    · have hgood4 := hg3.unlinkat_other hA hfidN hneq d ms.name ru fun hp _ => by
        rw [hdp3] at hp
        cases hp
        exact goodAt_of_copy (by rw [hlook3]; exact nf.bound (dir_isSome_of_lookup hg1.1)) hfid3 hfile3 (hcontent rfl) hm
      refine ⟨⟨hj4, hgood4⟩, ?_⟩
      simp only [hok, Bool.not_true, ret_bind, Bool.false_eq_true, if_false]
      have hnf4 : w3.nextFid ≤ (stepWorld w3 (.unlinkat d ms.name) ru).nextFid := by
        rw [stepWorld_nextFid]; exact core_nextFid _ _ _
      refine wp_call_any fun ro => ?_
      have hj5 := hS.openNew d name ro hj4 (by
        intro p' g' hp' hl4
        rw [hdp4] at hp'
        cases hp'
        rw [stepWorld_lookup] at hl4
        have hl3 := core_unlinkat_lookup_sub w3 d ms.name ru p name g' hl4
        rw [hlook3] at hl3
        have hb := nf.bound (dir_isSome_of_lookup hl3)
        rw [hl3] at hb
        cases hb
        exact ⟨hfidN, by omega⟩)
      obtain ⟨p', n', g', hg', hA'⟩ := hgood4
      have hT5 : Tracked J N0 fid0 cs (stepWorld _ (.openRd d name) ro) :=
        ⟨hj5, (hg'.step (.openRd d name) ro trivial trivial).goodN hA'⟩
      refine ⟨hT5, ?_⟩
      cases ro with
      | ok rdfd =>
        refine wp_bind_mono (tracked_harmless hS (harmless_messageSetFile ..) (nord_messageSetFile ..) hT5) ?_
        intro x w6 hT6
        split
        · refine wp_call_any fun rc => ?_
          have hT7 := hT6.step hS (.close rdfd) rc trivial trivial
          exact ⟨hT7, hT7⟩
        · exact hT6
      | _ => exact hT5

end

end Mdsort.Proofs.World
