import Mdsort.Proofs.WorldEqns

/-!
The value of a script as far as it does not depend on the results of its calls: which fields of the message a
delivery leaves alone, and what a successful one puts into the others.  One statement per script (`val_<script>`,
over the units of WorldEqns); a pass over the calls of a script takes what it needs of the value from here.
-/

namespace Mdsort.Proofs.World
open Mdsort Mdsort.Model

theorem adjustSeen_same (s : Subdir) (mf : MFlags) : adjustSeen s s mf = mf := by
  cases s <;> rfl

/-- What a successful `maildir_move` / `maildir_write` from subdirectory `s` to `d` leaves in the message: the flag set
adjusted, and a generated name that carries it. -/
def Delivered (env : PEnv) (s d : Subdir) (ms ms' : MsgSt) : Prop :=
  ms'.flags = adjustSeen s d ms.flags ∧ ∃ fl c, msgflags s d ms.flags = some fl ∧ ms'.name = cand env (some fl) c

theorem val_genname (env : PEnv) (md : Maildir) (flags : Option Bytes) (fuel count : Nat) :
    All (fun g => ∀ fd n, g = some (fd, n) → ∃ c, n = cand env flags c) (genname env md flags fuel count) := by
  induction fuel generalizing count with
  | zero =>
    unfold genname
    exact nofun
  | succ fuel ih =>
    rw [genname_succ]
    generalize (cand env flags (count + 1)).length = len
    split
    · exact nofun
    · split
      · exact nofun
      · intro r
        dsimp only
        split
        · intro fd n h
          cases h
          exact ⟨_, rfl⟩
        · split
          · exact ih (count + 1)
          · exact nofun
        · exact nofun

theorem setFileMoved_val (ms : MsgSt) (ss ds : Subdir) (dir name : Bytes) :
    (setFileMoved ms ss ds dir name).1.fd = ms.fd ∧ (setFileMoved ms ss ds dir name).1.msg = ms.msg ∧
    (setFileMoved ms ss ds dir name).1.parts = ms.parts ∧ (setFileMoved ms ss ds dir name).1.loc = ms.loc ∧
    (setFileMoved ms ss ds dir name).1.content = ms.content ∧
    ((setFileMoved ms ss ds dir name).2 = false →
      (setFileMoved ms ss ds dir name).1.flags = adjustSeen ss ds ms.flags ∧ (setFileMoved ms ss ds dir name).1.name = name) := by
  unfold setFileMoved
  cases pathjoin PATH_MAX dir name with
  | none => exact ⟨rfl, rfl, rfl, rfl, rfl, nofun⟩
  | some p =>
    cases hn : strlcpyFits NAME_MAX1 name with
    | none => exact ⟨rfl, rfl, rfl, rfl, rfl, nofun⟩
    | some n => exact ⟨rfl, rfl, rfl, rfl, rfl, fun _ => ⟨rfl, eq_of_strlcpyFits hn⟩⟩

theorem val_messageSetFile (ms : MsgSt) (dir name : Bytes) (fd : Option Handle) :
    All (fun r => r.1.msg = ms.msg ∧ r.1.flags = ms.flags ∧ r.1.content = ms.content ∧
        (r.2 = false → r.1.name = name)) (messageSetFile ms dir name fd) := by
  unfold messageSetFile
  split
  · exact ⟨rfl, rfl, rfl, nofun⟩
  split
  · exact ⟨rfl, rfl, rfl, nofun⟩
  rename_i n hn
  have hnn := eq_of_strlcpyFits hn
  split
  · simp only [bind_eq, pure_eq]
    split
    · exact All.bind_of_forall _ fun _ => ⟨rfl, rfl, rfl, fun _ => hnn⟩
    · exact ⟨rfl, rfl, rfl, fun _ => hnn⟩
  · exact ⟨rfl, rfl, rfl, fun _ => hnn⟩

theorem val_moveCopy (src dst : Maildir) (ms : MsgSt) (fd : Handle) (dstname : Bytes) (r : Res) :
    All (fun x => x.2.fd = ms.fd ∧ x.2.msg = ms.msg ∧ x.2.parts = ms.parts ∧ x.2.flags = ms.flags ∧ x.2.name = ms.name)
      (moveCopy src dst ms fd dstname r) := by
  unfold moveCopy
  split
  · split
    · simp only [bind_eq, pure_eq]
      refine All.bind_of_forall _ fun we => ?_
      split
      · exact ⟨rfl, rfl, rfl, rfl, rfl⟩
      · refine All.bind_of_forall _ fun ue => ?_
        cases ue <;> exact ⟨rfl, rfl, rfl, rfl, rfl⟩
    · exact ⟨rfl, rfl, rfl, rfl, rfl⟩
  · exact ⟨rfl, rfl, rfl, rfl, rfl⟩

theorem val_moveTail (ss : Subdir) (dst : Maildir) (dh fd : Handle) (dstname : Bytes) (mt : Option Nat) (err1 : Bool) (ms : MsgSt) :
    All (fun r => r.1.fd = ms.fd ∧ r.1.msg = ms.msg ∧ r.1.parts = ms.parts ∧
        (r.2 = false → r.1.flags = adjustSeen ss dst.subdir ms.flags ∧ r.1.name = dstname))
      (moveTail ss dst dh fd dstname mt err1 ms) := by
  have sv := setFileMoved_val ms ss dst.subdir dst.path dstname
  cases err1
  · rw [moveTail_ok]
    intro _
    cases mt with
    | none => exact ⟨sv.1, sv.2.1, sv.2.2.1, sv.2.2.2.2.2⟩
    | some t =>
      intro r
      dsimp only
      split
      · exact ⟨rfl, rfl, rfl, nofun⟩
      · exact ⟨sv.1, sv.2.1, sv.2.2.1, sv.2.2.2.2.2⟩
  · rw [moveTail_err]
    refine All.bind_of_forall _ fun _ => ?_
    intro _
    exact ⟨rfl, rfl, rfl, nofun⟩

theorem val_maildirMove (env : PEnv) (src dst : Maildir) (ms : MsgSt) :
    All (fun r => r.1.fd = ms.fd ∧ r.1.msg = ms.msg ∧ r.1.parts = ms.parts ∧
        (r.2 = false → Delivered env src.subdir dst.subdir ms r.1)) (maildirMove env src dst ms) := by
  rw [maildirMove_eq]
  split
  · exact ⟨rfl, rfl, rfl, nofun⟩
  split
  rotate_left
  · exact ⟨rfl, rfl, rfl, nofun⟩
  refine All.bind_of_forall _ fun mt => ?_
  unfold moveRest
  split
  · exact ⟨rfl, rfl, rfl, nofun⟩
  rename_i fl hfl
  simp only [bind_eq, pure_eq]
  unfold gennameStart
  -- with the literal fuel, unification against `All _ (genname ..)` would run the loop
  generalize gennameAttempts = fuel
  refine All.bind_mono (val_genname env dst (some fl) _ _) fun g hg => ?_
  split
  · exact ⟨rfl, rfl, rfl, nofun⟩
  rename_i fd dstname
  obtain ⟨c, hc⟩ := hg fd dstname rfl
  refine All.bind_of_forall _ fun r => ?_
  refine All.bind_mono (val_moveCopy src dst ms fd dstname r) fun x hx => ?_
  obtain ⟨e1, ms'⟩ := x
  obtain ⟨h1, h2, h3, h4, -⟩ := hx
  refine (val_moveTail src.subdir dst _ fd dstname mt e1 ms').mono fun r hr => ?_
  exact ⟨hr.1.trans h1, hr.2.1.trans h2, hr.2.2.1.trans h3, fun hok =>
    ⟨by rw [(hr.2.2.2 hok).1]; exact congrArg _ h4, fl, c, hfl, by rw [(hr.2.2.2 hok).2, hc]⟩⟩

theorem val_maildirWrite (env : PEnv) (md : Maildir) (ms : MsgSt) :
    All (fun r => r.1.msg = ms.msg ∧
        (r.2 = false → r.1.content = (messageWrite ms.msg).1 ∧ Delivered env md.subdir md.subdir ms r.1))
      (maildirWrite env md ms) := by
  rw [maildirWrite_eq]
  split
  · exact ⟨rfl, nofun⟩
  rename_i fl hfl
  unfold gennameStart
  generalize gennameAttempts = fuel
  refine All.bind_mono (val_genname env md (some fl) _ _) fun g hg => ?_
  split
  · exact ⟨rfl, nofun⟩
  rename_i fd name
  obtain ⟨c, hc⟩ := hg fd name rfl
  refine All.bind_of_forall _ fun we => ?_
  intro _
  refine All.bind_of_forall _ fun err => ?_
  split
  · exact All.bind_of_forall _ fun _ => ⟨rfl, nofun⟩
  split
  · exact ⟨rfl, nofun⟩
  intro r
  dsimp only
  split
  · refine All.bind_mono (val_messageSetFile _ md.path name _) fun x hx => ?_
    obtain ⟨h1, h3, h4, h5⟩ := hx
    split
    · intro _
      exact ⟨h1, nofun⟩
    · rename_i he
      have he' : x.2 = false := by simpa using he
      exact ⟨h1, fun _ => ⟨h4, by rw [adjustSeen_same]; exact h3, fl, c, hfl, by rw [h5 he', hc]⟩⟩
  · exact ⟨rfl, nofun⟩

end Mdsort.Proofs.World
