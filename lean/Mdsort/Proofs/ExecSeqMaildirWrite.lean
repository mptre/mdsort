import Mdsort.Proofs.ExecSeqBasic

/-!
# `maildir_write` against arbitrary possible results

`spec_maildirWrite` (in `wpo`, like every `spec_` lemma of namespace `ExecSeq`): when it succeeds, the message's descriptor
is a NEW read-only handle on the NEW file, and that file holds exactly `message_write` of the in-memory message.
-/

namespace Mdsort.Proofs.ExecSeq
open Mdsort Mdsort.Model Mdsort.Spec Mdsort.Proofs.World

/-- One step of the walk that shows `All P` of a script unfolded to `ret` / `call` / `bind` and the `match`es and `if`s of
its control flow: a leaf is left as the goal `P a`, a call and a `bind` are entered, control flow is split. -/
macro "all_step" : tactic =>
  `(tactic| first
      | (with_reducible apply All.ret_intro)
      | (with_reducible apply All.call_intro)
      | (intro _)
      | (with_reducible apply All.bind)
      | split
      | (dsimp only; split))

/-- The error value of a pair-returning script is `true` on every leaf: nothing to show for the
postconditions of this file, which only speak about success. -/
macro "err_leaves" : tactic =>
  `(tactic| (refine wpo_of_all (P := fun r => r.2 = true) ?_ (by intro a _ h1 h2; rw [h1] at h2; cases h2)
             repeat' (first | exact rfl | all_step)))

/-- What `maildir_write` keeps from the creation of the new file until it is opened again: the directory handle `d` on `p`,
the file `fid` with its content, at least `n` handles. -/
structure WriteKept (d : Handle) (p : Bytes) (fid : Nat) (f : File) (n : Nat) (w : World) : Prop where
  dirPath : w.dirPath d = some p
  file : w.file fid = some f
  fidLt : fid < w.nextFid
  len : n ≤ w.handles.length

theorem WriteKept.step {d : Handle} {p : Bytes} {fid : Nat} {f : File} {n : Nat} {w : World} (k : WriteKept d p fid f n w)
    (c : Call) (r : Res) (hs : Call.subject c ≠ some d) (hf : fileSafe w fid c) :
    WriteKept d p fid f n (stepWorld w c r) :=
  ⟨by rw [← k.dirPath]; exact dirPath_congr (by rw [stepWorld_obj, core_obj w c r d (lt_of_dirPath k.dirPath) hs]),
   by rw [stepWorld_file, core_file w c r fid k.fidLt hf]; exact k.file,
   Nat.lt_of_lt_of_le k.fidLt (core_nextFid w c r), Nat.le_trans k.len (core_len w c r)⟩

theorem spec_maildirWrite (env : PEnv) (md : Maildir) (ms : MsgSt) {fid0 : Nat} {c0 : Bytes} {w : World}
    (fa : FileAt w fid0 c0) (hfd : ∀ h, ms.fd = some h → h < w.handles.length) :
    wpo (maildirWrite env md ms)
      (fun r w' => r.2 = false →
        r.1.msg = ms.msg ∧ r.1.parts = ms.parts ∧ w.handles.length ≤ w'.handles.length ∧
        ∃ h fid, r.1.fd = some h ∧ w.handles.length ≤ h ∧ w'.obj h = .file fid 0 false ∧
          FileAt w' fid (messageWrite ms.msg).1) w := by
  rw [maildirWrite_eq]
  unfold gennameStart
  -- with the literal fuel every `wpo` goal below would be evaluated into `genname`
  generalize gennameAttempts = fuel
  split
  · intro h; cases h
  rename_i fl _
  refine wpo_bind_mono (spec_genname env md (some fl) fid0 c0 w fuel _ (Frm.refl fa)) ?_
  rintro g w1 ⟨fr1, hnew⟩
  cases g with
  | none => intro h; cases h
  | some x =>
  obtain ⟨fd, name⟩ := x
  obtain ⟨d, p, fid, hd, nf, hlt, -⟩ := hnew fd name rfl
  have hfne : fid ≠ fid0 := Nat.ne_of_gt hlt
  dsimp only
  refine wpo_bind_mono (spec_messageWriteP ms.msg fd (Frm.refl fr1.file) nf.obj hfne nf.file) ?_
  rintro we w2 ⟨fd2, f2, hf2, hcontent⟩
  have k2 : WriteKept d p fid f2 w.handles.length w2 :=
    ⟨by rw [← nf.dirPath]; exact dirPath_congr (fd2.fr.objs d (Nat.lt_trans nf.dLt nf.fdLt)), hf2,
     Nat.lt_of_lt_of_le nf.fidLt fd2.fr.nextFid, Nat.le_trans fr1.len fd2.fr.len⟩
  intro rc _
  have k3 := k2.step (.close fd) rc (fun h => absurd (Option.some.inj h) (Nat.ne_of_gt nf.dLt)) trivial
  have hlook3 : ∀ q m, (stepWorld w2 (.close fd) rc).lookup q m = w1.lookup q m := by
    intro q m
    rw [stepWorld_lookup, core_close, lookup_setObj]
    exact lookup_of_dirs fd2.dirs q m
  generalize stepWorld w2 (.close fd) rc = w3 at k3 hlook3
  cases we with
  | true =>
    simp only [if_true, ret_bind, maildirUnlink_eq, hd]
    err_leaves
  | false =>
    simp only [Bool.false_eq_true, if_false, maildirUnlink_eq, hd]
    intro ru hpu
    rcases possible_unlinkat hpu with ⟨e, rfl⟩ | ⟨v, p', x, rfl, hp', hx, hcu⟩
    · simp only [isOk, Bool.not_false, ret_bind, if_true, call_bind']
      err_leaves
    · simp only [isOk, Bool.not_true, ret_bind, Bool.false_eq_true, if_false]
      have hpp : p' = p := by rw [k3.dirPath] at hp'; exact (Option.some.inj hp').symm
      subst hpp
      have k4 := k3.step (.unlinkat d ms.name) (.ok v) (fun h => nomatch h) trivial
      have hlook4 : (stepWorld w3 (.unlinkat d ms.name) (.ok v)).lookup p' name =
          if name = ms.name then none else w1.lookup p' name := by
        rw [stepWorld_lookup, hcu, lookup_unbind, hlook3]
        simp
      generalize stepWorld w3 (.unlinkat d ms.name) (.ok v) = w4 at k4 hlook4
      intro ro hpo
      rcases possible_openRd hpo with ⟨e, rfl⟩ | ⟨p2, fidX, rfl, hp2, hl2, hco⟩
      · intro h; cases h
      have hpp : p2 = p' := by rw [k4.dirPath] at hp2; exact (Option.some.inj hp2).symm
      subst hpp
      have hfidX : fidX = fid := by
        rw [hlook4] at hl2
        split at hl2
        · cases hl2
        · have hdir : (w1.dir p2).isSome := dir_isSome_of_lookup hl2
          rw [nf.bound hdir] at hl2
          exact (Option.some.inj hl2).symm
      subst hfidX
      have k5 := k4.step (.openRd d name) (.ok w4.handles.length) (fun h => nomatch h) trivial
      have hobj5 : (stepWorld w4 (.openRd d name) (.ok w4.handles.length)).obj w4.handles.length = .file fidX 0 false := by
        rw [stepWorld_obj, hco, obj_newHandle, if_pos rfl]
      generalize stepWorld w4 (.openRd d name) (.ok w4.handles.length) = w5 at k5 hobj5
      have hdata : f2.data = (messageWrite ms.msg).1 := by
        have := hcontent rfl
        simpa [nf.file] using this
      have fa5 : FileAt w5 fidX (messageWrite ms.msg).1 := ⟨k5.fidLt, f2, k5.file, hdata⟩
      dsimp only
      unfold messageSetFile
      split
      · err_leaves
      split
      · err_leaves
      dsimp only
      cases hold : ms.fd with
      | none =>
        dsimp only
        intro _
        exact ⟨rfl, rfl, k5.len, _, _, rfl, k4.len, hobj5, fa5⟩
      | some old =>
        simp only [bind_eq, pure_eq, call_bind]
        intro rcl _
        simp only [ret_bind, Bool.false_eq_true, if_false]
        intro _
        have hol : old < w.handles.length := hfd old hold
        have hne : w4.handles.length ≠ old := Nat.ne_of_gt (Nat.lt_of_lt_of_le hol k4.len)
        refine ⟨rfl, rfl, Nat.le_trans k5.len (core_len w5 (.close old) rcl), _, _, rfl, k4.len, ?_,
          fa5.step (.close old) rcl trivial⟩
        · rw [stepWorld_obj, core_close, obj_setObj]
          simp [hne, hobj5]

end Mdsort.Proofs.ExecSeq
