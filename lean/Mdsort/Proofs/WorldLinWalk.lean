import Mdsort.Proofs.WorldLinMsg
import Mdsort.Proofs.WorldWholeWalk

/-!
# A whole walk and a whole run (maildir mode) under EVERY fault plan: no registered message is lost - BY LINEAGE

`WholeSafeL … c f0 w`: some entry of `w` is bound to a file that DESCENDS FROM the initial file `f0` and whose visible
and durable contents are versions of `c` (zero or more complete rewrites by the rules).  `WholeAllSafeL`: this holds for
every message of the initial registry, `f0` being the file its entry was bound to in the initial world.  Since the
origin of a file is a function of the file, two messages bound to different initial files are never witnessed by the same
entry (`lin_witnesses_distinct`); the by-content statement (`WholeSafe` for every registered message) allows one entry
to witness two messages with the same bytes.  The by-content statements `whole_walk_no_loss`, `whole_main_no_loss` are corollaries and
stand at the end of this file.
-/

namespace Mdsort.Proofs
open Mdsort Mdsort.Model
open Mdsort.Proofs.World (wp wp_mono wp_inv_mono LinPre Hist linAt)

/-- Some entry is bound to a file that descends from `f0` and whose visible and durable contents are versions of `c`. -/
def WholeSafeL (env : PEnv) (orc : EvalOracles) (exprs : List Expr) (w0 : World) (l0 : Lin) (c : Bytes) (f0 : Nat) (w : World) : Prop :=
  ∃ d n g f, w.lookup d n = some g ∧ g < w.nextFid ∧ (linAt w0 l0 w).org g = f0 ∧ w.file g = some f ∧
    WholeVersion env orc exprs c f.data ∧ WholeVersion env orc exprs c f.durable

/-- Every message of the registry `files0`, bound in `w0` to the file `fid0`, has in `w` an entry bound to a descendant of
`fid0` that holds a version of it. -/
def WholeAllSafeL (env : PEnv) (orc : EvalOracles) (exprs : List Expr) (files0 : Files) (w0 : World) (l0 : Lin) (w : World) : Prop :=
  ∀ dir nm c fid0, files0.get dir nm = some c → w0.lookup dir nm = some fid0 →
    WholeSafeL env orc exprs w0 l0 c (l0.org fid0) w

/-- The `I`nvariant of the whole walk by `L`ineage: what it keeps after every call. -/
def WholeIL (env : PEnv) (orc : EvalOracles) (exprs : List Expr) (files0 : Files) (w0 : World) (l0 : Lin) (w : World) : Prop :=
  Hist w0 w ∧ WholeAllSafeL env orc exprs files0 w0 l0 w

theorem WholeSafeL.step {env : PEnv} {orc : EvalOracles} {exprs : List Expr} {w0 : World} {l0 : Lin} {c : Bytes} {f0 : Nat} {w : World}
    (h : WholeSafeL env orc exprs w0 l0 c f0 w) (hH : Hist w0 w) (cl : Call) (r : Res)
    (hd : World.Call.dirOp cl = false) (hfs : ∀ g, World.fileSafe w g cl) : WholeSafeL env orc exprs w0 l0 c f0 (stepWorld w cl r) := by
  obtain ⟨d, n, g, f, h1, h2, h3, h4, h5, h6⟩ := h
  have hf := World.file_step h4 h2 cl r (hfs g)
  refine ⟨d, n, g, f, ?_, hf.2, ?_, hf.1, h5, h6⟩
  · rw [← h1]; exact World.lk_step w cl r hd (d, n)
  · rw [World.linAt_step l0 hH, World.linStep_org_lt _ _ _ _ _ h2]; exact h3

theorem WholeIL.step {env : PEnv} {orc : EvalOracles} {exprs : List Expr} {files0 : Files} {w0 : World} {l0 : Lin} {w : World}
    (h : WholeIL env orc exprs files0 w0 l0 w) (cl : Call) (r : Res)
    (hd : World.Call.dirOp cl = false) (hfs : ∀ g, World.fileSafe w g cl) : WholeIL env orc exprs files0 w0 l0 (stepWorld w cl r) :=
  ⟨h.1.step cl r, fun dir nm c fid0 hc hl => (h.2 dir nm c fid0 hc hl).step h.1 cl r hd hfs⟩

theorem WholeIL.quiet {env : PEnv} {orc : EvalOracles} {exprs : List Expr} {files0 : Files} {w0 : World} {l0 : Lin} :
    QuietInv (WholeIL env orc exprs files0 w0 l0) := fun _ cl r h hd hfs => h.step cl r hd hfs

/-- The by-lineage statement implies the by-content one. -/
theorem WholeSafeL.safe {env : PEnv} {orc : EvalOracles} {exprs : List Expr} {w0 : World} {l0 : Lin} {c : Bytes} {f0 : Nat} {w : World}
    (h : WholeSafeL env orc exprs w0 l0 c f0 w) : WholeSafe env orc exprs c w := by
  obtain ⟨d, n, g, f, h1, h2, _, h4, h5, h6⟩ := h
  exact ⟨d, n, g, f, h1, h2, h4, h5, h6⟩

/-- Two messages that descend from different initial files are witnessed by different files (hence different entries). -/
theorem lin_witnesses_distinct {w0 : World} {l0 : Lin} {f0 f0' : Nat}
    {w : World} {d n d' n' : Bytes} {g g' : Nat}
    (h1 : w.lookup d n = some g) (ho : (linAt w0 l0 w).org g = f0) (h2 : w.lookup d' n' = some g')
    (ho' : (linAt w0 l0 w).org g' = f0') (hne : f0 ≠ f0') : g ≠ g' ∧ (d, n) ≠ (d', n') := by
  have hg : g ≠ g' := by
    rintro rfl
    exact hne (ho.symm.trans ho')
  refine ⟨hg, ?_⟩
  intro he
  cases he
  rw [h1] at h2
  exact hg (Option.some.inj h2)

/-- One message at the level of the walk: every tracked message stays safe by lineage after every call. -/
theorem lin_processMessage_all (env : PEnv) (orc : EvalOracles) (expr : Expr) (exprs : List Expr) (hmem : expr ∈ exprs)
    (hnd : WholeNoDiscard env orc expr) (files0 : Files) {w0 : World} {l0 : Lin} (md : Maildir) (n : Bytes) (st : MainSt)
    {w1 : World} {d : Handle} {content : Bytes} {fid : Nat}
    (hd : md.dirH = some d) (hp : w1.dirPath d = some md.path)
    (hwf : pathjoin PATH_MAX md.root (subdirName md.subdir) = some md.path)
    (hfc : st.files.get md.path n = some content)
    (hl : w1.lookup md.path n = some fid) (hlt : fid < w1.nextFid) (hf : w1.file fid = some ⟨content, content⟩)
    (h : WholeIL env orc exprs files0 w0 l0 w1) :
    wp (WholeIL env orc exprs files0 w0 l0) (processMessage env orc expr md n st)
      (fun _ w' => WholeIL env orc exprs files0 w0 l0 w') w1 := by
  obtain ⟨hH, hall⟩ := h
  -- the frame and the lineage of the message being processed give every registered message its witness
  have conv : ∀ w', World.WholeK (md.path, n) w1.handles.length w1 w' →
      LPMA env orc expr w0 l0 w1.nextFid (linAt w0 l0 w1).org ((linAt w0 l0 w1).org fid) md.path n content w' →
      WholeIL env orc exprs files0 w0 l0 w' := by
    rintro w' k ⟨as, hp', p', q', g', ⟨a1, a2, f', a3, a4, a5⟩, ho'⟩
    refine ⟨hp'.hist, fun dir nm c fid0 hc hl0 => ?_⟩
    obtain ⟨p, q, g, f, h1, h2, h3, h4, h5, h6⟩ := hall dir nm c fid0 hc hl0
    by_cases hpq : (p, q) = (md.path, n)
    · -- the message being processed: the entry the walk by lineage follows
      cases hpq
      obtain rfl : fid = g := Option.some.inj (hl.symm.trans h1)
      obtain rfl : f = ⟨content, content⟩ := Option.some.inj (h4.symm.trans hf)
      have ver : ∀ x, x ∈ [content, wholeRewrite env orc expr md.path n content as] → WholeVersion env orc exprs c x := by
        intro x hx
        simp only [List.mem_cons, List.mem_nil_iff, or_false] at hx
        rcases hx with rfl | rfl
        · exact h5
        · exact .step expr md.path n as h5 hmem
      exact ⟨p', q', g', f', a1, a2, by rw [ho', h3], a3, ver _ a4, ver _ a5⟩
    · -- another message: its entry and its file are outside the frame of `processMessage`, and the origin of a file
      -- that existed does not change
      exact ⟨p, q, g, f, k.look (p, q) g hpq h1, Nat.lt_of_lt_of_le h2 k.nextFid, by rw [hp'.old g h2, h3],
        (k.files g h2).trans h4, h5, h6⟩
  exact wp_mono (wp_inv_mono (World.wp_both
      (whole_processMessage env orc expr md n st hd hp hwf hfc hl hlt hf fun _ => hnd)
      (lin_processMessage env orc expr md n st (LinPre.start hH) hd hp hfc hl hlt hf hnd)) fun w' h => conv w' h.1 h.2)
    fun _ w' h => conv w' h.1.2.1 h.2

/-- The registry is consistent with the world: the start of the run satisfies the by-lineage invariant (every message
is its own witness, and is its own origin when the lineage starts as the identity). -/
theorem WholeIL.start {env : PEnv} {orc : EvalOracles} {exprs : List Expr} {files : Files} {w : World} (l0 : Lin)
    (hreg : WholeReg w files) : WholeIL env orc exprs files w l0 w := by
  refine ⟨Hist.refl w, ?_⟩
  intro dir nm c fid0 hc hl
  obtain ⟨fid, h1, h2, h3⟩ := hreg dir nm c hc
  have : fid = fid0 := by rw [hl] at h1; exact (Option.some.inj h1).symm
  subst this
  exact ⟨dir, nm, fid, _, hl, h2, by rw [World.linAt_self], h3, .refl c, .refl c⟩

theorem lin_walk_no_loss (env : PEnv) (orc : EvalOracles) (expr : Expr) (fuel : Nat) (md : Maildir) (st : MainSt)
    (w : World) (plan : Plan) (hnd : WholeNoDiscard env orc expr) (hreg : WholeReg w st.files) (hmd : WholeMdOk w md) :
    ∀ w' ∈ (runPlan plan (walk env orc expr fuel md st) w 0 []).2.2,
      WholeAllSafeL env orc [expr] st.files w Lin.init w' := by
  intro w' hw'
  rw [World.runPlan_eq] at hw'
  simp only [List.nil_append] at hw'
  have hmem : expr ∈ [expr] := List.mem_singleton.2 rfl
  exact ((World.wp_sound plan (inv_walk WholeIL.quiet expr hnd
    (fun md' n st' => lin_processMessage_all env orc expr [expr] hmem hnd st.files md' n st') fuel md st hreg hmd
    (WholeIL.start Lin.init hreg)) 0).1 w' hw').2

theorem lin_main_no_loss (env : PEnv) (orc : EvalOracles) (confOk : Bool) (conf : List ConfBlock) (files : Files) (input : Bytes)
    (w : World) (plan : Plan) (hm : env.stdinMode = false) (hnd : ∀ b ∈ conf, WholeNoDiscard env orc b.expr)
    (hreg : WholeReg w files) :
    ∀ w' ∈ (runPlan plan (mainP env orc confOk conf files input) w 0 []).2.2,
      WholeAllSafeL env orc (conf.map (·.expr)) files w Lin.init w' := by
  intro w' hw'
  rw [World.runPlan_eq] at hw'
  simp only [List.nil_append] at hw'
  exact ((World.wp_sound plan (inv_mainP WholeIL.quiet env orc confOk conf files input hm
    (fun b hb => ⟨hnd b hb, fun md n st =>
      lin_processMessage_all env orc b.expr _ (List.mem_map.2 ⟨b, hb, rfl⟩) (hnd b hb) files md n st⟩)
    hreg (WholeIL.start Lin.init hreg)) 0).1 w' hw').2

/-! The by-content statements follow: the registry says which file each registered entry is bound to at the start. -/

theorem whole_walk_no_loss (env : PEnv) (orc : EvalOracles) (expr : Expr) (fuel : Nat) (md : Maildir) (st : MainSt)
    (w : World) (plan : Plan) (hnd : WholeNoDiscard env orc expr) (hreg : WholeReg w st.files) (hmd : WholeMdOk w md) :
    ∀ w' ∈ (runPlan plan (walk env orc expr fuel md st) w 0 []).2.2,
      ∀ dir name c, st.files.get dir name = some c → WholeSafe env orc [expr] c w' := by
  intro w' hw' dir name c hc
  obtain ⟨fid, hl, -⟩ := hreg dir name c hc
  exact (lin_walk_no_loss env orc expr fuel md st w plan hnd hreg hmd w' hw' dir name c fid hc hl).safe

theorem whole_main_no_loss (env : PEnv) (orc : EvalOracles) (confOk : Bool) (conf : List ConfBlock) (files : Files) (input : Bytes)
    (w : World) (plan : Plan) (hm : env.stdinMode = false) (hnd : ∀ b ∈ conf, WholeNoDiscard env orc b.expr)
    (hreg : WholeReg w files) :
    ∀ w' ∈ (runPlan plan (mainP env orc confOk conf files input) w 0 []).2.2,
      ∀ dir name c, files.get dir name = some c → WholeSafe env orc (conf.map (·.expr)) c w' := by
  intro w' hw' dir name c hc
  obtain ⟨fid, hl, -⟩ := hreg dir name c hc
  exact (lin_main_no_loss env orc confOk conf files input w plan hm hnd hreg w' hw' dir name c fid hc hl).safe

end Mdsort.Proofs
