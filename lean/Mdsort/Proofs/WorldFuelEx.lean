import Mdsort.Proofs.WorldFuelConform
import Mdsort.Proofs.WorldWholeEx
import Mdsort.Proofs.WorldDryEval

/-!
# The standard fuel can run out - and then the flag says so

`/m/new` holds seven files the registry does not list (the registry of `mainP` is a parameter; `WholeReg` only asks that
what IS registered be there).  The walk gets fuel `2·0 + 8`: `.`, `..` and six names use it up; the seventh name is never
seen and `/m/cur` is never opened.  The run ends like a complete one, except that `fuelOut` is set (and the
conformance check reports it).  With a ghost allowance of 5 more iterations (13 = 9 names + end of `new` + `.`, `..`,
end of `cur`) the same run ends without the flag - and then, by `fuel_irrelevant_plan`, it is the run for every larger
allowance.
-/

namespace Mdsort.Proofs
open Mdsort Mdsort.Model

def fuelExWorld : World :=
  { dirs := [(exNew, [([49], 0), ([50], 1), ([51], 2), ([52], 3), ([53], 4), ([54], 5), ([55], 6)]), (exCur, [])],
    files := [(0, ⟨[], []⟩), (1, ⟨[], []⟩), (2, ⟨[], []⟩), (3, ⟨[], []⟩), (4, ⟨[], []⟩), (5, ⟨[], []⟩), (6, ⟨[], []⟩)],
    nextFid := 7, handles := [.other, .other, .other], devs := [], trace := [] }

theorem fuelEx_reg : WholeReg fuelExWorld [] := by
  intro dir name c h
  cases h

theorem fuelEx_runs :
    (runPlan Plan.none (mainP exEnv wholeExOrc true dry_f21Conf [] []) fuelExWorld 0 []).1.2.fuelOut = true ∧
    (runPlan Plan.none (mainP (Fuel.withFuel exEnv 5) wholeExOrc true dry_f21Conf [] []) fuelExWorld 0 []).1.2.fuelOut = false := by
  rw [(dry_runNone_eq (mainP exEnv wholeExOrc true dry_f21Conf [] []) fuelExWorld 0 []).1,
    (dry_runNone_eq (mainP (Fuel.withFuel exEnv 5) wholeExOrc true dry_f21Conf [] []) fuelExWorld 0 []).1,
    Own.mainP_eq, Own.mainP_eq]
  unfold Own.mainK
  simp only [dry_f21Conf, Own.blocks_cons, Own.blocks_nil, Own.paths_cons, Own.paths_nil, dry_f21Expr]
  decide +kernel

end Mdsort.Proofs
