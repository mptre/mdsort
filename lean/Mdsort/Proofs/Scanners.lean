import Mdsort.Model.Mime
import Mdsort.Proofs.Basics

/-! The byte-recursive scanners of the list models (`skipLine`, `scanKey`, `scanValue`) in closed form: each walks to the first
byte of some class, so it is `takeWhile`/`dropWhile` of that class, and what it returns is a piece of its input. -/

namespace Mdsort.Proofs
open Mdsort Mdsort.Model

theorem drop_nspaces (s : Bytes) : s.drop (nspaces s) = s.dropWhile isblank :=
  List.drop_length_takeWhile isblank s

theorem skipLine_eq (s : Bytes) : skipLine s = (s.dropWhile (· != 10)).drop 1 := by
  fun_induction skipLine s
  case case1 => rfl
  case case2 c r hc => cases beq_iff_eq.1 hc; rfl
  case case3 c r hc ih => simp at hc; simp [hc, ih]

theorem skipLine_isSuffix (s : Bytes) : skipLine s <:+ s :=
  skipLine_eq s ▸ (List.drop_suffix 1 _).trans (List.dropWhile_suffix _)

theorem skipLine_length_le (s : Bytes) : (skipLine s).length ≤ s.length := (skipLine_isSuffix s).length_le

theorem skipLine_length_lt {s : Bytes} (h : s ≠ []) : (skipLine s).length < s.length := by
  have h1 := (List.dropWhile_suffix (l := s) (· != 10)).length_le
  rw [skipLine_eq, List.length_drop]
  have := List.length_pos_iff.mpr h
  omega

theorem skipLine_append_noNL {p : Bytes} (q : Bytes) (hp : 10 ∉ p) : skipLine (p ++ q) = skipLine q := by
  rw [skipLine_eq, skipLine_eq, List.dropWhile_append_of_pos fun y hy => by simpa using fun e : y = 10 => hp (e ▸ hy)]

theorem skipLine_line (l r : Bytes) (hl : 10 ∉ l) : skipLine (l ++ 10 :: r) = r := by
  rw [skipLine_eq, (List.span_stop (p := (· != 10)) (fun y hy => by simpa using fun e : y = 10 => hl (e ▸ hy)) (by simp)).2]
  rfl

/-- A byte of a header name: not the colon, not white space. -/
def keyByte (c : UInt8) : Bool := c != 58 && !isspace c

theorem scanKey_eq (s : Bytes) :
    scanKey s = if (s.dropWhile keyByte).headD 0 == 58 then some (s.takeWhile keyByte, (s.dropWhile keyByte).drop 1)
      else none := by
  fun_induction scanKey s
  case case1 => rfl
  case case2 c r h58 => cases beq_iff_eq.1 h58; rfl
  case case3 c r h58 hsp => simp at h58; simp [keyByte, h58, hsp]
  case case4 c r h58 hsp ih =>
    have hk : keyByte c = true := by simp at h58; simp [keyByte, h58, hsp]
    simp only [List.dropWhile_cons, List.takeWhile_cons, hk, if_true, ih]
    split <;> rfl

theorem scanKey_split {s k rest : Bytes} (h : scanKey s = some (k, rest)) : s = k ++ 58 :: rest := by
  rw [scanKey_eq] at h
  split at h
  · rename_i h58
    cases h
    conv => lhs; rw [← List.takeWhile_append_dropWhile (p := keyByte) (l := s)]
    cases hd : s.dropWhile keyByte with
    | nil => rw [hd] at h58; simp at h58
    | cons x t => rw [hd] at h58; simp at h58; subst h58; rfl
  · cases h

theorem scanKey_append (n r : Bytes) (hn : ∀ c ∈ n, c ≠ 58 ∧ isspace c = false) : scanKey (n ++ 58 :: r) = some (n, r) := by
  obtain ⟨h1, h2⟩ := List.span_stop (p := keyByte) (a := n) (x := 58) (b := r)
    (fun c hc => by simp [keyByte, hn c hc]) rfl
  rw [scanKey_eq, h1, h2]; rfl

theorem scanValue_cons (c : UInt8) (r : Bytes) : scanValue (c :: r) =
    if c == 10 then
      match r with
      | b :: _ => if isblank b then (scanValue r).map fun (v, rest) => (c :: v, rest) else some ([], r)
      | [] => some ([], r)
    else (scanValue r).map fun (v, rest) => (c :: v, rest) := by
  conv => lhs; unfold scanValue
  rfl

theorem scanValue_append (pre s : Bytes) (hpre : ∀ x ∈ pre, x ≠ 10) :
    scanValue (pre ++ s) = (scanValue s).map fun p => (pre ++ p.1, p.2) := by
  induction pre with
  | nil => rw [List.nil_append]; cases scanValue s <;> simp
  | cons x t ih =>
    have hx : (x == 10) = false := by simpa using hpre x (by simp)
    rw [List.cons_append, scanValue_cons]
    simp only [hx, Bool.false_eq_true, if_false]
    rw [ih (fun y hy => hpre y (by simp [hy]))]
    cases scanValue s with
    | none => simp
    | some p => obtain ⟨a, c⟩ := p; simp

theorem scanValue_split {s v rest : Bytes} (h : scanValue s = some (v, rest)) : s = v ++ 10 :: rest := by
  revert v rest
  fun_induction scanValue s
  case case1 => nofun
  case case3 c hc _ _ _ => intro _ _ h; cases h; rw [beq_iff_eq.1 hc]; rfl
  case case4 c hc => intro _ _ h; cases h; rw [beq_iff_eq.1 hc]; rfl
  -- a continuation newline, or any other byte: it goes in front of the value the rest of the scan finds
  all_goals
    rename_i ih
    intro v rest h
    obtain ⟨⟨a, b⟩, hab, heq⟩ := Option.map_eq_some_iff.1 h
    cases heq
    rw [ih hab]; rfl

/-- One round of the `for (;;)` of `findheader`, as the C code does it: to the next newline (`strchr`), over the blanks after it
(`nspaces`); no blank there ends the value, otherwise the scan goes on after the blanks. -/
theorem scanValue_round (s : Bytes) :
    scanValue s =
      match s.dropWhile (· != 10) with
      | [] => none
      | _ :: r =>
        if nspaces r = 0 then some (s.takeWhile (· != 10), r)
        else (scanValue (r.drop (nspaces r))).map fun p =>
          (s.takeWhile (· != 10) ++ 10 :: r.take (nspaces r) ++ p.1, p.2) := by
  have htw : ∀ x ∈ s.takeWhile (· != 10), x ≠ 10 := fun x hx => by simpa using List.of_mem_takeWhile hx
  conv => lhs; rw [← List.takeWhile_append_dropWhile (p := (· != 10)) (l := s)]
  rw [scanValue_append _ _ htw]
  cases hd : s.dropWhile (· != 10) with
  | nil => rfl
  | cons x r =>
    obtain rfl : x = 10 := List.eq_of_dropWhile_ne_eq_cons hd
    rw [scanValue_cons]
    cases r with
    | nil => simp [nspaces]
    | cons y t =>
      by_cases hb : isblank y = true
      · have hn : nspaces (y :: t) ≠ 0 := by simp [nspaces, hb]
        have hpre : ∀ z ∈ (y :: t).take (nspaces (y :: t)), z ≠ 10 := fun z hz => by
          unfold nspaces at hz
          rw [List.take_length_takeWhile] at hz
          exact isblank_ne_nl (List.of_mem_takeWhile hz)
        simp only [beq_self_eq_true, if_true, hb, hn, if_false]
        conv => lhs; rw [← List.take_append_drop (nspaces (y :: t)) (y :: t), scanValue_append _ _ hpre]
        cases scanValue ((y :: t).drop (nspaces (y :: t))) with
        | none => rfl
        | some p => simp
      · have hn : nspaces (y :: t) = 0 := by simp [nspaces, hb]
        simp [hb, hn]

end Mdsort.Proofs
