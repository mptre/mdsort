import Mdsort.Spec.Conf

/-!
# `Spec.wfK` read backwards, and the nodes of a tree

`wfK rx k t` is defined by matching on the kind and the tree together; the lemmas below say, for each
form of tree, which kinds it can have and what then holds of its parts.
-/

namespace Mdsort.Proofs.Conf
open Mdsort Mdsort.Model Mdsort.Spec

variable {rx : Pat → Bool} {k : Kind} {l : Nat}

theorem wfK_leaf {e : Expr} : wfK rx k (.leaf e) = true ↔
    ((k = .cond ∧ isCondLeaf e = true) ∨ ((k = .act ∨ k = .acts) ∧ e.leafAction = true)) ∧ leafOK rx e = true := by
  cases k <;> simp [wfK]

theorem wfK_emptyBlock : wfK rx k (.emptyBlock l) = true ↔ k = .block := by
  cases k <;> simp [wfK]

theorem wfK_block {b : CTree} : wfK rx k (.block l b) = true ↔ k = .block ∧ wfK rx .rules b = true := by
  cases k <;> simp [wfK]

theorem wfK_neg {e : CTree} : wfK rx k (.neg l e) = true ↔ k = .cond ∧ wfK rx .cond e = true := by
  cases k <;> simp [wfK]

theorem wfK_attachment {e : CTree} : wfK rx k (.attachment l e) = true ↔ k = .cond ∧ wfK rx .cond e = true := by
  cases k <;> simp [wfK]

theorem wfK_attBlock {b : CTree} : wfK rx k (.attBlock l b) = true ↔
    (k = .act ∨ k = .acts) ∧ wfK rx .block b = true ∧ 0 < b.countActions ∧ b.countActions ≤ b.countLeaf Expr.isExec := by
  cases k <;> simp [wfK, and_assoc]

theorem wfK_and {a b : CTree} : wfK rx k (.and l a b) = true ↔
    (k = .cond ∧ wfK rx .cond a = true ∧ wfK rx .cond b = true) ∨
    (k = .acts ∧ wfK rx .acts a = true ∧ wfK rx .act b = true) := by
  cases k <;> simp [wfK]

theorem wfK_or {a b : CTree} : wfK rx k (.or l a b) = true ↔
    (k = .cond ∧ wfK rx .cond a = true ∧ wfK rx .cond b = true) ∨
    (k = .rules ∧ wfK rx .rules a = true ∧ wfK rx .rule b = true) := by
  cases k <;> simp [wfK]

theorem wfK_mtch {c r : CTree} : wfK rx k (.mtch l c r) = true ↔
    (k = .rule ∨ k = .rules) ∧ wfK rx .cond c = true ∧
      ((wfK rx .block r = true ∧ r.countActions > 0) ∨ (wfK rx .acts r = true ∧ aloneOK r = true)) := by
  cases k <;> simp [wfK]

theorem wf_rule_rules (rx : Pat → Bool) (t : CTree) (h : wfK rx .rule t = true) : wfK rx .rules t = true := by
  cases t <;> simp_all [wfK]

theorem wf_act_acts (rx : Pat → Bool) (t : CTree) (h : wfK rx .act t = true) : wfK rx .acts t = true := by
  cases t <;> simp_all [wfK]

theorem wf_act_count {t : CTree} (h : wfK rx .act t = true) : 1 ≤ t.countActions := by
  cases t <;> simp only [wfK, Bool.false_eq_true, Bool.and_eq_true] at h
  · simp only [CTree.countActions, h.1, if_true, Nat.le_refl]
  · exact Nat.le_add_right 1 _

theorem wf_acts_count {t : CTree} (h : wfK rx .acts t = true) : 1 ≤ t.countActions := by
  cases t <;> simp only [wfK, Bool.false_eq_true, Bool.and_eq_true] at h
  · simp only [CTree.countActions, h.1, if_true, Nat.le_refl]
  · exact Nat.le_trans (wf_act_count h.2) (Nat.le_add_left _ _)
  · exact Nat.le_add_right 1 _

theorem blockOK_parts {b : PBlock} (h : blockOK rx b = true) :
    wfK rx .block b.tree = true ∧ b.tree.countActions > 0 ∧
      ((b.paths.any fun p => !isStdinStr p) = true → b.tree.countLeaf Expr.isReject = 0) := by
  simp only [blockOK, Bool.and_eq_true, Bool.or_eq_true, Bool.not_eq_true', decide_eq_true_eq, beq_iff_eq] at h
  exact ⟨h.1.1, h.1.2, fun ha => h.2.resolve_left (by rw [ha]; exact Bool.noConfusion)⟩

theorem wfK_rule_inv (rx : Pat → Bool) (t : CTree) (h : wfK rx .rule t = true) : ∃ l c r, t = .mtch l c r := by
  cases t with
  | mtch l c r => exact ⟨l, c, r, rfl⟩
  | _ => simp [wfK] at h

theorem isBlock_of_wf_block (rx : Pat → Bool) (t : CTree) (h : wfK rx .block t = true) : isBlock t = true := by
  cases t <;> simp_all [wfK, isBlock]

theorem not_isBlock_of_wf_acts (rx : Pat → Bool) (t : CTree) (h : wfK rx .acts t = true) : isBlock t = false := by
  cases t <;> simp_all [wfK, isBlock]

theorem nodes_self (t : CTree) : t ∈ nodes t := by cases t <;> simp [nodes]

theorem forall_nodes {P : CTree → Prop}
    (block : ∀ l b, P (.block l b) → P b) (neg : ∀ l e, P (.neg l e) → P e)
    (attachment : ∀ l e, P (.attachment l e) → P e) (attBlock : ∀ l b, P (.attBlock l b) → P b)
    (and : ∀ l a b, P (.and l a b) → P a ∧ P b) (or : ∀ l a b, P (.or l a b) → P a ∧ P b)
    (mtch : ∀ l c r, P (.mtch l c r) → P c ∧ P r) : ∀ t, P t → ∀ t' ∈ nodes t, P t' := by
  have one : ∀ {t x : CTree}, (P x → ∀ t' ∈ nodes x, P t') → P t → (P t → P x) → ∀ t' ∈ t :: nodes x, P t' := by
    intro t x ih h hx t' ht'
    rcases List.mem_cons.1 ht' with rfl | ht'
    · exact h
    · exact ih (hx h) t' ht'
  have two : ∀ {t x y : CTree}, (P x → ∀ t' ∈ nodes x, P t') → (P y → ∀ t' ∈ nodes y, P t') → P t → (P t → P x ∧ P y) →
      ∀ t' ∈ t :: (nodes x ++ nodes y), P t' := by
    intro t x y ihx ihy h hxy t' ht'
    rcases List.mem_cons.1 ht' with rfl | ht'
    · exact h
    · rcases List.mem_append.1 ht' with ht' | ht'
      · exact ihx (hxy h).1 t' ht'
      · exact ihy (hxy h).2 t' ht'
  intro t
  induction t with
  | leaf e => intro h t' ht'; rw [List.mem_singleton.1 ht']; exact h
  | emptyBlock l => intro h t' ht'; rw [List.mem_singleton.1 ht']; exact h
  | block l b ih => exact fun h => one ih h (block l b)
  | neg l e ih => exact fun h => one ih h (neg l e)
  | attachment l e ih => exact fun h => one ih h (attachment l e)
  | attBlock l b ih => exact fun h => one ih h (attBlock l b)
  | and l a b iha ihb => exact fun h => two iha ihb h (and l a b)
  | or l a b iha ihb => exact fun h => two iha ihb h (or l a b)
  | mtch l c r ihc ihr => exact fun h => two ihc ihr h (mtch l c r)

theorem wf_nodes (rx : Pat → Bool) (t : CTree) (k : Kind) (h : wfK rx k t = true) :
    ∀ t' ∈ nodes t, ∃ k', wfK rx k' t' = true := by
  refine forall_nodes (P := fun t => ∃ k, wfK rx k t = true) ?_ ?_ ?_ ?_ ?_ ?_ ?_ t ⟨k, h⟩
  · exact fun _ _ ⟨_, h⟩ => ⟨_, (wfK_block.1 h).2⟩
  · exact fun _ _ ⟨_, h⟩ => ⟨_, (wfK_neg.1 h).2⟩
  · exact fun _ _ ⟨_, h⟩ => ⟨_, (wfK_attachment.1 h).2⟩
  · exact fun _ _ ⟨_, h⟩ => ⟨_, (wfK_attBlock.1 h).2.1⟩
  · intro _ _ _ ⟨_, h⟩
    rcases wfK_and.1 h with ⟨_, ha, hb⟩ | ⟨_, ha, hb⟩ <;> exact ⟨⟨_, ha⟩, ⟨_, hb⟩⟩
  · intro _ _ _ ⟨_, h⟩
    rcases wfK_or.1 h with ⟨_, ha, hb⟩ | ⟨_, ha, hb⟩ <;> exact ⟨⟨_, ha⟩, ⟨_, hb⟩⟩
  · intro _ _ _ ⟨_, h⟩
    obtain ⟨_, hc, hr⟩ := wfK_mtch.1 h
    rcases hr with ⟨hr, _⟩ | ⟨hr, _⟩ <;> exact ⟨⟨_, hc⟩, ⟨_, hr⟩⟩

end Mdsort.Proofs.Conf
