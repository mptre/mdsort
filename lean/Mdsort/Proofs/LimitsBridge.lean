import Mdsort.Proofs.EvalEq
import Mdsort.Proofs.EvalPTree
import Mdsort.Proofs.EvalList
import Mdsort.Model.LimitsWorld
import Mdsort.Proofs.LimitsSetters

/-!
# At the platform's limits the parametrised model IS the model

`XL stdLimits = X` for the functions of `Model/Limits.lean` the programs are built from.  (`readHostL`, the `gethostname` of
`readenv` into `ev_hostname` and the one reader of `Limits.hostMax`, has no counterpart in the model: the programs take
`PEnv.host` as given, and `C18_limits_exact` says that the copy is exact.)  No proof asks the unifier to compare two
recursive functions as wholes: a function that calls setters only is unfolded on both sides, where a setter at `.fin n`
computes to the setter of the model; a function that calls a recursive one is first rewritten with the bridge of its callee.
Those bridges are equations between FUNCTIONS (`matchesInterpolateL stdLimits = matchesInterpolate`), so that `rw` finds the
callee under the binders of the caller.
-/

namespace Mdsort.Proofs.Limits
open Mdsort Mdsort.Model

@[simp] theorem pathjoinL_fin (n : Nat) (d f : Bytes) : pathjoinL (.fin n) d f = pathjoin n d f := rfl
@[simp] theorem strlcpyL_fin (n : Nat) (s : Bytes) : strlcpyL (.fin n) s = strlcpyFits n s := rfl
@[simp] theorem pathsliceL_fin (path : Bytes) (n : Nat) (b e : Int) : pathsliceL path (.fin n) b e = pathslice path n b e := rfl
@[simp] theorem std_pathMax : stdLimits.pathMax = .fin PATH_MAX := rfl
@[simp] theorem std_nameMax1 : stdLimits.nameMax1 = .fin NAME_MAX1 := rfl
-- 256 = `Gen.evHostnameSize` = `sizeof(env->ev_hostname)`
@[simp] theorem std_hostMax : stdLimits.hostMax = .fin 256 := rfl

theorem parseSubdirL_std (path : Bytes) : parseSubdirL stdLimits.nameMax1 path = parseSubdir path := by
  unfold parseSubdirL parseSubdir
  rfl

theorem matchesAppendL_std (env : Env) (ml : MatchList) (mh : Match) :
    matchesAppendL stdLimits env ml mh = matchesAppend env ml mh := by
  unfold matchesAppendL matchesAppend
  rfl

theorem matchesAppendL_std_fun (env : Env) : matchesAppendL stdLimits env = matchesAppend env :=
  funext fun ml => funext fun mh => matchesAppendL_std env ml mh

theorem exprRegexecL_std (env : Env) (ty : MType) (lno part : Nat) (p : Pat) (key val : Bytes) (st : St) :
    exprRegexecL stdLimits env ty lno part p key val st = exprRegexec env ty lno part p key val st := by
  unfold exprRegexecL exprRegexec
  rw [matchesAppendL_std_fun]
  rfl

theorem exprAppendL_std (env : Env) (mh : Match) (st : St) (ok : Tri) :
    exprAppendL stdLimits env mh st ok = exprAppend env mh st ok := by
  unfold exprAppendL exprAppend
  rw [matchesAppendL_std_fun]

theorem setAllL_eq (cs : Bytes) (mf : MFlags) (err : Bool) : evalL.setAll cs mf err = eval.setAll cs mf err := by
  induction cs generalizing mf err with
  | nil => rfl
  | cons c r ih =>
    simp only [evalL.setAll, eval.setAll]
    cases flagsSet mf c <;> exact ih _ _

theorem evalL_isEvalT (L : Limits) (env : Env) (root : Msg) : IsEvalT (matchesAppendL L env) (pureEv (evalL L env root)) where
  block lno e part m st := by
    simp only [pureEv, Ask.ret_bind, evalL]
    rcases evalL L env root e part m st with ⟨t, s⟩
    cases t <;> rfl
  and lno l r part m st := by
    simp only [pureEv, Ask.ret_bind, evalL, thenK_ret]
    rcases evalL L env root l part m st with ⟨t, s⟩
    cases t <;> rfl
  or lno l r part m st := by
    simp only [pureEv, Ask.ret_bind, evalL, thenK_ret]
    rcases evalL L env root l part m st with ⟨t, s⟩
    cases t <;> rfl
  neg lno e part m st := by
    simp only [pureEv, Ask.ret_bind, evalL]
    rcases evalL L env root e part m st with ⟨t, s⟩
    cases t <;> rfl
  mtch lno c rhs part m st := by
    simp only [pureEv, Ask.ret_bind, evalL, thenK_ret]
    rcases matchesAppendL L env st.ml { ty := .mtch, lno := lno, part := part } with ⟨ml, failed⟩
    cases failed
    · simp only [Bool.false_eq_true, if_false]
      rcases evalL L env root c part m { st with ml := ml } with ⟨t, s⟩
      cases t <;> rfl
    · rfl
  attachment lno e part m st := by
    simp only [pureEv, evalL]
    cases getAttachments m with
    | none => rfl
    | some parts =>
      refine (attLoop_pure (evalL L env root e) (evalL.loop L env root e part) part (fun _ _ => by rw [evalL.loop])
        (fun p rest i st => ?_) parts 0 st).symm
      rw [evalL.loop]
      rcases evalL L env root e (if part == 0 then i + 1 else part) p st with ⟨t, s⟩
      cases t <;> rfl
  attBlock lno e part m st := by
    simp only [pureEv, evalL]
    cases getAttachments m with
    | none => rfl
    | some parts =>
      refine (attLoopB_pure (evalL L env root e) (evalL.loopB L env root e part) part (fun _ _ _ => by rw [evalL.loopB])
        (fun p rest i ev st => ?_) parts 0 .nomatch st).symm
      rw [evalL.loopB]
      rcases evalL L env root e (if part == 0 then i + 1 else part) p st with ⟨t, s⟩
      cases t <;> rfl

/-! An entry whose type is not a path type (`Gen.exprTable`) and is not merged is appended as it is: `matchesAppendL` does not
read the limits.  So the nodes that only append such entries (`fillsNoBuffer`) are evaluated by `Model.eval` under all
limits. -/

theorem matchesAppendL_plain (L : Limits) (env : Env) (ml : MatchList) (mh : Match) (hp : mh.ty.isPath = false)
    (hmf : isMF mh.ty = false) : matchesAppendL L env ml mh = (ml ++ [mh], false) := by
  unfold matchesAppendL matchesMerge
  have : (mh.ty != .move && mh.ty != .flag) = true := by
    unfold isMF at hmf
    cases hh : mh.ty <;> simp [hh] at hmf ⊢
  simp [this, hp]

theorem exprRegexecL_plain (L : Limits) (env : Env) (ty : MType) (lno part : Nat) (p : Pat) (key val : Bytes) (st : St)
    (hp : ty.isPath = false) (hmf : isMF ty = false) :
    exprRegexecL L env ty lno part p key val st = exprRegexec env ty lno part p key val st := by
  unfold exprRegexecL exprRegexec
  cases env.rx p val with
  | ok groups =>
    simp only [matchesAppendL_plain L env st.ml { ty := ty, lno := lno, part := part, subs := matchCopy p val groups, pat := some p } hp hmf,
      matchesAppend_plain env st.ml { ty := ty, lno := lno, part := part, subs := matchCopy p val groups, pat := some p } hp hmf]
  | «nomatch» => rfl
  | error => rfl

theorem exprAppendL_plain (L : Limits) (env : Env) (mh : Match) (st : St) (ok : Tri) (hp : mh.ty.isPath = false)
    (hmf : isMF mh.ty = false) : exprAppendL L env mh st ok = exprAppend env mh st ok := by
  unfold exprAppendL exprAppend
  rw [matchesAppendL_plain L env _ _ hp hmf, matchesAppend_plain env _ _ hp hmf]

/-- `false` also on every composite node, so `fillsNoBuffer e = false` says "fills a buffer" only of a leaf. -/
def fillsNoBuffer : Expr → Bool
  | .all .. | .body .. | .date .. | .header .. | .command .. | .discard .. | .brk .. | .pass .. | .reject .. | .exec .. => true
  | _ => false

theorem evalL_plain (L : Limits) (env : Env) (root : Msg) {e : Expr} (he : fillsNoBuffer e = true) (part : Nat) (m : Msg)
    (st : St) : evalL L env root e part m st = eval env root e part m st := by
  have hrx := fun ty hp hmf lno p k v st => exprRegexecL_plain L env ty lno part p k v st hp hmf
  cases e <;> first | (cases he; done) | skip
  case header lno names p =>
    have hvalues : ∀ (k : Bytes) (vs : List Bytes) (st : St),
        evalL.keys.values L env lno p part k vs st = eval.keys.values env lno p part k vs st := by
      intro k vs
      induction vs with
      | nil => intro st; rw [evalL.keys.values.eq_def, eval.keys.values.eq_def]
      | cons v more ihv =>
        intro st
        rw [evalL.keys.values.eq_def, eval.keys.values.eq_def]
        simp only [hrx .header (by decide) (by decide), ihv]
        rfl
    have hkeys : ∀ (ks : List Bytes) (st : St),
        evalL.keys L env lno p part m ks st = eval.keys env lno p part m ks st := by
      intro ks
      induction ks with
      | nil => intro st; rw [evalL.keys.eq_def, eval.keys.eq_def]
      | cons k rest ihk => intro st; rw [evalL.keys.eq_def, eval.keys.eq_def]; simp only [hvalues, ihk]; rfl
    rw [evalL.eq_def, eval.eq_def]
    simp only [hkeys]
  case all lno => rw [evalL.eq_def, eval.eq_def]
  case body lno p =>
    rw [evalL.eq_def, eval.eq_def]
    simp only [hrx .body (by decide) (by decide)]
    rfl
  case date lno field cmp age =>
    rw [evalL.eq_def, eval.eq_def]
    simp only [hrx .date (by decide) (by decide)]
    rfl
  case command lno argv =>
    rw [evalL.eq_def, eval.eq_def]
    simp only [matchesAppendL_plain L env st.ml { ty := .command, lno := lno, part := part, strings := argv } (by dsimp only; decide) (by dsimp only; decide),
      matchesAppend_plain env st.ml { ty := .command, lno := lno, part := part, strings := argv } (by dsimp only; decide) (by dsimp only; decide)]
    rfl
  all_goals
    rw [evalL.eq_def, eval.eq_def]
    exact exprAppendL_plain L env _ st _ (by dsimp only; decide) (by dsimp only; decide)

theorem evalL_leaf_std (env : Env) (root : Msg) {e : Expr} (he : e.isLeaf = true) (part : Nat) (m : Msg) (st : St) :
    evalL stdLimits env root e part m st = eval env root e part m st := by
  by_cases hb : fillsNoBuffer e = true
  · exact evalL_plain stdLimits env root hb part m st
  cases e <;> first | (cases he; done) | exact absurd rfl hb | skip
  all_goals rw [evalL.eq_def, eval.eq_def]
  all_goals simp only [exprAppendL_std, matchesAppendL_std, setAllL_eq, std_pathMax, std_nameMax1, strlcpyL_fin, pathsliceL_fin]
  all_goals rfl

theorem evalL_std (env : Env) (root : Msg) (e : Expr) : ∀ (part : Nat) (m : Msg) (st : St),
    evalL stdLimits env root e part m st = eval env root e part m st := fun part m st =>
  Ask.ret.inj <| (matchesAppendL_std_fun env ▸ evalL_isEvalT stdLimits env root).ext (eval_isEvalT env root) e
    (fun _ hn part m st => congrArg Ask.ret (evalL_leaf_std env root (Expr.isLeaf_of_mem_leaves hn) part m st)) part m st

theorem gennameBufL_fin (n : Nat) (name : Bytes) :
    gennameBufL (.fin n) name = if name.length ≥ n then none else some name :=
  (ite_ge_none _ _ _).symm

theorem expandTildeL_fin (n : Nat) (home r : Bytes) :
    expandTildeL (.fin n) home (126 :: r) = if home.length + r.length ≥ n then none else some (home ++ r) :=
  (ite_ge_none _ _ _).symm

theorem matchInterpolateL_std : matchInterpolateL stdLimits = matchInterpolate := by
  funext macros ml i mh msgs
  unfold matchInterpolateL matchInterpolate
  cases h : mh.ty <;> rfl

theorem matchesInterpolateL_go_std (macros : Option (List (Bytes × Bytes))) (rest : MatchList) :
    ∀ i : Nat, matchesInterpolateL.go stdLimits macros i rest = matchesInterpolate.go macros i rest := by
  induction rest with
  | nil => intro i; rfl
  | cons mh more ih =>
    intro i
    funext cur msgs
    rw [matchesInterpolateL.go, matchesInterpolate.go, matchInterpolateL_std, ih]
    rfl

theorem matchesInterpolateL_std : matchesInterpolateL stdLimits = matchesInterpolate := by
  funext env ml msgs
  exact congrFun (congrFun (matchesInterpolateL_go_std _ ml 0) ml) msgs

end Mdsort.Proofs.Limits
