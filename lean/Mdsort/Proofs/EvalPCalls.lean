import Mdsort.Proofs.EvalPEval

/-!
# Which questions a rule tree can ask, and which calls its evaluation can issue

`evalT_qs`: every question of the evaluation is of a kind the tree contains (`AllowedQ`).  Hence
`evalP_calls_of`: `fork` (with its `open("/dev/null")`, `waitpid`, `close`) only for trees with a `command`
condition, `stat` only for trees with `isdirectory` or a file-time `date`; and `evalP_asksFree`: for a tree with
none of the three, `evalP` is the pure `Model.eval` and issues no call at all.
-/

namespace Mdsort.Model
open Mdsort

theorem Ask.AllRet.toProg {α} {P : α → Prop} {t : Ask α} (ht : t.AllRet P) : Mdsort.Proofs.World.All P t.toProg := by
  induction t with
  | ret a => exact ht
  | ask q k ih => exact Mdsort.Proofs.World.All.bind_of_forall _ fun a => ih a (ht a True.intro)

end Mdsort.Model

namespace Mdsort.Proofs
open Mdsort Mdsort.Model
open Mdsort.Proofs.World (Calls All)

def hasCommand : Expr → Bool
  | .block _ e | .neg _ e | .attachment _ e | .attBlock _ e => hasCommand e
  | .and _ l r | .or _ l r | .mtch _ l r => hasCommand l || hasCommand r
  | .command .. => true
  | _ => false

def hasIsDir : Expr → Bool
  | .block _ e | .neg _ e | .attachment _ e | .attBlock _ e => hasIsDir e
  | .and _ l r | .or _ l r | .mtch _ l r => hasIsDir l || hasIsDir r
  | .stat .. => true
  | _ => false

def hasFileDate : Expr → Bool
  | .block _ e | .neg _ e | .attachment _ e | .attBlock _ e => hasFileDate e
  | .and _ l r | .or _ l r | .mtch _ l r => hasFileDate l || hasFileDate r
  | .date _ f _ _ => f != .header
  | _ => false

def confHasCommand (conf : List ConfBlock) : Bool := conf.any fun b => hasCommand b.expr

def confHasStat (conf : List ConfBlock) : Bool := conf.any fun b => hasIsDir b.expr || hasFileDate b.expr

/-- The questions the tree `e` can ask. -/
def AllowedQ (e : Expr) : Req → Prop
  | .command _ => hasCommand e = true
  | .isDir _ => hasIsDir e = true
  | .fileTime _ _ => hasFileDate e = true

theorem AllowedQ.mono {e e' : Expr} (hc : hasCommand e = true → hasCommand e' = true)
    (hd : hasIsDir e = true → hasIsDir e' = true) (hf : hasFileDate e = true → hasFileDate e' = true) (q : Req)
    (h : AllowedQ e q) : AllowedQ e' q := by
  cases q with
  | command av => exact hc h
  | isDir p => exact hd h
  | fileTime p f => exact hf h

theorem has_of_leaf (f : Expr → Bool)
    (hf : ∀ e, f e = match e with
      | .block _ a | .neg _ a | .attachment _ a | .attBlock _ a => f a
      | .and _ l r | .or _ l r | .mtch _ l r => f l || f r
      | e => f e)
    {n e : Expr} (hn : n ∈ e.leaves) (h : f n = true) : f e = true := by
  induction e with
  | block _ e ih | neg _ e ih | attachment _ e ih | attBlock _ e ih => rw [hf]; exact ih hn
  | and _ l r ihl ihr | or _ l r ihl ihr | mtch _ l r ihl ihr =>
    rw [hf]; exact Bool.or_eq_true_iff.2 ((List.mem_append.1 hn).imp ihl ihr)
  | _ => exact List.mem_singleton.1 hn ▸ h

theorem hasCommand_of_leaf {n e : Expr} (hn : n ∈ e.leaves) (h : hasCommand n = true) : hasCommand e = true :=
  has_of_leaf hasCommand (fun e => by cases e <;> rfl) hn h

theorem hasIsDir_of_leaf {n e : Expr} (hn : n ∈ e.leaves) (h : hasIsDir n = true) : hasIsDir e = true :=
  has_of_leaf hasIsDir (fun e => by cases e <;> rfl) hn h

theorem hasFileDate_of_leaf {n e : Expr} (hn : n ∈ e.leaves) (h : hasFileDate n = true) : hasFileDate e = true :=
  has_of_leaf hasFileDate (fun e => by cases e <;> rfl) hn h

theorem evalT_leaf_qs (env : Env) (root : Msg) {n : Expr} (hn : n.isLeaf = true) (part : Nat) (m : Msg) (st : St) :
    (evalT env root n part m st).Qs (AllowedQ n) := by
  rcases Expr.leaf_cases hn with ha | ⟨lno, f, cmp, age, rfl, hf⟩ | ⟨lno, path, rfl⟩ | ⟨lno, argv, rfl⟩
  · rw [evalT_leaf env root ha]; exact True.intro
  · rw [evalT_fileDate env root lno hf]
    exact ⟨bne_iff_ne.2 hf, fun _ => True.intro⟩
  · rw [evalT_stat]
    split
    · exact True.intro
    · exact ⟨rfl, fun _ => True.intro⟩
  · rw [evalT_command]
    split
    · exact True.intro
    · exact ⟨rfl, fun _ => True.intro⟩

theorem evalT_qs (env : Env) (root : Msg) (e : Expr) :
    ∀ (part : Nat) (m : Msg) (st : St), (evalT env root e part m st).Qs (AllowedQ e) :=
  (evalT_isEvalT env root).qs e fun _ hn part m st =>
    (evalT_leaf_qs env root (Expr.isLeaf_of_mem_leaves hn) part m st).mono
      (AllowedQ.mono (hasCommand_of_leaf hn) (hasIsDir_of_leaf hn) (hasFileDate_of_leaf hn))

/-- The tree contains none of the three conditions that ask the operating system. -/
def asksFree (e : Expr) : Bool := !hasCommand e && !hasIsDir e && !hasFileDate e

/-- Whatever the three oracles of `env` are: they are not consulted. -/
theorem evalT_asksFree (env : Env) (root : Msg) (e : Expr) (h : asksFree e = true)
    (part : Nat) (m : Msg) (st : St) :
    evalT (noSys env) root e part m st = .ret (eval env root e part m st) := by
  simp only [asksFree, Bool.and_eq_true, Bool.not_eq_true'] at h
  have hq : (evalT (noSys env) root e part m st).Qs fun _ => False := by
    refine (evalT_qs (noSys env) root e part m st).mono fun q hq => ?_
    cases q with
    | command av => simp only [AllowedQ, h.1.1] at hq; cases hq
    | isDir p => simp only [AllowedQ, h.1.2] at hq; cases hq
    | fileTime p f => simp only [AllowedQ, h.2] at hq; cases hq
  obtain ⟨a, ha⟩ := Ask.eq_ret_of_qs_false hq
  have := evalT_runsTo env root e part m st
  rw [ha] at this ⊢
  exact congrArg Ask.ret this

theorem evalP_asksFree (env : Env) (e : Expr) (h : asksFree e = true) (m : Msg) (fl : MFlags) :
    evalP (noSys env) e m fl = .ret (eval env m e 0 m { ml := [], flags := fl }) := by
  unfold evalP evalTop
  rw [evalT_asksFree env m e h]
  rfl

theorem calls_toProg_qs {α} {P : Req → Prop} {C : Call → Prop} {t : Ask α} (ht : t.Qs P)
    (h : ∀ q, P q → Calls C (sysCall q)) : Calls C t.toProg := by
  induction t with
  | ret a => exact True.intro
  | ask q k ih => exact Calls.bind (h q ht.1) fun a => ih a (ht.2 a)

/-- The calls the evaluation of the tree `e` can issue: those of `exec(argv, -1)` only if `e` has a `command`
condition, `stat` only if it has an `isdirectory` or a file-time `date` condition. -/
def EvalCallOf (e : Expr) (c : Call) : Prop :=
  (hasCommand e = true ∧ (c = .openPath (ofString "/dev/null") ∨ c.isFork = true ∨ c = .waitpid ∨ ∃ h, c = .close h)) ∨
  ((hasIsDir e = true ∨ hasFileDate e = true) ∧ ∃ p, c = .stat p)

theorem EvalCallOf.evalCall {e : Expr} {c : Call} (h : EvalCallOf e c) : EvalCall c := by
  rcases h with ⟨_, h | h | h | h⟩ | ⟨_, h⟩
  · exact .inl h
  · exact .inr (.inl h)
  · exact .inr (.inr (.inl h))
  · exact .inr (.inr (.inr (.inl h)))
  · exact .inr (.inr (.inr (.inr h)))

theorem evalP_calls_of (env : Env) (e : Expr) (m : Msg) (fl : MFlags) :
    Calls (EvalCallOf e) (evalP env e m fl) := by
  refine calls_toProg_qs (evalT_qs env m e 0 m _) fun q hq => ?_
  cases q with
  | command av =>
    exact Calls.bind (Calls.mono (execCall_execP _) fun c hc => .inl ⟨hq, hc⟩) fun _ => True.intro
  | isDir p => exact ⟨.inr ⟨.inl hq, p, rfl⟩, fun _ => True.intro⟩
  | fileTime p f => exact ⟨.inr ⟨.inr hq, p, rfl⟩, fun _ => True.intro⟩

theorem evalP_calls (env : Env) (e : Expr) (m : Msg) (fl : MFlags) : Calls EvalCall (evalP env e m fl) :=
  (evalP_calls_of env e m fl).mono fun _ h => h.evalCall

end Mdsort.Proofs
