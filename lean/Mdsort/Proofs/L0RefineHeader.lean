import Mdsort.Proofs.L0Message
import Mdsort.Proofs.HeaderTable

/-!
# L0 `findheader` and `message_parse_headers` refine the list model

No access leaves the buffer, and the contents are tracked: the slices `findheader` hands out (after its two in-place
NUL writes) are the key, the value and the rest of the list model on the view, the header table read back through its
`key`/`val` pointers is the list model's table, and `me_body` points at the list model's body.

What `l0r_`, `f_eq`, `f_spec` and `f_refines` mean in the `L0*` modules is said at the head of L0Basic.
-/

namespace Mdsort.L0
open Mdsort Mdsort.L0.Buf

/-- The view from `i` only depends on the bytes up to its terminator. -/
theorem Buf.view_congr {b b' : Buf} : ∀ (n : Nat) {i : Nat}, (b.view i).length = n → b.HasNul i →
    (∀ j, i ≤ j → j ≤ i + n → b'.get? j = b.get? j) → b'.view i = b.view i := by
  intro n
  induction n with
  | zero =>
    intro i hl h hag
    rcases h.cases with ⟨hg, hv⟩ | ⟨c, hc, hg, hv, hn'⟩
    · rw [hv]; exact view_nul (by rw [hag i (Nat.le_refl _) (by omega)]; exact hg)
    · rw [hv] at hl; simp at hl
  | succ n ih =>
    intro i hl h hag
    rcases h.cases with ⟨hg, hv⟩ | ⟨c, hc, hg, hv, hn'⟩
    · rw [hv] at hl; simp at hl
    · have hg' : b'.get? i = .ok c := by rw [hag i (Nat.le_refl _) (by omega)]; exact hg
      rw [view_cons hg' hc, hv]
      congr 1
      exact ih (by rw [hv] at hl; simpa using hl) hn' (fun j h1 h2 => hag j (by omega) (by omega))

/-- Writing a NUL inside a C string cuts it there. -/
theorem Buf.view_set_nul {b b' : Buf} : ∀ (n : Nat) {i : Nat}, b.set (i + n) 0 = .ok b' →
    n ≤ (b.view i).length → b.HasNul i → b'.view i = (b.view i).take n := by
  intro n
  induction n with
  | zero =>
    intro i hset _ _
    rw [view_nul (i := i) (get?_set_self hset)]; simp
  | succ n ih =>
    intro i hset hl h
    rcases h.cases with ⟨hg, hv⟩ | ⟨c, hc, hg, hv, hn'⟩
    · rw [hv] at hl; simp at hl
    · have hg' : b'.get? i = .ok c := by rw [get?_set hset, if_neg (by omega)]; exact hg
      have hset' : b.set (i + 1 + n) 0 = .ok b' := by rw [← hset]; congr 1; omega
      rw [view_cons hg' hc, hv, List.take_succ_cons, ih hset' (by rw [hv] at hl; simpa using hl) hn']

/-! What a write does to a cursor: nothing when it lies outside the string the cursor sees, and a NUL inside cuts the string. -/

namespace Buf.At
variable {b b' : Buf} {j : Nat} {s : Bytes}

theorem agree (c : b.At j s) (hag : ∀ i, j ≤ i → i ≤ j + s.length → b'.get? i = b.get? i) : b'.At j s := by
  refine ⟨⟨j + s.length, Nat.le_add_right _ _, ?_⟩, ?_⟩
  · rw [hag _ (Nat.le_add_right _ _) (Nat.le_refl _)]; exact c.view ▸ c.hasNul.get?_end
  · rw [Buf.view_congr s.length (by rw [c.view]) c.hasNul hag, c.view]

theorem set_outside (c : b.At j s) {k : Nat} {v : UInt8} (h : b.set k v = .ok b') (hk : k < j ∨ j + s.length < k) :
    b'.At j s :=
  c.agree fun i h1 h2 => by rw [get?_set h, if_neg (by omega)]

theorem set_nul (c : b.At j s) {k : Nat} (h : b.set (j + k) 0 = .ok b') (hk : k ≤ s.length) : b'.At j (s.take k) :=
  ⟨⟨j + k, Nat.le_add_right _ _, get?_set_self h⟩, by rw [Buf.view_set_nul k h (c.view ▸ hk) c.hasNul, c.view]⟩

end Buf.At

/-- The key scan stops where the list model's does: the model tests for the colon first and for white space or the terminator second,
`scan` wants the test for going on first. -/
theorem l0r_scanKey_spec (b : Buf) {i : Nat} (h : b.HasNul i) :
    scanKey b i = .ok ((Model.scanKey (b.view i)).map fun p => i + p.1.length) := by
  rw [h.scan_nz (f := scanKey b) (g := fun j x => if x == 58 then .ok (some j) else .ok none) Proofs.keyByte fun j x hg => by
    rw [scanKey_eq hg]
    -- the two orders of the tests agree for every combination of `:`, NUL and white space
    by_cases h1 : x = 58 <;> by_cases h2 : x = 0 <;> cases h3 : isspace x <;> simp [Proofs.keyByte, h1, h2, h3],
    Proofs.scanKey_eq]
  split <;> rfl

/-- The C loop (`strchr`, `nspaces`, and on after the blanks) is `scanValue_round`. -/
theorem l0r_valueEnd_spec (b : Buf) {i : Nat} (h : b.HasNul i) :
    valueEnd b i = .ok ((Model.scanValue (b.view i)).map fun p => i + p.1.length) := by
  induction h using HasNul.strong_induction with
  | step i h ih =>
    rw [valueEnd, strchr_spec h 10 (by decide), Proofs.scanValue_round]
    -- the cursor on the newline `strchr` found, and after it
    have c1 := h.at.dropWhile (· != 10)
    cases hd : (b.view i).dropWhile (· != 10) with
    | nil => rfl
    | cons x r =>
      rw [hd] at c1
      have c2 := c1.tail
      simp only
      rw [skipBlanks_spec c2.hasNul, c2.view]
      simp only [Nat.add_sub_cancel_left]
      by_cases hz : Mdsort.nspaces r = 0
      · simp [hz]
      · have c3 := c2.drop _ (nspaces_le r)
        -- the C code goes on at `i += n + 1` from the newline at `p` (the model: `p + (q - (p + 1)) + 1`); the cursor is at `p + 1 + n`
        have e : i + ((b.view i).takeWhile (· != 10)).length + Mdsort.nspaces r + 1 =
            i + ((b.view i).takeWhile (· != 10)).length + 1 + Mdsort.nspaces r := by omega
        rw [if_neg (by simpa using hz), if_neg hz, e, ih _ c3.hasNul (by omega), c3.view]
        cases Model.scanValue (r.drop (Mdsort.nspaces r)) with
        | none => rfl
        | some p =>
          simp only [Option.map_some, List.length_append, List.length_cons, List.length_take,
            Nat.min_eq_left (nspaces_le r)]
          congr 2; omega

/-- How the result of the L0 `findheader` at `&b[i]` stands for the L1 one on the view: the same case; the key slice
starts at `i` and ends at the colon, the value slice ends at the newline that ends the value; the buffer handed back
is `b` after the two NUL writes `*ks->s_end = '\0'`, `*vs->s_end = '\0'`; read as C strings (and as slices) the key
and the value are the L1 key and value, and the text after the value is the L1 rest. -/
def l0r_FindHdrRel (b : Buf) (i : Nat) : FindHdr → Model.FindHdr → Prop
  | .notHeader, .notHeader => True
  | .cutAtColon b', .cutAtColon key => b.set (i + key.length) 0 = .ok b' ∧ b'.view i = key
  | .found b' ks vs, .ok key val rest =>
    ks.beg = i ∧ ks.end_ = i + key.length ∧ ks.end_ < vs.beg ∧ vs.end_ = vs.beg + val.length ∧
    (∃ b1, b.set ks.end_ 0 = .ok b1 ∧ b1.set vs.end_ 0 = .ok b') ∧
    b'.view ks.beg = key ∧ b'.view vs.beg = val ∧ b'.HasNul (vs.end_ + 1) ∧ b'.view (vs.end_ + 1) = rest ∧
    b'.slice ks.beg ks.end_ = key ∧ b'.slice vs.beg vs.end_ = val
  | _, _ => False

/-- The case `found` of `l0r_FindHdrRel`, its conjuncts by name. -/
structure l0r_Found (b : Buf) (i : Nat) (b' : Buf) (ks vs : Slice) (key val rest : Bytes) : Prop where
  key_beg : ks.beg = i
  key_end : ks.end_ = i + key.length
  gap : ks.end_ < vs.beg
  val_end : vs.end_ = vs.beg + val.length
  writes : ∃ b1, b.set ks.end_ 0 = .ok b1 ∧ b1.set vs.end_ 0 = .ok b'
  view_key : b'.view ks.beg = key
  view_val : b'.view vs.beg = val
  rest_hasNul : b'.HasNul (vs.end_ + 1)
  view_rest : b'.view (vs.end_ + 1) = rest
  slice_key : b'.slice ks.beg ks.end_ = key
  slice_val : b'.slice vs.beg vs.end_ = val

theorem l0r_FindHdrRel.found_iff {b b' : Buf} {i : Nat} {ks vs : Slice} {key val rest : Bytes} :
    l0r_FindHdrRel b i (.found b' ks vs) (.ok key val rest) ↔ l0r_Found b i b' ks vs key val rest :=
  ⟨fun ⟨h1, h2, h3, h4, h5, h6, h7, h8, h9, h10, h11⟩ => ⟨h1, h2, h3, h4, h5, h6, h7, h8, h9, h10, h11⟩,
    fun f => ⟨f.key_beg, f.key_end, f.gap, f.val_end, f.writes, f.view_key, f.view_val, f.rest_hasNul, f.view_rest,
      f.slice_key, f.slice_val⟩⟩

theorem l0r_findHeader_refines (b : Buf) {i : Nat} (h : b.HasNul i) :
    ∃ r, findHeader b i = .ok r ∧ l0r_FindHdrRel b i r (Model.findHeader (b.view i)) := by
  unfold findHeader Model.findHeader
  rw [l0r_scanKey_spec b h]
  cases hk : Model.scanKey (b.view i) with
  | none => exact ⟨.notHeader, rfl, trivial⟩
  | some kp =>
    obtain ⟨key, ac⟩ := kp
    have c0 : b.At i (key ++ 58 :: ac) := ⟨h, Proofs.scanKey_split hk⟩
    have cc : b.At (i + key.length) (58 :: ac) := by simpa using c0.drop key.length (by simp)
    -- `*ks->s_end = '\0'`: the key is cut at the colon, the text after it is as before
    have hset := set_ok (b := b) 0 cc.hasNul.lt
    simp only [Option.map_some, hset]
    generalize (⟨b.bytes.setIfInBounds (i + key.length) 0⟩ : Buf) = b1 at hset
    have k1 : b1.At i key := by simpa using c0.set_nul hset (by simp)
    have v1 := (cc.tail.set_outside hset (.inl (by omega))).drop _ (nspaces_le ac)
    rw [skipBlanks_spec (cc.tail.set_outside hset (.inl (by omega))).hasNul,
      (cc.tail.set_outside hset (.inl (by omega))).view]
    simp only
    rw [l0r_valueEnd_spec b1 v1.hasNul, v1.view, show Model.afterColonDrop ac = ac.drop (Mdsort.nspaces ac) from rfl]
    cases hsv : Model.scanValue (ac.drop (Mdsort.nspaces ac)) with
    | none => exact ⟨.cutAtColon b1, rfl, hset, k1.view⟩
    | some vp =>
      obtain ⟨val, rest⟩ := vp
      rw [Proofs.scanValue_split hsv] at v1
      have ce : b1.At (i + key.length + 1 + Mdsort.nspaces ac + val.length) (10 :: rest) := by
        simpa using v1.drop val.length (by simp)
      -- `*vs->s_end = '\0'`: the value is cut at its newline; key and rest are as before
      have hset2 := set_ok (b := b1) 0 ce.hasNul.lt
      simp only [Option.map_some, hset2]
      generalize (⟨b1.bytes.setIfInBounds (i + key.length + 1 + Mdsort.nspaces ac + val.length) 0⟩ : Buf) = b2 at hset2
      have k2 : b2.At i key := k1.set_outside hset2 (.inr (by omega))
      have v2 : b2.At (i + key.length + 1 + Mdsort.nspaces ac) val := by simpa using v1.set_nul hset2 (by simp)
      have r2 := ce.tail.set_outside hset2 (.inl (by omega))
      exact ⟨_, rfl, l0r_FindHdrRel.found_iff.mpr
        { key_beg := rfl, key_end := rfl, gap := by simp only; omega, val_end := rfl, writes := ⟨b1, hset, hset2⟩,
          view_key := k2.view, view_val := v2.view, rest_hasNul := r2.hasNul, view_rest := r2.view,
          slice_key := k2.slice, slice_val := v2.slice }⟩

/-- What the two NUL writes leave alone. -/
theorem l0r_FindHdrRel.found_frame {b b' : Buf} {i : Nat} {ks vs : Slice} {key val rest : Bytes}
    (hrel : l0r_FindHdrRel b i (.found b' ks vs) (.ok key val rest)) :
    KeepsNuls b b' ∧ ∀ j, j < i → b'.get? j = b.get? j := by
  have f := l0r_FindHdrRel.found_iff.mp hrel
  obtain ⟨b1, hs1, hs2⟩ := f.writes
  refine ⟨(KeepsNuls.of_set hs1).trans (KeepsNuls.of_set hs2), fun j hj => ?_⟩
  have := f.key_end
  have := f.gap
  have := f.val_end
  rw [get?_set hs2, if_neg (by omega), get?_set hs1, if_neg (by omega)]

theorem l0r_FindHdrRel.post {b : Buf} {i : Nat} {r : FindHdr} {m : Model.FindHdr} (hrel : l0r_FindHdrRel b i r m) :
    r.Post b i := by
  match r, m, hrel with
  | .notHeader, .notHeader, _ => trivial
  | .cutAtColon _, .cutAtColon _, ⟨hset, _⟩ => exact KeepsNuls.of_set hset
  | .found b' ks vs, .ok key val rest, hrel =>
    have f := l0r_FindHdrRel.found_iff.mp hrel
    obtain ⟨b1, hs1, hs2⟩ := f.writes
    refine ⟨(KeepsNuls.of_set hs1).trans (KeepsNuls.of_set hs2), f.key_beg, by have := f.key_end; omega, f.gap,
      by have := f.val_end; omega, ?_, get?_set_self hs2, f.rest_hasNul⟩
    exact (KeepsNuls.of_set hs2).2 _ (get?_set_self hs1)

/-- The L1 header a table entry stands for: `key` and `val` read as C strings of `me_buf`. -/
def l0r_readHdr (b : Buf) (h : Hdr0) : Model.Hdr := { id := h.id, key := b.view h.key, val := b.view h.val }

/-- The `while (findheader(buf, &ks, &vs))` loop refines the list model's loop: the entries it appends to the table,
read back in the final buffer, are the headers the list loop appends, and `buf` ends where the list loop's rest begins.
Nothing before `buf` is written, every NUL is kept, and every entry points at C strings of the final buffer. -/
theorem l0r_parseLoop_refines (b : Buf) {buf : Nat} (h : b.HasNul buf) (hdrs : Vec Hdr0) (hin : HdrsIn b hdrs.items)
    (acc : List Model.Hdr) :
    ∃ b' hdrs' buf' news, parseLoop b buf hdrs = .ok (b', hdrs', buf') ∧
      (∀ j, j < buf → b'.get? j = b.get? j) ∧ KeepsNuls b b' ∧ b'.HasNul buf' ∧ HdrsIn b' hdrs'.items ∧
      hdrs'.items.toList = hdrs.items.toList ++ news ∧
      Model.parseLoop (b.view buf) hdrs.items.size acc = (acc ++ news.map (l0r_readHdr b'), b'.view buf') := by
  -- `findheader` writes into `b`, so each round is about another buffer: induction on the distance to the end, not along one C string
  generalize hm : b.size - buf = m
  induction m using Nat.strongRecOn generalizing b buf hdrs acc with
  | _ m ih =>
    rw [parseLoop]
    obtain ⟨r, hr, hrel⟩ := l0r_findHeader_refines b h
    rw [hr]
    generalize hf : Model.findHeader (b.view buf) = fh at hrel
    match r, fh, hrel with
    | .notHeader, .notHeader, _ =>
      refine ⟨b, hdrs, buf, [], rfl, fun _ _ => rfl, KeepsNuls.refl b, h, hin, by simp, ?_⟩
      rw [Proofs.parseLoop_notHeader _ _ _ hf]; simp
    | .cutAtColon b', .cutAtColon key, ⟨hset, hview⟩ =>
      have hk := KeepsNuls.of_set hset
      refine ⟨b', hdrs, buf, [], rfl, fun j hj => by rw [get?_set hset, if_neg (by omega)], hk, hk.hasNul h,
        hin.keeps hk, by simp, ?_⟩
      rw [Proofs.parseLoop_cut _ _ _ _ hf, hview]; simp
    | .found bf ks vs, .ok key val rest, hrel =>
      obtain ⟨hkn, hframe⟩ := hrel.found_frame
      have f := l0r_FindHdrRel.found_iff.mp hrel
      have hkb := f.key_beg
      have hke := f.key_end
      have hkv := f.gap
      have hve := f.val_end
      have hnr := f.rest_hasNul
      simp only
      obtain ⟨v1, p, hc, hsz1, -, -, hstore⟩ := Vec.calloc_store hdrs (default : Hdr0)
      rw [hc]
      simp only
      rw [hstore, hsz1]
      simp only
      have hlt := h.lt
      have hsz := hkn.1
      have hnrlt := hnr.lt
      have hin' : HdrsIn bf (hdrs.items.push { id := hdrs.items.size + 1, key := ks.beg, val := vs.beg }) := by
        intro x hx
        rcases Array.mem_push.mp hx with hx | rfl
        · exact hin.keeps hkn x hx
        · exact ⟨hkb ▸ hkn.hasNul h, hnr.mono (by simp only; omega)⟩
      obtain ⟨b'', hd, bf', news', hrec, hfr2, hkn2, hn2, hin2, hit2, hL1⟩ := ih (bf.size - (vs.end_ + 1)) (by omega) bf hnr
        { v1 with items := hdrs.items.push { id := hdrs.items.size + 1, key := ks.beg, val := vs.beg } } hin'
        (acc ++ [{ id := hdrs.items.size + 1, key := key, val := val }]) rfl
      refine ⟨b'', hd, bf', { id := hdrs.items.size + 1, key := ks.beg, val := vs.beg } :: news', hrec,
        fun j hj => by rw [hfr2 j (by omega), hframe j hj], hkn.trans hkn2, hn2, hin2, by rw [hit2]; simp, ?_⟩
      rw [Proofs.parseLoop_ok _ _ _ _ _ _ hf]
      simp only [Array.size_push] at hL1
      rw [f.view_rest] at hL1
      rw [hL1]
      have hkey := (At.mk (hkb ▸ hkn.hasNul h) f.view_key).agree (b' := b'') fun j _ h2 => hfr2 j (by omega)
      have hval := (At.mk (hnr.mono (by omega)) f.view_val).agree (b' := b'') fun j _ h2 => hfr2 j (by omega)
      simp [l0r_readHdr, hkey.view, hval.view]

/-- `message_parse_headers` before `VECTOR_SORT`: the table in file order read back is the list loop's table, and
`me_body` points at the list model's body. -/
theorem l0r_parseHeaders_refines (b : Buf) (ht : b.Terminated) :
    ∃ b' hdrs body, parseHeaders b = .ok (b', hdrs, body) ∧ b'.Terminated ∧ b'.size = b.size ∧ b'.HasNul body ∧
      HdrsIn b' hdrs.items ∧
      hdrs.items.toList.map (l0r_readHdr b') = (Model.parseLoop (Model.skipSeparator (b.view 0)) 0 []).1 ∧
      b'.view body = (Model.parseHeaders (b.view 0)).body := by
  unfold parseHeaders
  obtain ⟨j, hj, _, hnj, hvj⟩ := skipSeparator_refines b ht.hasNul0
  rw [hj]
  simp only
  obtain ⟨b', hdrs, buf', news, hl, _, hk, hn, hin, hit, hL1⟩ := l0r_parseLoop_refines b hnj Vec.init
    (by intro x hx; simp [Vec.init] at hx) []
  rw [hl]
  simp only
  rw [skipNewlines_spec hn]
  have cb := hn.at.dropWhile (· == 10)
  have hsz0 : (Vec.init : Vec Hdr0).items.size = 0 := rfl
  rw [hsz0, hvj] at hL1
  refine ⟨b', hdrs, _, rfl, hk.terminated ht, hk.1, cb.hasNul, hin, ?_, ?_⟩
  · rw [hL1, hit]; simp [Vec.init]
  · rw [cb.view]
    unfold Model.parseHeaders
    rw [hL1]

theorem readKeys_spec (b : Buf) : ∀ (l : List Hdr0), (∀ h ∈ l, b.HasNul h.key) →
    readKeys b l = .ok (l.map fun h => (b.view h.key, h)) := by
  intro l
  induction l with
  | nil => intro _; rfl
  | cons h r ih =>
    intro hin
    rw [readKeys, readCStr_spec (hin h (by simp)), ih (fun x hx => hin x (by simp [hx]))]
    simp

theorem l0r_sortHeaders_refines (b : Buf) (hs : Array Hdr0) (hin : HdrsIn b hs) :
    ∃ r, sortHeaders b hs = .ok r ∧ HdrsIn b r ∧
      r.toList.map (l0r_readHdr b) = Model.sortByKey (hs.toList.map (l0r_readHdr b)) := by
  unfold sortHeaders
  rw [readKeys_spec b hs.toList (fun h hh => (hin h (Array.mem_def.mpr hh)).1)]
  refine ⟨_, rfl, fun x hx => ?_, ?_⟩
  · -- the table is permuted
    obtain ⟨y, hy, rfl⟩ := List.mem_map.mp (Array.mem_def.mp hx)
    obtain ⟨h, hh, rfl⟩ := List.mem_map.mp ((List.mergeSort_perm _ _).mem_iff.mp hy)
    exact hin h (Array.mem_def.mpr hh)
  simp only [List.map_map]
  unfold Model.sortByKey
  rw [List.map_mergeSort (s := Model.keyLe)]
  · simp only [List.map_map]
    rfl
  · intro x hx y hy
    obtain ⟨hx', _, rfl⟩ := List.mem_map.mp hx
    obtain ⟨hy', _, rfl⟩ := List.mem_map.mp hy
    rfl

theorem l0r_messageParseHeaders_refines (b : Buf) (ht : b.Terminated) :
    ∃ b' hs body, messageParseHeaders b = .ok (b', hs, body) ∧ b'.HasNul body ∧ HdrsIn b' hs ∧
      Model.parseHeaders (b.view 0) = { headers := hs.toList.map (l0r_readHdr b'), body := b'.view body } := by
  unfold messageParseHeaders
  obtain ⟨b', hdrs, body, hp, -, -, hnb, hin, hread, hbody⟩ := l0r_parseHeaders_refines b ht
  rw [hp]
  simp only
  obtain ⟨r, hr, hin', hsorted⟩ := l0r_sortHeaders_refines b' hdrs.items hin
  rw [hr]
  refine ⟨b', r, body, rfl, hnb, hin', ?_⟩
  rw [hsorted, hread, hbody]
  unfold Model.parseHeaders
  rfl

end Mdsort.L0
