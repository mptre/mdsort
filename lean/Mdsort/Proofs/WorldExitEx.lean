import Mdsort.Proofs.WorldExitTop
import Mdsort.Proofs.WorldWholeEx

/-!
# Non-vacuity of the whole-run exit-0 theorem: `maildir "/m" { match all move "/y" }` on the two-message example
-/

namespace Mdsort.Proofs
open Mdsort Mdsort.Model

/-- `match all move "/y"` -/
def exit0_exExpr : Expr := .mtch 1 (.all 1) (.move 1 [47, 121])

def exit0_exConf : List ConfBlock := [{ paths := [[47, 109]], expr := exit0_exExpr }]

theorem exit0_ex_dirs : exit0_dirsOf exit0_exConf = [(exNew, exit0_exExpr), (exCur, exit0_exExpr)] := by
  have hsp : isStdinPath [47, 109] = false := by decide +kernel
  simp [exit0_dirsOf, exit0_pathDirs, exit0_exConf, hsp, exNew, exCur, subdirName]

theorem exit0_ex_nd : ∀ b ∈ exit0_exConf, WholeNoDiscard exEnv wholeExOrc b.expr := by
  intro b hb
  simp only [exit0_exConf, List.mem_singleton] at hb
  subst hb
  exact whole_noDiscard_of_syntax _ _ _ (by decide)

/-- Both messages are sent to `/y/new`, which is not configured. -/
theorem exit0_ex_good : exit0_Good ⟨exEnv, wholeExOrc, exit0_dirsOf exit0_exConf, wholeExFiles, wholeExWorld⟩ := by
  rw [exit0_ex_dirs]
  refine exit0_good_of_outside (by decide) (by decide) (by decide) ?_
  intro D e n c hmem hc
  have hx := exit0_get_mem hc
  simp only [wholeExFiles, List.mem_cons, List.not_mem_nil, or_false, Prod.mk.injEq] at hx hmem
  right
  rcases hx with ⟨rfl, rfl, rfl⟩ | ⟨rfl, rfl, rfl⟩
  · rcases hmem with ⟨_, rfl⟩ | ⟨h, _⟩
    · simp only [exit0_dest, verdict, msVerdict, exit0_exExpr, eval]
      decide +kernel
    · exact absurd h (by decide)
  · rcases hmem with ⟨_, rfl⟩ | ⟨h, _⟩
    · simp only [exit0_dest, verdict, msVerdict, exit0_exExpr, eval]
      decide +kernel
    · exact absurd h (by decide)

end Mdsort.Proofs
