import Mdsort.Proofs.EvalEq
import Mdsort.Proofs.Dest

/-!
# C09: the destination theorem on `Model.eval` itself

`finalPlace` folds `matchesAppend` over the entries of the actions.  This file shows that this is what
`eval` does with the expression the grammar builds from the action list of a rule (move / flag / flags
nodes joined by `and`, `expractions` in parse.y), so that the destination theorem can be stated for
`eval` directly.
-/

namespace Mdsort.Proofs.Dest
open Mdsort Mdsort.Model Mdsort.Spec

/-- An expression made of move / flag / flags nodes joined by `and` nodes, and its actions with their line
numbers in evaluation order.  The side conditions are those under which `expr_eval_move`,
`expr_eval_flag`, `expr_eval_flags` do not fail before `matches_append`: the path fits `PATH_MAX`, the
subdirectory `NAME_MAX + 1`, and all flags are letters. -/
inductive ActionChain : Expr → List (Nat × PathAction) → Prop
  | move (lno : Nat) (p : Bytes) : p.length < PATH_MAX → ActionChain (.move lno p) [(lno, .move p)]
  | flag (lno : Nat) (sd : Bytes) : sd.length < NAME_MAX1 → ActionChain (.flag lno sd) [(lno, .flag sd)]
  | flags (lno : Nat) (fl : Bytes) : fl.all isalpha = true → ActionChain (.flags lno fl) [(lno, .flags fl)]
  | and (lno : Nat) (l r : Expr) (ls1 ls2 : List (Nat × PathAction)) :
      ActionChain l ls1 → ActionChain r ls2 → ActionChain (.and lno l r) (ls1 ++ ls2)

theorem ActionChain.ne_nil {c : Expr} {ls : List (Nat × PathAction)} (h : ActionChain c ls) : ls ≠ [] := by
  induction h with
  | move => exact List.cons_ne_nil _ _
  | flag => exact List.cons_ne_nil _ _
  | flags => exact List.cons_ne_nil _ _
  | and lno l r ls1 ls2 _ _ ih1 _ =>
    intro h
    exact ih1 (List.append_eq_nil_iff.1 h).1

theorem appendAll_append (env : Env) (a b : List Match) : ∀ ml : MatchList,
    appendAll env ml (a ++ b) = (appendAll env ml a).bind fun ml' => appendAll env ml' b := by
  induction a with
  | nil => intro ml; rfl
  | cons x r ih =>
    intro ml
    rw [List.cons_append, appendAll_cons, appendAll_cons]
    rcases matchesAppend env ml x with ⟨ml1, f⟩
    cases f
    · exact ih ml1
    · rfl

theorem appendAll_single {env : Env} {ml ml' : MatchList} {mh : Match} (h : appendAll env ml [mh] = some ml') :
    matchesAppend env ml mh = (ml', false) := by
  rw [appendAll_cons] at h
  rcases hm : matchesAppend env ml mh with ⟨ml1, f⟩
  rw [hm] at h
  cases f
  · cases h
    rfl
  · cases h

theorem setAll_ok : ∀ (cs : Bytes) (mf : MFlags), cs.all isalpha = true → (eval.setAll cs mf false).2 = false := by
  intro cs
  induction cs with
  | nil => intro mf _; rfl
  | cons c r ih =>
    intro mf h
    simp only [List.all_cons, Bool.and_eq_true] at h
    unfold eval.setAll flagsSet
    by_cases h1 : isupper c = true
    · simp only [h1, if_true]; exact ih _ h.2
    · by_cases h2 : islower c = true
      · simp only [h1, h2, if_true, if_false, Bool.false_eq_true]; exact ih _ h.2
      · have := h.1
        simp [isalpha, h1, h2] at this

theorem exprAppend_ok {env : Env} {mh : Match} {st : St} {ml' : MatchList}
    (h : appendAll env st.ml [mh] = some ml') : exprAppend env mh st .match = (.match, { st with ml := ml' }) := by
  unfold exprAppend
  rw [appendAll_single h]
  rfl

theorem eval_chain (env : Env) (root : Msg) {c : Expr} {ls : List (Nat × PathAction)} (h : ActionChain c ls) :
    ∀ (part : Nat) (m : Msg) (st : St) (ml' : MatchList), appendAll env st.ml (entries part ls) = some ml' →
      ∃ fl, eval env root c part m st = (.match, { ml := ml', flags := fl }) := by
  induction h with
  | move lno p hp =>
    intro part m st ml' happ
    rw [eval, show strlcpyFits PATH_MAX p = some p from if_neg (by omega)]
    exact ⟨st.flags, exprAppend_ok happ⟩
  | flag lno sd hsd =>
    intro part m st ml' happ
    rw [eval, show strlcpyFits NAME_MAX1 sd = some sd from if_neg (by omega)]
    exact ⟨st.flags, exprAppend_ok happ⟩
  | flags lno fl hfl =>
    intro part m st ml' happ
    have herr := setAll_ok fl st.flags hfl
    rw [eval]
    rcases hs : eval.setAll fl st.flags false with ⟨mf, err⟩
    rw [hs] at herr
    cases herr
    exact ⟨mf, exprAppend_ok (st := { st with flags := mf }) happ⟩
  | and lno l r ls1 ls2 _ _ ih1 ih2 =>
    intro part m st ml' happ
    have happ' : appendAll env st.ml (entries part ls1 ++ entries part ls2) = some ml' := by
      unfold entries at happ ⊢
      rw [← List.map_append]; exact happ
    rw [appendAll_append] at happ'
    cases h1 : appendAll env st.ml (entries part ls1) with
    | none => rw [h1] at happ'; cases happ'
    | some ml1 =>
      rw [h1] at happ'
      obtain ⟨fl1, he1⟩ := ih1 part m st ml1 h1
      obtain ⟨fl2, he2⟩ := ih2 part m { ml := ml1, flags := fl1 } ml' happ'
      refine ⟨fl2, ?_⟩
      rw [eval]
      rw [he1]
      exact he2

/-- The statement of `C09_destination_eval`. -/
theorem eval_chain_dest (env : Env) (rootMsg m : Msg) (st : St) (part : Nat) (c : Expr)
    (ls : List (Nat × PathAction)) (hc : ActionChain c ls) (root sub name : Bytes)
    (hpath : env.path = root ++ [47] ++ sub ++ [47] ++ name)
    (hroot : root ≠ []) (hsub : (47 : UInt8) ∉ sub) (hname : (47 : UInt8) ∉ name)
    (hsubl : sub.length < NAME_MAX1)
    (hwf : actionsWF (ls.map (·.2)) = true) (hfit : destFits PATH_MAX (root, sub) (ls.map (·.2)) = true)
    (hst : ∀ e ∈ st.ml, e.moves = false) (hok : destOK (ls.map (·.2)) = true) :
    ∃ st', eval env rootMsg c part m st = (.match, st') ∧
      lastPath st'.ml = some (destPath (root, sub) (ls.map (·.2))) := by
  obtain ⟨ml', h1, h2⟩ := appendAll_labelled_of_ctx (Ctx.of_path hpath hroot hsub hname hsubl hfit) st.ml part ls hc.ne_nil hwf hfit hst hok
  obtain ⟨fl, he⟩ := eval_chain env rootMsg hc part m st ml' h1
  exact ⟨_, he, h2⟩

end Mdsort.Proofs.Dest
