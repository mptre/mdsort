import Mdsort.Proofs.LimitsSimScripts
import Mdsort.Proofs.LimitsLoop

/-!
# The whole run under two sets of limits

The main loop is a sequence of *units of work*: opening a configured maildir, spooling standard input, one message,
the step from `new` to `cur`, and glue that fills no buffer (`readdir`, closing a maildir, removing the spool, opening and
closing the configuration file).  `PSim` says that the run under `L` and the run under `L'` are built from the same
units in the same way; every unit under `L` runs in lock step with the unit under `L'` from whatever state it starts in,
until it overflows, releases and returns its error value (`IsUnit.sim`), after which the loop goes on to the NEXT unit
and the run ends with the error flag set.
-/

namespace Mdsort.Proofs.Limits
open Mdsort Mdsort.Model Mdsort.Proofs.World

/-- The units of work of the main loop, as families of programs over the limits, each with its error values. -/
inductive IsUnit (env : PEnv) (orc : EvalOracles) : {β : Type} → (Limits → Prog β) → (β → Prop) → Prop
  | message (expr : Expr) (md : Maildir) (name : Bytes) (st : MainSt) :
      IsUnit env orc (fun L => processMessageL L env orc expr md name st) (fun r => r.1.error = true)
  | next (md : Maildir) : IsUnit env orc (fun L => nextSubdirL L md) (fun r => r.2 = true)
  | openMaildir (p : Bytes) : IsUnit env orc (fun L => openMaildirL L p) (fun r => r = none)
  | spool (input : Bytes) : IsUnit env orc (fun L => maildirStdinL L env input) (fun r => r.2.1 = true)
  -- a program that does not depend on the limits, with no error value: why `PSim` needs no `call` constructor
  | fixed {β : Type} (p : Prog β) : IsUnit env orc (fun _ => p) (fun _ => False)

theorem IsUnit.sim {env : PEnv} {orc : EvalOracles} {L L' : Limits} (hle : L ≤ L') (hs : Sane L) {β : Type}
    {F : Limits → Prog β} {E : β → Prop} (h : IsUnit env orc F E) : Sim (RelErr E) (F L) (F L') := by
  cases h with
  | message expr md name st => exact processMessageL_sim hle hs env orc expr md name st
  | next md => exact nextSubdirL_sim hle md
  | openMaildir p => exact openMaildirL_sim hle p
  | spool input => exact maildirStdinL_sim hle env input
  | fixed p => exact Sim.refl p

/-- The two runs are built from the same units in the same way; after a unit that returned an error value the rest of
the run ends in `Err`. -/
inductive PSim (env : PEnv) (orc : EvalOracles) (L L' : Limits) : {α : Type} → (α → Prop) → Prog α → Prog α → Prop
  | ret {α : Type} {Err : α → Prop} (a : α) : PSim env orc L L' Err (.ret a) (.ret a)
  | unit {α β : Type} {Err : α → Prop} (F : Limits → Prog β) (E : β → Prop) (k k' : β → Prog α) :
      IsUnit env orc F E → (∀ b, PSim env orc L L' Err (k b) (k' b)) → (∀ b, E b → All Err (k b)) →
      PSim env orc L L' Err ((F L).bind k) ((F L').bind k')

variable {env : PEnv} {orc : EvalOracles} {L L' : Limits}

theorem PSim.refl {α : Type} {Err : α → Prop} (p : Prog α) : PSim env orc L L' Err p p := by
  have : p = ((fun _ : Limits => p) L).bind Prog.ret := by
    simp only
    induction p with
    | ret a => rfl
    | call c k ih => simp only [Prog.bind]; congr 1; funext r; exact ih r
  have h := PSim.unit (env := env) (orc := orc) (L := L) (L' := L') (Err := Err) (fun _ => p) (fun _ => False) Prog.ret Prog.ret
    (IsUnit.fixed p) (fun b => PSim.ret b) (fun _ hb => hb.elim)
  simp only at h this
  rw [← this] at h
  exact h

theorem PSim.bind {α γ : Type} {Err : α → Prop} {Err' : γ → Prop} {p q : Prog α} {f g : α → Prog γ}
    (h : PSim env orc L L' Err p q) (hf : ∀ a, PSim env orc L L' Err' (f a) (g a)) (he : ∀ a, Err a → All Err' (f a)) :
    PSim env orc L L' Err' (p.bind f) (q.bind g) := by
  induction h with
  | ret a => exact hf a
  | unit F E k k' hu _ hk ih =>
    rw [bind_assoc, bind_assoc]
    exact PSim.unit F E _ _ hu (fun b => ih b he) fun b hb => All.bind ((hk b hb).mono he)

theorem PSim.ofUnit {α β : Type} {Err : α → Prop} {F : Limits → Prog β} {E : β → Prop} (hu : IsUnit env orc F E)
    {k k' : β → Prog α} (hk : ∀ b, PSim env orc L L' Err (k b) (k' b)) (he : ∀ b, E b → All Err (k b)) :
    PSim env orc L L' Err ((F L).bind k) ((F L').bind k') := PSim.unit F E k k' hu hk he

theorem PSim.call {α : Type} {Err : α → Prop} (c : Call) {k k' : Res → Prog α} (hk : ∀ r, PSim env orc L L' Err (k r) (k' r)) :
    PSim env orc L L' Err (.call c k) (.call c k') :=
  PSim.unit (fun _ => Model.call c) (fun _ => False) k k' (IsUnit.fixed _) hk fun _ hb => hb.elim

theorem PSim.bind_same {α β : Type} {Err : α → Prop} (p : Prog β) {k k' : β → Prog α} (hk : ∀ b, PSim env orc L L' Err (k b) (k' b)) :
    PSim env orc L L' Err (p.bind k) (p.bind k') :=
  PSim.unit (fun _ => p) (fun _ => False) k k' (IsUnit.fixed _) hk fun _ hb => hb.elim

/-- What the run under the smaller limits looks like from its first overflow on: the unit that overflowed only gives
back descriptors (`rel`), then the loop goes on with the next unit (`k`; by `PSim` that is again a run built from units),
and whatever happens from there the run ends in `Err`. -/
def Stopped {α : Type} (Err : α → Prop) (p : Prog α) : Prop :=
  ∃ (β : Type) (rel : Prog β) (k : β → Prog α), p = rel.bind k ∧ Calls Rel rel ∧ All (fun b => All Err (k b)) rel

theorem PSim.sim (hle : L ≤ L') (hs : Sane L) {α : Type} {Err : α → Prop} {p q : Prog α} (h : PSim env orc L L' Err p q) :
    Sim (Stopped Err) p q := by
  induction h with
  | ret a => exact Sim.ret a
  | unit F E k k' hu hk he ih =>
    refine (hu.sim hle hs).bind ih ?_
    intro p' hp'
    exact ⟨_, p', k, rfl, hp'.1, hp'.2.mono he⟩

/-! `*_sticky` here: the error flag of `main`, once set, stays set.  (The "sticky" of `LimitsSticky` is something else, the
failure of one entry of a match list.) -/

theorem processMessageL_sticky (L : Limits) (env : PEnv) (orc : EvalOracles) (expr : Expr) (md : Maildir) (name : Bytes) (st : MainSt)
    (h : st.error = true) : All (fun r => r.1.error = true) (processMessageL L env orc expr md name st) := by
  unfold processMessageL
  simp only [bind_eq, pure_eq]
  -- every exit returns `st` with the flag set (`rfl`), `st` with other fields changed (`h`), or `error := st.error || e`
  split
  -- no directory handle
  · exact h
  split
  -- no such file
  · exact rfl
  refine All.bind_of_forall _ fun pm => ?_
  split
  -- `message_parse` failed
  · exact rfl
  refine All.bind_of_forall _ fun ev => ?_
  split
  -- the verdict of the evaluation: error, no match, match
  · exact All.bind_of_forall _ fun _ => rfl
  · exact All.bind_of_forall _ fun _ => h
  split
  -- interpolation failed
  · exact All.bind_of_forall _ fun _ => rfl
  split
  -- dry run; `matches_exec`
  · exact All.bind_of_forall _ fun _ => h
  · exact All.bind_of_forall _ fun (xs, e) => All.bind_of_forall _ fun _ => All.ret_intro (by simp [h])

theorem walkL_sticky (L : Limits) (env : PEnv) (orc : EvalOracles) (expr : Expr) (fuel : Nat) :
    ∀ (md : Maildir) (st : MainSt), st.error = true → All (fun r => r.1.error = true) (walkL L env orc expr fuel md st) :=
  walkL_inv kept_error expr (processMessageL_sticky L env orc expr) fuel

theorem pathsL_sticky (L : Limits) (env : PEnv) (orc : EvalOracles) (input : Bytes) (b : ConfBlock) (ps : List Bytes) :
    ∀ st : MainSt, st.error = true → All (fun r => r.error = true) (pathsL L env orc input b ps st) :=
  pathsL_inv kept_error input b (processMessageL_sticky L env orc b.expr) ps

theorem blocksL_sticky (L : Limits) (env : PEnv) (orc : EvalOracles) (input : Bytes) (bs : List ConfBlock) :
    ∀ st : MainSt, st.error = true → All (fun r => r.error = true) (blocksL L env orc input bs st) :=
  blocksL_inv kept_error input (processMessageL_sticky L env orc) bs

theorem walkL_psim (env : PEnv) (orc : EvalOracles) (L L' : Limits) (expr : Expr) (fuel : Nat) :
    ∀ (md : Maildir) (st : MainSt),
      PSim env orc L L' (fun r : MainSt × Maildir => r.1.error = true) (walkL L env orc expr fuel md st) (walkL L' env orc expr fuel md st) := by
  induction fuel with
  | zero => intro md st; exact PSim.ret _
  | succ n ih =>
    intro md st
    simp only [walkL, bind_eq, pure_eq, call_bind]
    split
    · exact PSim.ret _
    · apply PSim.call
      intro r
      split
      · split
        · exact ih _ _
        · exact PSim.ofUnit (IsUnit.message expr md _ st) (fun b => ih _ _) fun b hb => walkL_sticky L env orc expr n _ _ hb
      · split
        · exact PSim.ret _
        · split
          · exact PSim.ret _
          · refine PSim.ofUnit (IsUnit.next md) (fun b => ?_) fun b hb => ?_
            · split
              · exact PSim.ret _
              · exact ih _ _
            · simp only [hb, if_true]
              exact rfl
      · exact PSim.ret _

theorem pathsL_psim (env : PEnv) (orc : EvalOracles) (L L' : Limits) (input : Bytes) (b : ConfBlock) (ps : List Bytes) :
    ∀ st : MainSt, PSim env orc L L' (fun r : MainSt => r.error = true) (pathsL L env orc input b ps st) (pathsL L' env orc input b ps st) := by
  induction ps with
  | nil => intro st; exact PSim.ret _
  | cons p more ih =>
    intro st
    simp only [pathsL, bind_eq]
    split
    · exact ih _
    · split
      · refine PSim.ofUnit (IsUnit.spool input) (fun x => ?_) fun x hx => ?_
        · split
          · exact PSim.bind_same _ fun _ => ih _
          · refine PSim.bind (walkL_psim env orc L L' b.expr _ _ _) (fun r => PSim.bind_same _ fun _ => ih _) fun r hr => ?_
            exact All.bind_of_forall _ fun _ => pathsL_sticky L env orc input b more _ hr
        · simp only [hx, if_true]
          exact All.bind_of_forall _ fun _ => pathsL_sticky L env orc input b more _ rfl
      · refine PSim.ofUnit (IsUnit.openMaildir p) (fun o => ?_) fun o ho => ?_
        · split
          · exact ih _
          · refine PSim.bind (walkL_psim env orc L L' b.expr _ _ _) (fun r => PSim.bind_same _ fun _ => ih _) fun r hr => ?_
            exact All.bind_of_forall _ fun _ => pathsL_sticky L env orc input b more _ hr
        · subst ho
          exact pathsL_sticky L env orc input b more _ rfl

theorem blocksL_psim (env : PEnv) (orc : EvalOracles) (L L' : Limits) (input : Bytes) (bs : List ConfBlock) :
    ∀ st : MainSt, PSim env orc L L' (fun r : MainSt => r.error = true) (blocksL L env orc input bs st) (blocksL L' env orc input bs st) := by
  induction bs with
  | nil => intro st; exact PSim.ret _
  | cons b rest ih =>
    intro st
    simp only [blocksL, bind_eq]
    exact PSim.bind (pathsL_psim env orc L L' input b b.paths st) (fun r => ih r) fun r hr => blocksL_sticky L env orc input rest r hr

/-- What "the run reports an error" means for `main`: the error flag is set and the exit status is not 0.  (Inside this namespace
it hides `Proofs.MainErr` of `WorldFrameMain`, the CAUSES of the error flag.) -/
def MainErr (r : Nat × MainSt) : Prop := r.2.error = true ∧ r.1 ≠ 0

theorem exitStatus_ne_zero (env : PEnv) (st : MainSt) (h : st.error = true) : exitStatus env st ≠ 0 := by
  unfold exitStatus
  simp only [h, if_true]
  split <;> decide

theorem mainPL_psim (env : PEnv) (orc : EvalOracles) (L L' : Limits) (confOk : Bool) (conf : List ConfBlock) (files : Files) (input : Bytes) :
    PSim env orc L L' MainErr (mainPL L env orc confOk conf files input) (mainPL L' env orc confOk conf files input) := by
  unfold mainPL
  simp only [bind_eq, pure_eq, call_bind]
  apply PSim.call
  intro r
  split
  · apply PSim.call
    intro _
    split
    · exact PSim.ret _
    · split
      · exact PSim.ret _
      · refine PSim.bind (blocksL_psim env orc L L' input conf _) (fun st => PSim.ret _) fun st hst => ?_
        exact ⟨hst, exitStatus_ne_zero env st hst⟩
  · exact PSim.ret _

end Mdsort.Proofs.Limits
