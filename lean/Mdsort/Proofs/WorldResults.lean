import Mdsort.Spec.ExecSeq
import Mdsort.Proofs.WorldHoare

/-! What one call can return: as a result that is `Spec.Possible` in the abstract file system (`possible_*`); as the predicted
result, by cases on the world, with the world after it (`Parties.unlinkat_state`, `renameat_state`, `openExcl_state`); through
"predicted or a failure", which is what a fault plan gives (`X_cases`, `X_results`); and what the walks of the scripts use of
any of them (`Sane`).  Namespaces: `possible_*` in `ExecSeq`, beside `wpo` whose rules use them; the table by cases on the world
in `Parties`, whose steps are predicted results; the rest in `World`. -/

namespace Mdsort.Proofs.ExecSeq
open Mdsort Mdsort.Model Mdsort.Spec Mdsort.Proofs.World

/-- Calls whose result is `.ok` or `.err` (everything except `readdir`, `mkdtemp` and the three
calls that release a handle whatever they return). -/
def Call.plain : Call → Bool
  | .readdir _ | .mkdtemp _ | .closedir _ | .close _ | .fclose _ => false
  | _ => true

theorem possible_plain {w : World} {c : Call} {r : Res} (hp : Possible w c r) (hc : Call.plain c = true) :
    (∃ v, r = .ok v) ∨ ∃ e, r = .err e := by
  have h := hp.1
  cases r with
  | ok v => exact .inl ⟨v, rfl⟩
  | err e => exact .inr ⟨e, rfl⟩
  -- `applyOk` has an arm for a name or the end of a directory only at calls that are not plain: elsewhere it is `none` by computation
  | _ => cases c <;> first | (cases hc; done) | (cases h; done)

theorem possible_handle {w : World} {c : Call} {r : Res} (hp : Possible w c r) (hc : createsHandle c = true)
    (hpl : Call.plain c = true) : r = .ok w.handles.length ∨ ∃ e, r = .err e := by
  rcases possible_plain hp hpl with ⟨v, rfl⟩ | h
  · exact .inl (by rw [hp.2 hc])
  · exact .inr h

theorem possible_write {w : World} {fd : Handle} {data : Bytes} {r : Res} (hp : Possible w (.write fd data) r) :
    (∃ n, r = .ok n ∧ 0 < n ∧ n ≤ data.length) ∨ ∃ e, r = .err e := by
  rcases possible_plain hp rfl with ⟨v, rfl⟩ | h
  · left
    refine ⟨v, rfl, ?_⟩
    have h := hp.1
    simp only [applyOk] at h
    split at h
    · simp at h
    · rename_i hn
      simp only [Bool.or_eq_true, beq_iff_eq, decide_eq_true_eq, not_or, Nat.not_lt] at hn
      omega
  · exact .inr h

theorem possible_fprintf {w : World} {fd : Handle} {data : Bytes} {r : Res} (hp : Possible w (.fprintf fd data) r) :
    r = .ok data.length ∨ ∃ e, r = .err e := by
  rcases possible_plain hp rfl with ⟨v, rfl⟩ | h
  · left
    have h := hp.1
    simp only [applyOk] at h
    split at h
    · simp at h
    · rename_i hn
      simp only [bne_iff_ne, ne_eq, Classical.not_not] at hn
      rw [hn]
  · exact .inr h

theorem possible_openExcl {w : World} {d : Handle} {n : Bytes} {r : Res} (hp : Possible w (.openExcl d n) r) :
    (∃ e, r = .err e) ∨ (r = .ok w.handles.length ∧ ∃ p, w.dirPath d = some p ∧ w.lookup p n = none) := by
  rcases possible_handle hp rfl rfl with rfl | h
  · right
    refine ⟨rfl, ?_⟩
    have h := hp.1
    simp only [applyOk] at h
    cases hd : w.dirPath d with
    | none => simp [hd] at h
    | some p =>
      refine ⟨p, rfl, ?_⟩
      cases hl : w.lookup p n with
      | none => rfl
      | some x => simp [hd, hl] at h
  · exact .inl h

theorem possible_opendir {w : World} {p : Bytes} {r : Res} (hp : Possible w (.opendir p) r) :
    (∃ e, r = .err e) ∨ (r = .ok w.handles.length ∧ (w.dir p).isSome) := by
  rcases possible_handle hp rfl rfl with rfl | h
  · right
    refine ⟨rfl, ?_⟩
    have h := hp.1
    simp only [applyOk, Option.isSome_map] at h
    exact h
  · exact .inl h

theorem possible_unlinkat {w : World} {d : Handle} {n : Bytes} {r : Res} (hp : Possible w (.unlinkat d n) r) :
    (∃ e, r = .err e) ∨ ∃ v p x, r = .ok v ∧ w.dirPath d = some p ∧ w.lookup p n = some x ∧
      core w (.unlinkat d n) (.ok v) = w.unbind p n := by
  rcases possible_plain hp rfl with ⟨v, rfl⟩ | h
  · right
    have h := hp.1
    simp only [applyOk] at h
    cases hd : w.dirPath d with
    | none => simp [hd] at h
    | some p =>
      cases hl : w.lookup p n with
      | none => simp [hd, hl] at h
      | some x => exact ⟨v, p, x, rfl, rfl, hl, core_unlinkat_ok hd hl v⟩
  · exact .inl h

theorem possible_openRd {w : World} {d : Handle} {n : Bytes} {r : Res} (hp : Possible w (.openRd d n) r) :
    (∃ e, r = .err e) ∨ ∃ p fid, r = .ok w.handles.length ∧ w.dirPath d = some p ∧ w.lookup p n = some fid ∧
      core w (.openRd d n) (.ok w.handles.length) = (w.newHandle (.file fid 0 false)).1 := by
  rcases possible_handle hp rfl rfl with rfl | h
  · right
    have h := hp.1
    simp only [applyOk] at h
    cases hd : w.dirPath d with
    | none => simp [hd] at h
    | some p =>
      cases hl : w.lookup p n with
      | none => simp [hd, hl] at h
      | some x => exact ⟨p, x, rfl, rfl, hl, core_openRd_ok hd hl _⟩
  · exact .inl h

/-- A possible duplicate is a new handle on the object of `fd`: a descriptor on a file, or `Obj.other` (`/dev/null`, the
configuration file); of anything else `applyOk` admits no duplicate. -/
theorem core_dupfd_possible {w : World} {fd : Handle} {v : Nat} (hp : Possible w (.dupfd fd) (.ok v)) :
    core w (.dupfd fd) (.ok v) = (w.newHandle (w.obj fd)).1 := by
  have hok := hp.1
  cases ho : w.obj fd with
  | file fid off wr => exact core_dupfd_ok ho v
  | other => exact core_dupfd_other ho v
  | _ => simp only [applyOk, ho] at hok; cases hok

end Mdsort.Proofs.ExecSeq

namespace Mdsort.Proofs.Parties
open Mdsort Mdsort.Model
open Mdsort.Proofs.World

theorem unlinkat_state (w : World) (d : Handle) (n : Bytes) :
    (∃ p f, w.dirPath d = some p ∧ w.lookup p n = some f ∧ predict w (.unlinkat d n) = .ok 0 ∧
        core w (.unlinkat d n) (.ok 0) = w.unbind p n) ∨
    ((∀ p, w.dirPath d = some p → w.lookup p n = none) ∧ predict w (.unlinkat d n) = .err "ENOENT") := by
  cases hp : w.dirPath d with
  | none => right; simp [predict.eq_def, hp]
  | some p =>
    cases hl : w.lookup p n with
    | none => right; simp [predict.eq_def, hp, hl]
    | some f => left; exact ⟨p, f, rfl, hl, by simp [predict.eq_def, hp, hl], core_unlinkat_ok hp hl 0⟩

theorem renameat_state (w : World) (d1 : Handle) (n1 : Bytes) (d2 : Handle) (n2 : Bytes) :
    (∃ p1 p2 f, w.dirPath d1 = some p1 ∧ w.dirPath d2 = some p2 ∧ w.lookup p1 n1 = some f ∧
        predict w (.renameat d1 n1 d2 n2) = .ok 0 ∧
        core w (.renameat d1 n1 d2 n2) (.ok 0) = (w.unbind p1 n1).bind p2 n2 f) ∨
    (∃ e, predict w (.renameat d1 n1 d2 n2) = .err e ∧ (e = "ENOENT" ∨ e = "EXDEV" ∨ e = "EBADF") ∧
        ((∃ p1, w.dirPath d1 = some p1 ∧ w.lookup p1 n1 = none) ∨ e = "EXDEV" ∨ e = "EBADF")) := by
  cases hp1 : w.dirPath d1 with
  | none => right; exact ⟨"EBADF", by simp [predict.eq_def, hp1], by simp, by simp⟩
  | some p1 =>
    cases hp2 : w.dirPath d2 with
    | none => right; exact ⟨"EBADF", by simp [predict.eq_def, hp1, hp2], by simp, by simp⟩
    | some p2 =>
      by_cases hdev : w.device p1 = w.device p2
      · cases hl : w.lookup p1 n1 with
        | none => right; exact ⟨"ENOENT", by simp [predict.eq_def, hp1, hp2, hdev, hl], by simp, .inl ⟨p1, rfl, hl⟩⟩
        | some f =>
          left
          exact ⟨p1, p2, f, rfl, rfl, hl, by simp [predict.eq_def, hp1, hp2, hdev, hl], core_renameat_ok hp1 hp2 hl 0⟩
      · right; exact ⟨"EXDEV", by simp [predict.eq_def, hp1, hp2, hdev], by simp, by simp⟩

/-- The world after a successful exclusive create of `n` in `p`. -/
def created (w : World) (p n : Bytes) : World :=
  (((({ w with nextFid := w.nextFid + 1 } : World).setFile w.nextFid { data := [], durable := [] }).bind p n w.nextFid).newHandle
    (.file w.nextFid 0 true)).1

theorem openExcl_state (w : World) (d : Handle) (n : Bytes) :
    (∃ p, w.dirPath d = some p ∧ w.lookup p n = none ∧ predict w (.openExcl d n) = .ok w.handles.length ∧
        core w (.openExcl d n) (.ok w.handles.length) = created w p n) ∨
    (∃ e, predict w (.openExcl d n) = .err e) := by
  cases hp : w.dirPath d with
  | none => right; exact ⟨"EBADF", by simp [predict.eq_def, hp]⟩
  | some p =>
    cases hl : w.lookup p n with
    | none => left; exact ⟨p, rfl, hl, by simp [predict.eq_def, hp, hl], core_openExcl_ok hp hl _⟩
    | some f => right; exact ⟨"EEXIST", by simp [predict.eq_def, hp, hl]⟩

theorem rmdir_state (w : World) (q : Bytes) :
    (w.dir q = some [] ∧ predict w (.rmdir q) = .ok 0 ∧
        core w (.rmdir q) (.ok 0) = { w with dirs := w.dirs.filter (·.1 != q) }) ∨
    (w.dir q ≠ some [] ∧ ∃ e, predict w (.rmdir q) = .err e) := by
  cases hd : w.dir q with
  | none => right; exact ⟨nofun, "ENOENT", by simp only [predict, hd]⟩
  | some es =>
    cases es with
    | nil => left; exact ⟨rfl, by simp only [predict, hd], core_rmdir_ok hd 0⟩
    | cons a es => right; exact ⟨nofun, "ENOTEMPTY", by simp only [predict, hd]⟩

end Mdsort.Proofs.Parties

namespace Mdsort.Proofs.World
open Mdsort Mdsort.Model Mdsort.Spec

/-! The predicted result of one call, where it is determined by a fact about the world. -/

theorem predict_opendir {w : World} {p : Bytes} (hd : (w.dir p).isSome) : predict w (.opendir p) = .ok w.handles.length := by
  simp only [predict, hd, if_true]

theorem predict_openExcl_free {w : World} {d : Handle} {n p : Bytes} (hp : w.dirPath d = some p) (hl : w.lookup p n = none) :
    predict w (.openExcl d n) = .ok w.handles.length := by
  simp only [predict, hp, hl, Option.isSome_none, Bool.false_eq_true, if_false]

theorem predict_openExcl_exists {w : World} {d : Handle} {n p : Bytes} {fid : Nat} (hp : w.dirPath d = some p)
    (hl : w.lookup p n = some fid) : predict w (.openExcl d n) = .err "EEXIST" := by
  simp only [predict, hp, hl, Option.isSome_some, if_true]

theorem predict_read {w : World} {fd : Handle} {fid off : Nat} {wr : Bool} {f : File} (ho : w.obj fd = .file fid off wr)
    (hf : w.file fid = some f) : predict w (.read fd) = .ok (f.data.length - off) := by
  simp only [predict, ho, hf, Option.map_some, Option.getD_some]

theorem predict_openRd {w : World} {d : Handle} {n p : Bytes} {fid : Nat} (hp : w.dirPath d = some p)
    (hl : w.lookup p n = some fid) : predict w (.openRd d n) = .ok w.handles.length := by
  simp only [predict, hp, hl, Option.bind_some]

theorem predict_unlinkat {w : World} {d : Handle} {n p : Bytes} {fid : Nat} (hp : w.dirPath d = some p)
    (hl : w.lookup p n = some fid) : predict w (.unlinkat d n) = .ok 0 := by
  simp only [predict, hp, hl, Option.bind_some]

theorem predict_fstatat {w : World} {d : Handle} {n p : Bytes} {fid : Nat} (hp : w.dirPath d = some p)
    (hl : w.lookup p n = some fid) : predict w (.fstatat d n) = .ok (w.mtime fid) := by
  simp only [predict, hp, hl, Option.bind_some]

/-- A rename whose source is bound is predicted to succeed or to cross devices. -/
theorem predict_renameat_bound {w : World} {d1 d2 : Handle} {n1 n2 p1 p2 : Bytes} {fid : Nat} (hp1 : w.dirPath d1 = some p1)
    (hp2 : w.dirPath d2 = some p2) (hl : w.lookup p1 n1 = some fid) :
    predict w (.renameat d1 n1 d2 n2) = .ok 0 ∨ predict w (.renameat d1 n1 d2 n2) = .err "EXDEV" := by
  simp only [predict, hp1, hp2, hl, Option.isSome_some, if_true]
  split
  · exact .inr rfl
  · exact .inl rfl

/-- A predicted `EXDEV` is for two directories on different devices. -/
theorem predict_renameat_exdev {w : World} {d1 d2 : Handle} {n1 n2 : Bytes}
    (h : predict w (.renameat d1 n1 d2 n2) = .err "EXDEV") :
    ∃ p1 p2, w.dirPath d1 = some p1 ∧ w.dirPath d2 = some p2 ∧ w.device p1 ≠ w.device p2 := by
  cases hp1 : w.dirPath d1 with
  | none => simp [predict, hp1] at h
  | some p1 =>
    cases hp2 : w.dirPath d2 with
    | none => simp [predict, hp1, hp2] at h
    | some p2 =>
      refine ⟨p1, p2, rfl, rfl, fun hdev => ?_⟩
      simp only [predict, hp1, hp2, hdev, bne_self_eq_false, Bool.false_eq_true, if_false] at h
      split at h <;> simp at h

/-! Under a fault plan a call that transfers no bytes returns `predict` or an error (`faultResult_plain`), and that is also what
a walk in `wpC`/`wpS` is handed: one lemma per call in that form (`X_cases`); `X_results f` is its instance at the result of
the fault `f`. -/

theorem openExcl_cases {w : World} {d : Handle} {n : Bytes} {r : Res} (hr : r = predict w (.openExcl d n) ∨ ∃ e, r = .err e) :
    (∃ e, r = .err e) ∨ (r = .ok w.handles.length ∧ ∃ p, w.dirPath d = some p ∧ w.lookup p n = none) := by
  rcases hr with rfl | h
  · rcases Parties.openExcl_state w d n with ⟨p, hp, hl, he, -⟩ | h
    · exact .inr ⟨he, p, hp, hl⟩
    · exact .inl h
  · exact .inl h

theorem openExcl_results (f : Option Fault) (w : World) (d : Handle) (n : Bytes) :
    (∃ e, faultResult f w (.openExcl d n) = .err e) ∨
    (faultResult f w (.openExcl d n) = .ok w.handles.length ∧ ∃ p, w.dirPath d = some p ∧ w.lookup p n = none) :=
  openExcl_cases (faultResult_plain f w rfl)

theorem opendir_cases {w : World} {p : Bytes} {r : Res} (hr : r = predict w (.opendir p) ∨ ∃ e, r = .err e) :
    (∃ e, r = .err e) ∨ (r = .ok w.handles.length ∧ (w.dir p).isSome) := by
  rcases hr with rfl | h
  · simp only [predict]
    split
    · rename_i hd; exact .inr ⟨rfl, hd⟩
    · exact .inl ⟨_, rfl⟩
  · exact .inl h

theorem opendir_results (f : Option Fault) (w : World) (p : Bytes) :
    (∃ e, faultResult f w (.opendir p) = .err e) ∨
    (faultResult f w (.opendir p) = .ok w.handles.length ∧ (w.dir p).isSome) :=
  opendir_cases (faultResult_plain f w rfl)

theorem renameat_cases {w : World} {d1 d2 : Handle} {n1 n2 : Bytes} {r : Res}
    (hr : r = predict w (.renameat d1 n1 d2 n2) ∨ ∃ e, r = .err e) :
    (∃ e, r = .err e) ∨
      (r = .ok 0 ∧ ∃ p1 p2 fid, w.dirPath d1 = some p1 ∧ w.dirPath d2 = some p2 ∧ w.lookup p1 n1 = some fid) := by
  rcases hr with rfl | h
  · rcases Parties.renameat_state w d1 n1 d2 n2 with ⟨p1, p2, f, hp1, hp2, hl, he, -⟩ | ⟨e, he, -⟩
    · exact .inr ⟨he, p1, p2, f, hp1, hp2, hl⟩
    · exact .inl ⟨e, he⟩
  · exact .inl h

theorem renameat_results (f : Option Fault) (w : World) (d1 : Handle) (n1 : Bytes) (d2 : Handle) (n2 : Bytes) :
    (∃ e, faultResult f w (.renameat d1 n1 d2 n2) = .err e) ∨
    (faultResult f w (.renameat d1 n1 d2 n2) = .ok 0 ∧
      ∃ p1 p2 fid, w.dirPath d1 = some p1 ∧ w.dirPath d2 = some p2 ∧ w.lookup p1 n1 = some fid) :=
  renameat_cases (faultResult_plain f w rfl)

/-- In the failure case: if the failure is the predicted result, the name is not bound. -/
theorem unlinkat_cases {w : World} {d : Handle} {n : Bytes} {r : Res}
    (hr : r = predict w (.unlinkat d n) ∨ ∃ e, r = .err e) :
    (∃ e, r = .err e ∧ (r = predict w (.unlinkat d n) → ∀ p, w.dirPath d = some p → w.lookup p n = none)) ∨
    (r = .ok 0 ∧ ∃ p fid, w.dirPath d = some p ∧ w.lookup p n = some fid) := by
  rcases Parties.unlinkat_state w d n with ⟨p, f, hp, hl, he, -⟩ | ⟨hn, he⟩
  · rcases hr with rfl | ⟨e, rfl⟩
    · exact .inr ⟨he, p, f, hp, hl⟩
    · exact .inl ⟨e, rfl, fun h => by rw [he] at h; cases h⟩
  · rcases hr with rfl | ⟨e, rfl⟩
    · exact .inl ⟨_, he, fun _ => hn⟩
    · exact .inl ⟨e, rfl, fun _ => hn⟩

theorem unlinkat_results (f : Option Fault) (w : World) (d : Handle) (n : Bytes) :
    (∃ e, faultResult f w (.unlinkat d n) = .err e) ∨
    (faultResult f w (.unlinkat d n) = .ok 0 ∧ ∃ p fid, w.dirPath d = some p ∧ w.lookup p n = some fid) :=
  (unlinkat_cases (faultResult_plain f w rfl)).imp (fun ⟨e, he, _⟩ => ⟨e, he⟩) id

theorem openRd_cases {w : World} {d : Handle} {n : Bytes} {r : Res} (hr : r = predict w (.openRd d n) ∨ ∃ e, r = .err e) :
    (∃ e, r = .err e) ∨ (r = .ok w.handles.length ∧ ∃ p fid, w.dirPath d = some p ∧ w.lookup p n = some fid) := by
  rcases hr with rfl | h
  · cases hp : w.dirPath d with
    | none => exact .inl ⟨"ENOENT", by simp only [predict, hp, Option.bind_none]⟩
    | some p =>
      cases hl : w.lookup p n with
      | none => exact .inl ⟨"ENOENT", by simp only [predict, hp, hl, Option.bind_some]⟩
      | some fid => exact .inr ⟨predict_openRd hp hl, p, fid, rfl, hl⟩
  · exact .inl h

theorem whole_openRd_results (f : Option Fault) (w : World) (d : Handle) (n : Bytes) :
    (∃ e, faultResult f w (.openRd d n) = .err e) ∨
    (faultResult f w (.openRd d n) = .ok w.handles.length ∧ ∃ p fid, w.dirPath d = some p ∧ w.lookup p n = some fid) :=
  openRd_cases (faultResult_plain f w rfl)

theorem read_results (ft : Option Fault) {w : World} {fd : Handle} {fid off : Nat} {wr : Bool} {f : File}
    (ho : w.obj fd = .file fid off wr) (hf : w.file fid = some f) :
    (∃ e, faultResult ft w (.read fd) = .err e) ∨
    (∃ n, faultResult ft w (.read fd) = .ok n ∧ n ≤ f.data.length - off ∧ (n = 0 → f.data.length - off = 0)) := by
  have hp := predict_read ho hf
  unfold faultResult
  split
  · exact .inr ⟨_, hp, Nat.le_refl _, fun h => h⟩
  · exact .inl ⟨_, rfl⟩
  · rename_i n
    simp only [hp]
    by_cases hc : (decide (0 < n) && decide (n < f.data.length - off)) = true
    · simp only [hc, if_true]
      simp only [Bool.and_eq_true, decide_eq_true_eq] at hc
      exact .inr ⟨_, rfl, by omega, by omega⟩
    · simp only [hc]
      exact .inr ⟨_, rfl, Nat.le_refl _, fun h => h⟩

theorem utimensat_cases {w : World} {d : Handle} {n : Bytes} {a m : Option Nat} {r : Res}
    (hr : r = predict w (.utimensat d n a m) ∨ ∃ e, r = .err e) :
    (∃ e, r = .err e) ∨ (r = .ok 0 ∧ ∃ p fid, w.dirPath d = some p ∧ w.lookup p n = some fid) := by
  rcases hr with rfl | h
  · simp only [predict]
    split
    · rename_i fid hb
      refine .inr ⟨rfl, ?_⟩
      cases hp : w.dirPath d with
      | none => simp [hp] at hb
      | some p => exact ⟨p, fid, rfl, by simpa [hp] using hb⟩
    · exact .inl ⟨_, rfl⟩
  · exact .inl h

/-- The names the directory stream `d` will still yield. -/
def streamRest (w : World) (d : Handle) : List Bytes :=
  match w.obj d with
  | .dir p snap pos => (snap.getD (((w.dir p).map sortedNames).getD [])).drop pos
  | _ => []

theorem streamRest_of_obj {w : World} {d : Handle} {p : Bytes} {names : List Bytes} {pos : Nat}
    (h : w.obj d = .dir p (some names) pos) : streamRest w d = names.drop pos := by
  simp [streamRest, h]

theorem readdir_cases {w : World} {d : Handle} {p : Bytes} {snap : Option (List Bytes)} {pos : Nat} {r : Res}
    (hr : r = predict w (.readdir d) ∨ ∃ e, r = .err e) (hobj : w.obj d = .dir p snap pos) :
    (∃ e, r = .err e) ∨ (r = .eof ∧ streamRest w d = []) ∨
    (∃ n t names, r = .name n ∧ streamRest w d = n :: t ∧
      (stepWorld w (.readdir d) (.name n)).obj d = .dir p (some names) (pos + 1) ∧ names.drop (pos + 1) = t) := by
  have hlt : d < w.handles.length := lt_of_obj_ne_closed w d (by simp [hobj])
  rcases hr with rfl | h
  · generalize hn : snap.getD (((w.dir p).map sortedNames).getD []) = names
    have hrem : streamRest w d = names.drop pos := by simp [streamRest, hobj, hn]
    cases hget : names[pos]? with
    | none =>
      refine .inr (.inl ⟨by simp [predict, hobj, hn, hget], ?_⟩)
      rw [hrem]
      apply List.drop_eq_nil_of_le
      have := List.getElem?_eq_none_iff.1 hget
      omega
    | some n =>
      have hposlt : pos < names.length := (List.getElem?_eq_some_iff.1 hget).1
      have hdropc : names.drop pos = n :: names.drop (pos + 1) := by
        rw [List.drop_eq_getElem_cons hposlt, (List.getElem?_eq_some_iff.1 hget).2]
      refine .inr (.inr ⟨n, names.drop (pos + 1), names, by simp [predict, hobj, hn, hget], by rw [hrem, hdropc], ?_, rfl⟩)
      rw [stepWorld_obj, core_readdir_name hobj (by rw [hn]; exact hget), hn, obj_setObj, if_pos ⟨rfl, hlt⟩]
  · exact .inl h

theorem predict_handle (w : World) {c : Call} (hc : createsHandle c = true) :
    predict w c = .ok w.handles.length ∨ ∃ e, predict w c = .err e := by
  -- by the table `predict`: the calls that make no descriptor go by `hc`; the arm of each of the others is a nest of `if`s and
  -- `match`es, split to its leaves, and every leaf is `.ok w.handles.length` or `.err _`; where the arm is `.ok w.handles.length`
  -- without a condition (openPath, fopen, dupfd, mkostemp) `simp` has already made the first disjunct `True`
  cases c <;> first | (cases hc; done) | simp only [predict]
  all_goals repeat' split
  all_goals first | exact .inl rfl | exact .inl True.intro | exact .inr ⟨_, rfl⟩

theorem predict_plain (w : World) {c : Call} (hc : ExecSeq.Call.plain c = true) :
    (∃ v, predict w c = .ok v) ∨ ∃ e, predict w c = .err e := by
  -- every leaf of `predict` is `.ok _` or `.err _`, except the names of `readdir` and `mkdtemp`, which are not plain
  revert hc
  fun_cases predict w c <;> intro hc <;> first | exact .inl ⟨_, rfl⟩ | exact .inr ⟨_, rfl⟩ | cases hc

/-- What the walks of the scripts use of the result `r` of call `c` in world `w`.  It holds of the results of a fault plan
(`sane_fault`) and of every possible result (`sane_possible`), so a script walked for results that are `Sane` is walked for
`wp` and for `ExecSeq.wpo` at once. -/
structure Sane (w : World) (c : Call) (r : Res) : Prop where
  plain : ExecSeq.Call.plain c = true → (∃ v, r = .ok v) ∨ ∃ e, r = .err e
  handle : createsHandle c = true → r = .ok w.handles.length ∨ ∃ e, r = .err e
  fprintf : ∀ fd data, c = .fprintf fd data → r = .ok data.length ∨ ∃ e, r = .err e
  /-- Only for `data ≠ []`: `predict` answers a `write` with `.ok data.length`, which for no data is `.ok 0`, while `Possible`
  (through `applyOk`) admits `.ok n` only for `0 < n`.  The loops (`writeAll`, `copyStdin`) test for no data before they write. -/
  write : ∀ fd data, c = .write fd data → data ≠ [] → (∃ n, r = .ok n ∧ 0 < n ∧ n ≤ data.length) ∨ ∃ e, r = .err e
  openExcl : ∀ d n, c = .openExcl d n →
    (∃ e, r = .err e) ∨ (r = .ok w.handles.length ∧ ∃ p, w.dirPath d = some p ∧ w.lookup p n = none)
  opendir : ∀ p, c = .opendir p → (∃ e, r = .err e) ∨ (r = .ok w.handles.length ∧ (w.dir p).isSome)

theorem sane_possible {w : World} {c : Call} {r : Res} (h : Possible w c r) : Sane w c r where
  plain := ExecSeq.possible_plain h
  handle hc := ExecSeq.possible_handle h hc (by cases c <;> first | rfl | cases hc)
  fprintf := by rintro fd data rfl; exact ExecSeq.possible_fprintf h
  write := by rintro fd data rfl _; exact ExecSeq.possible_write h
  openExcl := by rintro d n rfl; exact ExecSeq.possible_openExcl h
  opendir := by rintro p rfl; exact ExecSeq.possible_opendir h

theorem sane_fault {w : World} {c : Call} {r : Res} (h : FaultR w c r) : Sane w c r := by
  obtain ⟨f, rfl⟩ := h
  refine ⟨fun hc => ?_, fun hc => ?_, ?_, ?_, ?_, ?_⟩
  · rcases faultResult_trichotomy f w c with h | h | ⟨n, m, -, -, -, -, h⟩
    · rw [h]; exact predict_plain w hc
    · exact .inr h
    · exact .inl ⟨n, h⟩
  · rcases faultResult_plain f w (c := c) (by cases c <;> first | rfl | cases hc) with h | h
    · rw [h]; exact predict_handle w hc
    · exact .inr h
  · rintro fd data rfl
    exact faultResult_plain f w rfl
  · rintro fd data rfl hne
    rcases faultResult_write f w fd data with ⟨n, h, hn⟩ | h
    · refine .inl ⟨n, h, ?_⟩
      have : 0 < data.length := List.length_pos_iff.2 hne
      omega
    · exact .inr h
  · rintro d n rfl
    exact openExcl_results f w d n
  · rintro p rfl
    exact opendir_results f w p

theorem faultResult_nofail (f : Option Fault) (w : World) {c : Call} (hf : ∀ e, f ≠ some (.fail e))
    (hc : Call.transfers c = false) : faultResult f w c = predict w c := by
  rcases faultResult_plain f w hc with h | ⟨e, h⟩
  · exact h
  · cases f with
    | none => exact rfl
    | some x =>
      cases x with
      | fail e' => exact absurd rfl (hf e')
      | short n => cases c <;> first | rfl | cases hc

end Mdsort.Proofs.World
