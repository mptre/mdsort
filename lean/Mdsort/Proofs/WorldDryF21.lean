import Mdsort.Proofs.WorldWholeEx
import Mdsort.Proofs.WorldDryEval
import Mdsort.Proofs.WorldExitEx
import Mdsort.Proofs.WorldWalkG

/-!
# Where the dry run does NOT predict the real run: a message that is visited twice (known finding F21)

`maildir "/m" { match all flag "cur" }` (`dry_f21Conf`, WorldWholeEx) on the two-message example: the real run takes each
message from `/m/new` to `/m/cur`, and finds it again when it walks `/m/cur` afterwards - every message is
logged (and would be acted on) twice; the dry run moves nothing and logs every message once.

On the same example, with a maildir `/y` added: a message that does not end where the verdict on its initial file says
(`dry_exit0_general_false`: the exit-0 theorem of C01 needs its hypothesis on re-visits too), and a configuration on which all
hypotheses of `dry_predicts_real` hold (`dry_ex_good`, `dry_ex_runs`).  The runs are evaluated through `dry_walk_G` (WorldWalkG).
-/

namespace Mdsort.Proofs
open Mdsort Mdsort.Model

def dry_f21DryEnv : PEnv := { exEnv with dryrun := true }

theorem dry_f21_nd : ∀ b ∈ dry_f21Conf, WholeNoDiscard exEnv wholeExOrc b.expr := by
  intro b hb
  simp only [dry_f21Conf, List.mem_singleton] at hb
  subst hb
  exact whole_noDiscard_of_syntax _ _ _ (by decide)

/-- F21, evaluated: on the two-message example the real run of `maildir "/m" { match all flag "cur" }`
ends with exit status 0 and FOUR `->` lines (each message once from `/m/new` and once more from `/m/cur`),
the dry run with exit status 0 and TWO lines. -/
theorem dry_f21_witness :
    (runPlan Plan.none (mainP exEnv wholeExOrc true dry_f21Conf wholeExFiles []) wholeExWorld 0 []).1.1 = 0 ∧
    (runPlan Plan.none (mainP exEnv wholeExOrc true dry_f21Conf wholeExFiles []) wholeExWorld 0 []).1.2.log.length = 4 ∧
    (runPlan Plan.none (mainP dry_f21DryEnv wholeExOrc true dry_f21Conf wholeExFiles []) wholeExWorld 0 []).1.1 = 0 ∧
    (runPlan Plan.none (mainP dry_f21DryEnv wholeExOrc true dry_f21Conf wholeExFiles []) wholeExWorld 0 []).1.2.log.length = 2 := by
  rw [(dry_runNone_eq (mainP exEnv wholeExOrc true dry_f21Conf wholeExFiles []) wholeExWorld 0 []).1,
    (dry_runNone_eq (mainP dry_f21DryEnv wholeExOrc true dry_f21Conf wholeExFiles []) wholeExWorld 0 []).1,
    Own.mainP_eq, Own.mainP_eq]
  unfold Own.mainK
  simp only [dry_f21Conf, Own.blocks_cons, Own.blocks_nil, Own.paths_cons, Own.paths_nil,
    dry_walk_G _ _ dry_f21Expr (by decide)]
  simp only [dry_f21Expr, eval]
  decide +kernel

/-- `match new flag "cur"`, then `match !new move "/y"`. -/
def dry_f21Expr2 : Expr :=
  .block 1 (.or 1 (.mtch 2 (.new 2) (.flag 2 [99, 117, 114])) (.mtch 3 (.neg 3 (.new 3)) (.move 3 [47, 121])))

def dry_f21Conf2 : List ConfBlock := [{ paths := [[47, 109]], expr := dry_f21Expr2 }]

/-- `/y/new`, `/y/cur` -/
def dry_f21Ynew : Bytes := [47, 121, 47, 110, 101, 119]
def dry_f21Ycur : Bytes := [47, 121, 47, 99, 117, 114]

/-- The two-message example with the maildir `/y` present (`move` keeps the subdirectory: the messages arrive in
`/y/cur`). -/
def dry_f21World2 : World :=
  { wholeExWorld with dirs := wholeExWorld.dirs ++ [(dry_f21Ynew, []), (dry_f21Ycur, [])] }

theorem dry_f21_nd2 : ∀ b ∈ dry_f21Conf2, WholeNoDiscard exEnv wholeExOrc b.expr := by
  intro b hb
  simp only [dry_f21Conf2, List.mem_singleton] at hb
  subst hb
  exact whole_noDiscard_of_syntax _ _ _ (by decide)

theorem dry_f21_reg2 : WholeReg dry_f21World2 wholeExFiles := whole_reg_of_ok (by decide)

theorem dry_f21_dest2 : exit0_dest exEnv wholeExOrc dry_f21Expr2 exNew exName exOrig = exCur := by
  simp only [exit0_dest, verdict, msVerdict, dry_f21Expr2, eval]
  decide +kernel

/-- The real run (fault-free, exit status 0) finds `1.h` again in `/m/cur`, where the second rule sends it
on to `/y/cur`: at the end no message is registered in `/m/cur`. -/
theorem dry_f21_witness2 :
    (runPlan Plan.none (mainP exEnv wholeExOrc true dry_f21Conf2 wholeExFiles []) dry_f21World2 0 []).1.1 = 0 ∧
    (runPlan Plan.none (mainP exEnv wholeExOrc true dry_f21Conf2 wholeExFiles []) dry_f21World2 0 []).1.2.files.filter
      (fun x => x.1 == exCur) = [] := by
  rw [(dry_runNone_eq (mainP exEnv wholeExOrc true dry_f21Conf2 wholeExFiles []) dry_f21World2 0 []).1, Own.mainP_eq]
  unfold Own.mainK
  simp only [dry_f21Conf2, Own.blocks_cons, Own.blocks_nil, Own.paths_cons, Own.paths_nil,
    dry_walk_G _ _ dry_f21Expr2 (by decide)]
  simp only [dry_f21Expr2, eval]
  decide +kernel

theorem dry_f21_not_placed {st : MainSt} {w' : World} (hf : st.files.filter (fun x => x.1 == exCur) = [])
    (hp : exit0_Placed exEnv wholeExOrc dry_f21Expr2 exNew exName exOrig st w') : False := by
  have hd := dry_f21_dest2
  unfold exit0_dest at hd
  simp only [show exEnv.dryrun = false from rfl, Bool.false_eq_true, if_false] at hd
  unfold exit0_Placed at hp
  cases hv : verdict exEnv wholeExOrc dry_f21Expr2 exNew exName exOrig with
  | act ml msgs fl =>
    rw [hv] at hp hd
    obtain ⟨n', fid, c', hget, _⟩ := hp
    dsimp only at hd
    rw [hd] at hget
    have := exit0_mem_filter_of_get hget
    rw [hf] at this
    cases this
  | «nomatch» =>
    rw [hv] at hd
    exact absurd hd (by decide)
  | unparsable => rw [hv] at hp; exact hp
  | error => rw [hv] at hp; exact hp
  | interpFail => rw [hv] at hp; exact hp

theorem dry_f21_dirs2 : (exNew, dry_f21Expr2) ∈ exit0_dirsOf dry_f21Conf2 := by
  have hsp : isStdinPath [47, 109] = false := by decide +kernel
  simp [exit0_dirsOf, exit0_pathDirs, dry_f21Conf2, hsp, exNew, subdirName]

/-- The general form of "the dry run predicts the real run" (no hypothesis on re-visits) fails on the first witness. -/
theorem dry_general_false :
    ¬ ∀ (env : PEnv) (orc : EvalOracles) (confOk : Bool) (conf : List ConfBlock) (files : Files) (input : Bytes) (w : World),
      env.stdinMode = false → env.syntaxOnly = false → env.dryrun = false →
      (∀ b ∈ conf, WholeNoDiscard env orc b.expr) → WholeReg w files →
      (runPlan Plan.none (mainP env orc confOk conf files input) w 0 []).1.1 = 0 →
      (runPlan Plan.none (mainP { env with dryrun := true } orc confOk conf files input) w 0 []).1.1 = 0 →
      (runPlan Plan.none (mainP { env with dryrun := true } orc confOk conf files input) w 0 []).1.2.log =
        (runPlan Plan.none (mainP env orc confOk conf files input) w 0 []).1.2.log := by
  intro h
  have hw := dry_f21_witness
  have := h exEnv wholeExOrc true dry_f21Conf wholeExFiles [] wholeExWorld rfl rfl rfl dry_f21_nd wholeEx_reg hw.1 hw.2.2.1
  have hl := congrArg List.length this
  rw [hw.2.1] at hl
  have h2 : (runPlan Plan.none (mainP { exEnv with dryrun := true } wholeExOrc true dry_f21Conf wholeExFiles [])
      wholeExWorld 0 []).1.2.log.length = 2 := hw.2.2.2
  rw [h2] at hl
  cases hl

/-- The general form of "exit status 0 means every message is where its verdict says" fails on the second witness. -/
theorem dry_exit0_general_false :
    ¬ ∀ (env : PEnv) (orc : EvalOracles) (confOk : Bool) (conf : List ConfBlock) (files : Files) (input : Bytes) (w : World)
        (plan : Plan),
      env.stdinMode = false → env.syntaxOnly = false → env.dryrun = false →
      (∀ b ∈ conf, WholeNoDiscard env orc b.expr) → WholeReg w files → World.SingleFault plan →
      (runPlan plan (mainP env orc confOk conf files input) w 0 []).1.1 = 0 →
      ∀ D e n c, (D, e) ∈ exit0_dirsOf conf → files.get D n = some c →
        exit0_Placed env orc e D n c (runPlan plan (mainP env orc confOk conf files input) w 0 []).1.2
          (runPlan plan (mainP env orc confOk conf files input) w 0 []).2.1 := by
  intro h
  have hw := dry_f21_witness2
  exact dry_f21_not_placed hw.2
    (h exEnv wholeExOrc true dry_f21Conf2 wholeExFiles [] dry_f21World2 Plan.none rfl rfl rfl
      dry_f21_nd2 dry_f21_reg2 World.singleFault_none hw.1 exNew dry_f21Expr2 exName exOrig dry_f21_dirs2 (by decide))

/-- `exit0_ex_good` with `/y` present: of the four clauses only `uniq0` and `listed` look at the world. -/
theorem dry_ex_good : exit0_Good ⟨exEnv, wholeExOrc, exit0_dirsOf exit0_exConf, wholeExFiles, dry_f21World2⟩ := by
  have hG := exit0_ex_good
  rw [exit0_ex_dirs] at hG ⊢
  exact ⟨hG.nodup, exit0_unique_of_ok (by decide), exit0_listed_of_ok (by decide), hG.norev⟩

theorem dry_ex_runs :
    (runPlan Plan.none (mainP exEnv wholeExOrc true exit0_exConf wholeExFiles []) dry_f21World2 0 []).1.1 = 0 ∧
    (runPlan Plan.none (mainP { exEnv with dryrun := true } wholeExOrc true exit0_exConf wholeExFiles []) dry_f21World2 0 []).1.1 = 0 ∧
    (runPlan Plan.none (mainP exEnv wholeExOrc true exit0_exConf wholeExFiles []) dry_f21World2 0 []).1.2.log.length = 2 := by
  rw [(dry_runNone_eq (mainP exEnv wholeExOrc true exit0_exConf wholeExFiles []) dry_f21World2 0 []).1,
    (dry_runNone_eq (mainP { exEnv with dryrun := true } wholeExOrc true exit0_exConf wholeExFiles []) dry_f21World2 0 []).1,
    Own.mainP_eq, Own.mainP_eq]
  unfold Own.mainK
  simp only [exit0_exConf, Own.blocks_cons, Own.blocks_nil, Own.paths_cons, Own.paths_nil,
    dry_walk_G _ _ exit0_exExpr (by decide)]
  simp only [exit0_exExpr, eval]
  decide +kernel

end Mdsort.Proofs
