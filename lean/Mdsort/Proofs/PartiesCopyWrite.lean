import Mdsort.Proofs.PartiesCopyBasic

/-! Preservation of `CInv` by one step, second part: the content of the file of a name in flight
(`WrOK`). -/

namespace Mdsort.Proofs.Parties
open Mdsort Mdsort.Model
open Mdsort.Proofs.World

variable {M : Msg → Prop} {s0 s : Shared} {a : Nat} {ps : PState} {c : Call} {k : Res → Prog Bool}

theorem stepLocal_loc (s : Shared) (ps : PState) (c : Call) (k : Res → Prog Bool) :
    locOf (stepLocal s ps c k).trace = locUpd (locOf ps.trace) (c, predict (s.view ps) c) := by
  rw [stepLocal_trace, locOf_snoc]

theorem stepCall_file (s : Shared) (a : Nat) (ps : PState) (c : Call) (k : Res → Prog Bool) (g : Nat) :
    (stepCall s a ps c k).fs.file g = (core (s.view ps) c (predict (s.view ps) c)).file g := rfl

/-- The handle through which a call can change an object that refers to a file (`readdir` / `rewinddir` move directory
streams only), or write the file. -/
def actsOn : Call → Option Handle
  | .fsync h => some h
  | .readdir _ | .rewinddir _ => none
  | c => Call.subject c

theorem core_obj_fid (w : World) (c : Call) (r : Res) (h : Handle) {g : Nat} (hg : objFid (w.obj h) = some g)
    (hs : actsOn c ≠ some h) : (core w c r).obj h = w.obj h := by
  have hl : h < w.handles.length := lt_of_obj_ne_closed w h fun e => by rw [e] at hg; cases hg
  by_cases hd : c = .readdir h ∨ c = .rewinddir h
  · -- `h` is no directory stream: of the updates such a call can make (`Upd`) only the move within one changes an object
    have hnd : ∀ p sn pos, w.obj h ≠ .dir p sn pos := fun p sn pos e => by rw [e] at hg; cases hg
    have keep : ∀ c', c' = .readdir h ∨ c' = .rewinddir h → (core w c' r).obj h = w.obj h := by
      intro c' hc'
      core_cases w c' r
      case refl => rfl
      case dirPos ho hsub =>
        have : Call.subject c' = some h := by rcases hc' with rfl | rfl <;> rfl
        cases hsub.symm.trans this
        exact absurd ho (hnd _ _ _)
      case handle => rw [obj_newHandle, if_neg (Nat.ne_of_lt hl)]
      all_goals rcases hc' with hc' | hc' <;> cases hc'
    exact keep c hd
  · -- otherwise `actsOn` is `Call.subject`, except at `fsync`, which has none
    refine core_obj w c r h hl fun e => ?_
    cases c
    case readdir => exact hd (.inl (by cases e; rfl))
    case rewinddir => exact hd (.inr (by cases e; rfl))
    case fsync => cases e
    all_goals exact hs e

theorem fileSafe_of_acts (w : World) (c : Call) (g : Nat) (hs : ∀ h0, actsOn c = some h0 → objFid (w.obj h0) ≠ some g) :
    fileSafe w g c := by
  cases c <;> first | exact True.intro | exact hs _ rfl

theorem locUpd_passive (l : Loc) (c : Call) (r : Res)
    (h1 : ¬ (isCreate c = true ∧ isOk r = true))
    (h2 : ∀ h, actsOn c = some h → l.fd ≠ some h ∧ l.dup ≠ some h ∧ l.st ≠ some h)
    (h3 : ∀ fd, c = .dupfd fd → l.fd ≠ some fd) :
    (locUpd l (c, r)).fd = l.fd ∧ (locUpd l (c, r)).dup = l.dup ∧ (locUpd l (c, r)).st = l.st ∧ (locUpd l (c, r)).wr = l.wr := by
  generalize hx : (c, r) = x
  -- a branch of `locUpd` that leaves the four slots as they are, or `c`, `r` are those of the branch
  fun_cases locUpd l x <;> first | exact ⟨rfl, rfl, rfl, rfl⟩ | cases hx
  · -- openExcl, ok
    exact absurd ⟨rfl, rfl⟩ h1
  · -- close
    obtain ⟨a1, a2, a3⟩ := h2 _ rfl
    simp [Loc.drop, clr, a1, a2, a3]
  · -- closedir
    obtain ⟨a1, a2, a3⟩ := h2 _ rfl
    simp [Loc.drop, clr, a1, a2, a3]
  · -- fclose
    obtain ⟨a1, a2, a3⟩ := h2 _ rfl
    simp +zetaDelta [Loc.drop, clr, a2, a3]
  · -- dupfd, ok
    simp [h3 _ rfl]
  · -- fdopen, ok
    obtain ⟨a1, a2, a3⟩ := h2 _ rfl
    simp [clr, a2]
  · -- fprintf, ok, on the stream of the name in flight
    exact absurd ‹_› (h2 _ rfl).2.2

/-- `WrOK` in two halves.  `Descr`: the descriptor of the name in flight and its duplicate are open on `g`.  `Cont`: what
reached the file and what the stream still buffers are the bytes handed to the stream.  A call changes one half at most;
the other goes through by `Descr.frame` / `Cont.frame`. -/
def Descr (l : Loc) (hs : List Obj) (g : Nat) : Prop :=
  (∀ h, l.fd = some h → ∃ off wr, hs.getD h .closed = .file g off wr) ∧
  (∀ h, l.dup = some h → (∃ off wr, hs.getD h .closed = .file g off wr) ∧ l.fd ≠ some h)

def Cont (l : Loc) (hs : List Obj) (g : Nat) (f : File) : Prop :=
  (∀ h, l.st = some h → ∃ buf, hs.getD h .closed = .stream g buf ∧ f.data ++ buf = l.wr) ∧
  (l.st = none → f.data = l.wr)

theorem WrOK.split {ps : PState} {g : Nat} {fs : World} (h : WrOK ps g fs) :
    ∃ f, fs.file g = some f ∧ Descr (locOf ps.trace) ps.handles g ∧ Cont (locOf ps.trace) ps.handles g f :=
  let ⟨f, hf, h1, h2, h3, h4⟩ := h
  ⟨f, hf, ⟨h1, h2⟩, h3, h4⟩

theorem wrOK_step {g : Nat} {f : File} (hf : (stepCall s a ps c k).fs.file g = some f)
    (d : Descr (locUpd (locOf ps.trace) (c, predict (s.view ps) c)) (stepLocal s ps c k).handles g)
    (ct : Cont (locUpd (locOf ps.trace) (c, predict (s.view ps) c)) (stepLocal s ps c k).handles g f) :
    WrOK (stepLocal s ps c k) g (stepCall s a ps c k).fs := by
  rw [← stepLocal_loc] at d ct
  exact ⟨f, hf, d.1, d.2, ct.1, ct.2⟩

theorem Descr.frame {l l' : Loc} {hs hs' : List Obj} {g : Nat} (d : Descr l hs g)
    (hfd : ∀ h, l'.fd = some h → l.fd = some h) (hdup : ∀ h, l'.dup = some h → l.dup = some h)
    (hobj : ∀ h, objFid (hs.getD h .closed) = some g → l'.fd = some h ∨ l'.dup = some h →
      hs'.getD h .closed = hs.getD h .closed) : Descr l' hs' g := by
  refine ⟨fun h hh => ?_, fun h hh => ⟨?_, fun e => (d.2 h (hdup h hh)).2 (hfd h e)⟩⟩
  · obtain ⟨off, wr, ho⟩ := d.1 h (hfd h hh)
    exact ⟨off, wr, by rw [hobj h (by rw [ho]; rfl) (.inl hh)]; exact ho⟩
  · obtain ⟨off, wr, ho⟩ := (d.2 h (hdup h hh)).1
    exact ⟨off, wr, by rw [hobj h (by rw [ho]; rfl) (.inr hh)]; exact ho⟩

theorem Cont.frame {l l' : Loc} {hs hs' : List Obj} {g : Nat} {f : File} (ct : Cont l hs g f)
    (hst : l'.st = l.st) (hwr : l'.wr = l.wr)
    (hobj : ∀ h, objFid (hs.getD h .closed) = some g → l.st = some h → hs'.getD h .closed = hs.getD h .closed) :
    Cont l' hs' g f := by
  unfold Cont
  rw [hst, hwr]
  refine ⟨fun h hh => ?_, ct.2⟩
  obtain ⟨buf, ho, hb⟩ := ct.1 h hh
  exact ⟨buf, by rw [hobj h (by rw [ho]; rfl) hh]; exact ho, hb⟩

theorem Descr.not_stream {l : Loc} {hs : List Obj} {g g' : Nat} {h0 : Handle} {buf : Bytes} (d : Descr l hs g)
    (ho : hs.getD h0 .closed = .stream g' buf) : l.fd ≠ some h0 ∧ l.dup ≠ some h0 := by
  constructor
  · intro e
    obtain ⟨off, wr, ho'⟩ := d.1 h0 e
    rw [ho] at ho'; cases ho'
  · intro e
    obtain ⟨⟨off, wr, ho'⟩, _⟩ := d.2 h0 e
    rw [ho] at ho'; cases ho'

theorem Cont.not_file {l : Loc} {hs : List Obj} {g g' off : Nat} {wr : Bool} {f : File} {h0 : Handle} (ct : Cont l hs g f)
    (ho : hs.getD h0 .closed = .file g' off wr) : l.st ≠ some h0 := by
  intro e
  obtain ⟨buf, ho', _⟩ := ct.1 h0 e
  rw [ho] at ho'; cases ho'

theorem clr_eq_some {o : Option Handle} {x h : Handle} (e : clr o x = some h) : o = some h ∧ h ≠ x := by
  unfold clr at e
  split at e
  · cases e
  · rename_i hne
    exact ⟨e, fun hx => hne (hx ▸ e)⟩

theorem stepLocal_keep {h : Handle} {g : Nat} (hg : objFid (ps.handles.getD h .closed) = some g) (hne : actsOn c ≠ some h) :
    (stepLocal s ps c k).handles.getD h .closed = ps.handles.getD h .closed :=
  core_obj_fid (s.view ps) c _ h hg hne

theorem stepCall_file_same {g : Nat} (hlt : g < s.fs.nextFid) (hs : fileSafe (s.view ps) g c) :
    (stepCall s a ps c k).fs.file g = s.fs.file g :=
  core_file (s.view ps) c _ g hlt hs

theorem wr_passive {g : Nat} (hW : WrOK ps g s.fs) (hlt : g < s.fs.nextFid)
    (hact : ∀ h0, actsOn c = some h0 → objFid ((s.view ps).obj h0) ≠ some g)
    (hcr : ¬ (isCreate c = true ∧ isOk (predict (s.view ps) c) = true))
    (hdup : ∀ fd, c = .dupfd fd → (locOf ps.trace).fd ≠ some fd) :
    WrOK (stepLocal s ps c k) g (stepCall s a ps c k).fs := by
  obtain ⟨f, hf, d, ct⟩ := hW.split
  have hslots : ∀ h, actsOn c = some h →
      (locOf ps.trace).fd ≠ some h ∧ (locOf ps.trace).dup ≠ some h ∧ (locOf ps.trace).st ≠ some h := by
    intro h hh
    refine ⟨fun e => ?_, fun e => ?_, fun e => ?_⟩
    · obtain ⟨off, wr, ho⟩ := d.1 h e
      exact hact h hh (by rw [view_obj, ho]; rfl)
    · obtain ⟨⟨off, wr, ho⟩, _⟩ := d.2 h e
      exact hact h hh (by rw [view_obj, ho]; rfl)
    · obtain ⟨buf, ho, _⟩ := ct.1 h e
      exact hact h hh (by rw [view_obj, ho]; rfl)
  obtain ⟨a1, a2, a3, a4⟩ := locUpd_passive (locOf ps.trace) c (predict (s.view ps) c) hcr hslots hdup
  have keep : ∀ h, objFid (ps.handles.getD h .closed) = some g →
      (stepLocal s ps c k).handles.getD h .closed = ps.handles.getD h .closed :=
    fun h hg => stepLocal_keep hg fun e => hact h e hg
  exact wrOK_step ((stepCall_file_same hlt (fileSafe_of_acts _ c g hact)).trans hf)
    (d.frame (fun h hh => a1 ▸ hh) (fun h hh => a2 ▸ hh) fun h hg _ => keep h hg)
    (ct.frame a3 a4 fun h hg _ => keep h hg)

theorem wrOK_created (hk : isCreate c = true) (hok : isOk (predict (s.view ps) c) = true) :
    WrOK (stepLocal s ps c k) s.fs.nextFid (stepCall s a ps c k).fs := by
  obtain ⟨d, n, rfl⟩ := isCreate_iff.1 hk
  rcases openExcl_state (s.view ps) d n with ⟨p, hp, hl, hpr, hco⟩ | ⟨e, hpr⟩
  · have hloc : locOf (stepLocal s ps (.openExcl d n) k).trace =
        { locOf ps.trace with fd := some (s.view ps).handles.length, dup := none, st := none, wr := [] } := by
      rw [stepLocal_loc, hpr]; rfl
    refine ⟨⟨[], []⟩, ?_, ?_, ?_, ?_, ?_⟩
    · rw [stepCall_file, hpr, hco]
      simp [created, file_setFile]
    · intro h hh
      rw [hloc] at hh
      cases hh
      refine ⟨0, true, ?_⟩
      rw [stepLocal_obj, hpr, hco]
      simp [created, obj_newHandle]
    · intro h hh; rw [hloc] at hh; cases hh
    · intro h hh; rw [hloc] at hh; cases hh
    · intro _; rw [hloc]
  · rw [hpr] at hok; simp [isOk] at hok

theorem wr_close {h0 : Handle} {g : Nat} (hW : WrOK ps g s.fs) (hlt : g < s.fs.nextFid) (hfd : (locOf ps.trace).fd = some h0) :
    WrOK (stepLocal s ps (.close h0) k) g (stepCall s a ps (.close h0) k).fs := by
  obtain ⟨f, hf, d, ct⟩ := hW.split
  obtain ⟨off0, wr0, ho0⟩ := d.1 h0 hfd
  have hne : ∀ {o : Option Handle} {h : Handle}, clr o h0 = some h → actsOn (.close h0) ≠ some h :=
    fun e e' => (clr_eq_some e).2 (Option.some.inj e').symm
  exact wrOK_step ((stepCall_file_same (c := .close h0) hlt True.intro).trans hf)
    (d.frame (fun h hh => (clr_eq_some hh).1) (fun h hh => (clr_eq_some hh).1)
      fun h hg hh => stepLocal_keep hg (hh.elim hne hne))
    (ct.frame (if_neg (ct.not_file ho0)) rfl
      fun h hg hh => stepLocal_keep hg fun e => ct.not_file ho0 (Option.some.inj e ▸ hh))

theorem wr_dupfd {h0 : Handle} {g : Nat} (hW : WrOK ps g s.fs) (hlt : g < s.fs.nextFid) (hfd : (locOf ps.trace).fd = some h0) :
    WrOK (stepLocal s ps (.dupfd h0) k) g (stepCall s a ps (.dupfd h0) k).fs := by
  obtain ⟨f, hf, d, ct⟩ := hW.split
  obtain ⟨off0, wr0, ho0⟩ := d.1 h0 hfd
  have hacts : ∀ h, actsOn (.dupfd h0) ≠ some h := nofun
  refine wrOK_step ((stepCall_file_same (c := .dupfd h0) hlt True.intro).trans hf) ⟨fun h hh => ?_, fun h hh => ?_⟩
    (ct.frame rfl rfl fun h hg _ => stepLocal_keep hg (hacts h))
  · obtain ⟨off, wr, ho⟩ := d.1 h hh
    exact ⟨off, wr, by rw [stepLocal_keep (by rw [ho]; rfl) (hacts h)]; exact ho⟩
  · obtain rfl : ps.handles.length = h := Option.some.inj ((if_pos hfd).symm.trans hh)
    refine ⟨⟨off0, wr0, ?_⟩, fun e => ?_⟩
    · rw [stepLocal_obj, show predict (s.view ps) (.dupfd h0) = .ok ps.handles.length from rfl,
        core_dupfd_ok (w := s.view ps) ho0, obj_newHandle]
      exact if_pos rfl
    · exact Nat.lt_irrefl _ (Option.some.inj (hfd.symm.trans e) ▸ lt_of_obj_ne_closed (s.view ps) h0 (by rw [view_obj, ho0]; nofun))

theorem wr_fdopen {h0 : Handle} {g : Nat} (hW : WrOK ps g s.fs) (hlt : g < s.fs.nextFid)
    (hdup : (locOf ps.trace).dup = some h0) (hst : (locOf ps.trace).st = none) :
    WrOK (stepLocal s ps (.fdopen h0) k) g (stepCall s a ps (.fdopen h0) k).fs := by
  obtain ⟨f, hf, d, ct⟩ := hW.split
  obtain ⟨⟨off0, wr0, ho0⟩, hfdne⟩ := d.2 h0 hdup
  refine wrOK_step ((stepCall_file_same (c := .fdopen h0) hlt True.intro).trans hf)
    (d.frame (fun h hh => hh) (fun h hh => (clr_eq_some hh).1) fun h hg hh => stepLocal_keep hg fun e => ?_)
    ⟨fun h hh => ?_, fun hh => ?_⟩
  · obtain rfl : h0 = h := Option.some.inj e
    exact hh.elim hfdne fun hh => (clr_eq_some hh).2 rfl
  · obtain rfl : h0 = h := Option.some.inj ((if_pos hdup).symm.trans hh)
    refine ⟨[], ?_, (List.append_nil _).trans (ct.2 hst)⟩
    rw [stepLocal_obj, show predict (s.view ps) (.fdopen h0) = .ok 0 from rfl, core_fdopen_ok (w := s.view ps) ho0, obj_setObj]
    exact if_pos ⟨rfl, lt_of_obj_ne_closed (s.view ps) h0 (by rw [view_obj, ho0]; nofun)⟩
  · cases (if_pos hdup).symm.trans hh

/-- A call on the stream `h0` of the name in flight: the descriptors are other handles, the slots `fd` and `dup` stay;
what is left to say is the new file and the `Cont` half. -/
theorem wrOK_stream {h0 : Handle} {g : Nat} {buf0 : Bytes} {f' : File} (d : Descr (locOf ps.trace) ps.handles g)
    (ho0 : ps.handles.getD h0 .closed = .stream g buf0) (hact : actsOn c = some h0)
    (hfd : (locUpd (locOf ps.trace) (c, predict (s.view ps) c)).fd = (locOf ps.trace).fd)
    (hdup : ∀ h, (locUpd (locOf ps.trace) (c, predict (s.view ps) c)).dup = some h → (locOf ps.trace).dup = some h)
    (hf' : (stepCall s a ps c k).fs.file g = some f')
    (ct' : Cont (locUpd (locOf ps.trace) (c, predict (s.view ps) c)) (stepLocal s ps c k).handles g f') :
    WrOK (stepLocal s ps c k) g (stepCall s a ps c k).fs := by
  refine wrOK_step hf' (d.frame (fun h hh => hfd ▸ hh) hdup fun h hg hh => stepLocal_keep hg ?_) ct'
  rw [hact]
  intro e
  obtain rfl : h0 = h := Option.some.inj e
  exact hh.elim (fun hh => (d.not_stream ho0).1 (hfd ▸ hh)) fun hh => (d.not_stream ho0).2 (hdup _ hh)

/-- `fprintf` hands `Δ` to the stream, `fflush` / `fclose` move the buffer into the file, `fsync` moves nothing: file and
buffer together grow by what the call hands over. -/
theorem wr_stream_call {h0 : Handle} {g : Nat} {Δ : Bytes} (hW : WrOK ps g s.fs) (hst : (locOf ps.trace).st = some h0)
    (hc : c = .fprintf h0 Δ ∨ Δ = [] ∧ (c = .fflush h0 ∨ c = .fsync h0 ∨ c = .fclose h0)) :
    WrOK (stepLocal s ps c k) g (stepCall s a ps c k).fs := by
  obtain ⟨f, hf, d, ct⟩ := hW.split
  obtain ⟨buf0, ho0, hb0⟩ := ct.1 h0 hst
  have hl0 : h0 < (s.view ps).handles.length := lt_of_obj_ne_closed _ _ (by rw [view_obj, ho0]; nofun)
  have hone : ∀ {h}, (locOf ps.trace).st = some h → h0 = h := fun hh => Option.some.inj (hst.symm.trans hh)
  rcases hc with rfl | ⟨rfl, rfl | rfl | rfl⟩
  · have hloc : locUpd (locOf ps.trace) (.fprintf h0 Δ, predict (s.view ps) (.fprintf h0 Δ)) =
        { locOf ps.trace with wr := (locOf ps.trace).wr ++ Δ } := if_pos hst
    have hcore : core (s.view ps) (.fprintf h0 Δ) (predict (s.view ps) (.fprintf h0 Δ)) = _ :=
      core_fprintf_ok (w := s.view ps) ho0 Δ
    refine wrOK_stream d ho0 rfl (by rw [hloc]) (fun h hh => by rw [hloc] at hh; exact hh)
      (f' := f) (by rw [stepCall_file, hcore]; exact hf) ?_
    rw [hloc]
    refine ⟨fun h hh => ?_, fun hh => by cases hst.symm.trans hh⟩
    obtain rfl := hone hh
    refine ⟨buf0 ++ Δ, ?_, by rw [← List.append_assoc, hb0]⟩
    rw [stepLocal_obj, hcore, obj_setObj]
    exact if_pos ⟨rfl, hl0⟩
  · have hcore : core (s.view ps) (.fflush h0) (predict (s.view ps) (.fflush h0)) = _ :=
      core_fflush_ok (w := s.view ps) ho0 hf 0
    refine wrOK_stream d ho0 rfl rfl (fun h hh => hh) (f' := { f with data := f.data ++ buf0 }) ?_
      ⟨fun h hh => ?_, fun hh => by cases hst.symm.trans hh⟩
    · rw [stepCall_file, hcore]; simp [file_setFile]
    obtain rfl := hone hh
    refine ⟨[], ?_, (List.append_nil _).trans hb0⟩
    rw [stepLocal_obj, hcore, obj_setObj]
    exact if_pos ⟨rfl, hl0⟩
  · have hcore : core (s.view ps) (.fsync h0) (predict (s.view ps) (.fsync h0)) = _ :=
      core_fsync_stream_ok (w := s.view ps) ho0 hf 0
    refine wrOK_stream d ho0 rfl rfl (fun h hh => hh) (f' := { f with durable := f.data }) ?_
      ⟨fun h hh => ?_, fun hh => by cases hst.symm.trans hh⟩
    · rw [stepCall_file, hcore]; simp [file_setFile]
    obtain rfl := hone hh
    exact ⟨buf0, by rw [stepLocal_obj, hcore]; exact ho0, hb0⟩
  · have hcore : core (s.view ps) (.fclose h0) (predict (s.view ps) (.fclose h0)) = _ :=
      core_fclose_stream (w := s.view ps) ho0 hf (.ok 0)
    refine wrOK_stream d ho0 rfl rfl (fun h hh => (clr_eq_some hh).1) (f' := { f with data := f.data ++ buf0 }) ?_
      ⟨fun h hh => absurd (hone (clr_eq_some hh).1).symm (clr_eq_some hh).2, fun _ => hb0⟩
    rw [stepCall_file, hcore]; simp [Res.isErr, file_setFile]

end Mdsort.Proofs.Parties
