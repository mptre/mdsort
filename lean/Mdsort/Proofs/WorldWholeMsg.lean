import Mdsort.Proofs.WorldWholeParse
import Mdsort.Proofs.WorldVerdict

/-!
# `processMessage` under EVERY fault plan

The registry `st.files` of the main loop (directory, name -> content) is kept consistent with the world (`WholeReg`).
Processing one message keeps every other registered entry as it is after every call (the frame `WholeK`), re-establishes the
registry for the state it returns, and - when that state has no error flag - has put the message where the rules say
(`WholeDone`).  That a complete version of the message itself stays bound somewhere after every call is the walk by lineage
(WorldLinMsg).
-/

namespace Mdsort.Proofs
open Mdsort Mdsort.Model
open Mdsort.Proofs.World (wp wp_inv_mono wp_bind_mono wp_call_any WholeK WholePF WholeSt At Ent GoodAt call_bind)

/-- Every registered message is bound under its registered name to a file (below `nextFid`) that
holds exactly the registered content, visibly and durably. -/
def WholeReg (w : World) (files : Files) : Prop :=
  ∀ dir name c, files.get dir name = some c →
    ∃ fid, w.lookup dir name = some fid ∧ fid < w.nextFid ∧ w.file fid = some ⟨c, c⟩

/-- Decidable form of `WholeReg`. -/
def wholeRegOk (w : World) (files : Files) : Bool :=
  files.all fun e =>
    match w.lookup e.1 e.2.1 with
    | some fid => decide (fid < w.nextFid) && decide (w.file fid = some ⟨e.2.2, e.2.2⟩)
    | none => false

theorem whole_reg_of_ok {w : World} {files : Files} (h : wholeRegOk w files = true) : WholeReg w files := by
  intro dir name c hc
  unfold Files.get at hc
  simp only [Option.map_eq_some_iff] at hc
  obtain ⟨e, he, rfl⟩ := hc
  have hmem := List.mem_of_find?_eq_some he
  have hp := List.find?_some he
  simp only [Bool.and_eq_true, beq_iff_eq] at hp
  unfold wholeRegOk at h
  rw [List.all_eq_true] at h
  have hthis := h e hmem
  rw [hp.1, hp.2] at hthis
  split at hthis
  · rename_i fid hl
    simp only [Bool.and_eq_true, decide_eq_true_eq] at hthis
    exact ⟨fid, hl, hthis.1, hthis.2⟩
  · cases hthis

/-- The complete version a verdict produces for a file with content `c` (`c` itself when the rules do not act on
it): what `message_write` renders from the interpolated message. -/
def wholeRewriteV : Verdict → Bytes → Bytes
  | .act _ msgs _, _ => (messageWrite (msgs 0)).1
  | _, c => c

/-- The complete version the actions of `expr` produce for the file `name` of `dir` with content `c` when the
operating system answers the questions of evaluation with `as` (`command`, `isdirectory`, file-time `date`
conditions; for a rule tree without them the answers are irrelevant, `wholeRewrite_asksFree`). -/
def wholeRewrite (env : PEnv) (orc : EvalOracles) (expr : Expr) (dir name c : Bytes) (as : List SysAns) : Bytes :=
  wholeRewriteV (verdictA env orc expr dir name c as) c

theorem wholeRewrite_asksFree (env : PEnv) (orc : EvalOracles) (expr : Expr) (h : asksFree expr = true) (dir name c : Bytes)
    (as : List SysAns) : wholeRewrite env orc expr dir name c as = wholeRewriteV (verdict env orc expr dir name c) c := by
  unfold wholeRewrite; rw [verdictA_asksFree env orc expr h]

/-- No file of any name and content makes `expr` produce a discard action, whatever the operating system answers. -/
def WholeNoDiscard (env : PEnv) (orc : EvalOracles) (expr : Expr) : Prop :=
  ∀ dir name c as ml msgs fl, verdictA env orc expr dir name c as = .act ml msgs fl → NoDiscard ml

theorem WholeReg.of_pf {wP w' : World} {files : Files} (h : WholeReg wP files) (pf : WholePF wP w') : WholeReg w' files := by
  intro dir name c hc
  obtain ⟨fid, h1, h2, h3⟩ := h dir name c hc
  exact ⟨fid, by rw [World.lookup_of_dirs pf.dirs]; exact h1, by rw [pf.nextFid]; exact h2,
    by rw [World.file_of_files pf.files]; exact h3⟩

theorem whole_goodAt_keep {a : Ent} {H : Nat} {w w' : World} {cs : List Bytes} {p n : Bytes} {fid : Nat}
    (hg : GoodAt w cs p n fid) (k : WholeK a H w w') (hne : (p, n) ≠ a) : GoodAt w' cs p n fid := by
  obtain ⟨h1, h2, f, h3, h4, h5⟩ := hg
  exact ⟨k.look (p, n) fid hne h1, Nat.lt_of_lt_of_le h2 k.nextFid, f, (k.files fid h2).trans h3, h4, h5⟩

/-- What `processMessage` has done when it returns without the error flag, for the verdict `v` of the rules in that run.  No
match, and an action list in a dry run (which logs its lines): registry and entries are as they were.  An action list that was
executed: the message's entry went to an entry `n` of the last destination (`Delta`), bound to a complete file with the
rewritten message if there is a label or add-header action, and the registry has moved it there.  An error verdict does
not occur. -/
def WholeDone (env : PEnv) (wP : World) (md : Maildir) (name content : Bytes) (st : MainSt) (r : MainSt × Maildir) (w' : World) :
    Verdict → Prop
  | .act ml msgs _ =>
    r.1.log = st.log ++ inspectLines env ml (md.path ++ [47] ++ name) ∧
    if env.dryrun = true then r.1.files = st.files ∧ World.Delta wP w' (md.path, name) (md.path, name)
    else ∃ n c' fid, r.1.files = (st.files.del md.path name).put (World.finalDir ml md.path) n c' ∧
      World.Delta wP w' (md.path, name) (World.finalDir ml md.path, n) ∧
      w'.lookup (World.finalDir ml md.path) n = some fid ∧ w'.file fid = some ⟨c', c'⟩ ∧
      (World.rewrites ml = true → c' = (messageWrite (msgs 0)).1) ∧ (c' = content ∨ c' = (messageWrite (msgs 0)).1)
  | .nomatch => r.1.files = st.files ∧ r.1.log = st.log ∧ World.Delta wP w' (md.path, name) (md.path, name)
  | _ => False

def WholePMPost (env : PEnv) (orc : EvalOracles) (expr : Expr) (wP : World) (md : Maildir) (name content : Bytes) (st : MainSt)
    (r : MainSt × Maildir) (w' : World) : Prop :=
  r.2 = md ∧ WholeK (md.path, name) wP.handles.length wP w' ∧
  (WholeReg wP st.files → WholeReg w' r.1.files) ∧
  (r.1.error = false → ∃ as, WholeDone env wP md name content st r w' (verdictA env orc expr md.path name content as))

theorem World.WholePF.delta {wP w' : World} (pf : WholePF wP w') (a : Ent) : World.Delta wP w' a a :=
  ⟨pf.len, Nat.le_of_eq pf.nextFid.symm, fun g _ => World.file_of_files pf.files g, fun q => by rw [World.dir_of_dirs pf.dirs],
    fun x _ _ => World.lookup_of_dirs pf.dirs x.1 x.2, fun h => absurd rfl h, fun h => absurd rfl h⟩

theorem whole_post_of_pf {env : PEnv} {orc : EvalOracles} {expr : Expr} {wP w' : World} {md : Maildir} {name content : Bytes}
    {st : MainSt} (pf : WholePF wP w') (r : MainSt × Maildir)
    (h1 : r.1.files = st.files) (h2 : r.2 = md)
    (h3 : r.1.error = false → ∃ as, WholeDone env wP md name content st r w' (verdictA env orc expr md.path name content as)) :
    WholePMPost env orc expr wP md name content st r w' :=
  ⟨h2, pf.toK _, fun hreg => by rw [h1]; exact hreg.of_pf pf, h3⟩

theorem whole_post_of_exec {env : PEnv} {orc : EvalOracles} {expr : Expr} {wP w0 w2 : World} {md : Maildir} {name content : Bytes}
    {st : MainSt} {xs : ExecSt} {ml : MatchList} {msgs : Nat → Msg} {fl : MFlags} {as : List SysAns}
    (hvd : verdictA env orc expr md.path name content as = .act ml msgs fl)
    (k2 : WholeK (md.path, name) wP.handles.length wP w2)
    (hS2 : WholeSt w0 (md.path, name) wP.handles.length (msgs 0) content w2 xs)
    (st' : MainSt) (hfiles : st'.files = afterExec st.files md.path name xs.ms)
    (hdone : st'.error = false → WholeDone env wP md name content st (st', md) w2 (.act ml msgs fl)) :
    WholePMPost env orc expr wP md name content st (st', md) w2 := by
  refine ⟨rfl, k2, fun hreg => ?_, fun he => ⟨as, by rw [hvd]; exact hdone he⟩⟩
  obtain ⟨⟨p, n⟩, ⟨hloc, fid', hlk', hlt', hf'⟩, -⟩ := hS2.loc
  have hfs : st'.files = (st.files.del md.path name).put p n xs.ms.content := by
    rw [hfiles]; unfold afterExec; rw [hloc]
  intro dir nm c hc
  rw [hfs, Files.whole_get_put] at hc
  by_cases h : dir = p ∧ nm = n
  · obtain ⟨rfl, rfl⟩ := h
    simp only [and_self, if_true, Option.some.injEq] at hc
    subst hc
    exact ⟨fid', hlk', hlt', hf'⟩
  · simp only [h, if_false] at hc
    rw [Files.whole_get_del] at hc
    by_cases h0 : dir = md.path ∧ nm = name
    · simp only [h0, and_self, if_true] at hc; cases hc
    · simp only [h0, if_false] at hc
      obtain ⟨fid, h1, h2, h3⟩ := hreg dir nm c hc
      have hne : (dir, nm) ≠ (md.path, name) := by
        intro hh; cases hh; exact h0 ⟨rfl, rfl⟩
      exact ⟨fid, k2.look (dir, nm) fid hne h1, Nat.lt_of_lt_of_le h2 k2.nextFid, (k2.files fid h2).trans h3⟩

/-- The rules must not discard unless the run is a dry run, in which nothing is executed. -/
theorem whole_processMessage (env : PEnv) (orc : EvalOracles) (expr : Expr) (md : Maildir) (name : Bytes) (st : MainSt)
    {wP : World} {d : Handle} {content : Bytes}
    (hd : md.dirH = some d) (hp : wP.dirPath d = some md.path)
    (hwf : pathjoin PATH_MAX md.root (subdirName md.subdir) = some md.path)
    (hfc : st.files.get md.path name = some content) {fid : Nat}
    (hl : wP.lookup md.path name = some fid) (hlt : fid < wP.nextFid) (hf : wP.file fid = some ⟨content, content⟩)
    (hnd : env.dryrun = false → WholeNoDiscard env orc expr) :
    wp (WholeK (md.path, name) wP.handles.length wP)
      (processMessage env orc expr md name st) (WholePMPost env orc expr wP md name content st) wP := by
  rw [processMessage_eq env orc expr md name st d content hd hfc]
  have inv0 : ∀ w', WholePF wP w' → WholeK (md.path, name) wP.handles.length wP w' := fun w' pf => pf.toK _
  refine wp_bind_mono (wp_inv_mono (whole_wp_all (World.whole_messageParseP d md.path name content)
    (all_messageParseP_as d md.path name content)) inv0) ?_
  rintro pm w00 ⟨⟨pf00, hms⟩, hpa⟩
  cases pm with
  | none => exact whole_post_of_pf pf00 _ rfl rfl nofun
  | some ms =>
    simp only [afterParse]
    obtain ⟨h1, h2, h3, h4, h5'⟩ := hms ms rfl
    obtain ⟨p, mf, hpj, -, -, -, hpath, -⟩ := hpa ms rfl
    have hp' : ms.path = md.path ++ [47] ++ name := by rw [hpath]; exact World.pathjoin_eq hpj
    -- evaluation: the footprint of the parse phase is kept
    refine wp_bind_mono (wp_inv_mono (World.wp_evalFoot (msgEnv env orc ms.path) expr ms.msg ms.flags w00)
      (fun w' ef => inv0 w' (pf00.trans ef.pf))) ?_
    rintro ev w0 ⟨ef, as, hev⟩
    have pf : WholePF wP w0 := pf00.trans ef.pf
    have h5 : wP.handles.length < w0.handles.length := Nat.lt_of_lt_of_le h5' ef.len
    have hv : evVerdict env orc ms ev = verdictA env orc expr md.path name content as := by
      rw [hev]; exact msVerdictA_of_parsed env orc expr md.path name content ms hpa as
    rw [hv]
    -- closing the descriptor when nothing is executed
    have freePF : ∀ (ms' : MsgSt) (r : MainSt × Maildir), ms'.fd = ms.fd → r.1.files = st.files → r.2 = md →
        (r.1.error = false → ∀ w', World.Delta wP w' (md.path, name) (md.path, name) →
          WholeDone env wP md name content st r w' (verdictA env orc expr md.path name content as)) →
        wp (WholeK (md.path, name) wP.handles.length wP)
          ((freeP ms').bind fun _ => Prog.ret r) (WholePMPost env orc expr wP md name content st) w0 := by
      intro ms' r hfd hr1 hr2 hr3
      unfold freeP
      rw [hfd, h4]
      simp only [call_bind]
      refine wp_call_any fun rc => ?_
      have pf1 : WholePF wP (stepWorld w0 (.close wP.handles.length) rc) :=
        WholePF.step_of_core (World.core_close w0 _ rc) (pf.setObj (Nat.le_refl _) World.whole_nonW_closed)
      exact ⟨inv0 _ pf1, whole_post_of_pf pf1 r hr1 hr2 fun he => ⟨as, hr3 he _ (pf1.delta _)⟩⟩
    cases hvd : verdictA env orc expr md.path name content as with
    | unparsable => simp only [afterVerdict]; exact freePF ms _ rfl rfl rfl nofun
    | error => simp only [afterVerdict]; exact freePF ms _ rfl rfl rfl nofun
    | interpFail => simp only [afterVerdict]; exact freePF ms _ rfl rfl rfl nofun
    | «nomatch» => simp only [afterVerdict]; exact freePF ms _ rfl rfl rfl fun _ _ dl => by rw [hvd]; exact ⟨rfl, rfl, dl⟩
    | act ml msgs fl =>
      simp only [afterVerdict]
      split
      · rename_i hdry
        exact freePF _ _ rfl rfl rfl fun _ _ dl => by rw [hvd]; exact ⟨by rw [hp'], by rw [if_pos hdry]; exact ⟨rfl, dl⟩⟩
      · -- the action list is executed
        rename_i hdry
        subst h1 h3
        have hml : NoDiscard ml := hnd (by simpa using hdry) md.path _ _ as ml msgs fl hvd
        have hdlt : d < wP.handles.length := World.lt_of_dirPath hp
        have hps0 : w0.dirPath d = some md.path := by rw [← hp]; exact World.dirPath_congr (pf.objs d hdlt)
        have hA : At w0 { src := md, chsrc := false, ms := { ms with msg := msgs 0, flags := fl }, reject := false } d fid := by
          refine ⟨hd, hps0, hwf, h2, (World.lookup_of_dirs pf.dirs _ _).trans hl, by rw [pf.nextFid]; exact hlt,
            (World.file_of_files pf.files fid).trans hf, ?_⟩
          intro h hh
          cases h4.symm.trans hh
          exact ⟨h5, Ne.symm (Nat.ne_of_lt hdlt)⟩
        have hfdc : ∀ h, ms.fd = some h → wP.handles.length ≤ h := by
          intro h hh
          cases h4.symm.trans hh
          exact Nat.le_refl _
        have k0 : WholeK (md.path, ms.name) wP.handles.length wP w0 := pf.toK _
        have kexec := World.whole_matchesExec (H := wP.handles.length) env ml _ hA
          ⟨⟨_, hA.located, .inl rfl⟩, hfdc, nofun, rfl, .inl rfl⟩ pf.len hml
        refine wp_bind_mono (wp_inv_mono kexec fun w' k => k0.trans k (.inl rfl) (Nat.le_refl _)) ?_
        rintro x w1 ⟨⟨k1, hS1⟩, hfin1⟩
        have k01 : WholeK (md.path, ms.name) wP.handles.length wP w1 := k0.trans k1 (.inl rfl) (Nat.le_refl _)
        refine wp_bind_mono (R := fun _ w2 => WholeK (md.path, ms.name) wP.handles.length wP w2 ∧
          WholeSt w0 (md.path, ms.name) wP.handles.length (msgs 0) ms.content w2 x.1 ∧
          (x.2 = false → World.FinalPost w0 ml
            { src := md, chsrc := false, ms := { ms with msg := msgs 0, flags := fl }, reject := false } x w2)) ?_ ?_
        · unfold freeP
          split
          · rename_i h hh
            simp only [call_bind]
            refine wp_call_any fun rc => ?_
            have k2 := k01.step (.close h) rc rfl (by intro h' hh'; cases hh'; exact hS1.fdCut h hh) (fun _ _ => trivial)
            exact ⟨k2, k2, hS1.step _ rc rfl (fun _ => trivial), fun he => (hfin1 he).step _ rc rfl (fun _ => trivial)⟩
          · exact ⟨k01, hS1, hfin1⟩
        · rintro _ w2 ⟨k2, hS2, hfin2⟩
          refine whole_post_of_exec hvd k2 hS2 _ rfl fun he => ⟨by rw [hp'], ?_⟩
          -- no error flag: the list returned no error, so the entries changed exactly
          have hx2 : x.2 = false := (Bool.or_eq_false_iff.1 he).2
          obtain ⟨⟨nd, n⟩, ⟨hl2, fid2, hlk2, -, hf2⟩, dl, -, hcont, hfin⟩ := hfin2 hx2
          obtain ⟨rfl, hrwc⟩ := hfin hx2
          rw [if_neg hdry]
          refine ⟨n, x.1.ms.content, fid2, ?_, (pf.delta _).trans dl, hlk2, hf2, hrwc, hcont⟩
          show afterExec _ md.path ms.name x.1.ms = _
          unfold afterExec
          rw [hl2]

end Mdsort.Proofs
