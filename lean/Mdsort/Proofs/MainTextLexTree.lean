import Mdsort.Proofs.ConfErrors

/-!
# No accepted configuration holds a token the lexer diagnosed

The lexer-level error classes as statements about whole files: every tree of an accepted configuration
is `treeClean` - no pattern carries both `l` and `u`, every age is `n * unit` with `n` below 2^32 and
`unit` one of the values of `Gen.scalars`.  The invariant "the lookahead token is clean" (`laClean`) is one of the
three that Proofs/ConfSpec1-2.lean carry through every function of the parser; `peek` establishes it
because the lexer returned without a diagnostic (`mt_lex_clean`), and it fails otherwise.
-/

namespace Mdsort.Proofs.MainText
open Mdsort Mdsort.Model Mdsort.Proofs.Conf

theorem accepted_treeClean {home : Bytes} {defs : List (Bytes × Bytes)} {rx : Pat → Bool} {input : Bytes}
    {blocks : List PBlock} (h : parseConfig home defs rx input = .ok blocks) : ∀ b ∈ blocks, treeClean b.tree :=
  fun b hb => (((parseConfigFull_acc home defs rx input).2.2 blocks h).1 b hb).2

theorem treeClean_nodes (t : CTree) (h : treeClean t) : ∀ n ∈ Spec.nodes t, treeClean n :=
  forall_nodes (P := treeClean) (fun _ _ h => h) (fun _ _ h => h) (fun _ _ h => h) (fun _ _ h => h)
    (fun _ _ _ h => h) (fun _ _ _ h => h) (fun _ _ _ h => h) t h

/-- Node form: every leaf of every block of an accepted configuration. -/
theorem accepted_leaf_clean {home : Bytes} {defs : List (Bytes × Bytes)} {rx : Pat → Bool} {input : Bytes} {e : Expr}
    (h : AcceptedNode home defs rx input (.leaf e)) : leafClean e := by
  obtain ⟨blocks, b, hok, hb, hn⟩ := h
  exact treeClean_nodes b.tree (accepted_treeClean hok b hb) _ hn

/-- For the non-vacuity examples: the result is an acceptance with a `date` leaf and a `body` leaf. -/
def mt_hasDateAndBody : ParseResult → Bool
  | .ok blocks =>
    (blocks.any fun b => (Spec.nodes b.tree).any fun n => match n with | .leaf (.date ..) => true | _ => false) &&
    (blocks.any fun b => (Spec.nodes b.tree).any fun n => match n with | .leaf (.body ..) => true | _ => false)
  | _ => false

theorem acceptedLeaves_of {home : Bytes} {defs : List (Bytes × Bytes)} {rx : Pat → Bool} {input : Bytes}
    (h : mt_hasDateAndBody (parseConfig home defs rx input) = true) :
    (∃ l f c age, AcceptedNode home defs rx input (.leaf (.date l f c age))) ∧
    (∃ l p, AcceptedNode home defs rx input (.leaf (.body l p))) := by
  cases hr : parseConfig home defs rx input with
  | ok blocks =>
    rw [hr] at h
    simp only [mt_hasDateAndBody, Bool.and_eq_true, List.any_eq_true] at h
    obtain ⟨⟨b1, hb1, n1, hn1, hm1⟩, ⟨b2, hb2, n2, hn2, hm2⟩⟩ := h
    constructor
    · cases n1 with
      | leaf e =>
        cases e <;> simp only [Bool.false_eq_true] at hm1
        exact ⟨_, _, _, _, blocks, b1, hr, hb1, hn1⟩
      | _ => simp only [Bool.false_eq_true] at hm1
    · cases n2 with
      | leaf e =>
        cases e <;> simp only [Bool.false_eq_true] at hm2
        exact ⟨_, _, blocks, b2, hr, hb2, hn2⟩
      | _ => simp only [Bool.false_eq_true] at hm2
  | error l => rw [hr] at h; cases h
  | invalidDefs => rw [hr] at h; cases h
  | fuel => rw [hr] at h; cases h

end Mdsort.Proofs.MainText
