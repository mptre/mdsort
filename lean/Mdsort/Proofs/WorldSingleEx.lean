import Mdsort.Proofs.WorldWholeParse
import Mdsort.Proofs.WorldSingle
import Mdsort.Proofs.WorldSingleReport

/-! A concrete start situation for the non-vacuity examples of the single-fault statements:
maildir `/m` with `new/1.h` holding `A: b\n\nx`, open at handle 3, the message's descriptor at
handle 4; the action list moves it to `/m/cur` and labels it. -/

namespace Mdsort.Proofs
open Mdsort Mdsort.Model

def exOrig : Bytes := [65, 58, 32, 98, 10, 10, 120]

def exNew : Bytes := [47, 109, 47, 110, 101, 119]
def exCur : Bytes := [47, 109, 47, 99, 117, 114]
def exName : Bytes := [49, 46, 104]

def exMd : Maildir :=
  { root := [47, 109], path := exNew, dirH := some 3, subdir := .new, walk := true, stdin := false }

def exMs : MsgSt :=
  { name := exName, path := exNew ++ [47] ++ exName, fd := some 4,
    msg := { headers := [⟨0, [65], [98]⟩], body := [120] }, parts := [], flags := ⟨0, 0⟩,
    loc := some (exNew, exName), content := exOrig }

def exSt : ExecSt := { src := exMd, chsrc := false, ms := exMs, reject := false }

def exWorld : World :=
  { dirs := [(exNew, [(exName, 0)]), (exCur, [])],
    files := [(0, ⟨exOrig, exOrig⟩)], nextFid := 1,
    handles := [.other, .other, .other, .dir exNew none 0, .file 0 0 false], devs := [], trace := [] }

def exList : MatchList :=
  [{ ty := .move, lno := 1, part := 0, path := exCur }, { ty := .label, lno := 2, part := 0 }]

def exDiscard : Match := { ty := .discard, lno := 1, part := 0 }

def exEnv : PEnv where
  now := 1700000000
  pid := 42
  host := [104]
  random := 7
  tmpdir := [47, 116]
  home := [47, 104]
  confpath := [47, 99]
  dryrun := false
  syntaxOnly := false
  stdinMode := false

/-- The exclusions of "a failure is reported" are necessary: in the example run call 1 is the
`fstatat` of `maildir_move`, call 4 the `close` of the placeholder descriptor, call 18 the `close` of the
message's previous descriptor after the rewrite; failing any one of them with `EIO` leaves the error flag clear.  The same holds for
`EEXIST` at the exclusive create (call 2) and `EXDEV` at the rename (call 3): they are handled. -/
theorem ex_ignored_sites :
    [(1, "EIO"), (4, "EIO"), (18, "EIO"), (2, "EEXIST"), (3, "EXDEV")].all (fun (ie : Nat × String) =>
      let r := runPlan (World.singlePlan ie.1 (.fail ie.2)) (matchesExec exEnv exList exSt) exWorld 0 []
      (r.2.1.trace[ie.1]?.map fun x => (World.ignoredSite x.1 || World.handledErr x.1 ie.2) && x.2 == .err ie.2) == some true
        && r.1.2 == false) = true := by
  decide +kernel

theorem ex_start : Start exWorld exSt exOrig :=
  have c := wholeClean_of_ok (w := exWorld) (by decide)
  ⟨⟨3, rfl, by decide⟩, ⟨0, by decide, by decide⟩, c.noWriters, c.noStreams, c.freshIds, c.uniqueNames⟩

theorem ex_startAt : StartAt exWorld exSt exOrig := by
  refine ⟨ex_start, by decide, rfl, rfl, ?_⟩
  intro h hh
  cases hh
  exact ⟨by decide, by decide⟩

theorem ex_noDiscard : NoDiscard exList := by
  intro m hm
  simp only [exList, List.mem_cons, List.not_mem_nil, or_false] at hm
  rcases hm with rfl | rfl <;> decide

end Mdsort.Proofs
