import Mdsort.Proofs.WorldLinTop
import Mdsort.Proofs.WorldWholeEx

/-!
# Lineage: a world with TWO BYTE-IDENTICAL messages

Maildir `/m` with `new/1.h` (file 0) and `new/2.h` (file 1), both holding `A: b\n\nx`.  Every by-content statement
about message 1 is also satisfied by message 2; the by-lineage statements tell them apart.  Evaluated: the action list
`move "/m/cur"`, `label` on message 1 without a fault, with one and with two faults (`twin_exec_runs`).  The message
handed to the list is the parse of `exOrig` unchanged, so the copy `label` writes holds the same bytes
(`(messageWrite exMs.msg).1 = exOrig`): the runs show which FILE an entry is bound to and what it descends from, they do not
tell the second element of `stages` from the first.  Whole runs of `mainP` are not evaluated here: `readdir` sorts with
`List.mergeSort`, which the kernel does not unfold.
-/

namespace Mdsort.Proofs
open Mdsort Mdsort.Model

def twinWorld : World :=
  { dirs := [(exNew, [(exName, 0), (wholeExName2, 1)]), (exCur, [])],
    files := [(0, ⟨exOrig, exOrig⟩), (1, ⟨exOrig, exOrig⟩)], nextFid := 2,
    handles := [.other, .other, .other], devs := [], trace := [] }

def twinFiles : Files := [(exNew, exName, exOrig), (exNew, wholeExName2, exOrig)]

theorem twin_reg : WholeReg twinWorld twinFiles := whole_reg_of_ok (by decide)

/-- The entries of `w'` with the file each is bound to and the file of `w` that file descends from, for the lineage
that starts with `l0` in `w`. -/
def entryOrigins (w : World) (l0 : Lin) (w' : World) : List (Bytes × Bytes × Nat × Nat) :=
  w'.dirs.flatMap fun d => d.2.map fun e => (d.1, e.1, e.2, (lineage w l0 (traceSince w w')).org e.2)

/-- The name `1700000000.42_<k>.h:2,S` `maildir_genname` makes in the example. -/
def twinName (k : Nat) : Bytes := ofString "1700000000.42_" ++ decimal k ++ ofString ".h:2,S"

/-- The plan that fails exactly the calls of `ks` with `EIO`. -/
def failAt (ks : List Nat) : Plan := fun k => if ks.contains k then some (.fail "EIO") else none

/-- The twin world when `matches_exec` starts on message 1: `/m/new` open at handle 3, the message at handle 4. -/
def twinExecWorld : World := { twinWorld with handles := [.other, .other, .other, .dir exNew none 0, .file 0 0 false] }

theorem twin_start : Start twinExecWorld exSt exOrig :=
  have c := wholeClean_of_ok (w := twinExecWorld) (by decide)
  ⟨⟨3, rfl, by decide⟩, ⟨0, by decide, by decide⟩, c.noWriters, c.noStreams, c.freshIds, c.uniqueNames⟩

theorem twin_startAt : StartAt twinExecWorld exSt exOrig := by
  refine ⟨twin_start, by decide, rfl, rfl, ?_⟩
  intro h hh
  cases hh
  exact ⟨by decide, by decide⟩

theorem twin_entries {q m : Bytes} {g : Nat} (hl : twinExecWorld.lookup q m = some g) :
    (q, m, g) = (exNew, exName, 0) ∨ (q, m, g) = (exNew, wholeExName2, 1) := by
  obtain ⟨es, hdm, hem⟩ := mem_dirs_of_lookup hl
  simp only [twinExecWorld, twinWorld, List.mem_cons, List.not_mem_nil, or_false, Prod.mk.injEq] at hdm
  rcases hdm with ⟨rfl, rfl⟩ | ⟨rfl, rfl⟩
  · simp only [List.mem_cons, List.not_mem_nil, or_false, Prod.mk.injEq] at hem
    rcases hem with ⟨rfl, rfl⟩ | ⟨rfl, rfl⟩
    · exact .inl rfl
    · exact .inr rfl
  · cases hem

/-- Every entry is bound to an existing file, and file 0 has no second link. -/
theorem twin_wf : (∀ q m g, twinExecWorld.lookup q m = some g → g < twinExecWorld.nextFid) ∧
    (∀ q m, twinExecWorld.lookup q m = some 0 → (q, m) = (exSt.src.path, exSt.ms.name)) := by
  refine ⟨?_, ?_⟩
  · intro q m g hl
    rcases twin_entries hl with h | h <;> cases h <;> decide
  · intro q m hl
    rcases twin_entries hl with h | h
    · cases h; rfl
    · cases h

/-- No fault: message 1 is now the labelled copy `/m/cur/..._9` - file 3, which DESCENDS FROM file 0; message 2 (file 1,
same bytes) is where it was, under its own lineage.  With the unlink of the original failing (call 16) the roll-back
removes the copy and the original (renamed to `/m/cur/..._8`) stays; with the roll-back failing too (calls 16, 17) both
the original AND the complete copy remain - two entries of ONE lineage (a duplicate by lineage, not just by content). -/
theorem twin_exec_runs :
    entryOrigins twinExecWorld ⟨some 0, id⟩ (runPlan Plan.none (matchesExec exEnv exList exSt) twinExecWorld 0 []).2.1 =
      [(exNew, wholeExName2, 1, 1), (exCur, twinName 9, 3, 0)] ∧
    entryOrigins twinExecWorld ⟨some 0, id⟩ (runPlan (failAt [16]) (matchesExec exEnv exList exSt) twinExecWorld 0 []).2.1 =
      [(exNew, wholeExName2, 1, 1), (exCur, twinName 8, 0, 0)] ∧
    entryOrigins twinExecWorld ⟨some 0, id⟩ (runPlan (failAt [16, 17]) (matchesExec exEnv exList exSt) twinExecWorld 0 []).2.1 =
      [(exNew, wholeExName2, 1, 1), (exCur, twinName 8, 0, 0), (exCur, twinName 9, 3, 0)] := by
  decide +kernel

/-- Why the by-content statement is weaker: remove message 1 from the twin world by hand.  `Intact` for the bytes of
message 1 still holds (message 2 has the same bytes), while no entry descends from file 0. -/
def twinLost : World := { twinWorld with dirs := [(exNew, [(wholeExName2, 1)]), (exCur, [])] }

theorem twin_by_content_is_weaker :
    Intact twinLost [exOrig] ∧ ¬ ∃ p n g, twinLost.lookup p n = some g ∧ originAt twinWorld twinLost g = 0 := by
  refine ⟨⟨exNew, wholeExName2, 1, ⟨exOrig, exOrig⟩, by decide, by decide, by simp⟩, ?_⟩
  rintro ⟨p, n, g, hl, ho⟩
  have hg : g = 0 := ho
  subst hg
  -- the only entry of `twinLost` is bound to file 1
  obtain ⟨es, hdm, hem⟩ := mem_dirs_of_lookup hl
  simp only [twinLost, twinWorld, List.mem_cons, List.not_mem_nil, or_false, Prod.mk.injEq] at hdm
  rcases hdm with ⟨rfl, rfl⟩ | ⟨rfl, rfl⟩
  · simp at hem
  · cases hem

end Mdsort.Proofs
