import Mdsort.Proofs.Qp
import Mdsort.Proofs.B64

/-! RFC 2047: the model of `rfc2047_decode` (decode.c) computes the reference decoder `Spec.rfc2047`, which tokenises the value
into encoded words and literal bytes and drops the white space between adjacent words.
Bytes: 61 `=`, 63 `?` (`=?` opens a word, `?=` closes it), 66/98 `B`/`b`, 81/113 `Q`/`q` (the encoding letter). -/

namespace Mdsort.Proofs
open Mdsort Model Spec

theorem findSub_cons (p : Bytes) (x : UInt8) (r : Bytes) :
    findSub p (x :: r) = if p.isPrefixOf (x :: r) then some 0 else (findSub p r).map (· + 1) := by
  rw [findSub]

theorem splitAtQE_eq (t : Bytes) :
    splitAtQE t = (findSub [63, 61] t).map (fun k => (t.take k, t.drop (k + 2))) := by
  fun_induction splitAtQE t
  -- the empty text; a single byte; `?=` at the head; any other first byte
  case case1 => simp [findSub]
  case case2 => simp [findSub]
  case case3 => simp [findSub]
  case case4 c r _ hne ih =>
    have hp : List.isPrefixOf [63, 61] (c :: r) = false := by
      cases r with
      | nil => simp [List.isPrefixOf]
      | cons y r' =>
        rw [Bool.eq_false_iff]
        intro hp
        simp only [List.isPrefixOf, Bool.and_true, Bool.and_eq_true, beq_iff_eq] at hp
        exact hne r' hp.1.symm (by rw [← hp.2])
    rw [ih, findSub_cons, hp]
    cases findSub [63, 61] r <;> simp

theorem toupper_B : ∀ c : UInt8, (toupper c == 66) = (c == 66 || c == 98) := by
  apply forall_u8; decide +kernel

theorem toupper_Q : ∀ c : UInt8, (toupper c == 81) = (c == 81 || c == 113) := by
  apply forall_u8; decide +kernel

theorem tokBytes_B (t : Bytes) : tokBytes (.word .B t) = base64Decode t := by
  simp [tokBytes, base64Decode, base64DecodeRaw, b64pton_eq_spec]

theorem tokBytes_Q (t : Bytes) : tokBytes (.word .Q t) = some (qpLoop true t []) := by
  simp [tokBytes, qpLoop_eq_spec]


theorem rfc2047Word_eq (es : Bytes) :
    rfc2047Word es = match encodedWord es with
      | none => none
      | some (e, text, rest) => (tokBytes (.word e text)).map (·, rest) := by
  unfold rfc2047Word encodedWord
  rw [strchr_eq]
  cases h : es.dropWhile (fun x => x != 63) with
  | nil => simp
  | cons x q =>
    obtain rfl : x = 63 := List.eq_of_dropWhile_ne_eq_cons h
    cases q with
    | nil => simp
    | cons enc es2 =>
      cases es2 with
      | nil => simp
      | cons x es3 =>
        by_cases hx : x = 63
        · subst hx
          simp only [List.drop_one, List.tail_cons]
          rw [splitAtQE_eq]
          cases findSub [63, 61] es3 with
          | none => simp
          | some len =>
            simp only [Option.map_some]
            have hB := toupper_B enc
            have hQ := toupper_Q enc
            split
            · rename_i hu
              have hb : (enc == 66 || enc == 98) = true := by rw [← hB, hu]; rfl
              simp only [hb, if_true, tokBytes_B]
              cases base64Decode (List.take len es3) <;> simp
            · rename_i hu
              have hb : (enc == 66 || enc == 98) = false := by rw [← hB, hu]; rfl
              have hq : (enc == 81 || enc == 113) = true := by rw [← hQ, hu]; rfl
              simp [hb, hq, tokBytes_Q]
            · rename_i h1 h2
              have hb : (enc == 66 || enc == 98) = false := by
                rw [← hB]; simpa using h1
              have hq : (enc == 81 || enc == 113) = false := by
                rw [← hQ]; simpa using h2
              simp [hb, hq]
        · simp only [List.drop_one, List.tail_cons]
          split
          · rename_i heq; simp at heq; exact absurd heq.1 hx
          · split
            · rfl
            · rename_i heq
              split at heq
              · rename_i heq2; simp at heq2; exact absurd heq2.2.1 hx
              · contradiction

theorem tokens_nil : tokens [] = some [] := by
  rw [tokens]

theorem tokens_word (r : Bytes) : tokens (61 :: 63 :: r) =
    match encodedWord r with
    | none => none
    | some (e, text, rest) => (tokens rest).map (Tok.word e text :: ·) := by
  rw [tokens]
  split <;> simp [*]

theorem tokens_lit (c : UInt8) (r : Bytes) (h : ¬ (c = 61 ∧ ∃ r', r = 63 :: r')) :
    tokens (c :: r) = (tokens r).map (Tok.lit c :: ·) := by
  rw [tokens]
  intro r' hc hr
  exact h ⟨hc, r', hr⟩

section
variable {α β : Type}

/-- After a word (`w`), the run of white space (`sp`) is passed over if it leads to another word, and kept otherwise.  On tokens,
with `isspace`, this is the skip after an encoded word in `rfc2047_decode` (`tokens_skipSpace`) and what `Spec.dropInterWordSpace`
goes on with (`diws_word`); on the items of the RFC reading, with linear white space, what `Spec.joinWords` goes on with. -/
def afterWord (w sp : α → Bool) (ts : List α) : List α :=
  if (ts.dropWhile sp).head?.any w then ts.dropWhile sp else ts

theorem afterWord_map (w sp : β → Bool) (f : α → β) (ts : List α) :
    afterWord w sp (ts.map f) = (afterWord (w ∘ f) (sp ∘ f) ts).map f := by
  simp only [afterWord, List.dropWhile_map, List.head?_map, Option.any_map, apply_ite (List.map f)]
  rfl

theorem afterWord_sublist (w sp : α → Bool) (ts : List α) : (afterWord w sp ts).Sublist ts := by
  unfold afterWord
  split
  · exact List.dropWhile_sublist _
  · exact List.Sublist.refl _

/-- Induction for a function that goes on with the tail after a text element and with `afterWord` of the tail after a word. -/
theorem afterWord_induction (w sp : α → Bool) {motive : List α → Prop} (nil : motive [])
    (cons : ∀ t ts, motive ts → motive (afterWord w sp ts) → motive (t :: ts)) : ∀ l, motive l
  | [] => nil
  | t :: ts => cons t ts (afterWord_induction w sp nil cons ts) (afterWord_induction w sp nil cons (afterWord w sp ts))
termination_by l => l.length
decreasing_by
  · exact Nat.lt_succ_self _
  · exact Nat.lt_succ_of_le (afterWord_sublist w sp ts).length_le

/-- Two classes of white space skip the same run where the run of the wider class that leads to a word lies in the narrower. -/
theorem afterWord_congr {w sp sp' : α → Bool} (hsub : ∀ x, sp' x = true → sp x = true) (hw : ∀ x, w x = true → sp x = false)
    {ts : List α} (h : (ts.dropWhile sp).head?.any w = true → (ts.takeWhile sp).all sp' = true) :
    afterWord w sp' ts = afterWord w sp ts := by
  have hcut : ∀ {p : α → Bool}, (ts.dropWhile p).head?.any w = true → ∃ a b, ts.dropWhile p = a :: b ∧ w a = true := by
    intro p hp
    cases hd : ts.dropWhile p with
    | nil => simp [hd] at hp
    | cons a b => exact ⟨a, b, rfl, by simpa [hd] using hp⟩
  -- a run that leads to a word is the same run for both classes
  have hrun : ∀ {p q : α → Bool}, (∀ x, w x = true → q x = false) → (ts.dropWhile p).head?.any w = true →
      (∀ x ∈ ts.takeWhile p, q x = true) → ts.dropWhile q = ts.dropWhile p := by
    intro p q hq hp hall
    obtain ⟨a, b, hab, ha⟩ := hcut hp
    rw [hab]
    conv => lhs; rw [← List.takeWhile_append_dropWhile (p := p) (l := ts), hab]
    exact List.dropWhile_append_stop hall (by simpa using hq a ha)
  unfold afterWord
  by_cases h1 : (ts.dropWhile sp').head?.any w = true
  · rw [hrun hw h1 fun x hx => hsub x (List.of_mem_takeWhile hx)]
  · by_cases h2 : (ts.dropWhile sp).head?.any w = true
    · have hw' : ∀ x, w x = true → sp' x = false := fun x hx =>
        Bool.eq_false_iff.2 fun hs => Bool.false_ne_true ((hw x hx).symm.trans (hsub x hs))
      rw [hrun hw' h2 (List.all_eq_true.1 (h h2))] at h1
      exact absurd h2 h1
    · rw [if_neg h1, if_neg h2]

end

theorem diws_nil : dropInterWordSpace [] = [] := by rw [dropInterWordSpace]

theorem diws_word (t : Tok) (ts : List Tok) (h : isWord t = true) :
    dropInterWordSpace (t :: ts) = t :: dropInterWordSpace (afterWord isWord isSpaceTok ts) := by
  rw [dropInterWordSpace]
  simp only [h, if_true, afterWord]
  cases hd : ts.dropWhile isSpaceTok with
  | nil => simp
  | cons a tl =>
    by_cases ha : isWord a = true
    · simp [ha]
    · simp [ha]

theorem diws_lit (c : UInt8) (ts : List Tok) :
    dropInterWordSpace (.lit c :: ts) = .lit c :: dropInterWordSpace ts := by
  rw [dropInterWordSpace]
  simp [isWord]

/-- The reference decoder `Spec.rfc2047` from the token list on. -/
def specToks (ts : List Tok) : Option Bytes := ((dropInterWordSpace ts).mapM tokBytes).map List.flatten

/-- The reference decoder from the bytes on, `none` where `Spec.rfc2047` returns its input: what `rfc2047Loop` is compared with. -/
def specLoop (es : Bytes) : Option Bytes := (tokens es).bind specToks

theorem specToks_nil : specToks [] = some [] := by simp [specToks, diws_nil]

theorem specToks_lit (c : UInt8) (ts : List Tok) : specToks (.lit c :: ts) = (specToks ts).map (c :: ·) := by
  simp only [specToks, diws_lit, List.mapM_cons_opt, tokBytes]
  cases (dropInterWordSpace ts).mapM tokBytes <;> simp

theorem specToks_word (t : Tok) (ts : List Tok) (h : isWord t = true) :
    specToks (t :: ts) = (tokBytes t).bind fun w => (specToks (afterWord isWord isSpaceTok ts)).map (w ++ ·) := by
  simp only [specToks, diws_word t ts h, List.mapM_cons_opt]
  cases tokBytes t with
  | none => simp
  | some w => cases (dropInterWordSpace (afterWord isWord isSpaceTok ts)).mapM tokBytes <;> simp


/-- The text begins with `=?`. -/
def startsEQ (r : Bytes) : Bool := List.isPrefixOf [61, 63] r

/-- The first `=?` of `es` sits right at the end of its leading white space iff the text after that white space begins with
`=?` (a space is not `=`, so no `=?` starts inside the run).  This turns the `strstr` + pointer comparison of `rfc2047_decode`
into a test on `es.dropWhile isspace` (`skipSpace_eq`). -/
theorem findSub_EQ (es : Bytes) :
    match findSub [61, 63] es with
    | none => startsEQ (es.dropWhile isspace) = false
    | some k => ((es.takeWhile isspace).length == k) = startsEQ (es.dropWhile isspace) := by
  induction es with
  | nil => simp [findSub, startsEQ]
  | cons x r ih =>
    rw [findSub_cons, show List.isPrefixOf [61, 63] (x :: r) = startsEQ (x :: r) from rfl]
    by_cases hs : isspace x = true
    · have hne := isspace_ne_61 hs
      have h1 : startsEQ (x :: r) = false := by simp [startsEQ, List.isPrefixOf, Ne.symm hne]
      simp only [h1, Bool.false_eq_true, if_false, List.dropWhile_cons, List.takeWhile_cons, hs, if_true]
      cases hf : findSub [61, 63] r with
      | none => rw [hf] at ih; simpa using ih
      | some k => rw [hf] at ih; simpa using ih
    · simp only [List.dropWhile_cons, List.takeWhile_cons, hs]
      by_cases h1 : startsEQ (x :: r) = true
      · simp [h1]
      · have h1' : startsEQ (x :: r) = false := by simpa using h1
        simp only [h1', Bool.false_eq_true, if_false]
        cases findSub [61, 63] r <;> simp

theorem skipSpace_eq (es : Bytes) :
    rfc2047SkipSpace es = if startsEQ (es.dropWhile isspace) then es.dropWhile isspace else es := by
  have h := findSub_EQ es
  unfold rfc2047SkipSpace
  cases hf : findSub [61, 63] es with
  | none => rw [hf] at h; simp [h]
  | some k =>
    rw [hf] at h
    simp only at h ⊢
    rw [← h]
    by_cases hk : (es.takeWhile isspace).length = k
    · subst hk; simp [List.drop_length_takeWhile]
    · simp [hk]

theorem tokens_spaces (sp r : Bytes) (h : ∀ c ∈ sp, isspace c = true) :
    tokens (sp ++ r) = (tokens r).map (sp.map Tok.lit ++ ·) := by
  induction sp with
  | nil => simp
  | cons c sp ih =>
    have hc := h c (by simp)
    rw [List.cons_append, tokens_lit c _ (fun hh => isspace_ne_61 hc hh.1),
      ih (fun c hc => h c (by simp [hc]))]
    cases tokens r <;> simp

theorem dropWhile_spaceToks (sp : Bytes) (l : List Tok) (h : ∀ c ∈ sp, isspace c = true) :
    (sp.map Tok.lit ++ l).dropWhile isSpaceTok = l.dropWhile isSpaceTok :=
  List.dropWhile_append_of_pos fun t ht => by
    obtain ⟨c, hc, rfl⟩ := List.mem_map.1 ht
    exact h c hc

theorem tokens_startsEQ (r : Bytes) (h : startsEQ r = true) :
    tokens r = none ∨ ∃ t ts, tokens r = some (t :: ts) ∧ isWord t = true := by
  obtain ⟨r', rfl⟩ := List.isPrefixOf_iff_prefix.1 h
  rw [List.cons_append, List.cons_append, List.nil_append, tokens_word]
  cases encodedWord r' with
  | none => simp
  | some x =>
    obtain ⟨e, text, rest⟩ := x
    dsimp only
    cases tokens rest with
    | none => simp
    | some ts => right; exact ⟨_, _, rfl, rfl⟩

theorem tokens_not_startsEQ (r : Bytes) (h : startsEQ r = false) (ts : List Tok)
    (ht : tokens r = some ts) : ts = [] ∨ ∃ c r' tl, r = c :: r' ∧ ts = .lit c :: tl := by
  cases r with
  | nil => rw [tokens_nil] at ht; left; simpa using ht.symm
  | cons c r' =>
    rw [tokens_lit c r' (by
      rintro ⟨rfl, r'', rfl⟩
      simp [startsEQ] at h)] at ht
    simp only [Option.map_eq_some_iff] at ht
    obtain ⟨tl, _, rfl⟩ := ht
    right; exact ⟨c, r', tl, rfl, rfl⟩

/-- The skip on bytes is `afterWord` on tokens: the leading white space tokenises to literals (`tokens_spaces`), and what follows it
tokenises to a word first exactly when it begins with `=?` (`tokens_startsEQ`, `tokens_not_startsEQ`). -/
theorem tokens_skipSpace (rest : Bytes) : tokens (rfc2047SkipSpace rest) = (tokens rest).map (afterWord isWord isSpaceTok) := by
  rw [skipSpace_eq]
  have hsplit : rest = rest.takeWhile isspace ++ rest.dropWhile isspace :=
    (List.takeWhile_append_dropWhile).symm
  have hsp : ∀ c ∈ rest.takeWhile isspace, isspace c = true := fun _ => List.of_mem_takeWhile
  generalize rest.takeWhile isspace = sp at hsplit hsp
  generalize hr : rest.dropWhile isspace = rest' at hsplit
  have htok : tokens rest = (tokens rest').map (sp.map Tok.lit ++ ·) := by
    rw [hsplit]; exact tokens_spaces sp rest' hsp
  by_cases hq : startsEQ rest' = true
  · simp only [hq, if_true, htok]
    rcases tokens_startsEQ rest' hq with h | ⟨t, ts, h, ht⟩
    · simp [h]
    · simp only [h, Option.map_some, afterWord, dropWhile_spaceToks sp _ hsp]
      have : isSpaceTok t = false := by cases t <;> simp_all [isWord, isSpaceTok]
      simp [this, ht]
  · have hq' : startsEQ rest' = false := by simpa using hq
    simp only [hq', Bool.false_eq_true, if_false]
    cases ht : tokens rest with
    | none => simp
    | some ts =>
      simp only [Option.map_some, Option.some.injEq]
      rw [htok] at ht
      simp only [Option.map_eq_some_iff] at ht
      obtain ⟨ts', hts', rfl⟩ := ht
      simp only [afterWord, dropWhile_spaceToks sp _ hsp]
      rcases tokens_not_startsEQ rest' hq' ts' hts' with rfl | ⟨c, r', tl, hc, rfl⟩
      · simp
      · have hcs : isspace c = false := List.not_of_dropWhile_eq_cons (hr.trans hc)
        simp [isSpaceTok, hcs, isWord]

theorem specLoop_word (es' : Bytes) :
    specLoop (61 :: 63 :: es') = match rfc2047Word es' with
      | none => none
      | some (w, rest) => (specLoop (rfc2047SkipSpace rest)).map (w ++ ·) := by
  rw [rfc2047Word_eq]
  simp only [specLoop, tokens_word, tokens_skipSpace]
  cases encodedWord es' with
  | none => rfl
  | some x =>
    obtain ⟨e, text, rest⟩ := x
    dsimp only
    cases htb : tokBytes (Tok.word e text) with
    | none =>
      cases tokens rest with
      | none => rfl
      | some ts =>
        simp [specToks_word _ ts (rfl : isWord (Tok.word e text) = true), htb]
    | some w =>
      dsimp only [Option.map_some]
      cases tokens rest with
      | none => rfl
      | some ts =>
        simp [specToks_word _ ts (rfl : isWord (Tok.word e text) = true), htb]

theorem specLoop_lit (c : UInt8) (r : Bytes) (h : ∀ (es' : List UInt8), c = 61 → r = 63 :: es' → False) :
    specLoop (c :: r) = (specLoop r).map (c :: ·) := by
  simp only [specLoop, tokens_lit c r (fun ⟨h1, r', h2⟩ => h r' h1 h2)]
  cases tokens r with
  | none => rfl
  | some ts => simp [specToks_lit]

theorem rfc2047Loop_eq (es out : Bytes) : rfc2047Loop es out = (specLoop es).map (out ++ ·) := by
  fun_induction rfc2047Loop es out
  -- the end of the value; `=?` that begins no decodable word (error); `=?` and a word; any other byte (copied)
  case case1 out => simp [specLoop, tokens_nil, specToks_nil]
  case case2 out es' h => simp [specLoop_word, h]
  case case3 out es' w rest h _ _ ih =>
    rw [ih, specLoop_word, h]
    dsimp only
    cases specLoop (rfc2047SkipSpace rest) <;> simp
  case case4 out c r hx ih =>
    rw [ih, specLoop_lit c r hx]
    cases specLoop r <;> simp

theorem rfc2047_eq_spec (s : Bytes) : rfc2047DecodeRaw s = Spec.rfc2047 s := by
  unfold rfc2047DecodeRaw Spec.rfc2047
  rw [rfc2047Loop_eq, specLoop]
  cases tokens s with
  | none => rfl
  | some ts =>
    simp only [Option.bind_some, specToks]
    cases (dropInterWordSpace ts).mapM tokBytes <;> simp

end Mdsort.Proofs
