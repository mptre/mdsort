import Mdsort.Model.L0.Mime
import Mdsort.Model.Mime
import Mdsort.Proofs.L0Message

/-!
# L0 MIME code: vocabulary

`skipline` and the scanners of `parseboundary` on the view, and what it means for a `struct message`, the attachment table
and a pointer into it to be well formed.
-/

namespace Mdsort.L0
open Mdsort Mdsort.L0.Buf

theorem skipLine_eq {b : Buf} {i : Nat} {c : UInt8} (hg : b.get? i = .ok c) :
    skipLine b i = if c == 0 then .ok i else if c == 10 then .ok (i + 1) else skipLine b (i + 1) := by
  rw [skipLine]; split <;> simp_all

/-- Length of the first line of a text including its newline.  `skipline` returns an INDEX, so what the index level needs
of `Model.skipLine` is how many bytes it passes over, as one number: `skipLine b i = .ok (i + l0r_lineLen (b.view i))`.
The closed form `Proofs.skipLine_eq` (`(s.dropWhile (· != 10)).drop 1`) gives that number only as `|takeWhile| + 1` or
`|takeWhile|`, by cases on whether a newline was found; `l0r_skipLine_drop` is the bridge the proofs use instead. -/
def l0r_lineLen : Bytes → Nat
  | [] => 0
  | c :: r => if c == 10 then 1 else l0r_lineLen r + 1

theorem l0r_lineLen_le (s : Bytes) : l0r_lineLen s ≤ s.length := by
  induction s with
  | nil => simp [l0r_lineLen]
  | cons c r ih => unfold l0r_lineLen; split <;> simp <;> omega

theorem l0r_lineLen_pos {s : Bytes} (h : s ≠ []) : 0 < l0r_lineLen s := by
  cases s with
  | nil => exact absurd rfl h
  | cons c r => unfold l0r_lineLen; split <;> omega

theorem l0r_skipLine_drop (s : Bytes) : Model.skipLine s = s.drop (l0r_lineLen s) := by
  induction s with
  | nil => rfl
  | cons c r ih =>
    unfold Model.skipLine l0r_lineLen
    by_cases hc : (c == 10) = true
    · simp [hc]
    · simp [hc, ih]

theorem l0r_skipLine_spec {b : Buf} {i : Nat} (h : b.HasNul i) :
    skipLine b i = .ok (i + l0r_lineLen (b.view i)) := by
  induction h using HasNul.induction with
  | nul i h hg hv => rw [skipLine_eq hg, hv]; rfl
  | cons i c h h' hc hg hv ih =>
    rw [skipLine_eq hg, hv, if_neg (by simpa using hc), l0r_lineLen]
    by_cases h10 : (c == 10) = true
    · rw [if_pos h10, if_pos h10]
    · rw [if_neg h10, if_neg h10, ih, Nat.add_right_comm, Nat.add_assoc]

theorem l0r_skipLine_view {b : Buf} {i : Nat} (h : b.HasNul i) :
    b.HasNul (i + l0r_lineLen (b.view i)) ∧ b.view (i + l0r_lineLen (b.view i)) = Model.skipLine (b.view i) := by
  rw [l0r_skipLine_drop]
  exact h.add _ (l0r_lineLen_le _)

theorem scanUntil_eq {b : Buf} {i : Nat} {x : UInt8} (c : UInt8) (hg : b.get? i = .ok x) :
    scanUntil b i c = if x != 0 && x != c then scanUntil b (i + 1) c else .ok i := by
  rw [scanUntil]; split <;> simp_all

theorem scanUntil_spec {b : Buf} {i : Nat} (h : b.HasNul i) (c : UInt8) :
    scanUntil b i c = .ok (i + ((b.view i).takeWhile (· != c)).length) :=
  h.scan_nz (g := fun i _ => .ok i) (· != c) fun _ _ => scanUntil_eq c

theorem startsWithCI_length {s p : Bytes} (h : Model.startsWithCI s p = true) : p.length ≤ s.length := by
  unfold Model.startsWithCI at h
  have := congrArg List.length (beq_iff_eq.mp h)
  simp only [List.length_map, List.length_take] at this
  omega

theorem strncasecmpEq_spec {a p : Buf} (n : Nat) : ∀ {i j : Nat}, a.HasNul i → p.HasNul j →
    strncasecmpEq a i p j n =
      .ok (decide (((a.view i).take n).map tolower = ((p.view j).take n).map tolower)) := by
  induction n with
  | zero => intro i j _ _; simp [strncasecmpEq]
  | succ n ih =>
    intro i j ha hp
    rw [strncasecmpEq]
    rcases ha.cases with ⟨hga, hva⟩ | ⟨x, hx, hga, hva, ha'⟩ <;>
    rcases hp.cases with ⟨hgp, hvp⟩ | ⟨y, hy, hgp, hvp, hp'⟩
    · simp [hga, hgp, hva, hvp]
    · simp only [hga, hgp, hva, hvp]
      have : tolower 0 ≠ tolower y := fun h => hy (tolower_eq_zero y (by rw [← h]; rfl))
      simp [this]
    · simp only [hga, hgp, hva, hvp]
      have : tolower x ≠ tolower 0 := fun h => hx (tolower_eq_zero x (by rw [h]; rfl))
      simp [this]
    · simp only [hga, hgp, hva, hvp]
      by_cases hxy : tolower x = tolower y
      · simp only [hxy, bne_self_eq_false, Bool.false_eq_true, if_false, beq_iff_eq, hx]
        rw [ih ha' hp']
        simp [hxy]
      · simp [hxy]

theorem startsWithLitCI_spec {b : Buf} {i : Nat} (h : b.HasNul i) (lit : Bytes) (hl : ∀ x ∈ lit, x ≠ 0) :
    startsWithLitCI b i lit = .ok (Model.startsWithCI (b.view i) lit) := by
  unfold startsWithLitCI
  rw [strncasecmpEq_spec _ h (ofBytes_terminated lit).hasNul0, view_ofBytes_of_no_nul hl]
  congr 1
  simp only [List.take_length, Model.startsWithCI]
  rw [Bool.eq_iff_iff]
  simp

/-- What the MIME code needs of a `struct message`: `me_body` and every header point at C strings in `me_buf`. -/
def AttOk (a : Att) : Prop := a.buf.HasNul a.body ∧ HdrsIn a.buf a.headers

def VecOk (v : Vec Att) : Prop := ∀ a ∈ v.items, AttOk a

/-- The pointer was taken in the current generation of the table and is inside it. -/
def PtrOk (v : Vec Att) (p : Ptr) : Prop := p.gen = v.gen ∧ p.idx < v.items.size

/-- `msg` of `parseattachments`: the top-level message, or a valid pointer into the parent's table. -/
def RefOk (v : Vec Att) : MsgRef → Prop
  | .root => True
  | .att p => PtrOk v p

theorem derefMsg_ok (root : Att) (hr : AttOk root) (v : Vec Att) (hv : VecOk v) (msg : MsgRef) (hm : RefOk v msg) :
    ∃ m, derefMsg root v msg = .ok m ∧ AttOk m := by
  cases msg with
  | root => exact ⟨root, rfl, hr⟩
  | att p =>
    obtain ⟨hg, hi⟩ := hm
    unfold derefMsg Vec.deref
    simp only [hg, ne_eq, not_true_eq_false, if_false, Array.getElem?_eq_getElem hi]
    exact ⟨_, rfl, hv _ (Array.getElem_mem hi)⟩

end Mdsort.L0
