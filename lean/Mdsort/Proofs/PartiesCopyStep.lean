import Mdsort.Proofs.PartiesCopyInv

/-! One step under the invariant `CInv`: what the issuing party has in flight afterwards, which
files the call can write. -/

namespace Mdsort.Proofs.Parties
open Mdsort Mdsort.Model
open Mdsort.Proofs.World

variable {M : Msg → Prop} {s0 s : Shared} {a : Nat} {ps : PState} {c : Call} {k : Res → Prog Bool}

theorem stepLocal_handles (s : Shared) (ps : PState) (c : Call) (k : Res → Prog Bool) :
    (stepLocal s ps c k).handles = (core (s.view ps) c (predict (s.view ps) c)).handles := rfl

theorem stepLocal_trace (s : Shared) (ps : PState) (c : Call) (k : Res → Prog Bool) :
    (stepLocal s ps c k).trace = ps.trace ++ [(c, predict (s.view ps) c)] := rfl

theorem stepLocal_obj (s : Shared) (ps : PState) (c : Call) (k : Res → Prog Bool) (h : Handle) :
    (stepLocal s ps c k).handles.getD h .closed = (core (s.view ps) c (predict (s.view ps) c)).obj h := rfl

theorem view_obj (s : Shared) (ps : PState) (h : Handle) : (s.view ps).obj h = ps.handles.getD h .closed := rfl

theorem stepLocal_dirPath (s : Shared) (ps : PState) (c : Call) (k : Res → Prog Bool) (d : Handle) :
    handlesDirPath (stepLocal s ps c k).handles d = (core (s.view ps) c (predict (s.view ps) c)).dirPath d := rfl

theorem StepCtx.flightFile (x : StepCtx M s0 s a ps c k) {y : Bytes × Bytes} (hy : y ∈ ps.inFlight) :
    ∃ g, s.fs.lookup y.1 y.2 = some g ∧ s0.fs.nextFid ≤ g ∧ WrOK ps g s.fs := by
  obtain ⟨g, hg, hge⟩ := x.inv.flightBound a ps y x.hp hy
  exact ⟨g, hg, hge, x.inv.writing a ps y g x.hp hy hg⟩

theorem StepCtx.keeps_flight_dir (x : StepCtx M s0 s a ps c k) {d : Handle} {n : Bytes} (hd : (d, n) ∈ inFlightH ps.trace) :
    c ≠ .close d ∧ c ≠ .closedir d := by
  have hne : inFlightH ps.trace ≠ [] := by intro e; rw [e] at hd; cases hd
  obtain ⟨p, hp, hfl⟩ := x.flight_of_mem hd
  obtain ⟨_, _, _, f, _, hfd, _⟩ := x.flightFile (y := (p, n)) (by rw [hfl]; exact List.mem_singleton.2 rfl)
  constructor
  · rintro rfl
    rcases x.proto with hI | ⟨hcl, _⟩
    · rcases hI with h0 | hfd'
      · exact hne h0
      · obtain ⟨off, wr, ho⟩ := hfd d hfd'
        unfold handlesDirPath at hp
        rw [ho] at hp
        cases hp
    · exact hcl.elim
  · rintro rfl
    rcases x.proto with hI | ⟨hcl, _⟩
    · exact hne hI
    · exact hcl.elim

theorem StepCtx.flightAfter (x : StepCtx M s0 s a ps c k) :
    (stepLocal s ps c k).inFlight =
      if isCreate c = true ∧ isOk (predict (s.view ps) c) = true then (callDst (s.view ps) c).toList
      else if (c.isRename = true ∨ isUnlink c = true) ∧ isOk (predict (s.view ps) c) = true then []
      else ps.inFlight := by
  have hlen := x.loc.1
  have hres : ∀ y ∈ inFlightH ps.trace, (handlesDirPath ps.handles y.1).isSome := fun y hy => x.inv.resolves a ps y x.hp hy
  have same : inFlightUpd (inFlightH ps.trace) (c, predict (s.view ps) c) = inFlightH ps.trace →
      (stepLocal s ps c k).inFlight = ps.inFlight := by
    intro h2
    unfold PState.inFlight
    rw [stepLocal_trace, inFlightH_snoc, h2]
    refine filterMap_resolve_congr _ _ _ ?_ hres
    intro y hy p hp
    rw [stepLocal_dirPath]
    exact core_dirPath c _ hp (x.keeps_flight_dir (d := y.1) (n := y.2) hy)
  have toNil : inFlightUpd (inFlightH ps.trace) (c, predict (s.view ps) c) = [] → (stepLocal s ps c k).inFlight = [] := by
    intro h
    apply inFlight_of_nil
    rw [stepLocal_trace, inFlightH_snoc, h]
  cases c
  case openExcl d n =>
    have h0 : inFlightH ps.trace = [] := copyI_create_nil x.loc x.hc rfl
    simp only [isCreate, Call.isRename, isUnlink, Bool.false_eq_true, false_and, or_self, if_false, true_and]
    rcases openExcl_state (s.view ps) d n with ⟨p, hp, hl, hpr, hco⟩ | ⟨e, hpr⟩
    · have hok : isOk (predict (s.view ps) (.openExcl d n)) = true := by rw [hpr]; rfl
      simp only [hok, if_true, callDst, hp, Option.map_some, Option.toList_some]
      apply inFlight_of_singleton (d := d)
      · rw [stepLocal_trace, inFlightH_snoc, h0, hpr]; rfl
      · rw [stepLocal_dirPath]
        exact core_dirPath _ _ hp ⟨(by intro e; cases e), (by intro e; cases e)⟩
    · have hok : isOk (predict (s.view ps) (.openExcl d n)) = false := by rw [hpr]; rfl
      simp only [hok, Bool.false_eq_true, if_false]
      rw [inFlight_of_nil h0]
      apply toNil
      rw [h0, hpr]; rfl
  case renameat d1 n1 d2 n2 =>
    simp only [isCreate, Call.isRename, isUnlink, Bool.false_eq_true, false_and, or_false, if_false, true_and]
    rcases renameat_state (s.view ps) d1 n1 d2 n2 with ⟨_, _, _, _, _, _, hpr, _⟩ | ⟨e, hpr, _, _⟩
    · have hok : isOk (predict (s.view ps) (.renameat d1 n1 d2 n2)) = true := by rw [hpr]; rfl
      simp only [hok, if_true]
      apply toNil
      rw [hpr]
      rcases x.proto with hI | ⟨_, h0⟩
      · rw [List.eq_singleton_of_mem hlen hI]; simp [inFlightUpd]
      · rw [h0]; rfl
    · have hok : isOk (predict (s.view ps) (.renameat d1 n1 d2 n2)) = false := by rw [hpr]; rfl
      simp only [hok, Bool.false_eq_true, if_false]
      exact same (by rw [hpr]; rfl)
  case unlinkat d n =>
    simp only [isCreate, Call.isRename, isUnlink, Bool.false_eq_true, false_and, false_or, if_false, true_and]
    rcases unlinkat_state (s.view ps) d n with ⟨p, f, hp, hl, hpr, hco⟩ | ⟨hnone, hpr⟩
    · have hok : isOk (predict (s.view ps) (.unlinkat d n)) = true := by rw [hpr]; rfl
      simp only [hok, if_true]
      apply toNil
      rw [inFlightUpd_unlinkat, hpr]
      split
      · rename_i hct
        have hm : (d, n) ∈ inFlightH ps.trace := by simpa using hct
        rw [List.eq_singleton_of_mem hlen hm]; simp
      · rfl
    · have hok : isOk (predict (s.view ps) (.unlinkat d n)) = false := by rw [hpr]; rfl
      simp only [hok, Bool.false_eq_true, if_false]
      apply same
      rw [inFlightUpd_unlinkat, hpr]
      have hnc : (inFlightH ps.trace).contains (d, n) = false := by
        -- the name in flight is bound: its `unlinkat` does not fail
        cases hct : (inFlightH ps.trace).contains (d, n) with
        | false => rfl
        | true =>
          obtain ⟨p, hp, hfl⟩ := x.flight_of_mem (by simpa using hct)
          obtain ⟨g, hg, _⟩ := x.inv.flightBound a ps (p, n) x.hp (by rw [hfl]; exact List.mem_singleton.2 rfl)
          cases (hnone p hp).symm.trans hg
      simp only [hnc, Bool.false_eq_true, if_false, isOk]
  all_goals exact same rfl

theorem StepCtx.writable (x : StepCtx M s0 s a ps c k) {h : Handle}
    (hh : (inFlightH ps.trace ≠ [] ∧ (locOf ps.trace).st = some h) ∨ h ∈ (locOf ps.trace).tst ∨ h ∈ (locOf ps.trace).tmp) :
    ∃ g, objFid ((s.view ps).obj h) = some g ∧ s0.fs.nextFid ≤ g ∧ ∀ p n, s.fs.lookup p n = some g → (p, n) ∈ ps.inFlight := by
  rcases hh with ⟨hne, hst⟩ | htst | htmp
  · rcases x.shape with ⟨h0, _⟩ | ⟨d', n', p', hF, hp', hfl⟩
    · exact absurd h0 hne
    obtain ⟨g, hg, hge, f, _, _, _, hstr, _⟩ := x.flightFile (y := (p', n')) (by rw [hfl]; exact List.mem_singleton.2 rfl)
    obtain ⟨buf, ho, _⟩ := hstr h hst
    refine ⟨g, by rw [view_obj, ho]; rfl, hge, fun p n hl => ?_⟩
    obtain ⟨e1, e2⟩ := x.inv.inj p' n' p n g hg hl
    rw [hfl, ← e1, ← e2]
    exact List.mem_singleton.2 rfl
  · obtain ⟨g, buf, ho, hge, _, hunb⟩ := (x.inv.tmpOk a ps x.hp).2 h htst
    exact ⟨g, by rw [view_obj, ho]; rfl, hge, fun p n hl => absurd hl (hunb p n)⟩
  · obtain ⟨g, off, wr, ho, hge, _, hunb⟩ := (x.inv.tmpOk a ps x.hp).1 h htmp
    exact ⟨g, by rw [view_obj, ho]; rfl, hge, fun p n hl => absurd hl (hunb p n)⟩

/-- The call writes (if at all) through a handle of `writable`: it writes no file `g` that differs from all of those. -/
theorem StepCtx.safe_of (x : StepCtx M s0 s a ps c k) {g : Nat}
    (hg : s0.fs.nextFid ≤ g → ¬ ∀ p n, s.fs.lookup p n = some g → (p, n) ∈ ps.inFlight) : fileSafe (s.view ps) g c := by
  have key : ∀ h, ((inFlightH ps.trace ≠ [] ∧ (locOf ps.trace).st = some h) ∨ h ∈ (locOf ps.trace).tst ∨ h ∈ (locOf ps.trace).tmp) →
      objFid ((s.view ps).obj h) ≠ some g := by
    intro h hh e
    obtain ⟨g', ho, hge, hin⟩ := x.writable hh
    rw [ho] at e
    cases e
    exact hg hge hin
  rcases x.proto with hI | ⟨hcl, _⟩
  · -- `fileSafe` is `True` but at the five writing calls: `fprintf`, `fsync`, `fflush`, `fclose` go through the stream of the
    -- name in flight or of a temporary file (`hI.imp_right .inl`), `write` through a temporary descriptor
    cases c <;> first | exact True.intro | exact key _ (hI.imp_right .inl) | exact key _ (.inr (.inr hI))
  · -- the client writes nothing
    cases c <;> first | exact True.intro | exact hcl.elim

theorem StepCtx.safe (x : StepCtx M s0 s a ps c k) {p n : Bytes} {g : Nat} (hl : s.fs.lookup p n = some g)
    (hnf : (p, n) ∉ ps.inFlight) : fileSafe (s.view ps) g c :=
  x.safe_of fun _ hin => hnf (hin p n hl)

theorem StepCtx.file_same (x : StepCtx M s0 s a ps c k) {p n : Bytes} {g : Nat} (hl : s.fs.lookup p n = some g)
    (hnf : (p, n) ∉ ps.inFlight) : (stepCall s a ps c k).fs.file g = s.fs.file g :=
  core_file (s.view ps) c _ g (x.inv.boundLt p n g hl) (x.safe hl hnf)

theorem StepCtx.file_init (x : StepCtx M s0 s a ps c k) {f : Nat} (hf : f < s0.fs.nextFid) :
    (stepCall s a ps c k).fs.file f = s.fs.file f :=
  core_file (s.view ps) c _ f (Nat.lt_of_lt_of_le hf x.inv.nextLe)
    (x.safe_of fun hge _ => Nat.lt_irrefl _ (Nat.lt_of_lt_of_le hf hge))

end Mdsort.Proofs.Parties
