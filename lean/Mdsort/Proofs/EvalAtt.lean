import Mdsort.Proofs.EvalAttRules
import Mdsort.Proofs.EvalAttWiden

/-! The domains `InDomainA` / `InDomainAW` / `InDomainW` and the final step for C03 with attachment
conditions and attachment blocks (`C03_eval_refines_spec_att_wide`, `C03_eval_refines_spec_att`). -/

namespace Mdsort.Proofs
open Mdsort Mdsort.Model

/-- (type, line, part) of the action entries of a match list (pass/break markers excluded). -/
def mlKeysP (ml : MatchList) : List (MType × Nat × Nat) :=
  (ml.filter fun m => m.ty.isAction && m.ty != .brk && m.ty != .pass).map fun m => (m.ty, m.lno, m.part)

/-- Decidable domain of `C03_eval_refines_spec_att`: `InDomain` with attachments.

* `wfTreeA false e`: as `wfTree`, plus what the grammar allows around attachments.
* `old` reads the Seen flag only when evaluated on the message itself (`hasOld` does not look
  inside attachment nodes); then no `flags` action of the tree may set `S`.
* `matches_append` cannot fail: as in `InDomain`. -/
def InDomainA (env : Env) (e : Expr) : Bool :=
  wfTreeA false e && (!hasOld e || flagsKeepSeenA e) &&
  match pathslice env.path PATH_MAX 0 (-2), pathslice env.path NAME_MAX1 (-2) (-2) with
  | some maildir, some subdir =>
    let L := max subdir.length (maxSubdirA e)
    decide (maildir.length + 1 + L < PATH_MAX) && movesFitA L e
  | _, _ => false

theorem mlKeysP_eq (ml : MatchList) : mlKeysP ml = keysP ml := rfl

/-- `mlKeys` (in the statements of Props/C03) is `keysOf` (in the lemmas about lists) with the filter written out. -/
theorem mlKeys_eq (ml : MatchList) : mlKeys ml = keysOf ml := rfl

theorem InDomainA_spec {env : Env} {e : Expr} (h : InDomainA env e = true) :
    ∃ L, PCtx env L ∧ okA L (hasOld e) 0 e := by
  unfold InDomainA at h
  simp only [Bool.and_eq_true] at h
  obtain ⟨⟨hw, hold⟩, h⟩ := h
  have hold' : hasOld e = true → flagsKeepSeenA e = true := by
    intro ho
    simpa [ho] using hold
  cases hm : pathslice env.path PATH_MAX 0 (-2) with
  | none => simp [hm] at h
  | some m0 =>
    cases hs : pathslice env.path NAME_MAX1 (-2) (-2) with
    | none => simp [hm, hs] at h
    | some s0 =>
      simp only [hm, hs, Bool.and_eq_true, decide_eq_true_eq] at h
      exact ⟨max s0.length (maxSubdirA e), ⟨⟨m0, hm, h.1⟩, ⟨s0, hs, Nat.le_max_left _ _⟩⟩,
        att_wfG_of_wfTreeA e false hw, h.2, Nat.le_max_right _ _, fun _ => id, hold'⟩

/-- Decidable domain of `C03_eval_refines_spec_att_wide`: `InDomainA` (which says nothing about where
`pass` / `break` stand - with `Spec.parseBlockA` the shape function confines them to the last place)
and `ctlPlaced`: every action list of the tree is `placedOK`. -/
def InDomainAW (env : Env) (e : Expr) : Bool := InDomainA env e && ctlPlaced e

/-- `InDomain` for trees with `pass` / `break` anywhere (domain of `C03_eval_refines_spec_wide`). -/
def InDomainW (env : Env) (e : Expr) : Bool := InDomain env e && ctlPlaced e

theorem att_eval_refines_spec_wide (env : Env) (root : Msg) (f : MFlags) (e : Expr) (rules : List Spec.RuleA)
    (hp : Spec.parseBlockAW e = some rules) (hd : InDomainAW env e = true)
    (hc : (Spec.evalBlockA (partCtx env root f) actionErr root rules).crosses = false)
    (hl : (Spec.evalBlockA (partCtx env root f) actionErr root rules).leaks = false) :
    let o := Spec.evalBlockA (partCtx env root f) actionErr root rules
    let r := eval env root e 0 root { ml := [], flags := f }
    r.1 = o.res ∧
      (o.res = .match → Spec.planP (mlKeysP r.2.ml) = Spec.planP (o.actions.filterMap Spec.actKeyP)) := by
  simp only [InDomainAW, Bool.and_eq_true] at hd
  obtain ⟨hd, hplaced⟩ := hd
  obtain ⟨L, hctx, hok⟩ := InDomainA_spec hd
  cases e with
  | block lno e' =>
    simp only [Spec.parseBlockAW] at hp
    have hpost := FrontSim.block ((att_sim hctx root f (hasOld (.block lno e'))).2.1 e') rules hp lno 0 root hok
      (by simpa [ctlPlaced] using hplaced) false false 0 (fun _ => ⟨rfl, rfl⟩) { pend := [], crosses := false, leaks := false }
      { ml := [], flags := f } ⟨rfl, rfl, rfl, by simp, by intro m hm; simp at hm⟩ (fun _ => rfl)
    intro o r
    show r.1 = o.res ∧ _
    have ho : o = Spec.evalBlockA (partCtx env root f) actionErr root rules := rfl
    have hr : r = eval env root (.block lno e') 0 root { ml := [], flags := f } := rfl
    rw [← hr] at hpost
    unfold Spec.evalBlockA at ho hc hl
    rcases h : Spec.evalRulesA (partCtx env root f) actionErr false false 0 0 root rules false
      { pend := [], crosses := false, leaks := false } with ⟨b, run⟩
    rw [h] at hpost ho hc hl
    cases b with
    | err =>
      simp only at ho
      rw [ho]
      exact ⟨hpost ⟨hc, hl⟩, fun h => by cases h⟩
    | matched =>
      simp only at ho
      rw [ho]
      obtain ⟨⟨s, h1, h2, _⟩, _⟩ := hpost ⟨hc, hl⟩
      rw [h1]
      exact ⟨rfl, fun _ => h2.plan⟩
    | _ =>
      simp only at ho
      rw [ho]
      exact ⟨(hpost ⟨hc, hl⟩).1, fun h => by cases h⟩
  | _ => simp [Spec.parseBlockAW] at hp

/-- `pass` / `break` last: the special case `Spec.parseBlockA` / `InDomainA` of the theorem above. -/
theorem att_eval_refines_spec (env : Env) (root : Msg) (f : MFlags) (e : Expr) (rules : List Spec.RuleA)
    (hp : Spec.parseBlockA e = some rules) (hd : InDomainA env e = true)
    (hc : (Spec.evalBlockA (partCtx env root f) actionErr root rules).crosses = false)
    (hl : (Spec.evalBlockA (partCtx env root f) actionErr root rules).leaks = false) :
    let o := Spec.evalBlockA (partCtx env root f) actionErr root rules
    let r := eval env root e 0 root { ml := [], flags := f }
    r.1 = o.res ∧
      (o.res = .match → Spec.planP (mlKeysP r.2.ml) = Spec.planP (o.actions.filterMap Spec.actKeyP)) := by
  obtain ⟨hpw, hpl⟩ := att_parseBlockAW_of_parseBlockA hp
  exact att_eval_refines_spec_wide env root f e rules hpw (by simp [InDomainAW, hd, hpl]) hc hl

end Mdsort.Proofs
