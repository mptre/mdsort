import Mdsort.Proofs.WorldWholeMsg
import Mdsort.Proofs.WorldSpine

/-!
# A whole walk and a whole run (maildir mode) under EVERY fault plan: the main loop

`walk`, the loop over the paths of a block, the loop over the blocks and `mainP` are walked once, for an arbitrary property `I`
of the world that is to hold after every call (`QuietInv`, `MsgInv`); between two messages the registry of the main loop is
consistent with the world (`WholeReg`).  WorldLinWalk instantiates `I` (no registered message is lost, by lineage and hence by
content); the by-content vocabulary of its statements, `WholeVersion` and `WholeSafe`, is defined here.
-/

namespace Mdsort.Proofs
open Mdsort Mdsort.Model
open Mdsort.Proofs.World (wp wp_inv_mono wp_bind_mono wp_call_any bind_eq pure_eq call_bind ret_bind)

/-- `c'` is `c` after zero or more complete rewrites by rules of `exprs` (label / add-header re-render the message), each for
some directory, name and answers of the operating system.  Directory and name are those
the message had when the rule was applied - it changes both with every move - so a statement by content leaves them open. -/
inductive WholeVersion (env : PEnv) (orc : EvalOracles) (exprs : List Expr) : Bytes → Bytes → Prop
  | refl (c : Bytes) : WholeVersion env orc exprs c c
  | step {c c1 : Bytes} (expr : Expr) (dir name : Bytes) (as : List SysAns) : WholeVersion env orc exprs c c1 → expr ∈ exprs →
      WholeVersion env orc exprs c (wholeRewrite env orc expr dir name c1 as)

/-- Some entry is bound to a file whose visible and durable contents are both versions of `c`: the by-content reading of
`WholeSafeL` (WorldLinWalk). -/
def WholeSafe (env : PEnv) (orc : EvalOracles) (exprs : List Expr) (c : Bytes) (w : World) : Prop :=
  ∃ d n fid f, w.lookup d n = some fid ∧ fid < w.nextFid ∧ w.file fid = some f ∧
    WholeVersion env orc exprs c f.data ∧ WholeVersion env orc exprs c f.durable

theorem WholeReg.step {w : World} {files : Files} (h : WholeReg w files) (c : Call) (r : Res)
    (hd : World.Call.dirOp c = false) (hfs : ∀ g, World.fileSafe w g c) : WholeReg (stepWorld w c r) files := by
  intro dir nm x hx
  obtain ⟨fid, h1, h2, h3⟩ := h dir nm x hx
  have hf := World.file_step h3 h2 c r (hfs fid)
  exact ⟨fid, by rw [← h1]; exact World.lk_step w c r hd (dir, nm), hf.2, hf.1⟩

/-- The maildir's handle (if any) is open on its path, and the path is root + subdirectory. -/
def WholeMdOk (w : World) (md : Maildir) : Prop :=
  (∀ d, md.dirH = some d → w.dirPath d = some md.path) ∧
  pathjoin PATH_MAX md.root (subdirName md.subdir) = some md.path

theorem whole_readdir_dirPath {w : World} {d : Handle} {p : Bytes} (hp : w.dirPath d = some p) (r : Res) :
    (World.core w (.readdir d) r).dirPath d = some p :=
  World.core_dirPath _ r hp ⟨nofun, nofun⟩

theorem WholeMdOk.readdir {w : World} {md : Maildir} {d : Handle} (h : WholeMdOk w md) (hd : md.dirH = some d) (r : Res) :
    WholeMdOk (stepWorld w (.readdir d) r) md := by
  refine ⟨?_, h.2⟩
  intro d' hd'
  rw [hd] at hd'
  cases hd'
  rw [World.stepWorld_dirPath]
  exact whole_readdir_dirPath (h.1 d hd) r

theorem WholeMdOk.step {w : World} {md : Maildir} (h : WholeMdOk w md) (c : Call) (r : Res)
    (hs : ∀ d, md.dirH = some d → World.Call.subject c ≠ some d) : WholeMdOk (stepWorld w c r) md := by
  refine ⟨?_, h.2⟩
  intro d hd
  have hp := h.1 d hd
  rw [World.stepWorld_dirPath, ← hp]
  exact World.dirPath_congr (World.core_obj w c r d (World.lt_of_dirPath hp) (hs d hd))

theorem WholeVersion.trans {env : PEnv} {orc : EvalOracles} {exprs : List Expr} {a b c : Bytes}
    (h1 : WholeVersion env orc exprs a b) (h2 : WholeVersion env orc exprs b c) : WholeVersion env orc exprs a c := by
  induction h2 with
  | refl => exact h1
  | step expr dir name as _ hm ih => exact .step expr dir name as ih hm

theorem WholeVersion.mono {env : PEnv} {orc : EvalOracles} {exprs exprs' : List Expr} {a b : Bytes}
    (h : WholeVersion env orc exprs a b) (hs : ∀ e ∈ exprs, e ∈ exprs') : WholeVersion env orc exprs' a b := by
  induction h with
  | refl => exact .refl _
  | step expr dir name as _ hm ih => exact .step expr dir name as ih (hs _ hm)

/-- `I` survives every call that is no directory operation and writes no file (`readdir`, `opendir`, `closedir`, `fopen`, …). -/
def QuietInv (I : World → Prop) : Prop :=
  ∀ w c r, I w → World.Call.dirOp c = false → (∀ g, World.fileSafe w g c) → I (stepWorld w c r)

/-- `processMessage` on a registered message (entry bound to a complete file holding the registered content, in the open
maildir `md`) keeps `I` after every call. -/
def MsgInv (env : PEnv) (orc : EvalOracles) (expr : Expr) (I : World → Prop) : Prop :=
  ∀ (md : Maildir) (n : Bytes) (st : MainSt) {w1 : World} {d : Handle} {content : Bytes} {fid : Nat},
    md.dirH = some d → w1.dirPath d = some md.path → pathjoin PATH_MAX md.root (subdirName md.subdir) = some md.path →
    st.files.get md.path n = some content → w1.lookup md.path n = some fid → fid < w1.nextFid →
    w1.file fid = some ⟨content, content⟩ → I w1 →
    wp I (processMessage env orc expr md n st) (fun _ w' => I w') w1

section
variable {I : World → Prop} {env : PEnv} {orc : EvalOracles}

theorem inv_maildirOpendir (hI : QuietInv I) (md : Maildir) (path : Bytes)
    {w : World} {st : MainSt} (hinv : WholeReg w st.files) (hi : I w) :
    wp I (maildirOpendir md path)
      (fun r w' => (WholeReg w' st.files ∧ r.1.root = md.root ∧ r.1.subdir = md.subdir ∧ r.1.path = md.path ∧
        ∀ h, r.1.dirH = some h → w'.dirPath h = some path) ∧ I w') w := by
  have tail : ∀ w1, WholeReg w1 st.files → I w1 →
      wp I
        (Prog.call (Call.opendir path) fun r =>
          match r with
          | Res.ok h => Prog.ret (({ md with dirH := some h } : Maildir), false)
          | _ => Prog.ret (({ md with dirH := none } : Maildir), true))
        (fun r w' => (WholeReg w' st.files ∧ r.1.root = md.root ∧ r.1.subdir = md.subdir ∧ r.1.path = md.path ∧
          ∀ h, r.1.dirH = some h → w'.dirPath h = some path) ∧ I w') w1 := by
    intro w1 h1 hi1 ft
    have h2 := h1.step (.opendir path) (World.faultResult ft w1 (.opendir path)) rfl (fun _ => trivial)
    have hi2 := hI _ (.opendir path) (World.faultResult ft w1 (.opendir path)) hi1 rfl (fun _ => trivial)
    refine ⟨hi2, ?_⟩
    rcases World.opendir_results ft w1 path with ⟨e, he⟩ | ⟨he, hd⟩
    · rw [he] at h2 hi2 ⊢
      exact ⟨⟨h2, rfl, rfl, rfl, by intro h hh; cases hh⟩, hi2⟩
    · rw [he] at h2 hi2 ⊢
      refine ⟨⟨h2, rfl, rfl, rfl, ?_⟩, hi2⟩
      intro h hh
      simp only [Option.some.injEq] at hh
      subst hh
      rw [World.stepWorld_dirPath, World.core_opendir_ok hd]
      simp [World.dirPath, World.obj_newHandle]
  unfold maildirOpendir
  simp only [bind_eq, pure_eq, call_bind]
  split
  · rename_i d _
    refine wp_call_any fun r => ?_
    have h1 := hinv.step (.closedir d) r rfl (fun _ => trivial)
    have hi1 := hI _ (.closedir d) r hi rfl (fun _ => trivial)
    exact ⟨hi1, tail _ h1 hi1⟩
  · exact tail _ hinv hi

theorem inv_walk (hI : QuietInv I) (expr : Expr) (hnd : WholeNoDiscard env orc expr)
    (hpm : MsgInv env orc expr I) (fuel : Nat) :
    ∀ (md : Maildir) (st : MainSt) {w : World}, WholeReg w st.files → WholeMdOk w md → I w →
      wp I (walk env orc expr fuel md st)
        (fun r w' => WholeReg w' r.1.files ∧ I w') w := by
  induction fuel with
  | zero => intro md st w hinv _ hi; exact ⟨hinv, hi⟩
  | succ fuel ih =>
    intro md st w hinv hmd hi
    rw [Own.walk_succ]
    cases hd : md.dirH with
    | none => exact ⟨hinv, hi⟩
    | some d =>
      dsimp only
      refine wp_call_any fun r => ?_
      have hinv1 := hinv.step (.readdir d) r rfl (fun _ => trivial)
      have hi1 := hI _ (.readdir d) r hi rfl (fun _ => trivial)
      have hmd1 := hmd.readdir hd r
      refine ⟨hi1, ?_⟩
      generalize stepWorld w (.readdir d) r = w1 at hinv1 hmd1 hi1 ⊢
      have herr : WholeReg w1 ({ st with error := true } : MainSt).files ∧ I w1 := ⟨hinv1, hi1⟩
      unfold Own.walkK
      cases r with
      | name n =>
        dsimp only
        split
        · exact ih md st hinv1 hmd1 hi1
        · cases hfc : st.files.get md.path n with
          | none =>
            rw [processMessage_unknown env orc expr md n st d hd hfc]
            exact ih md _ hinv1 hmd1 hi1
          | some content =>
            obtain ⟨fid, hl, hlt, hf⟩ := hinv1 _ _ _ hfc
            refine wp_bind_mono (wp_inv_mono (World.wp_both
              (whole_processMessage env orc expr md n st hd (hmd1.1 d hd) hmd1.2 hfc hl hlt hf fun _ => hnd)
              (hpm md n st hd (hmd1.1 d hd) hmd1.2 hfc hl hlt hf hi1)) (fun w' h => h.2)) ?_
            rintro ⟨st', md'⟩ w2 ⟨⟨hmd', k, hpost, -⟩, hi2⟩
            simp only at hmd'
            subst hmd'
            refine ih md' st' (hpost hinv1) ⟨?_, hmd1.2⟩ hi2
            · intro d' hd'
              have hp1 := hmd1.1 d' hd'
              exact k.dirPath hp1 (World.lt_of_dirPath hp1)
      | eof =>
        dsimp only
        split
        · exact ⟨hinv1, hi1⟩
        · split
          · exact ⟨hinv1, hi1⟩
          · split
            · exact herr
            · rename_i p hp'
              refine wp_bind_mono (inv_maildirOpendir hI { md with subdir := .cur, path := p } p hinv1 hi1) ?_
              rintro ⟨md2, failed⟩ w2 ⟨⟨hinv2, h1, h2, h3, h4⟩, hi2⟩
              simp only at h1 h2 h3 h4
              have hmd2 : WholeMdOk w2 md2 := by
                refine ⟨fun h hh => by rw [h3]; exact h4 h hh, ?_⟩
                rw [h1, h2, h3]
                exact hp'
              dsimp only
              split
              · exact ⟨hinv2, hi2⟩
              · exact ih md2 st hinv2 hmd2 hi2
      | ok v => exact herr
      | err e => exact herr

theorem inv_paths (hI : QuietInv I) (input : Bytes) (b : ConfBlock)
    (hm : env.stdinMode = false) (hnd : WholeNoDiscard env orc b.expr)
    (hpm : MsgInv env orc b.expr I) (ps : List Bytes) :
    ∀ (st : MainSt) {w : World}, WholeReg w st.files → I w →
      wp I (mainP.blocks.paths env orc input b ps st)
        (fun st' w' => WholeReg w' st'.files ∧ I w') w := by
  induction ps with
  | nil => intro st w hinv hi; rw [Own.paths_nil]; exact ⟨hinv, hi⟩
  | cons p more ih =>
    intro st w hinv hi
    rw [Own.paths_cons]
    split
    · exact ih _ hinv hi
    · rename_i hsk
      split
      · rename_i hs
        exact absurd (by simp [skipPath, hm, hs]) hsk
      · split
        · rename_i root np hroot hnp
          have hroot' : root = p := World.eq_of_strlcpyFits hroot
          refine wp_bind_mono (inv_maildirOpendir hI (maildirOf root np) np hinv hi) ?_
          rintro ⟨md1, failed⟩ w1 ⟨⟨hinv1, h1, h2, h3, h4⟩, hi1⟩
          simp only [maildirOf] at h1 h2 h3 h4
          dsimp only
          split
          · exact ih _ hinv1 hi1
          · have hmd1 : WholeMdOk w1 md1 := by
              refine ⟨fun h hh => by rw [h3]; exact h4 h hh, ?_⟩
              rw [h1, h2, h3, hroot']
              exact hnp
            refine wp_bind_mono (inv_walk hI b.expr hnd hpm _ md1 st hinv1 hmd1 hi1) ?_
            rintro ⟨st2, md2⟩ w2 ⟨hinv2, hi2⟩
            dsimp only
            unfold maildirClose
            split
            · rename_i d _
              simp only [bind_eq, pure_eq, call_bind, World.call_bind', ret_bind]
              refine wp_call_any fun r => ?_
              have hinv3 := hinv2.step (.closedir d) r rfl (fun _ => trivial)
              have hi3 := hI _ (.closedir d) r hi2 rfl (fun _ => trivial)
              exact ⟨hi3, ih _ hinv3 hi3⟩
            · simp only [pure_eq, ret_bind]
              exact ih _ hinv2 hi2
        · exact ih _ hinv hi

theorem inv_blocks (hI : QuietInv I) (input : Bytes) (hm : env.stdinMode = false) (bs : List ConfBlock)
    (hbs : ∀ b ∈ bs, WholeNoDiscard env orc b.expr ∧ MsgInv env orc b.expr I) :
    ∀ (st : MainSt) {w : World}, WholeReg w st.files → I w →
      wp I (mainP.blocks env orc input bs st)
        (fun st' w' => WholeReg w' st'.files ∧ I w') w := by
  induction bs with
  | nil => intro st w hinv hi; rw [Own.blocks_nil]; exact ⟨hinv, hi⟩
  | cons b rest ih =>
    intro st w hinv hi
    rw [Own.blocks_cons]
    obtain ⟨hnd, hpm⟩ := hbs b (List.mem_cons_self ..)
    refine wp_bind_mono (inv_paths hI input b hm hnd hpm b.paths st hinv hi) ?_
    rintro st' w' ⟨hinv', hi'⟩
    exact ih (fun b' hb' => hbs b' (List.mem_cons_of_mem _ hb')) st' hinv' hi'

end

theorem inv_mainP {I : World → Prop} (hI : QuietInv I) (env : PEnv) (orc : EvalOracles) (confOk : Bool) (conf : List ConfBlock)
    (files : Files) (input : Bytes) (hm : env.stdinMode = false)
    (hbs : ∀ b ∈ conf, WholeNoDiscard env orc b.expr ∧ MsgInv env orc b.expr I) {w : World} (hreg : WholeReg w files)
    (hi : I w) : wp I (mainP env orc confOk conf files input) (fun _ _ => True) w := by
  rw [Own.mainP_eq]
  refine World.wp_call_plain w.handles.length rfl rfl ?_
  intro r hr
  have hinv1 := hreg.step (.fopen env.confpath) r rfl (fun _ => trivial)
  have hi1 := hI _ (.fopen env.confpath) r hi rfl (fun _ => trivial)
  refine ⟨hi1, ?_⟩
  rcases hr with rfl | ⟨e, rfl⟩
  · dsimp only
    have hobj : (stepWorld w (.fopen env.confpath) (.ok w.handles.length)).obj w.handles.length = .other := by
      rw [World.stepWorld_obj, World.core_fopen_ok, World.obj_newHandle]
      simp
    refine wp_call_any fun r2 => ?_
    have hsafe : ∀ g, World.fileSafe (stepWorld w (.fopen env.confpath) (.ok w.handles.length)) g (.fclose w.handles.length) := by
      intro g
      simp only [World.fileSafe, hobj, World.objFid]
      intro h; cases h
    have hinv2 := hinv1.step (.fclose w.handles.length) r2 rfl hsafe
    have hi2 := hI _ (.fclose w.handles.length) r2 hi1 rfl hsafe
    refine ⟨hi2, ?_⟩
    unfold Own.mainK
    split
    · trivial
    · split
      · trivial
      · refine wp_bind_mono (inv_blocks hI input hm conf hbs
          { files := files, error := false, reject := false, log := [] } hinv2 hi2) ?_
        intro _ _ _
        trivial
  · trivial

end Mdsort.Proofs
