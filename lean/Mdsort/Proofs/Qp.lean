import Mdsort.Model.Decode
import Mdsort.Spec.Decode
import Mdsort.Proofs.Basics

/-! Quoted-printable: the model's loop (`quoted_printable_decode_buffer`, decode.c) computes the reference decoder `Spec.qp`.
Bytes: 61 `=`, 10 LF, 95 `_` (a space in header mode `us`). -/

namespace Mdsort.Proofs
open Mdsort

theorem ofNat_toNat_u8 (c : UInt8) : UInt8.ofNat c.toNat = c := by simp

theorem htoa_eq_hexval : ∀ c : UInt8, Model.htoa c = (Spec.hexval c).map UInt8.ofNat := by
  apply forall_u8; decide +kernel

theorem hexval_lt : ∀ c : UInt8, ∀ h, Spec.hexval c = some h → h < 16 := by
  intro c
  fun_cases Spec.hexval c
  case case3 => nofun
  -- a digit, or a letter `A`-`F`: the value is the offset in a range of at most sixteen bytes
  all_goals
    rename_i h1
    intro h hc
    cases hc
    simp only [Bool.and_eq_true, decide_eq_true_eq] at h1
    obtain ⟨h1, h2⟩ := h1
    rw [UInt8.le_iff_toNat_le] at h1 h2
    simp at h1 h2
    omega

/-- Sixteen by sixteen cases, checked by evaluation; the general fact for any shift is `pack` (Proofs/B64Bits.lean). -/
theorem hex_byte : ∀ h, h < 16 → ∀ l, l < 16 →
    (UInt8.ofNat h <<< 4) ||| UInt8.ofNat l = Spec.byte (h * 16 + l) := by decide +kernel

theorem qp_ne61 (us : Bool) (c : UInt8) (r : Bytes) (h : c ≠ 61) :
    Spec.qp us (c :: r) = (if us && c == 95 then 32 else c) :: Spec.qp us r := by
  rw [Spec.qp]
  · intro r' h'; exact absurd h' h
  · intro x y r' h'; exact absurd h' h

theorem qp_61_single (us : Bool) : Spec.qp us [61] = [61] := by
  simp [Spec.qp]

theorem qp_61_10 (us : Bool) (r : Bytes) : Spec.qp us (61 :: 10 :: r) = Spec.qp us r := by
  simp [Spec.qp]

theorem qp_61_x (us : Bool) (x : UInt8) (h : x ≠ 10) : Spec.qp us [61, x] = 61 :: Spec.qp us [x] := by
  rw [Spec.qp]
  · simp
  · intro r' _ h'; simp at h'; exact h h'.1
  · intro x y r' _ h'; simp at h'

theorem qp_61_x_y (us : Bool) (x y : UInt8) (r : Bytes) (h : x ≠ 10) :
    Spec.qp us (61 :: x :: y :: r) =
      match Spec.hexval x, Spec.hexval y with
      | some h, some l => Spec.byte (h * 16 + l) :: Spec.qp us r
      | _, _ => 61 :: Spec.qp us (x :: y :: r) := by
  rw [Spec.qp]
  · rfl
  · intro h'; exact h h'

theorem qpLoop_gen (us : Bool) (s out : Bytes) : Model.qpLoop us s out = out ++ Spec.qp us s := by
  fun_induction Model.qpLoop us s out
  -- The cases, in the order of the tests of the loop: the end of the text; `_` in header mode; a byte other than `=`; then
  -- `=` as the last byte (copied); `=` LF (the soft break, dropped); `=` and one more byte (too few: `=` copied, the byte
  -- read again); `=XY` with two hexadecimal digits (decoded); `=XY` otherwise (the bad escape: `=` copied, `XY` read again).
  case case1 => simp [Spec.qp]
  case case2 c r h ih =>
    simp at h
    rw [ih, qp_ne61 _ _ _ (by rw [h.1]; decide)]; simp [h]
  case case3 c r h1 h2 ih =>
    simp at h1 h2
    rw [ih, qp_ne61 _ _ _ h2]
    have : (us && c == 95) = false := by
      cases us <;> simp; exact fun hc => by simpa using h1 hc
    simp [this]
  case case4 c h1 h2 =>
    simp at h2; subst h2; rw [qp_61_single]
  case case5 c h1 h2 l r h ih =>
    simp at h2 h; subst h2; subst h; rw [ih, qp_61_10]
  case case6 c h1 h2 l h ih =>
    simp at h2 h; subst h2; rw [ih, qp_61_x _ _ h]; simp
  case case7 c h1 h2 d h l r hi lo hl hd ih =>
    simp at h2 h; subst h2
    rw [ih, qp_61_x_y _ _ _ _ h]
    rw [htoa_eq_hexval] at hl hd
    cases hx : Spec.hexval d with
    | none => simp [hx] at hd
    | some a =>
      cases hy : Spec.hexval l with
      | none => simp [hy] at hl
      | some b =>
        simp [hx] at hd; simp [hy] at hl
        subst hd; subst hl
        simp [hex_byte a (hexval_lt _ _ hx) b (hexval_lt _ _ hy)]
  case case8 c h1 h2 d h l r hx ih =>
    simp at h2 h; subst h2
    rw [ih, qp_61_x_y _ _ _ _ h]
    have : ¬ ∃ a b, Spec.hexval d = some a ∧ Spec.hexval l = some b := by
      rintro ⟨a, b, ha, hb⟩
      exact hx (UInt8.ofNat a) (UInt8.ofNat b) (by rw [htoa_eq_hexval, ha]; rfl) (by rw [htoa_eq_hexval, hb]; rfl)
    split
    · rename_i a b ha hb; exact absurd ⟨a, b, ha, hb⟩ this
    · simp

theorem qpLoop_eq_spec (us : Bool) (s : Bytes) : Model.qpLoop us s [] = Spec.qp us s := by
  simpa using qpLoop_gen us s []

end Mdsort.Proofs
