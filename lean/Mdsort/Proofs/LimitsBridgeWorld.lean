import Mdsort.Proofs.LimitsBridge
import Mdsort.Proofs.WorldBasic

/-!
# At the platform's limits the parametrised programs ARE the programs of the model

The method of `LimitsBridge`, for the programs over calls: equations between functions, up to `mainPL stdLimits = mainP`.
-/

namespace Mdsort.Proofs.Limits
open Mdsort Mdsort.Model Mdsort.Proofs.World

theorem gennameL_std : gennameL stdLimits = genname := by
  funext env md flags fuel
  induction fuel with
  | zero => rfl
  | succ n ih =>
    funext count
    rw [gennameL.eq_def, genname.eq_def]
    simp only [std_nameMax1, gennameBufL_fin, ih]
    generalize decimalInt env.now ++ [46] ++ decimal env.pid ++ [95] ++ decimal ((count + 1) % gennameWrap) ++ [46] ++ env.host ++ flags.getD [] = name
    by_cases h : name.length ≥ NAME_MAX1
    · simp only [h, if_true]
    · simp only [h, if_false]
      rfl

theorem gennameStartL_std : gennameStartL stdLimits = gennameStart := by
  funext env md flags
  rw [gennameStartL, gennameL_std]
  rfl

theorem maildirOpenDstL_std (path : Bytes) : maildirOpenDstL stdLimits path = maildirOpenDst path := by
  unfold maildirOpenDstL maildirOpenDst
  rw [parseSubdirL_std]
  rfl

theorem messageSetFileL_std (ms : MsgSt) (dir name : Bytes) (fd : Option Handle) :
    messageSetFileL stdLimits ms dir name fd = messageSetFile ms dir name fd := by
  unfold messageSetFileL messageSetFile
  rfl

theorem messageSetFileMovedL_std (ms : MsgSt) (src dst : Subdir) (dir name : Bytes) :
    messageSetFileMovedL stdLimits ms src dst dir name = messageSetFileMoved ms src dst dir name := by
  unfold messageSetFileMovedL messageSetFileMoved
  rfl

theorem maildirMoveL_std : maildirMoveL stdLimits = maildirMove := by
  funext env src dst ms
  unfold maildirMoveL maildirMove
  rw [gennameStartL_std]
  rfl

theorem maildirWriteL_std : maildirWriteL stdLimits = maildirWrite := by
  funext env md ms
  unfold maildirWriteL maildirWrite
  rw [gennameStartL_std]
  rfl

theorem writefdL_std (tmpdir : Bytes) : writefdL stdLimits tmpdir = writefd tmpdir := by
  unfold writefdL writefd
  rfl

theorem messageGetFdL_std : messageGetFdL stdLimits = messageGetFd := by
  funext env ms part dobody
  unfold messageGetFdL messageGetFd
  rfl

theorem execOneL_std : execOneL stdLimits = execOne := by
  funext env mh st
  unfold execOneL execOne
  rw [maildirMoveL_std, maildirWriteL_std, messageGetFdL_std]
  rfl

theorem matchesExecL_std : matchesExecL stdLimits = matchesExec := by
  funext env ml
  induction ml with
  | nil => rfl
  | cons mh rest ih =>
    funext st
    rw [matchesExecL, matchesExec, execOneL_std, ih]

theorem messageParsePL_std (d : Handle) (dir name content : Bytes) :
    messageParsePL stdLimits d dir name content = messageParseP d dir name content := by
  unfold messageParsePL messageParseP
  rfl

theorem evalTL_loop_eq (L : Limits) (env : Env) (root : Msg) (e : Expr) (part : Nat) (ps : List Msg) :
    ∀ i st, evalTL.loop L env root e part ps i st = attLoop (evalTL L env root e) part ps i st := by
  induction ps with
  | nil => intro i st; simp only [evalTL.loop, attLoop]
  | cons p rest ih =>
    intro i st
    simp only [evalTL.loop, attLoop]
    congr 1
    funext ⟨ev, s1⟩
    cases ev <;> simp only [thenK, ih, reduceCtorEq, if_true, if_false]

theorem evalTL_loopB_eq (L : Limits) (env : Env) (root : Msg) (e : Expr) (part : Nat) (ps : List Msg) :
    ∀ i ev st, evalTL.loopB L env root e part ps i ev st = attLoopB (evalTL L env root e) part ps i ev st := by
  induction ps with
  | nil => intro i ev st; simp only [evalTL.loopB, attLoopB]
  | cons p rest ih =>
    intro i ev st
    simp only [evalTL.loopB, attLoopB]
    congr 1
    funext ⟨ev1, s1⟩
    cases ev1 <;> simp only [attBlockK, ih]

theorem evalTL_isEvalT (L : Limits) (env : Env) (root : Msg) : IsEvalT (matchesAppendL L env) (evalTL L env root) where
  block lno e part m st := by
    simp only [evalTL]
    congr 1
    funext ⟨ev, s1⟩
    cases ev <;> simp only [blockPost, apply_ite Ask.ret]
  and lno l r part m st := by
    simp only [evalTL]
    exact congrArg _ (thenK_eq _ _ _ (fun _ => rfl) (fun ⟨ev, s⟩ h => by cases ev <;> first | rfl | exact absurd rfl h))
  or lno l r part m st := by
    simp only [evalTL]
    exact congrArg _ (thenK_eq _ _ _ (fun _ => rfl) (fun ⟨ev, s⟩ h => by cases ev <;> first | rfl | exact absurd rfl h))
  neg lno e part m st := by
    simp only [evalTL]
    congr 1
    funext ⟨ev, s1⟩
    cases ev <;> rfl
  mtch lno c rhs part m st := by
    simp only [evalTL]
    split
    · rfl
    · exact congrArg _ (thenK_eq _ _ _ (fun _ => rfl) (fun ⟨ev, s⟩ h => by cases ev <;> first | rfl | exact absurd rfl h))
  attachment lno e part m st := by
    simp only [evalTL, evalTL_loop_eq]
    cases getAttachments m <;> rfl
  attBlock lno e part m st := by
    simp only [evalTL, evalTL_loopB_eq]
    cases getAttachments m <;> rfl

theorem evalTL_leaf (L : Limits) (env : Env) (root : Msg) {e : Expr} (he : asksNothing e = true) (part : Nat) (m : Msg) (st : St) :
    evalTL L env root e part m st = .ret (evalL L env root e part m st) := by
  cases e with
  | block | and | or | neg | mtch | attachment | attBlock | stat | command => cases he
  -- of the `date` conditions only the one on the `Date:` header asks nothing
  | date lno f cmp age =>
    cases f with
    | header => simp only [evalTL]
    | _ => cases he
  | _ => simp only [evalTL]

/-- `evalL_plain` for the evaluation as a computation: a leaf that fills no buffer - the `command` and file-time `date`
conditions among them - is evaluated by `Model.evalT` under all limits. -/
theorem evalTL_plain (L : Limits) (env : Env) (root : Msg) {n : Expr} (hn : n.isLeaf = true) (hb : fillsNoBuffer n = true)
    (part : Nat) (m : Msg) (st : St) : evalTL L env root n part m st = evalT env root n part m st := by
  rcases Expr.leaf_cases hn with ha | ⟨lno, field, cmp, age, rfl, hf⟩ | ⟨lno, path, rfl⟩ | ⟨lno, argv, rfl⟩
  · rw [evalTL_leaf L env root ha, evalT_leaf env root ha, evalL_plain L env root hb]
  · cases field <;> first | exact absurd rfl hf | skip
    all_goals
      simp only [evalTL, evalT, exprRegexecL_plain L env .date _ _ _ _ _ _ (by decide) (by decide)]
      rfl
  · cases hb
  · simp only [evalTL, evalT,
      matchesAppendL_plain L env st.ml { ty := .command, lno := lno, part := part, strings := argv } (by dsimp only; decide) (by dsimp only; decide),
      matchesAppend_plain env st.ml { ty := .command, lno := lno, part := part, strings := argv } (by dsimp only; decide) (by dsimp only; decide)]
    rfl

theorem evalTL_std (env : Env) (root : Msg) (e : Expr) (part : Nat) (m : Msg) (st : St) :
    evalTL stdLimits env root e part m st = evalT env root e part m st := by
  refine (matchesAppendL_std_fun env ▸ evalTL_isEvalT stdLimits env root).ext (evalT_isEvalT env root) e (fun n hn part m st => ?_) part m st
  have hn := Expr.isLeaf_of_mem_leaves hn
  by_cases hb : fillsNoBuffer n = true
  · exact evalTL_plain stdLimits env root hn hb part m st
  rcases Expr.leaf_cases hn with ha | ⟨lno, field, cmp, age, rfl, hf⟩ | ⟨lno, path, rfl⟩ | ⟨lno, argv, rfl⟩
  · rw [evalTL_leaf _ env root ha, evalT_leaf env root ha, evalL_std]
  · exact absurd rfl hb
  · simp only [evalTL, evalT, matchesAppendL_std, std_pathMax, strlcpyL_fin]
    rfl
  · exact absurd rfl hb

theorem evalPL_std : evalPL stdLimits = evalP := by
  funext env e m fl
  unfold evalPL evalP evalTop
  rw [evalTL_std]

theorem processMessageL_std : processMessageL stdLimits = processMessage := by
  funext env orc expr md name st
  unfold processMessageL processMessage
  rw [evalPL_std, matchesInterpolateL_std, matchesExecL_std]
  rfl

theorem walkL_std : walkL stdLimits = walk := by
  funext env orc expr fuel
  induction fuel with
  | zero => rfl
  | succ n ih =>
    funext md st
    rw [walkL, walk, processMessageL_std, ih, nextSubdirL, std_pathMax, pathjoinL_fin]
    cases pathjoin PATH_MAX md.root (subdirName .cur) <;> rfl

theorem maildirStdinL_std : maildirStdinL stdLimits = maildirStdin := by
  funext env input
  unfold maildirStdinL maildirStdin
  rw [gennameStartL_std]
  rfl

theorem pathsL_std : pathsL stdLimits = mainP.blocks.paths := by
  funext env orc input b ps
  induction ps with
  | nil => rfl
  | cons p more ih =>
    funext st
    simp only [pathsL, mainP.blocks.paths, ih, maildirStdinL_std, walkL_std, openMaildirL, std_pathMax, pathjoinL_fin, strlcpyL_fin]
    cases strlcpyFits PATH_MAX p <;> cases pathjoin PATH_MAX p (subdirName .new) <;> try rfl
    cases h1 : (env.stdinMode && !isStdinPath p || !env.stdinMode && isStdinPath p)
    · cases h2 : isStdinPath p
      · simp only [Bool.false_eq_true, ↓reduceIte, maildirOpendir, bind_eq, pure_eq, call_bind, call_bind']
        congr 1; funext r
        cases r <;> rfl
      · rfl
    · rfl

theorem blocksL_std : blocksL stdLimits = mainP.blocks := by
  funext env orc input bs
  induction bs with
  | nil => rfl
  | cons b rest ih =>
    funext st
    rw [blocksL, mainP.blocks, pathsL_std, ih]

theorem mainPL_std : mainPL stdLimits = mainP := by
  funext env orc confOk conf files input
  unfold mainPL mainP
  rw [blocksL_std]
  rfl

theorem mainTextL_std : mainTextL stdLimits = mainText := by
  funext env orc rxOk defs confText files input
  unfold mainTextL mainText
  rw [mainPL_std]
  rfl

end Mdsort.Proofs.Limits
