import Mdsort.Proofs.EvalEntries
import Mdsort.Proofs.EvalPCalls
import Mdsort.Proofs.Captures
import Mdsort.Proofs.WorldKinds
import Mdsort.Proofs.WorldSpine
import Mdsort.Proofs.WorldVerdict

/-!
# Where the argument vector of a `fork` comes from (property C13)

`Call.fork argv s` carries the vector the child hands to `execvp`.  This file proves, for ARBITRARY results of all
calls, that every `fork` of a run of `main` carries the interpolation of the configured strings of an `exec` action or of
a `command` condition of the configuration - one argument per configured string, in order (`Own.fa_mainP`).  The scripts of
maildir.c / message.c issue no `fork`; `exec()` issues one, with the vector it was handed (`ForkArgv`, WorldKinds).  What it
is handed is followed through evaluation (`execIn_evalT`, `cmd_evalT`) and `matches_interpolate` (`interp_go_argv`, from
`argv_full` for each entry).
-/

namespace Mdsort.Proofs
open Mdsort Mdsort.Model

def ExecSub (S : List Bytes → Prop) (e : Expr) : Prop :=
  ∀ lno si bo argv, Expr.exec lno si bo argv ∈ e.leaves → S argv

/-- Every `exec` entry of the match list was built from a string list satisfying `S`. -/
def ExecIn (S : List Bytes → Prop) (ml : MatchList) : Prop := ∀ m ∈ ml, m.ty = .exec → S m.strings

variable {S : List Bytes → Prop}

/-- Evaluation adds `exec` entries only for the `exec` leaves of the tree, whatever the answers of the operating system. -/
theorem execIn_evalT (env : Env) (root : Msg) (e : Expr) (he : ExecSub S e) (part : Nat) (m : Msg) (st : St)
    (h : ExecIn S st.ml) : (evalT env root e part m st).AllRet fun r => ExecIn S r.2.ml :=
  evalT_entries (K := fun ty ss => ty = .exec → S ss) env root e (fun h => nomatch h)
    (fun n hn x hx hty => by cases n <;> cases hx <;> first | exact he _ _ _ _ hn | cases hty) part m st h

/-- The argument vector of an `exec` entry is the interpolation of a configured string list: one argument per string, in
order, each the C string of the one-pass interpolation (in some context `before` of captures and macro table `macros`),
and every string does interpolate. -/
def ArgvFrom (S : List Bytes → Prop) (M : Option (List (Bytes × Bytes)) → Prop) (av : List Bytes) : Prop :=
  ∃ strings before macros, S strings ∧ M macros ∧
    av = strings.map (fun t => cstr ((interpolate before macros t).getD [])) ∧
    ∀ t ∈ strings, (interpolate before macros t).isSome = true

variable {M : Option (List (Bytes × Bytes)) → Prop}

def ArgvOf (S : List Bytes → Prop) (M : Option (List (Bytes × Bytes)) → Prop) (m : Match) : Prop :=
  m.ty = .exec → ArgvFrom S M m.argv

theorem interp_go_argv (macros : Option (List (Bytes × Bytes))) (hM : M macros) :
    ∀ (rest : MatchList) (i : Nat) (cur : MatchList) (msgs : Nat → Msg) (r : MatchList × (Nat → Msg)),
      matchesInterpolate.go macros i rest cur msgs = some r → cur.drop i = rest →
      (∀ m ∈ cur.take i, ArgvOf S M m) → ExecIn S rest → ∀ m ∈ r.1, ArgvOf S M m := by
  intro rest
  induction rest with
  | nil =>
    intro i cur msgs r hr hdrop htake _ m hm
    rw [matchesInterpolate.go] at hr
    cases hr
    have hlen : cur.length ≤ i := List.drop_eq_nil_iff.1 hdrop
    rw [List.take_of_length_le hlen] at htake
    exact htake m hm
  | cons m0 more ih =>
    intro i cur msgs r hr hdrop htake hrest
    rw [matchesInterpolate.go] at hr
    cases hmi : matchInterpolate macros cur i m0 msgs with
    | none => rw [hmi] at hr; cases hr
    | some x =>
      obtain ⟨mh', upd⟩ := x
      rw [hmi] at hr
      dsimp only at hr
      have hi : i < cur.length := by
        apply Nat.lt_of_not_le
        intro hle
        rw [List.drop_eq_nil_iff.2 hle] at hdrop
        cases hdrop
      have hty : mh'.ty = m0.ty := congrArg Prod.fst (matchInterpolate_key macros cur i m0 mh' msgs upd hmi)
      refine ih (i + 1) _ _ r hr ?_ ?_ (fun m hm => hrest m (List.mem_cons_of_mem _ hm))
      · rw [List.drop_set_of_lt (by omega)]
        have : cur.drop (i + 1) = (cur.drop i).drop 1 := by rw [List.drop_drop]
        rw [this, hdrop]
        rfl
      · intro m hm
        rw [List.take_add_one, List.take_set_of_le (Nat.le_refl _)] at hm
        rcases List.mem_append.1 hm with h1 | h1
        · exact htake m h1
        · rw [List.getElem?_set_self hi] at h1
          simp only [Option.toList_some, List.mem_singleton] at h1
          subst h1
          intro hex
          have hty0 : m0.ty = .exec := by rw [← hty]; exact hex
          obtain ⟨hav, hsome, -, -⟩ := argv_full macros cur i m0 m msgs upd (.inl hty0) hmi
          exact ⟨m0.strings, cur.take i, macros, hrest m0 (List.mem_cons_self ..) hty0, hM, hav, hsome⟩

theorem matchesInterpolate_argv (env : Env) (ml ml' : MatchList) (msgs msgs' : Nat → Msg) (h : ExecIn S ml)
    (hi : matchesInterpolate env ml msgs = some (ml', msgs')) :
    ∀ m ∈ ml', ArgvOf S (fun mc => mc = some [(ofString "path", env.path)]) m := by
  unfold matchesInterpolate at hi
  exact interp_go_argv (M := fun mc => mc = some [(ofString "path", env.path)]) _ rfl ml 0 ml msgs (ml', msgs') hi rfl
    (by intro m hm; cases hm) h

def CmdSub (C : List Bytes → Prop) (e : Expr) : Prop := ∀ lno argv, Expr.command lno argv ∈ e.leaves → C argv

/-- A question `command av` asks for the interpolation of the strings of a `command` node: one argument per configured
string, in order (`List.mapM`), in the context `before` of the captures of the rule so far, without a macro table. -/
def CmdQ (C : List Bytes → Prop) : Req → Prop
  | .command av => ∃ argv before, C argv ∧ argv.mapM (interpolate before none) = some av
  | _ => True

variable {C : List Bytes → Prop}

/-- Every `command` question of the evaluation of `e` comes from a `command` leaf of `e`. -/
theorem cmd_evalT (env : Env) (root : Msg) (e : Expr) (he : CmdSub C e) :
    ∀ (part : Nat) (m : Msg) (st : St), (evalT env root e part m st).Qs (CmdQ C) :=
  (evalT_isEvalT env root).qs e fun n hn part m st => by
    have hl := Expr.isLeaf_of_mem_leaves hn
    cases n <;> first | (cases hl; done) | skip
    case command lno argv =>
      rw [evalT_command]
      -- the question is asked only after every string interpolated (`hav`)
      split
      · exact True.intro
      · rename_i av hav
        exact ⟨⟨argv, _, he lno argv hn, hav⟩, fun _ => True.intro⟩
    all_goals
      -- no other leaf asks a `command` question
      refine (evalT_leaf_qs env root hl part m st).mono fun q hq => ?_
      cases q <;> first | exact True.intro | cases hq

open Mdsort.Proofs.World (Calls)

variable {A : List Bytes → Prop}

theorem ForkArgv.of_not_isFork {c : Call} (h : c.isFork = false) : ForkArgv A c := by
  cases c <;> first | exact True.intro | cases h

theorem ForkArgv.mono {A B : List Bytes → Prop} (h : ∀ av, A av → B av) {c : Call} (hc : ForkArgv A c) : ForkArgv B c := by
  cases c <;> first | exact True.intro | exact h _ hc

/-- `matches_exec` forks with the `argv` of its `exec` entries (what `match_interpolate` stored in them) and with nothing
else. -/
theorem fa_matchesExec (env : PEnv) (ml : MatchList) (st : ExecSt) (h : ∀ mh ∈ ml, mh.ty = .exec → A mh.argv) :
    Calls (ForkArgv A) (matchesExec env ml st) :=
  (World.issues_matchesExec (N := fun _ => True) env (fun _ _ => True.intro) ml st h).mono fun _ hc => hc.2.2

theorem fa_sysCall (q : Req) (h : ∀ av, q = .command av → A (av.map cstr)) : Calls (ForkArgv A) (sysCall q) := by
  cases q with
  | command av =>
    exact Calls.bind ((World.issues_execP (N := fun _ => True) _ _ (h av rfl)).mono fun _ hc => hc.2.2) fun _ => True.intro
  | isDir p => exact ⟨True.intro, fun _ => True.intro⟩
  | fileTime p f => exact ⟨True.intro, fun _ => True.intro⟩

/-- `ss` is the string list of an `exec` action of the rule tree. -/
def IsExecNode : Expr → List Bytes → Prop
  | .block _ e, ss | .neg _ e, ss | .attachment _ e, ss | .attBlock _ e, ss => IsExecNode e ss
  | .and _ l r, ss | .or _ l r, ss | .mtch _ l r, ss => IsExecNode l ss ∨ IsExecNode r ss
  | .exec _ _ _ argv, ss => ss = argv
  | _, _ => False

/-- `ss` is the string list of a `command` condition of the rule tree. -/
def IsCmdNode : Expr → List Bytes → Prop
  | .block _ e, ss | .neg _ e, ss | .attachment _ e, ss | .attBlock _ e, ss => IsCmdNode e ss
  | .and _ l r, ss | .or _ l r, ss | .mtch _ l r, ss => IsCmdNode l ss ∨ IsCmdNode r ss
  | .command _ argv, ss => ss = argv
  | _, _ => False

theorem execSub_self (e : Expr) : ExecSub (IsExecNode e) e := by
  intro lno si bo argv hn
  induction e with
  | block _ e ih | neg _ e ih | attachment _ e ih | attBlock _ e ih => exact ih hn
  | and _ l r ihl ihr | or _ l r ihl ihr | mtch _ l r ihl ihr => exact (List.mem_append.1 hn).imp ihl ihr
  | _ => cases List.mem_singleton.1 hn <;> rfl

theorem cmdSub_self (e : Expr) : CmdSub (IsCmdNode e) e := by
  intro lno argv hn
  induction e with
  | block _ e ih | neg _ e ih | attachment _ e ih | attBlock _ e ih => exact ih hn
  | and _ l r ihl ihr | or _ l r ihl ihr | mtch _ l r ihl ihr => exact (List.mem_append.1 hn).imp ihl ihr
  | _ => cases List.mem_singleton.1 hn <;> rfl

/-- The macro table of an action list: exactly `path`, the path of the message (`matches_interpolate`). -/
def PathMacro (mc : Option (List (Bytes × Bytes))) : Prop := ∃ p, mc = some [(ofString "path", p)]

/-- The vectors a child of a run over the rule tree `e` can be started with: the interpolation of the strings of an
`exec` action of `e` (macro table: `path`), or of the strings of a `command` condition of `e` (no macro table) - one
argument per configured string, in order, each the C string of the one-pass interpolation. -/
def ChildArgv (e : Expr) (av : List Bytes) : Prop :=
  ArgvFrom (IsExecNode e) PathMacro av ∨ ArgvFrom (IsCmdNode e) (fun mc => mc = none) av

theorem cmdQ_childArgv {e : Expr} {av : List Bytes} (h : CmdQ (IsCmdNode e) (.command av)) : ChildArgv e (av.map cstr) := by
  obtain ⟨argv, before, hc, hm⟩ := h
  obtain ⟨h1, h2⟩ := List.mapM_eq_map (interpolate before none) [] argv av hm
  refine .inr ⟨argv, before, none, hc, rfl, ?_, h2⟩
  rw [h1, List.map_map]
  rfl

theorem fa_evalP (env : Env) (e : Expr) (m : Msg) (fl : MFlags) : Calls (ForkArgv (ChildArgv e)) (evalP env e m fl) := by
  refine calls_toProg_qs (cmd_evalT env m e (cmdSub_self e) 0 m _) fun q hq => ?_
  refine fa_sysCall q fun av hav => ?_
  subst hav
  exact cmdQ_childArgv hq

theorem fa_afterVerdict (env : PEnv) (orc : EvalOracles) (e : Expr) (md : Maildir) (name : Bytes) (st : MainSt) (ms : MsgSt)
    (ev : Tri × St) (hev : ExecIn (IsExecNode e) ev.2.ml) :
    Calls (ForkArgv (ChildArgv e)) (afterVerdict env md name st ms (evVerdict env orc ms ev)) := by
  obtain ⟨t, est⟩ := ev
  cases t with
  | error => simp only [evVerdict, afterVerdict]; exact Calls.bind (calls_freeP (fun _ => True.intro) _) fun _ => True.intro
  | «nomatch» => simp only [evVerdict, afterVerdict]; exact Calls.bind (calls_freeP (fun _ => True.intro) _) fun _ => True.intro
  | «match» =>
    simp only [evVerdict]
    cases hmi : matchesInterpolate (msgEnv env orc ms.path) est.ml (partMsg ms.msg ms.parts) with
    | none => simp only [afterVerdict]; exact Calls.bind (calls_freeP (fun _ => True.intro) _) fun _ => True.intro
    | some x =>
      obtain ⟨ml, msgs⟩ := x
      simp only [afterVerdict]
      split
      · exact Calls.bind (calls_freeP (fun _ => True.intro) _) fun _ => True.intro
      · refine Calls.bind (fa_matchesExec env ml _ ?_) fun x => Calls.bind (calls_freeP (fun _ => True.intro) _) fun _ => True.intro
        intro mh hmh hty
        obtain ⟨ss, before, mc, hs, hmc, hav, hsome⟩ := matchesInterpolate_argv _ est.ml ml _ msgs hev hmi mh hmh hty
        exact .inl ⟨ss, before, mc, hs, ⟨_, hmc⟩, hav, hsome⟩

theorem fa_processMessage (env : PEnv) (orc : EvalOracles) (e : Expr) (md : Maildir) (name : Bytes) (st : MainSt) :
    Calls (ForkArgv (ChildArgv e)) (processMessage env orc e md name st) := by
  cases hd : md.dirH with
  | none => rw [processMessage_noDir env orc e md name st hd]; exact True.intro
  | some d =>
    cases hf : st.files.get md.path name with
    | none => rw [processMessage_unknown env orc e md name st d hd hf]; exact True.intro
    | some content =>
      rw [processMessage_eq env orc e md name st d content hd hf]
      refine Calls.bind ((World.kinds_messageParseP d md.path name content).mono fun _ => ForkArgv.of_kind (by decide)) fun pm => ?_
      cases pm with
      | none => exact True.intro
      | some ms =>
        unfold afterParse evalMs
        refine calls_bind_all (fa_evalP _ e ms.msg ms.flags)
          (Ask.AllRet.toProg (execIn_evalT (S := IsExecNode e) _ ms.msg e (execSub_self e) 0 ms.msg _ (by intro m hm; cases hm))) ?_
        intro ev hev
        exact fa_afterVerdict env orc e md name st ms ev hev

end Mdsort.Proofs

namespace Mdsort.Proofs.Own
open Mdsort Mdsort.Model Mdsort.Proofs
open Mdsort.Proofs.World (Calls)

/-- The vectors a child of a run over the configuration can be started with: those of one of its rule trees. -/
def ConfArgv (conf : List ConfBlock) (av : List Bytes) : Prop := ∃ b ∈ conf, ChildArgv b.expr av

/-- Every `fork` of a run of `main` carries the interpolation of the configured strings of an `exec` action or a `command`
condition of the configuration - whatever the calls return. -/
theorem fa_mainP (env : PEnv) (orc : EvalOracles) (ok : Bool) (conf : List ConfBlock) (files : Files) (input : Bytes) :
    Calls (ForkArgv (ConfArgv conf)) (mainP env orc ok conf files input) :=
  World.calls_mainP (fun _ => ForkArgv.of_kind (by decide)) (fun _ _ => ForkArgv.of_kind (by decide))
    (fun b hb md n st => (fa_processMessage env orc b.expr md n st).mono fun _ hc => hc.mono fun _ hav => ⟨b, hb, hav⟩)
    ok files

end Mdsort.Proofs.Own
