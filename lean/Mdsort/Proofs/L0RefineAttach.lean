import Mdsort.Proofs.L0Unfold
import Mdsort.Proofs.L0Decode
import Mdsort.Proofs.L0RefineHeader
import Mdsort.Proofs.L0RefineSearch
import Mdsort.Proofs.L0RefineMime
import Mdsort.Proofs.Literal

/-!
# L0 `message_get_header1`, `parseattachments`, `message_get_attachments` refine the list model

No access leaves a buffer, no stale pointer into the attachment table is used, and the table is tracked: read back
(`l0r_readAtt`: the header table through its pointers, the body as a C string) the elements `parseattachments` appends
are the parts of `Model.parseAttachments`, at every depth, and the error flag is the list model's `none`.

No hypothesis on the boundaries: `findboundary` and `Model.findBoundary` agree for every boundary, also one that
contains a newline (L0RefineMime); `l0r_witMsg` is a message with such a boundary.
-/

namespace Mdsort.L0
open Mdsort Mdsort.L0.Buf

/-- The L1 message a `struct message` stands for. -/
def l0r_readAtt (a : Att) : Model.Msg :=
  { headers := a.headers.toList.map (l0r_readHdr a.buf), body := a.buf.view a.body }

theorem l0r_decodeHeader_refines (b : Buf) {val : Nat} (h : b.HasNul val) :
    ∃ d, decodeHeader b val = .ok d ∧ d.Terminated ∧ d.view 0 = Model.decodeHeader (b.view val) := by
  unfold decodeHeader Model.decodeHeader
  obtain ⟨u, hu, hnu, hvu, -⟩ := unfoldHeader_refines b h
  rw [hu]
  simp only
  rw [rfc2047Decode_refines u hnu, hvu]
  exact ⟨_, rfl, ofBytes_terminated _, by rw [view_ofBytes]; rfl⟩

theorem l0r_decodeRange_refines (m : Att) (hin : HdrsIn m.buf m.headers) :
    ∀ (n idx : Nat), idx + n ≤ m.headers.size →
      ∃ ds, decodeRange m idx n = .ok ds ∧ (∀ d ∈ ds, d.Terminated) ∧
        ds.map (fun d => d.view 0) =
          (((l0r_readAtt m).headers.drop idx).take n).map fun h => Model.decodeHeader h.val := by
  intro n
  induction n with
  | zero => intro idx _; exact ⟨[], rfl, by simp, by simp⟩
  | succ n ih =>
    intro idx hle
    rw [decodeRange]
    have hlt : idx < m.headers.size := by omega
    rw [Array.getElem?_eq_getElem hlt]
    simp only
    obtain ⟨d, hd, htd, hvd⟩ := l0r_decodeHeader_refines m.buf (hin _ (Array.getElem_mem hlt)).2
    rw [hd]
    simp only
    obtain ⟨ds, hds, hall, hmap⟩ := ih (idx + 1) (by omega)
    rw [hds]
    refine ⟨_, rfl, ?_, ?_⟩
    · intro x hx
      rcases List.mem_cons.mp hx with rfl | hx
      · exact htd
      · exact hall x hx
    · have hlt' : idx < (l0r_readAtt m).headers.length := by simp [l0r_readAtt]; exact hlt
      rw [List.drop_eq_getElem_cons hlt', List.take_succ_cons, List.map_cons, List.map_cons, hmap, hvd]
      congr 1
      simp [l0r_readAtt, l0r_readHdr]

theorem l0r_getHeader1_refines (m : Att) (hin : HdrsIn m.buf m.headers) (name : Bytes) (hname : ∀ x ∈ name, x ≠ 0) :
    ∃ r, getHeader1 m name = .ok r ∧ (∀ t, r = some t → t.Terminated) ∧
      r.map (fun t => t.view 0) = Model.getHeader1 (l0r_readAtt m) name := by
  unfold getHeader1 getHeader Model.getHeader1 Model.getHeader
  rw [l0r_searchHeader_refines (ofBytes_terminated name).hasNul0 hin (Nat.le_refl _), l0r_table_full,
    view_ofBytes_of_no_nul hname]
  have hhd : (l0r_readAtt m).headers = m.headers.toList.map (l0r_readHdr m.buf) := rfl
  rw [hhd]
  cases hs : Model.searchHeader (m.headers.toList.map (l0r_readHdr m.buf)) name with
  | none => exact ⟨none, rfl, by simp, rfl⟩
  | some p =>
    obtain ⟨idx, nfound⟩ := p
    obtain ⟨hpos, hle⟩ := Proofs.searchHeader_in_bounds _ _ _ _ hs
    simp only [List.length_map, Array.length_toList] at hle
    simp only
    obtain ⟨ds, hds, hall, hmap⟩ := l0r_decodeRange_refines m hin nfound idx hle
    rw [hds]
    rw [hhd] at hmap
    rw [← hmap]
    cases ds with
    | nil => exact ⟨none, rfl, by simp, rfl⟩
    | cons v rest => exact ⟨some v, rfl, by intro t ht; cases ht; exact hall v (by simp), rfl⟩

/-- The L0 model spells the name as a byte list, the list model with `ofString`. -/
theorem l0r_contentTypeName : contentTypeName = Model.contentTypeName := by decide +kernel

theorem l0r_contentTypeName_no_nul : ∀ x ∈ contentTypeName, x ≠ 0 := by decide

/-- How the table after `parseattachments` stands for the list model's result: the error flag is `none`; otherwise
the elements appended, read back, are the parts. -/
def l0r_AttRel (v v' : Vec Att) (e : Bool) : Option (List Model.Msg) → Prop
  | none => e = true
  | some ps => e = false ∧ v'.items.toList.map l0r_readAtt = v.items.toList.map l0r_readAtt ++ ps

/-- The `while (!term)` loop of `parseattachments` from the beginning of a part (`beg = body = &buf[bg]`): one
iteration finds the end of the part, appends the part, recurses into it, finds the same delimiter line again and
skips it; this is one step of the list model's loop.  The recursive call `parseattachments(attach, parent, depth + 1)` is
the parameter `sub` (list level: `subL`), assumed to refine by `hsub`: the depth induction of
`l0r_parseAttachments_refines` supplies it. -/
theorem l0r_partsLoop_refines (sub : Vec Att → Ptr → M (Vec Att × Bool))
    (subL : Model.Msg → Option (List Model.Msg))
    (hsub : ∀ v p a, VecOk v → PtrOk v p → v.deref p = .ok a →
      ∃ v' e, sub v p = .ok (v', e) ∧ VecOk v' ∧ l0r_AttRel v v' e (subL (l0r_readAtt a)))
    (bnd : Buf) (hb : bnd.HasNul 0) (m : Att) {bg : Nat} (hbg : m.buf.HasNul bg) (v : Vec Att) (f : Nat) (hv : VecOk v)
    (hf : (m.buf.view bg).length < f) :
    ∃ v' e, partsLoop sub bnd m bg (some bg) v = .ok (v', e) ∧ VecOk v' ∧
      l0r_AttRel v v' e (Model.partsLoop subL (bnd.view 0) f (m.buf.view bg)) := by
  induction hbg using HasNul.strong_induction generalizing v f with
  | step bg hbg ih =>
    cases f with
    | zero => omega
    | succ f =>
      rw [partsLoop, l0r_findBoundary_refines bnd m.buf hb hbg, Model.partsLoop]
      cases hfb : Model.findBoundary (bnd.view 0) (m.buf.view bg) with
      | none => exact ⟨v, true, rfl, hv, rfl⟩
      | some x =>
        obtain ⟨pre, term, fromLine⟩ := x
        simp only [Option.map_some, l0r_shift]
        obtain ⟨hnb, hvb, _, hne⟩ := l0r_findBoundary_pos hbg hfb
        obtain ⟨hsplit, _, hdelim⟩ := Proofs.findBoundaryAux_split hfb
        obtain ⟨v1, p, hc, -, hgen, hidx, hstore⟩ := Vec.calloc_store v (default : Att)
        rw [hc]
        simp only
        rw [strndup_spec hbg]
        simp only
        have hpre : (m.buf.view bg).take (bg + pre.length - bg) = pre := by
          rw [hsplit, Nat.add_sub_cancel_left, List.take_left]
        rw [hpre]
        have hprenn : ∀ x ∈ pre, x ≠ 0 := fun x hx =>
          view_no_nul m.buf bg x (by rw [hsplit]; exact List.mem_append_left _ hx)
        obtain ⟨ab, hdrs, abody, hmp, hnab, hinab, hpart⟩ :=
          l0r_messageParseHeaders_refines (ofBytes pre) (ofBytes_terminated pre)
        rw [view_ofBytes_of_no_nul hprenn] at hpart
        rw [hmp]
        simp only
        rw [hstore]
        simp only
        have haok : AttOk { buf := ab, headers := hdrs, body := abody, path := m.path } := ⟨hnab, hinab⟩
        have hread : l0r_readAtt { buf := ab, headers := hdrs, body := abody, path := m.path } =
            Model.parseHeaders pre := hpart.symm
        generalize ({ buf := ab, headers := hdrs, body := abody, path := m.path } : Att) = a at haok hread ⊢
        have hv2 : VecOk { v1 with items := v.items.push a } := by
          intro x hx
          rcases Array.mem_push.mp hx with hx | hx
          · exact hv x hx
          · subst hx; exact haok
        have hp2 : PtrOk { v1 with items := v.items.push a } p := by
          refine ⟨hgen, ?_⟩
          simp only [hidx, Array.size_push]; omega
        have hderef : ({ v1 with items := v.items.push a } : Vec Att).deref p = .ok a := by
          unfold Vec.deref
          simp only [hgen, ne_eq, not_true_eq_false, if_false, hidx]
          simp
        obtain ⟨v3, e3, hs3, hv3, hrel3⟩ := hsub _ p a hv2 hp2 hderef
        rw [hs3]
        rw [hread] at hrel3
        cases hsl : subL (Model.parseHeaders pre) with
        | none =>
          rw [hsl] at hrel3
          obtain rfl : e3 = true := hrel3
          exact ⟨v3, true, rfl, hv3, rfl⟩
        | some nested =>
          rw [hsl] at hrel3
          obtain ⟨rfl, hmap3⟩ := hrel3
          simp only [Array.toList_push, List.map_append, List.map_cons, List.map_nil, hread] at hmap3
          simp only
          cases term with
          | true =>
            refine ⟨v3, false, rfl, hv3, rfl, ?_⟩
            rw [hmap3]; simp
          | false =>
            simp only [Bool.false_eq_true, if_false]
            -- the same delimiter line again, with `beg == NULL`
            rw [partsLoop, l0r_findBoundary_refines bnd m.buf hb hnb, hvb,
              show Model.findBoundary _ fromLine = _ from Proofs.findBoundaryAux_found hdelim]
            simp only [Option.map_some, l0r_shift, List.length_nil, Nat.add_zero]
            obtain ⟨hnb', hvb'⟩ := l0r_skipLine_view hnb
            have hb'gt := Nat.lt_add_of_pos_right (n := bg + pre.length) (l0r_lineLen_pos (hvb ▸ hne))
            rw [l0r_skipLine_spec hnb]
            generalize bg + pre.length + l0r_lineLen (m.buf.view (bg + pre.length)) = b' at hnb' hvb' hb'gt ⊢
            simp only [Bool.false_eq_true, if_false]
            have hlen : (m.buf.view bg).length = pre.length + fromLine.length := by rw [hsplit]; simp
            have hsklt := Proofs.skipLine_length_lt hne
            rw [hvb] at hvb'
            obtain ⟨v4, e4, hr4, hv4, hrel4⟩ := ih b' hnb' (by omega) v3 f hv3 (by rw [hvb']; omega)
            rw [hvb'] at hrel4
            refine ⟨v4, e4, hr4, hv4, ?_⟩
            cases hpl : Model.partsLoop subL (bnd.view 0) f (Model.skipLine fromLine) with
            | none => rw [hpl] at hrel4; exact hrel4
            | some more =>
              rw [hpl] at hrel4
              obtain ⟨he4, hmap4⟩ := hrel4
              refine ⟨he4, ?_⟩
              rw [hmap4, hmap3]
              simp

/-- `parseattachments(msg, parent, depth)` refines the list model at every depth, for every table and every valid
`msg`: the error flag is the list model's `none`, and otherwise the elements appended to the parent's table, read
back, are the list model's parts (pre-order). -/
theorem l0r_parseAttachments_refines (root : Att) (hr : AttOk root) :
    ∀ (fuel : Nat) (v : Vec Att) (msg : MsgRef) (m : Att), VecOk v → RefOk v msg → derefMsg root v msg = .ok m →
      ∃ v' e, parseAttachments fuel root v msg = .ok (v', e) ∧ VecOk v' ∧
        l0r_AttRel v v' e (Model.parseAttachments fuel (l0r_readAtt m)) := by
  intro fuel
  induction fuel with
  | zero =>
    intro v msg m hv hm hd
    rw [parseAttachments, hd]
    exact ⟨v, true, rfl, hv, rfl⟩
  | succ fuel ih =>
    intro v msg m hv hm hd
    obtain ⟨m', hd', hma⟩ := derefMsg_ok root hr v hv msg hm
    rw [hd] at hd'
    cases hd'
    rw [parseAttachments, hd, Model.parseAttachments]
    simp only
    obtain ⟨r, hg, ht, hmapr⟩ := l0r_getHeader1_refines m hma.2 contentTypeName l0r_contentTypeName_no_nul
    rw [l0r_contentTypeName] at hmapr
    rw [hg]
    cases r with
    | none =>
      simp only [Option.map_none] at hmapr
      rw [← hmapr]
      exact ⟨v, false, rfl, hv, rfl, by simp⟩
    | some type =>
      simp only [Option.map_some] at hmapr
      rw [← hmapr]
      simp only
      have htn := (ht type rfl).hasNul0
      obtain ⟨rb, hpb, hbrel⟩ := l0r_parseBoundary_refines type htn
      rw [hpb]
      generalize Model.parseBoundary (type.view 0) = mb at hbrel
      match rb, mb, hbrel with
      | .notMultipart, .notMultipart, _ => exact ⟨v, false, rfl, hv, rfl, by simp⟩
      | .invalid, .invalid, _ => exact ⟨v, true, rfl, hv, rfl⟩
      | .ok bnd, .ok bb, hbrel =>
        obtain ⟨hbeq, hbview⟩ := hbrel
        have hb0 : bnd.HasNul 0 := by rw [hbeq]; exact (ofBytes_terminated bb).hasNul0
        simp only
        have hbody : (l0r_readAtt m).body = m.buf.view m.body := rfl
        rw [hbody]
        -- the opening delimiter: `beg == NULL`
        rw [partsLoop, l0r_findBoundary_refines bnd m.buf hb0 hma.1, hbview]
        cases hfb : Model.findBoundary bb (m.buf.view m.body) with
        | none => exact ⟨v, true, rfl, hv, rfl⟩
        | some x =>
          obtain ⟨pre, term, fromLine⟩ := x
          simp only [Option.map_some, l0r_shift]
          obtain ⟨hnb, hvb, _, hne⟩ := l0r_findBoundary_pos hma.1 hfb
          obtain ⟨hsplit, _⟩ := Proofs.findBoundary_split _ _ _ _ _ hfb
          obtain ⟨hnb', hvb'⟩ := l0r_skipLine_view hnb
          rw [l0r_skipLine_spec hnb]
          generalize m.body + pre.length + l0r_lineLen (m.buf.view (m.body + pre.length)) = b' at hnb' hvb' ⊢
          simp only
          cases term with
          | true => exact ⟨v, false, rfl, hv, rfl, by simp⟩
          | false =>
            simp only [Bool.false_eq_true, if_false]
            rw [hvb] at hvb'
            have hlen : (m.buf.view m.body).length = pre.length + fromLine.length := by rw [hsplit]; simp
            have hsklt := Proofs.skipLine_length_lt hne
            have := l0r_partsLoop_refines (fun v' p => parseAttachments fuel root v' (.att p))
              (Model.parseAttachments fuel)
              (fun v' p a hv' hp' hda => ih v' (.att p) a hv' hp' hda)
              bnd hb0 m hnb' v (m.buf.view m.body).length.succ hv (by rw [hvb']; omega)
            rw [hvb', hbview] at this
            exact this

theorem l0r_getAttachments_refines (root : Att) (hr : AttOk root) :
    ∃ r, getAttachments root = .ok r ∧
      r.map (fun a => a.toList.map l0r_readAtt) = Model.getAttachments (l0r_readAtt root) := by
  unfold getAttachments Model.getAttachments
  -- the index-level model writes the fuel `5 - depth` of `parseattachments` (`depth > 4`) as a numeral, the list model as the
  -- regenerated constant `Gen.mimeDepthLimit + 1`
  have h5 : Gen.mimeDepthLimit + 1 = 5 := rfl
  rw [h5]
  obtain ⟨v', e, h, _, hrel⟩ := l0r_parseAttachments_refines root hr 5 Vec.init .root root
    (by intro a ha; simp [Vec.init] at ha) trivial rfl
  rw [h]
  cases hm : Model.parseAttachments 5 (l0r_readAtt root) with
  | none =>
    rw [hm] at hrel
    obtain rfl : e = true := hrel
    exact ⟨none, rfl, rfl⟩
  | some ps =>
    rw [hm] at hrel
    obtain ⟨rfl, hmap⟩ := hrel
    refine ⟨some v'.items, rfl, ?_⟩
    simp only [Option.map_some]
    rw [hmap]
    simp [Vec.init]

/-- A whole message: `message_parse_headers` then `message_get_attachments` on a NUL-terminated buffer compute the
list model's message and its attachments. -/
theorem l0r_message_refines (b : Buf) (ht : b.Terminated) (path : Bytes) :
    ∃ b' hs body r, messageParseHeaders b = .ok (b', hs, body) ∧
      l0r_readAtt { buf := b', headers := hs, body := body, path := path } = Model.parseHeaders (b.view 0) ∧
      getAttachments { buf := b', headers := hs, body := body, path := path } = .ok r ∧
      r.map (fun a => a.toList.map l0r_readAtt) = Model.getAttachments (Model.parseHeaders (b.view 0)) := by
  obtain ⟨b', hs, body, hp, hnb, hin, hpart⟩ := l0r_messageParseHeaders_refines b ht
  have hread : l0r_readAtt { buf := b', headers := hs, body := body, path := path } = Model.parseHeaders (b.view 0) :=
    hpart.symm
  obtain ⟨r, hr, hmap⟩ := l0r_getAttachments_refines { buf := b', headers := hs, body := body, path := path }
    ⟨hnb, hin⟩
  rw [hread] at hmap
  exact ⟨b', hs, body, r, hp, hread, hr, hmap⟩

/-- `message_parse` of a file, then `message_get_attachments`: the list model's message and attachments, for every
file (no hypothesis on the boundaries). -/
theorem l0r_file_refines (file : Bytes) :
    ∃ b' hs body r, messageParseHeaders (Buf.ofBytes file) = .ok (b', hs, body) ∧
      getAttachments { buf := b', headers := hs, body := body, path := [] } = .ok r ∧
      r.map (fun a => a.toList.map l0r_readAtt) = Model.getAttachments (Model.parseMessage file) := by
  obtain ⟨b', hs, body, r, h1, _, h3, h4⟩ := l0r_message_refines (Buf.ofBytes file) (ofBytes_terminated file) []
  rw [view_ofBytes] at h4
  exact ⟨b', hs, body, r, h1, h3, h4⟩

/-- Number of attachments the index-level code finds in a file (`none`: NULL, or a fault). -/
def l0r_partsCount (file : Bytes) : Option Nat :=
  match messageParseHeaders (Buf.ofBytes file) with
  | .ok (b', hs, body) =>
    (match getAttachments { buf := b', headers := hs, body := body, path := [] } with
     | .ok (some v) => some v.size
     | _ => none)
  | .error _ => none

/-- A message whose boundary is `"a\n"` (through an RFC 2047 encoded word).  message.c finds no part in it (the
only delimiter line it accepts is the terminator `"--a\n--\n"`; checked on the real binary: `attachment body /found/`
does not match); so do the index-level code and the list model.  (The line `--a\n` at offset 4 of the body begins inside
the text the first round compared and is never examined; what a reading of every line would find is stated nowhere.) -/
def l0r_witMsg : Bytes :=
  ofString "Content-Type: multipart/mixed; boundary=\"=?UTF-8?Q?a=0A?=\"\n\n--a\n--a\n\nX: y\n\nfound\n--a\n--\n"

/-- The boundary of `l0r_witMsg` contains a newline, and the list model finds no part in it (one evaluation of the parse). -/
theorem l0r_witMsg_eval :
    (Model.getHeader1 (Model.parseMessage l0r_witMsg) Model.contentTypeName).map Model.parseBoundary =
      some (.ok [97, 10]) ∧
    Model.getAttachments (Model.parseMessage l0r_witMsg) = some [] := by
  rw [l0r_witMsg]
  decide_lit

/-- Both levels find the same number of parts in EVERY file (a corollary of `l0r_file_refines`); stated for any file also
because with the closed term `l0r_witMsg` in place the kernel evaluates the parse again when it checks the rewriting steps. -/
theorem l0r_partsCount_eq (file : Bytes) :
    l0r_partsCount file = (Model.getAttachments (Model.parseMessage file)).map List.length := by
  obtain ⟨b', hs, body, r, h1, h2, h3⟩ := l0r_file_refines file
  unfold l0r_partsCount
  rw [h1]
  simp only
  rw [h2, ← h3]
  cases r with
  | none => rfl
  | some a => simp

theorem l0r_witMsg_L0 : l0r_partsCount l0r_witMsg = some 0 := by
  rw [l0r_partsCount_eq, l0r_witMsg_eval.2]
  rfl

/-- On it both levels find no part (and no error). -/
theorem l0r_message_newline_example :
    l0r_partsCount l0r_witMsg = (Model.getAttachments (Model.parseMessage l0r_witMsg)).map List.length :=
  l0r_partsCount_eq _

end Mdsort.L0
