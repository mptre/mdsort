import Mdsort.Proofs.LimitsSetters
import Mdsort.Model.Conf

/-!
# The parser under two sizes of the `expandtilde` buffer

The only buffer the parser fills is the one of `expandtilde` (`PATH_MAX`, parse.y): a string that starts with `~` is
replaced by `home ++ rest` when that fits, otherwise the diagnostic "path too long" is issued and the configuration is
rejected as a whole.  Strings that do not start with `~` (literal paths, and what macros expand to - `expandmacros` runs
AFTER `expandtilde`) are not measured by the parser at all; they are measured when they are used (`maildir_open`,
`expr_eval_move`, `expr_eval_stat`, `match_interpolate`).

`parseConfigL_mono`: for `l ≤ l'` the parser with buffer `l` gives what the parser with buffer `l'` gives, or it
rejects the configuration.
-/

namespace Mdsort.Proofs.Limits
open Mdsort Mdsort.Model

def PMono {α : Type} (m m' : PM α) : Prop := ∀ s, m s = m' s ∨ ∃ line s', m s = .err line s'

theorem PMono.refl {α : Type} (m : PM α) : PMono m m := fun _ => .inl rfl

theorem PMono.of_eq {α : Type} {m m' : PM α} (h : m = m') : PMono m m' := h ▸ PMono.refl m

theorem PMono.bind {α β : Type} {m m' : PM α} {f f' : α → PM β} (hm : PMono m m') (hf : ∀ a, PMono (f a) (f' a)) :
    PMono (m >>= f) (m' >>= f') := by
  intro s
  show PM.bind m f s = PM.bind m' f' s ∨ ∃ line s', PM.bind m f s = .err line s'
  unfold PM.bind
  rcases hm s with h | ⟨line, s', h⟩
  · rw [h]
    cases m' s with
    | ok a s1 => exact hf a s1
    | err l s1 => exact .inl rfl
    | fuel s1 => exact .inl rfl
  · rw [h]; exact .inr ⟨line, s', rfl⟩

theorem PMono.bind_same {α β : Type} (m : PM α) {f f' : α → PM β} (hf : ∀ a, PMono (f a) (f' a)) : PMono (m >>= f) (m >>= f') :=
  PMono.bind (PMono.refl m) hf

theorem expandStr_mono {l l' : Lim} (hle : l ≤ l') (home : Bytes) (action : Bool) (ms : List Macro) (str : Bytes) :
    expandStr l home action ms str = none ∨ expandStr l home action ms str = expandStr l' home action ms str := by
  unfold expandStr
  rcases expandTildeL_mono home str hle with h | h
  · rw [h]; exact .inl rfl
  · rw [h]; exact .inr rfl

theorem expandStrs_mono {l l' : Lim} (hle : l ≤ l') (home : Bytes) (action : Bool) (strs : List Bytes) : ∀ ms,
    expandStrs l home action ms strs = none ∨ expandStrs l home action ms strs = expandStrs l' home action ms strs := by
  induction strs with
  | nil => intro ms; exact .inr rfl
  | cons s r ih =>
    intro ms
    simp only [expandStrs]
    rcases expandStr_mono hle home action ms s with h | h
    · rw [h]; exact .inl rfl
    · rw [h]
      cases expandStr l' home action ms s with
      | none => exact .inl rfl
      | some x =>
        obtain ⟨s', ms'⟩ := x
        simp only
        rcases ih ms' with h2 | h2
        · rw [h2]; exact .inl rfl
        · rw [h2]; exact .inr rfl

def cxAt (cx : PCtx) (l : Lim) : PCtx := { cx with pathMax := l }

variable {l l' : Lim} (cx : PCtx)

theorem expandOne_mono (hle : l ≤ l') (action : Bool) (str : Bytes) : PMono (expandOne (cxAt cx l) action str) (expandOne (cxAt cx l') action str) := by
  intro s
  simp only [expandOne, cxAt]
  rcases expandStr_mono hle cx.home action s.macros str with h | h
  · rw [h]; exact .inr ⟨_, _, rfl⟩
  · rw [h]; exact .inl rfl

theorem expandAll_mono (hle : l ≤ l') (action : Bool) (strs : List Bytes) : PMono (expandAll (cxAt cx l) action strs) (expandAll (cxAt cx l') action strs) := by
  intro s
  simp only [expandAll, cxAt]
  rcases expandStrs_mono hle cx.home action strs s.macros with h | h
  · rw [h]; exact .inr ⟨_, _, rfl⟩
  · rw [h]; exact .inl rfl

theorem peek_cxAt : peek (cxAt cx l) = peek cx := rfl
theorem curLine_cxAt : curLine (cxAt cx l) = curLine cx := rfl
theorem expectTk_cxAt (tk : Tk) : expectTk (cxAt cx l) tk = expectTk cx tk := rfl
theorem parseStr_cxAt : parseStr (cxAt cx l) = parseStr cx := rfl
theorem parsePattern_cxAt : parsePattern (cxAt cx l) = parsePattern cx := rfl
theorem checkPattern_cxAt (p : Pat) : checkPattern (cxAt cx l) p = checkPattern cx p := rfl
theorem parseDate_cxAt : parseDate (cxAt cx l) = parseDate cx := rfl
theorem parseOptNeg_cxAt : parseOptNeg (cxAt cx l) = parseOptNeg cx := rfl
theorem leafAt_cxAt (mk : Nat → Expr) : leafAt (cxAt cx l) mk = leafAt cx mk := rfl

theorem parseStringBlock_cxAt (fuel : Nat) : ∀ acc, parseStringBlock (cxAt cx l) fuel acc = parseStringBlock cx fuel acc := by
  induction fuel with
  | zero => intro acc; rfl
  | succ n ih => intro acc; simp only [parseStringBlock, ih, peek_cxAt]

theorem parseStrings_cxAt (fuel : Nat) : parseStrings (cxAt cx l) fuel = parseStrings cx fuel := by
  simp only [parseStrings, parseStringBlock_cxAt, peek_cxAt]

theorem parseExecFlags_cxAt (fuel : Nat) : ∀ si bo, parseExecFlags (cxAt cx l) fuel si bo = parseExecFlags cx fuel si bo := by
  induction fuel with
  | zero => intro si bo; rfl
  | succ n ih => intro si bo; simp only [parseExecFlags, ih, peek_cxAt]

/-! Every proof below is a congruence: rewritten with the equations above, the two parsers are the same text except at their calls of
`expandOne` / `expandAll`, so the common prefix of a `do` block is skipped (`PMono.bind_same`, repeated), the expansion is
compared (`expandOne_mono`, `expandAll_mono`), and what follows it is the same parser again. -/

/-- The keyword `k` starts the same operand under both sizes, or none under both; what the caller does with the operand
(`s`, `s'`) or without one (`n`) is a parameter, so that the statement has the shape of the caller's `match` (as `optStep`). -/
theorem parseCondKw_mono {β : Type} (hle : l ≤ l') (fuel : Nat) {unary unary' : PM CTree} (hu : PMono unary unary') (k : Kw)
    {n : PM β} {s s' : PM CTree → PM β} (hs : ∀ p p', PMono p p' → PMono (s p) (s' p')) :
    PMono (match (generalizing := false) parseCondKw (cxAt cx l) fuel unary k with | some p => s p | none => n)
      (match (generalizing := false) parseCondKw (cxAt cx l') fuel unary' k with | some p => s' p | none => n) := by
  cases k <;> simp only [parseCondKw, parseStrings_cxAt, parseStr_cxAt, parsePattern_cxAt, checkPattern_cxAt,
      parseDate_cxAt, leafAt_cxAt, curLine_cxAt] <;> first | refine hs _ _ ?_ | exact .refl _
  -- a keyword that starts no condition gives `n` on both sides (closed by `.refl`); for one that does, the operand parsers are left to
  -- compare: `attachment` calls `unary`, `header` / `command` / `isdirectory` expand their strings, the others do not read `pathMax`
  case attachment => exact .bind_same _ fun _ => .bind hu fun _ => .refl _
  case header | command =>
    repeat refine .bind_same _ fun _ => ?_
    exact .bind (expandAll_mono cx hle _ _) fun _ => .refl _
  case isdirectory =>
    repeat refine .bind_same _ fun _ => ?_
    exact .bind (expandOne_mono cx hle _ _) fun _ => .refl _
  all_goals exact .refl _

theorem parseUnaryBin_mono (hle : l ≤ l') (fuel : Nat) :
    PMono (parseUnary (cxAt cx l) fuel) (parseUnary (cxAt cx l') fuel) ∧
      ∀ lhs, PMono (parseBinTail (cxAt cx l) fuel lhs) (parseBinTail (cxAt cx l') fuel lhs) := by
  induction fuel with
  | zero => exact ⟨.of_eq (by simp only [parseUnary]), fun lhs => .of_eq (by simp only [parseBinTail])⟩
  | succ n ih =>
    refine ⟨?_, fun lhs => ?_⟩
    · simp only [parseUnary, peek_cxAt, curLine_cxAt, expectTk_cxAt]
      refine .bind_same _ fun t => ?_
      cases t with
      | neg => exact .bind_same _ fun _ => .bind ih.1 fun _ => .refl _
      | lparen => exact .bind_same _ fun _ => .bind ih.1 fun e => .bind (ih.2 e) fun _ => .refl _
      | kw k => exact parseCondKw_mono cx hle n ih.1 k fun _ _ h => h
      | _ => exact .refl _
    · simp only [parseBinTail, peek_cxAt, curLine_cxAt]
      refine .bind_same _ fun t => ?_
      cases t with
      | kw k =>
        cases k
        case and | or => exact .bind_same _ fun _ => .bind ih.1 fun r => .bind_same _ fun _ => ih.2 _
        all_goals exact .refl _
      | _ => exact .refl _

theorem parseRuleWith_mono (hle : l ≤ l') (fuel : Nat) {exprs exprs' : PM CTree} {actions actions' : PM (Option CTree)}
    (he : PMono exprs exprs') (ha : PMono actions actions') :
    PMono (parseRuleWith (cxAt cx l) fuel exprs actions) (parseRuleWith (cxAt cx l') fuel exprs' actions') := by
  simp only [parseRuleWith, peek_cxAt, curLine_cxAt]
  refine .bind (parseUnaryBin_mono cx hle fuel).1 fun c0 => .bind ((parseUnaryBin_mono cx hle fuel).2 c0) fun c =>
    .bind_same _ fun t => ?_
  cases t
  case lbrace => exact .bind_same _ fun _ => .bind he fun _ => .refl _
  all_goals exact .bind ha fun _ => .refl _

/-- As `parseCondKw_mono`, for the keyword that starts an action. -/
theorem parseActionWith_mono {β : Type} (hle : l ≤ l') (fuel : Nat) {exprs exprs' : PM CTree} (he : PMono exprs exprs') (k : Kw)
    {n : PM β} {s s' : PM CTree → PM β} (hs : ∀ p p', PMono p p' → PMono (s p) (s' p')) :
    PMono (match (generalizing := false) parseActionWith (cxAt cx l) fuel exprs k with | some p => s p | none => n)
      (match (generalizing := false) parseActionWith (cxAt cx l') fuel exprs' k with | some p => s' p | none => n) := by
  cases k <;> simp only [parseActionWith, parseStrings_cxAt, parseExecFlags_cxAt, parseStr_cxAt, parseOptNeg_cxAt,
      expectTk_cxAt, leafAt_cxAt, curLine_cxAt] <;> first | refine hs _ _ ?_ | exact .refl _
  -- as in `parseCondKw_mono`: `move` / `label` / `exec` expand their strings, `attachment` calls `exprs`, the other actions do not read `pathMax`
  case move =>
    repeat refine .bind_same _ fun _ => ?_
    exact .bind (expandOne_mono cx hle _ _) fun _ => .refl _
  case label | exec =>
    repeat refine .bind_same _ fun _ => ?_
    exact .bind (expandAll_mono cx hle _ _) fun _ => .refl _
  case attachment => exact .bind_same _ fun _ => .bind_same _ fun _ => .bind he fun _ => .refl _
  all_goals exact .refl _

theorem parseExprsActions_mono (hle : l ≤ l') (fuel : Nat) :
    (∀ acc, PMono (parseExprs (cxAt cx l) fuel acc) (parseExprs (cxAt cx l') fuel acc)) ∧
      ∀ acc, PMono (parseActions (cxAt cx l) fuel acc) (parseActions (cxAt cx l') fuel acc) := by
  induction fuel with
  | zero => exact ⟨fun acc => .of_eq (by simp only [parseExprs]), fun acc => .of_eq (by simp only [parseActions])⟩
  | succ n ih =>
    refine ⟨fun acc => ?_, fun acc => ?_⟩
    · simp only [parseExprs, peek_cxAt, curLine_cxAt]
      refine .bind_same _ fun t => ?_
      cases t with
      | kw k =>
        cases k
        case mtch =>
          exact .bind_same _ fun _ => .bind (parseRuleWith_mono cx hle n (ih.1 none) (ih.2 none)) fun r => .bind_same _ fun _ => ih.1 _
        all_goals exact .refl _
      | _ => exact .refl _
    · simp only [parseActions, peek_cxAt]
      refine .bind_same _ fun t => ?_
      cases t with
      | kw k =>
        exact parseActionWith_mono cx hle n (ih.1 none) k fun _ _ h => .bind h fun a => .bind (.of_eq rfl) fun _ => ih.2 _
      | _ => exact .refl _

theorem parseMaildirBody_mono (hle : l ≤ l') (fuel : Nat) (paths : List Bytes) :
    PMono (parseMaildirBody (cxAt cx l) fuel paths) (parseMaildirBody (cxAt cx l') fuel paths) := by
  simp only [parseMaildirBody, expectTk_cxAt]
  exact .bind_same _ fun _ => .bind ((parseExprsActions_mono cx hle fuel).1 none) fun b => .refl _

theorem parseMacroDef_mono (hle : l ≤ l') (name : Bytes) :
    PMono (parseMacroDef (cxAt cx l) name) (parseMacroDef (cxAt cx l') name) := by
  simp only [parseMacroDef, expectTk_cxAt, parseStr_cxAt, curLine_cxAt]
  repeat refine .bind_same _ fun _ => ?_
  exact .bind (expandOne_mono cx hle _ _) fun _ => .refl _

theorem parseTop_mono (hle : l ≤ l') (fuel : Nat) :
    ∀ blocks, PMono (parseTop (cxAt cx l) fuel blocks) (parseTop (cxAt cx l') fuel blocks) := by
  induction fuel with
  | zero => intro blocks; exact .of_eq (by simp only [parseTop])
  | succ n ih =>
    intro blocks
    simp only [parseTop, peek_cxAt, parseStrings_cxAt]
    refine .bind_same _ fun t => ?_
    cases t with
    | kw k =>
      cases k
      case maildir =>
        exact .bind_same _ fun _ => .bind_same _ fun ss => .bind (expandAll_mono cx hle _ _) fun paths =>
          .bind (parseMaildirBody_mono cx hle n paths) fun b => ih _
      case stdin =>
        refine .bind_same _ fun _ => ?_
        split
        · exact .refl _
        · exact .bind (parseMaildirBody_mono cx hle n _) fun b => ih _
      all_goals exact .refl _
    | «macro» name => exact .bind_same _ fun _ => .bind (parseMacroDef_mono cx hle name) fun _ => ih _
    | _ => exact .refl _

theorem parseConfigL_mono (hle : l ≤ l') (home : Bytes) (defs : List (Bytes × Bytes)) (rxOk : Pat → Bool) (input : Bytes) :
    parseConfigL l home defs rxOk input = parseConfigL l' home defs rxOk input ∨
      ∃ line, parseConfigL l home defs rxOk input = .error line := by
  unfold parseConfigL parseConfigFullL
  cases macrosOfDefs defs [] with
  | none => exact .inl rfl
  | some ms =>
    simp only
    have h := parseTop_mono { nl := countNl input, home := home, rxOk := rxOk } hle (input.length + 1) []
      { rest := input, macros := ms }
    simp only [cxAt] at h
    rcases h with h | ⟨line, s', h⟩
    · rw [h]; exact .inl rfl
    · rw [h]; exact .inr ⟨line, rfl⟩

theorem parseConfigL_std (home : Bytes) (defs : List (Bytes × Bytes)) (rxOk : Pat → Bool) (input : Bytes) :
    parseConfigL (.fin PATH_MAX) home defs rxOk input = parseConfig home defs rxOk input := by
  unfold parseConfigL parseConfig
  rfl

end Mdsort.Proofs.Limits
