import Mdsort.Proofs.Inspect
import Mdsort.Proofs.InspectWidth

/-!
# C06 - the explanations printed by a dry run are true

`matches_inspect` (match.c) prints, for every action entry of the match list, the line
`path -> destination` and then calls `expr_inspect` on every entry from `lhs` up to the action,
where `lhs` is the head of the list for the first action and the previous action entry afterwards:
the entries explained under an action are exactly the entries *since the previous action entry*
(not: since the `match` sentinel of the action's rule - see `ExplainedInActionRule` below, which
is false).  `expr_inspect` (expr.c) prints nothing unless the entry's type has `EXPR_FLAG_INSPECT`
(body, date, header in the generated table) and then, for every sub-match `i < mh_nmatches` with
`beg != end` (an unset group has `rm_so = rm_eo = -1`, so it is skipped by the same test), the
line of `mh_val` the sub-match begins in, without its leading blanks, and a marker line.

This file turns the two accumulator loops of the model (`matchesInspect.go`, `exprInspect.go`)
into that structure (`InspT.inspect_go_true`, `InspT.exprInspect_eq`) and proves each printed block true
(`InspT.printedBlock_explains`, from `Insp.lineStart_spec`: which line the loop over `strchr(lbeg, '\n')` finds);
`marker_columns` spells one block out.  Namespaces: `Insp` holds what is said of the model's loops themselves (`lineStart`,
`nspaces`), `InspT` the printed text in closed form and that it is true, `InspWit` the closed witness at the end of the file.
-/

namespace Mdsort.Proofs
open Mdsort Mdsort.Model

/-- The `path -> destination` line of one action entry (`destLines`, Proofs/Inspect.lean, is this line for every action
entry of a list, in order). -/
def destLine (stdinMode : Bool) (path : Bytes) (mh : Match) : Bytes :=
  (if stdinMode then ofString "<stdin>" else path) ++ ofString " -> " ++
    (match mh.ty.info.label with
     | some l => l.toUTF8.toList
     | none => mh.path) ++ [10]

/-- The sub-matches `expr_inspect` prints: the set (`rm_so != -1`), non-empty (`beg != end`) ones, in order. -/
def printed (subs : List Sub) : List (Nat × Nat) :=
  subs.filterMap fun s =>
    match s.off with
    | some (b, e) => if b == e then none else some (b, e)
    | none => none

def printedSubs (mh : Match) : List (Nat × Nat) := printed mh.subs

/-- One explanation block: the head (`conf:lno: key: ` or blanks), the quoted line, and the marker
line `indent` blanks, `^`, `len` blanks, `$`. -/
structure Block where
  head : Bytes
  quoted : Bytes
  indent : Nat
  len : Nat
deriving Repr, DecidableEq

def Block.text (b : Block) : Bytes :=
  b.head ++ (b.quoted ++ ([10] ++ (spaces b.indent ++ ([94] ++ (spaces b.len ++ [36, 10])))))

/-- `L` is the line of `val` that starts at offset `start`: a contiguous segment of `val` without a
newline, preceded by the beginning of `val` or a newline and followed by the end of `val` or a newline. -/
def IsLineAt (val : Bytes) (start : Nat) (L : Bytes) : Prop :=
  ∃ pre post, val = pre ++ L ++ post ∧ pre.length = start ∧
    (pre = [] ∨ pre.getLast? = some 10) ∧ (post = [] ∨ post.head? = some 10) ∧ 10 ∉ L

/-- Block `b` is a true explanation of the sub-match `be = (beg, end)` of a pattern applied to `val`
under the name `key` by the expression of line `lno`:
* the head is `conf:lno: key: ` for the first block of an entry and `inspectHeadWidth` blanks (its columns: path and key
  measured by `width`, the rest in bytes - fix 951a0f1) afterwards;
* the quoted text is a line `L` of `val` without its leading blanks;
* if `beg` is an offset of `val` that is not a newline, `L` is the line `beg` lies in;
* the `$` marker is `width(matched text) - 2` columns after `^`;
* if the sub-match does not begin inside the leading blanks of `L`, `^` stands in the column of the first
  matched byte (the complement is the pinned finding F15). -/
def ExplainsSub (width : Bytes → Nat → Nat) (home confpath : Bytes) (lno : Nat) (key val : Bytes) (first : Bool)
    (be : Nat × Nat) (b : Block) : Prop :=
  b.head = (if first then inspectPrefix home confpath lno ++ key ++ [58, 32]
            else spaces (inspectHeadWidth width home confpath lno key)) ∧
  b.len = width (val.drop be.1) (be.2 - be.1) - 2 ∧
  ∃ start L, IsLineAt val start L ∧ b.quoted = L.drop (nspaces L) ∧
    (be.1 < val.length → val[be.1]? ≠ some 10 → start ≤ be.1 ∧ be.1 < start + L.length) ∧
    (start + nspaces L ≤ be.1 →
      b.indent = inspectHeadWidth width home confpath lno key +
        width (val.drop (start + nspaces L)) (be.1 - (start + nspaces L)))

/-- The blocks `bs` are a true and complete explanation of the entry `mh`: nothing for an entry whose
type lacks the INSPECT flag (or that carries no key/value: not a dry run), otherwise one block per
printed sub-match, in order. -/
def ExplainsEntry (width : Bytes → Nat → Nat) (home confpath : Bytes) (mh : Match) (bs : List Block) : Prop :=
  (mh.ty.isInspect = false ∨ mh.key = none ∨ mh.val = none → bs = []) ∧
  (∀ key val, mh.ty.isInspect = true → mh.key = some key → mh.val = some val →
    bs.length = (printedSubs mh).length ∧
    ∀ i (h1 : i < (printedSubs mh).length) (h2 : i < bs.length),
      ExplainsSub width home confpath mh.lno key val (decide (i = 0)) (printedSubs mh)[i] bs[i])

def Pointwise {α β} (R : α → β → Prop) : List α → List β → Prop
  | [], [] => True
  | a :: as, b :: bs => R a b ∧ Pointwise R as bs
  | _, _ => False

/-- What `-d` prints for one action entry: the entries explained under it and their blocks (one list
per entry). -/
structure Explained where
  entries : MatchList
  action : Match
  blocks : List (List Block)

def Explained.text (stdinMode : Bool) (path : Bytes) (g : Explained) : Bytes :=
  destLine stdinMode path g.action ++ g.blocks.flatten.flatMap Block.text

/-- The reading "an explanation printed under an action belongs to the rule of that action", in
terms of the list: no `match` sentinel (the entry `expr_eval_match` appends when the evaluation of a
rule starts) stands between an entry that prints something and the action it is printed under.
(For a configuration without nested blocks this is exactly "the rule that fired".)  It is FALSE for
mdsort: see `explainedInActionRule_false`. -/
def ExplainedInActionRule (width : Bytes → Nat → Nat) (home confpath : Bytes) (ml : MatchList) : Prop :=
  ∀ (before l r after : MatchList) (x a : Match),
    ml = before ++ (l ++ x :: r) ++ a :: after → a.ty.isAction = true →
    (∀ m ∈ l ++ x :: r, m.ty.isAction = false) →
    exprInspect width home confpath x ≠ [] → ∀ s ∈ r, s.ty ≠ .mtch

/-- The line of `val` that contains offset `beg`: text after the last newline before `beg`, up to the next newline. -/
def lineOf (val : Bytes) (beg : Nat) : Bytes × Nat :=
  let before := val.take beg
  let start := beg - (before.reverse.takeWhile (· != 10)).length
  ((val.drop start).takeWhile (· != 10), start)

namespace Insp

/-- What the loop over `strchr(lbeg, '\n')` returns, started at the beginning `lbeg` of a line with fuel for the rest of
`val`: again the beginning of a line, with no newline from there up to `beg`; and not beyond `beg` unless a newline is
at `beg`. -/
theorem lineStart_spec (val : Bytes) (beg : Nat) : ∀ (fuel lbeg : Nat), val.length < fuel + lbeg →
    (lbeg = 0 ∨ val[lbeg - 1]? = some 10) → lbeg ≤ val.length →
    (lineStart val beg fuel lbeg = 0 ∨ val[lineStart val beg fuel lbeg - 1]? = some 10) ∧
      lineStart val beg fuel lbeg ≤ val.length ∧
      (∀ j, lineStart val beg fuel lbeg ≤ j → j ≤ beg → val[j]? ≠ some 10) ∧
      (val[beg]? ≠ some 10 → lbeg ≤ beg → lineStart val beg fuel lbeg ≤ beg) := by
  intro fuel
  induction fuel with
  | zero => intro lbeg h1 _ h3; omega
  | succ n ih =>
    intro lbeg hfuel h1 h2
    unfold lineStart
    cases hf : (val.drop lbeg).findIdx? (· == 10) with
    | none =>
      dsimp only
      refine ⟨h1, h2, fun j hj _ hv => ?_, fun _ h => h⟩
      have hmem : (10 : UInt8) ∈ val.drop lbeg :=
        List.mem_iff_getElem?.2 ⟨j - lbeg, by rw [List.getElem?_drop, ← hv]; congr 1; omega⟩
      exact absurd (List.findIdx?_eq_none_all hf 10 hmem) (by decide)
    | some k =>
      obtain ⟨hk, hx, hlt⟩ := List.findIdx?_eq_some_iff_getElem.1 hf
      rw [List.getElem_drop] at hx
      rw [List.length_drop] at hk
      have hk10 : val[lbeg + k]? = some 10 := by
        rw [List.getElem?_eq_getElem (by omega)]; exact congrArg some (by simpa using hx)
      dsimp only
      split
      · refine ⟨h1, h2, fun j hj hjb hv => ?_, fun _ h => h⟩
        have := hlt (j - lbeg) (by omega)
        rw [List.getElem_drop] at this
        have hj' : lbeg + (j - lbeg) = j := by omega
        rw [List.getElem?_eq_getElem (by omega)] at hv
        simp only [hj'] at this
        exact this (by simpa using hv)
      · obtain ⟨i1, i2, i3, i4⟩ := ih (lbeg + k + 1) (by omega) (.inr (by simpa using hk10)) (by omega)
        refine ⟨i1, i2, i3, fun hnl hle => i4 hnl ?_⟩
        have : lbeg + k ≠ beg := fun he => hnl (he ▸ hk10)
        omega


theorem lt_line_of_no_nl {val : Bytes} {l beg : Nat} (hb : beg < val.length) (hl : l ≤ beg)
    (h : ∀ j, l ≤ j → j ≤ beg → val[j]? ≠ some 10) : beg < l + ((val.drop l).takeWhile (· != 10)).length := by
  refine Nat.lt_of_not_le fun hle => ?_
  have hsplit := List.takeWhile_append_dropWhile (p := (· != 10)) (l := val.drop l)
  have hlen := congrArg List.length hsplit
  rw [List.length_append, List.length_drop] at hlen
  generalize (val.drop l).takeWhile (· != 10) = t at hle hsplit hlen
  cases hd : (val.drop l).dropWhile (· != 10) with
  | nil => rw [hd, List.length_nil] at hlen; omega
  | cons c r =>
    refine h (l + t.length) (Nat.le_add_right ..) hle ?_
    rw [← List.getElem?_drop, ← hsplit, hd, List.getElem?_append_right (Nat.le_refl _), Nat.sub_self,
      List.eq_of_dropWhile_ne_eq_cons hd]
    rfl

theorem lineStart_eq (val : Bytes) (beg : Nat) (hb : beg < val.length) (hnl : val[beg]? ≠ some 10) :
    lineStart val beg (val.length + 1) 0 = (lineOf val beg).2 := by
  obtain ⟨h1, h2, h3, h4⟩ := lineStart_spec val beg (val.length + 1) 0 (by omega) (.inl rfl) (Nat.zero_le _)
  have hle := h4 hnl (Nat.zero_le _)
  generalize lineStart val beg (val.length + 1) 0 = l at h1 h2 h3 hle
  -- `val.take beg` is `val.take l`, which is empty or ends in a newline, and then `beg - l` bytes that are no newline
  have hsplit : val.take beg = val.take l ++ (val.take beg).drop l := by
    conv => lhs; rw [← List.take_append_drop l (val.take beg), List.take_take, Nat.min_eq_left hle]
  have hseg : ∀ x ∈ ((val.take beg).drop l).reverse, (x != 10) = true := by
    intro x hx
    obtain ⟨i, hi⟩ := List.mem_iff_getElem?.1 (List.mem_reverse.1 hx)
    rw [List.getElem?_drop, List.getElem?_take] at hi
    split at hi
    · exact bne_iff_ne.2 fun hx10 => h3 (l + i) (Nat.le_add_right ..) (by omega) (hx10 ▸ hi)
    · cases hi
  have hstop : ∀ x, (val.take l).reverse.head? = some x → (x != 10) = false := by
    intro x hx
    cases l with
    | zero => cases hx
    | succ l' =>
      rw [List.head?_reverse, List.getLast?_eq_getElem?, List.length_take, Nat.min_eq_left h2, List.getElem?_take,
        if_pos (by omega)] at hx
      rcases h1 with h1 | h1
      · cases h1
      · rw [Nat.add_sub_cancel] at hx h1
        rw [Option.some.inj (hx.symm.trans h1)]
        rfl
  show l = beg - ((val.take beg).reverse.takeWhile (· != 10)).length
  rw [hsplit, List.reverse_append, List.takeWhile_append_stop hseg hstop, List.length_reverse, List.length_drop, List.length_take]
  omega

theorem nspaces_takeWhile (l : Bytes) : nspaces (l.takeWhile (· != 10)) = nspaces l :=
  congrArg List.length (List.takeWhile_takeWhile_of_imp (fun _ hx => bne_iff_ne.mpr (isblank_ne_nl hx)) l)

theorem drop_nspaces_takeWhile (l : Bytes) :
    (l.drop (nspaces l)).takeWhile (· != 10) = (l.takeWhile (· != 10)).drop (nspaces l) := by
  have h := List.dropWhile_takeWhile_comm (p := isblank) (q := (· != 10)) (fun x hx => bne_iff_ne.mpr (isblank_ne_nl hx)) l
  rwa [← List.drop_length_takeWhile, ← List.drop_length_takeWhile,
    show ((l.takeWhile (· != 10)).takeWhile isblank).length = nspaces l from nspaces_takeWhile l] at h

end Insp

namespace InspT

theorem isLineAt_of (val : Bytes) (l0 : Nat) (h0 : l0 = 0 ∨ val[l0 - 1]? = some 10) (hle : l0 ≤ val.length) :
    IsLineAt val l0 ((val.drop l0).takeWhile (· != 10)) := by
  refine ⟨val.take l0, (val.drop l0).dropWhile (· != 10), ?_, ?_, ?_, ?_, ?_⟩
  · rw [List.append_assoc, List.takeWhile_append_dropWhile, List.take_append_drop]
  · rw [List.length_take]; omega
  · by_cases hz : l0 = 0
    · left; simp [hz]
    · right
      rcases h0 with h | h
      · exact absurd h hz
      · rw [List.getLast?_eq_getElem?, List.length_take, Nat.min_eq_left hle, List.getElem?_take]
        simp only [show l0 - 1 < l0 by omega, ↓reduceIte, h]
  · cases h : (val.drop l0).dropWhile (· != 10) with
    | nil => exact .inl rfl
    | cons a r => rw [List.eq_of_dropWhile_ne_eq_cons h]; exact .inr rfl
  · intro hm
    have := List.of_mem_takeWhile (p := fun y => y != 10) hm
    simp at this

/-- The block the model prints for the sub-match `be` (transcribed from `exprInspect.go`).  The `else` of `indent`: `expr_inspect`
computes `beg - (lbeg - val)` in `size_t`; when the match begins inside the skipped leading blanks it wraps and `strnwidth` runs
to the end of the value (Model/Inspect.lean; finding F15).  `ExplainsSub` claims the column only in the other case. -/
def printedBlock (width : Bytes → Nat → Nat) (home confpath : Bytes) (lno : Nat) (key val : Bytes) (first : Bool)
    (be : Nat × Nat) : Block :=
  let pre := inspectPrefix home confpath lno ++ key ++ [58, 32]
  let l0 := lineStart val be.1 (val.length + 1) 0
  let lbeg := l0 + nspaces (val.drop l0)
  { head := if first then pre else spaces (inspectHeadWidth width home confpath lno key)
    quoted := (val.drop lbeg).takeWhile (· != 10)
    indent := inspectHeadWidth width home confpath lno key + width (val.drop lbeg) (if lbeg ≤ be.1 then be.1 - lbeg else val.length - lbeg)
    len := width (val.drop be.1) (be.2 - be.1) - 2 }

theorem printedBlock_explains (width : Bytes → Nat → Nat) (home confpath : Bytes) (lno : Nat) (key val : Bytes) (first : Bool)
    (be : Nat × Nat) :
    ExplainsSub width home confpath lno key val first be (printedBlock width home confpath lno key val first be) := by
  obtain ⟨beg, en⟩ := be
  obtain ⟨h0, hle, hno, hbeg⟩ := Insp.lineStart_spec val beg (val.length + 1) 0 (by omega) (.inl rfl) (Nat.zero_le _)
  unfold ExplainsSub printedBlock
  dsimp only
  generalize lineStart val beg (val.length + 1) 0 = l0 at h0 hle hno hbeg ⊢
  have hns : nspaces (val.drop l0) = nspaces ((val.drop l0).takeWhile (· != 10)) :=
    (Insp.nspaces_takeWhile _).symm
  refine ⟨rfl, rfl, l0, (val.drop l0).takeWhile (· != 10), isLineAt_of val l0 h0 hle, ?_,
    fun hb hnl => ⟨hbeg hnl (Nat.zero_le _), Insp.lt_line_of_no_nl hb (hbeg hnl (Nat.zero_le _)) hno⟩, ?_⟩
  · rw [← List.drop_drop, Insp.drop_nspaces_takeWhile, hns]
  · intro hlead
    rw [← hns] at hlead ⊢
    simp only [hlead, ↓reduceIte]

theorem len_eq (w : Nat) : (if w ≥ 2 then w - 2 else 0) = w - 2 := by split <;> omega

theorem printed_cons_none (s : Sub) (rest : List Sub) (h : s.off = none) : printed (s :: rest) = printed rest := by
  simp only [printed, List.filterMap_cons, h]

theorem printed_cons_empty (s : Sub) (rest : List Sub) (b e : Nat) (h : s.off = some (b, e)) (hbe : (b == e) = true) :
    printed (s :: rest) = printed rest := by
  simp only [printed, List.filterMap_cons, h, hbe, ↓reduceIte]

theorem printed_cons_some (s : Sub) (rest : List Sub) (b e : Nat) (h : s.off = some (b, e)) (hbe : (b == e) = false) :
    printed (s :: rest) = (b, e) :: printed rest := by
  simp only [printed, List.filterMap_cons, h, hbe, Bool.false_eq_true, ↓reduceIte]

/-- The blocks of the printed sub-matches of one entry; `first`: the first of them carries the head. -/
def printedBlocks (width : Bytes → Nat → Nat) (home confpath : Bytes) (lno : Nat) (key val : Bytes) (first : Bool) :
    List (Nat × Nat) → List Block
  | [] => []
  | be :: rest => printedBlock width home confpath lno key val first be :: rest.map (printedBlock width home confpath lno key val false)

/-- The loop of `expr_inspect` over the sub-matches, before (`first`) and after the first block: `pindent` is the width of
`key: ` until the prefix has been printed and the width of the whole head afterwards. -/
theorem exprInspect_go_eq (width : Bytes → Nat → Nat) (home confpath : Bytes) (mh : Match) (key val : Bytes) (subs : List Sub) :
    ∀ (first : Bool) (out : Bytes),
    exprInspect.go width home confpath mh key val subs first
        (if first then width key key.length + 2 else inspectHeadWidth width home confpath mh.lno key) out =
      out ++ (printedBlocks width home confpath mh.lno key val first (printed subs)).flatMap Block.text := by
  induction subs with
  | nil => intro first out; simp [exprInspect.go, printed, printedBlocks]
  | cons s rest ih =>
    intro first out
    rw [exprInspect.go]
    cases hoff : s.off with
    | none => dsimp only; rw [ih, printed_cons_none s rest hoff]
    | some be =>
      obtain ⟨b, e⟩ := be
      dsimp only
      by_cases hbe : (b == e) = true
      · simp only [hbe, ↓reduceIte]
        rw [ih, printed_cons_empty s rest b e hoff hbe]
      · have hbe' : (b == e) = false := by simpa using hbe
        have hrest := ih false
        have hmap : ∀ l, printedBlocks width home confpath mh.lno key val false l =
            l.map (printedBlock width home confpath mh.lno key val false) := fun l => by cases l <;> rfl
        simp only [Bool.false_eq_true, if_false, hmap] at hrest
        rw [printed_cons_some s rest b e hoff hbe']
        cases first
        · simp only [hbe', Bool.false_eq_true, ↓reduceIte, hrest, printedBlocks, List.flatMap_cons, Block.text, printedBlock, len_eq,
            List.append_assoc]
        · have hP : width key key.length + 2 + inspectPrefixWidth width home confpath mh.lno =
              inspectHeadWidth width home confpath mh.lno key := rfl
          simp only [hbe', Bool.false_eq_true, ↓reduceIte, hP, hrest, printedBlocks, List.flatMap_cons, Block.text, printedBlock, len_eq,
            List.append_assoc]

def entryBlocks (width : Bytes → Nat → Nat) (home confpath : Bytes) (mh : Match) : List Block :=
  if mh.ty.isInspect then
    match mh.key, mh.val with
    | some key, some val => printedBlocks width home confpath mh.lno key val true (printedSubs mh)
    | _, _ => []
  else []

theorem exprInspect_eq (width : Bytes → Nat → Nat) (home confpath : Bytes) (mh : Match) :
    exprInspect width home confpath mh = (entryBlocks width home confpath mh).flatMap Block.text := by
  unfold exprInspect entryBlocks
  by_cases hi : mh.ty.isInspect = true
  · simp only [hi, Bool.not_true, Bool.false_eq_true, ↓reduceIte]
    cases hk : mh.key with
    | none => simp
    | some key =>
      cases hv : mh.val with
      | none => simp
      | some val => exact (exprInspect_go_eq width home confpath mh key val mh.subs true []).trans (List.nil_append _)
  · simp [hi]

theorem entryBlocks_explains (width : Bytes → Nat → Nat) (home confpath : Bytes) (mh : Match) :
    ExplainsEntry width home confpath mh (entryBlocks width home confpath mh) := by
  constructor
  · intro h
    unfold entryBlocks
    rcases h with h | h | h
    · simp [h]
    · simp only [h]; split <;> rfl
    · simp only [h]
      split
      · cases mh.key <;> rfl
      · rfl
  · intro key val hi hk hv
    unfold entryBlocks
    simp only [hi, hk, hv, ↓reduceIte]
    cases hp : printedSubs mh with
    | nil => exact ⟨rfl, fun i h1 => absurd h1 (Nat.not_lt_zero _)⟩
    | cons be rest =>
      refine ⟨by simp [printedBlocks], ?_⟩
      intro i h1 h2
      cases i with
      | zero => exact printedBlock_explains width home confpath mh.lno key val true be
      | succ j =>
        simp only [printedBlocks, List.getElem_cons_succ, List.getElem_map, Nat.add_one_ne_zero, decide_false]
        exact printedBlock_explains width home confpath mh.lno key val false _

theorem inspect_go_true (width : Bytes → Nat → Nat) (home confpath : Bytes) (stdinMode : Bool) (path : Bytes) (rest : MatchList)
    (pending : MatchList) (out : Bytes) : (∀ m ∈ pending, m.ty.isAction = false) →
    ∃ (groups : List (MatchList × Match)) (tail : MatchList),
      pending ++ rest = groups.flatMap (fun g => g.1 ++ [g.2]) ++ tail ∧
      (∀ m ∈ tail, m.ty.isAction = false) ∧
      (∀ g ∈ groups, g.2.ty.isAction = true ∧ ∀ m ∈ g.1, m.ty.isAction = false) ∧
      matchesInspect.go width home confpath stdinMode true path rest pending out =
        out ++ groups.flatMap (fun g => destLine stdinMode path g.2 ++ g.1.flatMap (exprInspect width home confpath)) := by
  fun_induction matchesInspect.go width home confpath stdinMode true path rest pending out with
  | case1 pending out => exact fun hp => ⟨[], pending, by simp, hp, by simp, by simp⟩
  | case2 pending out mh more ha ih =>
    intro hp
    obtain ⟨groups, tail, h1, h2, h3, h4⟩ := ih (by
      intro m hm
      rcases List.mem_append.1 hm with hm | hm
      · exact hp m hm
      · rw [List.mem_singleton.1 hm]; simpa using ha)
    exact ⟨groups, tail, by rw [← h1]; simp, h2, h3, h4⟩
  -- the branch `!dryrun` of an action entry: `dryrun` is `true` here, `h : (!true) = true`
  | case3 _ _ _ _ _ _ _ h => exact absurd h (by decide)
  | case4 pending out mh more ha dest line _ ih =>
    intro hp
    obtain ⟨groups, tail, h1, h2, h3, h4⟩ := ih (by simp)
    refine ⟨(pending, mh) :: groups, tail, ?_, h2, ?_, ?_⟩
    · rw [List.nil_append] at h1
      simp only [List.flatMap_cons, h1, List.append_assoc, List.cons_append, List.nil_append]
    · intro g hg
      rcases List.mem_cons.1 hg with rfl | hg
      · exact ⟨by simpa using ha, hp⟩
      · exact h3 g hg
    · rw [h4]
      simp only [List.flatMap_cons, List.append_assoc]
      rfl

theorem flatMap_entryBlocks (width : Bytes → Nat → Nat) (home confpath : Bytes) (es : MatchList) :
    es.flatMap (exprInspect width home confpath) =
      (es.map (entryBlocks width home confpath)).flatten.flatMap Block.text := by
  induction es with
  | nil => rfl
  | cons e r ih =>
    simp only [List.flatMap_cons, List.map_cons, List.flatten_cons, List.flatMap_append, ih, exprInspect_eq]

theorem pointwise_entryBlocks (width : Bytes → Nat → Nat) (home confpath : Bytes) (es : MatchList) :
    Pointwise (ExplainsEntry width home confpath) es (es.map (entryBlocks width home confpath)) := by
  induction es with
  | nil => exact trivial
  | cons e r ih => exact ⟨entryBlocks_explains width home confpath e, ih⟩

end InspT

/-- `Props.C06_explanations_true`. -/
theorem explanations_true (width : Bytes → Nat → Nat) (home confpath : Bytes) (stdinMode : Bool) (path : Bytes) (ml : MatchList) :
    ∃ (groups : List Explained) (tail : MatchList),
      ml = groups.flatMap (fun g => g.entries ++ [g.action]) ++ tail ∧
      (∀ m ∈ tail, m.ty.isAction = false) ∧
      matchesInspect width home confpath stdinMode true path ml = groups.flatMap (Explained.text stdinMode path) ∧
      ∀ g ∈ groups, g.action.ty.isAction = true ∧ (∀ m ∈ g.entries, m.ty.isAction = false) ∧
        Pointwise (ExplainsEntry width home confpath) g.entries g.blocks := by
  obtain ⟨pairs, tail, h1, h2, h3, h4⟩ :=
    InspT.inspect_go_true width home confpath stdinMode path ml [] [] (by simp)
  refine ⟨pairs.map (fun p => ⟨p.1, p.2, p.1.map (InspT.entryBlocks width home confpath)⟩), tail, ?_, h2, ?_, ?_⟩
  · rw [List.nil_append] at h1
    rw [h1, List.flatMap_map]
  · unfold matchesInspect
    rw [h4, List.nil_append, List.flatMap_map]
    congr 1
    funext p
    simp only [Explained.text, InspT.flatMap_entryBlocks]
  · intro g hg
    obtain ⟨p, hp, rfl⟩ := List.mem_map.1 hg
    exact ⟨(h3 p hp).1, (h3 p hp).2, InspT.pointwise_entryBlocks width home confpath p.1⟩

/-- `Props.C06_marker_columns`: one block spelled out, for EVERY width function (`width str len` stands for
`strnwidth(str, len)`, see Model/Inspect.lean). -/
theorem marker_columns (width : Bytes → Nat → Nat) (home confpath : Bytes) (mh : Match) (key val : Bytes)
    (beg end_ : Nat) (s : Bytes)
    (hins : mh.ty.isInspect = true) (hk : mh.key = some key) (hv : mh.val = some val)
    (hsub : mh.subs = [{ str := s, off := some (beg, end_) }])
    (hne : beg < end_) (hle : end_ ≤ val.length) (hnl : val[beg]? ≠ some 10)
    (hlead : (lineOf val beg).2 + nspaces (lineOf val beg).1 ≤ beg) :
    let line := (lineOf val beg).1
    let lstart := (lineOf val beg).2
    let shown := line.drop (nspaces line)
    let pre := inspectPrefix home confpath mh.lno ++ key ++ [58, 32]
    let w := width (val.drop beg) (end_ - beg)
    exprInspect width home confpath mh =
      pre ++ shown ++ [10] ++
      spaces (inspectHeadWidth width home confpath mh.lno key +
        width (val.drop (lstart + nspaces line)) (beg - (lstart + nspaces line))) ++ [94] ++
      spaces (w - 2) ++ [36, 10] := by
  intro line lstart shown pre w
  have hbne : (beg == end_) = false := beq_false_of_ne (Nat.ne_of_lt hne)
  have hblocks : InspT.entryBlocks width home confpath mh =
      [InspT.printedBlock width home confpath mh.lno key val true (beg, end_)] := by
    simp only [InspT.entryBlocks, hins, hk, hv, printedSubs, hsub, printed, List.filterMap_cons, List.filterMap_nil, hbne,
      Bool.false_eq_true, if_false, if_true, InspT.printedBlocks, List.map_nil]
  have hl0 : lineStart val beg (val.length + 1) 0 = lstart := Insp.lineStart_eq val beg (by omega) hnl
  have hns : nspaces (val.drop lstart) = nspaces line := Insp.nspaces_takeWhile _ ▸ rfl
  have hshown : (val.drop (lstart + nspaces line)).takeWhile (· != 10) = shown := by
    rw [← List.drop_drop, ← hns, Insp.drop_nspaces_takeWhile, hns]
    rfl
  rw [InspT.exprInspect_eq, hblocks, List.flatMap_cons, List.flatMap_nil, List.append_nil]
  simp only [Block.text, InspT.printedBlock, hl0, hns, hshown, show lstart + nspaces line ≤ beg from hlead, if_true, pre, w,
    List.append_assoc]

/-- `Props.C06_marker_display_columns`: for `strnwidth` over ANY `mbtowc`/`wcwidth` the blanks before `^` of `marker_columns` are
the display width of everything printed before the first matched byte (`strnwidth_head`). -/
theorem marker_display_columns (mb : Bytes → Option (Nat × Nat)) (wcw : Nat → Int) (home confpath : Bytes) (mh : Match)
    (key val : Bytes) (beg end_ : Nat) (s : Bytes)
    (hins : mh.ty.isInspect = true) (hk : mh.key = some key) (hv : mh.val = some val)
    (hsub : mh.subs = [{ str := s, off := some (beg, end_) }])
    (hne : beg < end_) (hle : end_ ≤ val.length) (hnl : val[beg]? ≠ some 10)
    (hlead : (lineOf val beg).2 + nspaces (lineOf val beg).1 ≤ beg)
    (hpunct : ∀ c ∈ (inspectPath home confpath).1 ++ inspectLno mh.lno ++ [58, 32], OneColumn mb wcw c)
    (hpath : Chars mb (inspectPath home confpath).2) (hkey : Chars mb key) :
    let line := (lineOf val beg).1
    let lstart := (lineOf val beg).2
    let shown := line.drop (nspaces line)
    let pre := inspectPrefix home confpath mh.lno ++ key ++ [58, 32]
    let w := strnwidth mb wcw (val.drop beg) (end_ - beg)
    exprInspect (strnwidth mb wcw) home confpath mh =
      pre ++ shown ++ [10] ++
      spaces (strnwidth mb wcw (pre ++ val.drop (lstart + nspaces line)) (pre.length + (beg - (lstart + nspaces line)))) ++ [94] ++
      spaces (w - 2) ++ [36, 10] := by
  intro line lstart shown pre w
  have hhead : ∀ (r : Bytes) (k : Nat), strnwidth mb wcw (pre ++ r) (pre.length + k) =
      inspectHeadWidth (strnwidth mb wcw) home confpath mh.lno key + strnwidth mb wcw r k := by
    intro r k
    have := strnwidth_head mb wcw (inspectPath home confpath).1 (inspectPath home confpath).2 (inspectLno mh.lno) key [58, 32] r k
      (fun c hc => hpunct c (by simp only [List.mem_append] at hc ⊢; exact Or.inl (Or.inl hc))) hpath
      (fun c hc => hpunct c (by simp only [List.mem_append] at hc ⊢; exact Or.inl (Or.inr hc))) hkey
      (fun c hc => hpunct c (by simp only [List.mem_append] at hc ⊢; exact Or.inr hc))
    show strnwidth mb wcw (inspectPrefix home confpath mh.lno ++ key ++ [58, 32] ++ r)
        ((inspectPrefix home confpath mh.lno ++ key ++ [58, 32]).length + k) = _
    unfold inspectPrefix
    rw [this]
    unfold inspectHeadWidth inspectPrefixWidth
    simp only [List.length_cons, List.length_nil]
    omega
  rw [hhead]
  exact marker_columns (strnwidth mb wcw) home confpath mh key val beg end_ s hins hk hv hsub hne hle hnl hlead

theorem isInspect_iff (t : MType) : t.isInspect = true ↔ t = .body ∨ t = .date ∨ t = .header := by
  cases t <;> decide

theorem isInspect_not_action (t : MType) (h : t.isInspect = true) : t.isAction = false := by
  rcases (isInspect_iff t).1 h with rfl | rfl | rfl <;> decide

/-- `Props.C06_explanations_subject`: what a dry run records for a pattern that matched. -/
theorem regexec_records (env : Env) (ty : MType) (lno part : Nat) (p : Pat) (key val : Bytes) (st : St)
    (groups : List (Option (Nat × Nat)))
    (hty : ty.isInspect = true) (hd : env.dryrun = true) (hrx : env.rx p val = .ok groups) :
    exprRegexec env ty lno part p key val st =
      (.match, { st with ml := st.ml ++ [{ ty := ty, lno := lno, part := part, subs := matchCopy p val groups,
                                           pat := some p, key := some key, val := some val }] }) ∧
    printed (matchCopy p val groups) =
      groups.filterMap (fun g => match g with
        | some (so, eo) => if so == eo then none else some (so, eo)
        | none => none) := by
  constructor
  · have hp : ty.isPath = false ∧ isMF ty = false := by
      rcases (isInspect_iff ty).1 hty with h | h | h <;> subst h <;> decide
    rw [exprRegexec_eq env ty lno part p key val st hp.1 hp.2]
    simp only [regexHit, hrx, regexEntry, hd, if_true]
  · unfold printed matchCopy
    rw [List.filterMap_map]
    congr 1
    funext g
    cases g with
    | none => rfl
    | some se => obtain ⟨so, eo⟩ := se; rfl

theorem Block.text_ne_nil (b : Block) : b.text ≠ [] := by
  intro h
  have := congrArg List.length h
  simp [Block.text] at this

theorem exprInspect_ne_nil (width : Bytes → Nat → Nat) (home confpath : Bytes) (mh : Match) (key val : Bytes)
    (hi : mh.ty.isInspect = true) (hk : mh.key = some key) (hv : mh.val = some val) (hp : printedSubs mh ≠ []) :
    exprInspect width home confpath mh ≠ [] := by
  rw [InspT.exprInspect_eq]
  unfold InspT.entryBlocks
  simp only [hi, hk, hv, ↓reduceIte]
  cases hq : printedSubs mh with
  | nil => exact absurd hq hp
  | cons be rest =>
    rw [InspT.printedBlocks, List.flatMap_cons]
    intro h
    exact Block.text_ne_nil _ (List.append_eq_nil_iff.1 h).1

/-! ## The witness against `ExplainedInActionRule`

```
2: match date modified > 10 seconds and date created > 5000 seconds move "/d1"
3: match date access > 10 seconds move "/d2"
```
on a file with `st_mtim = 100`, `st_ctim = 200`, `st_atim = 300` at `now = 1000`: the first rule does not
fire (the second condition is false) but the entry of its first condition stays in the match list, and
`-d` prints it under the action of the second rule.  (Date conditions on the file are used because
their evaluation does not involve the header parser; the same happens with header and body
conditions.) -/
namespace InspWit

def t100 : Bytes := [84, 104, 117, 44, 32, 48, 49, 32, 74, 97, 110, 32, 49, 57, 55, 48, 32, 48, 48, 58, 48, 49, 58, 52, 48]   -- Thu, 01 Jan 1970 00:01:40 (`time_format`)
def t200 : Bytes := [84, 104, 117, 44, 32, 48, 49, 32, 74, 97, 110, 32, 49, 57, 55, 48, 32, 48, 48, 58, 48, 51, 58, 50, 48]   -- Thu, 01 Jan 1970 00:03:20 (`time_format`)
def t300 : Bytes := [84, 104, 117, 44, 32, 48, 49, 32, 74, 97, 110, 32, 49, 57, 55, 48, 32, 48, 48, 58, 48, 53, 58, 48, 48]   -- Thu, 01 Jan 1970 00:05:00 (`time_format`)
def anyPat : Pat := { src := [46, 42] }

def env : Env where
  rx := fun p v => if p.src == [46, 42] then .ok [some (0, v.length)] else .nomatch
  command := fun _ => 0
  isDir := fun _ => false
  now := 1000
  strptime := fun _ => none
  zoneName := fun _ => none
  fileTime := fun _ => some { atime := 300, mtime := 100, ctime := 200 }
  timeFormat := fun t => if t = 100 then some t100 else if t = 200 then some t200 else if t = 300 then some t300 else none
  dryrun := true
  path := [47, 109, 47, 110, 101, 119, 47, 49]       -- /m/new/1

def msg : Msg := { headers := [], body := [] }

def tree : Expr :=
  .block 1 (.or 1
    (.mtch 2 (.and 2 (.date 2 .modified .gt 10) (.date 2 .created .gt 5000)) (.move 2 [47, 100, 49]))
    (.mtch 3 (.date 3 .access .gt 10) (.move 3 [47, 100, 50])))

def eMtch2 : Match := { ty := .mtch, lno := 2, part := 0 }
def eDate2 : Match :=
  { ty := .date, lno := 2, part := 0, subs := [{ str := t100, off := some (0, 25) }],
    key := some (ofString "Date"), val := some t100, pat := some anyPat }
def eMtch3 : Match := { ty := .mtch, lno := 3, part := 0 }
def eDate3 : Match :=
  { ty := .date, lno := 3, part := 0, subs := [{ str := t300, off := some (0, 25) }],
    key := some (ofString "Date"), val := some t300, pat := some anyPat }
def eMove : Match :=
  { ty := .move, lno := 3, part := 0, maildir := [47, 100, 50], subdir := [110, 101, 119],
    path := [47, 100, 50, 47, 110, 101, 119], strings := [[47, 100, 50]] }

/-- The match list the evaluator returns. -/
def ml : MatchList := [eMtch2, eDate2, eMtch3, eDate3, eMove]

theorem eval_eq : (eval env msg tree 0 msg { ml := [], flags := MFlags.empty }).1 = .match ∧
    (eval env msg tree 0 msg { ml := [], flags := MFlags.empty }).2.ml = ml := by
  simp only [tree, eval]
  decide +kernel

end InspWit

theorem explainedInActionRule_false :
    ¬ ExplainedInActionRule widthCn [47, 104] [99, 111, 110, 102]
      (eval InspWit.env InspWit.msg InspWit.tree 0 InspWit.msg { ml := [], flags := MFlags.empty }).2.ml := by
  intro h
  rw [InspWit.eval_eq.2] at h
  have hne : exprInspect widthCn [47, 104] [99, 111, 110, 102] InspWit.eDate2 ≠ [] :=
    exprInspect_ne_nil _ _ _ InspWit.eDate2 (ofString "Date") InspWit.t100 (by decide) rfl rfl (by decide)
  exact h [] [InspWit.eMtch2] [InspWit.eMtch3, InspWit.eDate3] [] InspWit.eDate2 InspWit.eMove
    rfl (by decide) (by decide) hne InspWit.eMtch3 (by simp) rfl

end Mdsort.Proofs
