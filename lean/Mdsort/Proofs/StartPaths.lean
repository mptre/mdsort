import Mdsort.Model.Start
import Mdsort.Proofs.GenBridge

/-!
# `readenv`, `defaultconf`, `startPaths`: when they succeed, and with what

Each of the three copies into a fixed buffer and ends the run when the value does not fit.  The equations below say so
with the sizes `PATH_MAX` / `TZ_BUF` in place of the regenerated constants; `Props/C18.lean` reads its statements off them.
-/

namespace Mdsort.Proofs.Limits
open Mdsort Mdsort.Model

theorem strlcpyFits_eq (n : Nat) (s : Bytes) : strlcpyFits n s = if s.length < n then some s else none := by
  unfold strlcpyFits
  by_cases h : s.length < n
  · rw [if_neg (Nat.not_le.2 h), if_pos h]
  · rw [if_pos (Nat.not_lt.1 h), if_neg h]

theorem readenv_eq (raw : RawEnv) :
    readenv raw =
      match homeSource raw with
      | none => .error .noHome
      | some h =>
        if h.length ≥ PATH_MAX then .error .homeTooLong
        else if (tmpSource raw).length ≥ PATH_MAX then .error .tmpdirTooLong
        else match raw.tz with
          | none => .ok (h, tmpSource raw, none)
          | some z => if z.length ≥ TZ_BUF then .error .tzTooLong else .ok (h, tmpSource raw, some z) := by
  unfold readenv strlcpyFits
  rw [Gen_evHomeSize_eq, Gen_evTmpdirSize_eq]
  cases homeSource raw with
  | none => rfl
  | some h =>
    by_cases c1 : h.length ≥ PATH_MAX
    · simp only [c1, if_true]
    · by_cases c2 : (tmpSource raw).length ≥ PATH_MAX
      · simp only [c1, c2, if_true, if_false]
      · cases raw.tz with
        | none => simp only [c1, c2, if_false]
        | some z => by_cases c3 : z.length ≥ TZ_BUF <;> simp only [c1, c2, c3, if_true, if_false]

theorem readenv_ok_iff {raw : RawEnv} {hm tm : Bytes} {zo : Option Bytes} :
    readenv raw = .ok (hm, tm, zo) ↔
      homeSource raw = some hm ∧ hm.length < PATH_MAX ∧ tm = tmpSource raw ∧ tm.length < PATH_MAX ∧
        zo = raw.tz ∧ ∀ z, raw.tz = some z → z.length < TZ_BUF := by
  rw [readenv_eq]
  constructor
  · intro hr
    split at hr
    · cases hr
    · rename_i h hh
      split at hr
      · cases hr
      · rename_i c1
        split at hr
        · cases hr
        · rename_i c2
          split at hr
          · rename_i hz
            cases hr
            exact ⟨hh, Nat.not_le.1 c1, rfl, Nat.not_le.1 c2, hz.symm, fun z h => by rw [hz] at h; cases h⟩
          · rename_i z hz
            split at hr
            · cases hr
            · rename_i c3
              cases hr
              exact ⟨hh, Nat.not_le.1 c1, rfl, Nat.not_le.1 c2, hz.symm, fun w h => by rw [hz] at h; cases h; exact Nat.not_le.1 c3⟩
  · rintro ⟨hh, c1, rfl, c2, rfl, c3⟩
    rw [hh]
    simp only [Nat.not_le.2 c1, Nat.not_le.2 c2, if_false]
    cases hz : raw.tz with
    | none => rfl
    | some z => simp only [Nat.not_le.2 (c3 z hz), if_false]

/-- `/.mdsort.conf`: the 13 of the statements about `defaultconf`. -/
theorem confSuffix_length : confSuffix.length = 13 := rfl

theorem defaultconf_eq (siz : Nat) (home : Bytes) :
    defaultconf siz home = if home.length + 13 < siz then some (home ++ confSuffix) else none := by
  have hl : (home ++ confSuffix).length = home.length + 13 := by rw [List.length_append, confSuffix_length]
  unfold defaultconf defaultconfWith snprintfInto
  simp only [hl]
  by_cases h : home.length + 13 < siz
  · rw [if_pos h, List.take_of_length_le (by rw [hl]; omega)]
    simp only [decide_eq_true_eq, Nat.not_le.2 h, if_false]
  · simp only [decide_eq_true_eq, Nat.not_lt.1 h, h, if_true, if_false]

theorem startPaths_ok_iff {raw : RawEnv} {fOpt : Option Bytes} {home tmpdir confpath : Bytes} :
    startPaths raw fOpt = .ok (home, tmpdir, confpath) ↔
      (∃ z, readenv raw = .ok (home, tmpdir, z)) ∧
        (fOpt = some confpath ∨ (fOpt = none ∧ confpath = home ++ confSuffix ∧ home.length + 13 < PATH_MAX)) := by
  unfold startPaths
  simp only [Gen_defaultconfSize_eq, defaultconf_eq]
  cases readenv raw with
  | error e => exact ⟨fun h => (nomatch h), fun ⟨⟨_, h⟩, _⟩ => (nomatch h)⟩
  | ok v =>
    obtain ⟨hm, tm, z⟩ := v
    cases fOpt with
    | some f =>
      constructor
      · intro h; cases h; exact ⟨⟨z, rfl⟩, .inl rfl⟩
      · rintro ⟨⟨_, h⟩, h2 | ⟨h2, _⟩⟩
        · cases h; cases h2; rfl
        · cases h2
    | none =>
      dsimp only
      by_cases c : hm.length + 13 < PATH_MAX
      · rw [if_pos c]
        constructor
        · intro h; cases h; exact ⟨⟨z, rfl⟩, .inr ⟨rfl, rfl, c⟩⟩
        · rintro ⟨⟨_, h⟩, h2 | ⟨_, h2, _⟩⟩
          · cases h2
          · cases h; rw [h2]
      · rw [if_neg c]
        constructor
        · intro h; cases h
        · rintro ⟨⟨_, h⟩, h2 | ⟨_, _, h2⟩⟩
          · cases h2
          · cases h; exact absurd h2 c

end Mdsort.Proofs.Limits
