import Mdsort.Proofs.WorldStdinMove
import Mdsort.Proofs.WorldFootExec

/-! `matches_exec` in a stdin run: the invariant between two actions, and what every action
(whatever it is, whatever fails) leaves of the spool. -/

namespace Mdsort.Proofs.World
open Mdsort Mdsort.Model

/-- The directory `maildir_open(path, 0, env)` opens for a move / flag / flags action (`dstPathOf`, WorldFootExec, has the same
body: `spec_moveBranch_sp` passes from one to the other by `show`; `Spec.destPath` is something else, the final path of a
message under a list of actions). -/
def destPath (path : Bytes) : Option Bytes :=
  match parseSubdir path with
  | none => none
  | some sd =>
    match pathslice path PATH_MAX 0 (-1) with
    | none => none
    | some root => pathjoin PATH_MAX root (subdirName sd)

def moveTy (t : MType) : Prop := t = .move ∨ t = .flag ∨ t = .flags

instance (t : MType) : Decidable (moveTy t) := inferInstanceAs (Decidable (t = .move ∨ t = .flag ∨ t = .flags))

/-- The spool root is a `mkdtemp` name (ends in `X`), the spool directory is its `new`. -/
structure SpoolShape (S : Spool) : Prop where
  srLast : S.sr.getLast? = some 88
  sp : S.sp = S.sr ++ [47] ++ subdirName .new

theorem shape_ne_sr {S : Spool} (hS : SpoolShape S) {p root : Bytes} {sd : Subdir}
    (h : p = root ++ [47] ++ subdirName sd) : p ≠ S.sr := by
  intro e
  have := hS.srLast
  rw [← e, h] at this
  cases sd <;> simp [subdirName] at this

theorem dirPath_closedir_ne (w : World) (h h' : Handle) (r : Res) (hne : h' ≠ h) :
    (stepWorld w (.closedir h) r).dirPath h' = w.dirPath h' := by
  rw [stepWorld_dirPath, core_closedir]
  apply dirPath_congr
  simp [obj_setObj, hne]

/-- What holds after an action, whatever happened: the handles up to the spool's stream are untouched, the spool has at
most two names, the message's descriptor and a changed source lie above the stream. -/
def AllPost (S : Spool) (w : World) (r : ExecSt × Bool) (w' : World) : Prop :=
  InvX S (fun h => S.d < h) w w' ∧
  (∃ a b, (95 : UInt8) ∈ a ∧ (95 : UInt8) ∈ b ∧ NamesIn w' S.sp [a, b]) ∧
  (∀ f, r.1.ms.fd = some f → S.d < f) ∧
  (r.1.chsrc = true → ∃ h, r.1.src.dirH = some h ∧ S.d < h)

theorem AllPost.closedir {S : Spool} {w w' : World} {r : ExecSt × Bool} (a : AllPost S w r w') (h : Handle) (rc : Res)
    (hd : S.d < h) : AllPost S w r (stepWorld w' (.closedir h) rc) := by
  obtain ⟨a1, ⟨x, y, hx, hy, hn⟩, a3, a4⟩ := a
  exact ⟨a1.closedir h rc hd, ⟨x, y, hx, hy, hn.congr (dir_of_dirs (core_dirs _ (.closedir h) rc rfl) _)⟩, a3, a4⟩

/-- The situation between two actions of a stdin run.  `NSD`: no move destination is the spool - a fact about the WHOLE list
`processMessage` executes (WorldStdinMsg puts in `∀ m ∈ ml, moveTy m.ty → destPath m.path ≠ some S.sp`), while this record is
stated at every suffix of that list; it is a parameter and not that fact about the current suffix, so that the record does not
change from one action to the next; `hN` of `spec_execOne_sp` ties it to the action at hand.  `T`: a premise under which the
entry of the message is known to be complete (`trk`); nothing supplies `trk` for any other `T`, and `trk`, `msg`, `cs` are read
by no proof.  The walks below take `T := False`: that a complete copy stays bound somewhere while a list without `discard`
runs is `spec_matchesExec` (WorldExec), which needs nothing of this record; what they add is where that copy is NOT - a
message that was moved, never into the spool, leaves the spool empty (`spec_matchesExec_sp`). -/
structure ActPre (S : Spool) (T NSD : Prop) (cs : List Bytes) (w : World) (st : ExecSt) : Prop where
  src : ∃ sh, st.src.dirH = some sh ∧ w.dirPath sh = some st.src.path ∧ (w.dir st.src.path).isSome ∧
    (st.chsrc = false → sh = S.d) ∧ (st.chsrc = true → S.d < sh) ∧
    (∀ f, st.ms.fd = some f → S.d < f ∧ f ≠ sh ∧ f < w.handles.length)
  stdinSrc : st.chsrc = false → st.src.stdin = true
  shape : st.src.path = st.src.root ++ [47] ++ subdirName st.src.subdir
  dOpen : w.dirPath S.d = some S.sp
  root : w.dir S.sr = some []
  names : NamesIn w S.sp (if st.src.path = S.sp then [st.ms.name] else [])
  nm95 : (95 : UInt8) ∈ st.ms.name
  trk : T → ∃ f0, GoodAt w cs st.src.path st.ms.name f0
  msg : (messageWrite st.ms.msg).1 ∈ cs
  nsd : NSD → st.chsrc = true → st.src.path ≠ S.sp

theorem ActPre.closedir {S : Spool} {T NSD : Prop} {cs : List Bytes} {w : World} {st : ExecSt}
    (pre : ActPre S T NSD cs w st) (h : Handle) (rc : Res) (hne : ∀ sh, st.src.dirH = some sh → sh ≠ h) (hd : S.d ≠ h) :
    ActPre S T NSD cs (stepWorld w (.closedir h) rc) st := by
  obtain ⟨sh, h1, h2, h3, h4, h5, h6⟩ := pre.src
  have hdirs : (stepWorld w (.closedir h) rc).dirs = w.dirs := core_dirs _ _ _ rfl
  have hlen : w.handles.length = (stepWorld w (.closedir h) rc).handles.length := by
    rw [stepWorld_handles, core_closedir]; simp
  refine ⟨⟨sh, h1, ?_, ?_, h4, h5, ?_⟩, pre.stdinSrc, pre.shape, ?_, ?_, ?_, pre.nm95, ?_, pre.msg, pre.nsd⟩
  · rw [dirPath_closedir_ne w h sh rc (hne sh h1)]; exact h2
  · rw [dir_of_dirs hdirs]; exact h3
  · intro f hf
    obtain ⟨a, b, c⟩ := h6 f hf
    exact ⟨a, b, by rw [← hlen]; exact c⟩
  · rw [dirPath_closedir_ne w h S.d rc hd]; exact pre.dOpen
  · rw [dir_of_dirs hdirs]; exact pre.root
  · exact pre.names.congr (dir_of_dirs hdirs _)
  · intro hT
    obtain ⟨f0, hg⟩ := pre.trk hT
    exact ⟨f0, hg.step _ _ trivial trivial⟩

theorem AllPost.ofInv {S : Spool} {T NSD : Prop} {cs : List Bytes} {w w' : World} {st : ExecSt}
    (pre : ActPre S T NSD cs w st) (inv : Inv S w w') (hn : NamesIn w' S.sp (if st.src.path = S.sp then [st.ms.name] else []))
    (b : Bool) : AllPost S w (st, b) w' := by
  obtain ⟨sh, h1, -, -, -, h5, h6⟩ := pre.src
  refine ⟨inv.toX _, ⟨st.ms.name, st.ms.name, pre.nm95, pre.nm95, hn.mono fun x hx => ?_⟩, fun f hf => (h6 f hf).1,
    fun hc => ⟨sh, h1, h5 hc⟩⟩
  split at hx
  · simp only [List.mem_singleton] at hx; simp [hx]
  · cases hx

theorem ActPre.next {S : Spool} {NSD : Prop} {cs : List Bytes} {w w' : World} {st : ExecSt} {X : Handle → Prop} {ms' : MsgSt}
    {sh : Handle} (pre : ActPre S False NSD cs w st) (hsh : st.src.dirH = some sh) (inv : InvX S X w w')
    (hX : ∀ h, X h → h ≠ sh ∧ h ≠ S.d)
    (hfd : ∀ f, ms'.fd = some f → S.d < f ∧ f ≠ sh ∧ f < w'.handles.length)
    (hmsg : ms'.msg = st.ms.msg) (h95 : (95 : UInt8) ∈ ms'.name)
    (hn : NamesIn w' S.sp (if st.src.path = S.sp then [ms'.name] else [])) :
    ActPre S False NSD cs w' { src := st.src, chsrc := st.chsrc, ms := ms', reject := st.reject } := by
  obtain ⟨sh', h1, h2, h3, h4, h5, _⟩ := pre.src
  obtain rfl : sh' = sh := Option.some.inj (h1.symm.trans hsh)
  exact ⟨⟨sh', h1, inv.dirPath h2 (fun hx => (hX _ hx).1 rfl), by rw [inv.exist]; exact h3, h4, h5, hfd⟩, pre.stdinSrc,
    pre.shape, inv.dirPath pre.dOpen (fun hx => (hX _ hx).2 rfl), inv.root, hn, h95, nofun, by rw [hmsg]; exact pre.msg, pre.nsd⟩

theorem wp_closeRet {α} {md : Maildir} {d : Handle} (hd : md.dirH = some d) (x : α) {Q : α → World → Prop} {w : World}
    (h : ∀ rc, Q x (stepWorld w (.closedir d) rc)) : wp NoInv ((maildirClose md).bind fun _ => Prog.ret x) Q w := by
  unfold maildirClose
  simp only [hd, bind_eq, pure_eq, call_bind, call_bind', ret_bind]
  exact wp_call_any fun rc => ⟨trivial, h rc⟩

/-- The `move` / `flag` / `flags` branch of `matches_exec`.  A success always leaves `chsrc = true`: while `chsrc = false` the
source is the spool (`ActPre.stdinSrc`), and `maildir_move` refuses a stdin source whose root is the destination's
(`MoveSp`, last conjunct), so the destination is another maildir and the branch "the source changes" sets the flag; the
branch "same maildir and subdirectory" is reached only with the flag already set, and keeps it. -/
theorem spec_moveBranch_sp (S : Spool) (hS : SpoolShape S) (NSD : Prop) (cs : List Bytes) (env : PEnv) (mh : Match)
    (st : ExecSt) {w : World} (pre : ActPre S False NSD cs w st) (hN : NSD → destPath mh.path ≠ some S.sp) :
    wp NoInv (moveBranch env mh st)
      (fun r w' => AllPost S w r w' ∧
        (r.2 = false → ActPre S False NSD cs w' r.1 ∧ r.1.chsrc = true)) w := by
  obtain ⟨sh, hsh, hps, hsd, hch0, hch1, hfds⟩ := pre.src
  have hdlt : S.d < w.handles.length := lt_of_dirPath pre.dOpen
  have hshlt : sh < w.handles.length := lt_of_dirPath hps
  unfold moveBranch
  refine wp_bind_mono (whole_wp_noInv (wp_both (mid_maildirOpenDst mh.path (I := NoInv) fun _ _ => trivial)
    (wp_uniqueAt _ (namesIn_iff.1 pre.names).2.1))) ?_
  rintro dopt w1 ⟨⟨m1, hdst⟩, hu1⟩
  have inv1 : Inv S w w1 := Mid.inv (s := .same) (a := (st.src.path, st.ms.name)) m1 pre.root nofun
  have names1 := m1.namesIn pre.names hu1 (namesIn_iff.1 pre.names).2.2
  cases dopt with
  | none => exact ⟨AllPost.ofInv pre inv1 names1 true, nofun⟩
  | some dst =>
    obtain ⟨dh, hdh, hpd, hdd, hdhge, -, hjoin, hdest⟩ := hdst dst rfl
    have hshape := pathjoin_eq hjoin
    dsimp only
    refine wp_bind_mono (spec_maildirMove_sp S env st.src dst st.ms hsh hdh (m1.dirPath hps) hpd
      (by rw [m1.dirSome]; exact hdd) (shape_ne_sr hS hshape) inv1.root names1 pre.nm95) ?_
    rintro ⟨ms', e⟩ w2 ⟨inv2, hmsg, hfd, two2, hok⟩
    dsimp only at hmsg hfd hok ⊢
    have invA : Inv S w w2 := inv1.trans inv2
    have hdd2 : S.d < dh := Nat.lt_of_lt_of_le hdlt hdhge
    have all2 : ∀ st' : ExecSt, st'.ms = ms' → (st'.chsrc = true → ∃ h, st'.src.dirH = some h ∧ S.d < h) →
        ∀ b, AllPost S w (st', b) w2 := by
      intro st' h1 h2 b
      refine ⟨invA.toX _, two2, ?_, h2⟩
      intro f hf
      simp only [h1, hfd] at hf
      exact (hfds f hf).1
    have chAll : st.chsrc = true → ∃ h, st.src.dirH = some h ∧ S.d < h := fun hc => ⟨sh, hsh, hch1 hc⟩
    cases e with
    | true =>
      simp only [if_true]
      refine wp_closeRet hdh _ fun rc => ?_
      exact ⟨(all2 { src := st.src, chsrc := st.chsrc, ms := ms', reject := st.reject } rfl chAll true).closedir _ rc hdd2,
        nofun⟩
    | false =>
      obtain ⟨hn95, namesOk, hstd⟩ := hok rfl
      simp only [Bool.false_eq_true, if_false]
      have fds2 : ∀ f, ms'.fd = some f → S.d < f ∧ f < w2.handles.length := by
        intro f hf
        rw [hfd] at hf
        exact ⟨(hfds f hf).1, Nat.lt_of_lt_of_le (hfds f hf).2.2 invA.len⟩
      split
      · -- the source changes
        have pre2 : ActPre S False NSD cs w2 { src := dst, chsrc := true, ms := ms', reject := st.reject } := by
          refine ⟨⟨dh, hdh, inv2.dirPath hpd not_false, by rw [invA.exist]; exact hdd, nofun, fun _ => hdd2, fun f hf => ?_⟩,
            nofun, hshape, invA.dirPath pre.dOpen not_false, invA.root, namesOk, hn95, nofun, by rw [hmsg]; exact pre.msg, ?_⟩
          · rw [hfd] at hf
            exact ⟨(hfds f hf).1, Nat.ne_of_lt (Nat.lt_of_lt_of_le (hfds f hf).2.2 hdhge), (fds2 f (hfd ▸ hf)).2⟩
          · intro hnsd _ e
            exact hN hnsd (by rw [show destPath mh.path = some dst.path from hdest, e])
        have all2' := all2 { src := dst, chsrc := true, ms := ms', reject := st.reject } rfl (fun _ => ⟨_, hdh, hdd2⟩) false
        split
        · rename_i hch
          refine wp_closeRet hsh _ fun rc => ?_
          have hshd : S.d < sh := hch1 hch
          refine ⟨all2'.closedir sh rc hshd, fun _ => ⟨pre2.closedir sh rc ?_ (Nat.ne_of_lt hshd), rfl⟩⟩
          intro sh' hsh'
          obtain rfl : dh = sh' := Option.some.inj (hdh.symm.trans hsh')
          exact Nat.ne_of_gt (Nat.lt_of_lt_of_le hshlt hdhge)
        · exact ⟨all2', fun _ => ⟨pre2, rfl⟩⟩
      · -- same maildir and subdirectory
        rename_i hsame
        have hsame' : st.src.subdir = dst.subdir ∧ st.src.root = dst.root := by
          simpa using hsame
        have hpath : dst.path = st.src.path := by rw [hshape, pre.shape, hsame'.1, hsame'.2]
        have hch : st.chsrc = true := by
          cases hc : st.chsrc with
          | true => rfl
          | false =>
            exfalso
            have h1 := pre.stdinSrc hc
            rw [h1, hsame'.2] at hstd
            simp at hstd
        refine wp_closeRet hdh _ fun rc => ?_
        have pre2 : ActPre S False NSD cs w2 { src := st.src, chsrc := st.chsrc, ms := ms', reject := st.reject } :=
          pre.next hsh invA (fun _ h => h.elim)
            (fun f hf => ⟨(fds2 f hf).1, (hfds f (hfd ▸ hf)).2.1, (fds2 f hf).2⟩)
            hmsg hn95 (by rw [← hpath]; exact namesOk)
        refine ⟨(all2 { src := st.src, chsrc := st.chsrc, ms := ms', reject := st.reject } rfl chAll false).closedir _ rc hdd2,
          fun _ => ⟨pre2.closedir _ rc ?_ (Nat.ne_of_lt hdd2), hch⟩⟩
        intro sh' hsh'
        obtain rfl : sh = sh' := Option.some.inj (hsh.symm.trans hsh')
        exact Nat.ne_of_lt (Nat.lt_of_lt_of_le hshlt hdhge)

end Mdsort.Proofs.World
