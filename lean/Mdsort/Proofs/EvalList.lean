import Mdsort.Proofs.EvalEq
import Mdsort.Spec.Rules

/-!
# Match-list lemmas for C03

`matchesMerge` / `matchesAppend` characterised up to what the refinement proof needs:
the appended entry keeps type and line, the only entries ever dropped are move/flag entries
(and only when a move/flag entry is appended), and the append cannot fail when every
maildir/subdir that occurs is short enough (`PCtx`, `PathInv`).
-/

namespace Mdsort.Proofs
open Mdsort Mdsort.Model Mdsort.Spec

/-- The two columns of the generated table the proofs ask about, evaluated: one lookup per type. -/
theorem isAction_isPath_eq (t : MType) : (t.isAction, t.isPath) =
    ((t == .move || t == .flag || t == .flags || t == .discard || t == .brk || t == .label || t == .pass
        || t == .reject || t == .exec || t == .attBlock || t == .addHeader),
      (t == .move || t == .flag || t == .flags || t == .label || t == .addHeader)) := by
  cases t <;> decide +kernel

theorem isAction_eq (t : MType) : t.isAction =
    (t == .move || t == .flag || t == .flags || t == .discard || t == .brk || t == .label || t == .pass
      || t == .reject || t == .exec || t == .attBlock || t == .addHeader) :=
  congrArg Prod.fst (isAction_isPath_eq t)

theorem isPath_eq (t : MType) : t.isPath =
    (t == .move || t == .flag || t == .flags || t == .label || t == .addHeader) :=
  congrArg Prod.snd (isAction_isPath_eq t)

/-- move or flag: the two types `matches_merge` combines. -/
def isMF (t : MType) : Bool := t == .move || t == .flag

/-- An action entry that is executed (not the pass/break markers). -/
def realAct (t : MType) : Bool := t.isAction && t != .brk && t != .pass

theorem realAct_eq (t : MType) : realAct t =
    (t == .move || t == .flag || t == .flags || t == .discard || t == .label || t == .reject || t == .exec
      || t == .attBlock || t == .addHeader) := by
  cases t <;> rw [realAct, isAction_eq] <;> rfl

/-- `mlKeys` with the filter named. -/
def keysOf (ml : MatchList) : List (MType × Nat) :=
  (ml.filter fun m => realAct m.ty).map fun m => (m.ty, m.lno)

def hasTy (ml : MatchList) (t : MType) : Bool := ml.any (·.ty == t)

theorem matchesFind_isSome (ml : MatchList) (t : MType) : (matchesFind ml t).isSome = hasTy ml t := by
  unfold matchesFind hasTy
  induction ml with
  | nil => rfl
  | cons x r ih =>
    simp only [List.find?_cons, List.any_cons]
    cases h : x.ty == t <;> simp [ih]

@[simp] theorem hasTy_nil (t : MType) : hasTy [] t = false := rfl
@[simp] theorem hasTy_append (a b : MatchList) (t : MType) : hasTy (a ++ b) t = (hasTy a t || hasTy b t) := by
  simp [hasTy]
@[simp] theorem hasTy_cons (x : Match) (b : MatchList) (t : MType) : hasTy (x :: b) t = (x.ty == t || hasTy b t) := by
  simp [hasTy]

@[simp] theorem keysOf_nil : keysOf [] = [] := rfl

/-- The entry's subdirectory is at most `L` long and its maildir leaves room for `/` and `L` more
bytes; with this for every entry (`PathInv`), whatever pair meets in `pathjoin` fits. -/
def okEntry (L : Nat) (m : Match) : Prop := m.subdir.length ≤ L ∧ m.maildir.length + 1 + L < PATH_MAX

def PathInv (L : Nat) (ml : MatchList) : Prop := ∀ m ∈ ml, okEntry L m

/-- What `InDomain` provides about the message path. -/
structure PCtx (env : Env) (L : Nat) : Prop where
  hm : ∃ m0, pathslice env.path PATH_MAX 0 (-2) = some m0 ∧ m0.length + 1 + L < PATH_MAX
  hs : ∃ s0, pathslice env.path NAME_MAX1 (-2) (-2) = some s0 ∧ s0.length ≤ L

/-- The second half of `okEntry L` for an entry with empty maildir, in the shape it unfolds to. -/
theorem PCtx.hL {env : Env} {L : Nat} (h : PCtx env L) : 0 + 1 + L < PATH_MAX := by
  obtain ⟨m0, _, h⟩ := h.hm
  omega

theorem PathInv.append {L : Nat} {a b : MatchList} (ha : PathInv L a) (hb : PathInv L b) : PathInv L (a ++ b) := by
  intro m hm
  rcases List.mem_append.1 hm with h | h
  · exact ha m h
  · exact hb m h

theorem PathInv.sublist {L : Nat} {a b : MatchList} (hs : a.Sublist b) (hb : PathInv L b) : PathInv L a :=
  fun m hm => hb m (hs.subset hm)

/-- Outcome of `matches_merge` on the list: unchanged, or one move/flag entry dropped because a
move/flag entry is being appended. -/
def MergeRes (ml : MatchList) (ty : MType) (ml1 : MatchList) : Prop :=
  ml1 = ml ∨ (isMF ty = true ∧ ∃ a x b, ml = a ++ x :: b ∧ ml1 = a ++ b ∧ isMF x.ty = true)

theorem removeFirst_spec (t : MType) (ml : MatchList) (dup : Match) : matchesFind ml t = some dup →
    ∃ a b, ml = a ++ dup :: b ∧ removeFirst ml t = a ++ b ∧ dup.ty = t ∧ dup ∈ ml := by
  unfold matchesFind
  fun_induction removeFirst ml t with
  | case1 => nofun
  | case2 m r hm =>
    simp only [List.find?_cons, hm, Option.some.injEq]
    rintro rfl
    exact ⟨[], r, rfl, rfl, by simpa using hm, List.mem_cons_self⟩
  | case3 m r hm ih =>
    simp only [List.find?_cons, hm]
    intro h
    obtain ⟨a, b, h1, h2, h3, h4⟩ := ih h
    exact ⟨m :: a, b, by rw [h1]; rfl, by rw [h2]; rfl, h3, List.mem_cons_of_mem _ h4⟩

/-- The half an entry inherits from the entry `dup` of the other kind. -/
def inherit (mh dup : Match) : Match :=
  if mh.ty == .move then { mh with subdir := dup.subdir } else { mh with maildir := dup.maildir }

def otherMF (t : MType) : MType := if t == .move then .flag else .move

theorem matchesMerge_cases (ml : MatchList) (mh : Match) :
    matchesMerge ml mh = (ml, mh) ∨
    (isMF mh.ty = true ∧ ∃ l, ml.getLast? = some l ∧ l.ty = mh.ty ∧ matchesMerge ml mh = (ml.dropLast, mh)) ∨
    (isMF mh.ty = true ∧ ∃ dup, matchesFind ml (otherMF mh.ty) = some dup ∧
      matchesMerge ml mh = (removeFirst ml (otherMF mh.ty), inherit mh dup)) := by
  have hmf : ¬ (mh.ty != .move && mh.ty != .flag) = true → isMF mh.ty = true := by
    unfold isMF
    cases mh.ty <;> decide
  fun_cases matchesMerge ml mh with
  -- neither move nor flag
  | case1 => exact .inl rfl
  -- the last entry has the type of `mh`: it is dropped
  | case2 h1 last hl h2 => exact .inr (.inl ⟨hmf h1, last, hl, by simpa using h2, rfl⟩)
  -- the last entry has another type and there is no entry of the other kind
  | case3 => exact .inl rfl
  -- .. and `dup` is the first entry of the other kind: it is removed and `mh` inherits its half
  | case4 h1 last hl h2 other dup hd => exact .inr (.inr ⟨hmf h1, dup, hd, rfl⟩)
  -- the list is empty
  | case5 => exact .inl rfl

theorem matchesMerge_entry (ml : MatchList) (mh : Match) :
    ∃ md sd, (matchesMerge ml mh).2 = { mh with maildir := md, subdir := sd } := by
  rcases matchesMerge_cases ml mh with h | ⟨_, _, _, _, h⟩ | ⟨_, dup, _, h⟩
  · exact ⟨mh.maildir, mh.subdir, by rw [h]⟩
  · exact ⟨mh.maildir, mh.subdir, by rw [h]⟩
  · rw [h]; unfold inherit; split
    · exact ⟨mh.maildir, dup.subdir, rfl⟩
    · exact ⟨dup.maildir, mh.subdir, rfl⟩

theorem matchesMerge_ty (ml : MatchList) (mh : Match) : (matchesMerge ml mh).2.ty = mh.ty := by
  obtain ⟨md, sd, h⟩ := matchesMerge_entry ml mh; rw [h]

theorem matchesMerge_res (ml : MatchList) (mh : Match) : MergeRes ml mh.ty (matchesMerge ml mh).1 := by
  rcases matchesMerge_cases ml mh with h | ⟨hmf, l, hl, hlt, h⟩ | ⟨hmf, dup, hd, h⟩
  · rw [h]; exact .inl rfl
  · rw [h]
    obtain ⟨ys, rfl⟩ := List.getLast?_eq_some_iff.1 hl
    exact .inr ⟨hmf, ys, l, [], rfl, by simp, by rw [hlt]; exact hmf⟩
  · rw [h]
    obtain ⟨a, b, e1, e2, e3, _⟩ := removeFirst_spec _ ml dup hd
    refine .inr ⟨hmf, a, dup, b, e1, e2, ?_⟩
    rw [e3]; unfold otherMF isMF; split <;> rfl

theorem MergeRes.sub {ml ml1 : MatchList} {ty : MType} (h : MergeRes ml ty ml1) : ∀ m ∈ ml1, m ∈ ml := by
  rcases h with rfl | ⟨_, a, x, b, rfl, rfl, _⟩
  · exact fun _ h => h
  · intro m hm
    rcases List.mem_append.1 hm with h | h
    · exact List.mem_append_left _ h
    · exact List.mem_append_right _ (List.mem_cons_of_mem _ h)

theorem matchesAppend_snoc (env : Env) (ml : MatchList) (mh : Match) :
    ∃ md sd p, (matchesAppend env ml mh).1 =
      (matchesMerge ml mh).1 ++ [{ (matchesMerge ml mh).2 with maildir := md, subdir := sd, path := p }] := by
  unfold matchesAppend
  generalize matchesMerge ml mh = r
  obtain ⟨ml1, mh1⟩ := r
  dsimp only
  -- the five exits of `matches_append`: no path entry; then no maildir, no subdirectory, no joined path, or all three
  split
  · exact ⟨_, _, _, rfl⟩
  · split
    · exact ⟨_, _, _, rfl⟩
    · split
      · exact ⟨_, _, _, rfl⟩
      · split
        · exact ⟨_, _, _, rfl⟩
        · exact ⟨_, _, _, rfl⟩

theorem matchesMerge_spec {L : Nat} (ml : MatchList) (mh : Match) (hinv : PathInv L ml) (hmh : okEntry L mh) :
    ∃ ml1 mh1, matchesMerge ml mh = (ml1, mh1) ∧ mh1.ty = mh.ty ∧ mh1.lno = mh.lno ∧ mh1.part = mh.part ∧ okEntry L mh1 ∧
      MergeRes ml mh.ty ml1 := by
  obtain ⟨md, sd, he⟩ := matchesMerge_entry ml mh
  refine ⟨(matchesMerge ml mh).1, (matchesMerge ml mh).2, rfl, by rw [he], by rw [he], by rw [he], ?_, matchesMerge_res ml mh⟩
  rcases matchesMerge_cases ml mh with h | ⟨_, _, _, _, h⟩ | ⟨_, dup, hd, h⟩
  · rw [h]; exact hmh
  · rw [h]; exact hmh
  · obtain ⟨_, _, _, _, _, hmem⟩ := removeFirst_spec _ ml dup hd
    have hdup := hinv dup hmem
    rw [h]
    unfold inherit okEntry at *
    split
    · exact ⟨hdup.1, hmh.2⟩
    · exact ⟨hmh.1, hdup.2⟩

theorem MergeRes.eq_of_not_mf {ml ml1 : MatchList} {ty : MType} (h : MergeRes ml ty ml1) (hty : isMF ty = false) :
    ml1 = ml := by
  rcases h with h | ⟨h, _⟩
  · exact h
  · rw [hty] at h; cases h

theorem MergeRes.pathInv {L : Nat} {ml ml1 : MatchList} {ty : MType} (h : MergeRes ml ty ml1) (hinv : PathInv L ml) :
    PathInv L ml1 := by
  rcases h with h | ⟨_, a, x, b, e1, e2, _⟩
  · rw [h]; exact hinv
  · subst e1 e2
    intro m hm
    apply hinv
    simp only [List.mem_append, List.mem_cons] at hm ⊢
    rcases hm with h | h
    · exact Or.inl h
    · exact Or.inr (Or.inr h)

theorem MergeRes.hasTy {ml ml1 : MatchList} {ty : MType} (h : MergeRes ml ty ml1) (t : MType) (ht : isMF t = false) :
    hasTy ml1 t = hasTy ml t := by
  rcases h with h | ⟨_, a, x, b, e1, e2, hx⟩
  · rw [h]
  · subst e1 e2
    have : (x.ty == t) = false := by
      cases hh : x.ty == t
      · rfl
      · have : x.ty = t := by simpa using hh
        rw [this, ht] at hx; cases hx
    simp [this]

theorem matchesAppend_plain (env : Env) (ml : MatchList) (mh : Match) (hp : mh.ty.isPath = false)
    (hmf : isMF mh.ty = false) : matchesAppend env ml mh = (ml ++ [mh], false) := by
  unfold matchesAppend matchesMerge
  have : (mh.ty != .move && mh.ty != .flag) = true := by
    unfold isMF at hmf
    cases hh : mh.ty <;> simp [hh] at hmf ⊢
  simp [this, hp]

theorem matchesAppend_ok {env : Env} {L : Nat} (hctx : PCtx env L) (ml : MatchList) (mh : Match)
    (hinv : PathInv L ml) (hmh : okEntry L mh) :
    ∃ ml1 mh', matchesAppend env ml mh = (ml1 ++ [mh'], false) ∧ mh'.ty = mh.ty ∧ mh'.lno = mh.lno ∧
      mh'.part = mh.part ∧ okEntry L mh' ∧ MergeRes ml mh.ty ml1 := by
  obtain ⟨ml1, mh1, hm, hty, hlno, hpart, hok, hres⟩ := matchesMerge_spec ml mh hinv hmh
  obtain ⟨m0, hm0, hm0L⟩ := hctx.hm
  obtain ⟨s0, hs0, hs0L⟩ := hctx.hs
  unfold matchesAppend
  rw [hm]
  dsimp only
  by_cases hp : mh1.ty.isPath = true
  · simp only [hp, Bool.not_true, Bool.false_eq_true, if_false]
    have hmd : ∃ md, (if mh1.maildir.isEmpty = true then pathslice env.path PATH_MAX 0 (-2) else some mh1.maildir) = some md ∧
        md.length + 1 + L < PATH_MAX := by
      by_cases he : mh1.maildir.isEmpty = true
      · exact ⟨m0, by simp [he, hm0], hm0L⟩
      · exact ⟨mh1.maildir, by simp [he], hok.2⟩
    obtain ⟨md, hmd, hmdL⟩ := hmd
    rw [hmd]
    dsimp only
    have hsd : ∃ sd, (if mh1.subdir.isEmpty = true then pathslice env.path NAME_MAX1 (-2) (-2) else some mh1.subdir) = some sd ∧
        sd.length ≤ L := by
      by_cases he : mh1.subdir.isEmpty = true
      · exact ⟨s0, by simp [he, hs0], hs0L⟩
      · exact ⟨mh1.subdir, by simp [he], hok.1⟩
    obtain ⟨sd, hsd, hsdL⟩ := hsd
    rw [hsd]
    dsimp only
    have hj : pathjoin PATH_MAX md sd = some (md ++ [47] ++ sd) := by
      unfold pathjoin
      have : ¬ (md ++ [47] ++ sd).length ≥ PATH_MAX := by
        simp only [List.length_append, List.length_cons, List.length_nil]
        omega
      simp only [this, if_false]
    rw [hj]
    exact ⟨ml1, _, rfl, hty, hlno, hpart, ⟨hsdL, hmdL⟩, hres⟩
  · simp only [hp, Bool.not_false, if_true]
    exact ⟨ml1, mh1, rfl, hty, hlno, hpart, hok, hres⟩

theorem planOf_eq_nil_iff {ks ps : List (MType × Nat)} (h : planOf ks = planOf ps) : ks = [] ↔ ps = [] := by
  have key : ∀ l : List (MType × Nat), planOf l = ([], none) ↔ l = [] := by
    intro l
    constructor
    · intro hl
      unfold planOf at hl
      simp only [Prod.mk.injEq, List.filter_eq_nil_iff, List.getLast?_eq_none_iff] at hl
      cases l with
      | nil => rfl
      | cons x r =>
        have h1 := hl.1 x (by simp)
        have h2 := hl.2 x (by simp)
        simp at h1
        exact absurd h1 h2
    · intro hl; subst hl; rfl
  constructor
  · intro hk; subst hk; exact (key ps).1 h.symm
  · intro hp; subst hp; exact (key ks).1 h

theorem hasTy_filter_ne_self (ml : MatchList) (t : MType) : hasTy (ml.filter (·.ty != t)) t = false := by
  unfold hasTy
  simp only [List.any_filter]
  rw [List.any_eq_false]
  intro m _
  cases h : m.ty == t <;> simp [h, bne]

theorem hasTy_filter_ne (ml : MatchList) (t t' : MType) (h : t' ≠ t) :
    hasTy (ml.filter (·.ty != t)) t' = hasTy ml t' := by
  unfold hasTy
  simp only [List.any_filter]
  congr 1
  funext m
  cases h1 : m.ty == t'
  · simp
  · have : m.ty = t' := by simpa using h1
    simp [this, h]

theorem filter_ne_of_not_hasTy (ml : MatchList) (t : MType) (h : hasTy ml t = false) :
    ml.filter (·.ty != t) = ml := by
  rw [List.filter_eq_self]
  intro m hm
  unfold hasTy at h
  rw [List.any_eq_false] at h
  have := h m hm
  simp only [bne, Bool.not_eq_true'] at this ⊢
  simpa using this

theorem PathInv.filter {L : Nat} {ml : MatchList} (p : Match → Bool) (h : PathInv L ml) : PathInv L (ml.filter p) :=
  PathInv.sublist List.filter_sublist h

theorem count_actions (ml : MatchList) (hb : hasTy ml .brk = false) (hp : hasTy ml .pass = false) :
    (ml.filter (·.ty.isAction)).length = (keysOf ml).length := by
  unfold keysOf
  rw [List.length_map]
  congr 1
  apply List.filter_congr
  intro m hm
  unfold hasTy at hb hp
  rw [List.any_eq_false] at hb hp
  have h1 := hb m hm
  have h2 := hp m hm
  unfold realAct
  have e1 : (m.ty != .brk) = true := by simpa [bne] using h1
  have e2 : (m.ty != .pass) = true := by simpa [bne] using h2
  simp [e1, e2]

end Mdsort.Proofs
