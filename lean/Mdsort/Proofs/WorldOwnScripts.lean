import Mdsort.Proofs.WorldOwnBasic
import Mdsort.Proofs.WorldVal

/-! What the calls of `matches_exec` may mention, whatever they return (C17, frame of C04): one pass over the scripts with
the invariant `Framed src`.  The mutating calls mention only the name `src` the run was handed and what the run created
itself (names, descriptors, temporary files); `OwnI`, the condition of C17, is the part about `unlinkat`/`renameat`. -/

namespace Mdsort.Proofs
open Mdsort Mdsort.Model

def fdStep (acc : List Handle) : Call × Res → List Handle
  | (.openExcl _ _, .ok h) => h :: acc
  | (.mkostemp _, .ok h) => h :: acc
  | (.dupfd fd, .ok h) => if fd ∈ acc then h :: acc else acc
  | _ => acc

/-- Descriptors of files this run created: results of a successful exclusive create or `mkostemp`,
and duplicates of such descriptors. -/
def ownFds (tr : List (Call × Res)) : List Handle := tr.foldl fdStep []

/-- Templates of the temporary files this run created with `mkostemp`. -/
def tempPaths (tr : List (Call × Res)) : List Bytes :=
  tr.filterMap fun
    | (.mkostemp t, .ok _) => some t
    | _ => none

/-- The frame condition on a call issued when the trace is `tr`, for the message named `src`: of the names that existed
before the run the calls that remove or rename mention only `src`; calls that change nothing (`fstatat`, `openRd`, ...)
and `openExcl` are not restricted. -/
def Framed (src : Bytes) (tr : List (Call × Res)) : Call → Prop
  | .unlinkat _ n => n ∈ src :: createdNames tr
  | .renameat _ n1 _ n2 => n1 ∈ src :: createdNames tr ∧ n2 ∈ createdNames tr
  | .utimensat _ n _ _ => n ∈ createdNames tr
  | .write fd _ => fd ∈ ownFds tr
  | .fprintf fd _ => fd ∈ ownFds tr
  | .unlink p => p ∈ tempPaths tr
  | .mkdtemp _ => False
  | .mkdir _ => False
  | .rmdir _ => False
  | .readdir _ => False
  | _ => True          -- `openExcl` (creates a fresh name or fails), `mkostemp`, and the calls that change nothing

end Mdsort.Proofs

namespace Mdsort.Proofs.Own
open Mdsort Mdsort.Model Mdsort.Proofs
open Mdsort.Proofs.World (bind_eq pure_eq call_bind Calls All)
-- the passes of this namespace (here, WorldFds, Parties*) name these units of WorldEqns without a prefix
export Mdsort.Proofs.World (moveBranch execOne_move matchesExec_nil matchesExec_cons)

theorem createdNames_append (a b : Trace) : createdNames (a ++ b) = createdNames a ++ createdNames b := by
  simp [createdNames, List.filterMap_append]

theorem created_snoc {tr : Trace} {n : Bytes} (L : Trace) (h : n ∈ createdNames tr) : n ∈ createdNames (tr ++ L) := by
  rw [createdNames_append]; exact List.mem_append_left _ h

theorem created_new (tr : Trace) (d : Handle) (n : Bytes) (h : Nat) : n ∈ createdNames (tr ++ [(.openExcl d n, .ok h)]) := by
  rw [createdNames_append]; exact List.mem_append_right _ (by simp [createdNames])

/-- `n` is the name the run was handed or one it created itself in `tr`. -/
def Own (src : Bytes) (tr : Trace) (n : Bytes) : Prop := n ∈ src :: createdNames tr

theorem Own.snoc {src : Bytes} {tr : Trace} {n : Bytes} (L : Trace) (h : Own src tr n) : Own src (tr ++ L) n :=
  (List.mem_cons.1 h).elim (fun h => List.mem_cons.2 (.inl h)) fun h => List.mem_cons.2 (.inr (created_snoc L h))

theorem Own.of_created {src : Bytes} {tr : Trace} {n : Bytes} (h : n ∈ createdNames tr) : Own src tr n :=
  List.mem_cons.2 (.inr h)

theorem Own.src (src : Bytes) (tr : Trace) : Own src tr src := List.mem_cons.2 (.inl rfl)

theorem fdStep_mono {acc : List Handle} {x : Call × Res} {h : Handle} (hm : h ∈ acc) : h ∈ fdStep acc x := by
  unfold fdStep
  split
  · exact List.mem_cons_of_mem _ hm
  · exact List.mem_cons_of_mem _ hm
  · split
    · exact List.mem_cons_of_mem _ hm
    · exact hm
  · exact hm

theorem ownFds_append (tr L : Trace) : ownFds (tr ++ L) = L.foldl fdStep (ownFds tr) := List.foldl_append

theorem ownFds_snoc {tr : Trace} {h : Handle} (L : Trace) (hm : h ∈ ownFds tr) : h ∈ ownFds (tr ++ L) := by
  rw [ownFds_append]
  generalize ownFds tr = acc at hm
  induction L generalizing acc with
  | nil => exact hm
  | cons x L ih => exact ih _ (fdStep_mono hm)

theorem ownFds_excl (tr : Trace) (d : Handle) (n : Bytes) (h : Handle) : h ∈ ownFds (tr ++ [(.openExcl d n, .ok h)]) := by
  rw [ownFds_append]
  exact List.mem_cons_self

theorem ownFds_mkostemp (tr : Trace) (t : Bytes) (h : Handle) : h ∈ ownFds (tr ++ [(.mkostemp t, .ok h)]) := by
  rw [ownFds_append]
  exact List.mem_cons_self

theorem ownFds_dup {tr : Trace} {fd : Handle} (h : Handle) (hm : fd ∈ ownFds tr) :
    h ∈ ownFds (tr ++ [(.dupfd fd, .ok h)]) := by
  rw [ownFds_append]
  simp [fdStep, hm]

theorem tempPaths_append (a b : Trace) : tempPaths (a ++ b) = tempPaths a ++ tempPaths b := by
  simp [tempPaths, List.filterMap_append]

theorem temp_snoc {tr : Trace} {p : Bytes} (L : Trace) (h : p ∈ tempPaths tr) : p ∈ tempPaths (tr ++ L) := by
  rw [tempPaths_append]; exact List.mem_append_left _ h

theorem temp_new (tr : Trace) (t : Bytes) (h : Handle) : t ∈ tempPaths (tr ++ [(.mkostemp t, .ok h)]) := by
  rw [tempPaths_append]; exact List.mem_append_right _ (by simp [tempPaths])

/-! Three tactics of this file (local: the words are no tokens for an importer).  Every walk below carries facts of the
forms `n ∈ createdNames tr`, `Own src tr n`, `h ∈ ownFds tr` from the trace `tr` at which they were obtained to a trace
`tr ++ L₁ ++ … ++ Lₖ` some calls later; the three sets only grow (`created_snoc`, `Own.snoc`, `ownFds_snoc`).  The number `k`
of appends differs from place to place, which is why these are macros that peel one `++` at a time and not a lemma.  The
last alternative of `own`, `created`, makes it usable where the goal is about `createdNames` as well. -/
local syntax "created" : tactic
local macro_rules
  | `(tactic| created) => `(tactic| first | assumption | (apply created_snoc; created))

local syntax "own" : tactic
local macro_rules
  | `(tactic| own) =>
    `(tactic| first | assumption | exact Own.src _ _ | (apply Own.of_created; created) | (apply Own.snoc; own) | created)

local syntax "fdown" : tactic
local macro_rules
  | `(tactic| fdown) => `(tactic| first | assumption | (apply ownFds_snoc; fdown))

/-- The condition of C17 on a call issued when the trace is `tr`. -/
def OwnI (src : Bytes) (tr : Trace) (c : Call) : Prop :=
  (∀ d n, c = .unlinkat d n → Own src tr n) ∧
  (∀ d1 n1 d2 n2, c = .renameat d1 n1 d2 n2 → Own src tr n1 ∧ n2 ∈ createdNames tr)

theorem Framed.ownI {src : Bytes} {tr : Trace} {c : Call} (h : Framed src tr c) : OwnI src tr c :=
  ⟨fun _ _ e => by subst e; exact h, fun _ _ _ _ e => by subst e; exact h⟩

/-- Calls other than `unlinkat` and `renameat`: those `OwnI` and `KnownI` (PartiesReaddir) say nothing about.  (Not `World.Quiet`, the
condition on the calls of a dry run.) -/
def Quiet : Call → Prop
  | .unlinkat .. | .renameat .. => False
  | _ => True

/-- The calls `Framed` does not restrict whatever the trace: the constructors outside `Call.mutating` and `readdir`, listed. -/
def Inert : Call → Prop
  | .openExcl .. | .write .. | .fprintf .. | .renameat .. | .unlinkat .. | .unlink .. | .utimensat ..
  | .mkostemp .. | .mkdtemp .. | .mkdir .. | .rmdir .. | .readdir .. => False
  | _ => True

theorem Inert.framed {c : Call} (h : Inert c) (src : Bytes) (tr : Trace) : Framed src tr c := by
  cases c <;> first | exact h.elim | exact True.intro

variable {R : Call → Res → Prop}

theorem wp_inert {α} {p : Prog α} (src : Bytes) (hc : Calls Inert p) (tr : Trace) :
    wp R (Framed src) p (fun _ _ => True) tr :=
  wp_calls (fun tr _ h => h.framed src tr) hc (All.trivial p) tr

theorem Inert.of_kind {K : List World.Kind}
    (hK : ∀ k ∈ K, k ∉ [.openExcl, .write, .fprintf, .renameat, .unlinkat, .unlink, .utimensat, .mkostemp, .mkdtemp, .mkdir, .rmdir,
      .readdir])
    {c : Call} (h : c.kind ∈ K) : Inert c := by
  cases c <;> first | exact True.intro | exact (hK _ h (World.Kind.mem rfl)).elim

theorem inert_maildirOpendir (md : Maildir) (path : Bytes) : Calls Inert (maildirOpendir md path) :=
  (World.kinds_maildirOpendir md path).mono fun _ => Inert.of_kind (by decide)

theorem inert_maildirClose (md : Maildir) : Calls Inert (maildirClose md) :=
  (World.kinds_maildirClose md).mono fun _ => Inert.of_kind (by decide)

theorem framed_genname (src : Bytes) (env : PEnv) (md : Maildir) (flags : Option Bytes) (fuel count : Nat) (tr : Trace) :
    wp R (Framed src) (genname env md flags fuel count)
      (fun res tr' => ∀ h name, res = some (h, name) → name ∈ createdNames tr' ∧ h ∈ ownFds tr') tr := by
  induction fuel generalizing count tr with
  | zero => unfold genname; exact nofun
  | succ fuel ih =>
    rw [World.genname_succ]
    split
    · exact nofun
    split
    · exact nofun
    refine wp_call True.intro fun r _ => ?_
    split
    · intro h' name e
      cases e
      exact ⟨created_new _ _ _ _, ownFds_excl _ _ _ _⟩
    · split
      · exact ih _ _
      · exact nofun
    · exact nofun

theorem framed_maildirUnlink (src : Bytes) (md : Maildir) (name : Bytes) (tr : Trace) (h : Own src tr name) :
    wp R (Framed src) (maildirUnlink md name) (fun _ _ => True) tr := by
  rw [World.maildirUnlink_eq]
  split
  · exact True.intro
  · exact wp_call h fun r _ => True.intro

theorem framed_hdrs (src : Bytes) (newfd : Handle) (hs : List Hdr) (tr : Trace) (h : newfd ∈ ownFds tr) :
    wp R (Framed src) (messageWriteP.hdrs newfd hs) (fun _ _ => True) tr := by
  induction hs generalizing tr with
  | nil => rw [World.hdrs_nil]; exact True.intro
  | cons x rest ih =>
    rw [World.hdrs_cons]
    refine wp_call h fun r _ => ?_
    split
    · exact ih _ (by fdown)
    · exact True.intro

theorem framed_messageWriteP (src : Bytes) (m : Msg) (fd : Handle) (tr : Trace) (h : fd ∈ ownFds tr) :
    wp R (Framed src) (messageWriteP m fd) (fun _ _ => True) tr := by
  rw [World.messageWriteP_eq]
  refine wp_call_okOr True.intro (fun newfd _ => ?_) fun _ _ _ => True.intro
  have hn : newfd ∈ ownFds (tr ++ [(Call.dupfd fd, Res.ok newfd)]) := ownFds_dup _ h
  generalize tr ++ [(Call.dupfd fd, Res.ok newfd)] = T at hn ⊢
  refine wp_call True.intro fun r2 _ => ?_
  split
  · exact wp_call True.intro fun _ _ => True.intro
  · refine wp_bind_ext (framed_hdrs src newfd _ _ (by fdown)) ?_
    intro herr L _
    refine wp_bind_ext (P := fun _ _ => True) ?_ ?_
    · unfold World.mwTail
      split
      · exact True.intro
      · refine wp_call (show newfd ∈ ownFds _ by fdown) fun r3 _ => ?_
        split
        · exact True.intro
        · refine wp_call True.intro fun r4 _ => ?_
          split
          · exact True.intro
          · exact wp_call True.intro fun _ _ => True.intro
    · intro err1 L2 _
      exact wp_call True.intro fun _ _ => True.intro

theorem framed_writeAll (src : Bytes) (fd : Handle) (fuel : Nat) (data : Bytes) (tr : Trace) (h : fd ∈ ownFds tr) :
    wp R (Framed src) (writeAll fd fuel data) (fun _ _ => True) tr := by
  induction fuel generalizing data tr with
  | zero => unfold writeAll; exact True.intro
  | succ fuel ih =>
    unfold writeAll
    simp only [bind_eq, pure_eq, call_bind]
    split
    · exact True.intro
    · refine wp_call h fun r _ => ?_
      split
      · split
        · exact True.intro
        · exact ih _ _ (by fdown)
      · exact True.intro

theorem framed_writefd (src : Bytes) (tmpdir : Bytes) (tr : Trace) :
    wp R (Framed src) (writefd tmpdir) (fun res tr' => ∀ fd, res = some fd → fd ∈ ownFds tr') tr := by
  unfold writefd
  simp only [bind_eq, pure_eq, call_bind]
  split
  · exact nofun
  refine wp_call True.intro fun r _ => ?_
  split
  · refine wp_call (temp_new _ _ _) fun r2 _ => ?_
    split
    · intro fd' h
      cases h
      exact ownFds_snoc _ (ownFds_mkostemp _ _ _)
    · exact wp_call True.intro fun _ _ => nofun
  · exact nofun

theorem framed_tmpCopy (src tmpdir : Bytes) (fill : Handle → Prog Bool) (T : Trace)
    (hfill : ∀ fd T', fd ∈ ownFds T' → wp R (Framed src) (fill fd) (fun _ _ => True) T') :
    wp R (Framed src) (World.tmpCopy tmpdir fill) (fun _ _ => True) T := by
  unfold World.tmpCopy
  refine wp_bind_ext (framed_writefd src tmpdir T) ?_
  intro f L hf
  cases f with
  | none => exact True.intro
  | some fd =>
    refine wp_bind_ext (hfill fd _ (hf fd rfl)) ?_
    intro e L2 _
    split
    · exact wp_call True.intro fun _ _ => True.intro
    · exact True.intro

theorem framed_messageGetFd (src : Bytes) (env : PEnv) (ms : MsgSt) (part : Option Msg) (dobody : Bool) (tr : Trace) :
    wp R (Framed src) (messageGetFd env ms part dobody) (fun _ _ => True) tr := by
  rw [World.messageGetFd_eq]
  refine wp_bind_ext (P := fun _ _ => True) ?_ ?_
  · split
    · split
      · exact True.intro
      · exact framed_tmpCopy src _ _ _ fun fd T' h => framed_writeAll src fd _ _ T' h
    · split
      · exact framed_tmpCopy src _ _ _ fun fd T' h => framed_messageWriteP src _ fd T' h
      · split
        · exact True.intro
        · exact wp_call True.intro fun _ _ => True.intro
  · intro fdo L _
    unfold World.rewindFd
    cases fdo with
    | none => exact True.intro
    | some fd =>
      refine wp_call True.intro fun r _ => ?_
      split
      · exact True.intro
      · exact wp_call True.intro fun _ _ => True.intro

theorem framed_messageSetFile (src : Bytes) (ms : MsgSt) (dir name : Bytes) (fd : Option Handle) (T : Trace)
    (h1 : Own src T ms.name) (h2 : name ∈ createdNames T) :
    wp R (Framed src) (messageSetFile ms dir name fd) (fun x tr' => Own src tr' x.1.name) T := by
  unfold messageSetFile
  simp only [bind_eq, pure_eq, call_bind]
  split
  · exact h1
  split
  · exact h1
  rename_i n hn
  cases World.eq_of_strlcpyFits hn
  have h2' : Own src T name := .of_created h2
  split
  · split
    · exact wp_call True.intro fun _ _ => h2'.snoc _
    · exact h2'
  · exact h2'

theorem own_setFileMoved {src : Bytes} {ms : MsgSt} {T : Trace} {name : Bytes} (s d : Subdir) (dir : Bytes)
    (h1 : Own src T ms.name) (h2 : name ∈ createdNames T) : Own src T (World.setFileMoved ms s d dir name).1.name := by
  unfold World.setFileMoved
  split
  · exact h1
  split
  · exact h1
  rename_i n hn
  cases World.eq_of_strlcpyFits hn
  exact .of_created h2

theorem framed_moveCopy (src : Bytes) (s dst : Maildir) (ms : MsgSt) (fd : Handle) (dstname : Bytes) (r : Res) (T : Trace)
    (hown : Own src T ms.name) (hfd : fd ∈ ownFds T) :
    wp R (Framed src) (World.moveCopy s dst ms fd dstname r) (fun _ _ => True) T := by
  unfold World.moveCopy
  split
  · split
    · simp only [bind_eq, pure_eq]
      refine wp_bind_ext (framed_messageWriteP src _ fd _ hfd) ?_
      intro we L2 _
      split
      · exact True.intro
      · exact wp_bind_ext (framed_maildirUnlink src s ms.name _ (by own)) fun _ _ _ => True.intro
    · exact True.intro
  · exact True.intro

theorem framed_moveTail (src : Bytes) (ss : Subdir) (dst : Maildir) (dh fd : Handle) (dstname : Bytes) (mt : Option Nat)
    (err1 : Bool) (ms : MsgSt) (T : Trace) (h1 : Own src T ms.name) (h2 : dstname ∈ createdNames T) :
    wp R (Framed src) (World.moveTail ss dst dh fd dstname mt err1 ms) (fun x tr' => Own src tr' x.1.name) T := by
  cases err1
  · rw [World.moveTail_ok]
    refine wp_call True.intro fun r _ => ?_
    cases mt with
    | none => exact own_setFileMoved _ _ _ (by own) (by created)
    | some t =>
      refine wp_call (show dstname ∈ createdNames _ by created) fun r2 _ => ?_
      split
      · show Own src _ ms.name
        own
      · exact own_setFileMoved _ _ _ (by own) (by created)
  · rw [World.moveTail_err]
    refine wp_bind_ext (framed_maildirUnlink src dst dstname _ (.of_created h2)) ?_
    intro _ L _
    refine wp_call True.intro fun r _ => ?_
    show Own src _ ms.name
    own

theorem framed_maildirMove (src : Bytes) (env : PEnv) (s dst : Maildir) (ms : MsgSt) (tr : Trace)
    (hown : Own src tr ms.name) :
    wp R (Framed src) (maildirMove env s dst ms) (fun x tr' => Own src tr' x.1.name) tr := by
  rw [World.maildirMove_eq]
  split
  · exact hown
  split
  rotate_left
  · exact hown
  rename_i sh dh _ _
  refine wp_bind_ext (P := fun _ _ => True) ?_ ?_
  · split
    · exact wp_call True.intro fun r _ => True.intro
    · exact True.intro
  intro mt L0 _
  unfold World.moveRest gennameStart
  simp only [bind_eq, pure_eq, call_bind]
  -- the number of attempts is a large literal: keep `genname` from being unfolded
  generalize gennameAttempts = fuel
  split
  · own
  rename_i fl _
  refine wp_bind_ext (framed_genname src env dst (some fl) fuel _ _) ?_
  intro g L1 hg
  cases g with
  | none => own
  | some x =>
  obtain ⟨fd, dstname⟩ := x
  obtain ⟨hd, hfd⟩ := hg fd dstname rfl
  dsimp only
  have hown1 : Own src (tr ++ L0 ++ L1) ms.name := by own
  generalize tr ++ L0 ++ L1 = T at hd hfd hown1 ⊢
  refine wp_call ⟨hown1, hd⟩ fun r _ => ?_
  -- the copy across file systems leaves the name of the message alone
  refine wp_bind_ext (wp_with_all (framed_moveCopy src s dst ms fd dstname r _ (by own) (by fdown))
    (World.val_moveCopy s dst ms fd dstname r)) ?_
  rintro ⟨err1, ms'⟩ L2 ⟨-, hv⟩
  exact framed_moveTail src s.subdir dst dh fd dstname mt err1 ms' _ (by rw [hv.2.2.2.2]; own) (by own)

theorem framed_maildirWrite (src : Bytes) (env : PEnv) (md : Maildir) (ms : MsgSt) (tr : Trace)
    (hown : Own src tr ms.name) :
    wp R (Framed src) (maildirWrite env md ms) (fun x tr' => Own src tr' x.1.name) tr := by
  rw [World.maildirWrite_eq]
  unfold gennameStart
  generalize gennameAttempts = fuel
  split
  · exact hown
  rename_i fl _
  refine wp_bind_ext (framed_genname src env md (some fl) fuel _ _) ?_
  intro g L1 hg
  cases g with
  | none => own
  | some x =>
  obtain ⟨fd, name⟩ := x
  obtain ⟨hd, hfd⟩ := hg fd name rfl
  dsimp only
  refine wp_bind_ext (framed_messageWriteP src _ fd _ hfd) ?_
  intro we L2 _
  refine wp_call True.intro fun r _ => ?_
  refine wp_bind_ext (P := fun _ _ => True) ?_ ?_
  · split
    · exact True.intro
    · exact framed_maildirUnlink src md ms.name _ (by own)
  intro err L3 _
  split
  · refine wp_bind_ext (framed_maildirUnlink src md name _ (by own)) ?_
    intro _ L4 _
    show Own src _ ms.name
    own
  split
  · show Own src _ ms.name
    own
  refine wp_call True.intro fun r2 _ => ?_
  split
  · rename_i rdfd _
    refine wp_bind_ext (framed_messageSetFile src _ md.path name (some rdfd) _ (by show Own src _ ms.name; own) (by own)) ?_
    intro x L5 hx
    split
    · refine wp_call True.intro fun r3 _ => ?_
      show Own src _ x.1.name
      own
    · exact hx
  · show Own src _ ms.name
    own

theorem framed_moveBranch (src : Bytes) (env : PEnv) (mh : Match) (st : ExecSt) (tr : Trace)
    (hown : Own src tr st.ms.name) :
    wp R (Framed src) (moveBranch env mh st) (fun x tr' => Own src tr' x.1.ms.name) tr := by
  unfold moveBranch
  refine wp_bind_ext (wp_inert src ((World.kinds_maildirOpenDst _).mono fun _ => Inert.of_kind (by decide)) _) ?_
  intro d L0 _
  cases d with
  | none => show Own src _ st.ms.name; own
  | some dst =>
    refine wp_bind_ext (framed_maildirMove src env st.src dst st.ms _ (by own)) ?_
    intro x L1 hx
    have closeThen : ∀ (md : Maildir) (r : ExecSt × Bool), r.1.ms.name = x.1.name →
        wp R (Framed src) ((maildirClose md).bind fun _ => Prog.ret r)
          (fun x tr' => Own src tr' x.1.ms.name) (tr ++ L0 ++ L1) := by
      intro md r hr
      refine wp_bind_ext (wp_inert src (inert_maildirClose _) _) ?_
      intro _ L2 _
      show Own src _ r.1.ms.name
      rw [hr]; own
    split
    · exact closeThen _ _ rfl
    · split
      · split
        · exact closeThen _ _ rfl
        · exact hx
      · exact closeThen _ _ rfl

theorem framed_execOne (src : Bytes) (env : PEnv) (mh : Match) (st : ExecSt) (tr : Trace)
    (hown : Own src tr st.ms.name) :
    wp R (Framed src) (execOne env mh st) (fun x tr' => Own src tr' x.1.ms.name) tr := by
  rcases World.execOne_ty_cases mh.ty with hty | hty | hty | hty | hty | hty
  · rw [World.execOne_move env mh st hty]
    exact framed_moveBranch src env mh st tr hown
  · rw [World.execOne_discard env mh st hty]
    refine wp_bind_ext (framed_maildirUnlink src st.src st.ms.name _ hown) ?_
    intro e L _
    show Own src _ (if e = true then st else _).ms.name
    split
    · own
    · show Own src _ st.ms.name
      own
  · rw [World.execOne_write env mh st hty]
    exact wp_bind_ext (framed_maildirWrite src env st.src st.ms _ hown) fun x L hx => hx
  · rw [World.execOne_reject env mh st hty]
    exact hown
  · rw [World.execOne_exec env mh st hty]
    refine wp_bind_ext (P := fun _ _ => True) ?_ ?_
    · split
      · exact wp_bind_ext (framed_messageGetFd src _ _ _ _ _) fun _ _ _ => True.intro
      · exact True.intro
    · intro fdr L0 _
      cases fdr with
      | none => show Own src _ st.ms.name; own
      | some fd =>
        refine wp_bind_ext (wp_inert src ((World.kinds_execP _ fd).mono fun _ => Inert.of_kind (by decide)) _) ?_
        intro rc L1 _
        cases fd with
        | none => show Own src _ st.ms.name; own
        | some h =>
          refine wp_call True.intro fun r _ => ?_
          show Own src _ st.ms.name
          own
  · rw [World.execOne_other env mh st hty]
    exact hown

theorem framed_matchesExec (src : Bytes) (env : PEnv) (ml : MatchList) (st : ExecSt) (tr : Trace)
    (hown : Own src tr st.ms.name) :
    wp R (Framed src) (matchesExec env ml st) (fun _ _ => True) tr := by
  have closeThen : ∀ (st : ExecSt) (b : Bool) (T : Trace),
      wp R (Framed src) (if st.chsrc = true then (maildirClose st.src).bind fun _ => Prog.ret (st, b) else Prog.ret (st, b))
        (fun _ _ => True) T := by
    intro st b T
    split
    · exact wp_bind_ext (wp_inert src (inert_maildirClose _) _) fun _ _ _ => True.intro
    · exact True.intro
  induction ml generalizing st tr with
  | nil =>
    rw [matchesExec_nil]
    exact closeThen st false tr
  | cons mh rest ih =>
    rw [matchesExec_cons]
    refine wp_bind_ext (framed_execOne src env mh st tr hown) ?_
    intro x L hx
    split
    · exact closeThen x.1 true _
    · exact ih x.1 _ hx

theorem spec_matchesExec (src : Bytes) (env : PEnv) (ml : MatchList) (st : ExecSt) (tr : Trace)
    (hown : Own src tr st.ms.name) :
    wp R (OwnI src) (matchesExec env ml st) (fun _ _ => True) tr :=
  wp_weaken (fun _ _ => Framed.ownI) (framed_matchesExec src env ml st tr hown)

/-- The source `name` is gone: no rename succeeds and, where a copy may have been made (`U`: a rename may have failed with
`EXDEV`, or the action copies anyway), no unlink of `name` succeeds.  `U = False`: every rename fails otherwise than with
`EXDEV` (e.g. all with `ENOENT`); `U = True`: every rename and every unlink of `name` fails. -/
def LostU (U : Prop) (name : Bytes) (c : Call) (r : Res) : Prop :=
  (∀ d1 n1 d2 n2, c = .renameat d1 n1 d2 n2 → ∃ e, r = .err e ∧ (e = "EXDEV" → U)) ∧
  (U → ∀ d, c = .unlinkat d name → ∃ e, r = .err e)

variable {U : Prop}

theorem lostU_maildirUnlink (hU : U) (md : Maildir) (name : Bytes) (tr : Trace) :
    wp (LostU U name) NoI (maildirUnlink md name) (fun x _ => x = true) tr := by
  rw [World.maildirUnlink_eq]
  split
  · exact rfl
  · refine wp_call True.intro fun r hr => ?_
    obtain ⟨e, rfl⟩ := hr.2 hU _ rfl
    exact rfl

theorem lostU_maildirWrite (hU : U) (env : PEnv) (md : Maildir) (ms : MsgSt) (tr : Trace) :
    wp (LostU U ms.name) NoI (maildirWrite env md ms) (fun x _ => x.2 = true) tr := by
  rw [World.maildirWrite_eq]
  split
  · exact rfl
  rename_i fl _
  -- the name generation is of no concern here, and checking the next step against the goal would run it
  generalize gennameStart env md (some fl) = gen
  refine wp_bind_ext (wp_top _ _) ?_
  intro g L1 _
  cases g with
  | none => exact rfl
  | some x =>
  obtain ⟨fd, name⟩ := x
  dsimp only
  refine wp_bind_ext (wp_top _ _) ?_
  intro we L2 _
  refine wp_call True.intro fun rc _ => ?_
  refine wp_bind_ext (P := fun err _ => err = true) ?_ ?_
  · split
    · exact rfl
    · exact lostU_maildirUnlink hU md ms.name _
  · intro err L3 herr
    subst herr
    simp only [if_true]
    refine wp_bind_ext (wp_top _ _) ?_
    intro _ _ _
    exact rfl

theorem lostU_maildirMove (env : PEnv) (s dst : Maildir) (ms : MsgSt) (tr : Trace) :
    wp (LostU U ms.name) NoI (maildirMove env s dst ms) (fun x _ => x.2 = true) tr := by
  rw [World.maildirMove_eq]
  split
  · exact rfl
  split
  rotate_left
  · exact rfl
  rename_i sh dh _ _
  refine wp_bind_ext (wp_top _ _) ?_
  intro mt L0 _
  unfold World.moveRest
  split
  · exact rfl
  rename_i fl _
  simp only [bind_eq, pure_eq, call_bind]
  -- the name generation is of no concern here, and checking the next step against the goal would run it
  generalize gennameStart env dst (some fl) = gen
  refine wp_bind_ext (wp_top _ _) ?_
  intro g L1 _
  cases g with
  | none => exact rfl
  | some x =>
  obtain ⟨fd, dstname⟩ := x
  dsimp only
  refine wp_call True.intro fun r hr => ?_
  obtain ⟨e, rfl, hU⟩ := hr.1 _ _ _ _ rfl
  -- the rename failed; a copy, if one is made, cannot remove the source either
  refine wp_bind_ext (P := fun a _ => a.1 = true) ?_ ?_
  · unfold World.moveCopy
    dsimp only
    split
    · rename_i hx
      simp only [bind_eq, pure_eq]
      refine wp_bind_ext (wp_top _ _) ?_
      intro we L2 _
      split
      · exact rfl
      · exact wp_bind_ext (lostU_maildirUnlink (hU (by simpa using hx)) s ms.name _) fun ue L3 hue => hue
    · exact rfl
  · rintro ⟨err1, ms'⟩ L2 herr
    dsimp only at herr ⊢
    subst herr
    rw [World.moveTail_err]
    refine wp_bind_ext (wp_top _ _) ?_
    intro _ L3 _
    exact wp_call True.intro fun r2 _ => rfl

theorem lostU_execOne (env : PEnv) (mh : Match) (st : ExecSt) (tr : Trace)
    (hty : mh.ty = .move ∨ mh.ty = .flag ∨ mh.ty = .flags ∨ (U ∧ (mh.ty = .label ∨ mh.ty = .addHeader))) :
    wp (LostU U st.ms.name) NoI (execOne env mh st) (fun x _ => x.2 = true) tr := by
  have mv : mh.ty = .move ∨ mh.ty = .flag ∨ mh.ty = .flags →
      wp (LostU U st.ms.name) NoI (execOne env mh st) (fun x _ => x.2 = true) tr := by
    intro h
    rw [execOne_move env mh st h]
    unfold moveBranch
    refine wp_bind_ext (wp_top _ _) ?_
    intro d L0 _
    cases d with
    | none => exact rfl
    | some dst =>
      dsimp only
      refine wp_bind_ext (lostU_maildirMove env st.src dst st.ms _) ?_
      intro x L1 hx
      simp only [hx, if_true]
      refine wp_bind_ext (wp_top _ _) ?_
      intro _ L2 _
      exact rfl
  rcases hty with h | h | h | ⟨hU, h⟩
  · exact mv (.inl h)
  · exact mv (.inr (.inl h))
  · exact mv (.inr (.inr h))
  · rw [World.execOne_write env mh st h]
    refine wp_bind_ext (lostU_maildirWrite hU env st.src st.ms _) ?_
    intro x L hx
    exact hx

end Mdsort.Proofs.Own
