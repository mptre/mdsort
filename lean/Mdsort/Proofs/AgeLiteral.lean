import Mdsort.Proofs.ConfWpl
import Mdsort.Proofs.LexLiteral

/-!
# `date_age` of the parser model on every literal (C15)

`parseDate` (Model/Conf.lean: `DATE date_field date_cmp date_age`) from the state in which the
comparison token is the lookahead and the lexer stands in front of `<digits> <unit>`: the rule is
accepted iff `N x unit` fits 32 bits, and the age in the tree is exactly `N x unit` - for every digit
string (any length, leading zeros) and every unit name or abbreviation.
-/

namespace Mdsort.Proofs.Conf
open Mdsort Mdsort.Model

def cmpTk : DateCmp → Tk
  | .lt => .lt
  | .gt => .gt

theorem space_not_digit (c : UInt8) (h : isspace c = true) : isdigit c = false := by
  cases hd : isdigit c
  · rfl
  · rw [isdigit_not_isspace c hd] at h
    cases h

/-- `date_age` (`INT scalar` and the overflow test) from the state in which the comparison has been
shifted: the part of `parseDate` after `date_cmp`, for every field and comparison. -/
theorem age_tail (cx : PCtx) (f : DateField) (cmp : DateCmp) (s : ParseSt) (sp1 ds sp2 rest : Bytes) (w : String) (u : Nat)
    (hla : s.la = none) (ham : s.afterMacro = false)
    (hrest : s.rest = sp1 ++ ds ++ (sp2 ++ w.toUTF8.toList ++ rest))
    (hsp1 : ∀ x ∈ sp1, isspace x = true) (hne : ds ≠ []) (hd : ∀ d ∈ ds, isdigit d = true)
    (hsp2 : ∀ x ∈ sp2, isspace x = true) (hw : Spec.unitOf w = some u)
    (hr : ∀ c, rest.head? = some c → isKwChar c = false) :
    wp (parseInt cx) (fun n s' => wp (parseScalar cx) (fun v s' =>
        wp (if n * v ≥ 2 ^ 32 then failTok else do
              let l ← curLine cx
              pure (CTree.leaf (Expr.date l f cmp (n * v))))
          (fun t s' => Spec.decimal ds * u < 2 ^ 32 ∧
            t = .leaf (.date (lineOf cx.nl rest) f cmp (Spec.decimal ds * u)) ∧ s'.rest = rest ∧ s'.la = none)
          (fun _ => 2 ^ 32 ≤ Spec.decimal ds * u) False s')
        (fun _ => 2 ^ 32 ≤ Spec.decimal ds * u) False s')
      (fun _ => 2 ^ 32 ≤ Spec.decimal ds * u) False s := by
  obtain ⟨c, t, hwb, hlc⟩ := unit_bytes w u hw
  have hu := unit_pos w u hw
  have hnd : ∀ x, (sp2 ++ w.toUTF8.toList ++ rest).head? = some x → isdigit x = false := by
    intro x hx
    cases sp2 with
    | nil =>
      rw [hwb] at hx
      simp only [List.nil_append, List.cons_append, List.head?_cons, Option.some.injEq] at hx
      rw [← hx]
      exact (LexAux.islower_facts _ hlc).2.2.2.2
    | cons a sp2 =>
      simp only [List.cons_append, List.head?_cons, Option.some.injEq] at hx
      rw [← hx]
      exact space_not_digit a (hsp2 a (by simp))
  have hlexd := lex_digits false sp1 ds (sp2 ++ w.toUTF8.toList ++ rest) hsp1 hne hd hnd
  have hlexu := lex_unit sp2 rest w u hsp2 hw hr
  simp only at hlexd
  obtain ⟨hfit, hbig, _⟩ := hlexd
  unfold parseInt
  simp only [wp_bind]
  rw [wp_peek_lex cx false false hla]
  simp only [afterLex, ham, hrest]
  by_cases hn : Spec.decimal ds < 2 ^ 32
  · rw [hfit hn]
    simp only [Nat.lt_irrefl, if_false, gt_iff_lt, Tk.ofToken, wp_bind, wp_pure]
    apply wp_shift_tok rfl (by simp)
    unfold parseScalar
    simp only [wp_bind]
    rw [wp_peek_lex cx false true rfl]
    simp only [afterLex, hlexu]
    simp only [Nat.lt_irrefl, if_false, gt_iff_lt, Tk.ofToken, wp_bind, wp_pure]
    apply wp_shift_tok rfl (by simp)
    by_cases hp : Spec.decimal ds * u < 2 ^ 32
    · rw [wp_ite, if_neg (by omega), wp_bind, wp_curLine, wp_pure]
      exact ⟨hp, rfl, rfl, rfl⟩
    · rw [wp_ite, if_pos (by omega), wp_failTok]
      omega
  · have hb := hbig (by omega)
    have hpos : (lex1 false false false (sp1 ++ ds ++ (sp2 ++ w.toUTF8.toList ++ rest))).errors > 0 := by omega
    simp only [hpos, if_true]
    calc 2 ^ 32 ≤ Spec.decimal ds := by omega
      _ ≤ Spec.decimal ds * u := Nat.le_mul_of_pos_right _ hu

/-- The age literal through `parseDate` (no field keyword: the comparison is the lookahead). -/
theorem parseDate_literal (cx : PCtx) (s : ParseSt) (cmp : DateCmp) (sp1 ds sp2 rest : Bytes) (w : String) (u : Nat)
    (hla : s.la = some (cmpTk cmp)) (ham : s.afterMacro = false)
    (hrest : s.rest = sp1 ++ ds ++ (sp2 ++ w.toUTF8.toList ++ rest))
    (hsp1 : ∀ x ∈ sp1, isspace x = true) (hne : ds ≠ []) (hd : ∀ d ∈ ds, isdigit d = true)
    (hsp2 : ∀ x ∈ sp2, isspace x = true) (hw : Spec.unitOf w = some u)
    (hr : ∀ c, rest.head? = some c → isKwChar c = false) :
    wp (parseDate cx)
      (fun t s' => Spec.decimal ds * u < 2 ^ 32 ∧
        t = .leaf (.date (lineOf cx.nl rest) .header cmp (Spec.decimal ds * u)) ∧ s'.rest = rest ∧ s'.la = none)
      (fun _ => 2 ^ 32 ≤ Spec.decimal ds * u) False s := by
  unfold parseDate
  simp only [wp_bind]
  cases cmp <;> simp only [cmpTk] at hla
  all_goals
    unfold parseDateField
    simp only [wp_bind]
    apply wp_peek_have cx false false hla
    simp only [wp_pure]
    unfold parseDateCmp
    simp only [wp_bind]
    apply wp_peek_have cx false false hla
    simp only [wp_bind, wp_pure]
    apply wp_shift_tok hla (by simp)
    exact age_tail cx _ _ _ sp1 ds sp2 rest w u rfl ham hrest hsp1 hne hd hsp2 hw hr

def cmpChar : DateCmp → UInt8
  | .lt => 60
  | .gt => 62

def fieldKw : DateField → Kw
  | .header => .header
  | .access => .access
  | .modified => .modified
  | .created => .created

theorem lex1_space_cmp (sp r : Bytes) (cmp : DateCmp) (hsp : ∀ x ∈ sp, isspace x = true) :
    lex1 false false false (sp ++ cmpChar cmp :: r) = { tok := .char (cmpChar cmp), rest := r, errors := 0 } := by
  rw [LexAux.lex1_skip _ _ _ sp _ r hsp (by cases cmp <;> decide) (by cases cmp <;> decide),
    LexAux.lex1_start _ _ _ r (by cases cmp <;> decide) (by cases cmp <;> decide)]
  cases cmp <;> simp [lex1.lexTok, cmpChar, isdigit, islower]

/-- The age literal through `parseDate` with a field keyword (`header`, `access`, `modified`, `created`)
as the lookahead and the comparison still to be read. -/
theorem parseDate_literal_field (cx : PCtx) (s : ParseSt) (f : DateField) (cmp : DateCmp) (sp0 sp1 ds sp2 rest : Bytes)
    (w : String) (u : Nat)
    (hla : s.la = some (.kw (fieldKw f))) (ham : s.afterMacro = false)
    (hrest : s.rest = sp0 ++ cmpChar cmp :: (sp1 ++ ds ++ (sp2 ++ w.toUTF8.toList ++ rest)))
    (hsp0 : ∀ x ∈ sp0, isspace x = true)
    (hsp1 : ∀ x ∈ sp1, isspace x = true) (hne : ds ≠ []) (hd : ∀ d ∈ ds, isdigit d = true)
    (hsp2 : ∀ x ∈ sp2, isspace x = true) (hw : Spec.unitOf w = some u)
    (hr : ∀ c, rest.head? = some c → isKwChar c = false) :
    wp (parseDate cx)
      (fun t s' => Spec.decimal ds * u < 2 ^ 32 ∧
        t = .leaf (.date (lineOf cx.nl rest) f cmp (Spec.decimal ds * u)) ∧ s'.rest = rest ∧ s'.la = none)
      (fun _ => 2 ^ 32 ≤ Spec.decimal ds * u) False s := by
  have hlexc := lex1_space_cmp sp0 (sp1 ++ ds ++ (sp2 ++ w.toUTF8.toList ++ rest)) cmp hsp0
  have htk : Tk.ofToken (.char (cmpChar cmp)) = cmpTk cmp := by cases cmp <;> rfl
  unfold parseDate
  simp only [wp_bind]
  cases f <;> simp only [fieldKw] at hla
  all_goals
    unfold parseDateField
    simp only [wp_bind]
    apply wp_peek_have cx false false hla
    simp only [wp_bind, wp_pure]
    apply wp_shift_tok hla (by simp)
    unfold parseDateCmp
    simp only [wp_bind]
    rw [wp_peek_lex cx false false rfl]
    simp only [afterLex, ham, hrest, hlexc, Nat.lt_irrefl, if_false, gt_iff_lt, htk]
    cases cmp
    all_goals
      simp only [cmpTk, wp_bind, wp_pure]
      apply wp_shift_tok rfl (by simp)
      exact age_tail cx _ _ _ sp1 ds sp2 rest w u rfl rfl rfl hsp1 hne hd hsp2 hw hr

end Mdsort.Proofs.Conf
