import Mdsort.Proofs.EvalPCalls
import Mdsort.Proofs.ExecStatus

/-!
# A question the operating system could not answer makes the evaluation an error (C04)

`FailAns tf q a`: the answer `a` to the question `q` is a failure - `exec(argv, -1)` returned a negative value for a
`command` condition (`/dev/null` could not be opened, `fork` or `waitpid` failed, or the child exited with status 127),
or `stat` of the message's path failed (or `time_format` returned NULL) for a file-time `date` condition.  (`isdirectory`
has no failing answer: a path that cannot be stat'ed is not a directory.)

`evalT_failStops`: after a failing answer the computation returns *error* at once - no further question is asked,
whatever the rule tree around the condition is (`EXPR_ERROR` is returned through every `expr_eval_*`).
-/

namespace Mdsort.Model
open Mdsort

/-- After an answer that satisfies `F` the computation returns at once, with a value that satisfies `P`. -/
def Ask.FailStops {α} (F : Req → SysAns → Prop) (P : α → Prop) : Ask α → Prop
  | .ret _ => True
  | .ask q k => ∀ a, (F q a → ∃ v, k a = .ret v ∧ P v) ∧ (k a).FailStops F P

theorem Ask.FailStops.bind {α β} {F : Req → SysAns → Prop} {P : α → Prop} {Q : β → Prop} {t : Ask α} {f : α → Ask β}
    (ht : t.FailStops F P) (hP : ∀ v, P v → ∃ v', f v = .ret v' ∧ Q v') (hf : ∀ v, (f v).FailStops F Q) :
    (t.bind f).FailStops F Q := by
  induction t with
  | ret a => exact hf a
  | ask q k ih =>
    intro a
    refine ⟨fun hF => ?_, ih a (ht a).2⟩
    obtain ⟨v, hv, hp⟩ := (ht a).1 hF
    obtain ⟨v', hv', hq⟩ := hP v hp
    exact ⟨v', by show (k a).bind f = _; rw [hv]; exact hv', hq⟩

theorem Ask.FailStops.run {α} {F : Req → SysAns → Prop} {P : α → Prop} {t : Ask α} (ht : t.FailStops F P) :
    ∀ (as : List SysAns) (k : Nat) (q : Req) (a : SysAns), (t.run as).2[k]? = some q → as[k]? = some a → F q a →
      P (t.run as).1 ∧ (t.run as).2.length = k + 1 := by
  induction t with
  | ret v => intro as k q a hq; simp at hq
  | ask q0 kont ih =>
    intro as k q a hq ha hF
    cases as with
    | nil => simp at ha
    | cons a0 rest =>
      simp only [Ask.run, List.headD_cons, List.tail_cons] at hq ⊢
      cases k with
      | zero =>
        simp only [List.getElem?_cons_zero, Option.some.injEq] at hq ha
        subst hq ha
        obtain ⟨v, hv, hp⟩ := (ht a0).1 hF
        rw [hv]
        exact ⟨hp, rfl⟩
      | succ k =>
        simp only [List.getElem?_cons_succ] at hq ha
        obtain ⟨h1, h2⟩ := ih a0 (ht a0).2 rest k q a hq ha hF
        exact ⟨h1, by simp [h2]⟩

end Mdsort.Model

namespace Mdsort.Proofs
open Mdsort Mdsort.Model

/-- The answer is a failure (see the head of the file). -/
def FailAns (tf : Int → Option Bytes) : Req → SysAns → Prop
  | .command _, a => ansStatus a < 0
  | .fileTime _ f, a => ansFileTime tf f a = none
  | .isDir _, _ => False

def IsError (r : Tri × St) : Prop := r.1 = .error

/-- After a failing answer an evaluator built like `expr_eval` returns *error* at once if its leaves do: every
continuation of a composite node hands the error on (`ErrStays`). -/
theorem _root_.Mdsort.Model.IsEvalT.failStops {app : MatchList → Match → MatchList × Bool} {ev : Expr → Nat → Msg → St → Ask (Tri × St)}
    {F : Req → SysAns → Prop} (h : IsEvalT app ev) (e : Expr)
    (hleaf : ∀ n ∈ e.leaves, ∀ part m st, (ev n part m st).FailStops F IsError) :
    ∀ part m st, (ev e part m st).FailStops F IsError :=
  h.rel h (R := fun (t _ : Ask (Tri × St)) => t.FailStops F IsError) (fun _ => True.intro)
    (fun ht hk hs => ht.bind
      (by rintro ⟨v, s⟩ (hv : v = .error); subst hv; exact ⟨_, hs s, rfl⟩)
      hk)
    (fun _ _ => .inl rfl) e hleaf

theorem evalT_leaf_failStops (env : Env) (root : Msg) {n : Expr} (hn : n.isLeaf = true) (part : Nat) (m : Msg) (st : St) :
    (evalT env root n part m st).FailStops (FailAns env.timeFormat) IsError := by
  rcases Expr.leaf_cases hn with ha | ⟨lno, f, cmp, age, rfl, hf⟩ | ⟨lno, path, rfl⟩ | ⟨lno, argv, rfl⟩
  · rw [evalT_leaf env root ha]; exact True.intro
  · rw [evalT_fileDate env root lno hf]
    exact fun a => ⟨fun (hF : ansFileTime env.timeFormat f a = none) => ⟨_, rfl, by rw [hF]; rfl⟩, True.intro⟩
  · rw [evalT_stat]
    split
    · exact True.intro
    · exact fun a => ⟨fun hF => hF.elim, True.intro⟩
  · rw [evalT_command]
    split
    · exact True.intro
    · exact fun a => ⟨fun hF => ⟨_, rfl, (commandTri_error_iff _).2 hF⟩, True.intro⟩

theorem evalT_failStops (env : Env) (root : Msg) (e : Expr) :
    ∀ (part : Nat) (m : Msg) (st : St), (evalT env root e part m st).FailStops (FailAns env.timeFormat) IsError :=
  (evalT_isEvalT env root).failStops e fun _ hn => evalT_leaf_failStops env root (Expr.isLeaf_of_mem_leaves hn)

/-- In a run: if the operating system's answer to some question of the evaluation is a failure, the value of `evalP`
is *error* (and that question was the last one asked). -/
theorem evalP_error_of_fail (env : Env) (e : Expr) (m : Msg) (fl : MFlags)
    (orcl : Nat → Call → Res) (i : Nat) (k : Nat) (q : Req) (a : SysAns)
    (hq : (evalR env e m fl ((evalTop env e m fl).answers orcl i)).2[k]? = some q)
    (ha : ((evalTop env e m fl).answers orcl i)[k]? = some a) (hF : FailAns env.timeFormat q a) :
    (Own.runO orcl (evalP env e m fl) i).1.1 = .error ∧
    (evalR env e m fl ((evalTop env e m fl).answers orcl i)).2.length = k + 1 := by
  obtain ⟨h1, _, _⟩ := evalP_replay env e m fl orcl i
  rw [h1]
  exact (evalT_failStops env m e 0 m { ml := [], flags := fl }).run _ k q a hq ha hF

theorem sysCall_command_value (av : List Bytes) (orcl : Nat → Call → Res) (j : Nat) :
    (Own.runO orcl (sysCall (.command av)) j).1 =
      .status (match orcl j (.openPath (ofString "/dev/null")) with
        | .ok h => execValue true (orcl (j + 1) (.fork (av.map cstr) h)) (orcl (j + 2) .waitpid)
        | r => execValue false (orcl (j + 1) (.fork (av.map cstr) (Own.okHandle r))) (orcl (j + 2) .waitpid)) := by
  simp only [sysCall, Own.runO_bind, Own.runO_ret, Own.execP_run]
  cases orcl j (.openPath (ofString "/dev/null")) <;> rfl

/-- A `command` condition inside a run is `Model.eval` with the command oracle `exec()` on the results of its three
calls (`open("/dev/null")` at step `j`, `fork` at `j + 1`, `waitpid` at `j + 2`), so that the evaluator-level statements
(`eval_command`, Proofs/EvalLeaves.lean; `eval_command_outcome`, Proofs/ExecStatus.lean) speak of the evaluation inside the run. -/
theorem evalT_command_run (env : Env) (root : Msg) (lno : Nat) (argv : List Bytes) (part : Nat) (m : Msg) (st : St)
    (orcl : Nat → Call → Res) (j : Nat) :
    (Own.runO orcl (evalT env root (.command lno argv) part m st).toProg j).1 =
      eval { env with command := (fun av =>
          execValue (match orcl j (.openPath (ofString "/dev/null")) with | .ok _ => true | _ => false)
            (orcl (j + 1) (.fork (av.map cstr) (Own.okHandle (orcl j (.openPath (ofString "/dev/null"))))))
            (orcl (j + 2) .waitpid)) }
        root (.command lno argv) part m st := by
  rw [eval_command, evalT_command]
  cases argv.mapM (interpolate st.ml none) with
  | none => rfl
  | some av =>
    simp only [Ask.toProg, Own.runO_bind, Own.runO_ret, sysCall_command_value, ansStatus]
    cases orcl j (.openPath (ofString "/dev/null")) <;> rfl

/-- `exec()` returns a negative value exactly when the child could not be run (`/dev/null` cannot be opened, `fork` fails,
`waitpid` fails: `ChildOutcome.cannotRun`) or exited with status 127 (its `execvp` failed). -/
theorem execValue_neg_iff (d : Bool) (f w : Res) :
    execValue d f w < 0 ↔ childOutcome d f w = .cannotRun ∨ childOutcome d f w = .waited (.exited 127) := by
  rw [← commandTri_error_iff, execValue_outcome, commandTri_outcome, outcomeTri_error_iff]

theorem sysCall_fileTime_value (p : Bytes) (f : DateField) (orcl : Nat → Call → Res) (j : Nat) :
    (Own.runO orcl (sysCall (.fileTime p f)) j).1 = .stat (statAnswer (orcl j (.stat p))) := by
  simp only [sysCall, Own.runO_bind, Own.runO_ret]
  rfl

theorem failAns_fileTime_of_stat_failed (tf : Int → Option Bytes) (p : Bytes) (f : DateField) (r : Res)
    (h : ∀ v, r ≠ .ok v) : FailAns tf (.fileTime p f) (.stat (statAnswer r)) := by
  cases r with
  | ok v => exact absurd rfl (h v)
  | name n => rfl
  | eof => rfl
  | err e => rfl

/-! The answer to a `stat` question is the payload of the call's result as `statAnswer` decodes it (`sysCall_fileTime_value`,
`failAns_fileTime_of_stat_failed` above rest on that reading): the encoding, evaluated. -/

/-- `statDecode` reads back what `statEncode` (and tools/world.py) writes: a directory, times before and after 1970. -/
example : statDecode (statEncode ⟨true, 5, -7, 1790000000⟩) = ⟨true, 5, -7, 1790000000⟩ := by decide +kernel
example : statDecode (statEncode ⟨false, 0, 1600000000, -1⟩) = ⟨false, 0, 1600000000, -1⟩ := by decide +kernel
/-- The payload of a failed call is no `stat` information. -/
example : statAnswer (.err "EACCES") = none ∧ statAnswer (.ok 1) = some ⟨true, 0, 0, 0⟩ := by decide +kernel

end Mdsort.Proofs
