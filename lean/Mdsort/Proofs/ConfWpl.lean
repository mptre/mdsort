import Mdsort.Proofs.ConfBasic

/-!
# `wpl`: `wp` with the line of the diagnostic

`wpl` is defined like `wp` (Proofs/ConfBasic.lean), except that the postcondition `E` of the error outcome
also receives the line the first diagnostic is reported on.  The read-back lemmas (Proofs/ConfRT*.lean) are stated with it, for an
arbitrary `E`, so that they can be used both to show that a printed file is accepted (`E` = `False`) and
that a file with a defect behind a printed prefix is rejected, on which line (Proofs/ConfAnywhere*.lean).
-/

namespace Mdsort.Proofs.Conf
open Mdsort Mdsort.Model

def wpl {α : Type} (p : PM α) (Q : α → ParseSt → Prop) (E : Nat → ParseSt → Prop) (F : Prop) (s : ParseSt) : Prop :=
  match p s with
  | .ok a s' => Q a s'
  | .err l s' => E l s'
  | .fuel _ => F

variable {α β : Type} {Q : α → ParseSt → Prop} {E : Nat → ParseSt → Prop} {F : Prop} {s : ParseSt}

theorem wpl_pure (a : α) : wpl (pure a : PM α) Q E F s = Q a s := rfl

theorem wpl_bind (m : PM α) (f : α → PM β) (R : β → ParseSt → Prop) :
    wpl (m >>= f) R E F s = wpl m (fun a s' => wpl (f a) R E F s') E F s := by
  show wpl (PM.bind m f) R E F s = _
  unfold wpl PM.bind
  cases m s <;> rfl

theorem wpl_failTok : wpl (failTok : PM α) Q E F s = E s.tokLine s := rfl
theorem wpl_failAt (l : Nat) : wpl (failAt l : PM α) Q E F s = E l s := rfl
theorem wpl_outOfFuel : wpl (outOfFuel : PM α) Q E F s = F := rfl
theorem wpl_curLine (cx : PCtx) {Q : Nat → ParseSt → Prop} : wpl (curLine cx) Q E F s = Q (lineOf cx.nl s.rest) s := rfl

theorem wpl_ite (c : Prop) [Decidable c] (a b : PM α) :
    wpl (if c then a else b) Q E F s = if c then wpl a Q E F s else wpl b Q E F s := by
  split <;> rfl

variable {p : PM α} {a : α} {l : Nat} {s' : ParseSt}

theorem wpl_ok (h : p s = .ok a s') : wpl p Q E F s = Q a s' := by
  unfold wpl
  rw [h]

theorem wpl_err (h : p s = .err l s') : wpl p Q E F s = E l s' := by
  unfold wpl
  rw [h]

theorem wpl_mono {Q Q' : α → ParseSt → Prop} {E E' : Nat → ParseSt → Prop}
    (h : wpl p Q E F s) (hq : ∀ a s', Q a s' → Q' a s') (he : ∀ l s', E l s' → E' l s') : wpl p Q' E' F s := by
  unfold wpl at *
  cases hp : p s <;> simp only [hp] at h ⊢
  · exact hq _ _ h
  · exact he _ _ h
  · exact h

/-! `wp` is `wpl` with a postcondition of the error outcome that does not look at the line, and it unfolds to that by
definition (`wp_eq_wpl`, by `rfl`): this is why each `wpl` lemma below is accepted as the proof of the `wp` statement - the
rules of `wp` are instances of those of `wpl`, not a second set.  The pass over all inputs (Proofs/ConfSpec1.lean) and
Proofs/AgeLiteral.lean are written with `wp`, since they say nothing about the line; the read-back lemmas need it. -/

/-- The equation the instances below rest on; they use it through unfolding, not by name. -/
theorem wp_eq_wpl (p : PM α) (Q : α → ParseSt → Prop) (E' : ParseSt → Prop) (F : Prop) (s : ParseSt) :
    wp p Q E' F s = wpl p Q (fun _ => E') F s := rfl

variable {E' : ParseSt → Prop}

theorem wp_bind (m : PM α) (f : α → PM β) (R : β → ParseSt → Prop) :
    wp (m >>= f) R E' F s = wp m (fun a s' => wp (f a) R E' F s') E' F s :=
  wpl_bind (E := fun _ => E') m f R

theorem wp_ite (c : Prop) [Decidable c] (a b : PM α) :
    wp (if c then a else b) Q E' F s = if c then wp a Q E' F s else wp b Q E' F s :=
  wpl_ite (E := fun _ => E') c a b

theorem wp_ok (h : p s = .ok a s') : wp p Q E' F s = Q a s' :=
  wpl_ok (E := fun _ => E') h

theorem wp_err (h : p s = .err l s') : wp p Q E' F s = E' s' :=
  wpl_err (E := fun _ => E') h

theorem wp_mono {Q Q' : α → ParseSt → Prop} {E1 E2 : ParseSt → Prop}
    (h : wp p Q E1 F s) (hq : ∀ a s', Q a s' → Q' a s') (he : ∀ s', E1 s' → E2 s') : wp p Q' E2 F s :=
  wpl_mono (E := fun _ => E1) (E' := fun _ => E2) h hq (fun _ => he)

theorem wp_peek_have {Q : Tk → ParseSt → Prop} {E : ParseSt → Prop} {F : Prop} (cx : PCtx) (pf sf : Bool) {s : ParseSt} {t : Tk}
    (h : s.la = some t) (hQ : Q t s) : wp (peek cx pf sf) Q E F s := by
  rw [wp_ok (peek_la h)]
  exact hQ

theorem wp_shift_tok {Q : Unit → ParseSt → Prop} {E : ParseSt → Prop} {F : Prop} {s : ParseSt} {t : Tk}
    (h : s.la = some t) (ht : t ≠ .eof) (hQ : Q () { s with la := none }) : wp shift Q E F s := by
  rw [wp_ok (shift_tok h ht)]
  exact hQ

theorem wp_peek_lex {Q : Tk → ParseSt → Prop} {E : ParseSt → Prop} {F : Prop} (cx : PCtx) (pf sf : Bool) {s : ParseSt}
    (h : s.la = none) :
    wp (peek cx pf sf) Q E F s =
      if (lex1 pf sf s.afterMacro s.rest).errors > 0 then E (afterLex cx pf sf s)
      else Q (Tk.ofToken (lex1 pf sf s.afterMacro s.rest).tok) (afterLex cx pf sf s) := by
  unfold wp
  rw [peek_lex h]
  by_cases he : (lex1 pf sf s.afterMacro s.rest).errors > 0
  · rw [if_pos he, if_pos he]
  · rw [if_neg he, if_neg he]

end Mdsort.Proofs.Conf
