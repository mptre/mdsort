import Mdsort.Proofs.Opts
import Mdsort.Proofs.World
import Mdsort.Proofs.WorldStdinExample
import Mdsort.Proofs.WorldDryWorld
import Mdsort.Proofs.WorldDryF21

/-!
# C05 - dry run (-d) and syntax check (-n) never change anything
-/

namespace Mdsort.Props
open Mdsort Mdsort.Model

/-- `-d` in maildir mode: whatever the configuration, the messages and the fault plan are, the run
issues no mutating call (no create, write, rename, unlink, utimensat, mkdir, rmdir) and starts no
process for an action: a `fork` occurs only if some rule tree has a `command` CONDITION
(`Proofs.confHasCommand conf`; conditions are evaluated under `-d` exactly as otherwise - `expr_eval_command`
runs the program -, actions are never executed: `C05_dry_runs_no_action`).

(mdsort does run the program of a `command` condition under `-d`; the conditions are evaluated inside the run,
`Model.evalP`: the statement says when a `fork` occurs, and the world-level theorems of C01-C06 speak about runs in which those
conditions are answered by the operating system.) -/
theorem C05_dry_no_mutation (env : PEnv) (orc : EvalOracles) (ok : Bool) (conf : List ConfBlock) (files : Files) (input : Bytes)
    (w : World) (plan : Plan) (hd : env.dryrun = true) (hm : env.stdinMode = false) :
    ∀ c ∈ Proofs.callsOf plan (mainP env orc ok conf files input) w,
      c.mutating = false ∧ (c.isFork = true → Proofs.confHasCommand conf = true) :=
  Proofs.World.quiet_callsOf _ plan _ w (Proofs.World.quiet_mainP env orc ok conf files input hd hm)

/-- In particular a configuration without `command` condition starts no process under `-d`. -/
theorem C05_dry_no_fork (env : PEnv) (orc : EvalOracles) (ok : Bool) (conf : List ConfBlock) (files : Files) (input : Bytes)
    (w : World) (plan : Plan) (hd : env.dryrun = true) (hm : env.stdinMode = false)
    (hc : Proofs.confHasCommand conf = false) :
    ∀ c ∈ Proofs.callsOf plan (mainP env orc ok conf files input) w, c.mutating = false ∧ c.isFork = false := by
  intro c hcm
  obtain ⟨h1, h2⟩ := C05_dry_no_mutation env orc ok conf files input w plan hd hm c hcm
  refine ⟨h1, ?_⟩
  cases hf : c.isFork with
  | false => rfl
  | true => rw [h2 hf] at hc; cases hc

/-- **No exec action runs under `-d`**: once the rules have decided (whatever the verdict is: any action list, with
any number of `exec` actions), the rest of the processing of the message is closing its descriptor - no `fork`, nothing
else.  The only processes a dry run starts are those of `command` conditions during evaluation
(`C03_evaluation_calls`). -/
theorem C05_dry_runs_no_action (env : PEnv) (md : Maildir) (name : Bytes) (st : MainSt) (ms : MsgSt) (v : Proofs.Verdict)
    (hd : env.dryrun = true) :
    Proofs.World.Calls Proofs.IsClose (Proofs.afterVerdict env md name st ms v) :=
  Proofs.afterVerdict_dry env md name st ms v hd

example : ({ Proofs.examplePEnv with dryrun := true } : PEnv).dryrun = true := rfl
example : Proofs.confHasCommand [] = false := rfl

/-- `-n`: the whole run is opening and closing the configuration file. -/
theorem C05_syntax_nothing (env : PEnv) (orc : EvalOracles) (ok : Bool) (conf : List ConfBlock) (files : Files) (input : Bytes)
    (w : World) (plan : Plan) (hn : env.syntaxOnly = true) :
    Proofs.callsOf plan (mainP env orc ok conf files input) w = [.fopen env.confpath] ∨
    ∃ h, Proofs.callsOf plan (mainP env orc ok conf files input) w = [.fopen env.confpath, .fclose h] :=
  Proofs.syntax_only_calls env orc ok conf files input w plan hn

/-! ## The command line: which mode a run is in

`Model.parseArgs` (Model/Opts.lean) transcribes the `getopt(argc, argv, "D:df:nv")` loop of `main` and the operand test
(glibc's `getopt`: it permutes unless `POSIXLY_CORRECT` is set - `permute`); `Model.mainArgs` is the whole program from
`argv[1..]`, the raw environment and the text of the configuration file.  `Spec.cmdline` (Spec/Cmdline.lean) is the
command line as mdsort(1) documents it: option words `-dnv...`, `-f file`, `-D name=value` (joined or separate, in
any order, clustered), then `-` or nothing. -/

/-- For EVERY documented command line - any number of well-formed option words in any order, then `-` or nothing, with
or without `--` before the operand, under both orderings of `getopt` - `parseArgs` computes the documented meaning.
In particular (third part) the run is a syntax check iff SOME word holds an `n`, a dry run iff some word holds a `d`,
in stdin mode iff `-` was given, and the macros are the `-D` words in order. -/
theorem C05_options_select_mode (permute : Bool) (items : List Spec.CmdItem) (hwf : ∀ it ∈ items, it.wf = true) (stdin : Bool) :
    parseArgs permute (Spec.renderCmd items ++ (if stdin then [[45]] else [])) = Spec.cmdline items stdin ∧
    parseArgs permute (Spec.renderCmd items ++ dashdash :: (if stdin then [[45]] else [])) = Spec.cmdline items stdin ∧
    ∀ o, Spec.cmdline items stdin = .ok o →
      o.syntaxOnly = (items.any fun it => it.letters.contains 110) ∧
      o.dryrun = (items.any fun it => it.letters.contains 100) ∧
      o.stdinMode = stdin ∧ o.defs = items.filterMap Spec.CmdItem.defineOf := by
  refine ⟨Proofs.Opts.parseArgs_cmdline permute items hwf stdin, ?_, ?_⟩
  · rw [Proofs.Opts.parseArgs_words_dashdash permute items hwf]
    unfold Spec.cmdline
    cases Spec.cmdMeaning items {} with
    | error e => rfl
    | ok o => cases stdin <;> simp [operandStep]
  · intro o h
    unfold Spec.cmdline at h
    split at h
    · cases h
    · rename_i o1 hm
      cases h
      obtain ⟨a1, a2, a3, a4⟩ := Proofs.Opts.cmdMeaning_fields items {} o1 hm
      obtain ⟨d1, d2, d3, d4⟩ := Proofs.Opts.dryVerbosity_fields (if stdin = true then { o1 with stdinMode := true } else o1)
      rw [d1, d2, d3, d4]
      cases stdin <;> simp [a1, a2, a3, a4]

/-- Non-vacuity and the shapes the generators use: `-n` last, first, clustered, after the operand (permuted), `-f`
joined and separate, the last `-f` wins, `-d` makes the run verbose. -/
example :
    (parseArgs true ["-f".toUTF8.toList, "c".toUTF8.toList, "-n".toUTF8.toList]).toOption.map (·.syntaxOnly) = some true ∧
    (parseArgs true ["-vnd".toUTF8.toList, "-fc".toUTF8.toList]).toOption.map (fun o => (o.syntaxOnly, o.dryrun, o.verbosity, o.confpath)) =
      some (true, true, 1, some "c".toUTF8.toList) ∧
    (parseArgs true ["-".toUTF8.toList, "-n".toUTF8.toList]).toOption.map (fun o => (o.syntaxOnly, o.stdinMode)) = some (true, true) ∧
    parseArgs false ["-".toUTF8.toList, "-n".toUTF8.toList] = .error .usage := by
  decide +kernel

example :
    (parseArgs true ["-f".toUTF8.toList, "a".toUTF8.toList, "-f".toUTF8.toList, "b".toUTF8.toList]).toOption.map (·.confpath) =
      some (some "b".toUTF8.toList) ∧
    (parseArgs true ["-d".toUTF8.toList]).toOption.map (·.verbosity) = some 1 ∧
    (parseArgs true ["-dvv".toUTF8.toList]).toOption.map (·.verbosity) = some 2 ∧
    (parseArgs true []).toOption.map (fun o => (o.syntaxOnly, o.dryrun, o.stdinMode, o.confpath.isNone, o.verbosity)) =
      some (false, false, false, true, 0) := by
  decide +kernel

/-- glibc's permutation as a theorem: operands (non-options) standing BETWEEN option words do not end the options - the
words after them count as if they stood before (`mdsort - -n` is a syntax check of stdin mode).  With `POSIXLY_CORRECT`
the first non-option ends the options and everything after it is an operand (`mdsort - -n`: two operands, usage). -/
theorem C05_options_after_operand (items1 items2 : List Spec.CmdItem) (h1 : ∀ it ∈ items1, it.wf = true)
    (h2 : ∀ it ∈ items2, it.wf = true) (ops : List Bytes) (hops : ops.all isNonOption = true) :
    parseArgs true (Spec.renderCmd items1 ++ ops ++ Spec.renderCmd items2) = parseArgs true (Spec.renderCmd (items1 ++ items2) ++ ops) ∧
    ∀ a rest, isNonOption a = true →
      parseArgs false (Spec.renderCmd items1 ++ a :: rest) =
        match Spec.cmdMeaning items1 {} with
        | .error e => .error e
        | .ok o =>
          match operandStep o (a :: rest) with
          | .error e => .error e
          | .ok o' => .ok (dryVerbosity o') :=
  ⟨Proofs.Opts.parseArgs_permuted items1 items2 h1 h2 ops hops,
   fun a rest ha => Proofs.Opts.parseArgs_posix_stops items1 h1 a ha rest⟩

/-- `-n` on the command line, anywhere `parseArgs` accepts it: whatever the environment, the configuration text, the
maildirs and the fault plan, the run ends with status 1 before any call (`readenv` / `defaultconf` give up), or it opens
the configuration file - the `-f` argument, else `$HOME/.mdsort.conf` - closes it, and issues no other call: no maildir,
no message, no process (`C05_syntax_nothing` for the run from `argv`). -/
theorem C05_args_syntax_nothing (permute : Bool) (args : List Bytes) (raw : RawEnv) (env : PEnv) (orc : EvalOracles)
    (rxOk : Pat → Bool) (confText : Bytes) (files : Files) (input : Bytes) (w : World) (plan : Plan) (o : Opts)
    (h : parseArgs permute args = .ok o) (hn : o.syntaxOnly = true) :
    Proofs.callsOf plan (mainArgs permute args raw env orc rxOk confText files input) w = [] ∨
    ∃ home tmpdir confpath, startPaths raw o.confpath = .ok (home, tmpdir, confpath) ∧
      (Proofs.callsOf plan (mainArgs permute args raw env orc rxOk confText files input) w = [.fopen confpath] ∨
       ∃ hd, Proofs.callsOf plan (mainArgs permute args raw env orc rxOk confText files input) w = [.fopen confpath, .fclose hd]) := by
  rcases Proofs.Opts.mainArgs_accepted permute args raw env orc rxOk confText files input o h with h1 | ⟨home, tmpdir, confpath, ok, conf, hs, h2⟩
  · left
    rw [h1]; exact (Proofs.Opts.ret_run plan _ w).2
  · right
    refine ⟨home, tmpdir, confpath, hs, ?_⟩
    rw [h2]
    exact C05_syntax_nothing (Proofs.Opts.runEnv env o home tmpdir confpath) orc ok conf files input w plan hn

/-- `-d` on the command line (without `-`): no call of the run changes anything, and a process is started only for a
`command` CONDITION of the configuration the run reads (`C05_dry_no_mutation` for the run from `argv`: a `fork` occurs only
when the run is `mainP` of a configuration with `Proofs.confHasCommand`; never for an action). -/
theorem C05_args_dry_no_mutation (permute : Bool) (args : List Bytes) (raw : RawEnv) (env : PEnv) (orc : EvalOracles)
    (rxOk : Pat → Bool) (confText : Bytes) (files : Files) (input : Bytes) (w : World) (plan : Plan) (o : Opts)
    (h : parseArgs permute args = .ok o) (hd : o.dryrun = true) (hm : o.stdinMode = false) :
    ∀ c ∈ Proofs.callsOf plan (mainArgs permute args raw env orc rxOk confText files input) w,
      c.mutating = false ∧
      (c.isFork = true → ∃ home tmpdir confpath ok conf,
        mainArgs permute args raw env orc rxOk confText files input =
          mainP (Proofs.Opts.runEnv env o home tmpdir confpath) orc ok conf files input ∧
        Proofs.confHasCommand conf = true) := by
  rcases Proofs.Opts.mainArgs_accepted permute args raw env orc rxOk confText files input o h with h1 | ⟨home, tmpdir, confpath, ok, conf, _, h2⟩
  · rw [h1, (Proofs.Opts.ret_run plan _ w).2]; intro c hc; cases hc
  · intro c hc
    rw [h2] at hc
    have := C05_dry_no_mutation (Proofs.Opts.runEnv env o home tmpdir confpath) orc ok conf files input w plan hd hm c hc
    exact ⟨this.1, fun hf => ⟨home, tmpdir, confpath, ok, conf, h2, this.2 hf⟩⟩

/-- `-v` changes nothing but stderr: two command lines whose accepted options differ in the verbosity only are the same
program (the correspondence compares the final trees and exit statuses of runs with and without `-v`). -/
theorem C05_verbose_same_run (p1 p2 : Bool) (args1 args2 : List Bytes) (o1 o2 : Opts) (h1 : parseArgs p1 args1 = .ok o1)
    (h2 : parseArgs p2 args2 = .ok o2) (heq : { o1 with verbosity := 0 } = { o2 with verbosity := 0 })
    (raw : RawEnv) (env : PEnv) (orc : EvalOracles) (rxOk : Pat → Bool) (confText : Bytes) (files : Files) (input : Bytes) :
    mainArgs p1 args1 raw env orc rxOk confText files input = mainArgs p2 args2 raw env orc rxOk confText files input := by
  have e : o1.dryrun = o2.dryrun ∧ o1.syntaxOnly = o2.syntaxOnly ∧ o1.stdinMode = o2.stdinMode ∧ o1.confpath = o2.confpath ∧
      o1.defs = o2.defs := by
    cases o1; cases o2
    simp only [Opts.mk.injEq] at heq
    exact ⟨heq.1, heq.2.1, heq.2.2.1, heq.2.2.2.1, heq.2.2.2.2.1⟩
  simp only [mainArgs, h1, h2, e.1, e.2.1, e.2.2.1, e.2.2.2.1, e.2.2.2.2]

example :
    (match parseArgs true ["-vvn".toUTF8.toList], parseArgs true ["-n".toUTF8.toList] with
     | .ok o1, .ok o2 => decide ({ o1 with verbosity := 0 } = { o2 with verbosity := 0 }) && o1.verbosity == 2
     | _, _ => false) = true := by
  decide +kernel

/-! ## dry run in stdin mode (`-d -`)

`C05_dry_no_mutation` is about maildir mode.  With `-` the run has to spool standard input, so it does
create and remove files - its own.  `Proofs.DrySpoolCall env cm sa tr c` (Proofs/WorldDryStdin.lean) is the
complete description of a call `c` issued when the calls and results so far are `tr`:

* `fopen` of the configuration file and `fclose` of the stream it returned;
* `mkdtemp` of `TMPDIR/mdsort-XXXXXXXX`; `mkdir` and `opendir` of `root/new` for a `root` that `mkdtemp`
  returned in `tr` (`dry_IsNew`); `openat(O_CREAT|O_EXCL)`, `readdir`, `rewinddir`, `closedir`, `openat(O_RDONLY)`
  on a stream such an `opendir` returned (`dry_IsDir`); `write` and `fsync` on a descriptor such an exclusive
  create returned (`dry_IsFd`); `unlinkat` on such a stream of a name its `readdir` returned; `rmdir` of such a
  `root`, of its `new`, or of the empty path (the cleanup after a failed `mkdtemp`, which names nothing);
* `read` and `close`;
* the calls of the conditions that ask the operating system: `open("/dev/null")`, `fork`, `waitpid` only if some rule
  tree has a `command` condition (`cm = Proofs.confHasCommand conf`), `stat` only if some has an `isdirectory` or a
  file-time `date` condition (`sa = Proofs.confHasStat conf`);
* nothing else: no `renameat`, `unlink`, `utimensat`, `mkostemp`, `fprintf`, and no
  `opendir` of a configured maildir or of a destination; no process for an action. -/

/-- `-d -`, whatever the calls return (hence under every fault plan and every interleaving with other
processes), whatever the configuration, the registry and the input are: every call of the run is one of
the calls listed above.  ("The run" is the model's - the spool is walked with fuel `64 + env.extraFuel` and cleaned
with a loop of the same allowance; an oracle whose `readdir` returns more than that many names makes the model stop where
mdsort would continue - the final state then has `fuelOut = true`.  Covered: every `env`, i.e. every
allowance; a run that ends with `fuelOut = false` is the run of the unbounded loops (`C04_fuel_irrelevant`).  Under
`runPlan` - the spool holds one file - the standard fuel suffices: `C04_stdin_spool_removed` could not hold otherwise.) -/
theorem C05_dry_stdin (env : PEnv) (orc : EvalOracles) (ok : Bool) (conf : List ConfBlock) (files : Files) (input : Bytes)
    (hd : env.dryrun = true) (hm : env.stdinMode = true) (orcl : Nat → Call → Res) :
    ∀ i c r, (runOracle orcl (mainP env orc ok conf files input) 0 []).2[i]? = some (c, r) →
      Proofs.DrySpoolCall env (Proofs.confHasCommand conf) (Proofs.confHasStat conf)
        ((runOracle orcl (mainP env orc ok conf files input) 0 []).2.take i) c :=
  Proofs.dry_stdin_calls env orc ok conf files input hd hm orcl

/-- The same for the execution on the abstract file system under any fault plan (`tr` = the calls the
run added to the trace of the world). -/
theorem C05_dry_stdin_plan (env : PEnv) (orc : EvalOracles) (ok : Bool) (conf : List ConfBlock) (files : Files) (input : Bytes)
    (w : World) (plan : Plan) (hd : env.dryrun = true) (hm : env.stdinMode = true) :
    ∀ i c r, ((runPlan plan (mainP env orc ok conf files input) w 0 []).2.1.trace.drop w.trace.length)[i]? = some (c, r) →
      Proofs.DrySpoolCall env (Proofs.confHasCommand conf) (Proofs.confHasStat conf)
        (((runPlan plan (mainP env orc ok conf files input) w 0 []).2.1.trace.drop w.trace.length).take i) c :=
  Proofs.dry_stdin_calls_plan env orc ok conf files input w plan hd hm

/-- (A reading lemma - the hypothesis `DrySpoolCall env cm sa tr c` contains the conclusion, this is its projection
`DrySpoolCall.kinds`; the statement about runs is `C05_dry_stdin`.)
Read for the mutating calls only: a process is started only for a `command` condition, and a mutating call is the
`mkdtemp` of the spool template, the `mkdir` of the spool's `new`, an exclusive create or an `unlinkat` in the spool, a
`write` to the spool file, or the `rmdir` of the spool. -/
theorem C05_dry_stdin_mutating (env : PEnv) (cm sa : Bool) (tr : List (Call × Res)) (c : Call)
    (h : Proofs.DrySpoolCall env cm sa tr c) :
    (c.isFork = true → cm = true) ∧ (c.mutating = true →
      (∃ t, c = .mkdtemp t ∧ pathjoin PATH_MAX env.tmpdir (ofString "mdsort-XXXXXXXX") = some t) ∨
      (∃ p, c = .mkdir p ∧ Proofs.dry_IsNew tr p) ∨
      (∃ d n, c = .openExcl d n ∧ Proofs.dry_IsDir tr d) ∨
      (∃ fd data, c = .write fd data ∧ Proofs.dry_IsFd tr fd) ∨
      (∃ d n, c = .unlinkat d n ∧ Proofs.dry_IsDir tr d ∧ (Call.readdir d, Res.name n) ∈ tr) ∨
      (∃ p, c = .rmdir p ∧ (p = [] ∨ Proofs.dry_IsRoot tr p ∨ Proofs.dry_IsNew tr p))) :=
  h.kinds

/-- (Verbatim `C04_stdin_spool_removed` - there is no hypothesis `env.dryrun = true`.)
... and the spool is gone at the end (`C04_stdin_spool_removed` holds for every rule set, in
particular under `-d`): for one `stdin` block and every fault plan that injects nothing from the first
call of the cleanup on, every directory that exists when `main` returns existed before. -/
theorem C05_dry_stdin_spool_removed (env : PEnv) (orc : EvalOracles) (conf : List ConfBlock) (files : Files) (input : Bytes)
    (expr : Expr) (w : World) (plan : Plan) (hm : env.stdinMode = true) (hs : env.syntaxOnly = false)
    (hc : Proofs.World.stdinExprs conf = [expr]) (hin : Proofs.World.StdinIs w input)
    (hfresh : Proofs.World.SpoolFresh env w)
    (hplan : ∀ j, Proofs.stdinCleanupStart plan env orc expr files input w ≤ j → plan j = none) :
    ∀ q, ((runPlan plan (mainP env orc true conf files input) w 0 []).2.1.dir q).isSome → (w.dir q).isSome :=
  Proofs.stdin_spool_removed env orc conf files input expr w plan hm hs hc hin hfresh hplan

/-- `-n -`: only `fopen` / `fclose` of the configuration (`C05_syntax_nothing` has no hypothesis on the mode; this
is that theorem again, `_hm` is not used). -/
theorem C05_syntax_stdin (env : PEnv) (orc : EvalOracles) (ok : Bool) (conf : List ConfBlock) (files : Files) (input : Bytes)
    (w : World) (plan : Plan) (hn : env.syntaxOnly = true) (_hm : env.stdinMode = true) :
    Proofs.callsOf plan (mainP env orc ok conf files input) w = [.fopen env.confpath] ∨
    ∃ h, Proofs.callsOf plan (mainP env orc ok conf files input) w = [.fopen env.confpath, .fclose h] :=
  Proofs.syntax_only_calls env orc ok conf files input w plan hn

/-- Non-vacuity of `C05_dry_stdin_mutating` : at the start of the example run the `mkdtemp` of the spool
template is a `DrySpoolCall`, and it is mutating. -/
example : Proofs.DrySpoolCall { Proofs.StdinExample.env0 with dryrun := true } false false []
      (.mkdtemp (Proofs.World.spoolRoot { Proofs.StdinExample.env0 with dryrun := true })) ∧
    (Call.mkdtemp (Proofs.World.spoolRoot { Proofs.StdinExample.env0 with dryrun := true })).mutating = true :=
  ⟨show pathjoin PATH_MAX ({ Proofs.StdinExample.env0 with dryrun := true } : PEnv).tmpdir (ofString "mdsort-XXXXXXXX") =
      some (Proofs.World.spoolRoot { Proofs.StdinExample.env0 with dryrun := true }) by decide +kernel, rfl⟩

/-! Non-vacuity: the stdin example of C04 (10-byte message, `stdin { match all move "/m/inbox" }`,
`/m/inbox/new` present) run with `-d`. -/

/-- The example environment with `-d`. -/
def C05_exDry : PEnv := { Proofs.StdinExample.env0 with dryrun := true }

example : C05_exDry.dryrun = true ∧ C05_exDry.stdinMode = true := ⟨rfl, rfl⟩

/-- The example world leaves room for the spool: it has `/m/inbox/new` (empty) and the file behind standard input. -/
theorem C05_exDry_start : Proofs.World.DryStart C05_exDry Proofs.StdinExample.w0 :=
  ⟨by constructor <;> decide +kernel, by decide⟩

/-- The spool's own mutating calls do occur: `maildir_stdin` of the example without faults. -/
example : Proofs.callsOf Plan.none (maildirStdin C05_exDry Proofs.StdinExample.input0) Proofs.StdinExample.w0 =
    [.mkdtemp (Proofs.World.spoolRoot C05_exDry), .mkdir (Proofs.World.spoolPath C05_exDry),
     .opendir (Proofs.World.spoolPath C05_exDry), .openExcl 1 Proofs.StdinExample.name0, .read 0,
     .write 2 Proofs.StdinExample.input0, .read 0, .fsync 2, .close 2] := by
  decide +kernel

/-- Non-vacuity of `C05_dry_stdin_spool_removed`: the example with `-d`, fault-free. -/
example : ∀ q, ((runPlan Plan.none (mainP C05_exDry Proofs.StdinExample.orc0 true Proofs.StdinExample.conf0 []
    Proofs.StdinExample.input0) Proofs.StdinExample.w0 0 []).2.1.dir q).isSome → (Proofs.StdinExample.w0.dir q).isSome :=
  C05_dry_stdin_spool_removed _ _ _ _ _ _ _ _ rfl rfl Proofs.StdinExample.ex_stdinExprs Proofs.StdinExample.ex_stdinIs
    C05_exDry_start.fresh (fun _ _ => rfl)

example : C05_exDry.syntaxOnly = false ∧ ({ C05_exDry with syntaxOnly := true } : PEnv).syntaxOnly = true := ⟨rfl, rfl⟩

/-! ## world level: what the file system looks like

The theorems above say which CALLS a dry run issues.  These say what the abstract file system (`Model.World`:
directories with their entries, files with visible and durable content, modification times) looks like after EVERY call
of the run under EVERY fault plan - the lift through `applyOk` / `runPlan`.  `(runPlan ..).2.2` is the list of worlds
after each call, `(runPlan ..).2.1` the final world.

`Proofs.World.SameDisk w w'`: `w'.dirs = w.dirs` (the same directories with the same entries: names and file ids),
`w'.files = w.files` (the same files with the same `data` and `durable`), `w'.mtimes = w.mtimes`, same id counter.
`Proofs.World.PreExisting w w'`: every directory of `w` has the same entries in `w'`, every file of `w` (id below
`w.nextFid`) the same `data` and `durable`, the modification times are the same. -/

/-- **`-d`, maildir mode.**  For every configuration, registry, input, every initial world in which no descriptor is a
stdio stream on a file (a process starts like that) and every fault plan: after every call of the run and at its end the
file system is literally the initial one - only the descriptor table and the trace have changed. -/
theorem C05_dry_world_unchanged (env : PEnv) (orc : EvalOracles) (ok : Bool) (conf : List ConfBlock) (files : Files)
    (input : Bytes) (w : World) (plan : Plan) (hd : env.dryrun = true) (hm : env.stdinMode = false)
    (hns : Proofs.World.NoStreams w) (w' : World)
    (hw' : w' = (runPlan plan (mainP env orc ok conf files input) w 0 []).2.1 ∨
      w' ∈ (runPlan plan (mainP env orc ok conf files input) w 0 []).2.2) :
    Proofs.World.SameDisk w w' :=
  Proofs.World.dry_world_unchanged env orc ok conf files input w plan hd hm hns w' hw'

/-- Read entry by entry: every name bound before is bound to the same file, with the same content (visible and durable)
and the same modification time.  (A reading lemma for `SameDisk`, no statement about runs.) -/
theorem C05_dry_world_entries (w w' : World) (h : Proofs.World.SameDisk w w') (q n : Bytes) (fid : Nat)
    (hl : w.lookup q n = some fid) :
    w'.lookup q n = some fid ∧ w'.file fid = w.file fid ∧ w'.mtime fid = w.mtime fid ∧ w'.dir q = w.dir q :=
  ⟨by rw [h.lookup]; exact hl, h.file fid, h.mtime fid, h.dir q⟩

/-- **`-d -`, stdin mode.**  The initial world must leave room for the spool (`DryStart`: the two paths `mkdtemp` /
`mkdir` will create name no directory yet, and the empty path names none).  Then for every configuration, input and fault
plan: after every call of the run and at its end every PRE-EXISTING directory has exactly its initial entries and every
pre-existing file its initial visible and durable content and modification time - whatever the run creates, writes and
removes is its own spool.  (Proof: the statement about calls behind `C05_dry_stdin`, carried to the worlds of the run along the
coherence of trace and world `Proofs.World.DryCoh`.) -/
theorem C05_dry_stdin_world_unchanged (env : PEnv) (orc : EvalOracles) (ok : Bool) (conf : List ConfBlock) (files : Files)
    (input : Bytes) (w : World) (plan : Plan) (hd : env.dryrun = true) (hm : env.stdinMode = true)
    (hs : Proofs.World.DryStart env w) (w' : World)
    (hw' : w' = (runPlan plan (mainP env orc ok conf files input) w 0 []).2.1 ∨
      w' ∈ (runPlan plan (mainP env orc ok conf files input) w 0 []).2.2) :
    Proofs.World.PreExisting w w' :=
  Proofs.World.dry_stdin_world_unchanged env orc ok conf files input w plan hd hm hs w' hw'

/-- Entry by entry, as above.  (A reading lemma for `PreExisting`.) -/
theorem C05_dry_stdin_world_entries (w w' : World) (h : Proofs.World.PreExisting w w') (q n : Bytes) (fid : Nat)
    (hl : w.lookup q n = some fid) (hfid : fid < w.nextFid) :
    w'.lookup q n = some fid ∧ w'.file fid = w.file fid ∧ w'.mtime fid = w.mtime fid :=
  ⟨h.lookup hl, h.files fid hfid, h.mtime fid⟩

/-- **... and the spool is gone at the end** (with `C05_dry_stdin_spool_removed`): one `stdin` block, and the plan
injects nothing from the first call of the cleanup on (the calls of `maildir_close`: `rewinddir`, `readdir`, `unlinkat`,
`rmdir`, `rmdir`, `closedir` - a failure there leaves the spool behind, F17e): at the end the directories are EXACTLY the
initial ones, each with its initial entries - `dir q` of the final world equals `dir q` of the initial world for every
path `q`, so neither the directory `mkdtemp` made nor its `new` exists any more. -/
theorem C05_dry_stdin_world_restored (env : PEnv) (orc : EvalOracles) (conf : List ConfBlock) (files : Files) (input : Bytes)
    (expr : Expr) (w : World) (plan : Plan) (hd : env.dryrun = true) (hm : env.stdinMode = true) (hsx : env.syntaxOnly = false)
    (hc : Proofs.World.stdinExprs conf = [expr]) (hin : Proofs.World.StdinIs w input) (hs : Proofs.World.DryStart env w)
    (hplan : ∀ j, Proofs.stdinCleanupStart plan env orc expr files input w ≤ j → plan j = none) :
    ∀ q, (runPlan plan (mainP env orc true conf files input) w 0 []).2.1.dir q = w.dir q :=
  Proofs.World.dry_stdin_world_restored env orc conf files input expr w plan hd hm hsx hc hin hs hplan

/-! Non-vacuity. -/

/-- Maildir mode: the two-message maildir `/m` of `Proofs.wholeExWorld` with the rule `match all flag "cur"` and `-d`
(`Proofs.dry_f21DryEnv`, `Proofs.dry_f21Conf`: the run of `C06_F21_witness`, which ends with status 0 and two log lines -
both messages are parsed and evaluated): the hypotheses hold, so the file system after that run is the initial one; a
real run of the same configuration moves both messages. -/
example : Proofs.dry_f21DryEnv.dryrun = true ∧ Proofs.dry_f21DryEnv.stdinMode = false ∧
    Proofs.World.NoStreams Proofs.wholeExWorld :=
  ⟨rfl, rfl, Proofs.World.noStreams_of_ok (by decide)⟩

example :
    (runPlan Plan.none (mainP Proofs.dry_f21DryEnv Proofs.wholeExOrc true Proofs.dry_f21Conf Proofs.wholeExFiles [])
      Proofs.wholeExWorld 0 []).1.2.log.length = 2 ∧
    Proofs.World.SameDisk Proofs.wholeExWorld
      (runPlan Plan.none (mainP Proofs.dry_f21DryEnv Proofs.wholeExOrc true Proofs.dry_f21Conf Proofs.wholeExFiles [])
        Proofs.wholeExWorld 0 []).2.1 :=
  ⟨Proofs.dry_f21_witness.2.2.2,
   C05_dry_world_unchanged _ _ _ _ _ _ _ _ rfl rfl (Proofs.World.noStreams_of_ok (by decide)) _ (.inl rfl)⟩

/-- Entry by entry: `/m/new/1.h` is still bound to file 0, with its content and time. -/
example :
    let w' := (runPlan Plan.none (mainP Proofs.dry_f21DryEnv Proofs.wholeExOrc true Proofs.dry_f21Conf Proofs.wholeExFiles [])
      Proofs.wholeExWorld 0 []).2.1
    Proofs.wholeExWorld.lookup Proofs.exNew Proofs.exName = some 0 ∧ w'.lookup Proofs.exNew Proofs.exName = some 0 ∧
      w'.file 0 = Proofs.wholeExWorld.file 0 :=
  have h := C05_dry_world_entries _ _ (C05_dry_world_unchanged Proofs.dry_f21DryEnv Proofs.wholeExOrc true Proofs.dry_f21Conf
    Proofs.wholeExFiles [] Proofs.wholeExWorld Plan.none rfl rfl (Proofs.World.noStreams_of_ok (by decide)) _ (.inl rfl))
    Proofs.exNew Proofs.exName 0 (by decide)
  ⟨by decide, h.1, h.2.1⟩

/-- Stdin mode: the example of `C05_exDry`. -/
example : Proofs.World.PreExisting Proofs.StdinExample.w0
    (runPlan Plan.none (mainP C05_exDry Proofs.StdinExample.orc0 true Proofs.StdinExample.conf0 [] Proofs.StdinExample.input0)
      Proofs.StdinExample.w0 0 []).2.1 :=
  C05_dry_stdin_world_unchanged _ _ _ _ _ _ _ _ rfl rfl C05_exDry_start _ (.inl rfl)

def C05_exW1 : World :=
  { Proofs.StdinExample.w0 with
    dirs := [(Proofs.StdinExample.inbox ++ [47, 110, 101, 119], [([120], 1)])],
    files := [(0, ⟨Proofs.StdinExample.input0, Proofs.StdinExample.input0⟩), (1, ⟨[104, 105], [104, 105]⟩)], nextFid := 2 }

/-- Entry by entry, for a world in which `/m/inbox/new` already holds a message `x` (file 1): untouched by `-d -`. -/
example :
    let w' := (runPlan Plan.none (mainP C05_exDry Proofs.StdinExample.orc0 true Proofs.StdinExample.conf0 [] Proofs.StdinExample.input0)
      C05_exW1 0 []).2.1
    C05_exW1.lookup (Proofs.StdinExample.inbox ++ [47, 110, 101, 119]) [120] = some 1 ∧
      w'.lookup (Proofs.StdinExample.inbox ++ [47, 110, 101, 119]) [120] = some 1 ∧ w'.file 1 = C05_exW1.file 1 :=
  have h := C05_dry_stdin_world_entries _ _ (C05_dry_stdin_world_unchanged C05_exDry Proofs.StdinExample.orc0 true
    Proofs.StdinExample.conf0 [] Proofs.StdinExample.input0 C05_exW1 Plan.none rfl rfl
    ⟨by constructor <;> decide +kernel, by decide⟩ _ (.inl rfl))
    (Proofs.StdinExample.inbox ++ [47, 110, 101, 119]) [120] 1 (by decide) (by decide)
  ⟨by decide, h.1, h.2.1⟩

example : ∀ q, (runPlan Plan.none (mainP C05_exDry Proofs.StdinExample.orc0 true Proofs.StdinExample.conf0 []
    Proofs.StdinExample.input0) Proofs.StdinExample.w0 0 []).2.1.dir q = Proofs.StdinExample.w0.dir q :=
  C05_dry_stdin_world_restored _ _ _ _ _ _ _ _ rfl rfl rfl Proofs.StdinExample.ex_stdinExprs Proofs.StdinExample.ex_stdinIs
    C05_exDry_start (fun _ _ => rfl)

end Mdsort.Props
