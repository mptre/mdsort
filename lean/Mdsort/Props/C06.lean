import Mdsort.Proofs.Inspect
import Mdsort.Proofs.InspectTrue
import Mdsort.Proofs.WorldDryF21
import Mdsort.Proofs.WorldDryTotal

/-!
# C06 - dry run predicts the real run and its explanations are true

A dry run and a real run call the same evaluator (`Model.eval`, `Model.matchesInterpolate`) on the
same message; the only difference is the dry-run option.  `Model.matchesInspect` transcribes
`matches_inspect`/`expr_inspect` (the text `-d` prints).
-/

namespace Mdsort.Props
open Mdsort Mdsort.Model

/-- The plan does not depend on the dry-run option: for every environment, message, rule tree and
state the evaluation under `-d` has the same result, the same entries up to the display fields, and
the same flag state as the real evaluation. -/
theorem C06_same_plan (env : Env) (root : Msg) (e : Expr) (part : Nat) (m : Msg) (st : St) :
    (eval (Proofs.flipDry env) root e part m st).1 = (eval env root e part m st).1 ∧
    Proofs.eraseKV (eval (Proofs.flipDry env) root e part m { st with ml := Proofs.eraseKV st.ml }).2.ml =
      Proofs.eraseKV (eval env root e part m st).2.ml ∧
    (eval (Proofs.flipDry env) root e part m st).2.flags = (eval env root e part m st).2.flags :=
  Proofs.eval_dryrun_same env root e part m st

/-- The `-> destination` lines are, in order, exactly the action entries `matches_exec` iterates over.  (Stated
for `matchesInspect .. false ..`, the non-dry mode of the printing loop: the loop equals filter + map; for `-d` the same lines
appear as the first line of every group of `C06_explanations_true`.) -/
theorem C06_lines_are_actions (width : Bytes → Nat → Nat) (home confpath : Bytes) (stdinMode : Bool) (path : Bytes) (ml : MatchList) :
    matchesInspect width home confpath stdinMode false path ml = (Proofs.destLines stdinMode path ml).flatten :=
  Proofs.inspect_lines_are_actions width home confpath stdinMode path ml

/-- Marker columns (see `Proofs.marker_columns` for the exact statement): `^` under the first and `$`
under the last matched character of the quoted line, for EVERY width function (`width str len` stands for
`strnwidth(str, len)`; no additivity is needed), whenever the match does not begin inside the leading blanks of
its line (the complement is known finding F15).  The blanks before `^` are `inspectHeadWidth` - the head
`conf:lno: key: ` with the configuration path and the header name measured by `width` and the punctuation in bytes
(fix 951a0f1) - plus the width of the quoted text before the match; `C06_marker_display_columns` turns that into
display columns of the printed line for `strnwidth` over any `mbtowc`/`wcwidth`. -/
theorem C06_marker_columns (width : Bytes → Nat → Nat) (home confpath : Bytes) (mh : Match) (key val : Bytes)
    (beg end_ : Nat) (s : Bytes)
    (hins : mh.ty.isInspect = true) (hk : mh.key = some key) (hv : mh.val = some val)
    (hsub : mh.subs = [{ str := s, off := some (beg, end_) }])
    (hne : beg < end_) (hle : end_ ≤ val.length) (hnl : val[beg]? ≠ some 10)
    (hlead : (Proofs.lineOf val beg).2 + nspaces (Proofs.lineOf val beg).1 ≤ beg) :
    let line := (Proofs.lineOf val beg).1
    let lstart := (Proofs.lineOf val beg).2
    let shown := line.drop (nspaces line)
    let pre := inspectPrefix home confpath mh.lno ++ key ++ [58, 32]
    let w := width (val.drop beg) (end_ - beg)
    exprInspect width home confpath mh =
      pre ++ shown ++ [10] ++
      spaces (inspectHeadWidth width home confpath mh.lno key +
        width (val.drop (lstart + nspaces line)) (beg - (lstart + nspaces line))) ++ [94] ++
      spaces (w - 2) ++ [36, 10] :=
  Proofs.marker_columns width home confpath mh key val beg end_ s hins hk hv hsub hne hle hnl hlead

/-- **Marker columns as display columns, for multibyte text everywhere on the line.**  `width = strnwidth mb wcw` is the loop
of expr.c over ANY `mbtowc`/`wcwidth` (any locale; characters of several bytes, of two columns, of no column, invalid
sequences - in the value, in the configuration path and in the header name).  Hypotheses about the text: the path (after the `~`
substitution) and the header name are texts of whole characters (`Proofs.Chars`: each character is decoded the same whatever
follows the text - true of well-formed text under `mbtowc`; a path ending inside a multibyte sequence is excluded); about
the locale: the punctuation `~`, `:lno: `, `: ` consists of one-byte one-column characters (`Proofs.OneColumn`; ASCII).
NO hypothesis that the path or the name is ASCII: both are measured by `strnwidth` (fix 951a0f1).
Then the number of blanks before `^` is the display width of everything printed on the quoted line before the first
matched byte (`strnwidth` of the first `|head| + (beg - lbeg)` bytes of the printed line in the context of the value), and
`$` follows `width(match) - 2` blanks later, i.e. in the last column of the match when the match has at least two columns. -/
theorem C06_marker_display_columns (mb : Bytes → Option (Nat × Nat)) (wcw : Nat → Int) (home confpath : Bytes) (mh : Match)
    (key val : Bytes) (beg end_ : Nat) (s : Bytes)
    (hins : mh.ty.isInspect = true) (hk : mh.key = some key) (hv : mh.val = some val)
    (hsub : mh.subs = [{ str := s, off := some (beg, end_) }])
    (hne : beg < end_) (hle : end_ ≤ val.length) (hnl : val[beg]? ≠ some 10)
    (hlead : (Proofs.lineOf val beg).2 + nspaces (Proofs.lineOf val beg).1 ≤ beg)
    (hpunct : ∀ c ∈ (inspectPath home confpath).1 ++ inspectLno mh.lno ++ [58, 32], Proofs.OneColumn mb wcw c)
    (hpath : Proofs.Chars mb (inspectPath home confpath).2) (hkey : Proofs.Chars mb key) :
    let line := (Proofs.lineOf val beg).1
    let lstart := (Proofs.lineOf val beg).2
    let shown := line.drop (nspaces line)
    let pre := inspectPrefix home confpath mh.lno ++ key ++ [58, 32]
    let w := strnwidth mb wcw (val.drop beg) (end_ - beg)
    exprInspect (strnwidth mb wcw) home confpath mh =
      pre ++ shown ++ [10] ++
      spaces (strnwidth mb wcw (pre ++ val.drop (lstart + nspaces line)) (pre.length + (beg - (lstart + nspaces line)))) ++ [94] ++
      spaces (w - 2) ++ [36, 10] :=
  Proofs.marker_display_columns mb wcw home confpath mh key val beg end_ s hins hk hv hsub hne hle hnl hlead hpunct hpath hkey

/-- Non-vacuity with a non-ASCII configuration path AND header name (`Proofs.markerWit`: U+4E2D = 3 bytes / 2 columns,
U+00E9 = 2 bytes / 1 column, U+0301 = 2 bytes / no column): HOME `/h`, configuration `/h/dé中/c`, header `Sé`, value
`中é hi` U+0301 `!`, the pattern matched `hi` U+0301 (bytes 6..10).  The head `~/dé中/c:2: Sé: ` has 19 bytes and 16
columns, `中é ` four columns: `^` after 20 blanks (the head counted in bytes, as before fix 951a0f1, gives 23), `$` directly after it (the match
has two columns). -/
example : exprInspect (strnwidth Proofs.markerWit.mb Proofs.markerWit.wcw) [47, 104]
      [47, 104, 47, 100, 0xC3, 0xA9, 0xE4, 0xB8, 0xAD, 47, 99] (Proofs.markerWit.entry [83, 0xC3, 0xA9]) =
    [126, 47, 100, 0xC3, 0xA9, 0xE4, 0xB8, 0xAD, 47, 99, 58, 50, 58, 32, 83, 0xC3, 0xA9, 58, 32] ++ Proofs.markerWit.val ++ [10] ++
      spaces 20 ++ [94, 36, 10] := by decide +kernel

/-- All hypotheses of `C06_marker_display_columns` hold on that witness. -/
example := C06_marker_display_columns Proofs.markerWit.mb Proofs.markerWit.wcw [47, 104]
    [47, 104, 47, 100, 0xC3, 0xA9, 0xE4, 0xB8, 0xAD, 47, 99] (Proofs.markerWit.entry [83, 0xC3, 0xA9])
    [83, 0xC3, 0xA9] Proofs.markerWit.val 6 10 [104, 105, 0xCC, 0x81] rfl rfl rfl rfl (by decide) (by decide) (by decide) (by decide)
    (Proofs.markerWit.oneColumn _ (by decide +kernel))
    (Proofs.markerWit.charsAscii [47, 100] (by decide) _ (Proofs.markerWit.charsE9 _ (Proofs.markerWit.chars4E2D _
      (Proofs.markerWit.charsAscii [47, 99] (by decide) [] .nil))))
    (Proofs.markerWit.charsAscii [83] (by decide) _ (Proofs.markerWit.charsE9 [] .nil))

/-- The plain case: ASCII head `~/c:2: S: ` (10 columns), `^` after 14 blanks. -/
example : exprInspect (strnwidth Proofs.markerWit.mb Proofs.markerWit.wcw) [47, 104] [47, 104, 47, 99] (Proofs.markerWit.entry [83]) =
    [126, 47, 99, 58, 50, 58, 32, 83, 58, 32] ++ Proofs.markerWit.val ++ [10] ++ spaces 14 ++ [94, 36, 10] := by decide +kernel

/-- **The explanations printed by a dry run are true** (all definitions in `Proofs/InspectTrue.lean`).
For every match list, width function, home, configuration path and message path: the text
`matches_inspect` prints under `-d` is, for the splitting of the list at its action entries into groups
`(entries since the previous action entry, action)` plus trailing non-action entries - these are
exactly the entries `matches_inspect` walks from `lhs` to each action -, the concatenation over the
groups of the action's `path -> destination` line and the blocks of the group's entries, where
(`ExplainsEntry`) an entry whose type lacks the INSPECT flag of the generated table prints nothing, and
an INSPECT entry prints exactly one block per sub-match that is set and non-empty
(`printedSubs`: `off = some (so, eo)` with `so ≠ eo`, the test `beg == end` of `expr_inspect`), in
order, each block (`ExplainsSub`) quoting a line of the value the pattern was applied to (a maximal
newline-free segment `IsLineAt`, leading blanks dropped) - the line the sub-match begins in whenever it
begins at a byte of the value other than a newline - with `$` placed `width(match) - 2` columns after `^`. -/
theorem C06_explanations_true (width : Bytes → Nat → Nat) (home confpath : Bytes) (stdinMode : Bool) (path : Bytes)
    (ml : MatchList) :
    ∃ (groups : List Proofs.Explained) (tail : MatchList),
      ml = groups.flatMap (fun g => g.entries ++ [g.action]) ++ tail ∧
      (∀ m ∈ tail, m.ty.isAction = false) ∧
      matchesInspect width home confpath stdinMode true path ml =
        groups.flatMap (Proofs.Explained.text stdinMode path) ∧
      ∀ g ∈ groups, g.action.ty.isAction = true ∧ (∀ m ∈ g.entries, m.ty.isAction = false) ∧
        Proofs.Pointwise (Proofs.ExplainsEntry width home confpath) g.entries g.blocks :=
  Proofs.explanations_true width home confpath stdinMode path ml

/-- The INSPECT flag of the table regenerated from `expr_alloc`: header, body and date conditions. -/
theorem C06_inspect_flag (t : MType) : t.isInspect = true ↔ t = .body ∨ t = .date ∨ t = .header :=
  Proofs.isInspect_iff t

/-- The value an explanation quotes is the value the pattern was applied to: in a dry run the entry
`expr_regexec` appends for a body, date or header condition carries the name, exactly the subject
given to the regex engine and the offsets the engine returned for it; its printed sub-matches are
the set, non-empty groups of the engine's answer. -/
theorem C06_explanations_subject (env : Env) (ty : MType) (lno part : Nat) (p : Pat) (key val : Bytes) (st : St)
    (groups : List (Option (Nat × Nat)))
    (hty : ty.isInspect = true) (hd : env.dryrun = true) (hrx : env.rx p val = .ok groups) :
    exprRegexec env ty lno part p key val st =
      (.match, { st with ml := st.ml ++ [{ ty := ty, lno := lno, part := part, subs := matchCopy p val groups,
                                           pat := some p, key := some key, val := some val }] }) ∧
    Proofs.printed (matchCopy p val groups) =
      groups.filterMap (fun g => match g with
        | some (so, eo) => if so == eo then none else some (so, eo)
        | none => none) :=
  Proofs.regexec_records env ty lno part p key val st groups hty hd hrx

/-- A dry-run environment whose regex engine answers: group 0 = bytes 0..2, group 1 unset, group 2 empty at 1. -/
def c06exSubjEnv : Env where
  rx := fun _ _ => .ok [some (0, 2), none, some (1, 1)]
  command := fun _ => 0
  isDir := fun _ => false
  now := 0
  strptime := fun _ => none
  zoneName := fun _ => none
  fileTime := fun _ => none
  dryrun := true
  path := []

/-- Non-vacuity: `header "S" /h/` on the value `hi`: the hypotheses hold, and of the three groups exactly the set, non-empty
one is printed. -/
example : MType.header.isInspect = true ∧ c06exSubjEnv.dryrun = true ∧
    c06exSubjEnv.rx { src := [104] } [104, 105] = .ok [some (0, 2), none, some (1, 1)] ∧
    Proofs.printed (matchCopy { src := [104] } [104, 105] [some (0, 2), none, some (1, 1)]) = [(0, 2)] :=
  ⟨by decide, rfl, rfl,
   (C06_explanations_subject c06exSubjEnv .header 1 0 { src := [104] } [83] [104, 105] { ml := [], flags := MFlags.empty }
     [some (0, 2), none, some (1, 1)] (by decide) rfl rfl).2⟩

/-- The stronger reading of the property text - "an explanation printed under an action comes from the
rule of that action", i.e. no `match` sentinel stands between a printing entry and the action it is
printed under (`Proofs.ExplainedInActionRule`) - for every evaluation.  It is FALSE: -/
def C06_explanations_same_rule : Prop :=
  ∀ (width : Bytes → Nat → Nat) (home confpath : Bytes) (env : Env) (root : Msg) (e : Expr) (m : Msg) (f : MFlags),
    Proofs.ExplainedInActionRule width home confpath (eval env root e 0 m { ml := [], flags := f }).2.ml

/-- `C06_explanations_same_rule` is false: a rule whose first condition matches and whose second does not leaves the entry of the first
condition in the list, and `-d` prints it under the action of the next rule that fires
(`Proofs.InspWit`: `match date modified > 10 seconds and date created > 5000 seconds move "/d1"`,
`match date access > 10 seconds move "/d2"`; same with header and body conditions on the real binary). -/
theorem C06_explanations_same_rule_false : ¬ C06_explanations_same_rule :=
  fun h => Proofs.explainedInActionRule_false
    (h widthCn [47, 104] [99, 111, 110, 102] Proofs.InspWit.env Proofs.InspWit.msg Proofs.InspWit.tree Proofs.InspWit.msg
      MFlags.empty)

/-! Non-vacuity: the groups of the witness list; a line of a three-line value; skipped sub-matches. -/
example : Proofs.InspWit.ml =
    [Proofs.InspWit.eMtch2, Proofs.InspWit.eDate2, Proofs.InspWit.eMtch3, Proofs.InspWit.eDate3] ++
      [Proofs.InspWit.eMove] ++ [] := rfl

example : Proofs.printedSubs Proofs.InspWit.eDate2 = [(0, 25)] := by decide

/-- `ab\n  cd\nef`: the line at offset 3 is `  cd`. -/
example : Proofs.IsLineAt [97, 98, 10, 32, 32, 99, 100, 10, 101, 102] 3 [32, 32, 99, 100] :=
  ⟨[97, 98, 10], [10, 101, 102], rfl, rfl, Or.inr rfl, Or.inr rfl, by decide⟩

/-- An unset group and an empty group are skipped, the others are printed in order. -/
example : Proofs.printed [{ str := [], off := none }, { str := [], off := some (3, 3) }, { str := [98], off := some (1, 2) },
    { str := [97, 98], off := some (0, 2) }] = [(1, 2), (0, 2)] := by decide

/-! ## the dry run predicts the real run, end to end (maildir mode)

`C06_same_plan` is about one evaluation.  Lifted through interpolation (`Proofs.dry_lines_eq`: the `->`
lines of a file are the same with and without `-d`) and through the walk (Proofs/WorldExit*.lean, the
invariant of `C01_main_exit0_partial`):

* `Proofs.exit0_lines env orc e D n c`: the `-> destination` lines logged for the file `n` of `D` (content `c`)
  under the rules `e`: `inspectLines env ml (D/n)` - one line per action entry of `ml`, the entries
  `matches_exec` iterates over (`C06_lines_are_actions`) - when the verdict is an action list `ml`, none otherwise;
* `Proofs.exit0_refDirs C dirs`: the reference log - the directories in walking order (`exit0_dirsOf conf`), in each
  the names in the order of its stream (sorted, as the shim presents them), for each name the lines of its file. -/

/-- **The dry run predicts the real run.**  Maildir mode, the fault-free plan, rules without discard that ask the
operating system nothing (`Proofs.asksFree`: a `command` condition is run once by the dry run and once by the real run
and may answer differently; `isdirectory "d"` may change between the runs), no
message visited twice (`Proofs.exit0_Good`, see `C01_main_exit0_partial`): when both runs end with exit status
0, the log of the dry run - the `-> destination` lines, in order - EQUALS the log of the real run, and both are
the reference log.  With `C01_main_exit0_partial` (same hypotheses): the messages that have a line are exactly
those whose verdict is an action list, each of them is where `finalDir` of that list says, every message
without a line (no match) is bound as before with its content - the real run acted on exactly the messages
the dry run lists, as listed.
(`log` is a ghost field of the model's loop state - both runs append `inspectLines env ml path` for every
message whose verdict is an action list, BEFORE `matches_exec` runs and whether or not anything is printed (a real run
without `-v` prints nothing).  So "the log of the real run" means: the action entries the real run hands to `matches_exec`,
message by message, rendered as `->` lines; what the real run then DID with them is `C01_main_exit0_partial`.) -/
theorem C06_dry_predicts_real_partial (env : PEnv) (orc : EvalOracles) (confOk : Bool) (conf : List ConfBlock) (files : Files)
    (input : Bytes) (w : World) (hm : env.stdinMode = false) (hsyn : env.syntaxOnly = false) (hdry : env.dryrun = false)
    (hfree : ∀ b ∈ conf, Proofs.asksFree b.expr = true)
    (hnd : ∀ b ∈ conf, Proofs.WholeNoDiscard env orc b.expr) (hreg : Proofs.WholeReg w files)
    (hgood : Proofs.exit0_Good ⟨env, orc, Proofs.exit0_dirsOf conf, files, w⟩)
    (hreal : (runPlan Plan.none (mainP env orc confOk conf files input) w 0 []).1.1 = 0)
    (hdryrun : (runPlan Plan.none (mainP { env with dryrun := true } orc confOk conf files input) w 0 []).1.1 = 0) :
    (runPlan Plan.none (mainP { env with dryrun := true } orc confOk conf files input) w 0 []).1.2.log =
      (runPlan Plan.none (mainP env orc confOk conf files input) w 0 []).1.2.log ∧
    (runPlan Plan.none (mainP env orc confOk conf files input) w 0 []).1.2.log =
      Proofs.exit0_refDirs ⟨env, orc, Proofs.exit0_dirsOf conf, files, w⟩ (Proofs.exit0_dirsOf conf) :=
  Proofs.dry_predicts_real env orc confOk conf files input w hm hsyn hdry hfree hnd hreg hgood hreal hdryrun

/-- Non-vacuity: the two-message example with `/y` present and `maildir "/m" { match all move "/y" }` - all
hypotheses hold (both exit statuses evaluated); so the two logs are equal (two lines each). -/
example : (runPlan Plan.none (mainP { Proofs.exEnv with dryrun := true } Proofs.wholeExOrc true Proofs.exit0_exConf
      Proofs.wholeExFiles []) Proofs.dry_f21World2 0 []).1.2.log =
    (runPlan Plan.none (mainP Proofs.exEnv Proofs.wholeExOrc true Proofs.exit0_exConf Proofs.wholeExFiles [])
      Proofs.dry_f21World2 0 []).1.2.log :=
  (C06_dry_predicts_real_partial Proofs.exEnv Proofs.wholeExOrc true Proofs.exit0_exConf Proofs.wholeExFiles []
    Proofs.dry_f21World2 rfl rfl rfl (by decide) Proofs.exit0_ex_nd Proofs.dry_f21_reg2 Proofs.dry_ex_good Proofs.dry_ex_runs.1
    Proofs.dry_ex_runs.2.1).1

/-- **If the real run exits 0, so does the dry run.**  Same configuration, registry, oracles and initial
world, the fault-free plan, maildir mode, rules without discard that ask the operating system nothing (`Proofs.asksFree`, as
for `C06_dry_predicts_real_partial`: a `command` condition is run once by each of the two runs and need not answer the same
twice), no message visited twice (`exit0_Good`): exit status 0 of the real run implies exit status 0 of the `-d` run.

Why: without faults the dry run performs a SUBSET of the fallible steps of the real run.  Common to both: the
configuration is valid; every selected path, path + `/new`, path + `/cur` fits (`Proofs.dryT_real`: a run
without the error flag had all of that, for any single-fault plan); `opendir` of `new` and `cur`
(`Proofs.dryT_real`: a real run without the error flag opened every configured directory, and no call of a
maildir-mode run creates or removes a directory - `Proofs.dirsSame_step` for the calls of the loops,
`Proofs.dirsSame_processMessage` from the frame condition of `C04_isolation_calls_main` - so they exist in the initial world,
which is the world the dry run sees throughout);
`readdir`; for every message met: the registry knows it, `message_parse` succeeds (`Proofs.dryT_parse`: without
faults it succeeds iff path, name and flag suffix are acceptable), evaluation and interpolation give no error
verdict (`Proofs.dryT_verdict_isErr`: the verdict's error bit does not depend on `-d`; `C01_main_exit0_partial`:
after a real run with exit status 0 no registered message has an error verdict).  Only in a real run: every
call of the action lists (`matchesExec`) - and, without `exit0_Good`, the second visit of a message moved into a
directory walked later (F21).  Only in a dry run: nothing (`Proofs.dryT_mainP`: under the conditions above the
fault-free dry run ends without the error flag). -/
theorem C06_dry_exit_le_real (env : PEnv) (orc : EvalOracles) (confOk : Bool) (conf : List ConfBlock) (files : Files)
    (input : Bytes) (w : World) (hm : env.stdinMode = false) (hsyn : env.syntaxOnly = false) (hdry : env.dryrun = false)
    (hfree : ∀ b ∈ conf, Proofs.asksFree b.expr = true)
    (hnd : ∀ b ∈ conf, Proofs.WholeNoDiscard env orc b.expr) (hreg : Proofs.WholeReg w files)
    (hgood : Proofs.exit0_Good ⟨env, orc, Proofs.exit0_dirsOf conf, files, w⟩)
    (hreal : (runPlan Plan.none (mainP env orc confOk conf files input) w 0 []).1.1 = 0) :
    (runPlan Plan.none (mainP { env with dryrun := true } orc confOk conf files input) w 0 []).1.1 = 0 :=
  Proofs.dry_exit_le_real env orc confOk conf files input w hm hsyn hdry hfree hnd hreg hgood hreal

/-- **The dry run predicts the real run**, without assuming anything about the dry run:
`C06_dry_predicts_real_partial` minus its hypothesis on the exit status of the dry run.  Exit status 0 of the
REAL run alone gives exit status 0 of the dry run, equality of the two logs, and both are the reference log. -/
theorem C06_dry_predicts_real_partial2 (env : PEnv) (orc : EvalOracles) (confOk : Bool) (conf : List ConfBlock) (files : Files)
    (input : Bytes) (w : World) (hm : env.stdinMode = false) (hsyn : env.syntaxOnly = false) (hdry : env.dryrun = false)
    (hfree : ∀ b ∈ conf, Proofs.asksFree b.expr = true)
    (hnd : ∀ b ∈ conf, Proofs.WholeNoDiscard env orc b.expr) (hreg : Proofs.WholeReg w files)
    (hgood : Proofs.exit0_Good ⟨env, orc, Proofs.exit0_dirsOf conf, files, w⟩)
    (hreal : (runPlan Plan.none (mainP env orc confOk conf files input) w 0 []).1.1 = 0) :
    (runPlan Plan.none (mainP { env with dryrun := true } orc confOk conf files input) w 0 []).1.1 = 0 ∧
    (runPlan Plan.none (mainP { env with dryrun := true } orc confOk conf files input) w 0 []).1.2.log =
      (runPlan Plan.none (mainP env orc confOk conf files input) w 0 []).1.2.log ∧
    (runPlan Plan.none (mainP env orc confOk conf files input) w 0 []).1.2.log =
      Proofs.exit0_refDirs ⟨env, orc, Proofs.exit0_dirsOf conf, files, w⟩ (Proofs.exit0_dirsOf conf) :=
  Proofs.dry_predicts_real2 env orc confOk conf files input w hm hsyn hdry hfree hnd hreg hgood hreal

/-- Non-vacuity: the two-message example (`maildir "/m" { match all move "/y" }`, `/y` present): every
hypothesis holds - the exit status of the real run is evaluated, the one of the dry run is NOT used -, so the
dry run exits 0 and logs what the real run logs. -/
theorem C06_dry_exit_le_real_nonvacuous :
    (runPlan Plan.none (mainP { Proofs.exEnv with dryrun := true } Proofs.wholeExOrc true Proofs.exit0_exConf
      Proofs.wholeExFiles []) Proofs.dry_f21World2 0 []).1.1 = 0 ∧
    (runPlan Plan.none (mainP { Proofs.exEnv with dryrun := true } Proofs.wholeExOrc true Proofs.exit0_exConf
      Proofs.wholeExFiles []) Proofs.dry_f21World2 0 []).1.2.log =
    (runPlan Plan.none (mainP Proofs.exEnv Proofs.wholeExOrc true Proofs.exit0_exConf Proofs.wholeExFiles [])
      Proofs.dry_f21World2 0 []).1.2.log := by
  have h := C06_dry_predicts_real_partial2 Proofs.exEnv Proofs.wholeExOrc true Proofs.exit0_exConf Proofs.wholeExFiles []
    Proofs.dry_f21World2 rfl rfl rfl (by decide) Proofs.exit0_ex_nd Proofs.dry_f21_reg2 Proofs.dry_ex_good Proofs.dry_ex_runs.1
  exact ⟨h.1, h.2.1⟩

/-- Per file: the lines do not depend on `-d` (any environment, oracle, rules, directory, name, content). -/
theorem C06_lines_same (env : PEnv) (orc : EvalOracles) (expr : Expr) (D n c : Bytes) (b1 b2 : Bool) :
    Proofs.exit0_lines { env with dryrun := b1 } orc expr D n c = Proofs.exit0_lines { env with dryrun := b2 } orc expr D n c :=
  Proofs.dry_lines_eq env orc expr D n c b1 b2

/-- The general statement - the same without the hypothesis that no message is visited twice - as a named
proposition.  It is FALSE (known finding F21, `C06_dry_predicts_real_false`). -/
def C06_dry_predicts_real : Prop :=
  ∀ (env : PEnv) (orc : EvalOracles) (confOk : Bool) (conf : List ConfBlock) (files : Files) (input : Bytes) (w : World),
    env.stdinMode = false → env.syntaxOnly = false → env.dryrun = false →
    (∀ b ∈ conf, Proofs.WholeNoDiscard env orc b.expr) → Proofs.WholeReg w files →
    (runPlan Plan.none (mainP env orc confOk conf files input) w 0 []).1.1 = 0 →
    (runPlan Plan.none (mainP { env with dryrun := true } orc confOk conf files input) w 0 []).1.1 = 0 →
    (runPlan Plan.none (mainP { env with dryrun := true } orc confOk conf files input) w 0 []).1.2.log =
      (runPlan Plan.none (mainP env orc confOk conf files input) w 0 []).1.2.log

/-- **Where F21 breaks it** (evaluated): `maildir "/m" { match all flag "cur" }` on the two-message example.
The rules send `/m/new/1.h` to `/m/cur`, which is walked next - what the clause `norev` of `Proofs.exit0_Good` rules out.
Both runs end with exit status 0; the dry run logs TWO lines (each message once), the real run
FOUR - each message is found again in `/m/cur` and processed a second time. -/
theorem C06_F21_witness :
    (runPlan Plan.none (mainP Proofs.exEnv Proofs.wholeExOrc true Proofs.dry_f21Conf Proofs.wholeExFiles [])
      Proofs.wholeExWorld 0 []).1.1 = 0 ∧
    (runPlan Plan.none (mainP Proofs.exEnv Proofs.wholeExOrc true Proofs.dry_f21Conf Proofs.wholeExFiles [])
      Proofs.wholeExWorld 0 []).1.2.log.length = 4 ∧
    (runPlan Plan.none (mainP Proofs.dry_f21DryEnv Proofs.wholeExOrc true Proofs.dry_f21Conf Proofs.wholeExFiles [])
      Proofs.wholeExWorld 0 []).1.1 = 0 ∧
    (runPlan Plan.none (mainP Proofs.dry_f21DryEnv Proofs.wholeExOrc true Proofs.dry_f21Conf Proofs.wholeExFiles [])
      Proofs.wholeExWorld 0 []).1.2.log.length = 2 :=
  Proofs.dry_f21_witness

theorem C06_dry_predicts_real_false : ¬ C06_dry_predicts_real := Proofs.dry_general_false

end Mdsort.Props
