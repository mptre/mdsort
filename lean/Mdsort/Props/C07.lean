import Mdsort.Proofs.Safety
import Mdsort.Proofs.L0Decode
import Mdsort.Proofs.L0Message
import Mdsort.Proofs.L0Mime
import Mdsort.Proofs.L0Unfold
import Mdsort.Proofs.L0RefineHeader
import Mdsort.Proofs.L0RefineSearch
import Mdsort.Proofs.L0RefineMime
import Mdsort.Proofs.L0RefineUtil
import Mdsort.Proofs.L0RefineAttach
import Mdsort.Proofs.L0Buffer
import Mdsort.Proofs.Literal

/-!
# C07 - hostile message content cannot corrupt memory, crash or hang mdsort

Two levels.  The list models (`Model/*.lean`) work on byte lists, where a read beyond the terminator cannot be
written down; the first theorems below are the arithmetic and progress facts the C code's safety rests on at
that level: every decoder's output fits the buffer its caller allocated, every table index read is inside the
table, every scanner returns pieces of the text it was given, and every loop that the model bounds with fuel
terminates by itself (the fuel is irrelevant), for every byte string.  All model functions are total (structural
or well-founded recursion accepted by the kernel), so "terminates with match, non-match or error" holds of the
model by construction.

From "Index level (L0)" on, the same C functions are transcribed over sized objects with checked accessors
(`Model/L0/*.lean`): there an access outside an object IS a value (`Fault.oob`, `Fault.uaf`), "no invalid access"
is the theorem `= .ok _`, and each function is shown to compute what its list model computes on the view.  What
no theorem carries is that the transcription is faithful to the C text: that is decided by running the real code
on the same inputs under AddressSanitizer/UndefinedBehaviorSanitizer and comparing its results with the model's
(the check).
-/

namespace Mdsort.Props
open Mdsort Mdsort.Model

/-- Bounded decoders: `dec[n] = '\0'` in `base64_decode` is inside the `strlen + 1` bytes allocated, `b64_pton`
never reports more than the target holds, and the quoted-printable and RFC 2047 decoders never produce more
than they read. -/
theorem C07_decoders_fit :
    (∀ s out : Bytes, base64DecodeRaw s = some out → out.length ≤ s.length) ∧
    (∀ (s out : Bytes) (n : Nat), b64pton s n = some out → out.length ≤ n) ∧
    (∀ s : Bytes, (qpDecodeRaw s).length ≤ s.length) ∧
    (∀ s : Bytes, (rfc2047DecodeRaw s).length ≤ s.length) :=
  ⟨Proofs.b64_fits, Proofs.b64pton_fits, Proofs.qp_fits, Proofs.rfc2047_fits⟩

/-- Header table: every probe of the binary search is inside the table, the search terminates by itself, and
the slice handed to callers is inside the table - for every table, sorted or not, and every name.
NOTE: the first clause is about `Proofs.bsearchProbes`, a ghost copy of `Model.bsearch` that lists the
indices `mi` (the list-level `bsearch` reads with the totalised `hs[mi]!`, on which "in bounds" cannot be stated);
no theorem links the ghost to `bsearch`, and the probes of the `beg` / `end` scans are not listed.  The statement that
carries weight is `C07_L0_search` below (checked accessor on every probe, `beg - 1` and `end` included). -/
theorem C07_search_in_bounds (hs : List Hdr) (key : Bytes) :
    (hs ≠ [] → ∀ i ∈ Proofs.bsearchProbes hs.toArray key 0 (hs.length - 1) (hs.length + 1), i < hs.length) ∧
    (hs ≠ [] → ∀ f, hs.length + 1 ≤ f → bsearch hs.toArray key 0 (hs.length - 1) f = bsearch hs.toArray key 0 (hs.length - 1) (hs.length + 1)) ∧
    (∀ i n, searchHeader hs key = some (i, n) → 0 < n ∧ i + n ≤ hs.length) := by
  refine ⟨?_, ?_, ?_⟩
  · intro hne i hi
    have hlen : 0 < hs.length := List.length_pos_iff.mpr hne
    have := Proofs.bsearch_probes_in_bounds hs.toArray key 0 (hs.length - 1) (hs.length + 1) (by simp; omega) i hi
    simpa using this
  · intro hne f hf
    have hlen : 0 < hs.length := List.length_pos_iff.mpr hne
    exact Proofs.bsearch_fuel_irrelevant hs.toArray key 0 (hs.length - 1) f (hs.length + 1) (by omega) (by omega)
  · intro i n h
    exact Proofs.searchHeader_in_bounds hs key i n h

/-- Scanners: what `findheader`, `skipline` and `findboundary` return are pieces of the text they were given. -/
theorem C07_scanners_inside :
    (∀ s key val rest : Bytes, findHeader s = .ok key val rest → ∃ gap : Bytes, s = key ++ [58] ++ gap ++ val ++ [10] ++ rest) ∧
    (∀ s : Bytes, ∃ pre, s = pre ++ skipLine s) ∧
    (∀ (bnd s pre rest : Bytes) (term : Bool), findBoundary bnd s = some (pre, term, rest) → s = pre ++ rest ∧ rest ≠ []) :=
  ⟨Proofs.findHeader_inside, Proofs.skipLine_suffix, Proofs.findBoundary_split⟩

/-- The `for (;;)` of `findboundary` that the (structurally recursive) list model stands for, one round: at the end of
the text NULL; a delimiter line at `s` is returned; otherwise the loop goes on with the line `skipline` finds from
where the comparisons stopped (`continueAt`: after `--`, after `--` boundary, or after `--` boundary `--` - not from the
beginning of the line compared), which is a proper suffix of the text - the loop makes progress on every round. -/
theorem C07_findBoundary_round (bnd s : Bytes) :
    (findBoundary bnd s =
      match s, delimiterLine bnd s with
      | [], _ => none
      | _ :: _, some term => some ([], term, s)
      | _ :: _, none =>
        (findBoundary bnd (skipLine (continueAt bnd s))).map fun x => (s.take (nextLineDist bnd s) ++ x.1, x.2.1, x.2.2)) ∧
    (s ≠ [] → (skipLine (continueAt bnd s)).length < s.length) :=
  ⟨Proofs.findBoundaryAux_round bnd s, fun h => Proofs.nextLine_length_lt bnd h⟩

/-- A text with a line that begins inside a compared boundary: boundary `"a\n"`, text `"--a\n--a\n\n"`; the line at
offset 4 is a delimiter line, yet it is never examined. -/
example : delimiterLine [97, 10] [45, 45, 97, 10, 10] = some false ∧
    findBoundary [97, 10] [45, 45, 97, 10, 45, 45, 97, 10, 10] = none := by decide

/-- Multipart parsing terminates by itself and its table is bounded by the text, for every message: hundreds of
parts, nesting beyond the limit (an error, by the depth fuel), unterminated or repeated delimiters. -/
theorem C07_multipart_terminates :
    (∀ (sub : Msg → Option (List Msg)) (bnd text : Bytes) (f1 f2 : Nat), text.length < f1 → text.length < f2 →
      partsLoop sub bnd f1 text = partsLoop sub bnd f2 text) ∧
    (∀ (m : Msg) (ps : List Msg), getAttachments m = some ps → ps.length ≤ m.body.length) ∧
    (∀ m : Msg, parseAttachments 0 m = none) :=
  ⟨Proofs.partsLoop_fuel_irrelevant, Proofs.attachments_bounded, fun _ => rfl⟩

/-!
## Index level (L0)

`Model/L0/*.lean` transcribes the same C functions over `L0.Buf` (an array of bytes with a size): every C read is
`Buf.get?`, every write into a sized object `Buf.set`, both failing with `Fault.oob` outside `[0, size)`; pointers
into a libks vector carry the generation of the vector (`Fault.uaf` after a reallocation).  "No invalid access" is
`= .ok _`.  The hypothesis is the one `buffer_str`/`strdup`/`strndup` establish: the last byte of the object is NUL
(`b.bytes.back? = some 0`); the start index is any index inside the object (`i < b.size`); nothing is assumed about
other NULs.  `b.view i` is what a C reader sees from `i` (the bytes up to the next NUL) - the list the L1 models
take; for a buffer made from a byte string `s` it is `cstr s`, and `s` itself when `s` has no NUL.
-/

open L0 in
/-- The view of the buffer the harness and `message_parse` build from a byte string. -/
theorem C07_L0_view (s : Bytes) :
    (Buf.ofBytes s).bytes.back? = some 0 ∧ (Buf.ofBytes s).view 0 = cstr s ∧
    ((∀ x ∈ s, x ≠ 0) → (Buf.ofBytes s).view 0 = s) :=
  ⟨Buf.ofBytes_terminated s, Buf.view_ofBytes s, Buf.view_ofBytes_of_no_nul⟩

open L0 in
/-- Decoders, index level: for every NUL-terminated buffer and every start index inside it, `base64_decode`
(including its `dec[n] = '\0'` into the `strlen + 1` bytes allocated), `b64_pton` into any target of at least
`targsize` bytes, `quoted_printable_decode` (with its reads at `i + 1`, `i + 2`) and `rfc2047_decode` (with
`strchr`/`strstr`/`strndup` and both payload decoders) make no access outside their objects, and compute exactly
what the list model computes on the view - so every C16 theorem about the list model holds of the index-level code. -/
theorem C07_L0_decoders_refine (b : Buf) (hb : b.bytes.back? = some 0) (i : Nat) (hi : i < b.size) :
    (∃ r, base64Decode b i = .ok r ∧
        r.map (fun p => p.1.slice 0 p.2) = base64DecodeRaw (b.view i) ∧
        r.map (fun p => p.1.view 0) = Model.base64Decode (b.view i) ∧
        ∀ p, r = some p → p.1.get? p.2 = .ok 0) ∧
    (∀ (target : Buf) (n : Nat), n ≤ target.size →
      ∃ r, L0.b64pton b i target n = .ok r ∧ r.map (fun p => p.2.slice 0 p.1) = Model.b64pton (b.view i) n ∧
        ∀ p, r = some p → p.1 ≤ n ∧ p.2.size = target.size) ∧
    quotedPrintableDecode b i = .ok (qpDecodeRaw (b.view i)) ∧
    rfc2047Decode b i = .ok (rfc2047DecodeRaw (b.view i)) := by
  have h : b.HasNul i := Buf.Terminated.hasNul hb hi
  refine ⟨?_, fun target n hn => b64pton_refines b h target n hn, quotedPrintableDecode_refines b h,
    rfc2047Decode_refines b h⟩
  obtain ⟨r, hr, hmap, hnul⟩ := base64Decode_refines b h
  refine ⟨r, hr, hmap, ?_, hnul⟩
  obtain ⟨r', hr', hmap', _⟩ := base64Decode_cstr b h
  rw [hr] at hr'
  cases hr'
  exact hmap'

open L0 in
/-- The quoted-printable loop on any window `[base, base + len)` inside any object (no NUL needed): the guards
`i + 1 == len` make the reads at `i + 1` and `i + 2` stay inside the window. -/
theorem C07_L0_qp_window (dospace : Bool) (b : Buf) (base len : Nat) (h : base + len ≤ b.size) :
    L0.qpLoop dospace b base len 0 [] = .ok (Model.qpLoop dospace (b.slice base (base + len)) []) := by
  simpa using qpLoop_refines dospace b base len h 0 []

open L0 in
/-- Header scanners, index level: `skipseparator`, `findheader` (both in-place NUL writes are inside the buffer and
keep every NUL, in particular the terminator), `unfoldheader` (every write into the `strlen + 1` bytes of the copy,
including the final `dec[i] = '\0'`), and `strcasecmp` as `cmpheaderkey` uses it. -/
theorem C07_L0_header_scanners (b : Buf) (hb : b.bytes.back? = some 0) (i : Nat) (hi : i < b.size) :
    (∃ j, skipSeparator b i = .ok j ∧ i ≤ j ∧ j < b.size ∧ b.view j = Model.skipSeparator (b.view i)) ∧
    (∃ r, findHeader b i = .ok r ∧ r.Post b i) ∧
    (∃ d, unfoldHeader b i = .ok d ∧ d.HasNul 0 ∧ d.size = (b.view i).length + 1) ∧
    (∀ (a : Buf) (j : Nat), a.bytes.back? = some 0 → j < a.size →
      L0.strcasecmp b i a j = .ok (Mdsort.strcasecmp (b.view i) (a.view j))) := by
  have h : b.HasNul i := Buf.Terminated.hasNul hb hi
  refine ⟨?_, ?_, ?_, fun a j ha hj => strcasecmp_spec h (Buf.Terminated.hasNul ha hj)⟩
  · obtain ⟨j, hj, h1, h2, h3⟩ := skipSeparator_refines b h
    exact ⟨j, hj, h1, h2.lt, h3⟩
  · obtain ⟨r, hr, hrel⟩ := l0r_findHeader_refines b h
    exact ⟨r, hr, hrel.post⟩
  · obtain ⟨d, hd, hn, _, hsz⟩ := unfoldHeader_refines b h
    exact ⟨d, hd, hn, hsz⟩

open L0 in
/-- `message_parse_headers`, index level: for every NUL-terminated `me_buf` no access is outside it and no write
into the header vector is outside its capacity or through a stale pointer; afterwards the buffer is still
terminated and `me_body` and every `key`/`val` of the table point at C strings inside it. -/
theorem C07_L0_parse_headers (b : Buf) (hb : b.bytes.back? = some 0) :
    ∃ b' hdrs body, parseHeaders b = .ok (b', hdrs, body) ∧ b'.bytes.back? = some 0 ∧ b'.size = b.size ∧
      b'.HasNul body ∧ HdrsIn b' hdrs.items := by
  obtain ⟨b', hdrs, body, h, ht, hsz, hn, hin, _⟩ := l0r_parseHeaders_refines b hb
  exact ⟨b', hdrs, body, h, ht, hsz, hn, hin⟩

open L0 in
/-- `searchheader`, index level: for every table whose keys point at C strings of `buf` (as
`C07_L0_parse_headers` establishes), every `nmemb` up to the table's length and every key string, the probes
`headers + mi`, `headers + beg - 1`, `headers + end` are inside the table, the comparisons stay inside their
strings, and the slice reported is inside the table and non-empty. -/
theorem C07_L0_search (kb : Buf) (k : Nat) (buf : Buf) (hs : Array Hdr0) (nmemb : Nat)
    (hk : kb.HasNul k) (hin : HdrsIn buf hs) (hn : nmemb ≤ hs.size) :
    ∃ r, L0.searchHeader kb k buf hs nmemb = .ok r ∧ ∀ beg n, r = some (beg, n) → 0 < n ∧ beg + n ≤ nmemb := by
  refine ⟨_, l0r_searchHeader_refines hk hin hn, fun beg n h => ?_⟩
  have := Proofs.searchHeader_in_bounds _ _ _ _ h
  rwa [l0r_table_length hn] at this

open L0 in
/-- MIME scanners, index level: `skipline`, `parseboundary` (the `str += len` after each successful `strncmp`, both
scans, `strndup`) on any C string, and `findboundary` with any C-string boundary (its `s += 2`, `s += len`,
`s += 2` and the final `*s == '\n'` test): no access outside the buffer; the delimiter line reported is inside it. -/
theorem C07_L0_mime_scanners (b : Buf) (hb : b.bytes.back? = some 0) (i : Nat) (hi : i < b.size) :
    (∃ j, skipLine b i = .ok j ∧ i ≤ j ∧ j < b.size ∧ b.view j = Model.skipLine (b.view i)) ∧
    (∃ r, parseBoundary b i = .ok r ∧ ∀ bnd, r = .ok bnd → bnd.bytes.back? = some 0) ∧
    (∀ bnd : Buf, bnd.bytes.back? = some 0 →
      ∃ r, findBoundary bnd b i = .ok r ∧ ∀ p t, r = some (p, t) → i ≤ p ∧ p < b.size) := by
  have h : b.HasNul i := Buf.Terminated.hasNul hb hi
  refine ⟨⟨_, l0r_skipLine_spec h, Nat.le_add_right _ _, (l0r_skipLine_view h).1.lt, (l0r_skipLine_view h).2⟩, ?_, ?_⟩
  · obtain ⟨r, hr, hrel⟩ := l0r_parseBoundary_refines b h
    refine ⟨r, hr, fun bnd hb => ?_⟩
    subst hb
    match Model.parseBoundary (b.view i), hrel with
    | .ok bb, ⟨hbb, _⟩ => exact hbb ▸ Buf.ofBytes_terminated bb
  · intro bnd hbnd
    have hr := l0r_findBoundary_refines bnd b (Buf.Terminated.hasNul0 hbnd) h
    refine ⟨_, hr, fun p t hpt => ?_⟩
    rw [hpt] at hr
    obtain ⟨hle, c, hc, _⟩ := findBoundary_ge hr
    exact ⟨hle, Buf.lt_of_get? hc⟩

open L0 in
/-- libks vector: `VECTOR_CALLOC` on any vector (any length, capacity, generation) writes its zeroed slot inside
the capacity `vector_reserve1` left, and the pointer it returns is valid for the vector it returns. -/
theorem C07_L0_vector_calloc {α : Type} (v : Vec α) (z : α) :
    ∃ v' p, v.calloc z = .ok (v', p) ∧ v'.items = v.items.push z ∧ p.gen = v'.gen ∧ p.idx = v.items.size :=
  Vec.calloc_ok v z

open L0 in
/-- `parseattachments`, index level, at every depth: for every well-formed top-level message, every attachment
table whose elements are well formed (any length, capacity and generation - in particular tables that are
reallocated while the loop runs) and every `msg` that is the top-level message or a pointer taken in the table's
current generation: no access outside a `me_buf`, no write outside the table's capacity, and no use of `msg` or
`attach` after `VECTOR_CALLOC` moved the table (`Fault.uaf` is not returned). -/
theorem C07_L0_no_stale_pointer (root : Att) (hr : AttOk root) (fuel : Nat) (v : Vec Att) (msg : MsgRef)
    (hv : VecOk v) (hm : RefOk v msg) :
    ∃ v' e, parseAttachments fuel root v msg = .ok (v', e) ∧ VecOk v' := by
  obtain ⟨m, hd, _⟩ := derefMsg_ok root hr v hv msg hm
  obtain ⟨v', e, h, hv', _⟩ := l0r_parseAttachments_refines root hr fuel v msg m hv hm hd
  exact ⟨v', e, h, hv'⟩

open L0 in
/-- A whole message: `message_parse_headers` (with `VECTOR_SORT`) followed by `message_get_attachments`
(`message_get_header1`, `decodeheader`, `parseboundary`, `findboundary`, `strndup`, recursive
`parseattachments`) returns without a fault for every NUL-terminated buffer - any number of parts, any nesting,
unterminated or repeated delimiters, NUL bytes anywhere. -/
theorem C07_L0_message (b : Buf) (hb : b.bytes.back? = some 0) (path : Bytes) :
    ∃ b' hs body, messageParseHeaders b = .ok (b', hs, body) ∧
      ∃ r, getAttachments { buf := b', headers := hs, body := body, path := path } = .ok r := by
  obtain ⟨b', hs, body, r, h1, _, h2, _⟩ := l0r_message_refines b hb path
  exact ⟨b', hs, body, h1, r, h2⟩

open L0 in
/-- util.c `nspaces` and `pathslice` (every write into a destination of at least `bufsiz` bytes, including the
final `*bp = '\0'`), macro.c `ismacro`, match.c `isbackref` (`s[1]` only after `s[0]`, both `strtoul` calls). -/
theorem C07_L0_util (b : Buf) (hb : b.bytes.back? = some 0) (i : Nat) (hi : i < b.size) :
    L0.nspaces b i = .ok (Mdsort.nspaces (b.view i)) ∧
    (∃ r, L0.isMacro b i = .ok r) ∧
    (∃ r, L0.isBackref b i = .ok r) ∧
    (∀ (buf : Buf) (bufsiz : Nat) (beg end_ : Int), bufsiz ≤ buf.size → ∃ r, L0.pathslice b buf bufsiz beg end_ = .ok r) := by
  have h : b.HasNul i := Buf.Terminated.hasNul hb hi
  refine ⟨nspaces_spec h, ⟨_, l0r_isMacro_refines b h⟩, ⟨_, l0r_isBackref_refines b h⟩, fun buf bufsiz beg end_ hle => ?_⟩
  obtain ⟨r, hr, _⟩ := l0r_pathslice_refines b (Buf.Terminated.hasNul0 hb) buf bufsiz hle beg end_
  exact ⟨r, hr⟩

open L0 in
/-- `unfoldheader` refines the list model as well: the C string left in the `strlen + 1` bytes of the copy is
`Model.unfoldHeader` of the view (so C10's statements about unfolding hold of the index-level code). -/
theorem C07_L0_unfold_refines (b : Buf) (hb : b.bytes.back? = some 0) (i : Nat) (hi : i < b.size) :
    ∃ d, unfoldHeader b i = .ok d ∧ d.HasNul 0 ∧ d.view 0 = Model.unfoldHeader (b.view i) := by
  obtain ⟨d, hd, hn, hv, _⟩ := unfoldHeader_refines b (Buf.Terminated.hasNul hb hi)
  exact ⟨d, hd, hn, hv⟩

open L0 in
/-- The fault that `C07_L0_no_stale_pointer` excludes is expressible: whenever `VECTOR_CALLOC` has to reallocate
(`vc_len + 1 < vc_siz` fails: lengths 0, 15, 16, 31, 32, ...), dereferencing any pointer taken before it is
`Fault.uaf`.  This is the defect /repo 88a7ae6 repaired in `parseattachments` (a read of `msg->me_path` inside the
loop, finding F7); the loop transcribed in `Model/L0/Mime.lean` is the repaired one, which reads `msg` before the loop
only, so `L0.partsLoop` contains no such access and this theorem is about the vector alone. -/
theorem C07_L0_stale_pointer_is_a_fault {α : Type} (v : Vec α) (z : α) (p : Ptr) (hp : p.gen = v.gen)
    (hfull : ¬ v.items.size + 1 < v.siz) :
    ∃ v' q, v.calloc z = .ok (v', q) ∧ v'.deref p = .error .uaf :=
  Vec.deref_stale v z p hp hfull

/-! Non-vacuity: concrete inputs satisfying the hypotheses. -/

/-- A full table of 16 elements and a pointer to its first element. -/
example : ∃ (v : L0.Vec Nat) (p : L0.Ptr), p.gen = v.gen ∧ ¬ v.items.size + 1 < v.siz ∧ p.idx < v.items.size :=
  ⟨{ items := Array.replicate 16 0, siz := 16, gen := 3 }, { gen := 3, idx := 0 }, rfl, by decide, by decide⟩

/-- A top-level message `"\n"` (no headers), a table holding one such part, and a valid pointer to it. -/
example : ∃ (root : L0.Att) (v : L0.Vec L0.Att) (msg : L0.MsgRef), L0.AttOk root ∧ L0.VecOk v ∧ L0.RefOk v msg ∧
    v.items.size = 1 := by
  have hok : L0.AttOk { buf := ⟨#[10, 0]⟩, headers := #[], body := 0, path := [] } :=
    ⟨⟨1, by decide, rfl⟩, by intro h hh; simp at hh⟩
  refine ⟨{ buf := ⟨#[10, 0]⟩, headers := #[], body := 0, path := [] },
    { items := #[{ buf := ⟨#[10, 0]⟩, headers := #[], body := 0, path := [] }], siz := 16, gen := 1 },
    .att { gen := 1, idx := 0 }, hok, ?_, ⟨rfl, by decide⟩, rfl⟩
  intro a ha
  simp only [Array.mem_def, List.mem_cons, List.not_mem_nil, or_false] at ha
  subst ha; exact hok

/-- `"=?x?B?Zm9v?= =41"` as `buffer_str` hands it out, and an index inside it. -/
example : (L0.Buf.ofBytes [61, 63, 120, 63, 66, 63, 90, 109, 57, 118, 63, 61, 32, 61, 52, 49]).bytes.back? = some 0 ∧
    7 < (L0.Buf.ofBytes [61, 63, 120, 63, 66, 63, 90, 109, 57, 118, 63, 61, 32, 61, 52, 49]).size := by decide

/-- The window `"=4=41"` inside `"ab=4=41"`. -/
example : (2 : Nat) + 5 ≤ (L0.Buf.ofBytes [97, 98, 61, 52, 61, 52, 49]).size := by decide

/-- A table of two headers inside `"To\0a\0Cc\0b\0"` and the key string `"cc"`. -/
example : ∃ (kb buf : L0.Buf) (hs : Array L0.Hdr0), kb.HasNul 0 ∧ L0.HdrsIn buf hs ∧ 2 ≤ hs.size := by
  refine ⟨⟨#[99, 99, 0]⟩, ⟨#[84, 111, 0, 97, 0, 67, 99, 0, 98, 0]⟩,
    #[{ id := 2, key := 5, val := 8 }, { id := 1, key := 0, val := 3 }], ⟨2, by decide, rfl⟩, ?_, by decide⟩
  intro h hh
  simp only [Array.mem_def, List.mem_cons, List.not_mem_nil, or_false] at hh
  rcases hh with rfl | rfl
  · exact ⟨⟨7, by decide, rfl⟩, ⟨9, by decide, rfl⟩⟩
  · exact ⟨⟨2, by decide, rfl⟩, ⟨4, by decide, rfl⟩⟩

/-!
## Index level (L0): functional refinement

Every L0 function computes what the list model computes on the view, so the functional theorems about the list
model (C08, C10, C11, C12, C16) hold of the index-level code.  Vocabulary (Proofs/L0Refine*.lean; `l0r_lineLen` in
Proofs/L0Mime.lean): `l0r_readHdr b h` is the L1 header a table entry stands for (`key`/`val` read as C strings of
`me_buf`); `l0r_table buf hs nmemb` the L1 table of the first `nmemb` entries; `l0r_readAtt a` the L1 message a
`struct message` stands for; `l0r_shift s (before, term, rest) = (s + |before|, term)`; `l0r_lineLen` the length of the
first line including its newline.
-/

open L0 in
/-- `findheader`: the same outcome as the list model; the key slice is `[i, colon)`, the value slice ends at the
newline that ends the value, the buffer handed back is `b` after the two in-place NUL writes, and read as C strings
(and as slices) key and value are the list model's key and value, the text after the value its rest
(`l0r_FindHdrRel`). -/
theorem C07_L0_refines_findHeader (b : Buf) (hb : b.bytes.back? = some 0) (i : Nat) (hi : i < b.size) :
    ∃ r, findHeader b i = .ok r ∧ l0r_FindHdrRel b i r (Model.findHeader (b.view i)) :=
  l0r_findHeader_refines b (Buf.Terminated.hasNul hb hi)

open L0 in
/-- `message_parse_headers`: before `VECTOR_SORT` the table read back is the list model's loop result in file order
and `me_body` points at the list model's body; after `VECTOR_SORT` the table read back and the body are
`Model.parseHeaders` of the view (whose table is `sortByKey` of the former) - for a buffer made from a file,
`Model.parseMessage` of the file. -/
theorem C07_L0_refines_parse_headers (b : Buf) (hb : b.bytes.back? = some 0) :
    (∃ b' hdrs body, parseHeaders b = .ok (b', hdrs, body) ∧
      hdrs.items.toList.map (l0r_readHdr b') = (Model.parseLoop (Model.skipSeparator (b.view 0)) 0 []).1 ∧
      b'.view body = (Model.parseHeaders (b.view 0)).body ∧
      (Model.parseHeaders (b.view 0)).headers = Model.sortByKey (hdrs.items.toList.map (l0r_readHdr b'))) ∧
    (∃ b' hs body, messageParseHeaders b = .ok (b', hs, body) ∧
      Model.parseHeaders (b.view 0) = { headers := hs.toList.map (l0r_readHdr b'), body := b'.view body }) := by
  refine ⟨?_, ?_⟩
  · obtain ⟨b', hdrs, body, h, _, _, _, _, h1, h2⟩ := l0r_parseHeaders_refines b hb
    exact ⟨b', hdrs, body, h, h1, h2, by rw [h1]; rfl⟩
  · obtain ⟨b', hs, body, h, _, _, h1⟩ := l0r_messageParseHeaders_refines b hb
    exact ⟨b', hs, body, h, h1⟩

open L0 in
/-- `message_parse` on the bytes of a file: what the index-level code leaves in the header table and `me_body` is
`Model.parseMessage` of the file. -/
theorem C07_L0_refines_parse_message (file : Bytes) :
    ∃ b' hs body, messageParseHeaders (Buf.ofBytes file) = .ok (b', hs, body) ∧
      Model.parseMessage file = { headers := hs.toList.map (l0r_readHdr b'), body := b'.view body } := by
  obtain ⟨b', hs, body, h, _, _, h1⟩ := l0r_messageParseHeaders_refines _ (Buf.ofBytes_terminated file)
  rw [Buf.view_ofBytes] at h1
  exact ⟨b', hs, body, h, h1⟩

open L0 in
/-- `searchheader`: `(beg, nfound)` is the list model's result on the table read back (so `C10_binary_search`
applies to the index-level code). -/
theorem C07_L0_refines_search (kb : Buf) (k : Nat) (buf : Buf) (hs : Array Hdr0) (nmemb : Nat)
    (hk : kb.HasNul k) (hin : HdrsIn buf hs) (hn : nmemb ≤ hs.size) :
    L0.searchHeader kb k buf hs nmemb = .ok (Model.searchHeader (l0r_table buf hs nmemb) (kb.view k)) :=
  l0r_searchHeader_refines hk hin hn

open L0 in
/-- `skipline` (the exact index), `parseboundary` (the same outcome; the `strndup`ed boundary is the C string of the
list model's boundary), and `findboundary` for EVERY boundary (a boundary that contains a newline included - the list
model resumes, like message.c, after the text compared): the line it returns is at `i + |before|`, with the list
model's terminator flag, the text before it is `before` and the view at it `rest`. -/
theorem C07_L0_refines_mime_scanners (b : Buf) (hb : b.bytes.back? = some 0) (i : Nat) (hi : i < b.size) :
    (skipLine b i = .ok (i + l0r_lineLen (b.view i)) ∧
      b.view (i + l0r_lineLen (b.view i)) = Model.skipLine (b.view i)) ∧
    (∃ r, parseBoundary b i = .ok r ∧ l0r_BoundaryRel r (Model.parseBoundary (b.view i))) ∧
    (∀ bnd : Buf, bnd.bytes.back? = some 0 →
      findBoundary bnd b i = .ok ((Model.findBoundary (bnd.view 0) (b.view i)).map (l0r_shift i)) ∧
      ∀ before term rest, Model.findBoundary (bnd.view 0) (b.view i) = some (before, term, rest) →
        b.view (i + before.length) = rest ∧ b.slice i (i + before.length) = before) := by
  have h : b.HasNul i := Buf.Terminated.hasNul hb hi
  refine ⟨⟨l0r_skipLine_spec h, (l0r_skipLine_view h).2⟩, l0r_parseBoundary_refines b h, ?_⟩
  · intro bnd hbnd
    refine ⟨l0r_findBoundary_refines bnd b (Buf.Terminated.hasNul0 hbnd) h, ?_⟩
    intro before term rest hf
    obtain ⟨_, h2, h3, _⟩ := l0r_findBoundary_pos h hf
    exact ⟨h2, h3⟩

open L0 in
/-- A boundary with a newline, `"a\n"`, and the text `"--a\n--a\n\n"`: the index-level transcription returns NULL, and so
does the list model.  (After comparing `"--a\n--"` from offset 0 the loop resumes with `skipline` from offset 6 and never
examines the line at offset 4, which IS a delimiter line: the `example` after `C07_findBoundary_round` above.) -/
theorem C07_L0_refines_findBoundary_newline_example :
    10 ∈ l0r_witBnd.view 0 ∧
    findBoundary l0r_witBnd l0r_witText 0 = .ok none ∧
    Model.findBoundary (l0r_witBnd.view 0) (l0r_witText.view 0) = none :=
  ⟨by decide +kernel, l0r_witness_L0, l0r_witness_L1⟩

open L0 in
/-- `message_get_header1`: the C string returned is the list model's value. -/
theorem C07_L0_refines_getHeader1 (m : Att) (hm : AttOk m) (name : Bytes) (hname : ∀ x ∈ name, x ≠ 0) :
    ∃ r, getHeader1 m name = .ok r ∧ r.map (fun t => t.view 0) = Model.getHeader1 (l0r_readAtt m) name := by
  obtain ⟨r, h1, _, h2⟩ := l0r_getHeader1_refines m hm.2 name hname
  exact ⟨r, h1, h2⟩

open L0 in
/-- `parseattachments(msg, parent, depth)` at every depth (`fuel = 5 - depth`), for every well-formed top-level
message, every attachment table and every valid `msg`: the error return is the list model's `none`; otherwise the
elements appended to the parent's table, read back, are the list model's parts in the same (pre-)order
(`l0r_AttRel`).  No hypothesis on the boundaries (a newline in a boundary included). -/
theorem C07_L0_refines_parseAttachments (root : Att) (hr : AttOk root) (fuel : Nat) (v : Vec Att) (msg : MsgRef)
    (m : Att) (hv : VecOk v) (hm : RefOk v msg) (hd : derefMsg root v msg = .ok m) :
    ∃ v' e, parseAttachments fuel root v msg = .ok (v', e) ∧ VecOk v' ∧
      l0r_AttRel v v' e (Model.parseAttachments fuel (l0r_readAtt m)) :=
  l0r_parseAttachments_refines root hr fuel v msg m hv hm hd

open L0 in
/-- `message_get_attachments`: NULL exactly when the list model says `none`, otherwise the attachment vector read
back is `Model.getAttachments` - so C11 (parts, bodies, attachment conditions) holds of the index-level code. -/
theorem C07_L0_refines_attachments (root : Att) (hr : AttOk root) :
    ∃ r, getAttachments root = .ok r ∧
      r.map (fun a => a.toList.map l0r_readAtt) = Model.getAttachments (l0r_readAtt root) :=
  l0r_getAttachments_refines root hr

open L0 in
/-- A whole message from its NUL-terminated buffer: `message_parse_headers` leaves the list model's message and
`message_get_attachments` returns the list model's attachments. -/
theorem C07_L0_refines_message (b : Buf) (hb : b.bytes.back? = some 0) (path : Bytes) :
    ∃ b' hs body r, messageParseHeaders b = .ok (b', hs, body) ∧
      l0r_readAtt { buf := b', headers := hs, body := body, path := path } = Model.parseHeaders (b.view 0) ∧
      getAttachments { buf := b', headers := hs, body := body, path := path } = .ok r ∧
      r.map (fun a => a.toList.map l0r_readAtt) = Model.getAttachments (Model.parseHeaders (b.view 0)) :=
  l0r_message_refines b hb path

open L0 in
/-- The same for EVERY file (`message_parse` of its bytes, then `message_get_attachments`), without hypotheses. -/
theorem C07_L0_refines_file (file : Bytes) :
    ∃ b' hs body r, messageParseHeaders (Buf.ofBytes file) = .ok (b', hs, body) ∧
      getAttachments { buf := b', headers := hs, body := body, path := [] } = .ok r ∧
      r.map (fun a => a.toList.map l0r_readAtt) = Model.getAttachments (Model.parseMessage file) :=
  l0r_file_refines file

open L0 in
/-- A message whose boundary contains a newline: in the file
`Content-Type: multipart/mixed; boundary="=?UTF-8?Q?a=0A?="\n\n--a\n--a\n\nX: y\n\nfound\n--a\n--\n` (boundary `"a\n"`)
the index-level code, like message.c (checked on the real binary), finds no part and no error - and so does the list
model.  (The line `--a\n` at offset 4 of the body begins inside the text the first round compared and is never examined;
no theorem states what a reading that examines every line would find.) -/
theorem C07_L0_refines_message_newline_example :
    (Model.getHeader1 (Model.parseMessage l0r_witMsg) Model.contentTypeName).map Model.parseBoundary =
      some (.ok [97, 10]) ∧
    l0r_partsCount l0r_witMsg = some 0 ∧
    Model.getAttachments (Model.parseMessage l0r_witMsg) = some [] :=
  ⟨l0r_witMsg_eval.1, l0r_witMsg_L0, l0r_witMsg_eval.2⟩

open L0 in
/-- `ismacro` (length and `strndup`ed name), `isbackref` (length and both indices, through both `strtoul` calls with
the `INT_MAX` test) and `pathslice` (the C string left in a destination of at least `bufsiz` bytes) compute what the
list models compute on the view. -/
theorem C07_L0_refines_util (b : Buf) (hb : b.bytes.back? = some 0) (i : Nat) (hi : i < b.size) :
    L0.isMacro b i = .ok (l0r_macroAbs (Model.isMacro (b.view i))) ∧
    L0.isBackref b i = .ok (l0r_backrefAbs (Model.isBackref (b.view i))) ∧
    (∀ (buf : Buf) (bufsiz : Nat) (beg end_ : Int), bufsiz ≤ buf.size →
      ∃ r, L0.pathslice b buf bufsiz beg end_ = .ok r ∧
        r.map (fun d => d.view 0) = Model.pathslice (b.view 0) bufsiz beg end_) := by
  have h : b.HasNul i := Buf.Terminated.hasNul hb hi
  exact ⟨l0r_isMacro_refines b h, l0r_isBackref_refines b h,
    fun buf bufsiz beg end_ hle => l0r_pathslice_refines b (Buf.Terminated.hasNul0 hb) buf bufsiz hle beg end_⟩

/-!
## The growable buffer (libks/buffer.c) at index level

`Model/L0/Buffer.lean`: the buffer is the object `bf_ptr` points to (bounds-checked), `bf_siz` and `bf_len`.  Every
string mdsort builds piecewise (interpolation, labels, macro expansion, decoders, the message read from a
descriptor) is built by these operations; the list-level models take "the bytes appended so far" for granted, which
is `C07_L0_buffer_contents` below.  Allocation failure and `size_t` overflow are not modelled.
-/

open L0 in
/-- No sequence of `buffer_puts` / `buffer_putc` / `buffer_printf` on a buffer obtained from `buffer_alloc` (any
size hint, 0 included) ever writes outside the object `bf_ptr` points to: the run returns without `Fault.oob`, and
afterwards the object still has exactly `bf_siz` bytes of which `bf_len <= bf_siz` are in use.  (Induction over the
operation list with that invariant; `buffer_reserve`'s doubling from 16 is what makes each write fit.) -/
theorem C07_L0_buffer_in_bounds (sizhint : Nat) (ops : List BufOp) :
    ∃ bf rcs, (LBuf.alloc sizhint).run ops = .ok (bf, rcs) ∧ bf.store.size = bf.cap ∧ bf.len ≤ bf.cap ∧ sizhint ≤ bf.cap := by
  obtain ⟨hwf, _, hcap, _⟩ := LBuf.alloc_wf sizhint
  obtain ⟨bf, hr, hwf', _, hc⟩ := LBuf.run_spec ops (LBuf.alloc sizhint) hwf
  exact ⟨bf, _, hr, hwf'.size, hwf'.le, by omega⟩

open L0 in
/-- Refinement to list append: after any sequence of operations every return value is 0 and the bytes in use are the
concatenation of the pieces, in order - a piece is never dropped, truncated or written twice, whatever its length
and wherever it ends relative to the capacity (64, 128, 256, ... included). -/
theorem C07_L0_buffer_contents (sizhint : Nat) (ops : List BufOp) :
    ∃ bf, (LBuf.alloc sizhint).run ops = .ok (bf, List.replicate ops.length 0) ∧
      bf.contents = ops.flatMap BufOp.piece ∧ bf.getLen = (ops.flatMap BufOp.piece).length := by
  obtain ⟨hwf, _, _, hc0⟩ := LBuf.alloc_wf sizhint
  obtain ⟨bf, hr, hwf', hc, _⟩ := LBuf.run_spec ops (LBuf.alloc sizhint) hwf
  rw [hc0, List.nil_append] at hc
  refine ⟨bf, hr, hc, ?_⟩
  have := congrArg List.length hc
  unfold LBuf.contents at this
  simp only [List.length_take, Array.length_toList] at this
  have h1 := hwf'.size
  have h2 := hwf'.le
  unfold Buf.size at h1
  unfold LBuf.getLen
  omega

open L0 in
/-- `buffer_str` after any sequence of operations (what `message_parse`, `interpolate` - by `buffer_putc(bf, 0)` and
`buffer_release` - and the decoders hand out): no access out of bounds; the object returned contains a NUL, and a C
reader sees the concatenation of the pieces up to its first NUL - the premise (`HasNul`, `view`) of every other
`C07_L0_*` theorem. -/
theorem C07_L0_buffer_str (sizhint : Nat) (ops : List BufOp) :
    ∃ bf rcs b, (LBuf.alloc sizhint).run ops = .ok (bf, rcs) ∧ bf.str = .ok (b, LBuf.empty) ∧
      b.view 0 = cstr (ops.flatMap BufOp.piece) ∧ b.HasNul 0 := by
  obtain ⟨hwf, _, _, hc0⟩ := LBuf.alloc_wf sizhint
  obtain ⟨bf, hr, hwf', hc, _⟩ := LBuf.run_spec ops (LBuf.alloc sizhint) hwf
  rw [hc0, List.nil_append] at hc
  obtain ⟨b, hs, hv, hn⟩ := LBuf.str_spec bf hwf'
  exact ⟨bf, _, b, hr, hs, by rw [hv, hc], hn⟩

open L0 in
/-- `buffer_read_fd` (8192 bytes, `read` into the free space, `buffer_reserve(bf, bf_siz / 2)` after every read):
for every content and every pattern of short reads the kernel is never handed space outside the object, there is
always room for at least one byte when `read` is called (so a `read` result of 0 means end of file), and the buffer
ends up holding exactly the bytes delivered - also at 8192, 12288, 16384, ... bytes. -/
theorem C07_L0_buffer_read_fd (data : Bytes) (short : List Nat) :
    ∃ bf, LBuf.readFd data short = .ok bf ∧ bf.store.size = bf.cap ∧ bf.len ≤ bf.cap ∧ bf.contents = data := by
  obtain ⟨bf, hr, hwf, hc⟩ := LBuf.readFd_spec data short
  exact ⟨bf, hr, hwf.size, hwf.le, hc⟩

open L0 in
/-- Why `buffer_vprintf` reserves `n + 1` bytes for `n` formatted bytes.  Any reservation of at least one byte more
than the string keeps both theorems above (first clause: for the guarded and for the unguarded `vsnprintf`).  With
exactly `n` reserved, for EVERY buffer and every non-empty string that ends exactly at the capacity: the code as it
stands (`vsnprintf` told the space really left) returns 1 and appends NOTHING - the contents theorem is false, the
piece is lost, and no caller in mdsort looks at the return value; and a `vsnprintf` told `n + 1` writes its NUL at
index `bf_siz`, outside the object - the in-bounds theorem is false. -/
theorem C07_L0_buffer_needs_room_for_nul :
    (∀ (extra : Nat) (guarded : Bool) (sizhint : Nat) (ops : List BufOp), 1 ≤ extra →
      ∃ bf, (LBuf.alloc sizhint).runWith extra guarded ops = .ok (bf, List.replicate ops.length 0) ∧
        bf.store.size = bf.cap ∧ bf.len ≤ bf.cap ∧ bf.contents = ops.flatMap BufOp.piece) ∧
    (∀ (bf : LBuf) (s : Bytes), bf.store.size = bf.cap → bf.len ≤ bf.cap → s ≠ [] → bf.len + s.length = bf.cap →
      ∃ bf', bf.vprintfWith 0 true s = .ok (1, bf') ∧ bf'.contents = bf.contents ∧ bf'.len = bf.len) ∧
    (∀ (bf : LBuf) (s : Bytes), bf.store.size = bf.cap → bf.len ≤ bf.cap → bf.len + s.length = bf.cap →
      bf.vprintfWith 0 false s = .error (.oob bf.cap)) := by
  refine ⟨?_, ?_, ?_⟩
  · intro extra guarded sizhint ops hx
    obtain ⟨hwf, _, _, hc0⟩ := LBuf.alloc_wf sizhint
    obtain ⟨bf, hr, hwf', hc, _⟩ := LBuf.runWith_spec extra guarded hx ops (LBuf.alloc sizhint) hwf
    rw [hc0, List.nil_append] at hc
    exact ⟨bf, hr, hwf'.size, hwf'.le, hc⟩
  · intro bf s h1 h2 hs hend
    exact LBuf.vprintf_without_room_drops bf s ⟨h1, h2⟩ hs hend
  · intro bf s h1 h2 hend
    exact LBuf.vprintf_without_room_unguarded_faults bf s ⟨h1, h2⟩ hend

/-! The data of the witness below: `buffer_alloc(16)`, `buffer_puts` of 6 bytes, `buffer_printf` of a 10-byte string. -/

def bufWitnessPre : Bytes := [97, 98, 99, 100, 101, 102]
def bufWitnessPiece : Bytes := [48, 49, 50, 51, 52, 53, 54, 55, 56, 57]
/-- What a run left: contents, capacity and return values, or the fault. -/
def bufOutcome (r : L0.M (L0.LBuf × List Nat)) : Except L0.Fault (Bytes × Nat × List Nat) :=
  match r with
  | .ok (bf, rcs) => .ok (bf.contents, bf.cap, rcs)
  | .error e => .error e

instance : DecidableEq (Except L0.Fault (Bytes × Nat × List Nat)) := fun a b =>
  match a, b with
  | .ok x, .ok y => if h : x = y then isTrue (by rw [h]) else isFalse (fun e => h (Except.ok.inj e))
  | .error x, .error y => if h : x = y then isTrue (by rw [h]) else isFalse (fun e => h (Except.error.inj e))
  | .ok _, .error _ => isFalse (fun e => by cases e)
  | .error _, .ok _ => isFalse (fun e => by cases e)

/-- The capacity boundary on a concrete run, by evaluation: 6 + 10 = 16 = `bf_siz`.  As the code stands: all 16
bytes in the buffer (which grew to 32).  Reserving `n` only: return value 1 and the 10 bytes are missing (guarded),
or a write at index 16 of a 16-byte object (unguarded).  One byte less or one more and the variants agree. -/
theorem C07_L0_buffer_needs_room_for_nul_witness :
    bufOutcome ((L0.LBuf.alloc 16).run [.puts bufWitnessPre, .printf bufWitnessPiece]) =
      .ok (bufWitnessPre ++ bufWitnessPiece, 32, [0, 0]) ∧
    bufOutcome ((L0.LBuf.alloc 16).runWith 0 true [.puts bufWitnessPre, .printf bufWitnessPiece]) =
      .ok (bufWitnessPre, 16, [0, 1]) ∧
    bufOutcome ((L0.LBuf.alloc 16).runWith 0 false [.puts bufWitnessPre, .printf bufWitnessPiece]) = .error (.oob 16) ∧
    bufOutcome ((L0.LBuf.alloc 16).runWith 0 true [.puts bufWitnessPre, .printf (bufWitnessPiece.take 9)]) =
      .ok (bufWitnessPre ++ bufWitnessPiece.take 9, 16, [0, 0]) ∧
    bufOutcome ((L0.LBuf.alloc 16).runWith 0 true [.puts bufWitnessPre, .printf (bufWitnessPiece ++ [33])]) =
      .ok (bufWitnessPre ++ bufWitnessPiece ++ [33], 32, [0, 0]) := by
  decide +kernel

/-- Non-vacuity of the second and third clause of `C07_L0_buffer_needs_room_for_nul`: the buffer of the witness
after its `buffer_puts` satisfies their hypotheses with the 10-byte string. -/
example : (((L0.LBuf.alloc 16).puts bufWitnessPre).toOption.map fun r =>
    (r.1, decide (r.2.store.size = r.2.cap), decide (r.2.len ≤ r.2.cap), decide (r.2.len + bufWitnessPiece.length = r.2.cap))) =
    some (0, true, true, true) := by decide +kernel

/-! Non-vacuity of the refinement theorems. -/

/-- `"To: a\n b\nCc: c\n\nx"` as `buffer_str` hands it out, and an index inside it (`findheader`, the MIME scanners,
`ismacro`/`isbackref`/`pathslice`). -/
example : (L0.Buf.ofBytes (ofString "To: a\n b\nCc: c\n\nx")).bytes.back? = some 0 ∧
    0 < (L0.Buf.ofBytes (ofString "To: a\n b\nCc: c\n\nx")).size := by decide +kernel

/-- A boundary `"a\n"` as `strndup` hands it out: terminated (and with a newline). -/
example : (L0.Buf.ofBytes [97, 10]).bytes.back? = some 0 ∧ 10 ∈ (L0.Buf.ofBytes [97, 10]).view 0 := by decide +kernel

/-- A header name without NUL. -/
example : ∀ x ∈ L0.contentTypeName, x ≠ 0 := by decide

/-- The message `Content-Type: multipart/mixed; boundary="b"` with body `--b\nA: 1\n\nx\n--b--\n` after
`message_parse_headers` (NULs at offsets 12 and 43, one table entry, `me_body` at offset 45): well formed, and it has
one part. -/
def l0rExampleRoot : L0.Att :=
  { buf := ⟨#[67, 111, 110, 116, 101, 110, 116, 45, 84, 121, 112, 101, 0, 32,
      109, 117, 108, 116, 105, 112, 97, 114, 116, 47, 109, 105, 120, 101, 100, 59, 32,
      98, 111, 117, 110, 100, 97, 114, 121, 61, 34, 98, 34, 0, 10,
      45, 45, 98, 10, 65, 58, 32, 49, 10, 10, 120, 10, 45, 45, 98, 45, 45, 10, 0]⟩,
    headers := #[{ id := 1, key := 0, val := 14 }], body := 45, path := [] }

example : L0.AttOk l0rExampleRoot ∧
    Model.getAttachments (L0.l0r_readAtt l0rExampleRoot) =
      some [{ headers := [{ id := 1, key := [65], val := [49] }], body := [120, 10] }] := by
  refine ⟨⟨⟨63, by decide, rfl⟩, ?_⟩, by decide +kernel⟩
  intro h hh
  simp only [l0rExampleRoot, Array.mem_def, List.mem_cons, List.not_mem_nil, or_false] at hh
  subst hh
  exact ⟨⟨12, by decide, rfl⟩, ⟨43, by decide, rfl⟩⟩

/-- The same message as a file: terminated buffer. -/
example : (L0.Buf.ofBytes (ofString "Content-Type: multipart/mixed; boundary=\"b\"\n\n--b\nA: 1\n\nx\n--b--\n")).bytes.back? = some 0 := by
  decide_lit

/-- The top-level message, an empty table and `msg = root` for `C07_L0_refines_parseAttachments`. -/
example : ∃ (v : L0.Vec L0.Att) (msg : L0.MsgRef) (m : L0.Att), L0.VecOk v ∧ L0.RefOk v msg ∧
    L0.derefMsg l0rExampleRoot v msg = .ok m :=
  ⟨L0.Vec.init, .root, l0rExampleRoot, by intro a ha; simp [L0.Vec.init] at ha, trivial, rfl⟩

end Mdsort.Props
