import Mdsort.Proofs.World
import Mdsort.Proofs.WorldSingleReport
import Mdsort.Proofs.WorldSingleEx
import Mdsort.Proofs.WorldWholeEx
import Mdsort.Proofs.WorldWholeExit
import Mdsort.Proofs.WorldExitTop
import Mdsort.Proofs.WorldExitEx
import Mdsort.Proofs.WorldDryF21
import Mdsort.Proofs.WorldLinWalk
import Mdsort.Proofs.WorldLinTop
import Mdsort.Proofs.WorldLinEx
import Mdsort.Proofs.WorldFuelEx

/-!
# C01 - no message is lost or duplicated when an I/O operation fails

The file-system code of mdsort is transcribed as programs over libc calls
(Model/Scripts.lean, Model/Main.lean); `runPlan` executes them on an abstract file system
under an arbitrary fault plan (any number of faults, any errno, short transfers).  The real
binary is tied to these programs call by call on every run of the check (`Model.conform`).
-/

namespace Mdsort.Props
open Mdsort Mdsort.Model

/-- Loss-freedom under EVERY fault plan (any number of faults): whatever fails while an action
list (move on one device or across devices, flag, flags, label, add-header, exec, in any order
and number) is executed, after every single call some directory entry is bound to a complete
version of the message - the bytes it had, or the completely written new version.

What is proved, exactly: `Proofs.Intact w' cs` is `∃ d n fid f, w'.lookup d n = some fid ∧ w'.file fid = some f ∧
f.data ∈ cs` - SOME entry of SOME directory holds the bytes.  The entry is not tied to the message's own lineage: in a
world that holds another file with the same bytes (a byte-identical duplicate) the statement is satisfied by that file
whatever happens to the message.  The proof does track one entry (`World.GoodAt`: a file that existed at the start or that
this run wrote completely), but the statement exported here does not say which; the statements that follow the message
itself are `C01_no_loss_exact` (by lineage, `Model/Lineage.lean`, every plan) and, through the ghost location `ms.loc`, the
single-fault ones below (`C01_single_fault_exactly_once`, `_unique`). -/
theorem C01_no_loss (env : PEnv) (ml : MatchList) (st : ExecSt) (w : World) (orig : Bytes) (plan : Plan)
    (hs : Proofs.Start w st orig) (hd : Proofs.NoDiscard ml) :
    ∀ w' ∈ (runPlan plan (matchesExec env ml st) w 0 []).2.2, Proofs.Intact w' (Proofs.stages st.ms orig) :=
  Proofs.exec_always_intact env ml st w orig plan hs hd

/-- Non-vacuity of `C01_no_loss` (the start situation and the list of the example described below: `/m/new/1.h`, move to
`/m/cur` then label). -/
example : Proofs.Start Proofs.exWorld Proofs.exSt Proofs.exOrig ∧ Proofs.NoDiscard Proofs.exList :=
  ⟨Proofs.ex_startAt.start, Proofs.ex_noDiscard⟩

/-- The exit status is a function of the error and reject flags only (so a failure that sets the
error flag is always reported).

(This is the last line of `mainP` - every path ends in `finish st = (exitStatus env st, st)` - read off the model.
It says nothing about WHICH failures set the flag: that is `C01_fault_reported` for one action list and
`C04_error_iff_partial` for the loops.  Same statement as the first conjunct of `C04_status_table`.) -/
theorem C01_exit_reports_error (env : PEnv) (orc : EvalOracles) (ok : Bool) (conf : List ConfBlock) (files : Files) (input : Bytes)
    (w : World) (plan : Plan) :
    let r := (runPlan plan (mainP env orc ok conf files input) w 0 []).1
    r.1 = exitStatus env r.2 :=
  Proofs.exit_status_table env orc ok conf files input w plan

/-! ## at most one fault

`Proofs.World.SingleFault plan`: at most one call index carries a fault (implied by
`Plan.count plan n ≤ 1` for all `n`, and true of `singlePlan i f`).  `Proofs.StartAt` is `Start`
plus: the source maildir's path is the join of its root and subdirectory, the ghost location and
content of the message are those of its entry, the message's descriptor is an existing handle
other than the source directory's.  Entries are compared through `World.lookup` (for the
name-unique directory lists of `Start` this determines the lists up to order). -/

/-- The restriction on plans, in the terms of `Plan.count`. -/
theorem C01_single_fault_of_count (plan : Plan) (h : ∀ n, Plan.count plan n ≤ 1) : Proofs.World.SingleFault plan :=
  Proofs.World.singleFault_of_count plan h

/-- Non-vacuity: the plan that fails call 7 with `EIO` injects at most one fault among the first `n` calls, for every `n`. -/
example : ∀ n, Plan.count (Proofs.World.singlePlan 7 (.fail "EIO")) n ≤ 1 := by
  intro n
  induction n with
  | zero => decide
  | succ n ih =>
    rw [Proofs.World.count_succ]
    by_cases h : n = 7
    · subst h; decide
    · have : (Proofs.World.singlePlan 7 (.fail "EIO") n).isSome = false := by simp [Proofs.World.singlePlan, h]
      simp [this]; exact ih

/-- Exactly once, under at most one fault (action lists without discard: move on one device or
across devices, flag, flags, label, add-header, exec, in any order and number): after the run
the message is bound at the entry its ghost location names, to a file whose visible and durable
content is a complete version; that entry is the original one, or it was free before and the
original entry is free now; every other entry of every directory is bound as before.  So there is
exactly one entry for the message - no loss, no duplicate - whether or not an error is returned. -/
theorem C01_single_fault_exactly_once (env : PEnv) (ml : MatchList) (st : ExecSt) (w : World) (orig : Bytes) (plan : Plan)
    (hs : Proofs.StartAt w st orig) (hd : Proofs.NoDiscard ml) (hp : Proofs.World.SingleFault plan) :
    let r := runPlan plan (matchesExec env ml st) w 0 []
    ∃ p n fid, r.1.1.ms.loc = some (p, n) ∧ r.2.1.lookup p n = some fid ∧
      r.2.1.file fid = some ⟨r.1.1.ms.content, r.1.1.ms.content⟩ ∧ r.1.1.ms.content ∈ Proofs.stages st.ms orig ∧
      ((p, n) = (st.src.path, st.ms.name) ∨ (w.lookup p n = none ∧ r.2.1.lookup st.src.path st.ms.name = none)) ∧
      ∀ q m, (q, m) ≠ (p, n) → (q, m) ≠ (st.src.path, st.ms.name) → r.2.1.lookup q m = w.lookup q m :=
  Proofs.exec_single_fault_exactly_once env ml st w orig plan hs hd hp

/-- Counting form: if no OTHER entry of the initial world is bound to a file that holds a version
of the message, then after the run (at most one fault) the only entry, over all directories, bound
to a file whose data is a stage of the message is the message's own entry. -/
theorem C01_single_fault_unique (env : PEnv) (ml : MatchList) (st : ExecSt) (w : World) (orig : Bytes) (plan : Plan)
    (hs : Proofs.StartAt w st orig) (hd : Proofs.NoDiscard ml) (hp : Proofs.World.SingleFault plan)
    (hu : ∀ q m fid, w.lookup q m = some fid → (q, m) ≠ (st.src.path, st.ms.name) →
      fid < w.nextFid ∧ ∀ f, w.file fid = some f → f.data ∉ Proofs.stages st.ms orig) :
    let r := runPlan plan (matchesExec env ml st) w 0 []
    ∀ q m fid f, r.2.1.lookup q m = some fid → r.2.1.file fid = some f → f.data ∈ Proofs.stages st.ms orig →
      r.1.1.ms.loc = some (q, m) :=
  Proofs.exec_single_fault_unique env ml st w orig plan hs hd hp hu

/-! Non-vacuity of the hypothesis `hu` on a world with a SECOND message (in the one-message world
`Proofs.exWorld` used below `hu` holds for the trivial reason that there is no other entry): the two-message world
`Proofs.wholeExWorldW` (`/m/new/1.h` = `A: b\n\nx`, `/m/new/2.h` = `A: c\n\ny`, `/m/new` open at handle 3), the first
message being processed (no descriptor of its own).  `c01ex2_st`, `c01ex2_startAt`, `c01ex2_unique_hyp` stand in this
file because they are the instance the example after them applies `C01_single_fault_unique` to. -/

/-- The start state for the first message of the two-message world. -/
def c01ex2_st : ExecSt := { Proofs.exSt with ms := { Proofs.exMs with fd := none } }

theorem c01ex2_startAt : Proofs.StartAt Proofs.wholeExWorldW c01ex2_st Proofs.exOrig :=
  ⟨⟨⟨3, rfl, by decide⟩, ⟨0, by decide, by decide⟩, Proofs.wholeEx_clean.noWriters, Proofs.wholeEx_clean.noStreams,
     Proofs.wholeEx_clean.freshIds, Proofs.wholeEx_clean.uniqueNames⟩, by decide, rfl, rfl, fun _ h => by cases h⟩

/-- `hu` there: the only other entry, `/m/new/2.h`, is bound to file 1 < 2, whose bytes are no version of the first message. -/
theorem c01ex2_unique_hyp : ∀ q m fid, Proofs.wholeExWorldW.lookup q m = some fid →
      (q, m) ≠ (c01ex2_st.src.path, c01ex2_st.ms.name) →
      fid < Proofs.wholeExWorldW.nextFid ∧
      ∀ f, Proofs.wholeExWorldW.file fid = some f → f.data ∉ Proofs.stages c01ex2_st.ms Proofs.exOrig := by
  intro q m fid hl hne
  have hmem : (q, m, fid) = (Proofs.exNew, Proofs.exName, 0) ∨ (q, m, fid) = (Proofs.exNew, Proofs.wholeExName2, 1) := by
    obtain ⟨es, hdm, hem⟩ := Proofs.mem_dirs_of_lookup hl
    simp only [Proofs.wholeExWorldW, Proofs.wholeExWorld, List.mem_cons, List.not_mem_nil, or_false, Prod.mk.injEq] at hdm
    rcases hdm with ⟨rfl, rfl⟩ | ⟨rfl, rfl⟩
    · simp only [List.mem_cons, List.not_mem_nil, or_false, Prod.mk.injEq] at hem
      rcases hem with ⟨rfl, rfl⟩ | ⟨rfl, rfl⟩
      · exact .inl rfl
      · exact .inr rfl
    · cases hem
  simp only [Prod.mk.injEq] at hmem
  rcases hmem with ⟨rfl, rfl, rfl⟩ | ⟨rfl, rfl, rfl⟩
  · exact absurd rfl hne
  · refine ⟨by decide, ?_⟩
    intro f hf
    have : f = ⟨Proofs.wholeExOrig2, Proofs.wholeExOrig2⟩ := by
      have h' : Proofs.wholeExWorldW.file 1 = some ⟨Proofs.wholeExOrig2, Proofs.wholeExOrig2⟩ := by decide
      rw [h'] at hf; cases hf; rfl
    subst this
    decide +kernel

/-- All hypotheses of `C01_single_fault_unique` at once (the list of the example, `rename` failing with `EIO`). -/
example := C01_single_fault_unique Proofs.exEnv Proofs.exList c01ex2_st Proofs.wholeExWorldW Proofs.exOrig
  (Proofs.World.singlePlan 3 (.fail "EIO")) c01ex2_startAt Proofs.ex_noDiscard (Proofs.World.singleFault_single _ _)
  c01ex2_unique_hyp

/-- No stray file, under at most one fault: every entry that exists after the run - in
particular every name the run created - is the message's entry (complete, by the previous
theorem) or an entry that existed before, bound to the same file with unchanged content.  No
empty placeholder and no partial copy remains in any directory. -/
theorem C01_single_fault_no_stray (env : PEnv) (ml : MatchList) (st : ExecSt) (w : World) (orig : Bytes) (plan : Plan)
    (hs : Proofs.StartAt w st orig) (hd : Proofs.NoDiscard ml) (hp : Proofs.World.SingleFault plan) :
    let r := runPlan plan (matchesExec env ml st) w 0 []
    ∀ q m fid, r.2.1.lookup q m = some fid →
      r.1.1.ms.loc = some (q, m) ∨
      (w.lookup q m = some fid ∧ (fid < w.nextFid → r.2.1.file fid = w.file fid)) :=
  Proofs.exec_single_fault_no_stray env ml st w orig plan hs hd hp

/-- A failure is reported - for EVERY fault plan, any number of faults: if any call of the
execution of an action list fails (injected or genuine) and the call is not an ignored site
(`ignoredSite`: every `close`, every `closedir`, the `fstatat` of `maildir_move` - the known
findings) and the errno is not one mdsort recovers from (`handledErr`: `EEXIST` of the exclusive
create is retried under the next name, `EXDEV` of the rename falls back to copying), then
`matches_exec` returns an error. -/
theorem C01_fault_reported (env : PEnv) (ml : MatchList) (st : ExecSt) (w : World) (plan : Plan) (c : Call) (e : String)
    (hmem : (c, Res.err e) ∈ (runPlan plan (matchesExec env ml st) w 0 []).2.1.trace.drop w.trace.length)
    (hsite : Proofs.World.ignoredSite c = false) (herr : Proofs.World.handledErr c e = false) :
    (runPlan plan (matchesExec env ml st) w 0 []).1.2 = true :=
  Proofs.exec_failure_reported env ml st w plan c e hmem hsite herr

/-- The same in the terms of the plan: the failure injected at call number `i` of
`matches_exec` is reported. -/
theorem C01_fault_reported_at (env : PEnv) (ml : MatchList) (st : ExecSt) (w : World) (plan : Plan)
    (i : Nat) (c : Call) (r : Res) (e : String)
    (hget : ((runPlan plan (matchesExec env ml st) w 0 []).2.1.trace.drop w.trace.length)[i]? = some (c, r))
    (hp : plan i = some (.fail e))
    (hsite : Proofs.World.ignoredSite c = false) (herr : Proofs.World.handledErr c e = false) :
    (runPlan plan (matchesExec env ml st) w 0 []).1.2 = true :=
  Proofs.exec_fault_reported env ml st w plan i c r e hget hp hsite herr

/-- Exit 0 means final place: if `matches_exec` returns no error the
message is bound in the directory of the last move/flag/flags action (`finalDir`; the source
directory if there is none) to a file that holds the rewritten message if the list contains a
label or add-header (and in any case the original or the rewritten bytes), and the original
entry is free unless it is the final one.  (The statement carries `SingleFault plan`; `Proofs.exec_exit0_final` holds under
every plan and does not take it.) -/
theorem C01_exit0_final (env : PEnv) (ml : MatchList) (st : ExecSt) (w : World) (orig : Bytes) (plan : Plan)
    (hs : Proofs.StartAt w st orig) (hd : Proofs.NoDiscard ml) (hp : Proofs.World.SingleFault plan)
    (he : (runPlan plan (matchesExec env ml st) w 0 []).1.2 = false) :
    let r := runPlan plan (matchesExec env ml st) w 0 []
    ∃ n fid, r.1.1.ms.loc = some (Proofs.World.finalDir ml st.src.path, n) ∧
      r.2.1.lookup (Proofs.World.finalDir ml st.src.path) n = some fid ∧
      r.2.1.file fid = some ⟨r.1.1.ms.content, r.1.1.ms.content⟩ ∧
      (Proofs.World.rewrites ml = true → r.1.1.ms.content = (messageWrite st.ms.msg).1) ∧
      (r.1.1.ms.content = orig ∨ r.1.1.ms.content = (messageWrite st.ms.msg).1) ∧
      ((Proofs.World.finalDir ml st.src.path, n) ≠ (st.src.path, st.ms.name) →
        r.2.1.lookup st.src.path st.ms.name = none) :=
  Proofs.exec_exit0_final env ml st w orig plan hs hd he

/-- With discard (a list that ends in a discard; the grammar makes discard exclusive), under at
most one fault: without error the message's entry is gone and nothing else has changed; with an
error the message is intact exactly once, as above. -/
theorem C01_single_fault_discard (env : PEnv) (pre : MatchList) (md : Match) (st : ExecSt) (w : World) (orig : Bytes)
    (plan : Plan) (hs : Proofs.StartAt w st orig) (hd : Proofs.NoDiscard pre) (hty : md.ty = .discard)
    (hp : Proofs.World.SingleFault plan) :
    let r := runPlan plan (matchesExec env (pre ++ [md]) st) w 0 []
    (r.1.2 = false → r.1.1.ms.loc = none ∧ r.2.1.lookup st.src.path st.ms.name = none ∧
      (∀ q m, (q, m) ≠ (st.src.path, st.ms.name) → r.2.1.lookup q m = w.lookup q m) ∧
      ∀ g, g < w.nextFid → r.2.1.file g = w.file g) ∧
    (r.1.2 = true → ∃ p n fid, r.1.1.ms.loc = some (p, n) ∧ r.2.1.lookup p n = some fid ∧
      r.2.1.file fid = some ⟨r.1.1.ms.content, r.1.1.ms.content⟩ ∧ r.1.1.ms.content ∈ Proofs.stages st.ms orig ∧
      ((p, n) = (st.src.path, st.ms.name) ∨ (w.lookup p n = none ∧ r.2.1.lookup st.src.path st.ms.name = none)) ∧
      ∀ q m, (q, m) ≠ (p, n) → (q, m) ≠ (st.src.path, st.ms.name) → r.2.1.lookup q m = w.lookup q m) :=
  Proofs.exec_single_fault_discard env pre md st w orig plan hs hd hty hp

/-! Non-vacuity: maildir `/m`, message `new/1.h` = `A: b\n\nx` open at handle 4, source directory
at handle 3; the list moves it to `/m/cur` and labels it; the plan fails call 7 with `EIO`. -/
example : Proofs.StartAt Proofs.exWorld Proofs.exSt Proofs.exOrig ∧ Proofs.NoDiscard Proofs.exList ∧
    Proofs.World.SingleFault (Proofs.World.singlePlan 7 (.fail "EIO")) ∧ Proofs.exDiscard.ty = .discard :=
  ⟨Proofs.ex_startAt, Proofs.ex_noDiscard, Proofs.World.singleFault_single _ _, rfl⟩

/-- Non-vacuity of `C01_exit0_final`, and witness that the exclusions of `C01_fault_reported` are
necessary (the known findings F17b-d): in the example, failing the `fstatat` (call 1), the `close`
of the placeholder (call 4) or a `closedir` (call 18) with `EIO`, the exclusive create (call 2)
with `EEXIST` or the rename (call 3) with `EXDEV` leaves the error flag clear. -/
example :
    [(1, "EIO"), (4, "EIO"), (18, "EIO"), (2, "EEXIST"), (3, "EXDEV")].all (fun (ie : Nat × String) =>
      let r := runPlan (Proofs.World.singlePlan ie.1 (.fail ie.2)) (matchesExec Proofs.exEnv Proofs.exList Proofs.exSt)
        Proofs.exWorld 0 []
      (r.2.1.trace[ie.1]?.map fun x =>
          (Proofs.World.ignoredSite x.1 || Proofs.World.handledErr x.1 ie.2) && x.2 == .err ie.2) == some true
        && r.1.2 == false) = true :=
  Proofs.ex_ignored_sites

/-- Non-vacuity of `C01_fault_reported` / `_at` (the example above only shows the EXCLUDED sites): in the
same run, call 3 is the `renameat` of `maildir_move`; failing it with `EIO` puts a failed call that is neither an ignored site
nor a handled errno into the trace, and `matches_exec` returns the error. -/
example :
    let r := runPlan (Proofs.World.singlePlan 3 (.fail "EIO")) (matchesExec Proofs.exEnv Proofs.exList Proofs.exSt)
      Proofs.exWorld 0 []
    (r.2.1.trace.drop Proofs.exWorld.trace.length)[3]?.map (fun x =>
        (!Proofs.World.ignoredSite x.1 && !Proofs.World.handledErr x.1 "EIO") && x.2 == .err "EIO") = some true ∧
      Proofs.World.singlePlan 3 (.fail "EIO") 3 = some (.fail "EIO") ∧ r.1.2 = true := by
  decide +kernel

/-- `rename` failing with `EIO` is neither ignored nor handled; `close` is ignored; `EXDEV` of `rename` is handled. -/
example : Proofs.World.ignoredSite (.renameat 3 [49] 5 [50]) = false ∧ Proofs.World.handledErr (.renameat 3 [49] 5 [50]) "EIO" = false ∧
    Proofs.World.ignoredSite (.close 6) = true ∧ Proofs.World.handledErr (.renameat 3 [49] 5 [50]) "EXDEV" = true := by
  decide

/-! ## the whole run: `processMessage`, `walk`, `mainP` under EVERY fault plan

The theorems above are about ONE action list started in a `Start` world.  The following lift them
through the main loop (Proofs/WorldWholeMsg.lean, WorldWholeWalk.lean; `C01_message_no_loss`, `C01_walk_no_loss` and
`C01_main_no_loss` are read off the by-lineage walk, Proofs/WorldLinMsg.lean, WorldLinWalk.lean).

* `Proofs.WholeReg w files`: the registry `files` of the main loop (directory, name -> content; the
  parameter of `mainP`) is consistent with the world: every registered message is bound under its
  name to a file (id below `nextFid`) whose visible and durable content is the registered content
  (decidable form: `Proofs.wholeRegOk`, `C01_registry_check`).
* `Proofs.WholeNoDiscard env orc expr`: the rules never produce a discard action
  (`C01_noDiscard_of_syntax`: true of every rule tree that contains no `discard`).  Discard is
  excluded over the whole configuration; lists that end in a discard are treated, per message and for
  at most one fault, by `C01_single_fault_discard`.
* `Proofs.wholeRewrite env orc expr dir name c as`: what `message_write` renders for the file `name` of
  `dir` with content `c` once the actions of `expr` (label, add-header) have been interpolated - `c`
  itself when the rules do not act - when the operating system answers the questions of evaluation (`command`,
  `isdirectory`, file-time `date` conditions: they are evaluated inside the run, `Model.evalP`) with `as`; for a rule
  tree without such conditions `as` is irrelevant (`Proofs.wholeRewrite_asksFree`).
  `Proofs.WholeVersion env orc exprs c c'`: `c'` is `c` after zero or
  more such complete rewrites by rules of `exprs`, each for some answers (a message that is moved into a maildir walked
  later is processed again).
* Scope of "any configuration": the fields `command`, `isDir`, `fileTime` of the evaluation environment are not
  consulted: a `command` / `isdirectory` / file-date condition issues its calls inside the run (`Model.evalP`) and the theorems
  quantify over their results (the fault plan / the answers `as`); `orc : EvalOracles` quantifies over the regex engine,
  `strptime`, zone names and `time_format`.
* "Every registered message has an entry ..." is a statement by CONTENT (`∃ d n fid f, ... WholeVersion .. c f.data`), not by
  identity: two registered messages with the same bytes can be witnessed by one and the same entry.  The counting statements
  are the single-fault ones above.
* Fuel: `mainP` walks a maildir with fuel `2n+8+env.extraFuel` (`n` = registered files of its `new` and `cur`).  A
  walk that runs out of fuel is FLAGGED (`MainSt.fuelOut`), never silent.  For the loss-freedom statements a shorter walk is
  harmless (`C01_walk_no_loss` holds for every fuel).  `C01_walk_fuel_suffices`: a run that ends without the error flag (at
  most one fault, `exit0_Good`) never ran out of fuel; `C01_walk_fuel_suffices_conform`: along an observed trace an allowance
  of the length of the trace suffices; `C01_fuel_can_run_out`: with an incomplete registry (or enough faults to leave stray
  placeholders) the standard allowance does run out - and the flag says so.
* The model-internal registry stays consistent with the world under EVERY fault plan (it is updated
  from the ghost location, which the proof shows to be exact); entries the world has and the registry
  has not (a stray copy after a failed roll-back) only set `error` (`processMessage_unknown`). -/

/-- **start_of_parse.**  From a world whose handles cannot be written through (`Proofs.WholeClean`)
and in which `(md.path, name)` is bound to a file that holds `content` visibly and durably: whatever
fails while `message_parse` runs, if it returns a message then the world after it, together with
the state `processMessage` hands to `matches_exec` (for any interpolated message and flag set),
satisfies `StartAt` and `Start` with `orig = content`. -/
theorem C01_start_of_parse (md : Maildir) (d : Handle) (name content : Bytes) (w : World) (fid : Nat) (plan : Plan)
    (hd : md.dirH = some d) (hp : w.dirPath d = some md.path)
    (hwf : pathjoin PATH_MAX md.root (subdirName md.subdir) = some md.path)
    (hl : w.lookup md.path name = some fid) (hf : w.file fid = some ⟨content, content⟩) (hc : Proofs.WholeClean w)
    (ms : MsgSt) (hr : (runPlan plan (messageParseP d md.path name content) w 0 []).1 = some ms) (m : Msg) (fl : MFlags) :
    Proofs.StartAt (runPlan plan (messageParseP d md.path name content) w 0 []).2.1
      { src := md, chsrc := false, ms := { ms with msg := m, flags := fl }, reject := false } content ∧
    Proofs.Start (runPlan plan (messageParseP d md.path name content) w 0 []).2.1
      { src := md, chsrc := false, ms := { ms with msg := m, flags := fl }, reject := false } content :=
  ⟨Proofs.whole_start_of_parse md d name content w fid plan 0 [] hd hp hwf hl hf hc ms hr m fl,
   (Proofs.whole_start_of_parse md d name content w fid plan 0 [] hd hp hwf hl hf hc ms hr m fl).start⟩

/-- **One message.**  `processMessage` under EVERY fault plan (faults may also hit the calls of evaluation: `fork`,
`waitpid`, `stat`, ...), started in a world where the
message's entry is bound to a complete file: after every call some entry is bound to a file whose
visible content is the message or its complete rewrite (for some answers `as` of the operating system to the questions
of evaluation), and every OTHER entry that existed is bound
to the same file, with the same content. -/
theorem C01_message_no_loss (env : PEnv) (orc : EvalOracles) (expr : Expr) (md : Maildir) (name : Bytes) (st : MainSt)
    (w : World) (plan : Plan) (d : Handle) (content : Bytes) (fid : Nat)
    (hd : md.dirH = some d) (hp : w.dirPath d = some md.path)
    (hwf : pathjoin PATH_MAX md.root (subdirName md.subdir) = some md.path)
    (hfc : st.files.get md.path name = some content)
    (hl : w.lookup md.path name = some fid) (hlt : fid < w.nextFid) (hf : w.file fid = some ⟨content, content⟩)
    (hnd : Proofs.WholeNoDiscard env orc expr) :
    ∀ w' ∈ (runPlan plan (processMessage env orc expr md name st) w 0 []).2.2,
      (∃ as, Proofs.Intact w' [content, Proofs.wholeRewrite env orc expr md.path name content as]) ∧
      ∀ q m g, (q, m) ≠ (md.path, name) → w.lookup q m = some g →
        w'.lookup q m = some g ∧ (g < w.nextFid → w'.file g = w.file g) := fun w' hw' => by
  obtain ⟨⟨as, h1, _⟩, h2⟩ := Proofs.whole_message_no_loss env orc expr md name st w plan hd hp hwf hfc hl hlt hf hnd w' hw'
  exact ⟨⟨as, h1⟩, h2⟩

/-- **One maildir.**  `walk` under EVERY fault plan, from a world with which the registry is
consistent and in which the maildir's handle is open on its path (`Proofs.WholeMdOk`): after EVERY
call every registered message has an entry bound to a file whose visible content is a complete
version of it. -/
theorem C01_walk_no_loss (env : PEnv) (orc : EvalOracles) (expr : Expr) (fuel : Nat) (md : Maildir) (st : MainSt)
    (w : World) (plan : Plan) (hnd : Proofs.WholeNoDiscard env orc expr) (hreg : Proofs.WholeReg w st.files)
    (hmd : Proofs.WholeMdOk w md) :
    ∀ w' ∈ (runPlan plan (walk env orc expr fuel md st) w 0 []).2.2,
      ∀ dir name c, st.files.get dir name = some c →
        ∃ d n fid f, w'.lookup d n = some fid ∧ w'.file fid = some f ∧ Proofs.WholeVersion env orc [expr] c f.data := by
  intro w' hw' dir name c hc
  obtain ⟨d, n, fid, f, h1, _, h3, h4, _⟩ := Proofs.whole_walk_no_loss env orc expr fuel md st w plan hnd hreg hmd w' hw' dir name c hc
  exact ⟨d, n, fid, f, h1, h3, h4⟩

/-- **A whole run** in maildir mode (`-` not given), any configuration without discard, any
population: under EVERY fault plan, after EVERY call, every message of the registry (= every message
that was in a configured maildir initially, when the registry lists them) has an entry bound to a
file whose visible content is a complete version of it. -/
theorem C01_main_no_loss (env : PEnv) (orc : EvalOracles) (confOk : Bool) (conf : List ConfBlock) (files : Files) (input : Bytes)
    (w : World) (plan : Plan) (hm : env.stdinMode = false) (hnd : ∀ b ∈ conf, Proofs.WholeNoDiscard env orc b.expr)
    (hreg : Proofs.WholeReg w files) :
    ∀ w' ∈ (runPlan plan (mainP env orc confOk conf files input) w 0 []).2.2,
      ∀ dir name c, files.get dir name = some c →
        ∃ d n fid f, w'.lookup d n = some fid ∧ w'.file fid = some f ∧
          Proofs.WholeVersion env orc (conf.map (·.expr)) c f.data := by
  intro w' hw' dir name c hc
  obtain ⟨d, n, fid, f, h1, _, h3, h4, _⟩ :=
    Proofs.whole_main_no_loss env orc confOk conf files input w plan hm hnd hreg w' hw' dir name c hc
  exact ⟨d, n, fid, f, h1, h3, h4⟩

/-- The restriction on the rules, decidably: a rule tree that contains no `discard` never discards. -/
theorem C01_noDiscard_of_syntax (env : PEnv) (orc : EvalOracles) (expr : Expr) (h : Proofs.wholeHasDiscard expr = false) :
    Proofs.WholeNoDiscard env orc expr :=
  Proofs.whole_noDiscard_of_syntax env orc expr h

/-- The consistency of the registry with the world, decidably. -/
theorem C01_registry_check (w : World) (files : Files) (h : Proofs.wholeRegOk w files = true) : Proofs.WholeReg w files :=
  Proofs.whole_reg_of_ok h

/-- Non-vacuity of `C01_registry_check`: the two-message world and its registry. -/
example : Proofs.wholeRegOk Proofs.wholeExWorld Proofs.wholeExFiles = true := by decide

/-! Non-vacuity on a two-message world (Proofs/WorldWholeEx.lean): `/m/new/1.h` = `A: b\n\nx`,
`/m/new/2.h` = `A: c\n\ny`, configuration `maildir "/m" { match all flag "cur" label "x" }`. -/

/-- `C01_main_no_loss`: maildir mode, no discard, the registry is consistent with the world. -/
example : Proofs.exEnv.stdinMode = false ∧
    (∀ b ∈ Proofs.wholeExConf, Proofs.WholeNoDiscard Proofs.exEnv Proofs.wholeExOrc b.expr) ∧
    Proofs.WholeReg Proofs.wholeExWorld Proofs.wholeExFiles ∧ Proofs.wholeExFiles.length = 2 :=
  ⟨rfl, Proofs.wholeEx_nd, Proofs.wholeEx_reg, rfl⟩

/-- `C01_walk_no_loss`: `/m/new` open at handle 3. -/
example : Proofs.WholeNoDiscard Proofs.exEnv Proofs.wholeExOrc Proofs.wholeExExpr ∧
    Proofs.WholeReg Proofs.wholeExWorldW Proofs.wholeExSt.files ∧ Proofs.WholeMdOk Proofs.wholeExWorldW Proofs.exMd :=
  ⟨Proofs.whole_noDiscard_of_syntax _ _ _ (by decide), Proofs.wholeEx_regW, Proofs.wholeEx_mdOk⟩

/-- `C01_message_no_loss` and `C01_start_of_parse`: the first message, bound to file 0. -/
example : Proofs.exMd.dirH = some 3 ∧ Proofs.wholeExWorldW.dirPath 3 = some Proofs.exMd.path ∧
    pathjoin PATH_MAX Proofs.exMd.root (subdirName Proofs.exMd.subdir) = some Proofs.exMd.path ∧
    Proofs.wholeExSt.files.get Proofs.exMd.path Proofs.exName = some Proofs.exOrig ∧
    Proofs.wholeExWorldW.lookup Proofs.exMd.path Proofs.exName = some 0 ∧ 0 < Proofs.wholeExWorldW.nextFid ∧
    Proofs.wholeExWorldW.file 0 = some ⟨Proofs.exOrig, Proofs.exOrig⟩ ∧ Proofs.WholeClean Proofs.wholeExWorldW :=
  ⟨rfl, by decide, by decide, by decide, by decide, by decide, by decide, Proofs.wholeEx_clean⟩

/-- The parse of the first message succeeds when nothing fails (the hypothesis `hr` of `C01_start_of_parse`). -/
example : ((runPlan Plan.none (messageParseP 3 Proofs.exMd.path Proofs.exName Proofs.exOrig) Proofs.wholeExWorldW 0 []).1).isSome = true := by
  decide +kernel

/-- **No error bit means final place**, one message through `processMessage`
(parse, execution, `message_free`, registry update): if the rules act on a registered, completely
stored message (list `ml` without discard, not a dry run) and the state `processMessage` returns does
not have the error flag, then (`Proofs.WholeFinalPlace`) the registry and the world have the message
in the directory of the last move/flag/flags action, under its own or a formerly free name, bound to a
file that holds the rewritten message if `ml` contains a label or add-header (in any case the
original or the rewritten bytes); the original entry is free unless it is the final one; every other
entry of every directory is bound as before.  The rules are evaluated inside the run (the one fault may hit a call of
evaluation): the statement is for the verdict `Proofs.verdictA … as` of SOME answers `as` of the operating system (those of
the run), `Proofs.WholeExit0V`: not an error verdict; an action list - final place; no match - the registry is unchanged.  For
a rule tree without `command` / `isdirectory` / file-time `date` conditions this is the pure verdict (`C01_message_exit0_pure`).

With `C04_error_iff_partial` (exit status 0 iff no cause of the error flag occurred, in particular no
message's error bit) this is, message by message, what `C01_main_exit0_partial` says of a run: "final place" is a notion of
one processing step - a message moved into a maildir that is walked later is processed again - so the
statement is made per step and not once for the run.  (The statement carries `SingleFault plan`;
`Proofs.whole_message_exit0` holds under every plan and does not take it.) -/
theorem C01_message_exit0 (env : PEnv) (orc : EvalOracles) (expr : Expr) (md : Maildir) (name : Bytes) (st : MainSt)
    (w : World) (plan : Plan) (d : Handle) (content : Bytes) (fid : Nat)
    (hd : md.dirH = some d) (hp : w.dirPath d = some md.path)
    (hwf : pathjoin PATH_MAX md.root (subdirName md.subdir) = some md.path)
    (hfc : st.files.get md.path name = some content)
    (hl : w.lookup md.path name = some fid) (hf : w.file fid = some ⟨content, content⟩) (hc : Proofs.WholeClean w)
    (hnd : Proofs.WholeNoDiscard env orc expr)
    (hdry : env.dryrun = false) (hpl : Proofs.World.SingleFault plan)
    (he : (runPlan plan (processMessage env orc expr md name st) w 0 []).1.1.error = false) :
    ∃ as, Proofs.WholeExit0V w md name content st (runPlan plan (processMessage env orc expr md name st) w 0 []).1
      (runPlan plan (processMessage env orc expr md name st) w 0 []).2.1 (Proofs.verdictA env orc expr md.path name content as) :=
  Proofs.whole_message_exit0 env orc expr md name st w plan hd hp hwf hfc hl hf hc hnd hdry he

/-- The same for a rule tree that asks the operating system nothing, in terms of the pure verdict: if the rules act on the
message (list `ml`), it is at its final place. -/
theorem C01_message_exit0_pure (env : PEnv) (orc : EvalOracles) (expr : Expr) (md : Maildir) (name : Bytes) (st : MainSt)
    (w : World) (plan : Plan) (d : Handle) (content : Bytes) (fid : Nat) (ml : MatchList) (msgs : Nat → Msg) (fl : MFlags)
    (hd : md.dirH = some d) (hp : w.dirPath d = some md.path)
    (hwf : pathjoin PATH_MAX md.root (subdirName md.subdir) = some md.path)
    (hfc : st.files.get md.path name = some content)
    (hl : w.lookup md.path name = some fid) (hf : w.file fid = some ⟨content, content⟩) (hc : Proofs.WholeClean w)
    (hfree : Proofs.asksFree expr = true) (hnd : Proofs.WholeNoDiscard env orc expr)
    (hvd : Proofs.verdict env orc expr md.path name content = .act ml msgs fl)
    (hdry : env.dryrun = false) (hpl : Proofs.World.SingleFault plan)
    (he : (runPlan plan (processMessage env orc expr md name st) w 0 []).1.1.error = false) :
    Proofs.WholeFinalPlace w md name content ml (msgs 0) (runPlan plan (processMessage env orc expr md name st) w 0 []).1
      (runPlan plan (processMessage env orc expr md name st) w 0 []).2.1 := by
  obtain ⟨as, h⟩ := C01_message_exit0 env orc expr md name st w plan d content fid hd hp hwf hfc hl hf hc hnd hdry hpl he
  rw [Proofs.verdictA_asksFree env orc expr hfree, hvd] at h
  exact h

/-- Non-vacuity: the rules of the example act on its first message, without discard; not a dry run;
the plan that fails call 5 with `EIO` has at most one fault. -/
example : (∃ ml msgs fl, Proofs.verdict Proofs.exEnv Proofs.wholeExOrc Proofs.wholeExExpr Proofs.exMd.path Proofs.exName Proofs.exOrig =
      .act ml msgs fl ∧ Proofs.NoDiscard ml) ∧ Proofs.asksFree Proofs.wholeExExpr = true ∧
    Proofs.WholeNoDiscard Proofs.exEnv Proofs.wholeExOrc Proofs.wholeExExpr ∧
    Proofs.exEnv.dryrun = false ∧ Proofs.World.SingleFault (Proofs.World.singlePlan 5 (.fail "EIO")) := by
  refine ⟨?_, by decide, Proofs.whole_noDiscard_of_syntax _ _ _ (by decide), rfl, Proofs.World.singleFault_single _ _⟩
  have hacts : (Proofs.verdict Proofs.exEnv Proofs.wholeExOrc Proofs.wholeExExpr Proofs.exMd.path Proofs.exName Proofs.exOrig).acts = true := by
    unfold Proofs.verdict Proofs.msVerdict Proofs.wholeExExpr
    simp only [eval]
    decide +kernel
  cases h : Proofs.verdict Proofs.exEnv Proofs.wholeExOrc Proofs.wholeExExpr Proofs.exMd.path Proofs.exName Proofs.exOrig with
  | act ml msgs fl =>
    exact ⟨ml, msgs, fl, rfl, Proofs.whole_noDiscard_of_syntax _ _ Proofs.wholeExExpr (by decide) _ _ _ [] _ _ _
      (by rw [Proofs.verdictA_asksFree _ _ _ (by decide)]; exact h)⟩
  | unparsable => rw [h] at hacts; cases hacts
  | «nomatch» => rw [h] at hacts; cases hacts
  | error => rw [h] at hacts; cases hacts
  | interpFail => rw [h] at hacts; cases hacts

/-- The remaining hypothesis `he` of `C01_message_exit0` (evaluated for the rule `match all flag "cur"`,
whose verdict on the first message is an action list as well): without a fault, and with the `fstatat` of `maildir_move`
(call 4, an ignored site: F17d) failing, `processMessage` returns without the error flag; with the `renameat` failing it
returns WITH it - so `he` separates runs. -/
example :
    (runPlan Plan.none (processMessage Proofs.exEnv Proofs.wholeExOrc
      (.mtch 1 (.all 1) (.flag 1 [99, 117, 114])) Proofs.exMd Proofs.exName Proofs.wholeExSt) Proofs.wholeExWorldW 0 []).1.1.error = false ∧
    (runPlan (Proofs.World.singlePlan 4 (.fail "EIO")) (processMessage Proofs.exEnv Proofs.wholeExOrc
      (.mtch 1 (.all 1) (.flag 1 [99, 117, 114])) Proofs.exMd Proofs.exName Proofs.wholeExSt) Proofs.wholeExWorldW 0 []).1.1.error = false ∧
    ((runPlan (Proofs.World.singlePlan 4 (.fail "EIO")) (processMessage Proofs.exEnv Proofs.wholeExOrc
      (.mtch 1 (.all 1) (.flag 1 [99, 117, 114])) Proofs.exMd Proofs.exName Proofs.wholeExSt) Proofs.wholeExWorldW 0 []).2.1.trace[4]?.map
        fun x => x.2 == .err "EIO") = some true ∧
    (runPlan (Proofs.World.singlePlan 6 (.fail "EIO")) (processMessage Proofs.exEnv Proofs.wholeExOrc
      (.mtch 1 (.all 1) (.flag 1 [99, 117, 114])) Proofs.exMd Proofs.exName Proofs.wholeExSt) Proofs.wholeExWorldW 0 []).1.1.error = true := by
  simp only [processMessage, evalP, evalTop, evalT, eval]
  decide +kernel

/-- Why "exactly once" / "no stray" / "final place" are single-fault statements while loss-freedom is
not: with TWO faults - `match all flag "cur"` on the first message of the example, the `renameat`
(call 6) and the roll-back `unlinkat` of the placeholder (call 7) both failing with `EIO` - the run sets
the error flag, the message is intact under its original name (file 0, still in the registry), and
`/m/cur` holds one entry: the EMPTY placeholder (file 2).  The model has no content for that name - a
later walk that meets it only sets `error` - whereas the C program would parse the empty file as a
message.  (With `label`, calls 13 and 14 failing leave a complete labelled duplicate the same way.) -/
example :
    let r := runPlan (fun k => if k = 6 ∨ k = 7 then some (.fail "EIO") else none)
      (processMessage Proofs.exEnv Proofs.wholeExOrc (.mtch 1 (.all 1) (.flag 1 [99, 117, 114])) Proofs.exMd Proofs.exName
        Proofs.wholeExSt) Proofs.wholeExWorldW 0 []
    r.1.1.error = true ∧ r.2.1.lookup Proofs.exNew Proofs.exName = some 0 ∧
      r.1.1.files.get Proofs.exNew Proofs.exName = some Proofs.exOrig ∧
      (r.2.1.dir Proofs.exCur).map (·.map (·.2)) = some [2] ∧ r.2.1.file 2 = some ⟨[], []⟩ := by
  simp only [processMessage, evalP, evalTop, evalT, eval]
  decide +kernel

/-! ## exit status 0 of a whole run (maildir mode, at most one fault)

`C01_message_exit0` is a statement about one processing step.  For a configuration in which no message
is processed twice it becomes a statement about the run (Proofs/WorldExit*.lean):

* `Proofs.exit0_dirsOf conf`: the directories the run walks, in order, each with the rules of its block -
  for every block and every path `p` of it (other than `/dev/stdin`): `p/new`, then `p/cur`.
* `Proofs.exit0_Good C` for `C = ⟨env, orc, exit0_dirsOf conf, files, w⟩` (Boolean form:
  `Proofs.exit0_goodOk`, `C01_good_check`):
  - `nodup`: no directory is walked twice (no maildir is configured twice);
  - `uniq0`: in every directory of the initial world the names are pairwise distinct;
  - `listed`: the registry lists the configured maildirs completely - every name bound in a walked directory is
    registered and is not `.` or `..`;
  - `norev` - **the side condition on the rules**: for every walked directory `D` with rules `e` and every
    message `n` (content `c`) registered in `D`, the directory the rules send it to
    (`Proofs.exit0_dest env orc e D n c`: `finalDir` of the action list of its verdict, `D` itself if the rules
    do not act) is not among the directories walked AFTER `D`.  It may be `D` itself (label, add-header, exec,
    a flag action that keeps the subdirectory), a directory walked earlier, or a directory that is not
    configured.  This is exactly what known finding F21 violates: `match new ... flag !new` takes a message from
    `p/new` to `p/cur`, which is walked next - the message is found and processed a second time (witness:
    `C06_F21_witness`), so "the place its verdict names" is not where it ends up.
* `Proofs.exit0_Placed env orc e D n c st w'`: the verdict of the rules `e` on the file is no match and `(D, n)` is
  bound (and registered) as before to a file that holds `c` visibly and durably; or it is an action list `ml` and
  some entry of `finalDir ml D` is bound to a file that holds, visibly and durably, the rewritten message if `ml`
  contains a label/add-header, and in any case the original or the rewritten bytes.  An error verdict does not
  occur. -/

/-- **Exit status 0 means every message is at its final place**: maildir mode, real run (no `-d`, no `-n`),
rules without discard that ask the operating system nothing (`Proofs.asksFree`: `exit0_Placed` speaks about the pure
verdict), a plan with at most one fault, no message processed twice (`exit0_Good`): if `main`
returns 0 then EVERY message of the initial registry that lies in a configured maildir is placed as the rules
say, in the world and in the registry `main` ends with (`Proofs.exit0_main_exit0`, Proofs/WorldExitTop.lean: one pass over
`walk` and the loops over paths and blocks in the single-fault calculus, `Proofs.exit0_step` per message). -/
theorem C01_main_exit0_partial (env : PEnv) (orc : EvalOracles) (confOk : Bool) (conf : List ConfBlock) (files : Files)
    (input : Bytes) (w : World) (plan : Plan)
    (hm : env.stdinMode = false) (hsyn : env.syntaxOnly = false) (hdry : env.dryrun = false)
    (hfree : ∀ b ∈ conf, Proofs.asksFree b.expr = true)
    (hnd : ∀ b ∈ conf, Proofs.WholeNoDiscard env orc b.expr) (hreg : Proofs.WholeReg w files)
    (hgood : Proofs.exit0_Good ⟨env, orc, Proofs.exit0_dirsOf conf, files, w⟩)
    (hpl : Proofs.World.SingleFault plan)
    (h0 : (runPlan plan (mainP env orc confOk conf files input) w 0 []).1.1 = 0) :
    ∀ D e n c, (D, e) ∈ Proofs.exit0_dirsOf conf → files.get D n = some c →
      Proofs.exit0_Placed env orc e D n c (runPlan plan (mainP env orc confOk conf files input) w 0 []).1.2
        (runPlan plan (mainP env orc confOk conf files input) w 0 []).2.1 :=
  (Proofs.exit0_main_exit0 env orc confOk conf files input w plan hm hsyn hdry hfree hnd hreg hgood hpl h0).1

/-- The hypotheses on configuration, registry and world, decidably. -/
theorem C01_good_check (C : Proofs.exit0_Ctx) (h : Proofs.exit0_goodOk C = true) : Proofs.exit0_Good C :=
  Proofs.exit0_good_of_ok h


/-- Non-vacuity of `C01_good_check`: `/m/cur` of the example (empty), nothing registered. -/
example : Proofs.exit0_goodOk ⟨Proofs.exEnv, Proofs.wholeExOrc, [(Proofs.exCur, Proofs.exit0_exExpr)], [], Proofs.wholeExWorld⟩ = true := by
  decide +kernel

/-- A simple sufficient form of the side condition: every registered message of a configured maildir stays in
its directory or is sent to a directory that is not configured at all. -/
theorem C01_good_of_outside (C : Proofs.exit0_Ctx) (h1 : (C.dirs.map (·.1)).Nodup) (h2 : Proofs.exit0_uniqueOk C.w0 = true)
    (h3 : Proofs.exit0_listedOk C = true)
    (h4 : ∀ D e n c, (D, e) ∈ C.dirs → C.files0.get D n = some c →
      Proofs.exit0_dest C.env C.orc e D n c = D ∨ Proofs.exit0_dest C.env C.orc e D n c ∉ C.dirs.map (·.1)) :
    Proofs.exit0_Good C :=
  Proofs.exit0_good_of_outside h1 h2 h3 h4

/-- Non-vacuity of `C01_good_of_outside`: `Proofs.exit0_ex_good` (Proofs/WorldExitEx.lean) is proved through it - the four
hypotheses hold for `maildir "/m" { match all move "/y" }` on the two-message registry (`h4`: both verdicts evaluated,
destination `/y/new`, which is not configured). -/
example : Proofs.exit0_Good ⟨Proofs.exEnv, Proofs.wholeExOrc, Proofs.exit0_dirsOf Proofs.exit0_exConf, Proofs.wholeExFiles,
    Proofs.wholeExWorld⟩ := Proofs.exit0_ex_good

/-- Non-vacuity of `C01_main_exit0_partial`: the two-message example with `maildir "/m" { match all move "/y" }`
(both messages are sent to `/y/new`, which is not configured): maildir mode, real run, no discard, consistent
registry, `exit0_Good`; the fault-free plan has at most one fault. -/
example : Proofs.exEnv.stdinMode = false ∧ Proofs.exEnv.syntaxOnly = false ∧ Proofs.exEnv.dryrun = false ∧
    (∀ b ∈ Proofs.exit0_exConf, Proofs.asksFree b.expr = true) ∧
    (∀ b ∈ Proofs.exit0_exConf, Proofs.WholeNoDiscard Proofs.exEnv Proofs.wholeExOrc b.expr) ∧
    Proofs.WholeReg Proofs.wholeExWorld Proofs.wholeExFiles ∧
    Proofs.exit0_Good ⟨Proofs.exEnv, Proofs.wholeExOrc, Proofs.exit0_dirsOf Proofs.exit0_exConf, Proofs.wholeExFiles,
      Proofs.wholeExWorld⟩ ∧
    Proofs.World.SingleFault Plan.none :=
  ⟨rfl, rfl, rfl, by decide, Proofs.exit0_ex_nd, Proofs.wholeEx_reg, Proofs.exit0_ex_good, Proofs.World.singleFault_none⟩

/-- **The example above does NOT satisfy the remaining hypothesis `h0`.**  In `Proofs.wholeExWorld` the
destination `/y/new` does not exist, so the fault-free run of that configuration fails to open it and ends with exit
status 1 (evaluated) - on that world the theorem is vacuous. -/
example : (runPlan Plan.none (mainP Proofs.exEnv Proofs.wholeExOrc true Proofs.exit0_exConf Proofs.wholeExFiles [])
    Proofs.wholeExWorld 0 []).1.1 = 1 := by
  rw [(Proofs.dry_runNone_eq (mainP Proofs.exEnv Proofs.wholeExOrc true Proofs.exit0_exConf Proofs.wholeExFiles [])
    Proofs.wholeExWorld 0 []).1, Proofs.Own.mainP_eq]
  unfold Proofs.Own.mainK
  simp only [Proofs.exit0_exConf, Proofs.Own.blocks_cons, Proofs.Own.blocks_nil, Proofs.Own.paths_cons, Proofs.Own.paths_nil,
    Proofs.dry_walk_G _ _ Proofs.exit0_exExpr (by decide)]
  simp only [Proofs.exit0_exExpr, eval]
  decide +kernel

/-- Complete non-vacuity of `C01_main_exit0_partial`, exit status included: the same configuration and registry on
`Proofs.dry_f21World2` (the two-message world WITH `/y/new` and `/y/cur`): every hypothesis holds (`Proofs.dry_ex_runs.1`
is the evaluated exit status 0), so both messages are placed in `/y/new`. -/
example := C01_main_exit0_partial Proofs.exEnv Proofs.wholeExOrc true Proofs.exit0_exConf Proofs.wholeExFiles []
    Proofs.dry_f21World2 Plan.none rfl rfl rfl (by decide) Proofs.exit0_ex_nd Proofs.dry_f21_reg2 Proofs.dry_ex_good
    Proofs.World.singleFault_none Proofs.dry_ex_runs.1

/-- The statement without `exit0_Good` (none of `nodup`, `uniq0`, `listed`, `norev`) and without `asksFree` - kept as a
named proposition: exit status 0 of a real run with at most one fault, rules without discard, implies that every registered
message of a configured maildir is placed as its verdict says.  It is FALSE (`C01_main_exit0_false` below: a run in which a
message is processed twice, the effect of known finding F21, cf. `C06_F21_witness`). -/
def C01_main_exit0 : Prop :=
  ∀ (env : PEnv) (orc : EvalOracles) (confOk : Bool) (conf : List ConfBlock) (files : Files) (input : Bytes) (w : World) (plan : Plan),
    env.stdinMode = false → env.syntaxOnly = false → env.dryrun = false →
    (∀ b ∈ conf, Proofs.WholeNoDiscard env orc b.expr) → Proofs.WholeReg w files → Proofs.World.SingleFault plan →
    (runPlan plan (mainP env orc confOk conf files input) w 0 []).1.1 = 0 →
    ∀ D e n c, (D, e) ∈ Proofs.exit0_dirsOf conf → files.get D n = some c →
      Proofs.exit0_Placed env orc e D n c (runPlan plan (mainP env orc confOk conf files input) w 0 []).1.2
        (runPlan plan (mainP env orc confOk conf files input) w 0 []).2.1

/-- `C01_main_exit0` is refuted on a concrete run (evaluated): `maildir "/m" { match new flag "cur"  match !new move "/y" }` on the
two-message example with `/y` present.  The verdict on `/m/new/1.h` is `flag cur` (`finalDir = /m/cur`); the
fault-free real run ends with exit status 0, but it found the message again in `/m/cur`, where the second rule
sent it on to `/y/cur`: no message is registered in `/m/cur` at the end. -/
theorem C01_main_exit0_false : ¬ C01_main_exit0 := Proofs.dry_exit0_general_false

/-! ## loss-freedom and no-duplication BY LINEAGE

The theorems `C01_no_loss`, `C01_message_no_loss`, `C01_walk_no_loss`, `C01_main_no_loss` above are statements by CONTENT:
"some entry is bound to a file with these bytes".  A byte-identical other message satisfies them whatever happens to the
message itself (`Proofs.twin_by_content_is_weaker`: a world from which message 1 has been removed still satisfies `Intact`
for its bytes, through message 2).  The theorems of this section follow the IDENTITY of the message.

`Model/Lineage.lean`: a file of the abstract file system has an identity that `rename` preserves; new files are made by
`openat(O_CREAT|O_EXCL)` and `mkostemp` only.  Reading a trace from the left, `cur` is the file the most recent successful
`openat(O_RDONLY)` opened (`message_parse`: the message being processed), and a new file descends from what `cur` descended
from at the moment of its creation; a file that existed initially is its own origin.  `origin w tr g` / `originAt w w' g` is
the initial file of `w` that `g` descends from after the trace `tr` (the part of the trace of `w'` issued since `w`).  The
definition reads the trace only - not the program.

Since the origin of a file is a function of the file, the witnesses of two messages that were bound to different files
are different files, hence different entries (`C01_lineage_witnesses_distinct`): the map from messages to witnesses is
injective by construction.  The by-content theorems are corollaries (`C01_no_loss_of_exact`, `C01_main_no_loss_of_exact`:
the statements of `C01_no_loss`, `C01_main_no_loss` word for word, proved from the by-lineage ones). -/

/-- **Loss-freedom by lineage, one action list, EVERY fault plan** (any number of faults, any errno, short transfers; lists
without discard: move on one device or across devices, flag, flags, label, add-header, exec, any order and number).  The
message's entry is bound to the file `fid`; the lineage starts with "every file is its own origin, `fid` is the message
that has been opened".  After EVERY call some entry is bound to a file `g` that DESCENDS FROM `fid` and whose visible and
durable contents are both complete stages of the message. -/
theorem C01_no_loss_exact (env : PEnv) (ml : MatchList) (st : ExecSt) (w : World) (orig : Bytes) (plan : Plan)
    (hs : Proofs.Start w st orig) (hd : Proofs.NoDiscard ml) (fid : Nat)
    (hfid : w.lookup st.src.path st.ms.name = some fid) :
    ∀ w' ∈ (runPlan plan (matchesExec env ml st) w 0 []).2.2,
      ∃ p n g f, w'.lookup p n = some g ∧ (lineage w { cur := some fid, org := id } (traceSince w w')).org g = fid ∧
        w'.file g = some f ∧ f.data ∈ Proofs.stages st.ms orig ∧ f.durable ∈ Proofs.stages st.ms orig :=
  Proofs.exec_no_loss_exact env ml st w orig plan hs hd { cur := some fid, org := id } fid fid hfid rfl rfl

/-- The by-content theorem is a corollary of the by-lineage one. -/
theorem C01_no_loss_of_exact (env : PEnv) (ml : MatchList) (st : ExecSt) (w : World) (orig : Bytes) (plan : Plan)
    (hs : Proofs.Start w st orig) (hd : Proofs.NoDiscard ml) :
    ∀ w' ∈ (runPlan plan (matchesExec env ml st) w 0 []).2.2, Proofs.Intact w' (Proofs.stages st.ms orig) := by
  intro w' hw'
  obtain ⟨fid, hl, _⟩ := hs.bound
  obtain ⟨p, n, g, f, h1, _, h3, h4, _⟩ := C01_no_loss_exact env ml st w orig plan hs hd fid hl w' hw'
  exact ⟨p, n, g, f, h1, h3, h4⟩

/-- Non-vacuity on a world with TWO BYTE-IDENTICAL messages (`Proofs.twinExecWorld`: `/m/new/1.h` = file 0 and
`/m/new/2.h` = file 1 hold the same bytes; message 1 is being processed, list "move to `/m/cur`, then label"). -/
example : Proofs.Start Proofs.twinExecWorld Proofs.exSt Proofs.exOrig ∧ Proofs.NoDiscard Proofs.exList ∧
    Proofs.twinExecWorld.lookup Proofs.exSt.src.path Proofs.exSt.ms.name = some 0 ∧
    Proofs.twinExecWorld.file 0 = Proofs.twinExecWorld.file 1 :=
  ⟨Proofs.twin_start, Proofs.ex_noDiscard, by decide, by decide⟩

/-- The lineage statements evaluated on `Proofs.twinExecWorld`, under fault plans: without a fault the labelled copy (file 3) descends from file 0 and message 2
(file 1, same bytes) is under its own lineage; with the unlink of the original failing (one fault) the roll-back works and
ONE entry descends from file 0; with the roll-back failing as well (two faults) TWO entries descend from file 0. -/
example :
    Proofs.entryOrigins Proofs.twinExecWorld ⟨some 0, id⟩
        (runPlan Plan.none (matchesExec Proofs.exEnv Proofs.exList Proofs.exSt) Proofs.twinExecWorld 0 []).2.1 =
      [(Proofs.exNew, Proofs.wholeExName2, 1, 1), (Proofs.exCur, Proofs.twinName 9, 3, 0)] ∧
    Proofs.entryOrigins Proofs.twinExecWorld ⟨some 0, id⟩
        (runPlan (Proofs.failAt [16]) (matchesExec Proofs.exEnv Proofs.exList Proofs.exSt) Proofs.twinExecWorld 0 []).2.1 =
      [(Proofs.exNew, Proofs.wholeExName2, 1, 1), (Proofs.exCur, Proofs.twinName 8, 0, 0)] ∧
    Proofs.entryOrigins Proofs.twinExecWorld ⟨some 0, id⟩
        (runPlan (Proofs.failAt [16, 17]) (matchesExec Proofs.exEnv Proofs.exList Proofs.exSt) Proofs.twinExecWorld 0 []).2.1 =
      [(Proofs.exNew, Proofs.wholeExName2, 1, 1), (Proofs.exCur, Proofs.twinName 8, 0, 0), (Proofs.exCur, Proofs.twinName 9, 3, 0)] :=
  Proofs.twin_exec_runs

/-- **No duplicate by lineage, at most one fault.**  In a world whose entries are bound to existing files (`hwf`) and in
which the message's file has no second link (`hnl`), after the run of an action list without discard under a plan with at
most one fault EXACTLY ONE entry is bound to a file that descends from the message's file: there is one (`p`, `n`, `g`),
and every entry bound to a descendant is that entry.  (With two faults the statement fails: the example above.) -/
theorem C01_no_duplicate_lineage_single_fault (env : PEnv) (ml : MatchList) (st : ExecSt) (w : World) (orig : Bytes) (plan : Plan)
    (hs : Proofs.StartAt w st orig) (hd : Proofs.NoDiscard ml) (hp : Proofs.World.SingleFault plan) (fid : Nat)
    (hfid : w.lookup st.src.path st.ms.name = some fid)
    (hwf : ∀ q m g, w.lookup q m = some g → g < w.nextFid)
    (hnl : ∀ q m, w.lookup q m = some fid → (q, m) = (st.src.path, st.ms.name)) :
    let r := runPlan plan (matchesExec env ml st) w 0 []
    ∃ p n g, r.2.1.lookup p n = some g ∧ (lineage w { cur := some fid, org := id } (traceSince w r.2.1)).org g = fid ∧
      ∀ q m g', r.2.1.lookup q m = some g' →
        (lineage w { cur := some fid, org := id } (traceSince w r.2.1)).org g' = fid → (q, m) = (p, n) :=
  Proofs.exec_no_duplicate_lineage_single_fault env ml st w orig plan hs hd hp fid hfid hwf hnl

/-- Non-vacuity on the world with two byte-identical messages: all hypotheses, the plan failing call 16 (the unlink of the
original in `maildir_write`) with `EIO`. -/
example := C01_no_duplicate_lineage_single_fault Proofs.exEnv Proofs.exList Proofs.exSt Proofs.twinExecWorld Proofs.exOrig
  (Proofs.World.singlePlan 16 (.fail "EIO")) Proofs.twin_startAt Proofs.ex_noDiscard (Proofs.World.singleFault_single _ _) 0
  (by decide) Proofs.twin_wf.1 Proofs.twin_wf.2

/-- **One maildir, by lineage**: `walk` under EVERY fault plan, every fuel, registry consistent with the world, maildir's
handle open on its path, rules without discard: after EVERY call, every registered message, bound initially to the file
`f0`, has an entry bound to a file that descends from `f0` and whose visible and durable contents are complete versions
of it. -/
theorem C01_walk_no_loss_exact (env : PEnv) (orc : EvalOracles) (expr : Expr) (fuel : Nat) (md : Maildir) (st : MainSt)
    (w : World) (plan : Plan) (hnd : Proofs.WholeNoDiscard env orc expr) (hreg : Proofs.WholeReg w st.files)
    (hmd : Proofs.WholeMdOk w md) :
    ∀ w' ∈ (runPlan plan (walk env orc expr fuel md st) w 0 []).2.2,
      ∀ dir name c f0, st.files.get dir name = some c → w.lookup dir name = some f0 →
        ∃ d n g f, w'.lookup d n = some g ∧ originAt w w' g = f0 ∧ w'.file g = some f ∧
          Proofs.WholeVersion env orc [expr] c f.data ∧ Proofs.WholeVersion env orc [expr] c f.durable := by
  intro w' hw' dir name c f0 hc hl
  -- `originAt w w' g` unfolds to `(linAt w Lin.init w').org g` of the Proofs theorem, and `Lin.init.org f0 = f0`
  obtain ⟨d, n, g, f, h1, _, h3, h4, h5, h6⟩ :=
    Proofs.lin_walk_no_loss env orc expr fuel md st w plan hnd hreg hmd w' hw' dir name c f0 hc hl
  exact ⟨d, n, g, f, h1, h3, h4, h5, h6⟩

/-- **A whole run, by lineage**: maildir mode (`-` not given), any configuration without discard, any population
consistent with the registry, EVERY fault plan, after EVERY call: every message of the registry, bound initially to the
file `f0`, has an entry bound to a file `g` that DESCENDS FROM `f0` (`originAt w w' g = f0`) and whose visible content and
content on stable storage are complete versions of it.  Two messages bound to different files never share a witness
(`C01_lineage_witnesses_distinct`).  Scope of "any configuration": as for `C01_main_no_loss`; the conditions `command`,
`isdirectory` and file dates issue their calls inside the run (`Model.evalP`) and are answered under the fault plan like
every other call, and `WholeNoDiscard` excludes a `discard` whatever they answer. -/
theorem C01_main_no_loss_exact (env : PEnv) (orc : EvalOracles) (confOk : Bool) (conf : List ConfBlock) (files : Files) (input : Bytes)
    (w : World) (plan : Plan) (hm : env.stdinMode = false) (hnd : ∀ b ∈ conf, Proofs.WholeNoDiscard env orc b.expr)
    (hreg : Proofs.WholeReg w files) :
    ∀ w' ∈ (runPlan plan (mainP env orc confOk conf files input) w 0 []).2.2,
      ∀ dir name c f0, files.get dir name = some c → w.lookup dir name = some f0 →
        ∃ d n g f, w'.lookup d n = some g ∧ originAt w w' g = f0 ∧ w'.file g = some f ∧
          Proofs.WholeVersion env orc (conf.map (·.expr)) c f.data ∧
          Proofs.WholeVersion env orc (conf.map (·.expr)) c f.durable := by
  intro w' hw' dir name c f0 hc hl
  obtain ⟨d, n, g, f, h1, _, h3, h4, h5, h6⟩ :=
    Proofs.lin_main_no_loss env orc confOk conf files input w plan hm hnd hreg w' hw' dir name c f0 hc hl
  exact ⟨d, n, g, f, h1, h3, h4, h5, h6⟩

/-- The witnesses are distinct: in any world, entries bound to files of different origin are different entries, bound to
different files.  So `C01_main_no_loss_exact` gives every registered message (distinct initial files) an entry of its own. -/
theorem C01_lineage_witnesses_distinct (w w' : World) (d n d' n' : Bytes) (g g' f0 f0' : Nat)
    (h1 : w'.lookup d n = some g) (ho : originAt w w' g = f0) (h2 : w'.lookup d' n' = some g') (ho' : originAt w w' g' = f0')
    (hne : f0 ≠ f0') : g ≠ g' ∧ (d, n) ≠ (d', n') :=
  Proofs.lin_witnesses_distinct
    (w0 := w) (l0 := Lin.init) h1 ho h2 ho' hne

/-- `C01_main_no_loss` is a corollary of `C01_main_no_loss_exact`. -/
theorem C01_main_no_loss_of_exact (env : PEnv) (orc : EvalOracles) (confOk : Bool) (conf : List ConfBlock) (files : Files) (input : Bytes)
    (w : World) (plan : Plan) (hm : env.stdinMode = false) (hnd : ∀ b ∈ conf, Proofs.WholeNoDiscard env orc b.expr)
    (hreg : Proofs.WholeReg w files) :
    ∀ w' ∈ (runPlan plan (mainP env orc confOk conf files input) w 0 []).2.2,
      ∀ dir name c, files.get dir name = some c →
        ∃ d n fid f, w'.lookup d n = some fid ∧ w'.file fid = some f ∧
          Proofs.WholeVersion env orc (conf.map (·.expr)) c f.data := by
  intro w' hw' dir name c hc
  obtain ⟨f0, hl, _, _⟩ := hreg dir name c hc
  obtain ⟨d, n, g, f, h1, _, h3, h4, _⟩ := C01_main_no_loss_exact env orc confOk conf files input w plan hm hnd hreg w' hw' dir name c f0 hc hl
  exact ⟨d, n, g, f, h1, h3, h4⟩

/-- Non-vacuity of `C01_main_no_loss_exact` / `C01_walk_no_loss_exact` on the world with two byte-identical messages
(`Proofs.twinWorld`, registry `Proofs.twinFiles`, `maildir "/m" { match all flag "cur" label "x" }`): maildir mode, no
discard, the registry is consistent; the two registered messages have the SAME content and are bound to DIFFERENT files
(0 and 1), so the by-content theorem can be satisfied by one entry for both while this one demands two. -/
example : Proofs.exEnv.stdinMode = false ∧
    (∀ b ∈ Proofs.wholeExConf, Proofs.WholeNoDiscard Proofs.exEnv Proofs.wholeExOrc b.expr) ∧
    Proofs.WholeReg Proofs.twinWorld Proofs.twinFiles ∧
    Proofs.twinFiles.get Proofs.exNew Proofs.exName = Proofs.twinFiles.get Proofs.exNew Proofs.wholeExName2 ∧
    Proofs.twinWorld.lookup Proofs.exNew Proofs.exName = some 0 ∧
    Proofs.twinWorld.lookup Proofs.exNew Proofs.wholeExName2 = some 1 :=
  ⟨rfl, Proofs.wholeEx_nd, Proofs.twin_reg, by decide, by decide, by decide⟩

/-! ## the fuel of the walk

See the section "the fuel of the model's `readdir` loops" of `Props/C04.lean` for the general statements
(`C04_fuel_irrelevant*`, `C04_fuel_suffices_conform`). -/

/-- **The standard fuel suffices for a run that ends without the error flag**: maildir mode, real run, rules without
discard and without conditions that ask the operating system (`asksFree`), registry consistent, at most one fault,
`exit0_Good` (no directory walked twice, distinct names, EVERY name of a walked directory registered, no message sent to a
directory still to be walked - the hypotheses of `C01_main_exit0_partial`): if the run ends with the error flag clear, then `fuelOut = false` - no walk stopped for lack of
fuel, for every value of `env.extraFuel` (in particular 0: the allowance `2n+8`).  Bound used by the proof: the walk of `new`
makes `a+3` iterations (`a` names, `.`, `..`, end), the walk of `cur` at most `a+b+3` (`b` names it had, plus those that
arrived from `new`), and `2a+b+6 ≤ 2n+8` for `n = a+b` registered files. -/
theorem C01_walk_fuel_suffices (env : PEnv) (orc : EvalOracles) (confOk : Bool) (conf : List ConfBlock) (files : Files)
    (input : Bytes) (w : World) (plan : Plan)
    (hm : env.stdinMode = false) (hsyn : env.syntaxOnly = false) (hdry : env.dryrun = false)
    (hfree : ∀ b ∈ conf, Proofs.asksFree b.expr = true)
    (hnd : ∀ b ∈ conf, Proofs.WholeNoDiscard env orc b.expr) (hreg : Proofs.WholeReg w files)
    (hgood : Proofs.exit0_Good ⟨env, orc, Proofs.exit0_dirsOf conf, files, w⟩)
    (hpl : Proofs.World.SingleFault plan)
    (he : (runPlan plan (mainP env orc confOk conf files input) w 0 []).1.2.error = false) :
    (runPlan plan (mainP env orc confOk conf files input) w 0 []).1.2.fuelOut = false :=
  Proofs.exit0_main_fuel ⟨env, orc, Proofs.exit0_dirsOf conf, files, w⟩ hgood hm hsyn confOk conf input rfl
    (fun b hb => Proofs.exit0_step env orc b.expr (hfree b hb) fun _ => hnd b hb) hreg plan hpl he

/-- Non-vacuity: the hypotheses of `C01_main_exit0_partial` on `Proofs.dry_f21World2` (see there), the error flag of that run
is clear because its exit status is 0. -/
example := C01_walk_fuel_suffices Proofs.exEnv Proofs.wholeExOrc true Proofs.exit0_exConf Proofs.wholeExFiles []
    Proofs.dry_f21World2 Plan.none rfl rfl rfl (by decide) Proofs.exit0_ex_nd Proofs.dry_f21_reg2 Proofs.dry_ex_good
    Proofs.World.singleFault_none
    (Proofs.exit0_status_zero Proofs.exEnv Proofs.wholeExOrc true Proofs.exit0_exConf Proofs.wholeExFiles []
      Proofs.dry_f21World2 Plan.none rfl Proofs.dry_ex_runs.1)

/-- **Along an observed trace** (`Model.conform`: the next call of the program must be the next call of the trace, the
observed result must be possible in the abstract file system): with `env.extraFuel ≥ |tr|` a `done` answer never has
`fuelOut`.  This is the allowance the driver uses for the conformance check. -/
theorem C01_walk_fuel_suffices_conform (env : PEnv) (orc : EvalOracles) (confOk : Bool) (conf : List ConfBlock) (files : Files)
    (input : Bytes) (w : World) (tr : List (Call × Res)) (hlen : tr.length ≤ env.extraFuel)
    (a : Nat × MainSt) (w' : World) (rest : List (Call × Res))
    (hd : conform (mainP env orc confOk conf files input) w tr 0 = .done a w' rest) : a.2.fuelOut = false :=
  Proofs.Fuel.fuel_suffices_conform env orc confOk conf files input w tr hlen hd

/-- **The standard fuel CAN run out** (evaluated, fault-free): `/m/new` holds seven files the registry does not list
(`WholeReg` holds: nothing is registered); the walk gets `2·0+8` iterations, `.`, `..` and six names use them up, the seventh
name is never seen, `/m/cur` is never opened - and the run ends with `fuelOut = true`.  With an allowance of 5 more
iterations the run is complete and ends with `fuelOut = false`.  So the hypotheses of `C01_walk_fuel_suffices` (`listed`:
every name of a walked directory is registered) are not decoration; with a complete registry several faults are needed to
get there (each stray placeholder of a failed roll-back costs two). -/
theorem C01_fuel_can_run_out :
    Proofs.WholeReg Proofs.fuelExWorld [] ∧
    (runPlan Plan.none (mainP Proofs.exEnv Proofs.wholeExOrc true Proofs.dry_f21Conf [] []) Proofs.fuelExWorld 0 []).1.2.fuelOut = true ∧
    (runPlan Plan.none (mainP (Proofs.Fuel.withFuel Proofs.exEnv 5) Proofs.wholeExOrc true Proofs.dry_f21Conf [] [])
      Proofs.fuelExWorld 0 []).1.2.fuelOut = false :=
  ⟨Proofs.fuelEx_reg, Proofs.fuelEx_runs.1, Proofs.fuelEx_runs.2⟩

end Mdsort.Props
