import Mdsort.Proofs.Opts
import Mdsort.Proofs.Interp
import Mdsort.Proofs.Captures
import Mdsort.Proofs.MainTextMacros
import Mdsort.Proofs.WorldVerdict
import Mdsort.Proofs.LimitsSticky
import Mdsort.Proofs.Literal

/-!
# C12 - interpolation is exact and single-pass: message content is data, never template

`Model.interpolate` transcribes `interpolate`, `isbackref` (with `strtoul`), `ismacro` and
`match_backref` of match.c.  `Spec.interp` reads the template once into tokens (literal byte,
`\#`, `\#.#`, `\#\.`, `${macro}`), replaces each token, and concatenates: by construction
nothing that was substituted is scanned again.
-/

namespace Mdsort.Props
open Mdsort Mdsort.Model

/-- `match_backref` is a double list lookup in `Proofs.ruleCaps before`.  NOTE: `ruleCaps`
(Proofs/Interp.lean) is defined by the same walk as `Model.matchBackref` (reverse, `findIdx?` of the last `match`
sentinel, `take`, `filter isInterp`), so this statement only repackages the model; it is the bridge that lets
`C12_interpolate` speak about capture lists.  That the lookup means "the N-th capture of the M-th interpolating
pattern of the SAME rule, never another rule's, an error if absent" is `C12_backref_rule_local`,
`C12_backref_ignores_other_rules` and `C12_backref_needs_sentinel` below, which are stated on an explicit
decomposition `pre ++ [sentinel] ++ entries` of the match list. -/
theorem C12_backref_lookup (before : MatchList) (br : Backref) :
    matchBackref before br = ((Proofs.ruleCaps before)[br.mi]?).bind (fun gs => gs[br.si]?) :=
  Proofs.matchBackref_eq before br

/-- For every match list, macro table and template of the documented syntax, the C loop
computes exactly the one-pass token substitution (including which templates are errors).
Hypotheses: `hdom` - the template is not of the form `\N.` followed by a non-digit (there `isbackref` hands
the rest to `strtoul`, which accepts white space and a sign: `\1. 2`, `\1.-0`; such templates are interpolated
by the code but nothing is proved about them); `hn` - captured texts and macro values hold no NUL (captures are
slices of C strings, so this always holds of what `regexec` can return on a C string; `interpolate.go`'s fuel is
the template length and is sufficient - implied by this equation, the specification has no fuel). -/
theorem C12_interpolate (before : MatchList) (macros : Option (List (Bytes × Bytes))) (t : Bytes)
    (hdom : Spec.itokens t ≠ .undefined) (hn : Proofs.NulFree before macros) :
    Spec.interp (Proofs.ruleCaps before) macros t = some (interpolate before macros t) :=
  Proofs.interpolate_eq_spec before macros t hdom hn

/-- Existing message content cannot make a label rule fail (or succeed): whether `match_interpolate` of a
`label` entry succeeds does not depend on the message.  (Only success / failure is compared here; WHAT value is
set - the existing labels joined in verbatim - is `C12_label_value` below.) -/
theorem C12_label_ignores_message (macros : Option (List (Bytes × Bytes))) (ml : MatchList) (i : Nat)
    (mh : Match) (hty : mh.ty = .label) (msgs1 msgs2 : Nat → Msg) :
    (matchInterpolate macros ml i mh msgs1).isSome = (matchInterpolate macros ml i mh msgs2).isSome :=
  Proofs.label_interpolation_ignores_message macros ml i mh hty msgs1 msgs2

/-- The existing labels as `match_interpolate` copies them (line breaks of a decoded value become a space). -/
def C12_existingLabels (m : Msg) : Bytes :=
  match getHeader m (ofString "X-Label") with
  | none => []
  | some ls => ((ls.map labelSafe).intersperse [32]).flatten

/-- What a `label "s"` entry sets: the existing `X-Label` values AS `message_get_header` RETURNS THEM
(all occurrences, each unfolded and RFC 2047-decoded; since /repo 71eba6c with every `\n` / `\r` of a decoded value
turned into a space, `Model.labelSafe`), joined by one space, one space, and the interpolation `v` of the configured
string - the existing text is appended to, never interpolated; the whole is cut at its first NUL.  That the value is
safe to write back is `C08_label_rewrite_preserves` (`message_set_header` itself replaces line breaks since /repo 4ac7c48: `Model.setHeader`). -/
theorem C12_label_value (macros : Option (List (Bytes × Bytes))) (ml : MatchList) (i : Nat) (mh : Match)
    (msgs : Nat → Msg) (hty : mh.ty = .label) (s v : Bytes) (hs : mh.strings = [s])
    (hv : interpolate (ml.take i) macros s = some v) :
    matchInterpolate macros ml i mh msgs =
      some (mh, some (mh.part, setHeader (msgs mh.part) (ofString "X-Label")
        (cstr ((if (C12_existingLabels (msgs mh.part)).isEmpty then C12_existingLabels (msgs mh.part)
          else C12_existingLabels (msgs mh.part) ++ [32]) ++ v)))) := by
  unfold matchInterpolate C12_existingLabels
  simp only [hty, hs, matchInterpolate.add, hv]
  split <;> simp_all

/-! ## Non-vacuity -/

/-- A rule whose header pattern captured `["user@x", "user"]`, macro `path` = `/m/new/1`: the
template `\1-${path}\0\.` denotes `user-` ++ `/m/new/1` ++ `user@x` ++ `.` (byte lists below). -/
example :
    Spec.interp
      (Proofs.ruleCaps
        [{ ty := .mtch, lno := 1, part := 0 },
         { ty := .header, lno := 1, part := 0,
           subs := [⟨[117, 115, 101, 114, 64, 120], some (0, 6)⟩, ⟨[117, 115, 101, 114], some (0, 4)⟩] }])
      (some [([112, 97, 116, 104], [47, 109, 47, 110, 101, 119, 47, 49])])
      [92, 49, 45, 36, 123, 112, 97, 116, 104, 125, 92, 48, 92, 46]
    = some (some [117, 115, 101, 114, 45, 47, 109, 47, 110, 101, 119, 47, 49,
                  117, 115, 101, 114, 64, 120, 46]) := by
  decide +kernel

/-- The match list of the example above, by name. -/
def C12_before : MatchList :=
  [{ ty := .mtch, lno := 1, part := 0 },
   { ty := .header, lno := 1, part := 0,
     subs := [⟨[117, 115, 101, 114, 64, 120], some (0, 6)⟩, ⟨[117, 115, 101, 114], some (0, 4)⟩] }]

/-- Both hypotheses of `C12_interpolate` on `C12_before` (`NulFree`, template inside the documented syntax). -/
example : Proofs.NulFree C12_before (some [(ofString "path", ofString "/m/new/1")]) ∧
    Spec.itokens (ofString "\\1-${path}\\0\\.") ≠ .undefined := by
  refine ⟨⟨by decide_lit, ?_⟩, by decide_lit⟩
  intro ms h; cases h; decide_lit

/-- The model side of the equation of `C12_interpolate` on `C12_before`. -/
example : interpolate C12_before (some [(ofString "path", ofString "/m/new/1")]) (ofString "\\1-${path}\\0\\.") =
    some (ofString "user-/m/new/1user@x.") := by decide_lit

/-- Hypotheses and conclusions of the three `_is_error` theorems on concrete templates: `a-\2/b` (the pattern has
groups 0 and 1 only), `a-${nosuch}/b`, `${path}` where no macro table exists, and the unterminated `a-${path`. -/
example :
    Proofs.Plain (ofString "a-") ∧ Proofs.CleanStart (ofString "/b") ∧ matchBackref C12_before ⟨0, 2⟩ = none ∧
    interpolate C12_before none (ofString "a-\\2/b") = none ∧
    (∀ c ∈ ofString "nosuch", c ≠ 125) ∧
    interpolate C12_before (some [(ofString "path", [47])]) (ofString "a-${nosuch}/b") = none ∧
    interpolate C12_before none (ofString "a-${path}") = none ∧
    interpolate C12_before (some [(ofString "path", [47])]) (ofString "a-${path") = none := by
  decide +kernel

/-- The template `\1.x` is outside the documented syntax. -/
example : Spec.itokens [92, 49, 46, 120] = .undefined := by
  decide +kernel

/-! ## Captures are exact; back-references are local to a rule -/

/-- A header / body / date pattern that matched (`regexec` reported `groups` on the subject `val`)
appends exactly one entry.  Its i-th captured text is, for a set group `[so, eo)`, the bytes
`val[so], ..., val[eo-1]` in order - lower-cased iff the pattern has flag `l`, upper-cased iff it
has `u` (`Spec.capture`, `Spec.caseFold`; both flags together are rejected by the parser, the
implementation would then uppercase) - and the empty string for an unset group. -/
theorem C12_captures_exact (env : Env) (ty : MType) (lno part : Nat) (p : Pat) (key val : Bytes) (st : St)
    (groups : List (Option (Nat × Nat))) (hty : ty = .header ∨ ty = .body ∨ ty = .date)
    (hrx : env.rx p val = .ok groups) :
    ∃ e : Match, exprRegexec env ty lno part p key val st = (.match, { st with ml := st.ml ++ [e] }) ∧
      e.ty = ty ∧ e.part = part ∧
      e.subs = groups.map fun g => { str := Spec.capture p.lcase p.ucase val g, off := g } :=
  ⟨_, Proofs.exprRegexec_ok env ty lno part p key val st groups hty hrx, rfl, rfl, rfl⟩

/-- For offsets inside the subject the specified capture is the corresponding part of the subject. -/
theorem C12_capture_is_slice (l u : Bool) (a m b : Bytes) :
    Spec.capture l u (a ++ m ++ b) (some (a.length, a.length + m.length)) = m.map (Spec.caseFold l u) :=
  Proofs.capture_split l u a m b

/-- `\M.N` looks at the entries AFTER the last `match` sentinel only: it is the N-th capture of the
M-th interpolating (header / body) entry among them. -/
theorem C12_backref_rule_local (pre entries : MatchList) (sentinel : Match) (hs : sentinel.ty = .mtch)
    (hent : ∀ m ∈ entries, m.ty ≠ .mtch) (br : Backref) :
    matchBackref (pre ++ [sentinel] ++ entries) br =
      ((entries.filter (·.ty.isInterp))[br.mi]?).bind fun m => (m.subs[br.si]?).map (·.str) :=
  Proofs.matchBackref_rule_local pre entries sentinel hs hent br

/-- Captures of other rules are never used: what precedes the rule's sentinel is irrelevant. -/
theorem C12_backref_ignores_other_rules (pre pre' entries : MatchList) (sentinel sentinel' : Match)
    (hs : sentinel.ty = .mtch) (hs' : sentinel'.ty = .mtch) (hent : ∀ m ∈ entries, m.ty ≠ .mtch) (br : Backref) :
    matchBackref (pre ++ [sentinel] ++ entries) br = matchBackref (pre' ++ [sentinel'] ++ entries) br :=
  Proofs.matchBackref_pre_irrelevant pre pre' entries sentinel sentinel' hs hs' hent br

/-- With no sentinel before it an entry can refer to nothing. -/
theorem C12_backref_needs_sentinel (before : MatchList) (h : ∀ m ∈ before, m.ty ≠ .mtch) (br : Backref) :
    matchBackref before br = none :=
  Proofs.matchBackref_no_sentinel before h br

/-- End to end, for `match header ... /re/ ... move "\N"`: after the rule's sentinel the pattern
matched with `groups`; whatever other rules left before the sentinel (`pre`) and whatever follows
in this rule (`post`: further conditions, the actions), `\N` is the specified capture of group N
of that match, and an error if the pattern has no group N. -/
theorem C12_capture_end_to_end (env : Env) (ty : MType) (lno part : Nat) (p : Pat) (key val : Bytes) (f : MFlags)
    (groups : List (Option (Nat × Nat))) (pre post : MatchList) (sentinel : Match) (hs : sentinel.ty = .mtch)
    (hty : ty = .header ∨ ty = .body) (hpost : ∀ m ∈ post, m.ty ≠ .mtch)
    (hrx : env.rx p val = .ok groups) (N : Nat) :
    matchBackref ((exprRegexec env ty lno part p key val { ml := pre ++ [sentinel], flags := f }).2.ml ++ post) ⟨0, N⟩ =
      (groups[N]?).map (Spec.capture p.lcase p.ucase val) :=
  Proofs.capture_end_to_end env ty lno part p key val f groups pre post sentinel hs hty hpost hrx N

/-! ## Single pass -/

/-- `lit1 \1 lit2` with literal parts free of `\` and `$` (and `lit2` not continuing the
back-reference): the result is `lit1 ++ capture ++ lit2` for EVERY captured text - there is no
hypothesis on `cap1`, which may contain `\2`, `${path}`, `${`: it is copied, never scanned. -/
theorem C12_single_pass (before : MatchList) (macros : Option (List (Bytes × Bytes))) (lit1 lit2 cap1 : Bytes)
    (h1 : Proofs.Plain lit1) (h2 : Proofs.Plain lit2) (hc : Proofs.CleanStart lit2)
    (hm : matchBackref before ⟨0, 1⟩ = some cap1) :
    interpolate before macros (lit1 ++ [92, 49] ++ lit2) = some (lit1 ++ cstr cap1 ++ lit2) :=
  Proofs.interpolate_one_ref before macros lit1 lit2 cap1 h1 h2 hc hm

/-- A template without `\` and `$` is its own value. -/
theorem C12_literal (before : MatchList) (macros : Option (List (Bytes × Bytes))) (t : Bytes) (h : Proofs.Plain t) :
    interpolate before macros t = some t :=
  Proofs.interpolate_plain before macros t h

/-! ## An interpolation error has no effect -/

/-- Missing group: the template is an error. -/
theorem C12_missing_group_is_error (before : MatchList) (macros : Option (List (Bytes × Bytes))) (lit1 lit2 : Bytes)
    (h1 : Proofs.Plain lit1) (hc : Proofs.CleanStart lit2) (hm : matchBackref before ⟨0, 1⟩ = none) :
    interpolate before macros (lit1 ++ [92, 49] ++ lit2) = none :=
  Proofs.interpolate_missing_group before macros lit1 lit2 h1 hc hm

/-- Unknown macro (or a macro where no macro table exists): the template is an error. -/
theorem C12_unknown_macro_is_error (before : MatchList) (macros : Option (List (Bytes × Bytes)))
    (lit1 name rest : Bytes) (h1 : Proofs.Plain lit1) (hn : ∀ c ∈ name, c ≠ 125)
    (hm : ∀ ms, macros = some ms → ms.find? (·.1 == name) = none) :
    interpolate before macros (lit1 ++ [36, 123] ++ name ++ [125] ++ rest) = none :=
  Proofs.interpolate_unknown_macro before macros lit1 name rest h1 hn hm

/-- Unterminated `${`: the template is an error. -/
theorem C12_unterminated_macro_is_error (before : MatchList) (macros : Option (List (Bytes × Bytes)))
    (lit1 r : Bytes) (h1 : Proofs.Plain lit1) (hr : ∀ c ∈ r, c ≠ 125) :
    interpolate before macros (lit1 ++ [36, 123] ++ r) = none :=
  Proofs.interpolate_unterminated before macros lit1 r h1 hr

/-- One failing template of one entry (`Proofs.templates`: the path of move / isdirectory, each
string of label / exec / command, the value of add-header) makes `matches_interpolate` fail as a
whole: no partially interpolated list is ever handed on. -/
theorem C12_failed_template_fails_all (env : Env) (ml : MatchList) (msgs : Nat → Msg) (i : Nat) (mh : Match)
    (t : Bytes) (hi : ml[i]? = some mh) (ht : t ∈ Proofs.templates mh)
    (hf : interpolate (ml.take i) (some [(ofString "path", env.path)]) t = none) :
    matchesInterpolate env ml msgs = none :=
  Proofs.matchesInterpolate_none_of_template env ml msgs i mh t hi ht hf

/-- After a failed interpolation, whatever the calls return, `processMessage` issues no mutating call for that message: if IN THIS RUN
evaluation matches (`ev` = the value of `evalP` on the results `orcl` gives from the call after the parse phase on) and
the interpolation of the list it produced fails, every call is `openat(O_RDONLY)` / `read` / `close` or a call of
evaluation (`open("/dev/null")`, `fork`, `waitpid`, `close` for `command` conditions, `stat` for `isdirectory` and
file-time `date` conditions), after evaluation only `close`; the outcome is the error flag, the files, the log and the
maildir unchanged. -/
theorem C12_error_no_effect (env : PEnv) (orc : EvalOracles) (expr : Expr) (md : Maildir) (name : Bytes)
    (st : MainSt) (d : Handle) (content p n : Bytes) (mf : MFlags)
    (hd : md.dirH = some d) (hf : st.files.get md.path name = some content)
    (hp : pathjoin PATH_MAX md.path name = some p) (hn : strlcpyFits NAME_MAX1 name = some n)
    (hmf : flagsParse n = some mf)
    (orcl : Nat → Call → Res) (ev : Tri × St)
    (hrun : (Proofs.Own.runO orcl (evalP (Proofs.msgEnv env orc p) expr (parseMessage content) mf)
      (Proofs.Own.runO orcl (messageParseP d md.path name content) 0).2.2).1 = ev)
    (hev : ev.1 = .match)
    (hint : (matchesInterpolate (Proofs.msgEnv env orc p) ev.2.ml
      (partMsg (parseMessage content) ((getAttachments (parseMessage content)).getD []))).isNone = true) :
    (runOracle orcl (processMessage env orc expr md name st) 0 []).1 = ({ st with error := true }, md) ∧
    (∀ x ∈ (runOracle orcl (processMessage env orc expr md name st) 0 []).2,
      Proofs.ParseEvalCall d expr x.1 ∧ x.1.mutating = false) ∧
    ∃ E L, (runOracle orcl (processMessage env orc expr md name st) 0 []).2 =
        (runOracle orcl (messageParseP d md.path name content) 0 []).2 ++ E ++ L ∧
        (∀ x ∈ E, Proofs.EvalCallOf expr x.1) ∧ ∀ x ∈ L, ∃ fd, x.1 = .close fd := by
  obtain ⟨h1, h2, h3⟩ := Proofs.processMessage_noMatch_run env orc expr md name st d content p n mf hd hf hp hn hmf orcl ev hrun
    (.inr (.inr ⟨hev, hint⟩))
  refine ⟨?_, h1, h2⟩
  rw [h3, hev]
  simp

/-- For a rule tree without `command`, `isdirectory` and file-time `date` conditions: the statement in terms of the pure
evaluator - only the calls of parsing, no `fork`. -/
theorem C12_error_no_effect_pure (env : PEnv) (orc : EvalOracles) (expr : Expr) (md : Maildir) (name : Bytes)
    (st : MainSt) (d : Handle) (content p n : Bytes) (mf : MFlags)
    (hd : md.dirH = some d) (hf : st.files.get md.path name = some content)
    (hp : pathjoin PATH_MAX md.path name = some p) (hn : strlcpyFits NAME_MAX1 name = some n)
    (hmf : flagsParse n = some mf) (hfree : Proofs.asksFree expr = true)
    (hev : (eval (Proofs.msgEnv env orc p) (parseMessage content) expr 0 (parseMessage content)
      { ml := [], flags := mf }).1 = .match)
    (hint : (matchesInterpolate (Proofs.msgEnv env orc p)
      (eval (Proofs.msgEnv env orc p) (parseMessage content) expr 0 (parseMessage content) { ml := [], flags := mf }).2.ml
      (partMsg (parseMessage content) ((getAttachments (parseMessage content)).getD []))).isNone = true)
    (orcl : Nat → Call → Res) :
    (runOracle orcl (processMessage env orc expr md name st) 0 []).1 = ({ st with error := true }, md) ∧
    (∀ x ∈ (runOracle orcl (processMessage env orc expr md name st) 0 []).2,
      ((∃ nm, x.1 = .openRd d nm) ∨ (∃ fd, x.1 = .read fd) ∨ ∃ fd, x.1 = .close fd) ∧
        x.1.mutating = false ∧ x.1.isFork = false) ∧
    ∃ L, (runOracle orcl (processMessage env orc expr md name st) 0 []).2 =
        (runOracle orcl (messageParseP d md.path name content) 0 []).2 ++ L ∧ ∀ x ∈ L, ∃ fd, x.1 = .close fd := by
  obtain ⟨h1, h2, h3⟩ := Proofs.processMessage_noMatch_run_pure env orc expr md name st d content p n mf hd hf hp hn hmf hfree
    (.inr (.inr ⟨hev, hint⟩)) orcl
  refine ⟨?_, h1, h2⟩
  rw [h3, hev]
  simp

/-! ## Non-vacuity (captures, single pass, error) -/

/-- Subject `User@x.org`, flag `l`, groups `[0,6)`, `[0,4)` and an unset one: the entry carries
`user@x`, `user` and the empty string. -/
example :
    (exprRegexec Proofs.exampleEnv .header 3 0 { src := [46], lcase := true } [70, 114, 111, 109]
      [85, 115, 101, 114, 64, 120, 46, 111, 114, 103]
      { ml := [{ ty := .mtch, lno := 3, part := 0 }], flags := MFlags.empty }).2.ml =
    [{ ty := .mtch, lno := 3, part := 0 },
     { ty := .header, lno := 3, part := 0, pat := some { src := [46], lcase := true },
       subs := [⟨[117, 115, 101, 114, 64, 120], some (0, 6)⟩, ⟨[117, 115, 101, 114], some (0, 4)⟩, ⟨[], none⟩] }] := by
  decide +kernel

/-- Another rule captured `o`; this rule captured `ab`, `b`: `\1` is `b`. -/
example :
    matchBackref
      ([{ ty := .mtch, lno := 1, part := 0 },
        { ty := .header, lno := 1, part := 0, subs := [⟨[111], some (0, 1)⟩, ⟨[111], some (0, 1)⟩] }] ++
       [{ ty := .mtch, lno := 2, part := 0 }] ++
       [{ ty := .header, lno := 2, part := 0, subs := [⟨[97, 98], some (0, 2)⟩, ⟨[98], some (1, 2)⟩] },
        { ty := .move, lno := 2, part := 0 }]) ⟨0, 1⟩ = some [98] := by
  decide +kernel

/-- The captured text is `\2${path}${`; the template `a-\1/b` yields `a-\2${path}${/b`. -/
example :
    Proofs.Plain [97, 45] ∧ Proofs.Plain [47, 98] ∧ Proofs.CleanStart [47, 98] ∧
    interpolate
      [{ ty := .mtch, lno := 1, part := 0 },
       { ty := .header, lno := 1, part := 0,
         subs := [⟨[120], some (0, 1)⟩, ⟨[92, 50, 36, 123, 112, 97, 116, 104, 125, 36, 123], some (0, 11)⟩] }]
      (some [([112, 97, 116, 104], [47, 109])]) ([97, 45] ++ [92, 49] ++ [47, 98]) =
    some ([97, 45] ++ [92, 50, 36, 123, 112, 97, 116, 104, 125, 36, 123] ++ [47, 98]) := by
  decide +kernel

/-- Message `/m/new/1` (`Subject: x`), rule `match all move "\1"`: evaluation matches, there is
no group 1, interpolation fails - the hypotheses of `C12_error_no_effect` hold. -/
example :
    pathjoin PATH_MAX [47, 109, 47, 110, 101, 119] [49] = some [47, 109, 47, 110, 101, 119, 47, 49] ∧
    strlcpyFits NAME_MAX1 [49] = some [49] ∧ flagsParse [49] = some MFlags.empty ∧
    (eval (Proofs.msgEnv Proofs.examplePEnv Proofs.exampleOracles [47, 109, 47, 110, 101, 119, 47, 49])
      (parseMessage [83, 117, 98, 106, 101, 99, 116, 58, 32, 120, 10, 10, 98, 10])
      (.mtch 1 (.all 1) (.move 1 [92, 49])) 0
      (parseMessage [83, 117, 98, 106, 101, 99, 116, 58, 32, 120, 10, 10, 98, 10])
      { ml := [], flags := MFlags.empty }).1 = .match ∧
    (matchesInterpolate (Proofs.msgEnv Proofs.examplePEnv Proofs.exampleOracles [47, 109, 47, 110, 101, 119, 47, 49])
      (eval (Proofs.msgEnv Proofs.examplePEnv Proofs.exampleOracles [47, 109, 47, 110, 101, 119, 47, 49])
        (parseMessage [83, 117, 98, 106, 101, 99, 116, 58, 32, 120, 10, 10, 98, 10])
        (.mtch 1 (.all 1) (.move 1 [92, 49])) 0
        (parseMessage [83, 117, 98, 106, 101, 99, 116, 58, 32, 120, 10, 10, 98, 10])
        { ml := [], flags := MFlags.empty }).2.ml
      (partMsg (parseMessage [83, 117, 98, 106, 101, 99, 116, 58, 32, 120, 10, 10, 98, 10])
        ((getAttachments (parseMessage [83, 117, 98, 106, 101, 99, 116, 58, 32, 120, 10, 10, 98, 10])).getD []))).isNone
      = true := by
  simp only [eval]
  decide +kernel

/-! ## C12_macros - parse-time macro expansion (mdsort.conf(5), MACROS)

`expandMacros` (Model/Conf.lean) transcribes `expandmacros` of parse.y, the macro table `macrosInsert` /
`macrosUse` transcribes macro.c; both are part of the parser model that is compared with the real parser
(C14).  `Spec.mexpand` (Spec/Macro.lean) is the documented reading: one left-to-right pass into tokens
(`${name}` up to the first `}`, an unterminated `${`, or one byte), each token replaced on its own, the
results concatenated. -/

/-- For EVERY string, context (`action`: the string belongs to `move`, `label`, `exec`, or is the value of
`add-header`) and macro table, the loop of `expandmacros` yields exactly the token-wise substitution: each
`${name}` is replaced by the value the table holds for `name`, `${path}` stays in place in an action
context (it is replaced when the action runs) and is an error elsewhere, an undefined name and an
unterminated `${` are errors - and nothing that was substituted is read again (the result is the
concatenation).  Expanding only counts references: no name changes its value. -/
theorem C12_macros (action : Bool) (ms : List Macro) (s : Bytes) :
    (expandMacros action (s.length + 1) s ms []).map (·.1) = Spec.mexpand action (Spec.macroValue ms) s ∧
    (∀ out ms', expandMacros action (s.length + 1) s ms [] = some (out, ms') → Spec.macroValue ms' = Spec.macroValue ms) :=
  Proofs.MainText.mt_expandMacros_value action ms s

/-- (a)-(d) What the specification says about `pre ${name} post` (`pre` without `$`, `name` without `}`):
`pre`, then the value of `name` VERBATIM - whatever bytes it holds, `${other}` included, it is not expanded
again - or `${path}` itself in an action context, then the expansion of `post`; an error when `name` is
`path` outside an action, when `name` has no value, or when `post` is an error. -/
theorem C12_macros_reference (action : Bool) (value : Bytes → Option Bytes) (pre name post : Bytes)
    (hpre : (36 : UInt8) ∉ pre) (hname : (125 : UInt8) ∉ name) :
    Spec.mexpand action value (pre ++ 36 :: 123 :: (name ++ 125 :: post)) =
      match (if name = Spec.pathName then (if action then some Spec.pathRef else none) else value name),
            Spec.mexpand action value post with
      | some v, some rest => some (pre ++ v ++ rest)
      | _, _ => none :=
  Proofs.MainText.mt_mexpand_ref action value pre name post hpre hname

/-- (d) An unterminated `${` is an error, in every context. -/
theorem C12_macros_unterminated (action : Bool) (value : Bytes → Option Bytes) (pre tail : Bytes)
    (hpre : (36 : UInt8) ∉ pre) (htail : (125 : UInt8) ∉ tail) :
    Spec.mexpand action value (pre ++ 36 :: 123 :: tail) = none :=
  Proofs.MainText.mt_mexpand_unterminated action value pre tail hpre htail

/-- (e) A string without `$` is its own expansion, in every context and with every table (which it
leaves as it is). -/
theorem C12_macros_plain (action : Bool) (ms : List Macro) (s : Bytes) (h : (36 : UInt8) ∉ s) :
    Spec.mexpand action (Spec.macroValue ms) s = some s ∧ expandMacros action (s.length + 1) s ms [] = some (s, ms) :=
  ⟨Proofs.MainText.mt_mexpand_plain action _ s h, Proofs.MainText.mt_expandMacros_plain action ms s h⟩

/-- (a) Where the values come from (`macros_insert`).  A definition `name = "v"` in the file of a name the
table does not hold gives `${name}` the value `v` and changes no other name.  When the name was given with
`-D` (the entry is sticky and not yet shadowed) the definition in the file is accepted and DROPPED: every
name, this one included, keeps its value - the command line wins.  A further definition of a name that is
not such a fresh `-D` entry (a second one in the file, a second `-D`) is refused. -/
theorem C12_macro_definitions (ms : List Macro) (name v : Bytes) (lno : Nat) :
    (∀ sticky, isPathMacro name = false → Spec.macroValue ms name = none →
      ∃ ms', macrosInsert ms name v lno sticky = some ms' ∧ Spec.macroValue ms' name = some v ∧
        ∀ n, n ≠ name → Spec.macroValue ms' n = Spec.macroValue ms n) ∧
    (∀ m, ms.find? (fun x => x.name == name) = some m → m.sticky = true → m.defs = 0 → isPathMacro name = false →
      ∃ ms', macrosInsert ms name v lno false = some ms' ∧ Spec.macroValue ms' = Spec.macroValue ms) ∧
    (∀ sticky, (ms.any fun x => x.name == name) = true →
      (∀ x ∈ ms, x.name = name → x.sticky = false ∨ sticky = true ∨ x.defs ≠ 0) →
      macrosInsert ms name v lno sticky = none) :=
  ⟨fun sticky hp hn => Proofs.MainText.mt_insert_new ms name v lno sticky hp hn,
   fun m hf hs hd hp => Proofs.MainText.mt_insert_sticky ms name v lno m hf hs hd hp,
   fun sticky hex hno => Proofs.MainText.mt_insert_twice ms name v lno sticky hex hno⟩

/-! ## `-D name=value` on the command line -/

/-- The `-D` options of an accepted command line (`Model.parseArgs`, Model/Opts.lean) always form a macro table
(`macrosOfDefs` - the table `parseConfig` starts from - does not fail: the run from `argv` never meets `invalidDefs`
after the option loop), and in it every `-D name=value` is the value of `${name}` and OVERRIDES the file: a definition
`name = "v2"` on any line of the configuration is accepted and dropped, every name keeps its value
(`C12_macro_definitions`, second part, instantiated for every name given with `-D`). -/
theorem C12_D_overrides (permute : Bool) (args : List Bytes) (o : Opts) (h : parseArgs permute args = .ok o) :
    ∃ ms, macrosOfDefs o.defs [] = some ms ∧
      ∀ n v, (n, v) ∈ o.defs →
        Spec.macroValue ms n = some v ∧
        ∀ v2 lno, ∃ ms', macrosInsert ms n v2 lno false = some ms' ∧ Spec.macroValue ms' = Spec.macroValue ms := by
  obtain ⟨ms, hms⟩ := Proofs.Opts.parseArgs_defs_table permute args o h
  refine ⟨ms, hms, fun n v hm => ?_⟩
  obtain ⟨hp, hf⟩ := Proofs.Opts.macrosOfDefs_find o.defs [] ms hms n v hm
  refine ⟨by simp only [Spec.macroValue, hf]; rfl, fun v2 lno => ?_⟩
  exact Proofs.MainText.mt_insert_sticky ms n v2 lno _ hf rfl rfl hp

open Proofs.MainText in
/-- Non-vacuity, from `argv` to the strings of the tree: `mdsort -D a=D` over a file that also defines `a`. -/
example :
    (match parseArgs true ["-n".toUTF8.toList, "-D".toUTF8.toList, "a=D".toUTF8.toList] with
     | .ok o => mt_strings (parseConfig [] o.defs (fun _ => true)
         "a = \"1\"\nmaildir \"q\" { match all move \"${a}\" }".toUTF8.toList) == some [(["q".toUTF8.toList], ["D".toUTF8.toList])]
     | .error _ => false) = true := by
  decide_lit

/-! Non-vacuity and witnesses, on whole configuration files through `parseConfig` (the strings of the
accepted trees are read with `mt_strings`: per block the maildir paths and the strings of its rules). -/

open Proofs.MainText in
/-- `-D a=D` wins over `a = "1"` in the file (sticky override); without `-D` the file's value is used. -/
example :
    mt_strings (parseConfig [] [([97], [68])] (fun _ => true)
      "a = \"1\"\nmaildir \"q\" { match all move \"${a}\" }".toUTF8.toList) = some [(["q".toUTF8.toList], ["D".toUTF8.toList])] ∧
    mt_strings (parseConfig [] [] (fun _ => true)
      "a = \"1\"\nmaildir \"q\" { match all move \"${a}\" }".toUTF8.toList) = some [(["q".toUTF8.toList], ["1".toUTF8.toList])] := by
  decide_lit

open Proofs.MainText in
/-- (b) Single pass: a value that spells a macro reference is not expanded again - neither a value built
in the file from two macros (`d` = `${c}`), nor a `-D` value (`a` = `${b}`). -/
example :
    mt_strings (parseConfig [] [] (fun _ => true)
      "a = \"$\"\nb = \"{c}\"\nc = \"x\"\nd = \"${a}${b}\"\nmaildir \"${c}\" { match all label \"${d}\" }".toUTF8.toList) =
        some [(["x".toUTF8.toList], ["${c}".toUTF8.toList])] ∧
    mt_strings (parseConfig [] [([97], "${b}".toUTF8.toList)] (fun _ => true)
      "b = \"x\"\nmaildir \"${b}\" { match all label \"${a}\" }".toUTF8.toList) =
        some [(["x".toUTF8.toList], ["${b}".toUTF8.toList])] := by
  decide_lit

open Proofs.MainText in
/-- (c) `${path}` is left in place in the action contexts - `move`, `label`, `exec`, the value of
`add-header` - and rejects the file everywhere else: maildir path, header name, `isdirectory`, `command`,
`flags`, the name of `add-header`, the value of a macro. -/
example :
    mt_strings (parseConfig [] [] (fun _ => true)
      "maildir \"q\" { match all move \"${path}\" label \"a${path}\" exec \"${path}b\" add-header \"k\" \"${path}\" }".toUTF8.toList) =
        some [(["q".toUTF8.toList], ["${path}".toUTF8.toList, "a${path}".toUTF8.toList, "${path}b".toUTF8.toList,
                                     "k".toUTF8.toList, "${path}".toUTF8.toList])] ∧
    mt_isError (parseConfig [] [] (fun _ => true) "maildir \"${path}\" { match all break }".toUTF8.toList) = true ∧
    mt_isError (parseConfig [] [] (fun _ => true) "maildir \"q\" { match header \"${path}\" /x/ break }".toUTF8.toList) = true ∧
    mt_isError (parseConfig [] [] (fun _ => true) "maildir \"q\" { match isdirectory \"${path}\" break }".toUTF8.toList) = true ∧
    mt_isError (parseConfig [] [] (fun _ => true) "maildir \"q\" { match command \"${path}\" break }".toUTF8.toList) = true ∧
    mt_isError (parseConfig [] [] (fun _ => true) "maildir \"q\" { match all flags \"${path}\" }".toUTF8.toList) = true ∧
    mt_isError (parseConfig [] [] (fun _ => true) "maildir \"q\" { match all add-header \"${path}\" \"v\" }".toUTF8.toList) = true ∧
    mt_isError (parseConfig [] [] (fun _ => true) "a = \"${path}\"\nmaildir \"${a}\" { match all break }".toUTF8.toList) = true := by
  decide_lit

open Proofs.MainText in
/-- (d) An unknown macro and an unterminated `${` reject the file; `-D path=x` and the same `-D` twice are
refused before the file is read. -/
example :
    mt_isError (parseConfig [] [] (fun _ => true) "maildir \"q\" { match all move \"${nosuch}\" }".toUTF8.toList) = true ∧
    mt_isError (parseConfig [] [] (fun _ => true) "maildir \"q\" { match all move \"x${\" }".toUTF8.toList) = true ∧
    mt_isInvalidDefs (parseConfig [] [("path".toUTF8.toList, [120])] (fun _ => true) "maildir \"q\" { match all break }".toUTF8.toList) = true ∧
    mt_isInvalidDefs (parseConfig [] [([97], [49]), ([97], [50])] (fun _ => true) "maildir \"q\" { match all move \"${a}\" }".toUTF8.toList) = true := by
  decide_lit

open Proofs.MainText in
/-- The observation recorded in DESIGN.md (C12): values are substituted at parse time and the RESULT takes
part in the action-time pass.  With `a = "$"` and `b = "{path}"` the string `${a}${b}` of a `move` becomes
`${path}` while parsing (not expanded again then: single pass) - and that string is what `interpolate`
reads when the action runs, where `${path}` is the path of the message. -/
theorem C12_macros_value_reaches_action_pass (before : MatchList) (p : Bytes) :
    mt_strings (parseConfig [] [] (fun _ => true)
      "a = \"$\"\nb = \"{path}\"\nmaildir \"q\" { match all move \"${a}${b}\" }".toUTF8.toList) =
        some [(["q".toUTF8.toList], ["${path}".toUTF8.toList])] ∧
    interpolate before (some [(Spec.pathName, p)]) Spec.pathRef = some p :=
  ⟨by decide_lit, Proofs.MainText.mt_interpolate_path before p⟩

/-- Hypotheses of `C12_macros_reference` / `C12_macro_definitions` on concrete data: the string
`x/${d}/y` with `d` = `${z}` (not read again), and `x/${path}/y` inside and outside an action context. -/
example :
    Spec.mexpand false (Spec.macroValue [{ name := [100], value := "${z}".toUTF8.toList }]) "x/${d}/y".toUTF8.toList =
      some "x/${z}/y".toUTF8.toList ∧
    Spec.mexpand true (fun _ => none) "x/${path}/y".toUTF8.toList = some "x/${path}/y".toUTF8.toList ∧
    Spec.mexpand false (fun _ => none) "x/${path}/y".toUTF8.toList = none ∧
    Spec.macroValue [{ name := [100], value := [49], sticky := true }] [100] = some [49] := by
  decide_lit

def C12_hostileLabels : Msg := parseMessage (ofString "X-Label: \\9 ${nosuch} ${path}\n\nb\n")

/-- `C12_label_ignores_message` / `C12_label_value` on hostile content: the existing label reads
`\9 ${nosuch} ${path}`; `label "new"` succeeds and the text is written back as it is. -/
example :
    (matchInterpolate (some [(ofString "path", [47])]) [{ ty := .mtch, lno := 1, part := 0 }, { ty := .label, lno := 1, part := 0, strings := [ofString "new"] }] 1
      { ty := .label, lno := 1, part := 0, strings := [ofString "new"] } (fun _ => C12_hostileLabels)).map
      (fun r => r.2.map fun p => (messageWrite p.2).1) =
    some (some (ofString "X-Label: \\9 ${nosuch} ${path} new\n\nb\n")) := by decide_lit

end Mdsort.Props
