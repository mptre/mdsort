import Mdsort.Proofs.Literal
import Mdsort.Proofs.GenBridge
import Mdsort.Proofs.EvalAtt
import Mdsort.Proofs.EvalAttBridge
import Mdsort.Proofs.EvalAttMeaning
import Mdsort.Proofs.BlockSelect
import Mdsort.Proofs.WorldVerdict

/-!
# C03 - rules are evaluated with the documented first-match semantics

`Model.eval` transcribes `expr_eval_*` and the match-list primitives of match.c
(including the sentinel entries, `matches_merge`, the whole-list PASS/BREAK lookup of
`expr_eval_block`).  `Spec.evalBlock` is the documented reading of mdsort.conf(5) on the
rule tree the grammar builds (`Spec.parseBlock`).  The valuation of the matchers is whatever
the environment (regex engine, clock, commands, file system) makes it.
`Spec.evalBlockA` / `Spec.parseBlockA` (`Spec/RulesAtt.lean`) are the same with `attachment c`
conditions and `attachment { ... }` action blocks, over the parts of the message.
`Spec.parseBlockW` / `Spec.parseBlockAW` read the same trees with `pass` / `break` at ANY position of an
action list (what the grammar accepts); the theorems over them (`..._wide`) are the general ones, the
theorems over `parseBlock` / `parseBlockA` (control action last) their special cases.
-/

namespace Mdsort.Props
open Mdsort Mdsort.Model

/-- For every environment, message and rule tree in the domain, whenever the documented
evaluation is not decided by a pass or action pending from an enclosing block
(`crosses = false`: the complement is the pinned finding F11), the evaluator returns the
documented result and, on a match, the documented actions: the same actions other than
move/flag in the same order, and the same last move-or-flag.

What is compared: the verdict, and on a match the list of KEYS `(type, configuration line)` of the action entries
(`Proofs.mlKeys`, `Spec.actKey`) - not the operands of the actions (destination, label text, argv, header name/value): an
evaluator that attached the wrong string to the right action would satisfy the statement.  The operands are the subject of
C09 (`C09_destination_*`), C12 (interpolation) and C13 (argv).  Two actions of the same type on the same line have the same
key.  Of the move/flag actions only the LAST one is compared (`Spec.planOf`).  The valuation of a matcher is the model's own
`eval` on the bare matcher from the empty match list (`Proofs.valuation`), so the theorem is about the combinators (and, or,
!, match, blocks, pass, break), not about what a matcher means.

This is the special case "no attachment node in the tree, `pass` / `break` last in their action list
(`Spec.parseBlock`)" of `C03_eval_refines_spec_att_wide` below and is derived from it
(`Proofs/EvalAttBridge.lean`: on a tree without attachment nodes `Spec.parseBlockAW` / `Spec.evalBlockA` are
`Spec.parseBlockW` / `Spec.evalBlock` with every action tagged with part 0, `leaks` is never recorded and
`InDomain` implies `InDomainA`; what `Spec.parseBlock` accepts `Spec.parseBlockW` accepts, with the same
rules, and is `ctlPlaced`: `C03_ctl_last_is_special_case`). -/
theorem C03_eval_refines_spec (env : Env) (root : Msg) (f : MFlags) (e : Expr) (rules : List Spec.Rule)
    (hp : Spec.parseBlock e = some rules) (hd : Proofs.InDomain env e = true)
    (hl : (Spec.evalBlock (Proofs.valuation env root f) Proofs.actionErr rules).crosses = false) :
    let o := Spec.evalBlock (Proofs.valuation env root f) Proofs.actionErr rules
    let r := eval env root e 0 root { ml := [], flags := f }
    r.1 = o.res ∧ (o.res = .match → Spec.planOf (Proofs.mlKeys r.2.ml) = Spec.planOf (o.actions.filterMap Spec.actKey)) :=
  Proofs.eval_refines_spec env root f e rules hp hd hl

/-- How the witnesses below use a refinement theorem `h` (applied to the tree and its domain fact): the documented
evaluation `ho` is a match without recorded deviation, so `h` pins the evaluator's verdict and plan. -/
theorem refines_witness {env : Env} {root : Msg} {f : MFlags} {e : Expr} {rules : List Spec.Rule} {acts : List Expr}
    (ho : Spec.evalBlock (Proofs.valuation env root f) Proofs.actionErr rules = { res := .match, actions := acts, crosses := false })
    (h : (Spec.evalBlock (Proofs.valuation env root f) Proofs.actionErr rules).crosses = false →
      let o := Spec.evalBlock (Proofs.valuation env root f) Proofs.actionErr rules
      let r := eval env root e 0 root { ml := [], flags := f }
      r.1 = o.res ∧ (o.res = .match → Spec.planOf (Proofs.mlKeys r.2.ml) = Spec.planOf (o.actions.filterMap Spec.actKey))) :
    (eval env root e 0 root { ml := [], flags := f }).1 = .match ∧
    Spec.planOf (Proofs.mlKeys (eval env root e 0 root { ml := [], flags := f }).2.ml) = Spec.planOf (acts.filterMap Spec.actKey) := by
  have h' := h (by rw [ho])
  simp only [ho] at h'
  exact ⟨h'.1, h'.2 trivial⟩

theorem refinesA_witness {env : Env} {root : Msg} {f : MFlags} {e : Expr} {rules : List Spec.RuleA} {acts : List (Nat × Expr)}
    (ho : Spec.evalBlockA (Proofs.partCtx env root f) Proofs.actionErr root rules =
      { res := .match, actions := acts, crosses := false, leaks := false })
    (h : (Spec.evalBlockA (Proofs.partCtx env root f) Proofs.actionErr root rules).crosses = false →
      (Spec.evalBlockA (Proofs.partCtx env root f) Proofs.actionErr root rules).leaks = false →
      let o := Spec.evalBlockA (Proofs.partCtx env root f) Proofs.actionErr root rules
      let r := eval env root e 0 root { ml := [], flags := f }
      r.1 = o.res ∧
        (o.res = .match → Spec.planP (Proofs.mlKeysP r.2.ml) = Spec.planP (o.actions.filterMap Spec.actKeyP))) :
    (eval env root e 0 root { ml := [], flags := f }).1 = .match ∧
    Spec.planP (Proofs.mlKeysP (eval env root e 0 root { ml := [], flags := f }).2.ml) = Spec.planP (acts.filterMap Spec.actKeyP) := by
  have h' := h (by rw [ho]) (by rw [ho])
  simp only [ho] at h'
  exact ⟨h'.1, h'.2 trivial⟩

/-! ## Non-vacuity

A concrete environment, message and rule tree inside the domain: a nested block whose `break`
rule fires, a `pass` rule that fires at the top level, and a second nested block (entered with
the pass pending) in which a plain rule matches.  `crosses = false`, the result is a match and
the plan is not empty; `C03_eval_refines_spec` then gives the evaluator's result.

```
match all { match new reject break }
match ! header "X" /1/ label "x" pass
match all { match body /2/ discard
            match new or all move "/d" flag "cur" }
```
-/

/-- Regex engine: the pattern `1` matches everything, every other pattern nothing; message
file `/m/new/1`. -/
def exEnv : Env where
  rx := fun p _ => if p.src == [49] then .ok [some (0, 0)] else .nomatch
  command := fun _ => 0
  isDir := fun _ => false
  now := 0
  strptime := fun _ => none
  zoneName := fun _ => none
  fileTime := fun _ => none
  dryrun := false
  path := [47, 109, 47, 110, 101, 119, 47, 49]

def exMsg : Msg := { headers := [], body := [] }

def exTree : Expr :=
  .block 1 (.or 1 (.or 1
    (.mtch 2 (.all 2) (.block 2 (.mtch 3 (.new 3) (.and 3 (.reject 3) (.brk 3)))))
    (.mtch 4 (.neg 4 (.header 4 [[88]] { src := [49] })) (.and 4 (.label 4 [[120]]) (.pass 4))))
    (.mtch 5 (.all 5) (.block 5 (.or 5
      (.mtch 6 (.body 6 { src := [50] }) (.discard 6))
      (.mtch 7 (.or 7 (.new 7) (.all 7)) (.and 7 (.move 7 [47, 100]) (.flag 7 [99, 117, 114])))))))

def exRules : List Spec.Rule :=
  [.blk 2 (.all 2) [.acts 3 (.new 3) [.reject 3] .brk],
   .acts 4 (.neg 4 (.header 4 [[88]] { src := [49] })) [.label 4 [[120]]] .pass,
   .blk 5 (.all 5)
     [.acts 6 (.body 6 { src := [50] }) [.discard 6] .none,
      .acts 7 (.or 7 (.new 7) (.all 7)) [.move 7 [47, 100], .flag 7 [99, 117, 114]] .none]]

theorem ex_parse : Spec.parseBlock exTree = some exRules := by
  -- Here and below the trees and rule lists of the examples are unfolded by `rw`, not in the `simp` set: an unfolding
  -- inside `simp` is a definitional step without a proof term, and the kernel checks it by comparing the statement about
  -- the constant with the simplified one, which it does by evaluating the specification on the rules.
  rw [exTree, exRules]
  simp [Spec.parseBlock, Spec.parseRules, Spec.parseRule, Spec.isCond, Spec.splitActs,
    Spec.andChain, Spec.isCtlExpr, Spec.isActionExpr]

theorem ex_inDomain : Proofs.InDomain exEnv exTree = true := by decide +kernel

abbrev exVal := Proofs.valuation exEnv exMsg MFlags.empty

theorem ex_v_all (l : Nat) : exVal (.all l) = .match := by
  simp only [exVal, Proofs.valuation, eval]
theorem ex_v_new (l : Nat) : exVal (.new l) = .match := by
  simp only [exVal, Proofs.valuation, eval]; decide +kernel
theorem ex_v_header : exVal (.header 4 [[88]] { src := [49] }) = .nomatch := by
  simp only [exVal, Proofs.valuation, eval]; decide +kernel
theorem ex_v_body : exVal (.body 6 { src := [50] }) = .nomatch := by
  simp only [exVal, Proofs.valuation, eval]; decide +kernel

/-- The documented outcome: a match with four actions, no crossing. -/
theorem ex_outcome : Spec.evalBlock exVal Proofs.actionErr exRules =
    { res := .match,
      actions := [.reject 3, .label 4 [[120]], .move 7 [47, 100], .flag 7 [99, 117, 114]],
      crosses := false } := by
  rw [exRules]
  simp [Spec.evalBlock, Spec.evalRules, Spec.condVal, ex_v_all, ex_v_new, ex_v_header, ex_v_body,
    Proofs.actionErr, PATH_MAX]

/-- The hypotheses of `C03_eval_refines_spec` are satisfiable with a match and a non-empty plan,
and the theorem then pins the evaluator's result and plan. -/
theorem C03_nonvacuous :
    Spec.parseBlock exTree = some exRules ∧ Proofs.InDomain exEnv exTree = true ∧
    (Spec.evalBlock exVal Proofs.actionErr exRules).crosses = false ∧
    (eval exEnv exMsg exTree 0 exMsg { ml := [], flags := MFlags.empty }).1 = .match ∧
    Spec.planOf (Proofs.mlKeys (eval exEnv exMsg exTree 0 exMsg { ml := [], flags := MFlags.empty }).2.ml) =
      ([(.reject, 3), (.label, 4)], some (.flag, 7)) := by
  have h := refines_witness ex_outcome (C03_eval_refines_spec exEnv exMsg MFlags.empty exTree exRules ex_parse ex_inDomain)
  exact ⟨ex_parse, ex_inDomain, by rw [ex_outcome], h.1, h.2.trans (by decide)⟩

/-! ## Attachment conditions and attachment blocks

`Spec/RulesAtt.lean` extends the documented semantics: `attachment c` quantifies over the parts of
the message (in order, three-valued, a malformed multipart is an error), and `attachment { ... }` is
an action of its rule that evaluates its rules on EVERY part - each part a message of its own -,
adds what they collect, tagged with the part index, to the actions of the rule, and lets the rule
match iff the block matched on at least one part.  The specification is told the parts of every
message and the value of every matcher on every (part index, message) (`Spec.PartCtx`); the theorem
instantiates it with `message_get_attachments` and the matchers evaluated on their own. -/

/-- For every environment, message and rule tree in the domain `InDomainA` (attachment conditions
anywhere, attachment blocks with `exec` actions, nested blocks and attachment conditions inside),
whenever the documented evaluation records none of the two known deviations

* `crosses` - the pinned finding F11, which for an attachment block reads: its block is evaluated
  on a part while a `pass` is pending (`expr_eval_block` then consumes the PASS entry of the
  enclosing block and reports a match whenever any action is pending),
* `leaks` - a rule stops at an attachment block that matched on no part after it has already
  collected actions (they stay in the match list although the rule did not match),

the evaluator returns the documented result and, on a match, the documented actions: the same
(type, line, part) other than move/flag in the same order, and the same last move-or-flag.

`Spec.parseBlockA` only recognises trees whose `pass` / `break` are the last action of their list; this is
the special case of `C03_eval_refines_spec_att_wide` (any placement the grammar accepts, `Spec.parseBlockAW`)
and is derived from it (`C03_ctl_last_is_special_case`). -/
theorem C03_eval_refines_spec_att (env : Env) (root : Msg) (f : MFlags) (e : Expr) (rules : List Spec.RuleA)
    (hp : Spec.parseBlockA e = some rules) (hd : Proofs.InDomainA env e = true)
    (hc : (Spec.evalBlockA (Proofs.partCtx env root f) Proofs.actionErr root rules).crosses = false)
    (hl : (Spec.evalBlockA (Proofs.partCtx env root f) Proofs.actionErr root rules).leaks = false) :
    let o := Spec.evalBlockA (Proofs.partCtx env root f) Proofs.actionErr root rules
    let r := eval env root e 0 root { ml := [], flags := f }
    r.1 = o.res ∧
      (o.res = .match → Spec.planP (Proofs.mlKeysP r.2.ml) = Spec.planP (o.actions.filterMap Spec.actKeyP)) :=
  Proofs.att_eval_refines_spec env root f e rules hp hd hc hl

/-! ### Non-vacuity: a message with two parts

```
match attachment body /2/ and ! attachment body /3/
    attachment { match body /2/ exec "c"
                 match all { match ! attachment all exec stdin body "d" } }
    label "l" pass
match all move "/d"
```
on `multipart/mixed` with the parts `ab` and `cd`; `/1/` matches everything, `/2/` what contains
`c`, `/3/` nothing.  The condition holds (part 2), the block matches on both parts (second rule on
part 1, first rule on part 2), the label and the move follow. -/

def exEnvA : Env where
  rx := fun p s => if p.src == [49] then .ok [some (0, 0)]
    else if p.src == [50] && s.contains 99 then .ok [some (0, 0)] else .nomatch
  command := fun _ => 0
  isDir := fun _ => false
  now := 0
  strptime := fun _ => none
  zoneName := fun _ => none
  fileTime := fun _ => none
  dryrun := false
  path := [47, 109, 47, 110, 101, 119, 47, 49]

def exMsgA : Msg :=
  parseMessage (ofString "Content-Type: multipart/mixed; boundary=\"B\"\n\n--B\n\nab\n--B\n\ncd\n--B--\n")

def exP1 : Msg := { headers := [], body := [97, 98, 10] }
def exP2 : Msg := { headers := [], body := [99, 100, 10] }

theorem exA_parts : getAttachments exMsgA = some [exP1, exP2] := by
  rw [exMsgA]
  decide_lit

def exTreeA : Expr :=
  .block 1 (.or 1
    (.mtch 2 (.and 2 (.attachment 2 (.body 2 { src := [50] })) (.neg 2 (.attachment 2 (.body 2 { src := [51] }))))
      (.and 2 (.and 2
        (.attBlock 2 (.block 2 (.or 2
          (.mtch 3 (.body 3 { src := [50] }) (.exec 3 false false [[99]]))
          (.mtch 4 (.all 4) (.block 4 (.mtch 5 (.neg 5 (.attachment 5 (.all 5))) (.exec 5 true true [[100]])))))))
        (.label 6 [[108]])) (.pass 6)))
    (.mtch 7 (.all 7) (.move 7 [47, 100])))

def exRulesA : List Spec.RuleA :=
  [.acts 2 (.and 2 (.attachment 2 (.body 2 { src := [50] })) (.neg 2 (.attachment 2 (.body 2 { src := [51] }))))
     [.att 2
        [.acts 3 (.body 3 { src := [50] }) [.plain (.exec 3 false false [[99]])] .none,
         .blk 4 (.all 4) [.acts 5 (.neg 5 (.attachment 5 (.all 5))) [.plain (.exec 5 true true [[100]])] .none]],
      .plain (.label 6 [[108]])] .pass,
   .acts 7 (.all 7) [.plain (.move 7 [47, 100])] .none]

theorem exA_parse : Spec.parseBlockA exTreeA = some exRulesA := by
  rw [exTreeA, exRulesA]
  simp [Spec.parseBlockA, Spec.parseRulesA, Spec.parseRuleA, Spec.parseChainA, Spec.parseActA,
    Spec.isCond, Spec.isCtlExpr, Spec.isActionExpr]

theorem exA_inDomain : Proofs.InDomainA exEnvA exTreeA = true := by decide +kernel

abbrev exCtxA := Proofs.partCtx exEnvA exMsgA MFlags.empty

theorem exA_parts_root : exCtxA.parts exMsgA = some [exP1, exP2] := exA_parts
theorem exA_parts_p1 : exCtxA.parts exP1 = some [] := by
  show getAttachments exP1 = _; decide +kernel
theorem exA_parts_p2 : exCtxA.parts exP2 = some [] := by
  show getAttachments exP2 = _; decide +kernel
/-! The documented side sees the message only through its parts: what follows holds for EVERY root `r` whose parts are
`exP1` and `exP2` (`hr`), and `exMsgA` is put in at the last step (`exA_parts`).  They are lemmas of their own and not steps
inside the proofs that use them: with the closed term `exMsgA` in the place of `r` the kernel, checking the `simp` proof,
parses the message text again, twice (a variable introduced by `generalize` is substituted back when the proof term
is assembled). -/
abbrev exCtxR (r : Msg) := Proofs.partCtx exEnvA r MFlags.empty

theorem exA_v_all (r : Msg) (k l : Nat) (m : Msg) : (exCtxR r).v k m (.all l) = .match := by
  simp only [exCtxR, Proofs.partCtx, eval]
/-- `/2/` matches the second part only, `/3/` no part; the line of the matcher plays no role. -/
theorem exA_v_body (r : Msg) (l : Nat) :
    (exCtxR r).v 1 exP1 (.body l { src := [50] }) = .nomatch ∧ (exCtxR r).v 2 exP2 (.body l { src := [50] }) = .match ∧
    (exCtxR r).v 1 exP1 (.body l { src := [51] }) = .nomatch ∧ (exCtxR r).v 2 exP2 (.body l { src := [51] }) = .nomatch := by
  simp only [exCtxR, Proofs.partCtx, eval]
  exact ⟨rfl, rfl, rfl, rfl⟩

/-- The documented outcome: a match; the exec of the second rule on part 1, of the first rule on
part 2, then the label and the move of the message itself; no deviation recorded. -/
theorem exA_outcome {r : Msg} (hr : (exCtxR r).parts r = some [exP1, exP2]) :
    Spec.evalBlockA (exCtxR r) Proofs.actionErr r exRulesA =
    { res := .match,
      actions := [(1, .exec 5 true true [[100]]), (2, .exec 3 false false [[99]]), (0, .label 6 [[108]]),
        (0, .move 7 [47, 100])],
      crosses := false, leaks := false } := by
  have h1 : (exCtxR r).parts exP1 = some [] := exA_parts_p1
  rw [exRulesA]
  simp [Spec.evalBlockA, Spec.evalRulesA, Spec.evalActsA, Spec.forParts, Spec.condValA, Spec.anyPart,
    Spec.partIndex, hr, h1, exA_v_all, exA_v_body, Proofs.actionErr, PATH_MAX]

/-- The hypotheses of `C03_eval_refines_spec_att` are satisfiable on a two-part message with a
match, and the theorem then pins the evaluator's result and plan, part indices included. -/
theorem C03_att_nonvacuous :
    Spec.parseBlockA exTreeA = some exRulesA ∧ Proofs.InDomainA exEnvA exTreeA = true ∧
    (Spec.evalBlockA exCtxA Proofs.actionErr exMsgA exRulesA).crosses = false ∧
    (Spec.evalBlockA exCtxA Proofs.actionErr exMsgA exRulesA).leaks = false ∧
    (eval exEnvA exMsgA exTreeA 0 exMsgA { ml := [], flags := MFlags.empty }).1 = .match ∧
    Spec.planP (Proofs.mlKeysP (eval exEnvA exMsgA exTreeA 0 exMsgA { ml := [], flags := MFlags.empty }).2.ml) =
      ([(.exec, 5, 1), (.exec, 3, 2), (.label, 6, 0)], some (.move, 7, 0)) := by
  have ho := exA_outcome exA_parts_root
  have h := refinesA_witness ho
    (C03_eval_refines_spec_att exEnvA exMsgA MFlags.empty exTreeA exRulesA exA_parse exA_inDomain)
  exact ⟨exA_parse, exA_inDomain, by rw [ho], by rw [ho], h.1, h.2.trans (by decide)⟩

/-- What the specification says about `attachment c` (for every context, no hypothesis on `c`):
an error if the parts of the message cannot be had; otherwise the value of `c` on the first part
on which it is not *no match* - a match, or an evaluation error, with *no match* on every earlier
part -, and *no match* iff `c` holds on no part.  Part `i` of the message itself is evaluated as
part `i + 1`, a part of a part under the index of that part (`Spec.partIndex`). -/
theorem C03_attachment_cond_meaning {α : Type} (cx : Spec.PartCtx α) (l : Nat) (c : Expr) (k : Nat) (m : α) :
    (cx.parts m = none → Spec.condValA cx (.attachment l c) k m = .error) ∧
    (∀ ps, cx.parts m = some ps →
      (∀ t, t ≠ .nomatch → (Spec.condValA cx (.attachment l c) k m = t ↔
        ∃ i q, ps[i]? = some q ∧ Spec.condValA cx c (Spec.partIndex k i) q = t ∧
          ∀ j < i, ∀ q', ps[j]? = some q' → Spec.condValA cx c (Spec.partIndex k j) q' = .nomatch)) ∧
      (Spec.condValA cx (.attachment l c) k m = .nomatch ↔
        ∀ i q, ps[i]? = some q → Spec.condValA cx c (Spec.partIndex k i) q = .nomatch)) :=
  Proofs.att_attachment_cond_meaning cx l c k m

/-- On the two-part message: `attachment body /2/` holds (second part), `attachment body /3/` does not. -/
theorem exA_cond {r : Msg} (hr : (exCtxR r).parts r = some [exP1, exP2]) :
    Spec.condValA (exCtxR r) (.attachment 2 (.body 2 { src := [50] })) 0 r = .match ∧
    Spec.condValA (exCtxR r) (.attachment 2 (.body 2 { src := [51] })) 0 r = .nomatch := by
  simp [Spec.condValA, Spec.anyPart, Spec.partIndex, hr, exA_v_body]

example :
    exCtxA.parts exMsgA = some [exP1, exP2] ∧
    Spec.condValA exCtxA (.attachment 2 (.body 2 { src := [50] })) 0 exMsgA = .match ∧
    Spec.condValA exCtxA (.attachment 2 (.body 2 { src := [51] })) 0 exMsgA = .nomatch :=
  ⟨exA_parts_root, exA_cond exA_parts_root⟩

/-! ### The two deviations are real (each hypothesis is needed)

Same message.  (1) `crosses`: a `pass` is pending when the attachment block is evaluated; its
block matches on no part, but `expr_eval_block` finds the PASS entry of the root block, removes
it and reports a match because the label is pending: the third rule is never tried.

```
match all label "x" pass
match all attachment { match body /3/ exec "c" }
match all move "/d"
```
(2) `leaks`: the first rule stops at its attachment block (no part matches) after collecting the
label, which stays in the match list and is executed with the second rule.

```
match all label "x" attachment { match body /3/ exec "c" }
match all move "/d"
```
Both were run on the real binary (mdsort 11.5.1 with the repairs listed in DESIGN.md 9.2): (1) labels the message and
leaves it where it is, (2) moves it with the label. -/

def exTreeCross : Expr :=
  .block 1 (.or 1 (.or 1
    (.mtch 2 (.all 2) (.and 2 (.label 2 [[120]]) (.pass 2)))
    (.mtch 3 (.all 3) (.attBlock 3 (.block 3 (.mtch 4 (.body 4 { src := [51] }) (.exec 4 false false [[99]]))))))
    (.mtch 5 (.all 5) (.move 5 [47, 100])))

def exRulesCross : List Spec.RuleA :=
  [.acts 2 (.all 2) [.plain (.label 2 [[120]])] .pass,
   .acts 3 (.all 3) [.att 3 [.acts 4 (.body 4 { src := [51] }) [.plain (.exec 4 false false [[99]])] .none]] .none,
   .acts 5 (.all 5) [.plain (.move 5 [47, 100])] .none]

theorem exCross_outcome {r : Msg} (hr : (exCtxR r).parts r = some [exP1, exP2]) :
    Spec.evalBlockA (exCtxR r) Proofs.actionErr r exRulesCross =
      { res := .match, actions := [(0, .label 2 [[120]]), (0, .move 5 [47, 100])], crosses := true, leaks := false } := by
  rw [exRulesCross]
  simp [Spec.evalBlockA, Spec.evalRulesA, Spec.evalActsA, Spec.forParts, Spec.condValA,
    Spec.partIndex, hr, exA_v_all, exA_v_body, Proofs.actionErr, PATH_MAX]

theorem exCross_model :
    (eval exEnvA exMsgA exTreeCross 0 exMsgA { ml := [], flags := MFlags.empty }).1 = .match ∧
    Proofs.mlKeysP (eval exEnvA exMsgA exTreeCross 0 exMsgA { ml := [], flags := MFlags.empty }).2.ml =
      [(.label, 2, 0)] := by
  simp only [exTreeCross, eval, exA_parts, eval.loopB]
  decide +kernel

/-- Without `crosses = false` the statement fails: documented = label and move, evaluator = label. -/
theorem C03_att_crosses_needed :
    Spec.parseBlockA exTreeCross = some exRulesCross ∧ Proofs.InDomainA exEnvA exTreeCross = true ∧
    Spec.evalBlockA exCtxA Proofs.actionErr exMsgA exRulesCross =
      { res := .match, actions := [(0, .label 2 [[120]]), (0, .move 5 [47, 100])], crosses := true, leaks := false } ∧
    (eval exEnvA exMsgA exTreeCross 0 exMsgA { ml := [], flags := MFlags.empty }).1 = .match ∧
    Proofs.mlKeysP (eval exEnvA exMsgA exTreeCross 0 exMsgA { ml := [], flags := MFlags.empty }).2.ml =
      [(.label, 2, 0)] := by
  refine ⟨?_, by decide +kernel, exCross_outcome exA_parts_root, exCross_model.1, exCross_model.2⟩
  rw [exTreeCross, exRulesCross]
  simp [Spec.parseBlockA, Spec.parseRulesA, Spec.parseRuleA, Spec.parseChainA,
    Spec.parseActA, Spec.isCond, Spec.isCtlExpr, Spec.isActionExpr]

def exTreeLeak : Expr :=
  .block 1 (.or 1
    (.mtch 2 (.all 2) (.and 2 (.label 2 [[120]])
      (.attBlock 3 (.block 3 (.mtch 4 (.body 4 { src := [51] }) (.exec 4 false false [[99]]))))))
    (.mtch 5 (.all 5) (.move 5 [47, 100])))

def exRulesLeak : List Spec.RuleA :=
  [.acts 2 (.all 2) [.plain (.label 2 [[120]]),
     .att 3 [.acts 4 (.body 4 { src := [51] }) [.plain (.exec 4 false false [[99]])] .none]] .none,
   .acts 5 (.all 5) [.plain (.move 5 [47, 100])] .none]

theorem exLeak_outcome {r : Msg} (hr : (exCtxR r).parts r = some [exP1, exP2]) :
    Spec.evalBlockA (exCtxR r) Proofs.actionErr r exRulesLeak =
      { res := .match, actions := [(0, .move 5 [47, 100])], crosses := false, leaks := true } := by
  rw [exRulesLeak]
  simp [Spec.evalBlockA, Spec.evalRulesA, Spec.evalActsA, Spec.forParts, Spec.condValA,
    Spec.partIndex, hr, exA_v_all, exA_v_body, Proofs.actionErr, PATH_MAX]

theorem exLeak_model :
    (eval exEnvA exMsgA exTreeLeak 0 exMsgA { ml := [], flags := MFlags.empty }).1 = .match ∧
    Proofs.mlKeysP (eval exEnvA exMsgA exTreeLeak 0 exMsgA { ml := [], flags := MFlags.empty }).2.ml =
      [(.label, 2, 0), (.move, 5, 0)] := by
  simp only [exTreeLeak, eval, exA_parts, eval.loopB]
  decide +kernel

/-- Without `leaks = false` the statement fails: documented = move, evaluator = label and move. -/
theorem C03_att_leaks_needed :
    Spec.parseBlockA exTreeLeak = some exRulesLeak ∧ Proofs.InDomainA exEnvA exTreeLeak = true ∧
    Spec.evalBlockA exCtxA Proofs.actionErr exMsgA exRulesLeak =
      { res := .match, actions := [(0, .move 5 [47, 100])], crosses := false, leaks := true } ∧
    (eval exEnvA exMsgA exTreeLeak 0 exMsgA { ml := [], flags := MFlags.empty }).1 = .match ∧
    Proofs.mlKeysP (eval exEnvA exMsgA exTreeLeak 0 exMsgA { ml := [], flags := MFlags.empty }).2.ml =
      [(.label, 2, 0), (.move, 5, 0)] := by
  refine ⟨?_, by decide +kernel, exLeak_outcome exA_parts_root, exLeak_model.1, exLeak_model.2⟩
  rw [exTreeLeak, exRulesLeak]
  simp [Spec.parseBlockA, Spec.parseRulesA, Spec.parseRuleA, Spec.parseChainA,
    Spec.parseActA, Spec.isCond, Spec.isCtlExpr, Spec.isActionExpr]

/-! ## `pass` / `break` anywhere in an action list

The grammar (`expractions` in parse.y) accepts `pass` and `break` at any position of an action list and
any number of times; `expr_validate` only rejects `discard` / `reject` next to another action.
mdsort.conf(5) lists both among the actions of a rule and states their meaning for the rule (`pass`:
"Continue evaluation of the current block of rules up to the next matching rule"; `break`: "Abort
evaluation of the current block of rules"), not for a position.  `Spec.parseBlockAW` reads a rule
`match c x1 ... xn` accordingly: its actions are ALL the `xi` other than `pass` / `break`, in the order
listed; it continues iff some `xi` is `pass`, leaves the block iff some `xi` is `break`; a list with both
has no documented meaning (`none`).

What the evaluator does (`expr_eval_and` walks the list left to right): `expr_eval_break` appends its
marker and returns MATCH, so everything after a `break` is still collected; `expr_eval_pass` appends
its marker and returns NO MATCH, which ends the walk: nothing after a `pass` is looked at.  The domain
`InDomainAW` therefore is `InDomainA` (which does not rely on the shape function to keep `pass` /
`break` last) plus `ctlPlaced`: no action list of the tree is in one of three explicitly named classes -

* `Proofs.actionAfterPass`: something other than `pass` stands after a `pass` (silently ignored by the
  evaluator, accepted by `mdsort -n`: `C03_actions_after_pass_ignored`);
* `Proofs.attAfterBreak`: an attachment block stands after a `break` (`expr_eval_block`, evaluating the
  attachment block's rules on the first part, finds and removes the BREAK entry of the enclosing rule - the
  finding F11 in one more shape: `C03_att_after_break_consumes_break`);
* `Proofs.ctlMixed`: `pass` and `break` in one list (outside the specification).

Everything else the parser accepts is covered: `break` anywhere and repeated (`break label "x"`, `label
"x" break move "d" break`), attachment blocks before a `break`, `pass` repeated at the end. -/

/-- **The refinement theorem on the widened domain.**  For every environment, message and rule tree
that the grammar builds (`Spec.parseBlockAW`: `pass` / `break` anywhere in the action lists) and that is in
`InDomainAW`, whenever the documented evaluation records none of the two known deviations (`crosses` =
F11, `leaks` = F24): the evaluator returns the documented result and, on a match, the documented
actions - the same (type, line, part) other than move/flag in the same order, and the same last
move-or-flag. -/
theorem C03_eval_refines_spec_att_wide (env : Env) (root : Msg) (f : MFlags) (e : Expr) (rules : List Spec.RuleA)
    (hp : Spec.parseBlockAW e = some rules) (hd : Proofs.InDomainAW env e = true)
    (hc : (Spec.evalBlockA (Proofs.partCtx env root f) Proofs.actionErr root rules).crosses = false)
    (hl : (Spec.evalBlockA (Proofs.partCtx env root f) Proofs.actionErr root rules).leaks = false) :
    let o := Spec.evalBlockA (Proofs.partCtx env root f) Proofs.actionErr root rules
    let r := eval env root e 0 root { ml := [], flags := f }
    r.1 = o.res ∧
      (o.res = .match → Spec.planP (Proofs.mlKeysP r.2.ml) = Spec.planP (o.actions.filterMap Spec.actKeyP)) :=
  Proofs.att_eval_refines_spec_wide env root f e rules hp hd hc hl

/-- The same for trees without attachment nodes, over `Spec/Rules.lean` (`Spec.parseBlockW`, domain
`InDomainW` = `InDomain` and `ctlPlaced`); derived from the theorem above. -/
theorem C03_eval_refines_spec_wide (env : Env) (root : Msg) (f : MFlags) (e : Expr) (rules : List Spec.Rule)
    (hp : Spec.parseBlockW e = some rules) (hd : Proofs.InDomainW env e = true)
    (hl : (Spec.evalBlock (Proofs.valuation env root f) Proofs.actionErr rules).crosses = false) :
    let o := Spec.evalBlock (Proofs.valuation env root f) Proofs.actionErr rules
    let r := eval env root e 0 root { ml := [], flags := f }
    r.1 = o.res ∧ (o.res = .match → Spec.planOf (Proofs.mlKeys r.2.ml) = Spec.planOf (o.actions.filterMap Spec.actKey)) :=
  Proofs.eval_refines_spec_wide env root f e rules hp hd hl

/-- The theorems with the control action last are special cases: what `Spec.parseBlockA` /
`Spec.parseBlock` accept, `Spec.parseBlockAW` / `Spec.parseBlockW` accept with the same rules, and such a
tree is `ctlPlaced` (so `InDomainA` / `InDomain` give `InDomainAW` / `InDomainW`). -/
theorem C03_ctl_last_is_special_case (env : Env) (e : Expr) :
    (∀ rules, Spec.parseBlockA e = some rules → Spec.parseBlockAW e = some rules ∧
      (Proofs.InDomainA env e = true → Proofs.InDomainAW env e = true)) ∧
    (∀ rules, Spec.parseBlock e = some rules → Spec.parseBlockW e = some rules ∧
      (Proofs.InDomain env e = true → Proofs.InDomainW env e = true)) := by
  refine ⟨fun rules h => ?_, fun rules h => ?_⟩
  · obtain ⟨h1, h2⟩ := Proofs.att_parseBlockAW_of_parseBlockA h
    exact ⟨h1, fun hd => by simp [Proofs.InDomainAW, hd, h2]⟩
  · obtain ⟨h1, h2⟩ := Proofs.parseBlockW_of_parseBlock h
    exact ⟨h1, fun hd => by simp [Proofs.InDomainW, hd, h2]⟩

/-! ### Non-vacuity: `break` first, an action behind it, `break` again; `pass` twice

The shape of `tests/action-break.sh` "label, pass, label, break and move" with the control actions
moved around (and the nested block first: an attachment block evaluated while a `pass` is pending is the
recorded deviation `crosses`), on the two-part message; `/2/` matches the second part only.

```
match all {
    match all attachment { match body /2/ exec "c" } break label "two" break
}
match all label "one" pass pass
match all move "/d"
```
In the nested block the attachment block matches (second part), `break` leaves the block with the exec
and the label pending; the second rule collects its label and continues; the third rule matches. -/

def exTreeW : Expr :=
  .block 1 (.or 1 (.or 1
    (.mtch 2 (.all 2) (.block 2
      (.mtch 3 (.all 3) (.and 3 (.and 3 (.and 3
        (.attBlock 3 (.block 3 (.mtch 4 (.body 4 { src := [50] }) (.exec 4 false false [[99]]))))
        (.brk 3)) (.label 3 [[116]])) (.brk 3)))))
    (.mtch 5 (.all 5) (.and 5 (.and 5 (.label 5 [[111]]) (.pass 5)) (.pass 5))))
    (.mtch 6 (.all 6) (.move 6 [47, 100])))

def exRulesW : List Spec.RuleA :=
  [.blk 2 (.all 2)
     [.acts 3 (.all 3)
        [.att 3 [.acts 4 (.body 4 { src := [50] }) [.plain (.exec 4 false false [[99]])] .none],
         .plain (.label 3 [[116]])] .brk],
   .acts 5 (.all 5) [.plain (.label 5 [[111]])] .pass,
   .acts 6 (.all 6) [.plain (.move 6 [47, 100])] .none]

theorem exW_parse : Spec.parseBlockAW exTreeW = some exRulesW := by
  rw [exTreeW, exRulesW]
  simp [Spec.parseBlockAW, Spec.parseRulesAW, Spec.parseRuleAW, Spec.parseChainAW, Spec.parseActAW,
    Spec.ctlOfList, Spec.andChain, Spec.isPassExpr, Spec.isBrkExpr, Spec.isCond, Spec.isCtlExpr, Spec.isActionExpr]

/-- `Spec.parseBlockA` does not accept the tree: the control action is not last. -/
theorem exW_not_ctl_last : Spec.parseBlockA exTreeW = none := by
  rw [exTreeW]
  simp [Spec.parseBlockA, Spec.parseRulesA, Spec.parseRuleA, Spec.parseChainA, Spec.parseActA,
    Spec.isCond, Spec.isCtlExpr, Spec.isActionExpr]

theorem exW_inDomain : Proofs.InDomainAW exEnvA exTreeW = true := by decide +kernel

theorem exW_outcome {r : Msg} (hr : (exCtxR r).parts r = some [exP1, exP2]) :
    Spec.evalBlockA (exCtxR r) Proofs.actionErr r exRulesW =
    { res := .match,
      actions := [(2, .exec 4 false false [[99]]), (0, .label 3 [[116]]), (0, .label 5 [[111]]), (0, .move 6 [47, 100])],
      crosses := false, leaks := false } := by
  rw [exRulesW]
  simp [Spec.evalBlockA, Spec.evalRulesA, Spec.evalActsA, Spec.forParts, Spec.condValA,
    Spec.partIndex, hr, exA_v_all, exA_v_body, Proofs.actionErr, PATH_MAX]

/-- The hypotheses of `C03_eval_refines_spec_att_wide` are satisfiable on a tree that `Spec.parseBlockA` does NOT
accept, and the theorem pins the evaluator's result and plan. -/
theorem C03_wide_nonvacuous :
    Spec.parseBlockAW exTreeW = some exRulesW ∧ Spec.parseBlockA exTreeW = none ∧
    Proofs.InDomainAW exEnvA exTreeW = true ∧
    (Spec.evalBlockA exCtxA Proofs.actionErr exMsgA exRulesW).crosses = false ∧
    (Spec.evalBlockA exCtxA Proofs.actionErr exMsgA exRulesW).leaks = false ∧
    (eval exEnvA exMsgA exTreeW 0 exMsgA { ml := [], flags := MFlags.empty }).1 = .match ∧
    Spec.planP (Proofs.mlKeysP (eval exEnvA exMsgA exTreeW 0 exMsgA { ml := [], flags := MFlags.empty }).2.ml) =
      ([(.exec, 4, 2), (.label, 3, 0), (.label, 5, 0)], some (.move, 6, 0)) := by
  have ho := exW_outcome exA_parts_root
  have h := refinesA_witness ho
    (C03_eval_refines_spec_att_wide exEnvA exMsgA MFlags.empty exTreeW exRulesW exW_parse exW_inDomain)
  exact ⟨exW_parse, exW_not_ctl_last, exW_inDomain, by rw [ho], by rw [ho], h.1, h.2.trans (by decide)⟩

/-- The same tree evaluated directly (no theorem involved): the BREAK entries are gone, the label behind
the first `break` is in the list. -/
example :
    Proofs.mlKeysP (eval exEnvA exMsgA exTreeW 0 exMsgA { ml := [], flags := MFlags.empty }).2.ml =
      [(.exec, 4, 2), (.label, 3, 0), (.label, 5, 0), (.move, 6, 0)] := by
  simp only [exTreeW, eval, exA_parts, eval.loopB]
  decide +kernel

def exTreeW0 : Expr :=
  .block 1 (.or 1
    (.mtch 2 (.all 2) (.block 2 (.mtch 3 (.new 3) (.and 3 (.and 3 (.brk 3) (.move 3 [47, 97])) (.brk 3)))))
    (.mtch 4 (.all 4) (.move 4 [47, 98])))

def exRulesW0 : List Spec.Rule :=
  [.blk 2 (.all 2) [.acts 3 (.new 3) [.move 3 [47, 97]] .brk], .acts 4 (.all 4) [.move 4 [47, 98]] .none]

/-- Without attachment nodes (`C03_eval_refines_spec_wide`): `match new break move "/a" break` in a nested
block, then a rule that matches; `tests/action-break.sh` "move, break and move" with the `break` first. -/
theorem C03_wide_nonvacuous_plain :
    Spec.parseBlockW exTreeW0 = some exRulesW0 ∧ Spec.parseBlock exTreeW0 = none ∧
    Proofs.InDomainW exEnv exTreeW0 = true ∧
    Spec.evalBlock exVal Proofs.actionErr exRulesW0 =
      { res := .match, actions := [.move 3 [47, 97], .move 4 [47, 98]], crosses := false } ∧
    (eval exEnv exMsg exTreeW0 0 exMsg { ml := [], flags := MFlags.empty }).1 = .match ∧
    Spec.planOf (Proofs.mlKeys (eval exEnv exMsg exTreeW0 0 exMsg { ml := [], flags := MFlags.empty }).2.ml) =
      ([], some (.move, 4)) := by
  have hp : Spec.parseBlockW exTreeW0 = some exRulesW0 := by
    rw [exTreeW0, exRulesW0]
    simp [Spec.parseBlockW, Spec.parseRulesW, Spec.parseRuleW, Spec.splitActsW, Spec.ctlOfList,
      Spec.andChain, Spec.isPassExpr, Spec.isBrkExpr, Spec.isCond, Spec.isCtlExpr, Spec.isActionExpr]
  have hno : Spec.parseBlock exTreeW0 = none := by
    rw [exTreeW0]
    simp [Spec.parseBlock, Spec.parseRules, Spec.parseRule, Spec.splitActs, Spec.andChain, Spec.isCond,
      Spec.isCtlExpr, Spec.isActionExpr]
  have hd : Proofs.InDomainW exEnv exTreeW0 = true := by decide +kernel
  have ho : Spec.evalBlock exVal Proofs.actionErr exRulesW0 =
      { res := .match, actions := [.move 3 [47, 97], .move 4 [47, 98]], crosses := false } := by
    rw [exRulesW0]
    simp [Spec.evalBlock, Spec.evalRules, Spec.condVal, ex_v_all, ex_v_new, Proofs.actionErr, PATH_MAX]
  have h := refines_witness ho (C03_eval_refines_spec_wide exEnv exMsg MFlags.empty exTreeW0 exRulesW0 hp hd)
  exact ⟨hp, hno, hd, ho, h.1, h.2.trans (by decide)⟩

/-! `tests/action-break.sh` "label, pass, label, break and move", with the `break` first and the `pass` doubled. -/
def exTreeLPLBM : Expr :=
  .block 1 (.or 1 (.or 1
    (.mtch 2 (.all 2) (.and 2 (.and 2 (.label 2 [[111]]) (.pass 2)) (.pass 2)))
    (.mtch 3 (.all 3) (.block 3 (.mtch 4 (.all 4) (.and 4 (.brk 4) (.label 4 [[116]]))))))
    (.mtch 5 (.all 5) (.move 5 [47, 100])))

def exRulesLPLBM : List Spec.Rule :=
  [.acts 2 (.all 2) [.label 2 [[111]]] .pass,
   .blk 3 (.all 3) [.acts 4 (.all 4) [.label 4 [[116]]] .brk],
   .acts 5 (.all 5) [.move 5 [47, 100]] .none]

theorem C03_wide_label_pass_label_break_move :
    Spec.parseBlockW exTreeLPLBM = some exRulesLPLBM ∧ Spec.parseBlock exTreeLPLBM = none ∧
    Proofs.InDomainW exEnv exTreeLPLBM = true ∧
    Spec.evalBlock exVal Proofs.actionErr exRulesLPLBM =
      { res := .match, actions := [.label 2 [[111]], .label 4 [[116]], .move 5 [47, 100]], crosses := false } ∧
    (eval exEnv exMsg exTreeLPLBM 0 exMsg { ml := [], flags := MFlags.empty }).1 = .match ∧
    Spec.planOf (Proofs.mlKeys (eval exEnv exMsg exTreeLPLBM 0 exMsg { ml := [], flags := MFlags.empty }).2.ml) =
      ([(.label, 2), (.label, 4)], some (.move, 5)) := by
  have hp : Spec.parseBlockW exTreeLPLBM = some exRulesLPLBM := by
    rw [exTreeLPLBM, exRulesLPLBM]
    simp [Spec.parseBlockW, Spec.parseRulesW, Spec.parseRuleW, Spec.splitActsW, Spec.ctlOfList,
      Spec.andChain, Spec.isPassExpr, Spec.isBrkExpr, Spec.isCond, Spec.isCtlExpr, Spec.isActionExpr]
  have hno : Spec.parseBlock exTreeLPLBM = none := by
    rw [exTreeLPLBM]
    simp [Spec.parseBlock, Spec.parseRules, Spec.parseRule, Spec.splitActs, Spec.andChain, Spec.isCond,
      Spec.isCtlExpr, Spec.isActionExpr]
  have hd : Proofs.InDomainW exEnv exTreeLPLBM = true := by decide +kernel
  have ho : Spec.evalBlock exVal Proofs.actionErr exRulesLPLBM =
      { res := .match, actions := [.label 2 [[111]], .label 4 [[116]], .move 5 [47, 100]], crosses := false } := by
    rw [exRulesLPLBM]
    simp [Spec.evalBlock, Spec.evalRules, Spec.condVal, ex_v_all, Proofs.actionErr, PATH_MAX]
  have h := refines_witness ho (C03_eval_refines_spec_wide exEnv exMsg MFlags.empty exTreeLPLBM exRulesLPLBM hp hd)
  exact ⟨hp, hno, hd, ho, h.1, h.2.trans (by decide)⟩

/-! The README configuration (first block). -/
def rdEnv : Env := { exEnvA with path := ofString "/m/cur/1:2,S" }

def rdTree (withIsdir : Bool) : Expr :=
  let r1 : Expr := .mtch 3 (.and 3 (.header 3 [ofString "From"] { src := ofString "notifications@github.com" })
      (.header 4 [ofString "Subject"] { src := ofString "mdsort" })) (.move 4 (ofString "/h/Maildir/mdsort"))
  let r2 : Expr := .mtch 7 (.header 7 [ofString "Cc", ofString "To"] { src := ofString "(bugs|misc|ports|tech)@openbsd.org", icase := true })
      (.move 8 (ofString "/h/Maildir/openbsd-\\1"))
  let r3 : Expr := .mtch 11 (.header 11 [ofString "To"] { src := ofString "user\\+(.+)@example.com", lcase := true })
      (.label 11 [ofString "\\1"])
  let r4 : Expr := .mtch 15 (.and 15 (.header 15 [ofString "To"] { src := ofString "user\\+(.+)@example.com", lcase := true })
      (.stat 16 (ofString "/h/Maildir/\\1"))) (.move 16 (ofString "/h/Maildir/\\1"))
  let r5 : Expr := .mtch 19 (.all 19) (.attBlock 19 (.block 19
      (.mtch 20 (.header 20 [ofString "Content-Type"] { src := ofString "text/calendar" })
        (.exec 21 true true [ofString "icalendar2calendar"]))))
  let r6 : Expr := .mtch 25 (.neg 25 (.new 25)) (.move 25 (ofString "/h/Maildir/Archive"))
  if withIsdir then .block 2 (.or 2 (.or 2 (.or 2 (.or 2 (.or 2 r1 r2) r3) r4) r5) r6)
  else .block 2 (.or 2 (.or 2 (.or 2 (.or 2 r1 r2) r3) r5) r6)

def rdRules : List Spec.RuleA :=
  [.acts 3 (.and 3 (.header 3 [ofString "From"] { src := ofString "notifications@github.com" })
      (.header 4 [ofString "Subject"] { src := ofString "mdsort" })) [.plain (.move 4 (ofString "/h/Maildir/mdsort"))] .none,
   .acts 7 (.header 7 [ofString "Cc", ofString "To"] { src := ofString "(bugs|misc|ports|tech)@openbsd.org", icase := true })
      [.plain (.move 8 (ofString "/h/Maildir/openbsd-\\1"))] .none,
   .acts 11 (.header 11 [ofString "To"] { src := ofString "user\\+(.+)@example.com", lcase := true })
      [.plain (.label 11 [ofString "\\1"])] .none,
   .acts 19 (.all 19) [.att 19
      [.acts 20 (.header 20 [ofString "Content-Type"] { src := ofString "text/calendar" })
        [.plain (.exec 21 true true [ofString "icalendar2calendar"])] .none]] .none,
   .acts 25 (.neg 25 (.new 25)) [.plain (.move 25 (ofString "/h/Maildir/Archive"))] .none]

abbrev rdCtx := Proofs.partCtx rdEnv exMsgA MFlags.empty

abbrev rdCtxR (r : Msg) := Proofs.partCtx rdEnv r MFlags.empty

/-- What the documented side of the README block asks of a root `r` besides its two parts: no header rule matches, the
message is not new.  (`rd_outcome` is about a variable for the reason given at `exCtxR`.) -/
def RdV (r : Msg) : Prop :=
    (rdCtxR r).v 0 r (.header 3 [ofString "From"] { src := ofString "notifications@github.com" }) = .nomatch ∧
    (rdCtxR r).v 0 r (.header 7 [ofString "Cc", ofString "To"] { src := ofString "(bugs|misc|ports|tech)@openbsd.org", icase := true }) = .nomatch ∧
    (rdCtxR r).v 0 r (.header 11 [ofString "To"] { src := ofString "user\\+(.+)@example.com", lcase := true }) = .nomatch ∧
    (rdCtxR r).v 1 exP1 (.header 20 [ofString "Content-Type"] { src := ofString "text/calendar" }) = .nomatch ∧
    (rdCtxR r).v 2 exP2 (.header 20 [ofString "Content-Type"] { src := ofString "text/calendar" }) = .nomatch ∧
    (rdCtxR r).v 0 r (.new 25) = .nomatch ∧ (∀ l, (rdCtxR r).v 0 r (.all l) = .match)

theorem rd_v : RdV exMsgA := by
  simp only [RdV, rdCtxR, Proofs.partCtx, eval, implies_true, and_true, exMsgA]
  decide_lit

theorem rd_outcome {r : Msg} (hparts : (rdCtxR r).parts r = some [exP1, exP2]) (hv : RdV r) :
    Spec.evalBlockA (rdCtxR r) Proofs.actionErr r rdRules =
      { res := .match, actions := [(0, .move 25 (ofString "/h/Maildir/Archive"))], crosses := false, leaks := false } := by
  -- 4096 is `PATH_MAX` as it stands in the goal once `simp` has unfolded it
  have hlen : ¬ 4096 ≤ List.length (ofString "/h/Maildir/Archive") := by decide_lit
  unfold RdV at hv
  -- `Spec.evalBlockA` by `rw` as well: its body is a `match` on the value of `Spec.evalRulesA`, and the kernel, to see
  -- that the unfolded statement is the folded one, reduces that `match` first, so evaluates the rules
  rw [rdRules, Spec.evalBlockA]
  simp [Spec.evalRulesA, Spec.evalActsA, Spec.forParts, Spec.condValA, Spec.partIndex,
    hparts, hv, Proofs.actionErr, PATH_MAX, hlen]

/-- The README configuration (first block, `~` = `/h`) without its rule `match header "To" /user\\+(.+)@example.com/l
and isdirectory "~/Maildir/\\1" move "~/Maildir/\\1"` is inside the domain (with that rule it is not: the string of
the `isdirectory` condition holds a back-reference, `wfTreeA`); on the two-part message, read and in `cur`, no
header rule and no attachment matches, the last rule archives it. -/
theorem C03_readme_nonvacuous :
    Spec.parseBlockAW (rdTree false) = some rdRules ∧ Proofs.InDomainAW rdEnv (rdTree false) = true ∧
    Proofs.InDomainA rdEnv (rdTree true) = false ∧
    (Spec.evalBlockA rdCtx Proofs.actionErr exMsgA rdRules).res = .match ∧
    (Spec.evalBlockA rdCtx Proofs.actionErr exMsgA rdRules).crosses = false ∧
    (Spec.evalBlockA rdCtx Proofs.actionErr exMsgA rdRules).leaks = false ∧
    (eval rdEnv exMsgA (rdTree false) 0 exMsgA { ml := [], flags := MFlags.empty }).1 = .match ∧
    Spec.planP (Proofs.mlKeysP (eval rdEnv exMsgA (rdTree false) 0 exMsgA { ml := [], flags := MFlags.empty }).2.ml) =
      ([], some (.move, 25, 0)) := by
  have hp : Spec.parseBlockAW (rdTree false) = some rdRules := by
    simp [rdTree, rdRules, Spec.parseBlockAW, Spec.parseRulesAW, Spec.parseRuleAW, Spec.parseChainAW, Spec.parseActAW,
      Spec.ctlOfList, Spec.andChain, Spec.isPassExpr, Spec.isBrkExpr, Spec.isCond, Spec.isCtlExpr, Spec.isActionExpr]
  have hd : Proofs.InDomainAW rdEnv (rdTree false) = true := by decide +kernel
  have ho := rd_outcome exA_parts rd_v
  have h := refinesA_witness ho (C03_eval_refines_spec_att_wide rdEnv exMsgA MFlags.empty (rdTree false) rdRules hp hd)
  exact ⟨hp, hd, by decide +kernel, by rw [ho], by rw [ho], by rw [ho], h.1, h.2.trans (by decide)⟩

/-! ### The three classes outside `ctlPlaced` are real

(1) `actionAfterPass`.  `match all label "x" pass move "/y"`: documented = the rule's actions are the label
and the move, and evaluation continues; the evaluator stops walking the action list at `pass`: the move
is never evaluated.  Real binary (mdsort 11.5.1 with the repairs listed in DESIGN.md 9.2): exit 0, the message stays in
its maildir with `X-Label: x`; `mdsort -n` accepts the file without a word. -/

def exTreeAfterPass : Expr :=
  .block 1 (.mtch 2 (.all 2) (.and 2 (.and 2 (.label 2 [[120]]) (.pass 2)) (.move 2 [47, 121])))

def exRulesAfterPass : List Spec.RuleA :=
  [.acts 2 (.all 2) [.plain (.label 2 [[120]]), .plain (.move 2 [47, 121])] .pass]

theorem exAfterPass_outcome (r : Msg) : Spec.evalBlockA (exCtxR r) Proofs.actionErr r exRulesAfterPass =
    { res := .match, actions := [(0, .label 2 [[120]]), (0, .move 2 [47, 121])], crosses := false, leaks := false } := by
  rw [exRulesAfterPass]
  simp [Spec.evalBlockA, Spec.evalRulesA, Spec.evalActsA, Spec.condValA, exA_v_all,
    Proofs.actionErr, PATH_MAX]

/-- An action after `pass` in the same list is silently ignored: the tree is what the grammar builds
and in `InDomainA`, its only defect is `actionAfterPass`; documented = match with label and move,
evaluator = match with the label only. -/
theorem C03_actions_after_pass_ignored :
    Spec.parseBlockAW exTreeAfterPass = some exRulesAfterPass ∧ Proofs.InDomainA exEnvA exTreeAfterPass = true ∧
    Proofs.actionAfterPass [.label 2 [[120]], .pass 2, .move 2 [47, 121]] = true ∧
    Proofs.ctlPlaced exTreeAfterPass = false ∧
    Spec.evalBlockA exCtxA Proofs.actionErr exMsgA exRulesAfterPass =
      { res := .match, actions := [(0, .label 2 [[120]]), (0, .move 2 [47, 121])], crosses := false, leaks := false } ∧
    (eval exEnvA exMsgA exTreeAfterPass 0 exMsgA { ml := [], flags := MFlags.empty }).1 = .match ∧
    Proofs.mlKeysP (eval exEnvA exMsgA exTreeAfterPass 0 exMsgA { ml := [], flags := MFlags.empty }).2.ml =
      [(.label, 2, 0)] := by
  refine ⟨?_, by decide +kernel, by decide +kernel, by decide +kernel, exAfterPass_outcome exMsgA, ?_⟩
  · rw [exTreeAfterPass, exRulesAfterPass]
    simp [Spec.parseBlockAW, Spec.parseRulesAW, Spec.parseRuleAW, Spec.parseChainAW,
      Spec.parseActAW, Spec.ctlOfList, Spec.andChain, Spec.isPassExpr, Spec.isBrkExpr, Spec.isCond, Spec.isCtlExpr,
      Spec.isActionExpr]
  · simp only [exTreeAfterPass, eval]; decide +kernel

/-- Hence the statement of `C03_eval_refines_spec_att_wide` without `ctlPlaced` (domain `InDomainA` only)
is false. -/
theorem C03_eval_refines_spec_att_wide_unrestricted_false :
    ¬ (∀ (env : Env) (root : Msg) (f : MFlags) (e : Expr) (rules : List Spec.RuleA),
      Spec.parseBlockAW e = some rules → Proofs.InDomainA env e = true →
      (Spec.evalBlockA (Proofs.partCtx env root f) Proofs.actionErr root rules).crosses = false →
      (Spec.evalBlockA (Proofs.partCtx env root f) Proofs.actionErr root rules).leaks = false →
      (Spec.evalBlockA (Proofs.partCtx env root f) Proofs.actionErr root rules).res = .match →
      Spec.planP (Proofs.mlKeysP (eval env root e 0 root { ml := [], flags := f }).2.ml) =
        Spec.planP ((Spec.evalBlockA (Proofs.partCtx env root f) Proofs.actionErr root rules).actions.filterMap
          Spec.actKeyP)) := by
  intro h
  obtain ⟨hp, hd, _, _, ho, _, hk⟩ := C03_actions_after_pass_ignored
  have := h exEnvA exMsgA MFlags.empty exTreeAfterPass exRulesAfterPass hp hd (by rw [ho]) (by rw [ho]) (by rw [ho])
  rw [hk, ho] at this
  revert this
  decide

/-! (2) `attAfterBreak`.  `match all break attachment { match body /2/ exec "c" }` then `match all move
"/d"` on the two-part message: documented = the attachment block matches (second part), the rule
leaves the root block: no match, nothing is done.  The evaluator: on the first part `expr_eval_block`
finds the BREAK entry of the enclosing rule, removes it and reports no match for the part; the second
part matches, the rule matches, nothing is left of the `break`: the command runs.  (With a block that
matches on no part the rule "does not match", the next rule files the message and the exec of the
abandoned rule - if any was collected - runs too: replayed on the real binary with `body /alpha/`,
exit 0, command executed, message moved.) -/

def exTreeAttAfterBrk : Expr :=
  .block 1 (.or 1
    (.mtch 2 (.all 2) (.and 2 (.brk 2)
      (.attBlock 2 (.block 2 (.mtch 3 (.body 3 { src := [50] }) (.exec 3 false false [[99]]))))))
    (.mtch 4 (.all 4) (.move 4 [47, 100])))

def exRulesAttAfterBrk : List Spec.RuleA :=
  [.acts 2 (.all 2) [.att 2 [.acts 3 (.body 3 { src := [50] }) [.plain (.exec 3 false false [[99]])] .none]] .brk,
   .acts 4 (.all 4) [.plain (.move 4 [47, 100])] .none]

theorem exAttAfterBrk_outcome {r : Msg} (hr : (exCtxR r).parts r = some [exP1, exP2]) :
    Spec.evalBlockA (exCtxR r) Proofs.actionErr r exRulesAttAfterBrk =
      { res := .nomatch, actions := [], crosses := false, leaks := false } := by
  rw [exRulesAttAfterBrk]
  simp [Spec.evalBlockA, Spec.evalRulesA, Spec.evalActsA, Spec.forParts, Spec.condValA,
    Spec.partIndex, hr, exA_v_all, exA_v_body, Proofs.actionErr]

theorem C03_att_after_break_consumes_break :
    Spec.parseBlockAW exTreeAttAfterBrk = some exRulesAttAfterBrk ∧ Proofs.InDomainA exEnvA exTreeAttAfterBrk = true ∧
    Proofs.attAfterBreak [.brk 2, .attBlock 2 (.block 2 (.mtch 3 (.body 3 { src := [50] }) (.exec 3 false false [[99]])))]
      = true ∧
    Proofs.ctlPlaced exTreeAttAfterBrk = false ∧
    Spec.evalBlockA exCtxA Proofs.actionErr exMsgA exRulesAttAfterBrk =
      { res := .nomatch, actions := [], crosses := false, leaks := false } ∧
    (eval exEnvA exMsgA exTreeAttAfterBrk 0 exMsgA { ml := [], flags := MFlags.empty }).1 = .match ∧
    Proofs.mlKeysP (eval exEnvA exMsgA exTreeAttAfterBrk 0 exMsgA { ml := [], flags := MFlags.empty }).2.ml =
      [(.exec, 3, 2)] := by
  refine ⟨?_, by decide +kernel, by decide +kernel, by decide +kernel, exAttAfterBrk_outcome exA_parts_root, ?_⟩
  · rw [exTreeAttAfterBrk, exRulesAttAfterBrk]
    simp [Spec.parseBlockAW, Spec.parseRulesAW, Spec.parseRuleAW,
      Spec.parseChainAW, Spec.parseActAW, Spec.ctlOfList, Spec.andChain, Spec.isPassExpr, Spec.isBrkExpr, Spec.isCond,
      Spec.isCtlExpr, Spec.isActionExpr]
  · simp only [exTreeAttAfterBrk, eval, exA_parts, eval.loopB]; decide +kernel

/-! (3) `ctlMixed`: no documented meaning, the shape function refuses the list.  What the evaluator does
is recorded as an observation: with `pass` first the `break` is never looked at (the rule behaves as
`label "x" pass`); with `break` first both markers are appended, `expr_eval_block` removes the BREAK
entries only, and the PASS entry stays behind for the enclosing block - in a nested block the label is
executed although the block was left by `break` and nothing else matched (replayed on the real binary:
`match all { match all label "x" break pass }` labels the message, `... label "x" break }` does not). -/

example :
    Spec.parseBlockAW (.block 1 (.mtch 2 (.all 2) (.and 2 (.and 2 (.label 2 [[120]]) (.pass 2)) (.brk 2)))) = none ∧
    Proofs.ctlMixed [.label 2 [[120]], .pass 2, .brk 2] = true ∧
    (eval exEnvA exMsgA (.block 1 (.mtch 2 (.all 2) (.block 2
        (.mtch 3 (.all 3) (.and 3 (.and 3 (.label 3 [[120]]) (.brk 3)) (.pass 3)))))) 0 exMsgA
      { ml := [], flags := MFlags.empty }).1 = .match ∧
    (eval exEnvA exMsgA (.block 1 (.mtch 2 (.all 2) (.block 2
        (.mtch 3 (.all 3) (.and 3 (.label 3 [[120]]) (.brk 3)))))) 0 exMsgA
      { ml := [], flags := MFlags.empty }).1 = .nomatch := by
  refine ⟨?_, by decide +kernel, ?_⟩
  · simp [Spec.parseBlockAW, Spec.parseRulesAW, Spec.parseRuleAW, Spec.parseChainAW, Spec.parseActAW, Spec.ctlOfList,
      Spec.andChain, Spec.isPassExpr, Spec.isBrkExpr, Spec.isCond, Spec.isCtlExpr, Spec.isActionExpr]
  · simp only [eval]; decide +kernel

/-- `old` is inside the domain as long as no `flags` action of the tree sets `S`
(`match old flags "T" move "/x"`). -/
theorem ex_old_inDomain :
    Proofs.InDomain exEnv (.block 1 (.mtch 2 (.old 2) (.and 2 (.flags 2 [84]) (.move 2 [47, 120])))) = true := by
  decide +kernel

/-- **Block selection** (`maildir_skip`).  A configured path is selected iff `-` was given and the path
is `/dev/stdin`, or `-` was not given and the path is anything else. -/
theorem C03_block_selected_iff (env : PEnv) (p : Bytes) :
    Proofs.pathSelected env p = true ↔
      (env.stdinMode = true ∧ p = ofString "/dev/stdin") ∨ (env.stdinMode = false ∧ p ≠ ofString "/dev/stdin") :=
  Proofs.selected_iff env p

/-- For every environment, oracle, configuration, file contents and standard input, `mainP` is
the same program (the same tree of calls - hence the same calls for every behaviour of the world -, the
same exit status, log and final state) as on the configuration from which every unselected path was
removed (`selectPaths`), and as on the one from which in addition every block left without a path was
removed (`selectBlocks`): an unselected block is never opened, walked or evaluated. -/
theorem C03_block_selection (env : PEnv) (orc : EvalOracles) (confOk : Bool) (conf : List ConfBlock) (files : Files)
    (input : Bytes) :
    mainP env orc confOk conf files input = mainP env orc confOk (Proofs.selectPaths env conf) files input ∧
    mainP env orc confOk conf files input = mainP env orc confOk (Proofs.selectBlocks env conf) files input :=
  Proofs.block_selection env orc confOk conf files input

/-! Non-vacuity: `stdin { .. }  maildir "/m" "/dev/stdin" { .. }` without `-` and with `-`. -/
def exPEnv (stdin : Bool) : PEnv :=
  { now := 0, pid := 1, host := [104], random := 0, tmpdir := [47, 116], home := [47, 104], confpath := [47, 99],
    dryrun := false, syntaxOnly := false, stdinMode := stdin }

def exConf : List ConfBlock :=
  [{ paths := [ofString "/dev/stdin"], expr := .all 1 }, { paths := [[47, 109], ofString "/dev/stdin"], expr := .all 2 }]

example : (Proofs.selectPaths (exPEnv false) exConf).map (·.paths) = [[], [[47, 109]]] := by decide +kernel
example : (Proofs.selectBlocks (exPEnv false) exConf).map (·.paths) = [[[47, 109]]] := by decide +kernel
example : (Proofs.selectBlocks (exPEnv true) exConf).map (·.paths) =
    [[ofString "/dev/stdin"], [ofString "/dev/stdin"]] := by decide +kernel

/-! ## No match, no effect (world level)

`processMessage` is `message_parse`, `expr_eval`, `matches_interpolate`, `matches_inspect` /
`matches_exec`, `message_free` of the loop in `main`.  `runOracle orcl` runs it against ARBITRARY call
results, so the statements hold for every behaviour of the file system, every fault and every
interleaving with other processes.

Evaluation is part of the run: `expr_eval` asks the operating system for `command` conditions (util.c
`exec(argv, -1)`: `open("/dev/null")`, `fork`, `waitpid`, `close`), `isdirectory` (`stat`) and the file-time
`date` conditions (`stat` of the message's path) - `Model.evalP` (Model/EvalP.lean).  `Proofs.Own.runO orcl p j`
is `runOracle` started at call index `j` (value, calls, next index). -/

/-- **Which calls evaluation issues** (`C03_evaluation_calls`).  For every rule tree, message and environment:
(1) every call of `evalP` is `open("/dev/null")`, `fork`, `waitpid`, `close` - only if the tree has a `command`
condition - or `stat` - only if it has an `isdirectory` or file-time `date` condition (`Proofs.EvalCallOf`); none is
mutating;
(2) **replay**: whatever the calls return, the run of `evalP` is the run of asking, in order, exactly the questions of
the pure evaluation `evalR` on the answers the world gave (`Ask.answers`), every question of that evaluation was
answered, and the value of `evalP` is that evaluation's value;
(3) a tree with none of the three conditions issues no call: `evalP` is `Model.eval`. -/
theorem C03_evaluation_calls (env : Env) (e : Expr) (m : Msg) (fl : MFlags) :
    Proofs.World.Calls (Proofs.EvalCallOf e) (evalP env e m fl) ∧
    (∀ c, Proofs.EvalCallOf e c → c.mutating = false) ∧
    (∀ (orcl : Nat → Call → Res) (i : Nat),
      let as := (evalTop env e m fl).answers orcl i
      (Proofs.Own.runO orcl (evalP env e m fl) i).1 = (evalR env e m fl as).1 ∧
      (evalR env e m fl as).2.length = as.length ∧
      Proofs.Own.runO orcl (askAll (evalR env e m fl as).2) i =
        (as, (Proofs.Own.runO orcl (evalP env e m fl) i).2.1, (Proofs.Own.runO orcl (evalP env e m fl) i).2.2)) ∧
    (Proofs.asksFree e = true →
      evalP (Proofs.noSys env) e m fl = .ret (eval env m e 0 m { ml := [], flags := fl })) :=
  ⟨Proofs.evalP_calls_of env e m fl, fun _ h => h.evalCall.quiet, fun orcl i => Proofs.evalP_replay env e m fl orcl i,
    fun h => Proofs.evalP_asksFree env e h m fl⟩

/-- Non-vacuity of (2): `match command "t" move "/d"` against results that let every call succeed with status 0 asks
one question, `command ["t"]`, gets the answer "status 0", and matches; the calls are those of `exec(argv, -1)`. -/
example :
    let e : Expr := .mtch 1 (.command 1 [[116]]) (.move 1 [47, 100])
    let env := Proofs.msgEnv Proofs.examplePEnv Proofs.exampleOracles [47, 109, 47, 110, 101, 119, 47, 49]
    let m := parseMessage [83, 117, 98, 106, 101, 99, 116, 58, 32, 120, 10, 10, 98, 10]
    (evalTop env e m MFlags.empty).answers (fun _ _ => .ok 0) 0 = [.status 0] ∧
    (evalR env e m MFlags.empty [.status 0]).2 = [.command [[116]]] ∧
    (evalR env e m MFlags.empty [.status 0]).1.1 = .match ∧
    ((Proofs.Own.runO (fun _ _ => .ok 0) (evalP env e m MFlags.empty) 0).2.1.map (·.1)) =
      [.openPath (ofString "/dev/null"), .fork [[116]] 0, .waitpid, .close 0] := by
  simp only [evalP, evalR, evalTop, evalT, eval]
  decide +kernel

/-- **Evaluation inside a run is `Model.eval`** whenever the answers the world gave to equal questions read the same
(`Proofs.Consistent`; in particular whenever no question is asked twice): the value of `evalP` is `eval` with the pure
oracles these answers define (`Proofs.envOf`) - so `C03_eval_refines_spec_att`, `C10_header_cond`, `C11_*`,
`C12_*`, `C15_*` (all stated for arbitrary oracles) hold for the evaluation of every message in every run. -/
theorem C03_world_eval_is_eval (env : Env) (e : Expr) (m : Msg) (fl : MFlags)
    (orcl : Nat → Call → Res) (i : Nat)
    (hc : Proofs.Consistent (evalR (Proofs.noSys env) e m fl ((evalTop (Proofs.noSys env) e m fl).answers orcl i)).2
      ((evalTop (Proofs.noSys env) e m fl).answers orcl i)) :
    (Proofs.Own.runO orcl (evalP (Proofs.noSys env) e m fl) i).1 =
      eval (Proofs.envOf env (evalR (Proofs.noSys env) e m fl ((evalTop (Proofs.noSys env) e m fl).answers orcl i)).2
        ((evalTop (Proofs.noSys env) e m fl).answers orcl i)) m e 0 m { ml := [], flags := fl } :=
  Proofs.evalP_eq_eval env e m fl orcl i hc

/-- Non-vacuity: a single question is always consistent. -/
example (q : Req) (a : SysAns) : Proofs.Consistent [q] [a] := by
  intro j k q1 q2 a1 a2 h1 h2 h3 h4 _
  have hj : j = 0 := by
    rcases j with _ | j
    · rfl
    · simp at h1
  have hk : k = 0 := by
    rcases k with _ | k
    · rfl
    · simp at h2
  subst hj hk
  simp only [List.getElem?_cons_zero, Option.some.injEq] at h1 h2 h3 h4
  subst h1 h2 h3 h4
  rfl

/-- **No match, no effect.**  For every environment, evaluation oracles, rule tree, maildir, message
name, loop state and every oracle of call results: if IN THIS RUN evaluating the rules on the message says *no
match* or *error* (`ev` = the value of `evalP` on the results `orcl` gives from the call after the parse phase on), or
says *match* and the interpolation of the actions' strings fails, then
`processMessage` issues only the `openat(O_RDONLY)`, `read` and `close` calls of parsing and freeing
the message and the calls of evaluation (`Proofs.ParseEvalCall`; no mutating call; a `fork` only for a `command`
condition): its trace is the trace of the parse phase, then the calls of evaluation, then
`close` calls only; the maildir is returned as it was; and the loop state is unchanged (`files`,
`reject`, `log`) except that `error` is set exactly when the parse failed or the evaluation result
is not *no match*. -/
theorem C03_no_match_no_effect (env : PEnv) (orc : EvalOracles) (expr : Expr) (md : Maildir) (name : Bytes)
    (st : MainSt) (d : Handle) (content p n : Bytes) (mf : MFlags)
    (hd : md.dirH = some d) (hf : st.files.get md.path name = some content)
    (hp : pathjoin PATH_MAX md.path name = some p) (hn : strlcpyFits NAME_MAX1 name = some n)
    (hmf : flagsParse n = some mf)
    (orcl : Nat → Call → Res) (ev : Tri × St)
    (hev : (Proofs.Own.runO orcl (evalP (Proofs.msgEnv env orc p) expr (parseMessage content) mf)
      (Proofs.Own.runO orcl (messageParseP d md.path name content) 0).2.2).1 = ev)
    (hno : ev.1 = .nomatch ∨ ev.1 = .error ∨
      (ev.1 = .match ∧ (matchesInterpolate (Proofs.msgEnv env orc p) ev.2.ml
          (partMsg (parseMessage content) ((getAttachments (parseMessage content)).getD []))).isNone = true)) :
    (∀ x ∈ (runOracle orcl (processMessage env orc expr md name st) 0 []).2,
      Proofs.ParseEvalCall d expr x.1 ∧ x.1.mutating = false ∧ (x.1.isFork = true → Proofs.hasCommand expr = true)) ∧
    (∃ E L, (runOracle orcl (processMessage env orc expr md name st) 0 []).2 =
        (runOracle orcl (messageParseP d md.path name content) 0 []).2 ++ E ++ L ∧
        (∀ x ∈ E, Proofs.EvalCallOf expr x.1) ∧ ∀ x ∈ L, ∃ fd, x.1 = .close fd) ∧
    (runOracle orcl (processMessage env orc expr md name st) 0 []).1 =
      (if (runOracle orcl (messageParseP d md.path name content) 0 []).1.isNone || ev.1 != .nomatch
        then { st with error := true } else st, md) := by
  obtain ⟨h1, h2, h3⟩ := Proofs.processMessage_noMatch_run env orc expr md name st d content p n mf hd hf hp hn hmf orcl ev hev hno
  exact ⟨fun x hx => ⟨(h1 x hx).1, (h1 x hx).2, fun hfk => (h1 x hx).1.fork' hfk⟩, h2, h3⟩

/-- `C03_no_match_no_effect` for a rule tree without `command`, `isdirectory` and file-time `date` conditions
(`Proofs.asksFree`): the statement in terms of the pure evaluator, with the parse calls only and no `fork`. -/
theorem C03_no_match_no_effect_pure (env : PEnv) (orc : EvalOracles) (expr : Expr) (md : Maildir) (name : Bytes)
    (st : MainSt) (d : Handle) (content p n : Bytes) (mf : MFlags)
    (hd : md.dirH = some d) (hf : st.files.get md.path name = some content)
    (hp : pathjoin PATH_MAX md.path name = some p) (hn : strlcpyFits NAME_MAX1 name = some n)
    (hmf : flagsParse n = some mf) (hfree : Proofs.asksFree expr = true)
    (hno :
      (eval (Proofs.msgEnv env orc p) (parseMessage content) expr 0 (parseMessage content) { ml := [], flags := mf }).1 = .nomatch ∨
      (eval (Proofs.msgEnv env orc p) (parseMessage content) expr 0 (parseMessage content) { ml := [], flags := mf }).1 = .error ∨
      ((eval (Proofs.msgEnv env orc p) (parseMessage content) expr 0 (parseMessage content) { ml := [], flags := mf }).1 = .match ∧
       (matchesInterpolate (Proofs.msgEnv env orc p)
          (eval (Proofs.msgEnv env orc p) (parseMessage content) expr 0 (parseMessage content) { ml := [], flags := mf }).2.ml
          (partMsg (parseMessage content) ((getAttachments (parseMessage content)).getD []))).isNone = true))
    (orcl : Nat → Call → Res) :
    (∀ x ∈ (runOracle orcl (processMessage env orc expr md name st) 0 []).2,
      ((∃ nm, x.1 = .openRd d nm) ∨ (∃ fd, x.1 = .read fd) ∨ ∃ fd, x.1 = .close fd) ∧
        x.1.mutating = false ∧ x.1.isFork = false) ∧
    (∃ L, (runOracle orcl (processMessage env orc expr md name st) 0 []).2 =
        (runOracle orcl (messageParseP d md.path name content) 0 []).2 ++ L ∧ ∀ x ∈ L, ∃ fd, x.1 = .close fd) ∧
    (runOracle orcl (processMessage env orc expr md name st) 0 []).1 =
      (if (runOracle orcl (messageParseP d md.path name content) 0 []).1.isNone ||
          (eval (Proofs.msgEnv env orc p) (parseMessage content) expr 0 (parseMessage content) { ml := [], flags := mf }).1 != .nomatch
        then { st with error := true } else st, md) :=
  Proofs.processMessage_noMatch_run_pure env orc expr md name st d content p n mf hd hf hp hn hmf hfree hno orcl

/-- The same for every message for which the rules IN THIS RUN do not produce an action list
(`Proofs.verdictAt … orcl j`, the verdict with the results `orcl` gives to the calls of evaluation from index `j` on: no
match, evaluation error, interpolation failure, or a name `message_parse` rejects - path too long, name too long, invalid
flag suffix), without assumptions on the name.  For a rule tree that asks nothing `verdictAt` is the pure
`Proofs.verdict` (`Proofs.verdictAt_asksFree`). -/
theorem C03_no_action_no_effect (env : PEnv) (orc : EvalOracles) (expr : Expr) (md : Maildir) (name : Bytes)
    (st : MainSt) (d : Handle) (content : Bytes)
    (hd : md.dirH = some d) (hf : st.files.get md.path name = some content)
    (orcl : Nat → Call → Res)
    (hv : (Proofs.verdictAt env orc expr md.path name content orcl
      (Proofs.Own.runO orcl (messageParseP d md.path name content) 0).2.2).acts = false) :
    (∀ x ∈ (runOracle orcl (processMessage env orc expr md name st) 0 []).2,
      Proofs.ParseEvalCall d expr x.1 ∧ x.1.mutating = false) ∧
    (∃ E L, (runOracle orcl (processMessage env orc expr md name st) 0 []).2 =
        (runOracle orcl (messageParseP d md.path name content) 0 []).2 ++ E ++ L ∧
        (∀ x ∈ E, Proofs.EvalCallOf expr x.1) ∧ ∀ x ∈ L, Proofs.IsClose x.1) ∧
    (runOracle orcl (processMessage env orc expr md name st) 0 []).1 =
      (if (runOracle orcl (messageParseP d md.path name content) 0 []).1.isNone ||
          (Proofs.verdictAt env orc expr md.path name content orcl
            (Proofs.Own.runO orcl (messageParseP d md.path name content) 0).2.2).isErr then { st with error := true } else st, md) :=
  Proofs.processMessage_noAct_run env orc expr md name st d content hd hf orcl hv

/-- A maildir that is not open, or a name the model has no content for: no call at all; the
second is reported as an error.  (A statement about the MODEL's bookkeeping, not about mdsort - the registry
`st.files` is a device of the model; mdsort opens and parses whatever `readdir` returns.  The two degenerate branches of
`processMessage` are where the model departs from the program by construction; the check's scenarios register every file of
the maildirs, so the branch is not exercised there.) -/
theorem C03_unknown_message_no_call (env : PEnv) (orc : EvalOracles) (expr : Expr) (md : Maildir) (name : Bytes)
    (st : MainSt) (orcl : Nat → Call → Res) (i : Nat) (tr : List (Call × Res)) :
    (md.dirH = none → runOracle orcl (processMessage env orc expr md name st) i tr = ((st, md), tr)) ∧
    (md.dirH.isSome = true → st.files.get md.path name = none →
      runOracle orcl (processMessage env orc expr md name st) i tr = (({ st with error := true }, md), tr)) :=
  Proofs.processMessage_degenerate_run env orc expr md name st orcl i tr

/-! Non-vacuity: the message `Subject: x\n\nb\n` named `1` in `/m/new`, no regex ever matches.
`match header "X" /1/ move "/d"` evaluates to *no match*; `match command "t" move "/d"` to *error* with the pure
evaluator whose command oracle reports failure (in a run: when `fork` fails, see the example after
`C03_evaluation_calls` for the run in which it succeeds); `match all move "\1"` matches and its
interpolation fails (see `C12_error_no_effect`). -/
example :
    pathjoin PATH_MAX [47, 109, 47, 110, 101, 119] [49] = some [47, 109, 47, 110, 101, 119, 47, 49] ∧
    strlcpyFits NAME_MAX1 [49] = some [49] ∧ flagsParse [49] = some MFlags.empty ∧
    (eval (Proofs.msgEnv Proofs.examplePEnv Proofs.exampleOracles [47, 109, 47, 110, 101, 119, 47, 49])
      (parseMessage [83, 117, 98, 106, 101, 99, 116, 58, 32, 120, 10, 10, 98, 10])
      (.mtch 1 (.header 1 [[88]] { src := [49] }) (.move 1 [47, 100])) 0
      (parseMessage [83, 117, 98, 106, 101, 99, 116, 58, 32, 120, 10, 10, 98, 10])
      { ml := [], flags := MFlags.empty }).1 = .nomatch ∧
    (eval (Proofs.msgEnv Proofs.examplePEnv Proofs.exampleOracles [47, 109, 47, 110, 101, 119, 47, 49])
      (parseMessage [83, 117, 98, 106, 101, 99, 116, 58, 32, 120, 10, 10, 98, 10])
      (.mtch 1 (.command 1 [[116]]) (.move 1 [47, 100])) 0
      (parseMessage [83, 117, 98, 106, 101, 99, 116, 58, 32, 120, 10, 10, 98, 10])
      { ml := [], flags := MFlags.empty }).1 = .error := by
  simp only [eval]
  decide +kernel

/-- The verdicts of the first and the third of these rule trees (nothing to do; interpolation error) and of
`match all move "/d"` (acts). -/
example :
    (Proofs.verdict Proofs.examplePEnv Proofs.exampleOracles (.mtch 1 (.header 1 [[88]] { src := [49] }) (.move 1 [47, 100]))
      [47, 109, 47, 110, 101, 119] [49] [83, 117, 98, 106, 101, 99, 116, 58, 32, 120, 10, 10, 98, 10]).acts = false ∧
    (Proofs.verdict Proofs.examplePEnv Proofs.exampleOracles (.mtch 1 (.all 1) (.move 1 [92, 49]))
      [47, 109, 47, 110, 101, 119] [49] [83, 117, 98, 106, 101, 99, 116, 58, 32, 120, 10, 10, 98, 10]).isErr = true ∧
    (Proofs.verdict Proofs.examplePEnv Proofs.exampleOracles (.mtch 1 (.all 1) (.move 1 [47, 100]))
      [47, 109, 47, 110, 101, 119] [49] [83, 117, 98, 106, 101, 99, 116, 58, 32, 120, 10, 10, 98, 10]).acts = true := by
  simp only [Proofs.verdict, Proofs.msVerdict, eval]
  decide +kernel

end Mdsort.Props
