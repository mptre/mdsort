import Mdsort.Proofs.HeaderBlank
import Mdsort.Model.Eval
import Mdsort.Proofs.Literal

/-!
# C08 - rewriting a message preserves everything it is not meant to change

`Spec.read` is the line-by-line reading of a well-formed message (no NUL, header block
of fields only, one empty line, body not starting with a newline - the domain the
property names).  `Spec.rewriteOk m kvs out` is the decidable statement of the property
for one rewrite: same body, same other fields (names, raw values incl. folding, order),
every set name exactly once with its last value, a replaced name at the position of
its first occurrence.  The same predicate is evaluated on the real output of
`message_write` by the correspondence run.

Domain.  `Spec.WF` admits folded values (SP / TAB continuation lines), duplicate and
mixed-case names, 8-bit bytes and an mbox `From ` line; it EXCLUDES a NUL anywhere, a message without an
empty line, CRLF line ends (the separator line `\r` is not empty), a header line that is neither a field start
nor a continuation, and a body that starts with an empty line (findings F16a-d; examples below).
`Spec.read` removes the blanks after the colon, so "same value" is blind to their number
(`message_write` normalises them to one space).

The values being set (/repo 71eba6c, 4ac7c48).  `label` builds its value from the RFC 2047-DECODED
existing `X-Label`, `add-header` / `label "\1"` from captures of decoded text: message content reaches the header being
set.  Since 4ac7c48 `message_set_header` replaces every `'\n'` / `'\r'` of the value by a space (`Model.headerSafe`,
`Model.setHeader`).  With that the theorems below need NO hypothesis on the value beyond "a C string":
`C08_set_value_never_breaks_header`, `C08_rewrite_preserves_seen`, `C08_label_rewrite_preserves`,
`C08_add_header_rewrite_preserves`.  What remains of the literal statement `C08_rewrite_preserves` is said beside it.
-/

namespace Mdsort.Props
open Mdsort Mdsort.Model

/-- Parsing a well-formed message yields exactly its fields, in file order with ids
1..n, and its body. -/
theorem C08_parse (m : Bytes) (fs : List (Bytes × Bytes)) (b : Bytes) (h : Spec.read m = some (fs, b)) :
    Proofs.fileOrder (parseMessage m) = fs ∧ (parseMessage m).body = b ∧
    (sortById (parseMessage m).headers).map (·.id) = (List.range fs.length).map (· + 1) :=
  Proofs.parseMessage_eq_read m fs b h

/-! ## Any sequence of settings -/

/-- For every well-formed message and every sequence of
settings `(name, value)` - names that keep the line structure (`KeyOk`), values without NUL, NOTHING else - applied by
`message_set_header` and printed by `message_write`: `Spec.rewriteOk` accepts the file for the values a reader sees,
`Proofs.seen (name, headerSafe value)`: every line break of the value a space, its leading blanks dropped. -/
theorem C08_rewrite_preserves_seen (m : Bytes) (kvs : List (Bytes × Bytes)) (hwf : Spec.WF m)
    (hk : ∀ kv ∈ kvs, Proofs.SetRes kv) :
    Spec.rewriteOk m ((Proofs.safeKvs kvs).map Proofs.seen) (messageWrite (Proofs.applySets (parseMessage m) kvs)).1 = true :=
  Proofs.rewrite_preserves_any m kvs hwf hk

/-- What is asked of a setting: a name that keeps the line structure, a value without NUL that does not
BEGIN with SP, TAB, LF or CR.  (No condition on line breaks inside the value.) -/
def C08_SetOk (kv : Bytes × Bytes) : Prop :=
  Proofs.SetRes kv ∧ ∀ c, kv.2.head? = some c → c ≠ 32 ∧ c ≠ 9 ∧ c ≠ 10 ∧ c ≠ 13

theorem c08_headerSafe_head (v : Bytes) (h : ∀ c, v.head? = some c → c ≠ 32 ∧ c ≠ 9 ∧ c ≠ 10 ∧ c ≠ 13) :
    (headerSafe v).dropWhile isblank = headerSafe v := by
  cases v with
  | nil => rfl
  | cons x r =>
    obtain ⟨h1, h2, h3, h4⟩ := h x rfl
    have e : headerSafe (x :: r) = x :: headerSafe r := by
      unfold headerSafe
      simp [h3, h4]
    rw [e]
    have : isblank x = false := by simp [isblank, h1, h2]
    simp [this]

/-- PARTIAL (as to the value written): under `C08_SetOk` the file is accepted for the settings with their line breaks
turned into spaces (`Proofs.safeKvs`) - the set header appears exactly once with exactly that value. -/
theorem C08_rewrite_preserves_partial (m : Bytes) (kvs : List (Bytes × Bytes)) (hwf : Spec.WF m)
    (hk : ∀ kv ∈ kvs, C08_SetOk kv) :
    Spec.rewriteOk m (Proofs.safeKvs kvs) (messageWrite (Proofs.applySets (parseMessage m) kvs)).1 = true := by
  have h := C08_rewrite_preserves_seen m kvs hwf (fun kv hkv => (hk kv hkv).1)
  have e : (Proofs.safeKvs kvs).map Proofs.seen = Proofs.safeKvs kvs := by
    unfold Proofs.safeKvs
    rw [List.map_map]
    apply List.map_congr_left
    intro kv hkv
    simp only [Function.comp, Proofs.seen]
    rw [c08_headerSafe_head kv.2 (hk kv hkv).2]
  rw [e] at h; exact h

/-- Under `C08_SetOk`, when the values hold no LF / CR either, the file is accepted for the settings as they are. -/
theorem C08_rewrite_preserves_exact (m : Bytes) (kvs : List (Bytes × Bytes)) (hwf : Spec.WF m)
    (hk : ∀ kv ∈ kvs, C08_SetOk kv) (hnl : ∀ kv ∈ kvs, ∀ c ∈ kv.2, c ≠ 10 ∧ c ≠ 13) :
    Spec.rewriteOk m kvs (messageWrite (Proofs.applySets (parseMessage m) kvs)).1 = true := by
  have h := C08_rewrite_preserves_partial m kvs hwf hk
  have e : Proofs.safeKvs kvs = kvs := by
    unfold Proofs.safeKvs
    conv => rhs; rw [← List.map_id kvs]
    apply List.map_congr_left
    intro kv hkv
    obtain ⟨k, v⟩ := kv
    simp only [id]
    congr 1
    unfold headerSafe
    conv => rhs; rw [← List.map_id v]
    apply List.map_congr_left
    intro c hc
    have := hnl (k, v) hkv c hc
    simp [this.1, this.2]
  rw [e] at h; exact h

/-- The literal statement: every well-formed message, EVERY sequence of settings, accepted for the settings as given.
It stays false, and exactly for these reasons (each a difference between the value given and the value a reader sees,
never a lost field or an altered body - `C08_set_value_never_breaks_header`):
(1) a line break in the value is written as a space (4ac7c48);
(2) leading blanks of the value are not seen by a reader (`name:` + any number of blanks);
(3) a NUL ends the value (every value is a C string; the model passes `cstr v`);
(4) a NAME with a colon, white space or NUL (`add-header "a b" "v"`, `add-header "a:b" "v"`) is outside `KeyOk`: the
    grammar does not forbid it, nothing is proved about it. -/
def C08_rewrite_preserves : Prop :=
  ∀ (m : Bytes) (kvs : List (Bytes × Bytes)), Spec.WF m →
    Spec.rewriteOk m kvs (messageWrite (Proofs.applySets (parseMessage m) kvs)).1 = true

/-- Witness for (2): on `A: 1`, setting `A` to ` v` writes `A:  v`; accepted for `v`, rejected for ` v`. -/
theorem C08_rewrite_preserves_false : ¬ C08_rewrite_preserves := by
  intro h
  have h1 := h (ofString "A: 1\n\nx\n") [(ofString "A", ofString " v")] (by unfold Spec.WF; decide +kernel)
  have h2 : Spec.rewriteOk (ofString "A: 1\n\nx\n") [(ofString "A", ofString " v")]
      (messageWrite (Proofs.applySets (parseMessage (ofString "A: 1\n\nx\n")) [(ofString "A", ofString " v")])).1 = false := by
    decide +kernel
  rw [h2] at h1; cases h1

/-! ### Non-vacuity of `WF` and `C08_SetOk`, and what `WF` excludes -/

/-- mbox line, a TAB-folded and a SP-folded value, a duplicate name in another letter case with two blanks after
its colon, an empty line inside the body, no final newline. -/
def C08_sample : Bytes := ofString
  "From x@y Thu Jan  1 00:00:00 1970\nReceived: a\n\tb\nSubject: hi\n there\nX-Label: old\nreceived:  c\n\nbody\n\nmore"

/-- `label` (replacing, name in another case) and `add-header` (new name). -/
def C08_sampleSets : List (Bytes × Bytes) := [(ofString "x-label", ofString "old new"), (ofString "X-New", ofString "v")]

/-- The reference reading of the sample: folding kept verbatim, blanks after the colon dropped. -/
theorem c08_sample_read : Spec.read C08_sample = some
    ([(ofString "Received", ofString "a\n\tb"), (ofString "Subject", ofString "hi\n there"),
      (ofString "X-Label", ofString "old"), (ofString "received", ofString "c")], ofString "body\n\nmore") := by
  rw [C08_sample]
  decide_lit

example : Spec.read C08_sample = some
    ([(ofString "Received", ofString "a\n\tb"), (ofString "Subject", ofString "hi\n there"),
      (ofString "X-Label", ofString "old"), (ofString "received", ofString "c")], ofString "body\n\nmore") :=
  c08_sample_read

theorem c08_sample_wf : Spec.WF C08_sample := by unfold Spec.WF; rw [c08_sample_read]; rfl

theorem c08_sampleSets_ok : ∀ kv ∈ C08_sampleSets, C08_SetOk kv := by
  intro kv hkv
  simp only [C08_sampleSets, List.mem_cons, List.not_mem_nil, or_false] at hkv
  rcases hkv with rfl | rfl
  · refine ⟨⟨by unfold Proofs.KeyOk; decide +kernel, by decide +kernel⟩, ?_⟩
    show ∀ c, (ofString "old new").head? = some c → _
    rw [show (ofString "old new").head? = some 111 by decide +kernel]
    intro c h; cases h; decide
  · refine ⟨⟨by unfold Proofs.KeyOk; decide +kernel, by decide +kernel⟩, ?_⟩
    show ∀ c, (ofString "v").head? = some c → _
    rw [show (ofString "v").head? = some 118 by decide +kernel]
    intro c h; cases h; decide

/-- The hypotheses of `C08_rewrite_preserves_exact` hold of the sample (well formed, `C08_SetOk`, no LF / CR in the values):
the theorem applies. -/
example : Spec.rewriteOk C08_sample C08_sampleSets
    (messageWrite (Proofs.applySets (parseMessage C08_sample) C08_sampleSets)).1 = true :=
  C08_rewrite_preserves_exact _ _ c08_sample_wf c08_sampleSets_ok (by
    intro kv hkv
    simp only [C08_sampleSets, List.mem_cons, List.not_mem_nil, or_false] at hkv
    rcases hkv with rfl | rfl <;> decide +kernel)

/-- Outside `WF` (nothing is proved about these): CRLF line ends, a body starting with an empty line, no empty
line at all, a line in the header block that is neither field nor continuation, a NUL. -/
example : ¬ Spec.WF (ofString "A: 1\r\n\r\nx\r\n") ∧ ¬ Spec.WF (ofString "A: 1\n\n\nx\n") ∧
    ¬ Spec.WF (ofString "A: 1\n") ∧ ¬ Spec.WF (ofString "A: 1\nno colon here\n\nx\n") ∧
    ¬ Spec.WF [65, 58, 32, 0, 10, 10, 120] := by
  unfold Spec.WF; decide_lit

/-! ## One setting: the header block is never broken -/

/-- No value can break the header block.  For every well-formed message, every field name that keeps the line
structure (`KeyOk`: no colon, white space or NUL - the grammar's `add-header` name and `X-Label`) and EVERY value `v` (taken as
the C string `cstr v`, whatever bytes it holds: line breaks, CR, leading blanks, header look-alikes, captures, configured
text): the file `message_write` prints after `message_set_header` reads back with the SAME body, exactly the original fields
other than `k` in their order (`Spec.others`), and `k` exactly once, with the value a reader sees - line breaks as spaces,
leading blanks dropped.  No field becomes body text, no body text becomes a field. -/
theorem C08_set_value_never_breaks_header (m : Bytes) (k v : Bytes) (hwf : Spec.WF m) (hk : Proofs.KeyOk k) :
    ∃ fs fs' b, Spec.read m = some (fs, b) ∧
      Spec.read (messageWrite (setHeader (parseMessage m) k (cstr v))).1 = some (fs', b) ∧
      Spec.others fs' [k] = Spec.others fs [k] ∧
      (fs'.filter fun f => Spec.nameEq f.1 k).map (·.2) = [(headerSafe (cstr v)).dropWhile isblank] := by
  have h := Proofs.rewrite_preserves_any m [(k, cstr v)] hwf (by
    intro kv hkv; simp at hkv; subst hkv; exact ⟨hk, cstr_no_nul v⟩)
  simp only [Proofs.applySets] at h
  unfold Spec.rewriteOk at h
  split at h
  · rename_i fs b fs' b' h1 h2
    simp only [Proofs.safeKvs, Proofs.seen, List.map_cons, List.map_nil, Bool.and_eq_true, beq_iff_eq,
      List.all_cons, List.all_nil, Bool.and_true] at h
    obtain ⟨⟨hb, ho⟩, hv, _⟩ := h
    subst hb
    refine ⟨fs, fs', b', h1, h2, ho, ?_⟩
    rw [hv]
    simp [Spec.lastSet, Spec.nameEq]
  · cases h

/-- Non-vacuity / what it gives on the message that broke the header block before 71eba6c and 4ac7c48: setting `X-Copy`-like
text `a\n\nTo: evil\n\nbody` on `Subject: s` + `To: me`. -/
example : Spec.WF (ofString "Subject: s\nTo: me\n\nbody\n") ∧ Proofs.KeyOk (ofString "Subject") ∧
    headerSafe (cstr (ofString " a\n\nTo: evil\r\n\nbody")) = ofString " a  To: evil   body" := by
  refine ⟨by unfold Spec.WF; decide_lit, by unfold Proofs.KeyOk; decide_lit, by decide_lit⟩

/-! ## `label` and `add-header` as mdsort computes their values -/

theorem c08_mi_label_shape (macros : Option (List (Bytes × Bytes))) (ml : MatchList) (i : Nat) (mh : Match)
    (msgs : Nat → Msg) (hty : mh.ty = .label) (r : Match × Option (Nat × Msg))
    (h : matchInterpolate macros ml i mh msgs = some r) :
    ∃ lab, r = (mh, some (mh.part, setHeader (msgs mh.part) (ofString "X-Label") (cstr lab))) := by
  unfold matchInterpolate at h
  simp only [hty] at h
  generalize matchInterpolate.add _ _ _ _ = x at h
  cases x with
  | none => cases h
  | some lab => exact ⟨lab, by cases h; rfl⟩

theorem c08_mi_add_shape (macros : Option (List (Bytes × Bytes))) (ml : MatchList) (i : Nat) (mh : Match)
    (msgs : Nat → Msg) (hty : mh.ty = .addHeader) (r : Match × Option (Nat × Msg))
    (h : matchInterpolate macros ml i mh msgs = some r) :
    ∃ v, r = (mh, some (mh.part, setHeader (msgs mh.part) mh.hkey (cstr v))) := by
  unfold matchInterpolate at h
  simp only [hty] at h
  generalize interpolate _ _ _ = x at h
  cases x with
  | none => cases h
  | some v => exact ⟨v, by cases h; rfl⟩


def C08_xlabel : Bytes := ofString "X-Label"

/-- `label` preserves everything else - no hypothesis on the message, none on the configured strings.  Whenever
`match_interpolate` of a `label` entry succeeds on a well-formed message (whatever the match list, the macros, the captures
its strings refer to, the existing `X-Label` text): the message it leaves is `message_set_header "X-Label" v` for a C string
`v`, and the file `message_write` prints is accepted by `Spec.rewriteOk` for the value a reader sees. -/
theorem C08_label_rewrite_preserves (m : Bytes) (hwf : Spec.WF m) (macros : Option (List (Bytes × Bytes)))
    (ml : MatchList) (i : Nat) (mh : Match) (hty : mh.ty = .label) (r : Match × Option (Nat × Msg))
    (h : matchInterpolate macros ml i mh (fun _ => parseMessage m) = some r) :
    ∃ v, r = (mh, some (mh.part, setHeader (parseMessage m) C08_xlabel v)) ∧ (∀ c ∈ v, c ≠ 0) ∧
      Spec.rewriteOk m [Proofs.seen (C08_xlabel, headerSafe v)]
        (messageWrite (setHeader (parseMessage m) C08_xlabel v)).1 = true := by
  obtain ⟨lab, rfl⟩ := c08_mi_label_shape macros ml i mh _ hty r h
  refine ⟨cstr lab, rfl, cstr_no_nul lab, ?_⟩
  have := C08_rewrite_preserves_seen m [(C08_xlabel, cstr lab)] hwf (by
    intro kv hkv; simp at hkv; subst hkv
    exact ⟨(by unfold Proofs.KeyOk C08_xlabel; decide +kernel : Proofs.KeyOk C08_xlabel), cstr_no_nul lab⟩)
  simpa [Proofs.applySets, Proofs.safeKvs] using this

/-- `add-header` likewise, for a configured NAME that keeps the line structure (`KeyOk mh.hkey`; the value may be
anything the interpolation yields - captures with line breaks, configured text with line breaks). -/
theorem C08_add_header_rewrite_preserves (m : Bytes) (hwf : Spec.WF m) (macros : Option (List (Bytes × Bytes)))
    (ml : MatchList) (i : Nat) (mh : Match) (hty : mh.ty = .addHeader) (hkey : Proofs.KeyOk mh.hkey)
    (r : Match × Option (Nat × Msg))
    (h : matchInterpolate macros ml i mh (fun _ => parseMessage m) = some r) :
    ∃ v, r = (mh, some (mh.part, setHeader (parseMessage m) mh.hkey v)) ∧ (∀ c ∈ v, c ≠ 0) ∧
      Spec.rewriteOk m [Proofs.seen (mh.hkey, headerSafe v)]
        (messageWrite (setHeader (parseMessage m) mh.hkey v)).1 = true := by
  obtain ⟨v, rfl⟩ := c08_mi_add_shape macros ml i mh _ hty r h
  refine ⟨cstr v, rfl, cstr_no_nul v, ?_⟩
  have := C08_rewrite_preserves_seen m [(mh.hkey, cstr v)] hwf (by
    intro kv hkv; simp at hkv; subst hkv
    exact ⟨hkey, cstr_no_nul v⟩)
  simpa [Proofs.applySets, Proofs.safeKvs] using this

/-! ### Evaluated on the messages that used to break the header block -/

/-- `X-Label: =?utf-8?Q?a=0A=0AINJECTED?=` (repaired by 71eba6c). -/
def C08_hostile : Bytes := ofString "X-Label: =?utf-8?Q?a=0A=0AINJECTED?=\n\nbody\n"

/-- The match-list entry of `label "x"`. -/
def C08_labelEntry : Match := { ty := .label, lno := 1, part := 0, strings := [ofString "x"] }

/-- `label "x"` on it writes `X-Label: a  INJECTED x`; on `X-Label: =?utf-8?Q?_a?=` (decoded ` a`) it writes
`X-Label:  a x`, which a reader sees as `a x`: accepted for `a x`, not for ` a x`. -/
example :
    (matchInterpolate (some []) [{ ty := .mtch, lno := 1, part := 0 }, C08_labelEntry] 1 C08_labelEntry
        (fun _ => parseMessage C08_hostile)).map (fun r => r.2.map fun p => (messageWrite p.2).1) =
      some (some (ofString "X-Label: a  INJECTED x\n\nbody\n")) ∧
    (matchInterpolate (some []) [{ ty := .mtch, lno := 1, part := 0 }, C08_labelEntry] 1 C08_labelEntry
        (fun _ => parseMessage (ofString "X-Label: =?utf-8?Q?_a?=\n\nbody\n"))).map
        (fun r => r.2.map fun p => (messageWrite p.2).1) =
      some (some (ofString "X-Label:  a x\n\nbody\n")) ∧
    Spec.rewriteOk (ofString "X-Label: =?utf-8?Q?_a?=\n\nbody\n") [(C08_xlabel, ofString "a x")]
      (ofString "X-Label:  a x\n\nbody\n") = true ∧
    Spec.rewriteOk (ofString "X-Label: =?utf-8?Q?_a?=\n\nbody\n") [(C08_xlabel, ofString " a x")]
      (ofString "X-Label:  a x\n\nbody\n") = false := by
  decide_lit

def C08_captureMsg : Bytes := ofString "Subject: =?utf-8?Q?a=0A=0Ab?=\n\nbody\n"

def C08_captureBefore : MatchList :=
  [{ ty := .mtch, lno := 1, part := 0 },
   { ty := .header, lno := 1, part := 0, subs := [⟨ofString "a\n\nb", some (0, 4)⟩, ⟨ofString "a\n\nb", some (0, 4)⟩] }]

def C08_addEntry : Match := { ty := .addHeader, lno := 1, part := 0, hkey := ofString "Subject", hval := ofString "\\1" }

/-- `Subject: =?utf-8?Q?a=0A=0Ab?=` with `match header "Subject" /(a[[:space:]]+b)/ add-header "Subject" "\1"` (the capture
holds the two line breaks; repaired by 4ac7c48): the file written is `Subject: a  b`, accepted for the value `a  b`.  The message
has one header because the kernel evaluates `List.mergeSort` - the table sort of `parseMessage` and `message_write` - on
singletons only.  `C08_captureBefore` lists the capture twice: `\0` (the whole match) and `\1` (the group) are the same text. -/
example :
    getHeader (parseMessage C08_captureMsg) (ofString "Subject") = some [ofString "a\n\nb"] ∧
    (matchInterpolate (some []) (C08_captureBefore ++ [C08_addEntry]) 2 C08_addEntry (fun _ => parseMessage C08_captureMsg)).map
      (fun r => r.2.map fun p => (messageWrite p.2).1) =
      some (some (ofString "Subject: a  b\n\nbody\n")) ∧
    Spec.rewriteOk C08_captureMsg [(ofString "Subject", ofString "a  b")] (ofString "Subject: a  b\n\nbody\n") = true := by
  decide_lit

/-- The hypotheses of `C08_add_header_rewrite_preserves` on it. -/
example : Spec.WF C08_captureMsg ∧ C08_addEntry.ty = .addHeader ∧ Proofs.KeyOk C08_addEntry.hkey :=
  ⟨by unfold Spec.WF; decide +kernel, rfl, by unfold Proofs.KeyOk; decide +kernel⟩

/-! ## Copies and repeated writes -/

/-- A copy without header settings (move across file systems, exec stdin of a part)
has the same fields and body. -/
theorem C08_copy_identity (m : Bytes) (hwf : Spec.WF m) :
    Spec.rewriteOk m [] (messageWrite (parseMessage m)).1 = true := by
  simpa [Proofs.applySets, Proofs.safeKvs] using Proofs.rewrite_preserves_any m [] hwf (by simp)

/-- Non-vacuity, and what `rewriteOk m []` amounts to: `Spec.read` of the copy equals `Spec.read` of the original
up to the blanks after a colon (the copy of `received:  c` is `received: c`). -/
example : Spec.rewriteOk C08_sample [] (messageWrite (parseMessage C08_sample)).1 = true :=
  C08_copy_identity _ c08_sample_wf

/-- A second `message_write` of the IN-MEMORY message left by the first gives the same bytes (no hypothesis).
This is not "re-parsing the output yields the same table" (`C08_reparse_stable` of DESIGN.md section 4), which is not proved
and is false for a value with leading blanks: the ` v` of `C08_rewrite_preserves_false` is stored as ` v` and read back from the
output as `v`. -/
theorem C08_rewrite_stable (m : Bytes) (kvs : List (Bytes × Bytes)) :
    let w := messageWrite (Proofs.applySets (parseMessage m) kvs)
    (messageWrite w.2).1 = w.1 :=
  Proofs.second_write_same_any m kvs

end Mdsort.Props
