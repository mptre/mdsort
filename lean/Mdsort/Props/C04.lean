import Mdsort.Proofs.Opts
import Mdsort.Proofs.World
import Mdsort.Proofs.WorldFrameMain
import Mdsort.Proofs.WorldStdinExample
import Mdsort.Proofs.EvalErrProp
import Mdsort.Proofs.EvalAtt
import Mdsort.Proofs.ExecStatus
import Mdsort.Proofs.WorldFuelConform
import Mdsort.Proofs.EvalPFail
import Mdsort.Proofs.WorldIndependent

/-!
# C04 - the exit status tells the truth (MDA contract, error isolation)
-/

namespace Mdsort.Props
open Mdsort Mdsort.Model

/-- The status table: 0/1 from the sticky error flag in maildir mode; with `-`: 75 iff an error
occurred, else 1 iff a reject was executed, else 0 (constants regenerated from mdsort.c).

(The first conjunct is how `mainP` ends - `finish st = (exitStatus env st, st)` on every path - and holds by
unfolding; the content is the two regenerated constants and, through the correspondence run, that `main` of mdsort.c ends the
same way.  WHICH events set `error` / `reject` is `C04_error_iff_partial`; that `reject` is set ONLY by an executed reject
action ("1 only for a matched reject") is not a theorem of this file.) -/
theorem C04_status_table (env : PEnv) (orc : EvalOracles) (ok : Bool) (conf : List ConfBlock) (files : Files) (input : Bytes)
    (w : World) (plan : Plan) :
    let r := (runPlan plan (mainP env orc ok conf files input) w 0 []).1
    r.1 = exitStatus env r.2 ∧ Gen.exTempfail = 75 ∧ Gen.exPermfail = 1 :=
  ⟨Proofs.exit_status_table env orc ok conf files input w plan, by decide, by decide⟩

/-- A rejected or unreadable configuration is an error, and nothing but the configuration file
is touched. -/
theorem C04_config_error (env : PEnv) (orc : EvalOracles) (conf : List ConfBlock) (files : Files) (input : Bytes)
    (w : World) (plan : Plan) :
    let r := runPlan plan (mainP env orc false conf files input) w 0 []
    r.1.2.error = true ∧
    (Proofs.callsOf plan (mainP env orc false conf files input) w = [.fopen env.confpath] ∨
     ∃ h, Proofs.callsOf plan (mainP env orc false conf files input) w = [.fopen env.confpath, .fclose h]) :=
  Proofs.bad_config_only_reads_config env orc conf files input w plan

/-! ## Frame and error isolation (world level, arbitrary call results)

`runOracle orcl p i tr` runs `p` when the trace so far is `tr`, giving the `j`-th call the ARBITRARY
result `orcl j c`; the statements therefore hold for every behaviour of the file system, every fault
and every interleaving with other processes.  `createdNames tr` are the names for which an exclusive
create succeeded in `tr` (Model/Plan.lean).

`Proofs.Framed src tr c` (Proofs/WorldOwnScripts.lean) is the frame condition on a call `c` issued when
the trace is `tr`, for the message named `src`:

* `unlinkat _ n`: `n` is `src` or a name this run created;
* `renameat _ n1 _ n2`: `n1` is `src` or a name this run created, and `n2` is a name this run created;
* `utimensat _ n ..`: `n` is a name this run created;
* `write fd _`, `fprintf fd _`: `fd` is a descriptor of a file this run created (`Proofs.ownFds`: result
  of a successful exclusive create or `mkostemp`, or a duplicate of such a descriptor);
* `unlink p`: `p` is the template of a temporary file this run created with `mkostemp`;
* `mkdtemp`, `mkdir`, `rmdir`, `readdir`: never;
* anything else (`openExcl`, which creates a fresh name or fails; `mkostemp`; the calls that change
  nothing): allowed. -/

/-- **Frame.**  Processing one message mentions, in its mutating calls, only the message's own name
and names this run created itself - for every oracle of results and from every trace so far.

(`Framed` constrains NAMES, not (directory, name) pairs - the directory handle of `unlinkat` / `renameat` /
`utimensat` is unconstrained, so an entry of the same name in ANOTHER directory is inside the frame.  The world-level
frame with directories is `C01_message_no_loss`, second conjunct, for `runPlan`.) -/
theorem C04_frame (env : PEnv) (orc : EvalOracles) (expr : Expr) (md : Maildir) (name : Bytes) (st : MainSt)
    (orcl : Nat → Call → Res) (i0 : Nat) (tr0 : List (Call × Res)) :
    ∀ i c r, tr0.length ≤ i → (runOracle orcl (processMessage env orc expr md name st) i0 tr0).2[i]? = some (c, r) →
      Proofs.Framed name ((runOracle orcl (processMessage env orc expr md name st) i0 tr0).2.take i) c :=
  Proofs.processMessage_frame env orc expr md name st orcl i0 tr0

/-- **Isolation of the calls of a walk.**  `Proofs.FramedW tr c`: `c` is a `readdir`, or satisfies
`Framed n tr` for the name `n` the most recent `readdir` of `tr` returned (`Proofs.lastName`: the
message being processed at that point); before any name was returned `c` is not mutating.  So for
a walk over a directory with messages `n1 … nk`, whatever the calls return, a mutating call that
mentions a name which existed before the run mentions the name of the message being processed at
that point, and no other. -/
theorem C04_isolation_calls (env : PEnv) (orc : EvalOracles) (expr : Expr) (fuel : Nat) (md : Maildir) (st : MainSt)
    (orcl : Nat → Call → Res) (i0 : Nat) (tr0 : List (Call × Res)) :
    ∀ i c r, tr0.length ≤ i → (runOracle orcl (walk env orc expr fuel md st) i0 tr0).2[i]? = some (c, r) →
      Proofs.FramedW ((runOracle orcl (walk env orc expr fuel md st) i0 tr0).2.take i) c :=
  Proofs.walk_frame env orc expr fuel md st orcl i0 tr0

/-- Non-vacuity of the frame: `match all discard` on the message `1` of `/m/new` (directory handle 3;
every call succeeds, `read` returns end of file at once): the run is `openat`, `read`, `unlinkat` of
the message's own name, `close`. -/
example :
    ((runOracle (fun _ c => match c with | .read _ => .ok 0 | _ => .ok 7)
      (processMessage Proofs.examplePEnv Proofs.exampleOracles (.mtch 1 (.all 1) (.discard 1))
        { root := [47, 109], path := [47, 109, 47, 110, 101, 119], dirH := some 3, subdir := .new, walk := true, stdin := false }
        [49]
        { files := [([47, 109, 47, 110, 101, 119], [49], [83, 117, 98, 106, 101, 99, 116, 58, 32, 120, 10, 10, 98, 10])],
          error := false, reject := false, log := [] }) 0 []).2.map (·.1)) =
      [.openRd 3 [49], .read 7, .unlinkat 3 [49], .close 7] := by
  simp only [processMessage, evalP, evalTop, evalT, eval]
  decide +kernel

/-- **Error isolation.**  In a walk, when `readdir` returns the name `n` (not `.` or `..`), the run is
the `readdir`, the run of `processMessage` for `n`, and then the run of the rest of the walk on the
SAME maildir from the state `processMessage` returned - whatever that state is, in particular whether
or not the message set `error`: the next call is the next `readdir`.  The flag is sticky: set before
the message it is set after it, and set after the message it is set at the end of the walk. -/
theorem C04_error_isolated (env : PEnv) (orc : EvalOracles) (expr : Expr) (fuel : Nat) (md : Maildir) (st : MainSt)
    (d : Handle) (n : Bytes) (orcl : Nat → Call → Res) (tr : List (Call × Res))
    (hd : md.dirH = some d) (hr : orcl tr.length (.readdir d) = .name n) (hn : (n == [46] || n == [46, 46]) = false) :
    let one := runOracle orcl (processMessage env orc expr md n st) (tr.length + 1) (tr ++ [(.readdir d, .name n)])
    let all := runOracle orcl (walk env orc expr (fuel + 1) md st) tr.length tr
    all = runOracle orcl (walk env orc expr fuel md one.1.1) one.2.length one.2 ∧
    one.1.2 = md ∧
    (fuel ≠ 0 → all.2[one.2.length]? = some (.readdir d, orcl one.2.length (.readdir d))) ∧
    (one.1.1.error = true → all.1.1.error = true) ∧
    (st.error = true → one.1.1.error = true) :=
  Proofs.walk_isolated env orc expr fuel md st d n orcl tr hd hr hn

/-- Non-vacuity: an open maildir whose `readdir` returns the name `1`. -/
example :
    let md : Maildir := { root := [47, 109], path := [47, 109, 47, 110, 101, 119], dirH := some 3, subdir := .new,
                          walk := true, stdin := false }
    md.dirH = some 3 ∧ (fun (_ : Nat) (_ : Call) => Res.name [49]) ([] : List (Call × Res)).length (.readdir 3) = .name [49] ∧
      (([49] : Bytes) == [46] || ([49] : Bytes) == [46, 46]) = false := by
  decide

/-- **The error flag never influences what is done.**  The walk (and one message's processing) from a
state whose flag is or-ed with `b` is the same program - the same calls for all results, the same
final state - as from the state itself, except that the final flag is or-ed with `b`. -/
theorem C04_error_flag_inert (env : PEnv) (orc : EvalOracles) (expr : Expr) (fuel : Nat) (md : Maildir) (name : Bytes)
    (st : MainSt) (b : Bool) :
    walk env orc expr fuel md { st with error := b || st.error } =
      (walk env orc expr fuel md st).bind (fun x => pure ({ x.1 with error := b || x.1.error }, x.2)) ∧
    processMessage env orc expr md name { st with error := b || st.error } =
      (processMessage env orc expr md name st).bind (fun x => pure ({ x.1 with error := b || x.1.error }, x.2)) :=
  ⟨Proofs.Own.walk_setErr env orc expr fuel md st b, Proofs.Own.processMessage_setErr env orc expr md name st b⟩

/-! ## No hidden state: what is done for a message does not depend on the messages before it

`C04_error_flag_inert` says that the error FLAG left by earlier messages is never looked at.  The statements below say it of
the whole loop state `MainSt` - the flags, the `-d` log and every entry of the registry `files` except the one the message
itself reads, `st.files.get md.path name` (its content) - and of the position in the run.  `Proofs.MsgEffect`
(Proofs/WorldIndependent.lean) is what a message contributes: an error bit, a reject bit, its `-d` lines and where its own file
is afterwards; `e.apply dir name st` or-s the bits into the flags of `st`, appends the lines and replaces the entry
`(dir, name)`.  They are what makes the metamorphic oracle of `tools/isolation.py` (the outcome for a message in a run over a
whole population = its outcome in a run on that message alone) a consequence of the model rather than an assumption. -/

/-- **`processMessage` has no hidden state.**  `processMessage`, regarded as a function of the loop state, factors through the
one entry the message reads: there is a program `q` over effects - depending on the configuration, the maildir and the name,
NOT on the state - such that from every state `st` the program is `q (st.files.get md.path name)` followed by applying the
effect to `st`; the maildir is returned as it was.  So the calls issued for a message (for all call results) and its
contribution to the error / reject flags and to the log are a function of (configuration, maildir, name, content, results of
its own calls), whatever earlier messages left in `MainSt`.  (The witness is `Proofs.messageEffect`; `C04_error_flag_inert`
for `processMessage` is the special case of two states that differ in the error flag.) -/
theorem C04_message_independent (env : PEnv) (orc : EvalOracles) (expr : Expr) (md : Maildir) (name : Bytes) :
    ∃ q : Option Bytes → Prog Proofs.MsgEffect, ∀ st : MainSt,
      processMessage env orc expr md name st =
        (q (st.files.get md.path name)).bind fun e => Prog.ret (e.apply md.path name st, md) :=
  ⟨Proofs.messageEffect env orc expr md name, fun st => Proofs.processMessage_effect env orc expr md name st⟩

/-- **Independence of the runs** (the form the isolation stage uses).  Take two runs of `processMessage` for the same message:
from ANY two loop states that agree on the message's own entry (`hfile`), at ANY two positions (next call index `i` / `i'`,
trace so far `tr` / `tr'` - e.g. after k earlier messages, and alone), against ARBITRARY call results that agree on the
message's own calls (`hres`: the `k`-th call of the one run gets the result of the `k`-th call of the other).  Then both runs
issue the same calls with the same results, and both change their loop state by the same effect `e`: the same error bit, the
same reject bit, the same `-d` lines, the same new place and content of the file.  `hfile` is where an earlier message CAN
reach a later one: only by changing the entry `(md.path, name)` itself, i.e. by being moved to exactly that directory and name
(`C04_message_effect_frame`) - known finding F21 and a destination that is walked later. -/
theorem C04_message_independent_runs (env : PEnv) (orc : EvalOracles) (expr : Expr) (md : Maildir) (name : Bytes)
    (st st' : MainSt) (hfile : st.files.get md.path name = st'.files.get md.path name)
    (orcl orcl' : Nat → Call → Res) (i i' : Nat) (tr tr' : List (Call × Res))
    (hres : ∀ k c, orcl (i + k) c = orcl' (i' + k) c) :
    ∃ (e : Proofs.MsgEffect) (calls : List (Call × Res)),
      runOracle orcl (processMessage env orc expr md name st) i tr = ((e.apply md.path name st, md), tr ++ calls) ∧
      runOracle orcl' (processMessage env orc expr md name st') i' tr' = ((e.apply md.path name st', md), tr' ++ calls) :=
  Proofs.processMessage_independent env orc expr md name st st' hfile orcl orcl' i i' tr tr' hres

/-- The maildir, message and two loop states of the non-vacuity examples: `match all discard` on the message `1` of `/m/new`;
the second state is what earlier messages may have left: another registered file, the error flag, a `-d` line. -/
def indepMd : Maildir :=
  { root := [47, 109], path := [47, 109, 47, 110, 101, 119], dirH := some 3, subdir := .new, walk := true, stdin := false }
def indepMsg : Bytes := [83, 117, 98, 106, 101, 99, 116, 58, 32, 120, 10, 10, 98, 10]
def indepSt : MainSt := { files := [(indepMd.path, [49], indepMsg)], error := false, reject := false, log := [] }
def indepSt' : MainSt :=
  { files := [([47, 120], [50], [65]), (indepMd.path, [49], indepMsg)], error := true, reject := false, log := [[49]] }
def indepOrcl : Nat → Call → Res := fun _ c => match c with | .read _ => .ok 0 | _ => .ok 7

/-- Non-vacuity of `C04_message_independent_runs`: the two states differ (flag, log, another entry) and agree on the message's
own entry; the results agree on the message's own calls (the run alone starts at call 0, the other at call 17). -/
example :
    indepSt.files.get indepMd.path [49] = indepSt'.files.get indepMd.path [49] ∧ indepSt.error ≠ indepSt'.error ∧
    indepSt.log ≠ indepSt'.log ∧ (∀ k c, indepOrcl (0 + k) c = indepOrcl (17 + k) c) :=
  ⟨by decide +kernel, by decide, by decide, fun _ _ => rfl⟩

/-- What `C04_message_independent_runs` gives for these two states: the same four calls (`openat`, `read`, `unlinkat` of the message's own name,
`close`, cf. the example under `C04_isolation_calls`), appended to whatever went before, and one effect for both states. -/
example (tr' : List (Call × Res)) :
    ∃ (e : Proofs.MsgEffect) (calls : List (Call × Res)),
      runOracle indepOrcl (processMessage Proofs.examplePEnv Proofs.exampleOracles (.mtch 1 (.all 1) (.discard 1)) indepMd [49]
        indepSt) 0 [] = ((e.apply indepMd.path [49] indepSt, indepMd), [] ++ calls) ∧
      runOracle indepOrcl (processMessage Proofs.examplePEnv Proofs.exampleOracles (.mtch 1 (.all 1) (.discard 1)) indepMd [49]
        indepSt') 17 tr' = ((e.apply indepMd.path [49] indepSt', indepMd), tr' ++ calls) :=
  C04_message_independent_runs _ _ _ indepMd [49] indepSt indepSt' (by decide +kernel) indepOrcl indepOrcl 0 17 [] tr'
    (fun _ _ => rfl)

/-- **What an effect does to the other entries of the registry.**  Applying a message's effect leaves `files.get d' n'`
unchanged for every `(d', n')` other than the message's own entry and the place its file was taken to.  With
`C04_message_independent_runs`: the entry a LATER message reads - hence everything done for it - is the initial one unless an
earlier message was moved to exactly that directory and name. -/
theorem C04_message_effect_frame (dir name : Bytes) (e : Proofs.MsgEffect) (st : MainSt) (d' n' : Bytes)
    (hown : ¬ (d' = dir ∧ n' = name))
    (hdst : ∀ x, e.file = some (some x) → ¬ (d' = x.1 ∧ n' = x.2.1)) :
    (e.apply dir name st).files.get d' n' = st.files.get d' n' :=
  Proofs.MsgEffect.apply_files_frame dir name e st d' n' hown hdst

/-- Non-vacuity: the effect "moved to `/d/new` as `8`" of the message `1` of `/m/new` and the entry `2` of `/m/new`. -/
example :
    let e : Proofs.MsgEffect := ⟨false, false, [], some (some ([47, 100, 47, 110, 101, 119], [56], indepMsg))⟩
    ¬ (indepMd.path = indepMd.path ∧ ([50] : Bytes) = [49]) ∧
    (∀ x, e.file = some (some x) → ¬ (indepMd.path = x.1 ∧ ([50] : Bytes) = x.2.1)) := by
  refine ⟨by decide, ?_⟩
  intro x hx
  cases hx
  decide

/-! ## Where the error flag comes from

`Proofs.Own.runO orcl p i` is `runOracle` without the accumulator: the value of `p`, the calls it
issued, and the index of the next call (`Proofs.Own.runOracle_eq`). -/

/-- **One message.**  After processing a message the flag is the flag before or-ed with the
message's own error bit `Proofs.msgError` (Proofs/WorldErrFlag.lean): the file is unknown to the
model, `message_parse` failed (open/read failure, over-long path or name, invalid flag suffix), the
rules' verdict IN THIS RUN is an evaluation error or an interpolation failure, or - not in a dry run - the action
list reported an error.  Evaluation is part of the run (`Model.evalP`): the verdict is `Proofs.evVerdict` of the value
`evalP` returns on the results `orcl` gives to its calls, so the evaluation errors include the conditions the operating
system could not answer - `C04_evaluation_failure_is_error`, `C04_command_failure_causes`, `C04_date_stat_failure`,
`C04_message_error_of_eval_error` below. -/
theorem C04_message_error_iff (env : PEnv) (orc : EvalOracles) (expr : Expr) (md : Maildir) (name : Bytes) (st : MainSt)
    (orcl : Nat → Call → Res) (i : Nat) (tr : List (Call × Res)) :
    (runOracle orcl (processMessage env orc expr md name st) i tr).1.1.error =
      (st.error || Proofs.msgError env orc expr md name st orcl i) :=
  Proofs.processMessage_error_oracle env orc expr md name st orcl i tr

/-- **One maildir.**  After a walk the flag is set iff it was set before or one of the causes
`Proofs.WalkErr` occurred in this run: `readdir` failed; the path of `cur` does not fit or `cur`
cannot be opened; or the error bit of some message the walk reached is set (`message`, with `later` /
`afterDot` / `inCur` locating it in the run). -/
theorem C04_walk_error_iff (env : PEnv) (orc : EvalOracles) (expr : Expr) (fuel : Nat) (md : Maildir) (st : MainSt)
    (orcl : Nat → Call → Res) (i : Nat) (tr : List (Call × Res)) :
    (runOracle orcl (walk env orc expr fuel md st) i tr).1.1.error = true ↔
      st.error = true ∨ Proofs.WalkErr env orc expr orcl fuel md st i :=
  Proofs.walk_error_oracle_iff env orc expr fuel md st orcl i tr

/-- **The whole run (`_partial`: `C04_error_iff` is the name DESIGN.md section 4 (C04) gives the statement that also
enumerates the failing calls of the actions, and no theorem of that name is proved; here the per-message action failures
are kept as the error value of `matchesExec`).**  The error flag `main` derives its exit status from is set iff one of the causes
`Proofs.MainErr` (Proofs/WorldFrameMain.lean) occurred in this run: the configuration file cannot be
opened; the configuration is not valid; or - unless `-n` - for some block and some selected path of
it (`Proofs.PathsErr`, `Proofs.BlocksErr`): the stdin spool cannot be set up, the path or path +
`/new` does not fit, `new` cannot be opened, or a cause `Proofs.WalkErr` occurs in the walk
(`readdir` failure, `cur` not joinable / not openable, or some message's error bit
`Proofs.msgError`: unknown file, parse failure, evaluation error, interpolation failure, action
failure).

`Proofs.MainErr` / `PathsErr` / `WalkErr` / `msgError` are written as a mirror of the loops of
`mainP`, re-running the sub-programs (`runO orcl (walk ...)`, `runO orcl (matchesExec ...)`) to obtain the state and call index
of the next step; the theorem therefore says: the flag is the disjunction of the enumerated top-level causes and of the error
values of the sub-programs, nothing is swallowed in between and nothing else sets it.  It does not by itself say which libc
failures make `matchesExec` / `messageParseP` report an error - that is `C01_fault_reported` and the `All`-lemmas on the
scripts.

Fuel: the walks inside are `walk .. (2n+8+env.extraFuel)` / `walk .. (64+env.extraFuel)`; an oracle whose
`readdir` keeps returning names makes the MODEL stop when the fuel is spent, where mdsort would go on.  That is not
silent: the final state then has `fuelOut = true`.  What is covered: the theorem holds for EVERY `env`, hence every
allowance; for a run that ends with `fuelOut = false` it is a statement about the run of the unbounded loops
(`C04_fuel_irrelevant`: the same run for every larger allowance); for a run that ends with `fuelOut = true` it is a
statement about a truncation, which the conformance check reports as a divergence. -/
theorem C04_error_iff_partial (env : PEnv) (orc : EvalOracles) (orcl : Nat → Call → Res) (confOk : Bool)
    (conf : List ConfBlock) (files : Files) (input : Bytes) :
    (runOracle orcl (mainP env orc confOk conf files input) 0 []).1.2.error = true ↔
      Proofs.MainErr env orc orcl confOk conf files input :=
  Proofs.mainP_error_oracle_iff env orc orcl confOk conf files input

/-- Non-vacuity: with every call succeeding and no block configured, an invalid configuration is a
cause and a valid one leaves none. -/
example :
    Proofs.MainErr Proofs.examplePEnv Proofs.exampleOracles (fun _ _ => .ok 0) false [] [] [] ∧
    ¬ Proofs.MainErr Proofs.examplePEnv Proofs.exampleOracles (fun _ _ => .ok 0) true [] [] [] := by
  simp [Proofs.MainErr, Proofs.BlocksErr]

/-- **Isolation of the calls of a whole run in maildir mode** (`-` not given): every call is a
`readdir` or satisfies the frame condition for the name the last `readdir` returned (between walks
only the configuration file, `opendir` and `closedir` are used).  (Each walk inside `mainP` has fuel `2n+8+env.extraFuel`, `n` =
registered files of the maildir; under an oracle that lists more entries than that the model's run is shorter than
mdsort's - and then ends with `fuelOut = true`.  Covered: every `env` (every allowance); a run with `fuelOut = false` is the
run of the unbounded loops (`C04_fuel_irrelevant`).  The walk-level statement `C04_isolation_calls` holds for EVERY fuel.) -/
theorem C04_isolation_calls_main (env : PEnv) (orc : EvalOracles) (ok : Bool) (conf : List ConfBlock) (files : Files)
    (input : Bytes) (hm : env.stdinMode = false) (orcl : Nat → Call → Res) :
    ∀ i c r, (runOracle orcl (mainP env orc ok conf files input) 0 []).2[i]? = some (c, r) →
      Proofs.FramedW ((runOracle orcl (mainP env orc ok conf files input) 0 []).2.take i) c :=
  Proofs.mainP_frame env orc ok conf files input hm orcl

/-- Non-vacuity: maildir mode. -/
example : Proofs.examplePEnv.stdinMode = false := rfl

/-- The spool is complete or `maildir_stdin` fails (finding F9, repaired: the copy loop continues a
short `write`): for every input and EVERY fault plan, if `maildir_stdin` reports success then the
spool entry it names (in the `new` directory of the temporary maildir) is bound to a file whose
visible AND durable content is exactly the input - a short or failed `read` / `write` / `fsync` /
`close` never yields success with truncated content. -/
theorem C04_stdin_spool_complete (env : PEnv) (input : Bytes) (w : World) (plan : Plan) (hin : Proofs.World.StdinIs w input) :
    let r := runPlan plan (maildirStdin env input) w 0 []
    r.1.2.1 = false →
      ∃ name fid, r.1.2.2 = some name ∧ r.2.1.lookup r.1.1.path name = some fid ∧
        r.2.1.file fid = some { data := input, durable := input } :=
  Proofs.stdin_spool_complete env input w plan hin

/-! Non-vacuity: a 10-byte input; the fault-free plan and a plan whose first `write` transfers
only 3 bytes both end with `failed = false`, so the conclusion says the spool holds all 10 bytes. -/
example : (runPlan Plan.none (maildirStdin Proofs.StdinExample.env0 Proofs.StdinExample.input0)
    Proofs.StdinExample.w0 0 []).1.2.1 = false := Proofs.StdinExample.ex_stdin_ok
example : (runPlan Proofs.StdinExample.shortWrite (maildirStdin Proofs.StdinExample.env0 Proofs.StdinExample.input0)
    Proofs.StdinExample.w0 0 []).1.2.1 = false := Proofs.StdinExample.ex_stdin_short_ok
example :
    let r := runPlan Proofs.StdinExample.shortWrite (maildirStdin Proofs.StdinExample.env0 Proofs.StdinExample.input0)
      Proofs.StdinExample.w0 0 []
    ∃ name fid, r.1.2.2 = some name ∧ r.2.1.lookup r.1.1.path name = some fid ∧
      r.2.1.file fid = some { data := Proofs.StdinExample.input0, durable := Proofs.StdinExample.input0 } :=
  C04_stdin_spool_complete _ _ _ _ Proofs.StdinExample.ex_stdinIs Proofs.StdinExample.ex_stdin_short_ok

/-- The spool is always removed: in stdin mode, for every configuration with one `stdin` block, every
rule set and action list (moves, flags, label, add-header, discard, exec, reject, in any number and
order - no hypothesis on them), every input and every fault plan that injects nothing from the first
call of the cleanup on (`Proofs.stdinCleanupStart` = number of calls made before `maildir_close`; in
particular every plan whose faults all lie before the cleanup): every directory that exists when
`main` returns existed before.  So neither the directory `mkdtemp` made, nor its `new`, nor any
entry below them is left - on EVERY path: `mkdtemp` fails (nothing to remove), `mkdir` fails (root
removed), `opendir` fails, `maildir_genname` fails, the copy fails, parse / evaluation /
interpolation / action failure, no match, dry run, success. -/
theorem C04_stdin_spool_removed (env : PEnv) (orc : EvalOracles) (conf : List ConfBlock) (files : Files) (input : Bytes)
    (expr : Expr) (w : World) (plan : Plan) (hm : env.stdinMode = true) (hs : env.syntaxOnly = false)
    (hc : Proofs.World.stdinExprs conf = [expr]) (hin : Proofs.World.StdinIs w input)
    (hfresh : Proofs.World.SpoolFresh env w)
    (hplan : ∀ j, Proofs.stdinCleanupStart plan env orc expr files input w ≤ j → plan j = none) :
    ∀ q, ((runPlan plan (mainP env orc true conf files input) w 0 []).2.1.dir q).isSome → (w.dir q).isSome :=
  Proofs.stdin_spool_removed env orc conf files input expr w plan hm hs hc hin hfresh hplan

/-! Non-vacuity: the example run (10-byte message, `stdin { match all move "/m/inbox" }`) under the
fault-free plan. -/
example : ∀ q, ((runPlan Plan.none (mainP Proofs.StdinExample.env0 Proofs.StdinExample.orc0 true Proofs.StdinExample.conf0 []
    Proofs.StdinExample.input0) Proofs.StdinExample.w0 0 []).2.1.dir q).isSome → (Proofs.StdinExample.w0.dir q).isSome :=
  C04_stdin_spool_removed _ _ _ _ _ _ _ _ rfl rfl Proofs.StdinExample.ex_stdinExprs Proofs.StdinExample.ex_stdinIs
    Proofs.StdinExample.ex_fresh (fun _ _ => rfl)

/-- Exit status 0 means stored (= `C02_stdin_exit0`; see there and `C02_stdin_exit0_stored`). -/
theorem C04_stdin_zero_means_stored (env : PEnv) (orc : EvalOracles) (conf : List ConfBlock) (files : Files) (input : Bytes)
    (expr : Expr) (w : World) (plan : Plan) (hm : env.stdinMode = true) (hs : env.syntaxOnly = false)
    (hc : Proofs.World.stdinExprs conf = [expr]) (hin : Proofs.World.StdinIs w input)
    (hfresh : Proofs.World.SpoolFresh env w) :
    let r := runPlan plan (mainP env orc true conf files input) w 0 []
    r.1.1 = 0 → Proofs.Delivered env orc expr input r.2.1 :=
  Proofs.stdin_exit0 env orc conf files input expr w plan hm hs hc hin hfresh

/-- In stdin mode the status is 75 iff an error occurred, else 1 iff a reject was executed, else 0 -
as equivalences on the final loop state, for every configuration, input and fault plan.  (A reading of
`exitStatus` on the two flags of the final state - "a reject was executed" is the flag `reject`, not an event of the run.) -/
theorem C04_stdin_status (env : PEnv) (orc : EvalOracles) (ok : Bool) (conf : List ConfBlock) (files : Files) (input : Bytes)
    (w : World) (plan : Plan) (hm : env.stdinMode = true) :
    let r := (runPlan plan (mainP env orc ok conf files input) w 0 []).1
    (r.1 = 75 ↔ r.2.error = true) ∧ (r.1 = 1 ↔ (r.2.error = false ∧ r.2.reject = true)) ∧
      (r.1 = 0 ↔ (r.2.error = false ∧ r.2.reject = false)) :=
  Proofs.stdin_status env orc ok conf files input w plan hm

/-- A reject action sets the reject flag and does nothing else: the program it contributes is a
plain `return` (no libc call at all, hence no mutating call). -/
theorem C04_reject_no_call (env : PEnv) (mh : Match) (st : ExecSt) (h : mh.ty = .reject) :
    execOne env mh st = Prog.ret ({ st with reject := true }, false) :=
  Proofs.World.execOne_reject env mh st h

example (st : ExecSt) : execOne Proofs.StdinExample.env0 { ty := .reject, lno := 1, part := 0 } st =
    Prog.ret ({ st with reject := true }, false) :=
  C04_reject_no_call _ _ _ rfl

/-! ### "1 only for a matched reject" at the level of one action list

`C04_reject_no_call` says what a reject entry does.  The converse - nothing ELSE sets the flag - is
`C04_reject_only_by_reject`; the two `All` lemmas before it are its proof, along the branch equations of `execOne`
(`Proofs.World.execOne_move` .. `execOne_other`) and the recursion of `matchesExec`.  They stand here because nothing
else needs them. -/

/-- Every leaf of `execOne`: the reject flag is set only if it was set before or the entry is a reject. -/
theorem all_execOne_reject (env : PEnv) (mh : Match) (st : ExecSt) :
    Proofs.World.All (fun r => r.1.reject = true → st.reject = true ∨ mh.ty = .reject) (execOne env mh st) := by
  -- every leaf but the one of a reject entry returns a state with the flag of `st`
  have keep : ∀ (s : ExecSt) (e : Bool), s.reject = st.reject →
      Proofs.World.All (fun r => r.1.reject = true → st.reject = true ∨ mh.ty = .reject) (Prog.ret (s, e)) :=
    fun s e hs h => .inl (hs ▸ h)
  rcases Proofs.World.execOne_ty_cases mh.ty with hm | hd | hw | hr | he | ho
  · rw [Proofs.World.execOne_move env mh st hm, Proofs.World.moveBranch]
    refine Proofs.World.All.bind_of_forall _ fun d => ?_
    cases d with
    | none => exact keep _ _ rfl
    | some dst =>
      refine Proofs.World.All.bind_of_forall _ fun x => ?_
      split
      · exact Proofs.World.All.bind_of_forall _ fun _ => keep _ _ rfl
      · split
        · split
          · exact Proofs.World.All.bind_of_forall _ fun _ => keep _ _ rfl
          · exact keep _ _ rfl
        · exact Proofs.World.All.bind_of_forall _ fun _ => keep _ _ rfl
  · rw [Proofs.World.execOne_discard env mh st hd]
    refine Proofs.World.All.bind_of_forall _ fun e => ?_
    split <;> exact keep _ _ rfl
  · rw [Proofs.World.execOne_write env mh st hw]
    exact Proofs.World.All.bind_of_forall _ fun x => keep _ _ rfl
  · rw [Proofs.World.execOne_reject env mh st hr]
    exact fun _ => .inr hr
  · rw [Proofs.World.execOne_exec env mh st he]
    refine Proofs.World.All.bind_of_forall _ fun fdr => ?_
    cases fdr with
    | none => exact keep _ _ rfl
    | some fd =>
      refine Proofs.World.All.bind_of_forall _ fun rc => ?_
      cases fd with
      | none => exact keep _ _ rfl
      | some h => exact fun _ => keep _ _ rfl
  · rw [Proofs.World.execOne_other env mh st ho]
    exact keep _ _ rfl

/-- Every leaf of `matchesExec`: the flag is set only if it was set before or the list contains a reject entry. -/
theorem all_matchesExec_reject (env : PEnv) (ml : MatchList) (st : ExecSt) :
    Proofs.World.All (fun r => r.1.reject = true → st.reject = true ∨ ∃ m ∈ ml, m.ty = .reject) (matchesExec env ml st) := by
  induction ml generalizing st with
  | nil =>
    rw [Proofs.World.matchesExec_nil]
    split
    · exact Proofs.World.All.bind_of_forall _ fun _ => (fun h => Or.inl h)
    · exact fun h => Or.inl h
  | cons mh rest ih =>
    rw [Proofs.World.matchesExec_cons]
    unfold Proofs.Own.errTail
    refine Proofs.World.All.bind (Proofs.World.All.mono (all_execOne_reject env mh st) ?_)
    rintro ⟨st', e⟩ h1
    have key : st'.reject = true → st.reject = true ∨ ∃ m ∈ mh :: rest, m.ty = .reject := by
      intro h
      rcases h1 h with h | h
      · exact .inl h
      · exact .inr ⟨mh, List.mem_cons_self, h⟩
    dsimp only
    split
    · split
      · exact Proofs.World.All.bind_of_forall _ fun _ => key
      · exact key
    · refine Proofs.World.All.mono (ih st') ?_
      intro r hr h
      rcases hr h with h | ⟨m, hm, hmt⟩
      · exact key h
      · exact .inr ⟨m, List.mem_cons_of_mem _ hm, hmt⟩

/-- **The reject flag comes from a reject entry only.**  For every action list, start state whose flag is clear (as
`processMessage` starts it: `reject := false`) and ARBITRARY call results: if `matches_exec` returns with the flag set, the
list contains a reject entry.  With `C04_stdin_status` (status 1 iff no error and the flag) and the line
`reject := st1.reject || xs.reject` of `processMessage` this is "1 only for a matched reject" for one message; the lift
through `walk` / `mainP` (the flag of the loop state is the disjunction over the messages) is NOT proved here. -/
theorem C04_reject_only_by_reject (env : PEnv) (ml : MatchList) (st : ExecSt) (orcl : Nat → Call → Res) (i : Nat)
    (tr : List (Call × Res)) (hs : st.reject = false)
    (h : (runOracle orcl (matchesExec env ml st) i tr).1.1.reject = true) : ∃ m ∈ ml, m.ty = .reject := by
  have hall := Proofs.Own.all_runO (all_matchesExec_reject env ml st) orcl i
  rw [Proofs.Own.runOracle_eq] at h
  rcases hall h with h' | h'
  · rw [hs] at h'; cases h'
  · exact h'

/-- Non-vacuity: the one-entry list `reject` from a state with the flag clear returns with the flag set (no call at all). -/
example (st : ExecSt) (hs : st.reject = false) :
    (runOracle (fun _ _ => .ok 0) (matchesExec Proofs.StdinExample.env0 [{ ty := .reject, lno := 1, part := 0 }] st) 0 []).1.1.reject = true ∧
    st.reject = false := by
  refine ⟨?_, hs⟩
  -- the entry returns the state with the flag set and no error (`C04_reject_no_call`); the empty rest returns that state,
  -- after `maildir_close` of the source if an earlier entry had changed it: every leaf has the flag
  have hall : Proofs.World.All (fun r => r.1.reject = true)
      (matchesExec Proofs.StdinExample.env0 [{ ty := .reject, lno := 1, part := 0 }] st) := by
    rw [Proofs.World.matchesExec_cons, C04_reject_no_call _ _ _ rfl, Proofs.World.ret_bind]
    dsimp only
    rw [if_neg Bool.false_ne_true, Proofs.World.matchesExec_nil]
    split
    · exact Proofs.World.All.bind_of_forall _ fun _ => rfl
    · exact rfl
  rw [Proofs.Own.runOracle_eq]
  exact Proofs.Own.all_runO hall _ 0

/-! ## An evaluation error reaches the root of the rule tree

"Any ... matching ... error yields a non-zero status": `C04_message_error_iff` reduces the error bit of
a message to the verdict of `Model.eval` on the rule tree of the block; the statements below are about
that verdict.  `Proofs/EvalErrProp.lean`: an *evaluation point* `Proofs.EvalPt` is an expression evaluated
on a message (regarded as part `part`) from a state; `Proofs.EvalStep env root a b` says that evaluating `a`
evaluates `b` directly (the second operand of `and` only after the first matched, the right-hand side of
a rule only after its condition matched, part `i` of an `attachment` condition only after the parts
before it said *no match*, part `i` of an attachment block only after the block ran without error on the
parts before it), `Proofs.Evaluated` is its reflexive-transitive closure. -/

/-- **An error of anything that is actually evaluated is the result of the root** - for EVERY
expression, message, state and environment: no grammar domain, no hypothesis on pending `pass` /
`break` entries, attachment conditions and attachment blocks included.  (In `expr_eval_block` this is
the early `if (ev == EXPR_ERROR) return EXPR_ERROR;`: without it a pending `pass` turns the error of a
later rule into *match* / *no match*.) -/
theorem C04_eval_error_reaches_root (env : Env) (root : Msg) (a b : Proofs.EvalPt)
    (h : Proofs.Evaluated env root a b) (hb : (b.res env root).1 = .error) : (a.res env root).1 = .error :=
  Proofs.evaluated_error h hb

/-- Conversely to `C04_eval_error_reaches_root`, an error result has an origin among the evaluated points (`Proofs.Origin`: its
result is an error although nothing it evaluates directly is an error): the verdict *error* is never made
up by a composite node. -/
theorem C04_eval_error_iff_origin (env : Env) (root : Msg) (a : Proofs.EvalPt) :
    (a.res env root).1 = .error ↔ ∃ b, Proofs.Evaluated env root a b ∧ Proofs.Origin env root b :=
  ⟨Proofs.error_origin (sizeOf a.e) a (Nat.le_refl _), fun ⟨_, hb, ho⟩ => Proofs.evaluated_error hb ho.1⟩

/-- What an origin is (`Proofs.OriginShape`): a leaf - a matcher (`body` on an undecodable body, `date`
on an unparsable date, `command` that cannot be run, ...) or an action (invalid flag letter, over-long
destination) -, a `match` node whose sentinel entry cannot be appended, or an `attachment` condition /
attachment block on a message whose parts cannot be had (malformed multipart, nesting beyond the limit);
never a block, `and`, `or` or `!` node. -/
theorem C04_eval_error_origin_shape (env : Env) (root : Msg) (b : Proofs.EvalPt) (h : Proofs.Origin env root b) :
    Proofs.OriginShape env b :=
  Proofs.origin_shape h

/-! Non-vacuity: the shape of the rule tree for which the early return matters.
```
match all label "x" pass
match command "c" move "/e"
```
in an environment in which no command can be run (`command` = -1).  The `command` matcher is evaluated
(after the first rule matched, collected its label and `pass`-ed) and is an error; the theorem gives the
error of the root although a `pass` and an action are pending. -/

def errEnv : Env where
  rx := fun p _ => if p.src == [49] then .ok [some (0, 0)] else .nomatch
  command := fun _ => -1
  isDir := fun _ => false
  now := 0
  strptime := fun _ => none
  zoneName := fun _ => none
  fileTime := fun _ => none
  dryrun := false
  path := [47, 109, 47, 110, 101, 119, 47, 49]

def errMsg : Msg := { headers := [], body := [] }

def errRule1 : Expr := .mtch 2 (.all 2) (.and 2 (.label 2 [[120]]) (.pass 2))
def errRule2 : Expr := .mtch 3 (.command 3 [[99]]) (.move 3 [47, 101])
def errTree : Expr := .block 1 (.or 1 errRule1 errRule2)

def errSt0 : St := { ml := [], flags := MFlags.empty }
/-- State after the first rule: its `match` sentinel, the label and the PASS entry. -/
def errSt1 : St := (eval errEnv errMsg errRule1 0 errMsg errSt0).2
/-- The point at which the `command` matcher is evaluated. -/
def errPt : Proofs.EvalPt :=
  ⟨.command 3 [[99]], 0, errMsg,
    { errSt1 with ml := (matchesAppend errEnv errSt1.ml { ty := .mtch, lno := 3, part := 0 }).1 }⟩

theorem err_rule1 : (eval errEnv errMsg errRule1 0 errMsg errSt0).1 = .nomatch ∧
    errSt1.ml.map (fun x => (x.ty, x.lno)) = [(.mtch, 2), (.label, 2), (.pass, 2)] := by
  simp only [errSt1, errRule1, errSt0, eval]
  decide +kernel

theorem err_evaluated : Proofs.Evaluated errEnv errMsg ⟨errTree, 0, errMsg, errSt0⟩ errPt :=
  .step _ _ _ (.block 1 _ 0 errMsg errSt0)
    (.step _ _ _ (Proofs.EvalStep.orR' 1 errRule1 errRule2 0 errMsg errSt0 err_rule1.1)
      (.step _ _ _ (Proofs.EvalStep.mtchC' 3 _ _ 0 errMsg errSt1 (by simp only [errSt1, errRule1, errSt0, eval]; decide +kernel))
        (.refl _)))

theorem err_command : (errPt.res errEnv errMsg).1 = .error := by
  simp only [Proofs.EvalPt.res, errPt, errSt1, errRule1, errSt0, eval]
  decide +kernel

example : (eval errEnv errMsg errTree 0 errMsg errSt0).1 = .error :=
  C04_eval_error_reaches_root errEnv errMsg ⟨errTree, 0, errMsg, errSt0⟩ errPt err_evaluated err_command

/-- The `command` point is an origin, and has the shape of one (a leaf). -/
example : Proofs.OriginShape errEnv errPt := trivial

/-! ### With the documented semantics

`Spec.evalBlockA` (Spec/RulesAtt.lean) is the documented reading of mdsort.conf(5): rules in order, the
first condition that cannot be evaluated is an error of the whole evaluation.  Whenever it says *error*
the evaluator says *error* - on the domain and outside the two recorded deviation classes of
`C03_eval_refines_spec_att` (`crosses` = F11, `leaks` = F24), of which this is a corollary.  Both
hypotheses are needed (witnesses below): with a nested block that completes while a pass is pending, or
with actions leaked by an attachment block that matched on no part, `expr_eval_block` reports a MATCH
where the documented evaluation goes on to the next rule - whose condition, an error, is then never
evaluated.  That is a deviation in WHAT is evaluated (known findings F11 / F24 of C03), not an error that
is lost: `C04_eval_error_reaches_root` has no such hypothesis. -/

/-- The documented evaluation says *error* (a condition that is evaluated cannot be evaluated, an action
is invalid, a multipart is malformed) ⇒ the evaluator's verdict is *error*. -/
theorem C04_eval_error_propagates (env : Env) (root : Msg) (f : MFlags) (e : Expr) (rules : List Spec.RuleA)
    (hp : Spec.parseBlockA e = some rules) (hd : Proofs.InDomainA env e = true)
    (hc : (Spec.evalBlockA (Proofs.partCtx env root f) Proofs.actionErr root rules).crosses = false)
    (hl : (Spec.evalBlockA (Proofs.partCtx env root f) Proofs.actionErr root rules).leaks = false)
    (herr : (Spec.evalBlockA (Proofs.partCtx env root f) Proofs.actionErr root rules).res = .error) :
    (eval env root e 0 root { ml := [], flags := f }).1 = .error := by
  have h := (Proofs.att_eval_refines_spec env root f e rules hp hd hc hl).1
  rw [herr] at h
  exact h

/-- `C04_eval_error_propagates` without the two hypotheses `crosses = false`, `leaks = false`. -/
def C04_eval_error_propagates_unrestricted : Prop :=
  ∀ (env : Env) (root : Msg) (f : MFlags) (e : Expr) (rules : List Spec.RuleA),
    Spec.parseBlockA e = some rules → Proofs.InDomainA env e = true →
    (Spec.evalBlockA (Proofs.partCtx env root f) Proofs.actionErr root rules).res = .error →
    (eval env root e 0 root { ml := [], flags := f }).1 = .error

def errRules : List Spec.RuleA :=
  [.acts 2 (.all 2) [.plain (.label 2 [[120]])] .pass,
   .acts 3 (.command 3 [[99]]) [.plain (.move 3 [47, 101])] .none]

abbrev errCtx := Proofs.partCtx errEnv errMsg MFlags.empty

theorem err_v_all (k l : Nat) (m : Msg) : errCtx.v k m (.all l) = .match := by
  simp only [errCtx, Proofs.partCtx, eval]
theorem err_v_command : errCtx.v 0 errMsg (.command 3 [[99]]) = .error := by
  simp only [errCtx, Proofs.partCtx, eval]
  decide +kernel
theorem err_v_header : errCtx.v 0 errMsg (.header 5 [[88]] { src := [51] }) = .nomatch := by
  simp only [errCtx, Proofs.partCtx, eval]
  decide +kernel
theorem err_getAtt : getAttachments errMsg = some [] := by decide +kernel
theorem err_parts : errCtx.parts errMsg = some [] := err_getAtt

/-- Non-vacuity of `C04_eval_error_propagates`: the two-rule tree above is in the domain, the documented
evaluation is an error without any recorded deviation, and the theorem gives the evaluator's error. -/
theorem C04_eval_error_propagates_nonvacuous :
    Spec.parseBlockA errTree = some errRules ∧ Proofs.InDomainA errEnv errTree = true ∧
    Spec.evalBlockA errCtx Proofs.actionErr errMsg errRules = { res := .error, actions := [], crosses := false, leaks := false } ∧
    (eval errEnv errMsg errTree 0 errMsg { ml := [], flags := MFlags.empty }).1 = .error := by
  have hp : Spec.parseBlockA errTree = some errRules := by
    simp [errTree, errRule1, errRule2, errRules, Spec.parseBlockA, Spec.parseRulesA, Spec.parseRuleA, Spec.parseChainA,
      Spec.parseActA, Spec.isCond, Spec.isCtlExpr, Spec.isActionExpr]
  have hd : Proofs.InDomainA errEnv errTree = true := by decide +kernel
  have ho : Spec.evalBlockA errCtx Proofs.actionErr errMsg errRules =
      { res := .error, actions := [], crosses := false, leaks := false } := by
    simp [errRules, Spec.evalBlockA, Spec.evalRulesA, Spec.evalActsA, Spec.condValA, err_v_all, err_v_command,
      Proofs.actionErr]
  exact ⟨hp, hd, ho, C04_eval_error_propagates errEnv errMsg MFlags.empty errTree errRules hp hd (by rw [ho]) (by rw [ho])
    (by rw [ho])⟩

/-! The two hypotheses are needed.  (1) `crosses`:
```
match all label "x" pass
match all { match header "X" /3/ move "/d" }
match command "c" move "/e"
```
the nested block matches nothing; documented: go on to the third rule, whose condition is an error.
`expr_eval_block` finds the PASS entry of the root block at the end of the nested block and reports a
match (the label is pending): the third rule is never evaluated.  (2) `leaks`:
```
match all { match all label "x" attachment { match body /3/ exec "c" }
            match all pass }
match command "c" move "/e"
```
the first rule of the nested block stops at its attachment block (no part) but its label stays in the
match list; at the end of the nested block the PASS entry of the second rule is found and - because of
the leaked label - a match is reported; documented: the nested block collected nothing, no match, go on
to the rule whose condition is an error. -/

def errTreeCross : Expr :=
  .block 1 (.or 1 (.or 1 errRule1
    (.mtch 4 (.all 4) (.block 4 (.mtch 5 (.header 5 [[88]] { src := [51] }) (.move 5 [47, 100])))))
    errRule2)

def errRulesCross : List Spec.RuleA :=
  [.acts 2 (.all 2) [.plain (.label 2 [[120]])] .pass,
   .blk 4 (.all 4) [.acts 5 (.header 5 [[88]] { src := [51] }) [.plain (.move 5 [47, 100])] .none],
   .acts 3 (.command 3 [[99]]) [.plain (.move 3 [47, 101])] .none]

theorem C04_eval_error_crosses_needed :
    Spec.parseBlockA errTreeCross = some errRulesCross ∧ Proofs.InDomainA errEnv errTreeCross = true ∧
    Spec.evalBlockA errCtx Proofs.actionErr errMsg errRulesCross =
      { res := .error, actions := [], crosses := true, leaks := false } ∧
    (eval errEnv errMsg errTreeCross 0 errMsg { ml := [], flags := MFlags.empty }).1 = .match := by
  refine ⟨?_, by decide +kernel, ?_, ?_⟩
  · simp [errTreeCross, errRule1, errRule2, errRulesCross, Spec.parseBlockA, Spec.parseRulesA, Spec.parseRuleA,
      Spec.parseChainA, Spec.parseActA, Spec.isCond, Spec.isCtlExpr, Spec.isActionExpr]
  · simp [errRulesCross, Spec.evalBlockA, Spec.evalRulesA, Spec.evalActsA, Spec.condValA, err_v_all, err_v_command,
      err_v_header, Proofs.actionErr]
  · simp only [errTreeCross, errRule1, errRule2, eval]
    decide +kernel

def errTreeLeak : Expr :=
  .block 1 (.or 1
    (.mtch 4 (.all 4) (.block 4 (.or 4
      (.mtch 5 (.all 5) (.and 5 (.label 5 [[120]])
        (.attBlock 5 (.block 5 (.mtch 6 (.body 6 { src := [51] }) (.exec 6 false false [[99]]))))))
      (.mtch 7 (.all 7) (.pass 7)))))
    errRule2)

def errRulesLeak : List Spec.RuleA :=
  [.blk 4 (.all 4)
     [.acts 5 (.all 5) [.plain (.label 5 [[120]]),
        .att 5 [.acts 6 (.body 6 { src := [51] }) [.plain (.exec 6 false false [[99]])] .none]] .none,
      .acts 7 (.all 7) [] .pass],
   .acts 3 (.command 3 [[99]]) [.plain (.move 3 [47, 101])] .none]

theorem C04_eval_error_leaks_needed :
    Spec.parseBlockA errTreeLeak = some errRulesLeak ∧ Proofs.InDomainA errEnv errTreeLeak = true ∧
    Spec.evalBlockA errCtx Proofs.actionErr errMsg errRulesLeak =
      { res := .error, actions := [], crosses := false, leaks := true } ∧
    (eval errEnv errMsg errTreeLeak 0 errMsg { ml := [], flags := MFlags.empty }).1 = .match := by
  refine ⟨?_, by decide +kernel, ?_, ?_⟩
  · simp [errTreeLeak, errRule2, errRulesLeak, Spec.parseBlockA, Spec.parseRulesA, Spec.parseRuleA,
      Spec.parseChainA, Spec.parseActA, Spec.isCond, Spec.isCtlExpr, Spec.isActionExpr]
  · simp [errRulesLeak, Spec.evalBlockA, Spec.evalRulesA, Spec.evalActsA, Spec.forParts, Spec.condValA, err_v_all,
      err_v_command, err_parts, Proofs.actionErr]
  · simp only [errTreeLeak, errRule2, eval, err_getAtt, eval.loopB]
    decide +kernel

/-- It is false for the evaluator as it is: the witness for `crosses` refutes it (the one for `leaks` does as well). -/
theorem C04_eval_error_propagates_unrestricted_false : ¬ C04_eval_error_propagates_unrestricted := by
  intro h
  obtain ⟨hp, hd, ho, hm⟩ := C04_eval_error_crosses_needed
  have := h errEnv errMsg MFlags.empty errTreeCross errRulesCross hp hd (by rw [ho])
  rw [hm] at this
  cases this

/-! ## Command errors: the status of a child (anchor "command/exec exit status mapping")

`Proofs.BadChild tr`: somewhere in the trace `tr` a `fork` returned no pid, or a `waitpid` failed or reported a wait status
other than "exited with 0" - i.e. a non-zero exit code (127 included) or death by a signal
(`Proofs.waitKind`, `Model.execStatus`: Props/C13.lean `C13_exec_status_mapping`). -/

/-- **Every non-zero or signalled status of an `exec` action is an error of the message, and no later action of that message
issues a call.**  Arbitrary call results; with or without `stdin` / `stdin body`; for the message or a part inside an
`attachment { }` block: if, while the entry is executed, `fork` fails, `waitpid` fails or the child did anything but exit with
0, then the entry reports an error, `matches_exec` reports an error for the message, and the calls of the whole list are the
same whatever follows the entry (so they are the calls of the list that ends with it). -/
theorem C04_exec_status_is_error (env : PEnv) (mh : Match) (rest rest' : MatchList) (st : ExecSt) (orc : Nat → Call → Res)
    (hty : mh.ty = .exec) (hb : Proofs.BadChild (runOracle orc (execOne env mh st) 0 []).2) :
    (runOracle orc (execOne env mh st) 0 []).1.2 = true ∧
    (runOracle orc (matchesExec env (mh :: rest) st) 0 []).1.2 = true ∧
    (runOracle orc (matchesExec env (mh :: rest) st) 0 []).2 = (runOracle orc (matchesExec env (mh :: rest') st) 0 []).2 :=
  have he := Proofs.execOne_bad_child env mh st orc hty hb
  ⟨he, Proofs.error_stops_list env mh rest rest' st orc he⟩

/-- Non-vacuity: `exec "x"` whose child exits with status 1 (wait status 256): the trace is open /dev/null, fork, waitpid,
close; it is a `BadChild` trace; the theorem applies. -/
example (st : ExecSt) :
    let orc : Nat → Call → Res := fun i _ => if i == 2 then .ok 256 else .ok 3
    let mh : Match := { ty := .exec, lno := 1, part := 0, argv := [[120]] }
    (runOracle orc (execOne Proofs.StdinExample.env0 mh st) 0 []).2 =
      [(.openPath (ofString "/dev/null"), .ok 3), (.fork [[120]] 3, .ok 3), (.waitpid, .ok 256), (.close 3, .ok 3)] ∧
    Proofs.BadChild (runOracle orc (execOne Proofs.StdinExample.env0 mh st) 0 []).2 ∧
    (runOracle orc (execOne Proofs.StdinExample.env0 mh st) 0 []).1.2 = true := by
  intro orc mh
  have htr : (runOracle orc (execOne Proofs.StdinExample.env0 mh st) 0 []).2 =
      [(.openPath (ofString "/dev/null"), .ok 3), (.fork [[120]] 3, .ok 3), (.waitpid, .ok 256), (.close 3, .ok 3)] := rfl
  have hb : Proofs.BadChild (runOracle orc (execOne Proofs.StdinExample.env0 mh st) 0 []).2 := by
    rw [htr]
    refine .inr ⟨.ok 256, by simp, ?_⟩
    intro s hs
    cases hs
    decide
  exact ⟨htr, hb, (C04_exec_status_is_error _ mh [] [] st orc rfl hb).1⟩

/-- **A `command` condition that cannot be run is an error, not "no match".**  When /dev/null cannot be opened, `fork` or
`waitpid` fails, or the child exits with 127 (its `execvp` failed), the condition evaluates to ERROR - the verdict
`C04_message_error_iff` turns into the error flag of the run - and the match list is untouched.  (Hypothesis `hrc`: the
environment's command oracle is `exec()`, see `C13_status`; inside the run of `Model.processMessage` the condition issues the
calls itself and the oracle IS `exec()` on their results: `C04_command_failure_is_error_run` below.) -/
theorem C04_command_failure_is_error (env : Env) (root : Msg) (lno : Nat) (argv av : List Bytes) (part : Nat) (m : Msg) (st : St)
    (hav : argv.mapM (interpolate st.ml none) = some av)
    (d : Bool) (f w : Res) (hrc : env.command av = Model.execValue d f w)
    (h : Proofs.childOutcome d f w = .cannotRun ∨ Proofs.childOutcome d f w = .waited (.exited 127)) :
    eval env root (.command lno argv) part m st = (.error, st) := by
  rw [Proofs.eval_command_outcome env root lno argv av part m st hav d f w hrc, (Proofs.outcomeTri_error_iff _).2 h]

/-- An environment whose command oracle is `exec()` on a child that exited with 127 (its `execvp` failed). -/
def c04exCmdEnv : Env where
  rx := fun _ _ => .nomatch
  command := fun _ => Model.execValue true (.ok 7) (.ok (127 * 256))
  isDir := fun _ => false
  now := 0
  strptime := fun _ => none
  zoneName := fun _ => none
  fileTime := fun _ => none
  dryrun := false
  path := []

/-- Non-vacuity, all hypotheses at once: `command "x"` in that environment evaluates to ERROR by the
theorem. -/
example : (eval c04exCmdEnv (parseMessage []) (.command 1 [[120]]) 0 (parseMessage []) { ml := [], flags := ⟨0, 0⟩ }).1 = .error := by
  rw [C04_command_failure_is_error c04exCmdEnv (parseMessage []) 1 [[120]] [[120]] 0 (parseMessage []) { ml := [], flags := ⟨0, 0⟩ }
    (by decide +kernel) true (.ok 7) (.ok (127 * 256)) rfl (.inr (by decide))]

/-- Non-vacuity: the child's `execvp` failed (exit 127, wait status 127 * 256); `fork` failed. -/
example :
    Proofs.childOutcome true (.ok 7) (.ok (127 * 256)) = .waited (.exited 127) ∧
    Proofs.childOutcome true (.err "EAGAIN") (.ok 0) = .cannotRun := by decide

/-! ### Death by a signal of a `command` condition: what the code does (candidate finding, not claimed)

The anchor of C04 says "127 and signals are errors".  For `exec` actions that is `C04_exec_status_is_error`.  For `command`
conditions the unchanged code makes death by a signal "no match" (`exec()` returns 128 + signal > 0, `expr_eval_command` only
treats negative values as errors): the reading below is FALSE of the model, and of the binary (tools/cmdstatus.py pins it,
design-notes/pkg-ce5.md has the reproduction). -/

/-- The reading "a `command` condition whose program is killed by a signal is an error". -/
def C04_command_signal_is_error : Prop :=
  ∀ (env : Env) (root : Msg) (lno : Nat) (argv av : List Bytes) (part : Nat) (m : Msg) (st : St) (pid s g : Nat),
    argv.mapM (interpolate st.ml none) = some av → Proofs.waitKind s = .signaled g →
    env.command av = Model.execValue true (.ok pid) (.ok s) →
    (eval env root (.command lno argv) part m st).1 = .error

/-- An environment whose command oracle is `exec()` on a child killed by SIGSEGV (wait status 11). -/
def segvCommandEnv : Env := { c04exCmdEnv with command := fun _ => Model.execValue true (.ok 7) (.ok 11) }

/-- It does not hold: `command "x"` whose program dies of SIGSEGV evaluates to "no match". -/
theorem C04_command_signal_is_error_false : ¬ C04_command_signal_is_error := by
  intro h
  have h1 := h segvCommandEnv (parseMessage []) 1 [[120]] [[120]] 0 (parseMessage []) { ml := [], flags := ⟨0, 0⟩ } 7 11 11
    (by decide +kernel) (by decide) rfl
  rw [Proofs.eval_command] at h1
  revert h1
  decide +kernel

/-! ## Evaluation errors caused by the operating system

`command`, `isdirectory` and the file-time `date` conditions ask the operating system while the rules are evaluated
(`Model.evalP`, Model/EvalP.lean; `C03_evaluation_calls`).  `Proofs.FailAns tf q a`: the answer `a` to the question `q`
is a failure - the value of `exec(argv, -1)` is negative (`command`), or `stat` of the message's path failed / `time_format`
returned NULL (file-time `date`).  `isdirectory` has no failing answer: a path that cannot be stat'ed is not a directory
(`expr_eval_stat`; the condition is false, nothing is reported). -/

/-- **A question the operating system could not answer makes the evaluation an error, at once** - for every rule tree,
wherever the condition stands in it (inside `and` / `or` / `!` / nested blocks / `attachment`), whatever the other
calls return: if in the run of `evalP` the answer to question number `k` is a failure, the value is *error* and no
further question is asked (`EXPR_ERROR` is passed up through every `expr_eval_*`). -/
theorem C04_evaluation_failure_is_error (env : Env) (e : Expr) (m : Msg) (fl : MFlags)
    (orcl : Nat → Call → Res) (i : Nat) (k : Nat) (q : Req) (a : SysAns)
    (hq : (evalR env e m fl ((evalTop env e m fl).answers orcl i)).2[k]? = some q)
    (ha : ((evalTop env e m fl).answers orcl i)[k]? = some a) (hF : Proofs.FailAns env.timeFormat q a) :
    (Proofs.Own.runO orcl (evalP env e m fl) i).1.1 = .error ∧
    (evalR env e m fl ((evalTop env e m fl).answers orcl i)).2.length = k + 1 :=
  Proofs.evalP_error_of_fail env e m fl orcl i k q a hq ha hF

/-- Non-vacuity: `match command "t" or all move "/d"` when `fork` fails: one question, a failing answer. -/
example :
    let e : Expr := .mtch 1 (.or 1 (.command 1 [[116]]) (.all 1)) (.move 1 [47, 100])
    let env := Proofs.msgEnv Proofs.examplePEnv Proofs.exampleOracles [47, 109, 47, 110, 101, 119, 47, 49]
    let m := parseMessage [83, 117, 98, 106, 101, 99, 116, 58, 32, 120, 10, 10, 98, 10]
    let orcl : Nat → Call → Res := fun _ c => match c with | .fork .. => .err "EAGAIN" | _ => .ok 0
    (evalTop env e m MFlags.empty).answers orcl 0 = [.status (-1)] ∧
    (evalR env e m MFlags.empty [.status (-1)]).2 = [.command [[116]]] ∧
    Proofs.FailAns env.timeFormat (.command [[116]]) (.status (-1)) ∧
    (Proofs.Own.runO orcl (evalP env e m MFlags.empty) 0).1.1 = .error := by
  simp only [evalP, evalR, evalTop, evalT, eval]
  refine ⟨by decide +kernel, by decide +kernel, ?_, by decide +kernel⟩
  show ((-1 : Int) < 0)
  decide

/-- **Which call results make a `command` condition fail**: its answer is the value of util.c `exec(argv, -1)` on the
results of `open("/dev/null")`, `fork`, `waitpid` (`Model.execValue`), and that value is negative exactly when the child
could not be run (`Proofs.childOutcome … = .cannotRun`: `/dev/null` cannot be opened, `fork` fails, `waitpid` fails -
`C13_child_outcome`) or exited with status 127 (`execvp` failed).  Every other status - 0, another exit code, death by
a signal - is match / no match, not an error (`C13_command_status`). -/
theorem C04_command_failure_causes (av : List Bytes) (orcl : Nat → Call → Res) (j : Nat) :
    (Proofs.Own.runO orcl (sysCall (.command av)) j).1 =
      .status (match orcl j (.openPath (ofString "/dev/null")) with
        | .ok h => Model.execValue true (orcl (j + 1) (.fork (av.map cstr) h)) (orcl (j + 2) .waitpid)
        | r => Model.execValue false (orcl (j + 1) (.fork (av.map cstr) (Proofs.Own.okHandle r))) (orcl (j + 2) .waitpid)) ∧
    ∀ (d : Bool) (f w : Res), Model.execValue d f w < 0 ↔
      Proofs.childOutcome d f w = .cannotRun ∨ Proofs.childOutcome d f w = .waited (.exited 127) :=
  ⟨Proofs.sysCall_command_value av orcl j, Proofs.execValue_neg_iff⟩

/-- **`C04_command_failure_is_error` inside the run** (its corollary through `Proofs.evalT_command_run`: the oracle of the
evaluator-level statement IS `exec()` on the results of the three calls of this run): a `command` condition evaluated at
step `j` of a run in which `/dev/null` cannot be opened, `fork` or `waitpid` fails, or the child exits with 127, evaluates to
ERROR and leaves the match list as it was. -/
theorem C04_command_failure_is_error_run (env : Env) (root : Msg) (lno : Nat) (argv av : List Bytes) (part : Nat) (m : Msg)
    (st : St) (hav : argv.mapM (interpolate st.ml none) = some av) (orcl : Nat → Call → Res) (j : Nat)
    (h : let o := Proofs.childOutcome (match orcl j (.openPath (ofString "/dev/null")) with | .ok _ => true | _ => false)
            (orcl (j + 1) (.fork (av.map cstr) (Proofs.Own.okHandle (orcl j (.openPath (ofString "/dev/null")))))) (orcl (j + 2) .waitpid)
         o = .cannotRun ∨ o = .waited (.exited 127)) :
    (Proofs.Own.runO orcl (evalT env root (.command lno argv) part m st).toProg j).1 = (.error, st) := by
  rw [Proofs.evalT_command_run]
  exact C04_command_failure_is_error _ root lno argv av part m st hav _ _ _ rfl h

/-- **A failing `stat` of the message's path makes a file-time `date` condition fail**: the answer to the question is
what `stat` returned, and a `stat` that does not succeed (`EACCES`, `EIO`, `ENOENT`: the message was removed meanwhile)
is a failing answer. -/
theorem C04_date_stat_failure (tf : Int → Option Bytes) (p : Bytes) (f : DateField) (orcl : Nat → Call → Res) (j : Nat) :
    (Proofs.Own.runO orcl (sysCall (.fileTime p f)) j).1 = .stat (statAnswer (orcl j (.stat p))) ∧
    ((∀ v, orcl j (.stat p) ≠ .ok v) → Proofs.FailAns tf (.fileTime p f) (.stat (statAnswer (orcl j (.stat p))))) :=
  ⟨Proofs.sysCall_fileTime_value p f orcl j, Proofs.failAns_fileTime_of_stat_failed tf p f _⟩

example : (∀ v, (Res.err "EACCES") ≠ .ok v) := fun _ h => by cases h

/-- **An evaluation error is an error of that message** (`C04_message_error_iff`): if the message was parsed and
the evaluation of the rules in this run says *error*, the message's error bit is set. -/
theorem C04_message_error_of_eval_error (env : PEnv) (orc : EvalOracles) (expr : Expr) (md : Maildir) (name : Bytes)
    (st : MainSt) (orcl : Nat → Call → Res) (i : Nat) (d : Handle) (content : Bytes) (ms : MsgSt)
    (hd : md.dirH = some d) (hf : st.files.get md.path name = some content)
    (hparse : (Proofs.Own.runO orcl (messageParseP d md.path name content) i).1 = some ms)
    (hev : (Proofs.Own.runO orcl (Proofs.evalMs env orc expr ms)
      (Proofs.Own.runO orcl (messageParseP d md.path name content) i).2.2).1.1 = .error) :
    Proofs.msgError env orc expr md name st orcl i = true := by
  unfold Proofs.msgError
  simp only [hd, hf, hparse]
  generalize (Proofs.Own.runO orcl (Proofs.evalMs env orc expr ms)
    (Proofs.Own.runO orcl (messageParseP d md.path name content) i).2.2).1 = ev at hev ⊢
  obtain ⟨t, est⟩ := ev
  dsimp only at hev
  subst hev
  rfl

/-! ## The command line: exit statuses before the configuration is read -/

/-- The exit status of a run from `argv`.  A refused command line (usage, `-D` errors) and a `readenv` / `defaultconf`
failure end the run with status 1 - ALSO when `-` is among the arguments: `usage()` calls `exit(1)`, the `-D` errors
`goto out` before the operand `-` has been looked at (`OPTION_STDIN` is not set yet, so `EX_TEMPFAIL` does not
apply), `errc(1, ...)` exits.  Every other run is `mainP` in the modes the options select, and its status is the
table of `C04_status_table` for THAT mode: 75 / 1 / 0 iff `-` is the operand. -/
theorem C04_usage_status (permute : Bool) (args : List Bytes) (raw : RawEnv) (env : PEnv) (orc : EvalOracles)
    (rxOk : Pat → Bool) (confText : Bytes) (files : Files) (input : Bytes) (w : World) (plan : Plan) :
    let r := (runPlan plan (mainArgs permute args raw env orc rxOk confText files input) w 0 []).1
    (∀ e, parseArgs permute args = .error e → r.1 = 1) ∧
    (∀ o, parseArgs permute args = .ok o →
      (r.1 = 1 ∧ Proofs.callsOf plan (mainArgs permute args raw env orc rxOk confText files input) w = []) ∨
      ∃ home tmpdir confpath, startPaths raw o.confpath = .ok (home, tmpdir, confpath) ∧
        r.1 = exitStatus (Proofs.Opts.runEnv env o home tmpdir confpath) r.2) := by
  intro r
  refine ⟨fun e h => ?_, fun o h => ?_⟩
  · show (runPlan plan (mainArgs permute args raw env orc rxOk confText files input) w 0 []).1.1 = 1
    rw [Proofs.Opts.mainArgs_refused permute args raw env orc rxOk confText files input e h, (Proofs.Opts.ret_run plan _ w).1]; rfl
  · rcases Proofs.Opts.mainArgs_accepted permute args raw env orc rxOk confText files input o h with h1 | ⟨home, tmpdir, confpath, ok, conf, hs, h2⟩
    · left
      show (runPlan plan (mainArgs permute args raw env orc rxOk confText files input) w 0 []).1.1 = 1 ∧ _
      rw [h1]
      exact ⟨by rw [(Proofs.Opts.ret_run plan _ w).1]; rfl, (Proofs.Opts.ret_run plan _ w).2⟩
    · right
      refine ⟨home, tmpdir, confpath, hs, ?_⟩
      show (runPlan plan (mainArgs permute args raw env orc rxOk confText files input) w 0 []).1.1 = exitStatus _ (runPlan plan (mainArgs permute args raw env orc rxOk confText files input) w 0 []).1.2
      rw [h2]
      exact (C04_status_table (Proofs.Opts.runEnv env o home tmpdir confpath) orc ok conf files input w plan).1

/-- Non-vacuity: refused command lines that DO contain the operand `-` (status 1, not 75), and an accepted one whose
mode is stdin. -/
example :
    parseArgs true ["-x".toUTF8.toList, "-".toUTF8.toList] = .error .usage ∧
    parseArgs true ["-".toUTF8.toList, "-x".toUTF8.toList] = .error .usage ∧
    parseArgs true ["-".toUTF8.toList, "-D".toUTF8.toList, "a".toUTF8.toList] = .error (.macroSeparator "a".toUTF8.toList) ∧
    parseArgs true ["-".toUTF8.toList, "extra".toUTF8.toList] = .error .usage ∧
    (parseArgs true ["-".toUTF8.toList]).toOption.map (·.stdinMode) = some true ∧
    (parseArgs true ["--".toUTF8.toList, "-".toUTF8.toList]).toOption.map (·.stdinMode) = some true := by
  decide +kernel

/-! ## the fuel of the model's `readdir` loops

mdsort's loops over a directory are unbounded (`while ((ent = readdir(dir)))`); a `Prog` is a well-founded tree, so the
model's `walk` (maildir: `2n+8`, spool: `64`) and `closeStdin.loop` (`64`) carry fuel, plus the ghost `env.extraFuel`.
Running out of fuel is not silent: it sets `MainSt.fuelOut` (never cleared; `closeStdin` reports it),
and the conformance check treats it as a divergence (`tools/world.py`, driver answer `FUELOUT`).

Every theorem about `mainP` - for arbitrary call results: `C04_error_iff_partial`, `C04_isolation_calls_main`,
`C05_dry_stdin`, `C13_fd_hygiene`, `C18_no_truncated_path`, ...; under fault plans: C01, C02, C05 - is quantified over `env`
and therefore holds for every value of the allowance.  The theorems below say what that covers:

* a run that ends with `fuelOut = false` is THE SAME RUN for every larger allowance (`C04_fuel_irrelevant*`): the theorem
  speaks about the run of the unbounded loops;
* along an observed trace, an allowance of the length of the trace always suffices (`C04_fuel_suffices_conform`) - the
  driver uses exactly that allowance, so a `done` answer of the conformance check is never a truncated walk;
* a run that ends with `fuelOut = true` is a truncation of mdsort's run (witness: `C01_fuel_can_run_out`). -/

/-- **Arbitrary call results** (`orcl i c` = the result of the i-th call: every behaviour of the file system, of faults and
of other parties): if the run of `mainP` ends with `fuelOut = false`, then for EVERY larger allowance `k` the run is the
same - same exit status, same final state, same calls with the same results. -/
theorem C04_fuel_irrelevant (env : PEnv) (orc : EvalOracles) (confOk : Bool) (conf : List ConfBlock) (files : Files)
    (input : Bytes) (orcl : Nat → Call → Res) (k : Nat) (hk : env.extraFuel ≤ k)
    (h : (runOracle orcl (mainP env orc confOk conf files input) 0 []).1.2.fuelOut = false) :
    runOracle orcl (mainP { env with extraFuel := k } orc confOk conf files input) 0 [] =
      runOracle orcl (mainP env orc confOk conf files input) 0 [] :=
  Proofs.Fuel.fuel_irrelevant_oracle env orc confOk conf files input orcl k hk h

/-- The same on the abstract file system under a fault plan (value, final world, the world after every call). -/
theorem C04_fuel_irrelevant_plan (env : PEnv) (orc : EvalOracles) (confOk : Bool) (conf : List ConfBlock) (files : Files)
    (input : Bytes) (plan : Plan) (w : World) (k : Nat) (hk : env.extraFuel ≤ k)
    (h : (runPlan plan (mainP env orc confOk conf files input) w 0 []).1.2.fuelOut = false) :
    runPlan plan (mainP { env with extraFuel := k } orc confOk conf files input) w 0 [] =
      runPlan plan (mainP env orc confOk conf files input) w 0 [] :=
  Proofs.Fuel.fuel_irrelevant_plan env orc confOk conf files input plan w k hk h

/-- The same for the conformance walk along an observed trace: a `done` answer without `fuelOut` is the `done` answer for
every larger allowance. -/
theorem C04_fuel_irrelevant_conform (env : PEnv) (orc : EvalOracles) (confOk : Bool) (conf : List ConfBlock) (files : Files)
    (input : Bytes) (w : World) (tr : List (Call × Res)) (k : Nat) (hk : env.extraFuel ≤ k)
    (a : Nat × MainSt) (w' : World) (rest : List (Call × Res))
    (hd : conform (mainP env orc confOk conf files input) w tr 0 = .done a w' rest) (h : a.2.fuelOut = false) :
    conform (mainP { env with extraFuel := k } orc confOk conf files input) w tr 0 = .done a w' rest :=
  Proofs.Fuel.fuel_irrelevant_conform env orc confOk conf files input w tr k hk hd h

/-- **Along an observed trace an allowance of the length of the trace suffices** - for EVERY trace (results possible in
the abstract file system or not): if `env.extraFuel ≥ |tr|` and the conformance walk ends (`done`), no loop of the model
stopped for lack of fuel.  Bound: every iteration of a loop issues a call and a `done` walk consumes one element of the
trace per call, so no loop makes more than `|tr|` iterations; the allowance is ADDED to the standard one. -/
theorem C04_fuel_suffices_conform (env : PEnv) (orc : EvalOracles) (confOk : Bool) (conf : List ConfBlock) (files : Files)
    (input : Bytes) (w : World) (tr : List (Call × Res)) (hlen : tr.length ≤ env.extraFuel)
    (a : Nat × MainSt) (w' : World) (rest : List (Call × Res))
    (hd : conform (mainP env orc confOk conf files input) w tr 0 = .done a w' rest) : a.2.fuelOut = false :=
  Proofs.Fuel.fuel_suffices_conform env orc confOk conf files input w tr hlen hd

/-- Non-vacuity of the hypotheses `fuelOut = false` / `hk` / `hlen`: `C01_fuel_can_run_out` (Props/C01.lean) evaluates a run
that ends WITH the flag under the standard allowance and WITHOUT it under an allowance of 5; `0 ≤ 5`. -/
example : Proofs.examplePEnv.extraFuel ≤ 5 ∧ ([] : List (Call × Res)).length ≤ Proofs.examplePEnv.extraFuel := ⟨by decide, by decide⟩

end Mdsort.Props
