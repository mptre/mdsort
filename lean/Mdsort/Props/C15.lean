import Mdsort.Proofs.FlagsTime
import Mdsort.Proofs.DateFields
import Mdsort.Proofs.AgeLiteral
import Mdsort.Proofs.ConfErrors
import Mdsort.Proofs.Strptime
import Mdsort.Proofs.Literal

/-!
# C15 - date conditions compare the true age of the message

`time_parse` is `timegm(tm) - zone` (mdsort with the `fix:` commit "compute the instant of a Date header
independently of the local time zone"): the model has no parameter for the local zone or
for daylight saving at all, which is the formal content of "independently of the local time
zone and of daylight-saving transitions".  `strptime` (three layouts from the regenerated
table) and the zone-NAME lookup are parameters of the model; the numeric zone, the civil-date
arithmetic, the comparison, the unit table and the overflow test are proved here.

What is claimed and what is not.  (1) In the theorems up to `C15_header_true_age` `strptime` is an ARBITRARY function.  The section "from
the header TEXT on" at the end closes that for the C locale: `Model.timeparseC` (Model/Strptime.lean) interprets the
layouts READ FROM `Gen.dateFormats`, `C15_layouts` says which alternatives of the RFC 5322 grammar (Spec/Rfc5322Date.lean) the
three layouts read, `C15_rfc5322_end_to_end` that every date-time of the grammar inside `Covered` is parsed to the instant
the RFC defines, `C15_rfc5322_uncovered` that a date-time with neither day of week nor seconds is an ERROR.  (2) A date condition
that holds is still passed through `expr_regexec` with the pattern `.*` on the displayed text, and the regex library is
an arbitrary oracle (`env.rx`): "matches IFF the age holds" is proved up to that call (`C15_fields`,
`C15_header_true_age`); with an oracle that does not match `.*` the result is "no match".  (3) `C15_overflow`,
`C15_fields_source`, `C15_fields_strict`, the second halves of `C15_true_age` and `C15_units` and the first two
conjuncts of `C15_file_fields` restate definitions of the model (they hold by unfolding); the content is in
`C15_zone_offset(_only)`, `C15_civil` (two different algorithms), `C15_true_age`.1, `C15_age_literal_exact(_field)`,
`C15_fields`, `C15_file_fields`.3 and the table equation `Gen.scalars = Spec.units`.
-/

namespace Mdsort.Props
open Mdsort Mdsort.Model

/-- `±hhmm` with `hh ≤ 23`, `mm ≤ 59` denotes `±(3600·hh + 60·mm)` whatever follows it. -/
theorem C15_zone_offset (plus : Bool) (hh mm : Nat) (rest : Bytes) (h1 : hh ≤ 23) (h2 : mm ≤ 59) :
    tzoff ((if plus then 43 else 45) :: (Proofs.twoDigits hh ++ Proofs.twoDigits mm ++ rest)) =
      some (Spec.zoneOffset (if plus then 1 else -1) hh mm) :=
  Proofs.tzoff_accepts plus hh mm rest h1 h2

/-- Nothing but `±hhmm` with `hh ≤ 23`, `mm ≤ 59` is accepted as a numeric zone. -/
theorem C15_zone_offset_only (s : Bytes) (z : Int) (h : tzoff s = some z) :
    ∃ (plus : Bool) (hh mm : Nat) (rest : Bytes), hh ≤ 23 ∧ mm ≤ 59 ∧
      s = (if plus then 43 else 45) :: (Proofs.twoDigits hh ++ Proofs.twoDigits mm ++ rest) ∧
      z = Spec.zoneOffset (if plus then 1 else -1) hh mm :=
  Proofs.tzoff_only s z h

/-- The civil-date arithmetic of `timegm` is the proleptic Gregorian day count.  (The equation holds for every `d`: the proof
does not use `hd`, neither here nor in `C15_true_age`.) -/
theorem C15_civil (y mon d h mi s : Nat) (hy : 1 ≤ y) (hm : mon ≤ 11) (hd : 1 ≤ d) :
    timegm { year := y, mon := mon, mday := d, hour := h, min := mi, sec := s } = Spec.epoch y (mon + 1) d h mi s :=
  Proofs.timegm_eq_epoch y mon d h mi s hy hm

/-- The true age: for every broken-down time the layouts produce, every numeric zone and every
`now`: the parsed instant is the UTC reading minus the zone, and `>` / `<` compare `now − instant`
strictly with the configured age.  (The second conjunct is the definition of `dateMatches` and does not mention the
parsed instant; the two are joined, through the evaluator, in `C15_header_true_age` below.  `hne` excludes the one
instant 1969-12-31 23:59:59 UTC, which `time_parse` takes for the error value of `timegm`.) -/
theorem C15_true_age (strp : Bytes → Option (Tm × Bytes)) (zn : Bytes → Option Int) (s rest : Bytes)
    (y mon d h mi sec : Nat) (plus : Bool) (hh mm : Nat) (tail : Bytes)
    (hy : 1 ≤ y) (hm : mon ≤ 11) (hd : 1 ≤ d) (h1 : hh ≤ 23) (h2 : mm ≤ 59)
    (hs : strp s = some ({ year := y, mon := mon, mday := d, hour := h, min := mi, sec := sec }, rest))
    (hz : rest.drop (nspaces rest) = (if plus then 43 else 45) :: (Proofs.twoDigits hh ++ Proofs.twoDigits mm ++ tail))
    (hne : Spec.epoch y (mon + 1) d h mi sec ≠ -1) :
    timeParse strp zn s = some (Spec.epoch y (mon + 1) d h mi sec - Spec.zoneOffset (if plus then 1 else -1) hh mm) ∧
    ∀ age now t, (dateMatches .gt age now t = decide (now - t > age)) ∧ (dateMatches .lt age now t = decide (now - t < age)) :=
  Proofs.true_age strp zn s rest y mon d h mi sec plus hh mm tail hy hm h1 h2 hs hz hne

/-- Non-vacuity of `C15_true_age`: every hypothesis instantiated.  `Thu, 15 Jan 2026 12:00:00  +0130 (CET)` - `strptime`
delivers 2026-01-15 12:00:00 and leaves `  +0130 (CET)`; the instant is 12:00 UTC minus 1 h 30 min, whatever follows the zone. -/
example :
    let tm : Tm := { year := 2026, mon := 0, mday := 15, hour := 12, min := 0, sec := 0 }
    let strp : Bytes → Option (Tm × Bytes) := fun _ => some (tm, ofString "  +0130 (CET)")
    timeParse strp (fun _ => none) (ofString "Thu, 15 Jan 2026 12:00:00  +0130 (CET)") = some (1768478400 - 5400) ∧
    Spec.epoch 2026 1 15 12 0 0 = 1768478400 ∧ Spec.zoneOffset 1 1 30 = 5400 := by
  intro tm strp
  have h := (C15_true_age strp (fun _ => none) (ofString "Thu, 15 Jan 2026 12:00:00  +0130 (CET)") (ofString "  +0130 (CET)")
    2026 0 15 12 0 0 true 1 30 (ofString " (CET)") (by decide) (by decide) (by decide) (by decide) (by decide) rfl
    (by decide +kernel) (by decide +kernel)).1
  have e1 : Spec.epoch 2026 1 15 12 0 0 = 1768478400 := by decide +kernel
  have e2 : Spec.zoneOffset 1 1 30 = 5400 := by decide +kernel
  refine ⟨?_, e1, e2⟩
  rw [h]
  simp only [if_true, e2]
  rw [show (0 + 1 : Nat) = 1 from rfl, e1]

/-- The unit table regenerated from parse.y is the documented one, and a lexeme selects a unit
iff it is a prefix of that unit's name and of no other.  (The first conjunct is about the REGENERATED table:
changing a value or a name in `scalars[]` of parse.y makes it false.  Given the first, the second compares two
copies of the same `filter ... isPrefixOf` - `Model.scalarLookup` over `Gen.scalars`, `Spec.unitOf` over `Spec.units`.) -/
theorem C15_units : Gen.scalars = Spec.units ∧
    ∀ lexeme v, scalarLookup lexeme = .value v ↔ Spec.unitOf lexeme = some v :=
  ⟨Proofs.scalars_table, fun l v => Proofs.scalarLookup_eq_spec l v⟩

/-- Ages that do not fit 32 bits are rejected, and accepted ages are exactly `N × unit`.  (This is the definition
of `Model.dateAge` with the test turned round; that the PARSER applies it to every age is `C15_age_literal_exact`.) -/
theorem C15_overflow (n u : Nat) : dateAge n u = (if n * u < 2 ^ 32 then some (n * u) else none) :=
  Proofs.dateAge_spec n u

/-- The age a configuration writes, through the lexer and the `date_age` rule of the parser model
(`Model.parseDate` = `DATE date_field date_cmp INT scalar` with the overflow test): for EVERY non-empty
string of digits `ds` (any length, leading zeros), every lexeme `w` that denotes a unit `u` (`Spec.unitOf`:
the seven names and their unambiguous abbreviations), any white space between them, any comparison, and
whatever follows the unit (anything that cannot continue a word) - from the state in which `date` has been
read and the comparison is the lookahead token -
* the condition is accepted IFF `N * u < 2^32` (`N = Spec.decimal ds`); the three outcomes below exclude each other;
* the age in the tree is exactly `N * u`, with the comparison as written and the field `header`;
* the parser stops exactly behind the unit (`s'.rest = rest`) and never runs out of budget.
A literal of 2^32 or more is diagnosed by the lexer (`C14_int_literals`), a product of 2^32 or more by
`date_age`: either way the configuration is rejected when it is parsed. -/
theorem C15_age_literal_exact (cx : PCtx) (s : ParseSt) (cmp : DateCmp) (sp1 ds sp2 rest : Bytes) (w : String) (u : Nat)
    (hla : s.la = some (Proofs.Conf.cmpTk cmp)) (ham : s.afterMacro = false)
    (hrest : s.rest = sp1 ++ ds ++ (sp2 ++ w.toUTF8.toList ++ rest))
    (hsp1 : ∀ x ∈ sp1, isspace x = true) (hne : ds ≠ []) (hd : ∀ d ∈ ds, isdigit d = true)
    (hsp2 : ∀ x ∈ sp2, isspace x = true) (hw : Spec.unitOf w = some u)
    (hr : ∀ c, rest.head? = some c → isKwChar c = false) :
    match parseDate cx s with
    | .ok t s' => Spec.decimal ds * u < 2 ^ 32 ∧
        t = .leaf (.date (lineOf cx.nl rest) .header cmp (Spec.decimal ds * u)) ∧ s'.rest = rest ∧ s'.la = none
    | .err _ _ => 2 ^ 32 ≤ Spec.decimal ds * u
    | .fuel _ => False := by
  have h := Proofs.Conf.parseDate_literal cx s cmp sp1 ds sp2 rest w u hla ham hrest hsp1 hne hd hsp2 hw hr
  unfold Proofs.Conf.wp at h
  cases hp : parseDate cx s <;> simp only [hp] at h ⊢ <;> exact h

/-- The same with a field keyword (`header`, `access`, `modified`, `created`) as the lookahead and the
comparison (`<` / `>`, after any white space) still to be read: every field, both comparisons. -/
theorem C15_age_literal_exact_field (cx : PCtx) (s : ParseSt) (f : DateField) (cmp : DateCmp) (sp0 sp1 ds sp2 rest : Bytes)
    (w : String) (u : Nat)
    (hla : s.la = some (.kw (Proofs.Conf.fieldKw f))) (ham : s.afterMacro = false)
    (hrest : s.rest = sp0 ++ Proofs.Conf.cmpChar cmp :: (sp1 ++ ds ++ (sp2 ++ w.toUTF8.toList ++ rest)))
    (hsp0 : ∀ x ∈ sp0, isspace x = true)
    (hsp1 : ∀ x ∈ sp1, isspace x = true) (hne : ds ≠ []) (hd : ∀ d ∈ ds, isdigit d = true)
    (hsp2 : ∀ x ∈ sp2, isspace x = true) (hw : Spec.unitOf w = some u)
    (hr : ∀ c, rest.head? = some c → isKwChar c = false) :
    match parseDate cx s with
    | .ok t s' => Spec.decimal ds * u < 2 ^ 32 ∧
        t = .leaf (.date (lineOf cx.nl rest) f cmp (Spec.decimal ds * u)) ∧ s'.rest = rest ∧ s'.la = none
    | .err _ _ => 2 ^ 32 ≤ Spec.decimal ds * u
    | .fuel _ => False := by
  have h := Proofs.Conf.parseDate_literal_field cx s f cmp sp0 sp1 ds sp2 rest w u hla ham hrest hsp0 hsp1 hne hd hsp2 hw hr
  unfold Proofs.Conf.wp at h
  cases hp : parseDate cx s <;> simp only [hp] at h ⊢ <;> exact h

/-- The pieces at lexer level: every unit lexeme is lexed as its unit where a unit is expected, and
`Spec.decimal` reads decimal notation (canonical form of `n` is `n`; leading zeros change nothing). -/
theorem C15_age_literal_tokens :
    (∀ (sp rest : Bytes) (w : String) (u : Nat), (∀ x ∈ sp, isspace x = true) → Spec.unitOf w = some u →
      (∀ c, rest.head? = some c → isKwChar c = false) →
      lex1 false true false (sp ++ w.toUTF8.toList ++ rest) = { tok := .scalar (some u), rest := rest, errors := 0 }) ∧
    (∀ n, Spec.decimal (toString n).toUTF8.toList = n) ∧
    (∀ k ds, Spec.decimal (List.replicate k 48 ++ ds) = Spec.decimal ds) :=
  ⟨fun sp rest w u h1 h2 h3 => Proofs.lex_unit sp rest w u h1 h2 h3, Proofs.decimal_toString, Proofs.decimal_leading_zeros⟩

/-- Non-vacuity of `C15_age_literal_exact` with every hypothesis instantiated: the state after `date >` with
` 000060 s break }` still to be read; the condition is accepted with the age 60 and the parser stops before ` break }`. -/
example :
    let cx : PCtx := { nl := 0, home := [], rxOk := fun _ => true }
    let s : ParseSt := { rest := ofString " 000060 s break }", la := some .gt }
    ∃ s', parseDate cx s = .ok (.leaf (.date 1 .header .gt 60)) s' ∧ s'.rest = ofString " break }" := by
  intro cx s
  have hdec : Spec.decimal (ofString "000060") = 60 := by decide +kernel
  have h := C15_age_literal_exact cx s .gt [32] (ofString "000060") [32] (ofString " break }") "s" 1 rfl rfl
    (by decide +kernel) (by decide) (by decide +kernel) (by decide +kernel) (by decide) (by decide +kernel) (by decide +kernel)
  cases hp : parseDate cx s with
  | ok t s' =>
    rw [hp] at h
    simp only [hdec] at h
    refine ⟨s', ?_, h.2.2.1⟩
    rw [h.2.1]
    have hl : lineOf cx.nl (ofString " break }") = 1 := by decide +kernel
    rw [hl]
  | err l s' =>
    rw [hp] at h
    simp only [hdec] at h
    exact absurd h (by decide)
  | fuel s' => rw [hp] at h; exact h.elim

/-! Non-vacuity of the hypotheses (`hw`: lexemes that denote units; a state with the comparison as lookahead is what
`parseDateField` leaves), and whole files through `parseConfig`: `000060 s` is 60 seconds, `71582788 minutes` is
4294967280 seconds, `71582789 minutes`, `137 years`, 2^64 + 60 seconds, 2^64 + 1 hours, 2 * 2^64 + 3600 seconds and
2^64 + 2^32 - 1 seconds are rejected on their line. -/
example : Spec.unitOf "seconds" = some 1 ∧ Spec.unitOf "mi" = some 60 ∧ Spec.unitOf "y" = some 31536000 ∧ Spec.unitOf "m" = none := by
  decide +kernel
example : (match parseConfig [] [] (fun _ => true) "maildir \"q\" { match date > 000060 s break }".toUTF8.toList with
    | .ok [⟨_, .block _ (.mtch _ (.leaf (.date _ .header .gt 60)) _)⟩] => true | _ => false) = true := by decide_lit
example : (match parseConfig [] [] (fun _ => true) "maildir \"q\" { match date modified < 71582788 minutes break }".toUTF8.toList with
    | .ok [⟨_, .block _ (.mtch _ (.leaf (.date _ .modified .lt 4294967280)) _)⟩] => true | _ => false) = true := by decide_lit
example :
    Proofs.Conf.isErrorAt 1 (parseConfig [] [] (fun _ => true) "maildir \"q\" { match date > 71582789 minutes break }".toUTF8.toList) = true ∧
    Proofs.Conf.isErrorAt 1 (parseConfig [] [] (fun _ => true) "maildir \"q\" { match date > 137 years break }".toUTF8.toList) = true ∧
    Proofs.Conf.isErrorAt 2 (parseConfig [] [] (fun _ => true) "maildir \"q\" {\n match date > 18446744073709551676 seconds break }".toUTF8.toList) = true ∧
    Proofs.Conf.isErrorAt 1 (parseConfig [] [] (fun _ => true) "maildir \"q\" { match date > 18446744073709551617 hours break }".toUTF8.toList) = true ∧
    Proofs.Conf.isErrorAt 1 (parseConfig [] [] (fun _ => true) "maildir \"q\" { match date > 36893488147419106832 seconds break }".toUTF8.toList) = true ∧
    Proofs.Conf.isErrorAt 1 (parseConfig [] [] (fun _ => true) "maildir \"q\" { match date > 18446744078004518911 seconds break }".toUTF8.toList) = true := by
  decide_lit

/-! Non-vacuity: 2026-01-15 12:00:00 UTC, and the zone `-0330`. -/
example : Model.timegm { year := 2026, mon := 0, mday := 15, hour := 12, min := 0, sec := 0 } = 1768478400 := by
  decide

example : Model.tzoff [45, 48, 51, 51, 48] = some (-12600) := by decide

/-- Which instant a date condition compares: `date [header]` the `Date` header (`getHeader1` +
`timeParse`; absent header = no match, unparsable = error), `date access` / `modified` / `created`
the field `st_atim` / `st_mtim` / `st_ctim` of what the `stat` oracle returns for the message's path
(`Proofs.statInstant`; failure of `stat` or of `time_format` = error). -/
theorem C15_fields_source (env : Env) (m : Msg) :
    Proofs.dateInstant env m .access = Proofs.statInstant env (·.atime) ∧
    Proofs.dateInstant env m .modified = Proofs.statInstant env (·.mtime) ∧
    Proofs.dateInstant env m .created = Proofs.statInstant env (·.ctime) ∧
    Proofs.dateInstant env m .header =
      (match getHeader1 m (ofString "Date") with
       | none => some none
       | some d =>
         match timeParse env.strptime env.zoneName d with
         | none => none
         | some t => some (some (t, d))) :=
  ⟨rfl, rfl, rfl, rfl⟩

/-- **The file fields are bound to the right time stamp.**  `env.fileTime : path → Option FileTimes` is `stat(2)`
(`none` = it failed, otherwise the three `tv_sec` values of `st_atim`, `st_mtim`, `st_ctim`), `env.timeFormat` is
`time_format` (only the text shown by `-d`), `env.path` the path of the message (`message_get_path`; a part of a
message has the path of the message).  For every environment, message, state, comparison and age, and for
`field` = `access`, `modified` or `created`:

* a failing `stat` of the message's path is an ERROR for that message (not "no match");
* otherwise the instant compared is `Proofs.fieldTime sb field`: `sb.mtime` for `modified`, `sb.ctime` for `created`,
  `sb.atime` for `access` - no other entry of `sb`, no other path, not the `Date` header (the right-hand side does not
  mention the message `m`);
* `time_format` failing is an error; otherwise the condition matches iff `now - instant > age` (`>`) resp.
  `now - instant < age` (`<`), strictly (`Proofs.AgeHolds`), and the match is recorded through `expr_regexec`. -/
theorem C15_file_fields (env : Env) (root : Msg) (lno : Nat) (field : DateField) (cmp : DateCmp) (age : Nat)
    (part : Nat) (m : Msg) (st : St) (hf : field ≠ .header) :
    (Proofs.fieldTime ⟨1, 2, 3⟩ .access = 1 ∧ Proofs.fieldTime ⟨1, 2, 3⟩ .modified = 2 ∧ Proofs.fieldTime ⟨1, 2, 3⟩ .created = 3) ∧
    (∀ sb : FileTimes, Proofs.fieldTime sb .access = sb.atime ∧ Proofs.fieldTime sb .modified = sb.mtime ∧
      Proofs.fieldTime sb .created = sb.ctime) ∧
    eval env root (.date lno field cmp age) part m st =
      (match env.fileTime env.path with
       | none => (.error, st)
       | some sb =>
         match env.timeFormat (Proofs.fieldTime sb field) with
         | none => (.error, st)
         | some text =>
           if Proofs.AgeHolds cmp age env.now (Proofs.fieldTime sb field) then
             exprRegexec env .date lno part { src := [46, 42] } (ofString "Date") text st
           else (.nomatch, st)) :=
  ⟨⟨rfl, rfl, rfl⟩, fun _ => ⟨rfl, rfl, rfl⟩, Proofs.date_file_fields env root lno field cmp age part m st hf⟩

/-- A failing `stat` is an error for that message, whatever else the environment says. -/
theorem C15_file_stat_fails (env : Env) (root : Msg) (lno : Nat) (field : DateField) (cmp : DateCmp) (age : Nat)
    (part : Nat) (m : Msg) (st : St) (hf : field ≠ .header) (hs : env.fileTime env.path = none) :
    eval env root (.date lno field cmp age) part m st = (.error, st) := by
  rw [Proofs.date_file_fields env root lno field cmp age part m st hf, hs]

/-- The whole `date` case of the evaluator, for every field, comparison, age, `now` and state:
error if the instant cannot be had, no match without one, otherwise a match (recorded through
`expr_regexec` on the displayed text) iff `AgeHolds`, i.e. `now - tim > age` for `>` and
`now - tim < age` for `<`, strictly, over the integers (an instant in the future has a negative age). -/
theorem C15_fields (env : Env) (root : Msg) (lno : Nat) (field : DateField) (cmp : DateCmp) (age : Nat)
    (part : Nat) (m : Msg) (st : St) :
    eval env root (.date lno field cmp age) part m st =
      (match Proofs.dateInstant env m field with
       | none => (.error, st)
       | some none => (.nomatch, st)
       | some (some (tim, text)) =>
         if Proofs.AgeHolds cmp age env.now tim then
           exprRegexec env .date lno part { src := [46, 42] } (ofString "Date") text st
         else (.nomatch, st)) := by
  rw [Proofs.date_fields]
  rcases Proofs.dateInstant env m field with _ | _ | ⟨tim, text⟩ <;> rfl

/-- The comparison of the model is the strict one, in both directions, for all integers. -/
theorem C15_fields_strict (age now tim : Int) :
    (dateMatches .gt age now tim = true ↔ now - tim > age) ∧ (dateMatches .lt age now tim = true ↔ now - tim < age) :=
  ⟨Proofs.dateMatches_gt age now tim, Proofs.dateMatches_lt age now tim⟩

/-- **The property in one statement, for `date [header]`** (`C15_fields` + `C15_fields_source` + `C15_true_age`): if the
message's `Date` header is `s`, `strptime` reads `s` as the civil time `y-(mon+1)-d h:mi:sec` and what it leaves begins
(after blanks) with the numeric zone `±hhmm`, then the condition `date <cmp> age` evaluates to the result of
`expr_regexec(".*")` on the header - a match, for a regex library that matches `.*` - when
`now - (epoch(civil time) - zone offset)` is greater (resp. less) than `age`, strictly, and to "no match" otherwise.
No local time zone, no daylight-saving rule and nothing else of the environment enters. -/
theorem C15_header_true_age (env : Env) (root : Msg) (lno : Nat) (cmp : DateCmp) (age : Nat) (part : Nat) (m : Msg) (st : St)
    (s rest : Bytes) (y mon d h mi sec : Nat) (plus : Bool) (hh mm : Nat) (tail : Bytes)
    (hy : 1 ≤ y) (hm : mon ≤ 11) (hd : 1 ≤ d) (h1 : hh ≤ 23) (h2 : mm ≤ 59)
    (hdate : getHeader1 m (ofString "Date") = some s)
    (hs : env.strptime s = some ({ year := y, mon := mon, mday := d, hour := h, min := mi, sec := sec }, rest))
    (hz : rest.drop (nspaces rest) = (if plus then 43 else 45) :: (Proofs.twoDigits hh ++ Proofs.twoDigits mm ++ tail))
    (hne : Spec.epoch y (mon + 1) d h mi sec ≠ -1) :
    eval env root (.date lno .header cmp age) part m st =
      (if Proofs.AgeHolds cmp age env.now
          (Spec.epoch y (mon + 1) d h mi sec - Spec.zoneOffset (if plus then 1 else -1) hh mm) then
        exprRegexec env .date lno part { src := [46, 42] } (ofString "Date") s st
      else (.nomatch, st)) := by
  rw [C15_fields]
  have ht := (C15_true_age env.strptime env.zoneName s rest y mon d h mi sec plus hh mm tail hy hm hd h1 h2 hs hz hne).1
  simp only [Proofs.dateInstant, hdate, ht]

/-- An environment whose clock stands at 2026-01-15 12:00:00 UTC and whose `strptime` reads that civil time. -/
def exHeaderDateEnv : Env :=
  { Proofs.exDateEnv with
    now := 1768478400
    strptime := fun _ => some ({ year := 2026, mon := 0, mday := 15, hour := 12, min := 0, sec := 0 }, ofString " +0130") }

/-- Non-vacuity of `C15_header_true_age`, every hypothesis instantiated: a message dated 12:00 +0130 (= 10:30 UTC) seen at
12:00 UTC is 5400 s old: `> 5399` matches, `> 5400` does not (strict), `< 5401` matches. -/
example :
    let m := parseMessage (ofString "Date: Thu, 15 Jan 2026 12:00:00 +0130\n\nb\n")
    let st : St := { ml := [], flags := MFlags.empty }
    getHeader1 m (ofString "Date") = some (ofString "Thu, 15 Jan 2026 12:00:00 +0130") ∧
    (eval exHeaderDateEnv m (.date 1 .header .gt 5399) 0 m st).1 = .match ∧
    (eval exHeaderDateEnv m (.date 1 .header .gt 5400) 0 m st).1 = .nomatch ∧
    (eval exHeaderDateEnv m (.date 1 .header .lt 5401) 0 m st).1 = .match := by
  intro m st
  have hd : getHeader1 m (ofString "Date") = some (ofString "Thu, 15 Jan 2026 12:00:00 +0130") := by decide_lit
  have key := fun cmp age => C15_header_true_age exHeaderDateEnv m 1 cmp age 0 m st (ofString "Thu, 15 Jan 2026 12:00:00 +0130")
    (ofString " +0130") 2026 0 15 12 0 0 true 1 30 [] (by decide) (by decide) (by decide) (by decide) (by decide) hd rfl
    (by decide +kernel) (by decide +kernel)
  have e1 : Spec.epoch 2026 (0 + 1) 15 12 0 0 = 1768478400 := by decide +kernel
  have e2 : Spec.zoneOffset (if true = true then 1 else -1) 1 30 = 5400 := by decide +kernel
  refine ⟨hd, ?_, ?_, ?_⟩
  · rw [key, e1, e2]; decide_lit
  · rw [key, e1, e2]; decide_lit
  · rw [key, e1, e2]; decide_lit

/-! ## From the header TEXT on: RFC 5322 section 3.3 through the model of `strptime` (C locale)

`Spec.renderDate dt l` is the text of the date-time `dt` with the choices `l` the grammar leaves open, `Spec.WellFormed dt l`
the grammar and its semantic rules, `Spec.instant dt` the instant the RFC defines (Spec/Rfc5322Date.lean, independent of
the model).  `Model.timeparseC` is `timeparse` of time.c with the executable model of `strptime` and the layouts of the
regenerated table (tied to the platform's `strptime` and to `time_parse` by the `strp`, `timeparse`, `tparsec` and `rfcdate`
stages of the check). -/

/-- What the code needs beyond the grammar: a day of week or seconds (the three layouts are `dow + sec`, `dow`, `sec`), a
year of four digits (`%Y` reads at most four), a zone hour up to 23 (`tzoff`), no white space in front of a day name (`%a`
skips none; the message parser removes the white space that follows `Date:`), and a civil time other than 1969-12-31
23:59:59 (`time_parse` takes the value -1 of `timegm` for an error).  Each is needed: the examples below. -/
def Covered (dt : Spec.DateTime) (l : Spec.DateLayout) : Prop :=
  (dt.dayOfWeek.isSome || dt.second.isSome) = true ∧ dt.year ≤ 9999 ∧ dt.zoneHour ≤ 23 ∧
  (dt.dayOfWeek.isSome = true → l.fwsDow = []) ∧ Spec.civilSeconds dt ≠ -1

instance (dt : Spec.DateTime) (l : Spec.DateLayout) : Decidable (Covered dt l) := by unfold Covered; exact inferInstance

/-- **The table of layouts and what it covers.**  (1) Every directive of every layout of `formats[]` (time.c, regenerated
into `Gen.dateFormats`) is known to the interpreter, and the three layouts are `%a, ` + C + `:%S`, `%a, ` + C, C + `:%S` with
C = `%d %b %Y %H:%M` - a changed, added, removed or reordered layout falsifies this.  (2) For every date-time text of the
grammar with a four-digit year (`Proofs.Strp.TextOK`: the grammar's white space, day 1..31, month 1..12, hour ≤ 23, minute ≤ 59,
second ≤ 61, a day name without white space in front): `timeparse` succeeds IFF the text has a day of week or seconds, and
then yields exactly the fields as the broken-down time (the day NAME is not looked at: no field depends on it) and leaves
the zone. -/
theorem C15_layouts :
    (Gen.dateFormats.map fun f => parseFmt (ofString f)) =
      [some (Proofs.Strp.dowPrefix ++ (Proofs.Strp.coreDirs ++ Proofs.Strp.secSuffix)),
       some (Proofs.Strp.dowPrefix ++ Proofs.Strp.coreDirs),
       some (Proofs.Strp.coreDirs ++ Proofs.Strp.secSuffix)] ∧
    ∀ (dt : Spec.DateTime) (l : Spec.DateLayout), Proofs.Strp.TextOK dt l →
      timeparseC (Spec.renderDate dt l) =
        (if dt.dayOfWeek.isSome || dt.second.isSome then some (Proofs.Strp.tmOf dt, Proofs.Strp.zoneText dt l) else none) :=
  ⟨Proofs.Strp.layouts_parse, Proofs.Strp.timeparseC_render⟩

/-- **"Interpreted per RFC 5322", from the header text on.**  For every date-time the grammar of RFC 5322 3.3 generates
(`Spec.WellFormed`: `[ day-name "," ] day month year hour ":" minute [ ":" second ] zone [CFWS]`, names in any letter case, one
or two digits for the day, any FWS, year 1900 or later, day within the month, 00:00:00..23:59:60, zone `±hhmm` with
`mm ≤ 59`, a written day of week being the right one) that lies inside `Covered`, and for EVERY zone-name oracle:
`time_parse` over the model of `strptime` yields exactly the instant the RFC defines - the civil time read as UTC by day
counting, minus the zone offset.  No local time zone and no daylight-saving rule enters. -/
theorem C15_rfc5322_end_to_end (dt : Spec.DateTime) (l : Spec.DateLayout) (zn : Bytes → Option Int)
    (hwf : Spec.WellFormed dt l) (hcov : Covered dt l) :
    timeParse timeparseC zn (Spec.renderDate dt l) = some (Spec.instant dt) := by
  obtain ⟨c1, c2, c3, c4, c5⟩ := hcov
  have hy : 1 ≤ dt.year := Nat.le_trans (by decide) hwf.2.1
  exact Proofs.Strp.timeParse_render dt l zn (Proofs.Strp.textOK_of_wellFormed dt l hwf c2 c4) c1 hy c3 hwf.2.2.2.2.2.2.2.2.2.1 c5

/-- Non-vacuity of `C15_rfc5322_end_to_end`, every hypothesis instantiated on concrete texts, the result evaluated:
`Thu, 15 Jan 2026 12:00:00 +0130`; `mON,5 jAN  2026\t12:00 -0330 (Newfoundland (winter))` (no seconds, one-digit day, odd case
and white space, a nested comment); `29 Feb 2024 23:59:60 +0000` (no day of week, leap second). -/
example :
    let dt : Spec.DateTime := { dayOfWeek := some 3, day := 15, month := 1, year := 2026, hour := 12, minute := 0, second := some 0,
                                zonePlus := true, zoneHour := 1, zoneMinute := 30 }
    Spec.renderDate dt {} = ofString "Thu, 15 Jan 2026 12:00:00 +0130" ∧ Spec.WellFormed dt {} ∧ Covered dt {} ∧
    Spec.instant dt = 1768478400 - 5400 ∧
    timeParse timeparseC (fun _ => none) (ofString "Thu, 15 Jan 2026 12:00:00 +0130") = some (1768478400 - 5400) := by
  intro dt
  have h : Spec.renderDate dt {} = ofString "Thu, 15 Jan 2026 12:00:00 +0130" ∧ Spec.WellFormed dt {} ∧ Covered dt {} ∧
      Spec.instant dt = 1768478400 - 5400 := by decide_lit
  refine ⟨h.1, h.2.1, h.2.2.1, h.2.2.2, ?_⟩
  rw [← h.1, C15_rfc5322_end_to_end dt {} _ h.2.1 h.2.2.1, h.2.2.2]

example :
    let dt : Spec.DateTime := { dayOfWeek := some 0, day := 5, month := 1, year := 2026, hour := 12, minute := 0, second := none,
                                zonePlus := false, zoneHour := 3, zoneMinute := 30 }
    let l : Spec.DateLayout := { dowCase := [true, true, true], fwsDay := [], dayOneDigit := true, monCase := [true, true, true],
                                 fwsYear := [32, 32], fwsTime := [9], trailer := ofString " (Newfoundland (winter))" }
    Spec.renderDate dt l = ofString "mON,5 jAN  2026\t12:00 -0330 (Newfoundland (winter))" ∧ Spec.WellFormed dt l ∧ Covered dt l ∧
    timeParse timeparseC (fun _ => none) (Spec.renderDate dt l) = some (Spec.instant dt) ∧ Spec.instant dt = 1767614400 + 12600 := by
  decide_lit

example :
    let dt : Spec.DateTime := { dayOfWeek := none, day := 29, month := 2, year := 2024, hour := 23, minute := 59, second := some 60,
                                zonePlus := true, zoneHour := 0, zoneMinute := 0 }
    let l : Spec.DateLayout := { fwsDay := [] }
    Spec.renderDate dt l = ofString "29 Feb 2024 23:59:60 +0000" ∧ Spec.WellFormed dt l ∧ Covered dt l ∧
    timeParse timeparseC (fun _ => none) (Spec.renderDate dt l) = some (Spec.instant dt) ∧ Spec.instant dt = 1709251200 := by
  decide_lit

/-- **The alternative of the grammar no layout covers.**  EVERY well-formed date-time with a four-digit year that has
neither a day of week nor seconds - `day month year hour ":" minute zone`, valid by RFC 5322 3.3 - is an ERROR of `time_parse`
(`expr_eval_date` then fails for the message: mdsort prints `strptime: ...: Invalid argument`, leaves the message where it
is and exits 1), for every zone-name oracle.  `formats[]` has `%d %b %Y %H:%M:%S` but not `%d %b %Y %H:%M`. -/
theorem C15_rfc5322_uncovered (dt : Spec.DateTime) (l : Spec.DateLayout) (zn : Bytes → Option Int)
    (hwf : Spec.WellFormed dt l) (hy : dt.year ≤ 9999) (hd : dt.dayOfWeek = none) (hs : dt.second = none) :
    timeParse timeparseC zn (Spec.renderDate dt l) = none :=
  Proofs.Strp.timeParse_render_uncovered dt l zn
    (Proofs.Strp.textOK_of_wellFormed dt l hwf hy (by rw [hd]; intro h; exact absurd h (by decide))) hd hs

/-- The statement WITHOUT `Covered`: every date-time the grammar of RFC 5322 3.3 generates is parsed to its instant.  The code does
not satisfy it (`C15_rfc5322_not_all`); `C15_rfc5322_end_to_end` is this statement restricted to `Covered`. -/
def Rfc5322AllDateTimes : Prop :=
  ∀ (dt : Spec.DateTime) (l : Spec.DateLayout) (zn : Bytes → Option Int), Spec.WellFormed dt l →
    timeParse timeparseC zn (Spec.renderDate dt l) = some (Spec.instant dt)

/-- `15 Jan 2026 12:00 +0000` refutes it. -/
theorem C15_rfc5322_not_all : ¬ Rfc5322AllDateTimes := by
  intro h
  have hwf : Spec.WellFormed ⟨none, 15, 1, 2026, 12, 0, none, true, 0, 0⟩ { fwsDay := [] } := by decide +kernel
  have h1 := h _ _ (fun _ => none) hwf
  rw [C15_rfc5322_uncovered _ _ _ hwf (by decide) rfl rfl] at h1
  exact absurd h1 (by simp)

/-- Non-vacuity of `C15_rfc5322_uncovered`, and the witnesses that each clause of `Covered` is needed (all well-formed by the RFC):
* `15 Jan 2026 12:00 +0000`: neither day of week nor seconds - error;
* `Sat, 15 Jan 10000 12:00:00 +0000`: a five-digit year - error;
* `Thu, 15 Jan 2026 12:00:00 +2400`: zone hour above 23 - `tzoff` fails and the text `+2400` goes to the zone-NAME oracle
  (`setenv TZ=+2400; tzset; localtime`): an error if that fails, offset 0 on glibc (not the 86400 s the text says);
* ` Thu, 15 Jan 2026 12:00:00 +0000`: white space in front of the day name - error (the message parser never delivers this);
* `Wed, 31 Dec 1969 23:59:59 +0100`: civil time -1 - error. -/
example :
    let dt : Spec.DateTime := { dayOfWeek := none, day := 15, month := 1, year := 2026, hour := 12, minute := 0, second := none,
                                zonePlus := true, zoneHour := 0, zoneMinute := 0 }
    let l : Spec.DateLayout := { fwsDay := [] }
    Spec.renderDate dt l = ofString "15 Jan 2026 12:00 +0000" ∧ Spec.WellFormed dt l ∧ ¬ Covered dt l ∧
    timeParse timeparseC (fun _ => some 0) (Spec.renderDate dt l) = none := by
  decide_lit

example :
    let dt : Spec.DateTime := { dayOfWeek := some 5, day := 15, month := 1, year := 10000, hour := 12, minute := 0, second := some 0,
                                zonePlus := true, zoneHour := 0, zoneMinute := 0 }
    Spec.renderDate dt {} = ofString "Sat, 15 Jan 10000 12:00:00 +0000" ∧ Spec.WellFormed dt {} ∧ ¬ Covered dt {} ∧
    timeParse timeparseC (fun _ => some 0) (Spec.renderDate dt {}) = none := by
  decide_lit

example :
    let dt : Spec.DateTime := { dayOfWeek := some 3, day := 15, month := 1, year := 2026, hour := 12, minute := 0, second := some 0,
                                zonePlus := true, zoneHour := 24, zoneMinute := 0 }
    Spec.renderDate dt {} = ofString "Thu, 15 Jan 2026 12:00:00 +2400" ∧ Spec.WellFormed dt {} ∧ ¬ Covered dt {} ∧
    timeParse timeparseC (fun _ => none) (Spec.renderDate dt {}) = none ∧
    timeParse timeparseC (fun _ => some 0) (Spec.renderDate dt {}) = some (Spec.instant dt + 86400) := by
  decide_lit

example :
    let dt : Spec.DateTime := { dayOfWeek := some 3, day := 15, month := 1, year := 2026, hour := 12, minute := 0, second := some 0,
                                zonePlus := true, zoneHour := 0, zoneMinute := 0 }
    let l : Spec.DateLayout := { fwsDow := [32] }
    Spec.renderDate dt l = ofString " Thu, 15 Jan 2026 12:00:00 +0000" ∧ Spec.WellFormed dt l ∧ ¬ Covered dt l ∧
    timeParse timeparseC (fun _ => some 0) (Spec.renderDate dt l) = none := by
  decide_lit

example :
    let dt : Spec.DateTime := { dayOfWeek := some 2, day := 31, month := 12, year := 1969, hour := 23, minute := 59, second := some 59,
                                zonePlus := true, zoneHour := 1, zoneMinute := 0 }
    Spec.renderDate dt {} = ofString "Wed, 31 Dec 1969 23:59:59 +0100" ∧ Spec.WellFormed dt {} ∧ ¬ Covered dt {} ∧
    timeParse timeparseC (fun _ => some 0) (Spec.renderDate dt {}) = none := by
  decide_lit

/-- **Beyond the grammar: what the code does not look at.**  The same equation for every text of the shape of the grammar
whose fields pass the range checks of `strptime` (`Proofs.Strp.TextOK`), whether or not the RFC's semantic rules hold: the day
NAME may be any of the seven (`Mon, 15 Jan 2026` on a Thursday), the day may be 29..31 in any month (`31 Feb` is the 3rd of
March, as `timegm` normalises it), the second may be 61, the year 1..1899, and ANYTHING may follow the zone (`l.trailer` is
arbitrary here: `tzoff` reads five characters). -/
theorem C15_date_text_lenient (dt : Spec.DateTime) (l : Spec.DateLayout) (zn : Bytes → Option Int)
    (hok : Proofs.Strp.TextOK dt l) (hcov : (dt.dayOfWeek.isSome || dt.second.isSome) = true) (hy : 1 ≤ dt.year)
    (h1 : dt.zoneHour ≤ 23) (h2 : dt.zoneMinute ≤ 59) (hne : Spec.civilSeconds dt ≠ -1) :
    timeParse timeparseC zn (Spec.renderDate dt l) = some (Spec.instant dt) :=
  Proofs.Strp.timeParse_render dt l zn hok hcov hy h1 h2 hne

/-- Non-vacuity of `C15_date_text_lenient` outside `Spec.WellFormed`: `Mon, 31 Feb 2026 12:00:61 +0000garbage` (wrong day name,
no such day, second 61, text glued to the zone) is read as 2026-03-03 12:01:01 UTC. -/
example :
    let dt : Spec.DateTime := { dayOfWeek := some 0, day := 31, month := 2, year := 2026, hour := 12, minute := 0, second := some 61,
                                zonePlus := true, zoneHour := 0, zoneMinute := 0 }
    let l : Spec.DateLayout := { trailer := ofString "garbage" }
    Spec.renderDate dt l = ofString "Mon, 31 Feb 2026 12:00:61 +0000garbage" ∧ ¬ Spec.WellFormed dt l ∧
    timeParse timeparseC (fun _ => none) (Spec.renderDate dt l) = some (Spec.instant dt) ∧
    Spec.instant dt = Spec.epoch 2026 3 3 12 1 1 := by
  intro dt l
  have h1 : Spec.renderDate dt l = ofString "Mon, 31 Feb 2026 12:00:61 +0000garbage" := by decide_lit
  have h2 : ¬ Spec.WellFormed dt l := by decide +kernel
  have h4 : Spec.instant dt = Spec.epoch 2026 3 3 12 1 1 := by decide +kernel
  have hok : Proofs.Strp.TextOK dt l :=
    { wDay := rfl, wMonth := rfl, wYear := rfl, wTime := rfl, day1 := by decide, day31 := by decide, mon1 := by decide,
      mon12 := by decide, year := by decide, hour := by decide, minute := by decide, wZone := rfl,
      sec := by intro s hs; cases hs; decide, dow := by intro i hi; cases hi; exact ⟨by decide, rfl⟩ }
  exact ⟨h1, h2, C15_date_text_lenient dt l _ hok rfl (by decide) (by decide) (by decide) (by decide +kernel), h4⟩

/-- **The property in one statement, from the header text on** (`C15_fields` + `C15_rfc5322_end_to_end`): in an environment
whose `strptime` is the C-locale model over the layouts of time.c, if the message's `Date` header is the text of a
well-formed RFC 5322 date-time inside `Covered`, the condition `date <cmp> age` evaluates to the result of
`expr_regexec(".*")` on the header when `now - instant(dt)` is greater (resp. less) than `age`, strictly, and to "no match"
otherwise - whatever the zone-name oracle, the local zone and everything else of the environment. -/
theorem C15_rfc5322_header_true_age (env : Env) (root : Msg) (lno : Nat) (cmp : DateCmp) (age : Nat) (part : Nat) (m : Msg) (st : St)
    (dt : Spec.DateTime) (l : Spec.DateLayout)
    (hstrp : env.strptime = timeparseC) (hwf : Spec.WellFormed dt l) (hcov : Covered dt l)
    (hdate : getHeader1 m (ofString "Date") = some (Spec.renderDate dt l)) :
    eval env root (.date lno .header cmp age) part m st =
      (if Proofs.AgeHolds cmp age env.now (Spec.instant dt) then
        exprRegexec env .date lno part { src := [46, 42] } (ofString "Date") (Spec.renderDate dt l) st
      else (.nomatch, st)) := by
  rw [C15_fields]
  simp only [Proofs.dateInstant, hdate, hstrp, C15_rfc5322_end_to_end dt l env.zoneName hwf hcov]

/-- The alternative of the grammar no layout covers (`C15_rfc5322_uncovered`), at the level of the evaluator: an error
for the message. -/
theorem C15_rfc5322_header_uncovered (env : Env) (root : Msg) (lno : Nat) (cmp : DateCmp) (age : Nat) (part : Nat) (m : Msg) (st : St)
    (dt : Spec.DateTime) (l : Spec.DateLayout)
    (hstrp : env.strptime = timeparseC) (hwf : Spec.WellFormed dt l) (hy : dt.year ≤ 9999)
    (hd : dt.dayOfWeek = none) (hs : dt.second = none)
    (hdate : getHeader1 m (ofString "Date") = some (Spec.renderDate dt l)) :
    eval env root (.date lno .header cmp age) part m st = (.error, st) := by
  rw [C15_fields]
  simp only [Proofs.dateInstant, hdate, hstrp, C15_rfc5322_uncovered dt l env.zoneName hwf hy hd hs]

/-- An environment whose clock stands at 2026-01-15 12:00:00 UTC, whose `strptime` is the model and which knows no zone name. -/
def exRfcDateEnv : Env := { Proofs.exDateEnv with now := 1768478400, strptime := timeparseC }

/-- Non-vacuity of `C15_rfc5322_header_true_age` / `_uncovered` on parsed messages, every hypothesis instantiated: the message
`Date: thu, 15 jan 2026 12:00 +0130 (CET)` (= 10:30 UTC) seen at 12:00 UTC is 5400 s old: `> 5399` matches, `> 5400` does not,
`< 5401` matches; `Date: 15 Jan 2026 12:00 +0130` is an error. -/
example :
    let m := parseMessage (ofString "Date: thu, 15 jan 2026 12:00 +0130 (CET)\n\nb\n")
    let st : St := { ml := [], flags := MFlags.empty }
    let dt : Spec.DateTime := { dayOfWeek := some 3, day := 15, month := 1, year := 2026, hour := 12, minute := 0, second := none,
                                zonePlus := true, zoneHour := 1, zoneMinute := 30 }
    let l : Spec.DateLayout := { dowCase := [true], monCase := [true], trailer := ofString " (CET)" }
    getHeader1 m (ofString "Date") = some (Spec.renderDate dt l) ∧ Spec.WellFormed dt l ∧ Covered dt l ∧
    (eval exRfcDateEnv m (.date 1 .header .gt 5399) 0 m st).1 = .match ∧
    (eval exRfcDateEnv m (.date 1 .header .gt 5400) 0 m st).1 = .nomatch ∧
    (eval exRfcDateEnv m (.date 1 .header .lt 5401) 0 m st).1 = .match := by
  intro m st dt l
  obtain ⟨hd, hwf, hcov, e1⟩ : getHeader1 m (ofString "Date") = some (Spec.renderDate dt l) ∧ Spec.WellFormed dt l ∧
      Covered dt l ∧ Spec.instant dt = 1768478400 - 5400 := by decide +kernel
  have key := fun cmp age => C15_rfc5322_header_true_age exRfcDateEnv m 1 cmp age 0 m st dt l rfl hwf hcov hd
  refine ⟨hd, hwf, hcov, ?_, ?_, ?_⟩
  · rw [key, e1]; decide +kernel
  · rw [key, e1]; decide +kernel
  · rw [key, e1]; decide +kernel

example :
    let m := parseMessage (ofString "Date: 15 Jan 2026 12:00 +0130\n\nb\n")
    let st : St := { ml := [], flags := MFlags.empty }
    let dt : Spec.DateTime := { dayOfWeek := none, day := 15, month := 1, year := 2026, hour := 12, minute := 0, second := none,
                                zonePlus := true, zoneHour := 1, zoneMinute := 30 }
    let l : Spec.DateLayout := { fwsDay := [] }
    getHeader1 m (ofString "Date") = some (Spec.renderDate dt l) ∧ Spec.WellFormed dt l ∧
    (eval exRfcDateEnv m (.date 1 .header .gt 1) 0 m st).1 = .error := by
  intro m st dt l
  have hd : getHeader1 m (ofString "Date") = some (Spec.renderDate dt l) := by decide +kernel
  have hwf : Spec.WellFormed dt l := by decide +kernel
  refine ⟨hd, hwf, ?_⟩
  rw [C15_rfc5322_header_uncovered exRfcDateEnv m 1 .gt 1 0 m st dt l rfl hwf (by decide) rfl rfl hd]

/-! Non-vacuity: a file with `st_atim = 300`, `st_mtim = 100`, `st_ctim = 200` at `now = 1000`
(`Proofs.exDateEnv`): the three fields give three different answers to `> 850 seconds`, `>` and `<`
are strict at the boundary, and an instant in the future is younger than any age. -/
example : (eval Proofs.exDateEnv { headers := [], body := [] } (.date 1 .modified .gt 850) 0 { headers := [], body := [] }
    { ml := [], flags := MFlags.empty }).1 = .match := by simp only [eval]; decide +kernel
example : (eval Proofs.exDateEnv { headers := [], body := [] } (.date 1 .created .gt 850) 0 { headers := [], body := [] }
    { ml := [], flags := MFlags.empty }).1 = .nomatch := by simp only [eval]; decide +kernel
example : (eval Proofs.exDateEnv { headers := [], body := [] } (.date 1 .access .gt 700) 0 { headers := [], body := [] }
    { ml := [], flags := MFlags.empty }).1 = .nomatch := by simp only [eval]; decide +kernel
example : (eval Proofs.exDateEnv { headers := [], body := [] } (.date 1 .access .lt 700) 0 { headers := [], body := [] }
    { ml := [], flags := MFlags.empty }).1 = .nomatch := by simp only [eval]; decide +kernel
example : (eval Proofs.exDateEnv { headers := [], body := [] } (.date 1 .access .lt 701) 0 { headers := [], body := [] }
    { ml := [], flags := MFlags.empty }).1 = .match := by simp only [eval]; decide +kernel
example : Proofs.AgeHolds .lt 0 1000 2000 := by decide

/-- Non-vacuity of `C15_file_fields` / `C15_file_stat_fails`: `Proofs.exDateEnv` answers `stat` for its own path
`/m/new/1` (three different time stamps) and for no other path: with another path the same conditions are errors. -/
example : Proofs.exDateEnv.fileTime Proofs.exDateEnv.path = some ⟨300, 100, 200⟩ ∧ DateField.modified ≠ DateField.header ∧
    ({ Proofs.exDateEnv with path := [47, 120] } : Env).fileTime [47, 120] = none := by decide
example : (eval { Proofs.exDateEnv with path := [47, 120] } { headers := [], body := [] } (.date 1 .modified .gt 850) 0
    { headers := [], body := [] } { ml := [], flags := MFlags.empty }).1 = .error := by simp only [eval]; decide +kernel

end Mdsort.Props
