import Mdsort.Proofs.Mime
import Mdsort.Proofs.MimeBoundaryRFC
import Mdsort.Proofs.AttachmentCond
import Mdsort.Proofs.ExecStdin
import Mdsort.Proofs.ExecSeqEx
import Mdsort.Proofs.Literal

/-!
# C11 - body and attachment conditions operate on the decoded MIME content

`Model.*` transcribes `parseboundary`, `findboundary`, `parseattachments`,
`message_get_attachments`, `message_decode_body`, `message_get_body`;
`Spec.parts` / `Spec.decodedBody` (Spec/Mime.lean) read the same entity line by
line per the RFC 2046 subset mdsort documents.  Both are instantiated with the
same entity reader (`Model.entity`: header lookup and entity parsing, whose own
correctness is C08/C10).  How `attachment` conditions and blocks quantify over
the parts, and that errors never count as a match, is `C11_attachment_cond` /
`C11_attachment_block` below (against Spec/Attachment.lean); what an exec action
receives on its standard input is `C11_exec_stdin` (against Spec/ExecStdin.lean).

What is independent in `Spec/Mime.lean` (/repo 098cbec).  Independently written: the cutting of a
body into parts (`Spec.cutParts` compares whole LINES, `Model.findBoundary` scans bytes), the pre-order listing and the
depth limit, the choice among alternatives (`find?` twice against the one-pass `pickAlternative`), the transfer decoders
(`Spec.b64`, `Spec.qp`: C16), and - since 098cbec made message.c case-insensitive - the recognition of the media type
(`Spec.isType`: the text before the first `;` is the RFC 2045 token pair, compared without regard to case, against the
model's `strncasecmp` prefix test followed by "`;` or end") and of the transfer encoding (`Spec.decoded`: token
comparison against `strcasecmp`).  The boundary PARAMETER is read in two ways: `Spec.boundaryParam` (used by
`Spec.parts`) follows `parseboundary` on purpose - first parameter, quoted - and `Spec.boundaryParamRFC` is the RFC 2045
parameter scanner (any position, token or quoted-string).  `C11_boundary_param_partial` proves the model equal to the RFC
reading on the former form; `C11_boundary_param_token_witness` / `_not_first_witness` evaluate the difference, which is
the listed finding F30 (`attachment` conditions silently do not match such messages).

Hypothesis `Proofs.BoundaryOk` (an executable `Bool`, Proofs/Mime.lean): no multipart entity
reached by the traversal announces a boundary containing a newline.  RFC 2046 boundaries never
do; without it the statements are false (`C11_parts_unrestricted_false`,
`C11_body_unrestricted_false`).
-/

namespace Mdsort.Props
open Mdsort Mdsort.Model

/-- The parts `message_get_attachments` delivers are, for every entity, exactly the parts
of the MIME tree in pre-order; an invalid boundary parameter, a missing terminator or
nesting beyond the limit is an error (`none`), never a shorter list.
Hypothesis `BoundaryOk`: every multipart entity of the tree has a newline-free boundary
(mdsort RFC 2047-decodes the Content-Type value, so `=?x?Q?a=0A?=` can smuggle a newline into
the boundary; `findboundary` then matches a "delimiter" spanning two lines, which no
line-based reading of RFC 2046 can). -/
theorem C11_parts (m : Msg) (h : Proofs.BoundaryOk (Gen.mimeDepthLimit + 1) m = true) :
    getAttachments m = Spec.parts entity (Gen.mimeDepthLimit + 1) m :=
  Proofs.parseAttachments_eq_spec_partial (Gen.mimeDepthLimit + 1) m h

/-- The body a `body` condition (and `exec stdin body`) sees: decoded by the entity's own
Content-Transfer-Encoding; for multipart/alternative the first text/plain part, else the
first text/html part, else the raw body; undecodable base64 is an error.
Hypothesis `BoundaryOk` as for `C11_parts` (it only matters for multipart/alternative, whose
parts are enumerated). -/
theorem C11_body (m : Msg) (h : Proofs.BoundaryOk (Gen.mimeDepthLimit + 1) m = true) :
    getBody m = Spec.decodedBody entity Gen.mimeDepthLimit m :=
  Proofs.getBody_eq_spec_partial m h

/-- The supported nesting depth (regenerated from message.c). -/
theorem C11_depth_limit : Gen.mimeDepthLimit = 4 := by decide

/-! ## Media type, transfer encoding, boundary parameter (RFC 2045) -/

/-- Letter case does not matter (098cbec): type, subtype, the keyword `boundary`, the encoding name. -/
example :
    Spec.boundaryParam (ofString "multipart/mixed; boundary=\"b\"") = .some (ofString "b") ∧
    Spec.boundaryParam (ofString "Multipart/Mixed; BOUNDARY=\"b\"") = .some (ofString "b") ∧
    Spec.boundaryParamRFC (ofString "Multipart/Mixed; BOUNDARY=\"b\"") = .some (ofString "b") ∧
    Spec.isType (some (ofString "Text/PLAIN; charset=x")) (ofString "text/plain") = true ∧
    Spec.isType (some (ofString "text/plainer")) (ofString "text/plain") = false ∧
    (getAttachments (parseHeaders (ofString "Content-Type: MULTIPART/Mixed; Boundary=\"b\"\n\n--b\n\nhello\n--b--\n"))).map List.length = some 1 ∧
    getBody (parseHeaders (ofString "Content-Transfer-Encoding: BASE64\n\naGVsbG8=\n")) = some (ofString "hello") ∧
    Spec.decodedBody entity Gen.mimeDepthLimit
      (parseHeaders (ofString "Content-Transfer-Encoding: Base64\n\naGVsbG8=\n")) = some (ofString "hello") ∧
    getBody (parseHeaders (ofString "Content-Transfer-Encoding: Quoted-Printable\n\na=3Db\n")) = some (ofString "a=b\n") := by
  decide_lit

/-- `parseboundary` against RFC 2045, partial.  For every Content-Type value of the form `Proofs.FirstQuoted ct b` -
`multipart` (any case) `/` subtype, blanks, `;`, blanks, `boundary` (any case) `="`, the text `b` without a `"`, `"`,
anything - the model's `parseBoundary` and the RFC parameter scanner `Spec.boundaryParamRFC` agree, and give `b`
(invalid if `b` is empty).  Outside that form they differ: the two witnesses below (finding F30). -/
theorem C11_boundary_param_partial (ct b : Bytes) (h : Proofs.FirstQuoted ct b) :
    Proofs.boundaryToSpec (parseBoundary ct) = Spec.boundaryParamRFC ct ∧
    Spec.boundaryParamRFC ct = if b.isEmpty then .bad else .some b := by
  rw [← Proofs.boundaryParam_eq, Proofs.mdsort_of_firstQuoted ct b h, Proofs.rfc_of_firstQuoted ct b h]
  exact ⟨rfl, rfl⟩

/-- Non-vacuity: `Multipart/Signed ;  BOUNDARY="b1"; protocol="application/pgp-signature"`. -/
example : Proofs.FirstQuoted (ofString "Multipart/Signed ;  BOUNDARY=\"b1\"; protocol=\"application/pgp-signature\"")
    (ofString "b1") :=
  ⟨ofString "Multipart", ofString "Signed", ofString " ", ofString "  ", ofString "BOUNDARY",
   ofString "; protocol=\"application/pgp-signature\"", by decide_lit⟩

/-- F30, token form: `multipart/mixed; boundary=b1` - RFC 2045: boundary `b1`; `parseboundary`: not multipart.  On the
whole message the RFC reading sees one part, the model (as message.c) none and no error. -/
theorem C11_boundary_param_token_witness :
    Spec.boundaryParamRFC (ofString "multipart/mixed; boundary=b1") = .some (ofString "b1") ∧
    parseBoundary (ofString "multipart/mixed; boundary=b1") = .notMultipart ∧
    (Spec.partsRFC entity (Gen.mimeDepthLimit + 1)
      (parseHeaders (ofString "Content-Type: multipart/mixed; boundary=b1\n\n--b1\n\nhello\n--b1--\n"))).map List.length = some 1 ∧
    getAttachments (parseHeaders (ofString "Content-Type: multipart/mixed; boundary=b1\n\n--b1\n\nhello\n--b1--\n")) = some [] := by
  decide_lit

/-- F30, another parameter first: `multipart/signed; protocol="application/pgp-signature"; boundary="b1"`. -/
theorem C11_boundary_param_not_first_witness :
    Spec.boundaryParamRFC (ofString "multipart/signed; protocol=\"application/pgp-signature\"; boundary=\"b1\"") =
      .some (ofString "b1") ∧
    parseBoundary (ofString "multipart/signed; protocol=\"application/pgp-signature\"; boundary=\"b1\"") = .notMultipart ∧
    (Spec.partsRFC entity (Gen.mimeDepthLimit + 1)
      (parseHeaders (ofString "Content-Type: multipart/signed; protocol=\"application/pgp-signature\"; boundary=\"b1\"\n\n--b1\n\nhello\n--b1--\n"))).map
        List.length = some 1 ∧
    getAttachments (parseHeaders (ofString "Content-Type: multipart/signed; protocol=\"application/pgp-signature\"; boundary=\"b1\"\n\n--b1\n\nhello\n--b1--\n")) = some [] := by
  decide_lit

/-! ## The statements without the hypothesis, and why they fail -/

/-- `C11_parts` for every message: false. -/
def C11_parts_unrestricted : Prop :=
  ∀ m : Msg, getAttachments m = Spec.parts entity (Gen.mimeDepthLimit + 1) m

/-- `C11_body` for every message: false. -/
def C11_body_unrestricted : Prop :=
  ∀ m : Msg, getBody m = Spec.decodedBody entity Gen.mimeDepthLimit m

/-- Counterexample `Proofs.cexParts`: `Content-Type: multipart/;boundary="=?x?Q?a=0A?="` with
body `--a\n\n--a\n--\n`.  The decoded boundary is `a\n`; the model finds the separator
`--a\n` + `\n` and the terminator `--a\n` + `--\n` and delivers one empty part, the
specification sees no line equal to `--a\n` and reports the missing terminator. -/
theorem C11_parts_unrestricted_false : ¬ C11_parts_unrestricted := by
  intro h
  have := h Proofs.cexParts
  rw [Proofs.cexParts_model, Proofs.cexParts_spec] at this
  cases this

/-- Counterexample `Proofs.cexBody` (the same with `multipart/alternative`): the model returns
the raw body (one part, neither text/plain nor text/html), the specification an error. -/
theorem C11_body_unrestricted_false : ¬ C11_body_unrestricted :=
  Proofs.getBody_eq_spec_false

/-! ## Non-vacuity -/

/-- A two-part multipart/alternative message with preamble and epilogue (one header per
entity: the kernel evaluates `List.mergeSort` only on singletons). -/
def C11_sample : Msg := parseHeaders (ofString
  "Content-Type: multipart/alternative; boundary=\"b\"\n\npreamble\n--b\nContent-Type: text/html\n\n<p>hi</p>\n--b\nContent-Type: text/plain\n\nhello!\n--b--\nepilogue\n")

def C11_part1 : Msg := parseHeaders (ofString "Content-Type: text/html\n\n<p>hi</p>\n")
def C11_part2 : Msg := parseHeaders (ofString "Content-Type: text/plain\n\nhello!\n")

/-- The sample is parsed and traversed once, here; what follows reads its parts, its body and the hypothesis off this. -/
theorem C11_sample_eval : getAttachments C11_sample = some [C11_part1, C11_part2] ∧
    Proofs.BoundaryOk (Gen.mimeDepthLimit + 1) C11_sample = true ∧ getBody C11_sample = some (ofString "hello!\n") := by
  rw [C11_sample, C11_part1, C11_part2]
  decide_lit

/-- The attachment table of the sample. -/
theorem C11_sample_parts : getAttachments C11_sample = some [C11_part1, C11_part2] := C11_sample_eval.1

/-- The hypothesis holds for it, it has two parts, and its body is the text/plain part. -/
example :
    Proofs.BoundaryOk (Gen.mimeDepthLimit + 1) C11_sample = true ∧
    (getAttachments C11_sample).map List.length = some 2 ∧
    (Spec.parts entity (Gen.mimeDepthLimit + 1) C11_sample).map List.length = some 2 ∧
    getBody C11_sample = some (ofString "hello!\n") := by
  refine ⟨C11_sample_eval.2.1, ?_, ?_, C11_sample_eval.2.2⟩
  · rw [C11_sample_parts]; rfl
  · rw [← C11_parts _ C11_sample_eval.2.1, C11_sample_parts]; rfl


/-! ## C11_attachment_cond: how `attachment c` and `attachment { ... }` quantify over the parts

`Spec.attachmentCond` / `Spec.attachmentBlock` (Spec/Attachment.lean) are stated on the trace of a
for-each run over the parts (`Spec.partTrace`: every part in order, the state threaded); the
evaluator's two loops (`expr_eval_attachment`, `expr_eval_attachment_block`) compute exactly that,
for every environment, message, sub-expression, part index and state. -/

/-- `attachment c`: a message whose MIME structure cannot be read (`getAttachments m = none`:
missing terminator, bad boundary parameter, nesting deeper than `C11_depth_limit`) is an error
and leaves the state alone - never a match.  Otherwise `c` is evaluated on the parts in order, the
state threaded, up to the first part whose result is not "no match", and that result is returned.
The index handed to the sub-evaluation is `Spec.partIndex part i` (`C11_part_index`). -/
theorem C11_attachment_cond (env : Env) (root : Msg) (lno : Nat) (e : Expr) (part : Nat) (m : Msg) (st : St) :
    eval env root (.attachment lno e) part m st =
      match getAttachments m with
      | none => (.error, st)
      | some ps => Spec.attachmentCond (fun i p s => eval env root e (Spec.partIndex part i) p s) ps st :=
  Proofs.eval_attachment_eq env root lno e part m st

/-- `attachment { ... }`: error on an unreadable MIME structure; otherwise the block is evaluated
on EVERY part in order unless it fails on one (then error at once), and the result is a match iff
it matched on at least one part. -/
theorem C11_attachment_block (env : Env) (root : Msg) (lno : Nat) (blk : Expr) (part : Nat) (m : Msg) (st : St) :
    eval env root (.attBlock lno blk) part m st =
      match getAttachments m with
      | none => (.error, st)
      | some ps => Spec.attachmentBlock (fun i p s => eval env root blk (Spec.partIndex part i) p s) ps st :=
  Proofs.eval_attBlock_eq env root lno blk part m st

/-- Parts of the message itself are numbered from 1 in table order; inside a part the index stays
that of the enclosing part. -/
theorem C11_part_index (i k : Nat) : Spec.partIndex 0 i = i + 1 ∧ Spec.partIndex (k + 1) i = k + 1 := ⟨rfl, rfl⟩

/-- What `Spec.attachmentCond` means for the per-part results `t`: match iff some part matches and
no earlier part is an error; error iff some part is an error and all earlier parts are no match;
no match iff every part is no match (then every part was evaluated); a decided result carries the
state of the deciding part, all earlier parts being no match. -/
theorem C11_attachment_cond_meaning {σ α : Type} (f : Nat → α → σ → Tri × σ) (ps : List α) (s : σ) :
    let t := Spec.partTrace f 0 ps s
    let res := Spec.attachmentCond f ps s
    (res.1 = .match ↔ ∃ as r bs, t = as ++ r :: bs ∧ r.1 = .match ∧ ∀ a ∈ as, a.1 ≠ .error) ∧
    (res.1 = .error ↔ ∃ as r bs, t = as ++ r :: bs ∧ r.1 = .error ∧ ∀ a ∈ as, a.1 = .nomatch) ∧
    (res.1 = .nomatch ↔ ∀ r ∈ t, r.1 = .nomatch) ∧
    (res.1 = .nomatch → res.2 = Spec.lastState t s) ∧
    (res.1 ≠ .nomatch → ∃ as bs, t = as ++ res :: bs ∧ ∀ a ∈ as, a.1 = .nomatch) :=
  Proofs.attachmentCond_meaning f ps s

/-- What `Spec.attachmentBlock` means: error iff the block fails on some part (the result is then
that part's, every earlier part evaluated without error); otherwise every part was evaluated (the
state is the one after the last part), match iff some part matched, no match iff none did. -/
theorem C11_attachment_block_meaning {σ α : Type} (f : Nat → α → σ → Tri × σ) (ps : List α) (s : σ) :
    let t := Spec.partTrace f 0 ps s
    let res := Spec.attachmentBlock f ps s
    (res.1 = .error ↔ ∃ r ∈ t, r.1 = .error) ∧
    (res.1 = .error → ∃ as bs, t = as ++ res :: bs ∧ ∀ a ∈ as, a.1 ≠ .error) ∧
    (res.1 = .match ↔ (∀ r ∈ t, r.1 ≠ .error) ∧ ∃ r ∈ t, r.1 = .match) ∧
    (res.1 = .nomatch ↔ ∀ r ∈ t, r.1 = .nomatch) ∧
    (res.1 ≠ .error → res.2 = Spec.lastState t s) :=
  Proofs.attachmentBlock_meaning f ps s

/-- With `C11_parts`: the parts quantified over are those of the MIME tree (`Spec.parts`). -/
theorem C11_attachment_cond_mime (env : Env) (root : Msg) (lno : Nat) (e : Expr) (part : Nat) (m : Msg) (st : St)
    (h : Proofs.BoundaryOk (Gen.mimeDepthLimit + 1) m = true) :
    eval env root (.attachment lno e) part m st =
      match Spec.parts entity (Gen.mimeDepthLimit + 1) m with
      | none => (.error, st)
      | some ps => Spec.attachmentCond (fun i p s => eval env root e (Spec.partIndex part i) p s) ps st :=
  Proofs.eval_attachment_mime env root lno e part m st h

theorem C11_attachment_block_mime (env : Env) (root : Msg) (lno : Nat) (blk : Expr) (part : Nat) (m : Msg) (st : St)
    (h : Proofs.BoundaryOk (Gen.mimeDepthLimit + 1) m = true) :
    eval env root (.attBlock lno blk) part m st =
      match Spec.parts entity (Gen.mimeDepthLimit + 1) m with
      | none => (.error, st)
      | some ps => Spec.attachmentBlock (fun i p s => eval env root blk (Spec.partIndex part i) p s) ps st :=
  Proofs.eval_attBlock_mime env root lno blk part m st h

/-! ### Non-vacuity: the two-part `C11_sample` -/

/-- A pattern matches the subjects it is a prefix of; the pattern `!` makes the engine fail. -/
def C11_env : Env where
  rx := fun p s => if p.src.isPrefixOf s then .ok [some (0, p.src.length)] else if p.src == [33] then .error else .nomatch
  command := fun _ => 0
  isDir := fun _ => false
  now := 0
  strptime := fun _ => none
  zoneName := fun _ => none
  fileTime := fun _ => none
  dryrun := false
  path := ofString "/m/new/1"

def C11_st0 : St := { ml := [], flags := MFlags.empty }

/-- `attachment body /hello/`: part 1 (text/html) does not match, part 2 (text/plain) does; the
match entry is recorded for part number 2.  `attachment body /<p>/` stops at part 1.
`attachment body /zzz/` looks at both parts and does not match.  `attachment body /!/` (the engine
fails on part 1) is an error. -/
example :
    ((eval C11_env C11_sample (.attachment 1 (.body 1 { src := ofString "hello" })) 0 C11_sample C11_st0).1 = .match ∧
     (eval C11_env C11_sample (.attachment 1 (.body 1 { src := ofString "hello" })) 0 C11_sample C11_st0).2.ml.map (·.part) = [2]) ∧
    ((eval C11_env C11_sample (.attachment 1 (.body 1 { src := ofString "<p>" })) 0 C11_sample C11_st0).1 = .match ∧
     (eval C11_env C11_sample (.attachment 1 (.body 1 { src := ofString "<p>" })) 0 C11_sample C11_st0).2.ml.map (·.part) = [1]) ∧
    (eval C11_env C11_sample (.attachment 1 (.body 1 { src := ofString "zzz" })) 0 C11_sample C11_st0).1 = .nomatch ∧
    (eval C11_env C11_sample (.attachment 1 (.body 1 { src := ofString "!" })) 0 C11_sample C11_st0).1 = .error := by
  simp only [eval, eval.loop, C11_sample_parts, C11_part1, C11_part2]
  decide_lit

/-- `attachment { match all exec stdin "cat" }` runs on both parts: two sentinel entries and two
exec entries, for parts 1 and 2; `attachment { match body /hello/ discard }` matches although
part 1 does not. -/
example :
    ((eval C11_env C11_sample (.attBlock 1 (.mtch 2 (.all 2) (.exec 2 true false [ofString "cat"]))) 0 C11_sample C11_st0).1 = .match ∧
     (eval C11_env C11_sample (.attBlock 1 (.mtch 2 (.all 2) (.exec 2 true false [ofString "cat"]))) 0 C11_sample C11_st0).2.ml.map
        (fun m => (m.ty, m.part)) = [(.mtch, 1), (.exec, 1), (.mtch, 2), (.exec, 2)]) ∧
    (eval C11_env C11_sample (.attBlock 1 (.mtch 2 (.body 2 { src := ofString "hello" }) (.discard 2))) 0 C11_sample C11_st0).1 = .match ∧
    (eval C11_env C11_sample (.attBlock 1 (.mtch 2 (.body 2 { src := ofString "!" }) (.discard 2))) 0 C11_sample C11_st0).1 = .error := by
  simp only [eval, eval.loopB, C11_sample_parts, C11_part1, C11_part2]
  decide_lit

/-- A multipart message without terminator: both forms are an error and nothing is recorded. -/
def C11_unterminated : Msg := parseHeaders (ofString "Content-Type: multipart/mixed; boundary=\"b\"\n\n--b\nx\n")

theorem C11_unterminated_parts : getAttachments C11_unterminated = none := by
  rw [C11_unterminated]
  decide_lit

example :
    (eval C11_env C11_unterminated (.attachment 1 (.all 1)) 0 C11_unterminated C11_st0).1 = .error ∧
    (eval C11_env C11_unterminated (.attachment 1 (.all 1)) 0 C11_unterminated C11_st0).2.ml = [] ∧
    (eval C11_env C11_unterminated (.attBlock 1 (.all 1)) 0 C11_unterminated C11_st0).1 = .error := by
  simp only [eval, C11_unterminated_parts]
  decide

/-! ## C11_exec_stdin: what `message_get_fd` hands to exec

`Model.messageGetFd` transcribes `message_get_fd` / `writefd` / `message_write` (message.c) as a
program over libc calls; `runOracle` gives every call an ARBITRARY result.  `Spec.HandedOver`
(Spec/ExecStdin.lean) says, on the trace of calls alone, which of the three sources the
descriptor was filled from. -/

/-- Whenever `message_get_fd` returns a descriptor `fd`: the last call is `lseek(fd, 0)` and it
succeeded; no call before it failed; and before it
(a) `stdin body`: `fd` is a fresh unlinked temporary file and the bytes it accepted through
    `write` (of each write the `n` bytes taken) are exactly `cstr (getBody target)`, target = the
    part if given, else the message - the decoded body of `C11_body`;
(b) a part without `body`: `fd` is a fresh unlinked temporary file whose stdio duplicate was handed
    exactly `(messageWrite part).1`, flushed, synced and closed;
(c) otherwise `fd` is a duplicate of the message's own descriptor. -/
theorem C11_exec_stdin (env : PEnv) (ms : MsgSt) (part : Option Msg) (dobody : Bool)
    (orc : Nat → Call → Res) (i : Nat) (tr : List (Call × Res)) (fd : Handle)
    (h : (runOracle orc (messageGetFd env ms part dobody) i tr).1 = some fd) :
    ∃ L0 r, (runOracle orc (messageGetFd env ms part dobody) i tr).2 = tr ++ L0 ++ [(.lseek fd, r)] ∧
      r.isErr = false ∧ (∀ x ∈ L0, Spec.failed x = false) ∧ Spec.HandedOver env ms part dobody fd L0 :=
  Proofs.exec_stdin_handed_over env ms part dobody orc i tr fd h

/-- A descriptor is returned iff the source is obtainable (decodable body, template within
`PATH_MAX`, message descriptor present) and every call succeeds, writes being complete or short
but positive. -/
theorem C11_exec_stdin_delivered_iff (env : PEnv) (ms : MsgSt) (part : Option Msg) (dobody : Bool)
    (orc : Nat → Call → Res) (i : Nat) (tr L : List (Call × Res))
    (hL : (runOracle orc (messageGetFd env ms part dobody) i tr).2 = tr ++ L) :
    (runOracle orc (messageGetFd env ms part dobody) i tr).1.isSome = true ↔
      Spec.Obtainable env ms part dobody = true ∧ ∀ x ∈ L, Spec.failed x = false :=
  Proofs.exec_stdin_delivered_iff env ms part dobody orc i tr L hL

/-- Any failing call makes the result `none`; and whenever the result is `none`, the descriptor
the run had obtained (temporary file or duplicate) was closed by its last call. -/
theorem C11_exec_stdin_failure (env : PEnv) (ms : MsgSt) (part : Option Msg) (dobody : Bool)
    (orc : Nat → Call → Res) (i : Nat) (tr L : List (Call × Res))
    (hL : (runOracle orc (messageGetFd env ms part dobody) i tr).2 = tr ++ L) :
    ((∃ x ∈ L, Spec.failed x = true) → (runOracle orc (messageGetFd env ms part dobody) i tr).1 = none) ∧
    ((runOracle orc (messageGetFd env ms part dobody) i tr).1 = none →
      ∀ fd, Spec.obtainedFd L = some fd → Spec.ClosedLast fd L) :=
  Proofs.exec_stdin_failure env ms part dobody orc i tr L hL

/-! ### Non-vacuity -/

def C11_penv : PEnv :=
  { now := 0, pid := 1, host := [], random := 0, tmpdir := ofString "/tmp", home := [], confpath := [],
    dryrun := false, syntaxOnly := false, stdinMode := false }

def C11_ms : MsgSt :=
  { name := ofString "1", path := ofString "/m/new/1", fd := some 3, msg := C11_sample, parts := [],
    flags := MFlags.empty, loc := none, content := [] }

/-- Every call succeeds; `mkostemp` returns descriptor 7, a dup 8; every `write` takes at most 3 bytes. -/
def C11_orcOk : Nat → Call → Res := fun _ c =>
  match c with
  | .mkostemp _ => .ok 7
  | .dupfd _ => .ok 8
  | .write _ d => .ok (min 3 d.length)
  | _ => .ok 0

/-- The same, but the third call (the first `write`, the `dup` of `message_write`) fails. -/
def C11_orcFail : Nat → Call → Res := fun i c => if i == 2 then .err "EIO" else C11_orcOk i c

/-- A base64 part: `aGVsbG8=` is `hello`. -/
def C11_b64part : Msg := parseHeaders (ofString "Content-Transfer-Encoding: base64\n\naGVsbG8=\n")

/-- (a) `stdin body` on the multipart/alternative sample: descriptor 7 received `hello!\n` (the
text/plain part) in three short writes; on the base64 part it received `hello`. -/
example :
    (runOracle C11_orcOk (messageGetFd C11_penv C11_ms none true) 0 []).1 = some 7 ∧
    Spec.written 7 (runOracle C11_orcOk (messageGetFd C11_penv C11_ms none true) 0 []).2 = ofString "hello!\n" ∧
    (runOracle C11_orcOk (messageGetFd C11_penv C11_ms none true) 0 []).2.length = 6 ∧
    (runOracle C11_orcOk (messageGetFd C11_penv C11_ms (some C11_b64part) true) 0 []).1 = some 7 ∧
    Spec.written 7 (runOracle C11_orcOk (messageGetFd C11_penv C11_ms (some C11_b64part) true) 0 []).2 = ofString "hello" := by
  -- rewritten first, so that the kernel does not parse and decode the sample again inside the run
  have hb : getBody ((none : Option Msg).getD C11_ms.msg) = some (ofString "hello!\n") := by
    rw [Option.getD_none, show C11_ms.msg = C11_sample from rfl]
    exact C11_sample_eval.2.2
  simp only [messageGetFd, hb]
  decide +kernel

/-- (b) a part without `body`: stream 8 was handed the re-serialised part; (c) the message:
descriptor 8 is the duplicate of the message's descriptor 3, rewound. -/
example :
    (runOracle C11_orcOk (messageGetFd C11_penv C11_ms (some C11_b64part) false) 0 []).1 = some 7 ∧
    Spec.printed 8 (runOracle C11_orcOk (messageGetFd C11_penv C11_ms (some C11_b64part) false) 0 []).2 =
      ofString "Content-Transfer-Encoding: base64\n\naGVsbG8=\n" ∧
    (runOracle C11_orcOk (messageGetFd C11_penv C11_ms none false) 0 []).1 = some 8 ∧
    (runOracle C11_orcOk (messageGetFd C11_penv C11_ms none false) 0 []).2 = [(.dupfd 3, .ok 8), (.lseek 8, .ok 0)] := by
  rw [C11_b64part]
  decide_lit

/-- A failing call: no descriptor, and descriptor 7 is closed by the last call. -/
example :
    (runOracle C11_orcFail (messageGetFd C11_penv C11_ms none true) 0 []).1 = none ∧
    (runOracle C11_orcFail (messageGetFd C11_penv C11_ms none true) 0 []).2.getLast? = some (.close 7, .ok 0) ∧
    (runOracle C11_orcFail (messageGetFd C11_penv C11_ms (some C11_b64part) false) 0 []).1 = none ∧
    (runOracle C11_orcFail (messageGetFd C11_penv C11_ms (some C11_b64part) false) 0 []).2.getLast? = some (.close 7, .ok 0) := by
  have hb : getBody ((none : Option Msg).getD C11_ms.msg) = some (ofString "hello!\n") := by
    rw [Option.getD_none, show C11_ms.msg = C11_sample from rfl]
    exact C11_sample_eval.2.2
  simp only [messageGetFd, hb]
  decide +kernel

/-! ## `exec stdin body` after rewriting actions of the same action list

Vocabulary: `Spec/ExecSeq.lean` (see the block of `C13_exec_stdin_sees_current` in Props/C13.lean):
`uptoFork` = `matches_exec` up to the fork of one exec entry, run against arbitrary POSSIBLE results
with the abstract file system threaded through (`runW`, `PossibleRun`). -/

/-- `exec stdin body` hands over the decoded body of the CURRENT in-memory message, whatever the
action list did before.  For every list `pre` before the entry, every state and world in which
the message is open, every oracle whose results are possible: if the run reaches the fork of `mh`
(`exec stdin body`, of the message or - inside an attachment block - of a part) with descriptor
`fd`, then the body of the target (`message_get_body`: the message as it is in memory after
`matches_interpolate`, resp. the part) is decodable, and in the world at that fork `fd` is a handle
on a temporary file OF ITS OWN - not the file the message's descriptor refers to, so no offset of
the message file plays any role - whose data is exactly that decoded body (as a C string), and the
last call before the fork is a successful `lseek(fd, 0, SEEK_SET)`. -/
theorem C11_exec_stdin_body_after_rewrite (env : PEnv) (pre : MatchList) (mh : Match) (st : ExecSt) (orig : Bytes) (w : World)
    (orc : Nat → Call → Res) (i : Nat) (hb : mh.execBody = true)
    (hopen : Spec.MsgOpen w st orig) (hposs : Spec.PossibleRun orc (Spec.uptoFork env pre mh st) w i)
    (st' : ExecSt) (fd : Handle) (hres : (Spec.runW orc (Spec.uptoFork env pre mh st) w i).1 = .fork st' fd) :
    ∃ body, getBody ((Spec.execPart mh st.ms).getD st.ms.msg) = some body ∧
      Spec.BodyOn (Spec.runW orc (Spec.uptoFork env pre mh st) w i).2 st' fd body :=
  Proofs.ExecSeq.wpo_sound orc (Proofs.ExecSeq.spec_uptoFork_body env pre mh st hb hopen) i hposs st' fd hres

/-- The body `C11_exec_stdin_body_after_rewrite` hands over is the one the specification decodes (`C11_body`: Content-Transfer-Encoding of the
entity, text/plain preferred for multipart/alternative), under the hypothesis of `C11_body`. -/
theorem C11_exec_stdin_body_after_rewrite_spec (env : PEnv) (pre : MatchList) (mh : Match) (st : ExecSt) (orig : Bytes) (w : World)
    (orc : Nat → Call → Res) (i : Nat) (hb : mh.execBody = true)
    (hbd : Proofs.BoundaryOk (Gen.mimeDepthLimit + 1) ((Spec.execPart mh st.ms).getD st.ms.msg) = true)
    (hopen : Spec.MsgOpen w st orig) (hposs : Spec.PossibleRun orc (Spec.uptoFork env pre mh st) w i)
    (st' : ExecSt) (fd : Handle) (hres : (Spec.runW orc (Spec.uptoFork env pre mh st) w i).1 = .fork st' fd) :
    ∃ body, Spec.decodedBody entity Gen.mimeDepthLimit ((Spec.execPart mh st.ms).getD st.ms.msg) = some body ∧
      Spec.BodyOn (Spec.runW orc (Spec.uptoFork env pre mh st) w i).2 st' fd body := by
  obtain ⟨body, h1, h2⟩ := C11_exec_stdin_body_after_rewrite env pre mh st orig w orc i hb hopen hposs st' fd hres
  exact ⟨body, by rw [← C11_body _ hbd]; exact h1, h2⟩

/-- Non-vacuity (evaluated run, `Proofs/ExecSeqEx.lean`): `label exec stdin body` on `A:b\n\nx\n`, every `write`
short: the run reaches the fork with descriptor 8 on a temporary file holding the body `x\n`. -/
example : ∃ st', (Spec.runW Proofs.ExecSeq.exOrc1 (Spec.uptoFork Proofs.ExecSeq.exEnv [Proofs.ExecSeq.exLabel]
      Proofs.ExecSeq.exBody Proofs.ExecSeq.exSt) Proofs.ExecSeq.exW 0).1 = .fork st' 8 ∧
    Spec.BodyOn (Spec.runW Proofs.ExecSeq.exOrc1 (Spec.uptoFork Proofs.ExecSeq.exEnv [Proofs.ExecSeq.exLabel]
      Proofs.ExecSeq.exBody Proofs.ExecSeq.exSt) Proofs.ExecSeq.exW 0).2 st' 8 (ofString "x\n") := by
  obtain ⟨st', h⟩ := Proofs.ExecSeq.forkFd_eq Proofs.ExecSeq.ex1b_fork
  refine ⟨st', h, ?_⟩
  obtain ⟨body, h1, h2⟩ := C11_exec_stdin_body_after_rewrite _ _ _ _ _ _ _ 0 rfl Proofs.ExecSeq.ex_open
    Proofs.ExecSeq.ex1b_possible st' 8 h
  rw [Proofs.ExecSeq.ex1b_body] at h1
  cases h1
  exact h2

end Mdsort.Props
