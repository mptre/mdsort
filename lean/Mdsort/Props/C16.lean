import Mdsort.Model.Decode
import Mdsort.Spec.Decode
import Mdsort.Spec.DecodeRFC
import Mdsort.Proofs.Decode
import Mdsort.Proofs.DecodeRFC
import Mdsort.Proofs.L0Buffer
import Mdsort.Proofs.Literal

/-!
# C16 - the transfer decoders are correct and total

Property theorems only; the lemmas are in `Proofs/Qp.lean`, `Proofs/B64.lean`, `Proofs/B64Bits.lean`, `Proofs/Rfc2047.lean` (model =
reference decoder), `Proofs/DecodeRFC.lean` (reference decoder against the RFC readings) and `Proofs/L0Buffer.lean`
(`C16_output_buffer_in_bounds`).
`Model.*` is the transcription of decode.c (tied to the C code by the
correspondence run of `tools/props/c16.py`), `Spec.*` the reference decoders.
Totality ("quoted-printable and header decoding never fail", "terminates for
every input") is carried by the types: every `Model` function below is a total
Lean function (`qpLoop`, `rfc2047Loop` by well-founded recursion on the input
length), and `qpDecode`/`rfc2047Decode` return `Bytes`, not `Option Bytes`.

What the reference decoders are (`Spec/Decode.lean`, written without looking at the loops of decode.c; it
imports neither the model nor the generated table).  `Spec.b64` is RFC 4648 section 4 as a mathematician would write
it (value table, 24-bit groups by arithmetic, padding by `k mod 4`, white space filtered first).  The other two are
the PROPERTY TEXT rather than the RFCs, where these differ:
* `Spec.qp` knows the soft line break `=LF` only: `=CRLF` (the form of RFC 2045) and `= LF` (transport padding
  before the break) are copied unchanged, and lower-case hex is not decoded (evaluated below);
* `Spec.rfc2047` is all-or-nothing: if ANY `=?` of the string does not start a well-formed word (or a B word is
  not valid base64) the WHOLE input is returned unchanged - words that are well formed included ("malformed
  sequences are passed through unchanged" read as the code reads it); a word is accepted with an empty charset,
  with blanks inside, and glued to other text; the charset is ignored; a decoded B word is cut at its first NUL.
The correspondence is therefore "model = property-text decoder", not "model = MIME decoder"; the differences to the RFCs
are visible here and nowhere hidden in the proofs.

The second half of this file compares with the RFC readings of `Spec/DecodeRFC.lean` (`Spec.qpRFC`, `Spec.rfc2047RFC`,
`Spec.rfc2047PerWord`): on which inputs `decode.c` IS the RFC decoder, and one evaluated witness per kind of input where it is not.
-/

namespace Mdsort.Props
open Mdsort

/-- The alphabet table regenerated from decode.c is RFC 4648's Table 1, and the pad is `=`.  (`Model.b64idx` is
`strchr` in `Gen.base64Alphabet`, the string literal `Base64[]` of the decode.c under check; `Spec.b64val` is written out
by ranges.  Exchanging two letters of the C table makes this statement false.) -/
theorem C16_alphabet : (∀ c : UInt8, Model.b64idx c = (Spec.b64val c).map UInt8.ofNat) ∧ Gen.pad64 = 61 :=
  ⟨Proofs.b64idx_eq_b64val, rfl⟩

/-- `b64_pton` with any target larger than the input (base64_decode passes `strlen + 1`)
computes exactly the reference decoder: for every byte string. -/
theorem C16_b64 (s : Bytes) (n : Nat) (h : s.length < n) : Model.b64pton s n = Spec.b64 s :=
  Proofs.b64pton_eq_spec s n h

/-- Why the target never overflows: three bytes per four input characters. -/
theorem C16_b64_len (s out : Bytes) (h : Spec.b64 s = some out) : 4 * out.length ≤ 3 * s.length :=
  Proofs.b64_spec_len s out h

/-- The quoted-printable loop (body mode and header mode) is the reference decoder. -/
theorem C16_qp (us : Bool) (s : Bytes) : Model.qpLoop us s [] = Spec.qp us s :=
  Proofs.qpLoop_eq_spec us s

/-- `rfc2047_decode` is the reference encoded-word decoder, including the "return the
input unchanged" behaviour on any malformed word. -/
theorem C16_rfc2047 (s : Bytes) : Model.rfc2047DecodeRaw s = Spec.rfc2047 s :=
  Proofs.rfc2047_eq_spec s

/-- The three public functions return C strings: callers see the reference result up to
its first NUL. -/
theorem C16_cstring_view (s : Bytes) :
    Model.base64Decode s = (Spec.b64 s).map cstr ∧
    Model.qpDecode s = cstr (Spec.qp false s) ∧
    Model.rfc2047Decode s = cstr (Spec.rfc2047 s) := by
  refine ⟨?_, ?_, ?_⟩
  · simp [Model.base64Decode, Model.base64DecodeRaw, C16_b64 s (s.length + 1) (Nat.lt_succ_self _)]
  · simp [Model.qpDecode, Model.qpDecodeRaw, C16_qp]
  · simp [Model.rfc2047Decode, C16_rfc2047]

open L0 in
/-- "None of them reads or writes out of bounds", the output side: the three decoders write their result through
the libks buffer (`buffer_alloc(strlen(str))` or `buffer_alloc(128)`, `buffer_putc` per byte, `buffer_printf("%s")`
for a decoded word, `buffer_putc(bf, '\0')`, `buffer_release`).  (The statement is about the buffer under ANY
sequence of such operations; that the decoders issue only these operations is by reading decode.c - the list-level
models append to a `List`, they do not call `LBuf`.)  For every size hint and every sequence of such
operations no write leaves the object, nothing is dropped, and the released object is a C string reading as the
bytes appended up to their first NUL.  (The input side - every read of the source string - is
`C07_L0_decoders_refine`; the buffer itself: `C07_L0_buffer_in_bounds`, `C07_L0_buffer_contents`.) -/
theorem C16_output_buffer_in_bounds (sizhint : Nat) (ops : List BufOp) :
    ∃ bf, (LBuf.alloc sizhint).run (ops ++ [.putc 0]) = .ok (bf, List.replicate (ops.length + 1) 0) ∧
      bf.store.size = bf.cap ∧ bf.len ≤ bf.cap ∧
      bf.release.1.view 0 = cstr (ops.flatMap BufOp.piece) ∧ bf.release.1.HasNul 0 := by
  obtain ⟨hwf, _, _, hc0⟩ := LBuf.alloc_wf sizhint
  obtain ⟨bf, hr, hwf', hv, hn⟩ := LBuf.run_putc0_release ops (LBuf.alloc sizhint) hwf hc0
  exact ⟨bf, hr, hwf'.size, hwf'.le, hv, hn⟩

/-! Non-vacuity: concrete non-trivial inputs on which the reference decoders decode. -/
example : Spec.b64 (ofString "aGVs bG8=") = some (ofString "hello") := by decide +kernel
example : Spec.b64 (ofString "aGVsbG9=") = none := by decide +kernel   -- non-zero trailing bits
example : Spec.qp false (ofString "a=3Db=\nc=3") = ofString "a=bc=3" := by decide +kernel
example : Spec.rfc2047 (ofString "=?utf-8?Q?a_b?= =?x?b?Yw==?= d") = ofString "a bc d" := by decide_lit

/-! What the reference decoders do NOT do (the readings listed in the header, evaluated). -/
example : Spec.qp false (ofString "a=\r\nb= \nc=3d") = ofString "a=\r\nb= \nc=3d" := by decide +kernel
example : Spec.rfc2047 (ofString "=?utf-8?Q?a?= =?utf-8?X?b?=") = ofString "=?utf-8?Q?a?= =?utf-8?X?b?=" ∧
    Spec.rfc2047 (ofString "=?utf-8?Q?a?= x=?y") = ofString "=?utf-8?Q?a?= x=?y" ∧
    Spec.rfc2047 (ofString "=??q?a b?=c") = ofString "a bc" ∧
    Spec.rfc2047 (ofString "=?x?B?YQBi?=") = ofString "a" := by decide_lit

/-- Non-vacuity of `C16_b64` (hypothesis `s.length < n`, as `base64_decode` calls it) on the model side: white space
inside, missing padding, text after the padding, a foreign character. -/
example : Model.b64pton (ofString "aGVs\n bG8=") 11 = some (ofString "hello") ∧ (ofString "aGVs\n bG8=").length < 11 ∧
    Model.b64pton (ofString "aGVsbG8") 8 = none ∧ Model.b64pton (ofString "aGVsbG8=x") 10 = none ∧
    Model.b64pton (ofString "aGV$bG8=") 9 = none := by decide_lit

/-! ## The model against the RFC readings (`Spec/DecodeRFC.lean`) -/

/-- `quoted_printable_decode_buffer` is the RFC 2045 decoder `Spec.qpRFC` on every input whose soft line breaks all
have the bare form `=LF`: `QpLFOnly s` says that no `=` of `s` is followed by blanks* CR LF, or by blanks+ LF. -/
theorem C16_qp_vs_rfc (us : Bool) (s : Bytes) (h : Spec.QpLFOnly s = true) :
    Model.qpLoop us s [] = Spec.qpRFC us s := by
  rw [C16_qp]; exact Proofs.qp_eq_qpRFC us s h

/-- The hypothesis of `C16_qp_vs_rfc` is exact: the model differs from `Spec.qpRFC` on EVERY input that contains a
`=CRLF` or a soft line break with transport padding. -/
theorem C16_qp_vs_rfc_iff (us : Bool) (s : Bytes) :
    Model.qpLoop us s [] = Spec.qpRFC us s ↔ Spec.QpLFOnly s = true := by
  rw [C16_qp]; exact Proofs.qp_eq_qpRFC_iff us s

/-- A simpler sufficient condition: no CR anywhere in `s` and no `=` directly followed by a blank. -/
theorem C16_qp_vs_rfc_simple (us : Bool) (s : Bytes) (h : Spec.QpNoCRNoPad s = true) :
    Model.qpLoop us s [] = Spec.qpRFC us s :=
  C16_qp_vs_rfc us s (Proofs.QpLFOnly_of_NoCRNoPad s h)

/-- Non-vacuity: soft line breaks, escapes, a lone `=`, lower-case hex, a CR and blanks that belong to no soft line
break all satisfy the hypotheses, and something is decoded. -/
example : Spec.QpLFOnly (ofString "a=\nb=3Dc =\n=\n=3d \r\n x=") = true ∧
    Spec.qpRFC false (ofString "a=\nb=3Dc =\n=\n=3d \r\n x=") = ofString "ab=c =3d \r\n x=" ∧
    Spec.QpNoCRNoPad (ofString "a=\nb=3Dc =\n=\n=3d \n x=") = true := by decide_lit

/-- Deviation of decode.c from RFC 2045 (1): the canonical soft line break `=CRLF` is not removed. -/
theorem C16_qp_deviation_crlf :
    Model.qpLoop false (ofString "foo=\r\nbar") [] = ofString "foo=\r\nbar" ∧
    Spec.qpRFC false (ofString "foo=\r\nbar") = ofString "foobar" := by decide +kernel

/-- Deviation of decode.c from RFC 2045 (2): transport padding (blanks between `=` and the line end, rule 3) makes
the soft line break invisible to decode.c. -/
theorem C16_qp_deviation_padding :
    Model.qpLoop false (ofString "foo= \nbar=\t\nbaz") [] = ofString "foo= \nbar=\t\nbaz" ∧
    Spec.qpRFC false (ofString "foo= \nbar=\t\nbaz") = ofString "foobarbaz" := by decide_lit

/-- `rfc2047_decode` is the RFC 2047 decoder `Spec.rfc2047RFC` on every well-formed value: (1) every `=?` begins an
encoded word of the RFC grammar (charset and encoding tokens, non-empty encoded-text of printable characters without
`?`, B or Q, valid base64 in a B word) that is delimited by linear white space or the ends of the value, (2) no B word
decodes to a NUL, (3) the white space between adjacent words holds no VT / FF. -/
theorem C16_rfc2047_vs_rfc (s : Bytes) (h : Spec.WellFormed2047 s = true) :
    Model.rfc2047DecodeRaw s = Spec.rfc2047RFC s := by
  rw [C16_rfc2047]; exact Proofs.rfc2047_eq_RFC s h

/-- On well-formed values the property reading (raw fallback per VALUE) and the reading of RFC 2047 itself (a malformed
word is left alone, word by word) are the same function; they differ only on values containing a malformed word. -/
theorem C16_rfc2047_readings_agree (s : Bytes) (h : Spec.WellFormed2047 s = true) :
    Spec.rfc2047RFC s = Spec.rfc2047PerWord s :=
  Proofs.rfc2047RFC_eq_perWord s h

/-- What the callers see (C strings), under the same hypotheses. -/
theorem C16_rfc_cstring_view (s : Bytes) :
    (Spec.QpLFOnly s = true → Model.qpDecode s = cstr (Spec.qpRFC false s)) ∧
    (Spec.WellFormed2047 s = true → Model.rfc2047Decode s = cstr (Spec.rfc2047RFC s)) := by
  refine ⟨fun h => ?_, fun h => ?_⟩
  · simp [Model.qpDecode, Model.qpDecodeRaw, C16_qp_vs_rfc false s h]
  · simp [Model.rfc2047Decode, C16_rfc2047_vs_rfc s h]

/-- Non-vacuity of `WellFormed2047`: B and Q words in both letter cases, adjacent words over a folded line, text
around them, a `=` before the closing `?=`, a lone `?=` and `=` in the text. -/
example : Spec.WellFormed2047 (ofString "Re: =?utf-8?Q?a_b=3D?=\n =?ISO-8859-1?b?Yw==?= d ?= = =?x?q?e=?=") = true ∧
    Spec.rfc2047RFC (ofString "Re: =?utf-8?Q?a_b=3D?=\n =?ISO-8859-1?b?Yw==?= d ?= = =?x?q?e=?=") =
      ofString "Re: a b=c d ?= = e=" := by decide_lit

/-! One evaluated witness for each kind of input outside `WellFormed2047` on which `rfc2047_decode` is NOT the RFC
decoder (model value first, RFC reading second). -/

/-- Leniency (1): an empty charset and an empty encoded-text are accepted; the RFC grammar wants `1*`. -/
theorem C16_rfc2047_deviation_empty :
    Model.rfc2047DecodeRaw (ofString "=??q?a?=") = ofString "a" ∧
    Spec.rfc2047RFC (ofString "=??q?a?=") = ofString "=??q?a?=" ∧
    Model.rfc2047DecodeRaw (ofString "x =?u?q??= y") = ofString "x  y" ∧
    Spec.rfc2047RFC (ofString "x =?u?q??= y") = ofString "x =?u?q??= y" := by decide_lit

/-- Leniency (2): blanks inside the encoded-text and an especial in the charset are accepted. -/
theorem C16_rfc2047_deviation_blank_in_word :
    Model.rfc2047DecodeRaw (ofString "=?x?q?a b?=") = ofString "a b" ∧
    Spec.rfc2047RFC (ofString "=?x?q?a b?=") = ofString "=?x?q?a b?=" ∧
    Model.rfc2047DecodeRaw (ofString "=?a b?q?x?=") = ofString "x" ∧
    Spec.rfc2047RFC (ofString "=?a b?q?x?=") = ofString "=?a b?q?x?=" := by decide_lit

/-- Leniency (3): `?` inside the encoded-text - the text ends at the first `?=`, so a single `?` is payload and what
follows the first `?=` is text. -/
theorem C16_rfc2047_deviation_question_mark :
    Model.rfc2047DecodeRaw (ofString "=?x?q?a?b?=") = ofString "a?b" ∧
    Spec.rfc2047RFC (ofString "=?x?q?a?b?=") = ofString "=?x?q?a?b?=" ∧
    Model.rfc2047DecodeRaw (ofString "=?x?q?a?=?=") = ofString "a?=" ∧
    Spec.rfc2047RFC (ofString "=?x?q?a?=?=") = ofString "=?x?q?a?=?=" := by decide_lit

/-- Leniency (4): a word glued to the text before or behind it is decoded; RFC 2047 5 (1) wants linear white space on
both sides (in an unstructured field).  (In a comment of a structured field `(=?x?q?a?=)` is legitimate; decode.c and
`rfc2047RFC` both know no field structure.) -/
theorem C16_rfc2047_deviation_glued :
    Model.rfc2047DecodeRaw (ofString "x=?u?q?a?=") = ofString "xa" ∧
    Spec.rfc2047RFC (ofString "x=?u?q?a?=") = ofString "x=?u?q?a?=" ∧
    Model.rfc2047DecodeRaw (ofString "=?u?q?a?=x") = ofString "ax" ∧
    Spec.rfc2047RFC (ofString "=?u?q?a?=x") = ofString "=?u?q?a?=x" ∧
    Model.rfc2047DecodeRaw (ofString "=?u?q?a?==?u?q?b?=") = ofString "ab" ∧
    Spec.rfc2047RFC (ofString "=?u?q?a?==?u?q?b?=") = ofString "=?u?q?a?==?u?q?b?=" := by decide_lit

/-- A valid word next to a malformed one stays ENCODED: decode.c and the property reading agree (C10: "a value
containing a malformed encoded word is matched in its raw form"); RFC 2047 itself would decode the valid word. -/
theorem C16_rfc2047_deviation_all_or_nothing :
    Model.rfc2047DecodeRaw (ofString "=?u?q?a?= =?u?x?b?=") = ofString "=?u?q?a?= =?u?x?b?=" ∧
    Spec.rfc2047RFC (ofString "=?u?q?a?= =?u?x?b?=") = ofString "=?u?q?a?= =?u?x?b?=" ∧
    Spec.rfc2047PerWord (ofString "=?u?q?a?= =?u?x?b?=") = ofString "a =?u?x?b?=" ∧
    Model.rfc2047DecodeRaw (ofString "=?u?q?a?= =?") = ofString "=?u?q?a?= =?" ∧
    Spec.rfc2047PerWord (ofString "=?u?q?a?= =?") = ofString "a =?" := by decide_lit

/-- The NUL cut: a B word is appended with `"%s"`, so its octets after a NUL are lost while the text behind the word
is kept. -/
theorem C16_rfc2047_deviation_nul_cut :
    Model.rfc2047DecodeRaw (ofString "=?u?B?YQBi?= c") = ofString "a c" ∧
    Spec.rfc2047RFC (ofString "=?u?B?YQBi?= c") = ofString "a\x00b c" ∧
    Model.rfc2047Decode (ofString "=?u?B?YQBi?= c") = ofString "a c" ∧
    cstr (Spec.rfc2047RFC (ofString "=?u?B?YQBi?= c")) = ofString "a" := by decide +kernel

/-- `isspace` against linear white space: VT / FF between two words are dropped with the blanks. -/
theorem C16_rfc2047_deviation_vt :
    Model.rfc2047DecodeRaw (ofString "=?u?q?a?= \x0b =?u?q?b?=") = ofString "ab" ∧
    Spec.rfc2047RFC (ofString "=?u?q?a?= \x0b =?u?q?b?=") = ofString "a \x0b b" := by decide_lit

/-- No deviation, but worth seeing: the charset is ignored by decode.c AND by `rfc2047RFC` (octets are not converted;
a reader displaying the header would convert), and lower-case hex is copied by both. -/
example : Model.rfc2047DecodeRaw (ofString "=?utf-8?q?=E4?=") = [0xE4] ∧
    Model.rfc2047DecodeRaw (ofString "=?iso-8859-1?q?=E4?=") = [0xE4] ∧
    Spec.rfc2047RFC (ofString "=?utf-8?q?=E4?=") = [0xE4] ∧ Spec.rfc2047RFC (ofString "=?iso-8859-1?q?=E4?=") = [0xE4] ∧
    Model.rfc2047DecodeRaw (ofString "=?u?q?=e4?=") = ofString "=e4" ∧
    Spec.rfc2047RFC (ofString "=?u?q?=e4?=") = ofString "=e4" := by decide_lit

end Mdsort.Props
