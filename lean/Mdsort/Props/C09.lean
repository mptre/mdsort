import Mdsort.Proofs.FlagsTime
import Mdsort.Proofs.WorldMtime
import Mdsort.Proofs.WorldGenname
import Mdsort.Proofs.WorldMain
import Mdsort.Proofs.DestEval
import Mdsort.Proofs.DestExact
import Mdsort.Proofs.FlagsSeq

/-!
# C09 - maildir names, flags, subdirectories and timestamps

This file holds the pure part (parsing flags from a file name, writing them back, the `S`
adjustment, the destination a sequence of move/flag/flags actions computes) and the world-level
statements: modification time, fresh names, nothing replaced, and the flag set / the name of the
message after a whole action list (`C09_S_after_sequence`).
-/

namespace Mdsort.Props
open Mdsort Mdsort.Model

/-- Flags are taken only from the text after the LAST colon of the file name, which must be
`2,` followed by ASCII letters; the result is exactly that set of letters. -/
theorem C09_flags_parse (name : Bytes) : flagsParse name = (Spec.nameFlags name).map Proofs.ofLetters :=
  Proofs.flagsParse_eq_spec name

/-- Flags are written back as `:2,` + upper-case letters ascending + lower-case letters
ascending, each once; the 64-byte buffer always suffices. -/
theorem C09_flags_str (mf : MFlags) (h : Proofs.MFlags.Valid mf) :
    flagsStr mf Gen.flagsMax = some (Spec.flagSuffix (Proofs.lettersOf mf)) :=
  Proofs.flagsStr_eq_spec mf h

/-- Writing and re-reading a flag set is the identity.  The flags are read after the LAST colon of the name, which is the
colon of the suffix just written, so this holds for every base name (`Proofs.flags_roundtrip`); the statement carries
`hb`, no colon in the base, and its proof does not use it. -/
theorem C09_flags_roundtrip (base : Bytes) (mf : MFlags) (h : Proofs.MFlags.Valid mf) (hb : (58 : UInt8) ∉ base) :
    flagsParse (base ++ Spec.flagSuffix (Proofs.lettersOf mf)) = some mf :=
  Proofs.flags_roundtrip base mf h

/-- new -> cur gains S, cur -> new loses S, every other flag is preserved. -/
theorem C09_S_adjust (src dst : Subdir) (mf : MFlags) (h : Proofs.MFlags.Valid mf) :
    msgflags src dst mf = some (Spec.flagSuffix (Spec.adjustSeen (src == .new) (dst == .new) (Proofs.lettersOf mf))) :=
  Proofs.msgflags_eq_spec src dst mf h

theorem flagsSet_valid (mf mf' : MFlags) (c : UInt8) (h : Proofs.MFlags.Valid mf) (hs : flagsSet mf c = some mf') :
    Proofs.MFlags.Valid mf' := by
  unfold flagsSet at hs
  split at hs
  · rename_i hu
    cases hs
    refine ⟨Nat.or_lt_two_pow h.1 ?_, h.2⟩
    have : c.toNat - 65 < 26 := by
      simp only [isupper, Bool.and_eq_true, decide_eq_true_eq] at hu
      have := hu.2
      have h2 : c.toNat ≤ 90 := by simpa using UInt8.le_iff_toNat_le.mp this
      omega
    rw [Nat.one_shiftLeft]
    exact Nat.pow_lt_pow_right (by decide) this
  · split at hs
    · rename_i hl
      cases hs
      refine ⟨h.1, Nat.or_lt_two_pow h.2 ?_⟩
      have : c.toNat - 97 < 26 := by
        simp only [islower, Bool.and_eq_true, decide_eq_true_eq] at hl
        have := hl.2
        have h2 : c.toNat ≤ 122 := by simpa using UInt8.le_iff_toNat_le.mp this
        omega
      rw [Nat.one_shiftLeft]
      exact Nat.pow_lt_pow_right (by decide) this
    · cases hs

theorem flagsSetAll_valid (fl : Bytes) (mf mf' : MFlags) (h : Proofs.MFlags.Valid mf) (hs : flagsSetAll mf fl = some mf') :
    Proofs.MFlags.Valid mf' := by
  induction fl generalizing mf with
  | nil => simp [flagsSetAll] at hs; cases hs; exact h
  | cons c r ih =>
    unfold flagsSetAll at hs
    split at hs
    · cases hs
    · rename_i mf1 h1
      exact ih mf1 (flagsSet_valid mf mf1 c h h1) hs

/-- The hypothesis `Valid` of the theorems above is discharged for every flag set the program can
hold after parsing a name: `message_flags_parse` only sets bits of the 26 letters. -/
theorem C09_flags_parse_valid (name : Bytes) (mf : MFlags) (h : flagsParse name = some mf) : Proofs.MFlags.Valid mf := by
  unfold flagsParse at h
  split at h
  · cases h; exact ⟨by decide, by decide⟩
  · split at h
    · exact flagsSetAll_valid _ _ _ ⟨by decide, by decide⟩ h
    · cases h

/-! Non-vacuity: `1.host:2,FS` parses to {F, S}; {F, S, a} is written as `:2,FSa`. -/
example : Model.flagsParse [49, 46, 104, 111, 115, 116, 58, 50, 44, 70, 83] = some ⟨2 ^ 5 + 2 ^ 18, 0⟩ := by
  decide

example : Model.flagsStr ⟨2 ^ 5 + 2 ^ 18, 1⟩ 64 = some [58, 50, 44, 70, 83, 97] := by decide

/-- The hypotheses of `C09_flags_str` / `_roundtrip` / `_S_adjust` / `_S_through` on {F, S, a}: the masks
fit 26 bits (`Valid`: always true of what `flagsParse` returns, the parser only sets letter bits).  That the base name
`1.host` has no colon - `hb` of `_roundtrip`, which that statement carries and no proof needs - is the first conjunct of
the example after this one. -/
example : Proofs.MFlags.Valid ⟨2 ^ 5 + 2 ^ 18, 1⟩ := ⟨by decide, by decide⟩

/-- What the specification side of `C09_flags_str` / `_S_adjust` evaluates to on {F, S, a}: `:2,FSa`; cur -> new `:2,Fa`; new -> cur
of {F, a} `:2,FSa`. -/
example : (58 : UInt8) ∉ ofString "1.host" ∧
    Proofs.lettersOf ⟨2 ^ 5 + 2 ^ 18, 1⟩ = [70, 83, 97] ∧
    Spec.flagSuffix [70, 83, 97] = ofString ":2,FSa" ∧
    Spec.flagSuffix (Spec.adjustSeen false true [70, 83, 97]) = ofString ":2,Fa" ∧
    Spec.flagSuffix (Spec.adjustSeen true false [70, 97]) = ofString ":2,FSa" := by
  decide +kernel

/-- `C09_flags_roundtrip` applied. -/
example : flagsParse (ofString "1.host" ++ Spec.flagSuffix (Proofs.lettersOf ⟨2 ^ 5 + 2 ^ 18, 1⟩)) = some ⟨2 ^ 5 + 2 ^ 18, 1⟩ :=
  C09_flags_roundtrip _ _ ⟨by decide, by decide⟩ (by decide +kernel)

/-- What `Spec.nameFlags` accepts and rejects: only the text after the LAST colon counts (`a:2,S:2,FR` has F and R);
duplicates and any order are accepted on input and come back sorted and once; a digit among the letters or a
version other than `2,` is an error ("invalid flags": the message is not processed), no colon is "no flags". -/
example : Spec.nameFlags (ofString "a:2,S:2,FR") = some [70, 82] ∧ Spec.nameFlags (ofString "1.h:2,SSF") = some [83, 83, 70] ∧
    Spec.nameFlags (ofString "1.h") = some [] ∧ Spec.nameFlags (ofString "1.h:2,") = some [] ∧
    Spec.nameFlags (ofString "1.h:2,S1") = none ∧ Spec.nameFlags (ofString "1.h:1,S") = none ∧
    (Spec.nameFlags (ofString "1.h:2,SSF")).map (fun l => Spec.flagSuffix (Proofs.lettersOf (Proofs.ofLetters l))) =
      some (ofString ":2,FS") := by
  decide +kernel

/-! ## World level: the modification time, fresh names, nothing is replaced

`runPlan plan p w i hist` executes the program on the abstract file system `w` under the fault plan
`plan`, numbering the calls from `i`; `.1` is the value, `.2.1` the final world, `.2.2` the world
after every call appended to `hist`.  `maildir_move` issues the `fstatat` of the source as its
first call (index `i`) unless the source is the stdin spool. -/

/-- A moved message keeps its modification time.  For EVERY fault plan that does not make the
`fstatat` of the source fail (the call with index `i`), source and destination open on existing
directories, source not the stdin spool: if `maildir_move` reports no error, the message's new
location `(dst.path, name')` is a name that was not bound before, bound now to the very same file
(rename on one device) or to the file `maildir_genname` created (copy across devices, `EXDEV`), and
the modification time of that file is the time the source file had. -/
theorem C09_mtime (env : PEnv) (src dst : Maildir) (ms : MsgSt) (w : World) (plan : Plan) (i : Nat) (hist : List World)
    (sh dh : Handle) (fid : Nat)
    (hsh : src.dirH = some sh) (hdh : dst.dirH = some dh)
    (hsrc : w.dirPath sh = some src.path) (hdst : w.dirPath dh = some dst.path) (hdir : (w.dir dst.path).isSome)
    (hstdin : src.stdin = false) (hbound : w.lookup src.path ms.name = some fid)
    (hstat : ∀ e, plan i ≠ some (.fail e))
    (hok : (runPlan plan (maildirMove env src dst ms) w i hist).1.2 = false) :
    ∃ name' fid', (runPlan plan (maildirMove env src dst ms) w i hist).1.1.loc = some (dst.path, name') ∧
      w.lookup dst.path name' = none ∧
      (runPlan plan (maildirMove env src dst ms) w i hist).2.1.lookup dst.path name' = some fid' ∧
      (fid' = fid ∨ fid' = w.nextFid) ∧
      (runPlan plan (maildirMove env src dst ms) w i hist).2.1.mtime fid' = w.mtime fid :=
  Proofs.World.move_mtime env src dst ms w plan i hist sh dh fid hsh hdh hsrc hdst hdir hstdin hbound hstat hok

/-- The converse, for every world: when the plan makes the `fstatat` fail, a move that reports no
error has set NO modification time at all (the table of times is the one before the move) - a
renamed file keeps its time because it is the same file, a copy has the time of its creation. -/
theorem C09_mtime_not_set_when_stat_fails (env : PEnv) (src dst : Maildir) (ms : MsgSt) (w : World) (plan : Plan)
    (i : Nat) (hist : List World) (sh dh : Handle) (fid : Nat) (e : String)
    (hsh : src.dirH = some sh) (hdh : dst.dirH = some dh)
    (hsrc : w.dirPath sh = some src.path) (hdst : w.dirPath dh = some dst.path) (hdir : (w.dir dst.path).isSome)
    (hstdin : src.stdin = false) (hbound : w.lookup src.path ms.name = some fid)
    (hfail : plan i = some (.fail e))
    (hok : (runPlan plan (maildirMove env src dst ms) w i hist).1.2 = false) :
    ∃ name' fid', (runPlan plan (maildirMove env src dst ms) w i hist).1.1.loc = some (dst.path, name') ∧
      (runPlan plan (maildirMove env src dst ms) w i hist).2.1.lookup dst.path name' = some fid' ∧
      (fid' = fid ∨ fid' = w.nextFid) ∧
      (runPlan plan (maildirMove env src dst ms) w i hist).2.1.mtimes = w.mtimes :=
  Proofs.World.move_mtime_not_set env src dst ms w plan i hist sh dh fid e hsh hdh hsrc hdst hdir hstdin hbound hfail hok

open Proofs.World.C09Ex in
/-- Known finding F17d, pinned on a witness: all hypotheses of `C09_mtime` hold except that the
`fstatat` fails; across devices the move still succeeds (no error), and the copy `b/1.2_2.h:2,`
(file 2) has the time of its creation (0 = "set while the process ran"), not the source's 1000. -/
theorem C09_mtime_lost_when_stat_fails :
    (world otherDev).dirPath 0 = some src.path ∧ (world otherDev).dirPath 1 = some dst.path ∧
    ((world otherDev).dir dst.path).isSome ∧ (world otherDev).lookup src.path ms.name = some 0 ∧
    (world otherDev).mtime 0 = 1000 ∧ statFails 0 = some (.fail "EIO") ∧
    (move otherDev statFails).1.2 = false ∧
    (move otherDev statFails).1.1.loc = some (dst.path, cand2) ∧
    (move otherDev statFails).2.1.lookup dst.path cand2 = some 2 ∧
    (move otherDev statFails).2.1.lookup src.path ms.name = none ∧
    (move otherDev statFails).2.1.mtime 2 = 0 := by
  decide +kernel

open Proofs.World.C09Ex in
/-- Non-vacuity of `C09_mtime`, one device (rename) and two devices (copy), destination
pre-populated with the first candidate name: the message ends up as `b/1.2_2.h:2,` with time 1000,
the entry `b/1.2_1.h:2,` that was there still is file 1 with time 2000. -/
example :
    (world []).dirPath 0 = some src.path ∧ (world []).dirPath 1 = some dst.path ∧ ((world []).dir dst.path).isSome ∧
    (world []).lookup src.path ms.name = some 0 ∧ (world []).mtime 0 = 1000 ∧
    (move [] Plan.none).1.2 = false ∧ (move [] Plan.none).1.1.loc = some (dst.path, cand2) ∧
    (move [] Plan.none).2.1.lookup dst.path cand2 = some 0 ∧ (move [] Plan.none).2.1.mtime 0 = 1000 ∧
    (move [] Plan.none).2.1.lookup dst.path cand1 = some 1 ∧ (move [] Plan.none).2.1.mtime 1 = 2000 ∧
    (move otherDev Plan.none).1.2 = false ∧ (move otherDev Plan.none).1.1.loc = some (dst.path, cand2) ∧
    (move otherDev Plan.none).2.1.lookup dst.path cand2 = some 2 ∧ (move otherDev Plan.none).2.1.mtime 2 = 1000 ∧
    (move otherDev Plan.none).2.1.lookup dst.path cand1 = some 1 ∧
    ((move otherDev Plan.none).2.1.file 2).map (·.data) = some [65, 58, 32, 49, 10, 10, 120, 10] := by
  decide +kernel

/-- `maildir_genname` returns a fresh name.  Without faults, in a destination directory `p` with
fewer than `2 ^ 32` entries `es`, with fuel for `|es| + 1` attempts and candidate names that fit
`NAME_MAX` (any fuel and starting counter; `C09_fresh_name_real` is the instance with the real constants): it returns a descriptor and a name that was NOT bound in `p`; afterwards
the name is bound to the new file `w.nextFid`, which is empty and is what the descriptor refers
to; every entry (of every directory) that was bound is bound to the same file; and the number of
calls issued - `maildir_genname` issues nothing but exclusive creates - is at most the number of
candidate names already present plus one. -/
theorem C09_fresh_name (env : PEnv) (md : Maildir) (flags : Option Bytes) (w : World) (d : Handle) (p : Bytes)
    (es : List (Bytes × Nat)) (fuel count i : Nat) (hist : List World)
    (hd : md.dirH = some d) (hp : w.dirPath d = some p) (hes : w.dir p = some es) (hfuel : es.length + 1 ≤ fuel)
    (hW : es.length < gennameWrap)
    (hfit : ∀ j, j ≤ es.length → (Proofs.World.cand env flags (count + 1 + j)).length < NAME_MAX1) :
    ∃ h name, (runPlan Plan.none (genname env md flags fuel count) w i hist).1 = some (h, name) ∧
      w.lookup p name = none ∧
      (runPlan Plan.none (genname env md flags fuel count) w i hist).2.1.lookup p name = some w.nextFid ∧
      (runPlan Plan.none (genname env md flags fuel count) w i hist).2.1.file w.nextFid = some ⟨[], []⟩ ∧
      (runPlan Plan.none (genname env md flags fuel count) w i hist).2.1.obj h = .file w.nextFid 0 true ∧
      (∀ q m fid, w.lookup q m = some fid →
        (runPlan Plan.none (genname env md flags fuel count) w i hist).2.1.lookup q m = some fid) ∧
      (runPlan Plan.none (genname env md flags fuel count) w i hist).2.2.length ≤
        hist.length + Proofs.World.presentCount env flags w p count fuel + 1 :=
  Proofs.World.genname_fresh env md flags w d p es fuel count i hist hd hp hes hfuel hW hfit

/-- The safety half, for ALL fault plans, all maildirs, all fuel: whatever `maildir_genname`
returns and whatever fails, after every call and at the end every directory entry that was bound
is bound to the same file, and every file that existed has the same content (`O_EXCL` never
replaces, nothing is written). -/
theorem C09_fresh_name_never_replaces (env : PEnv) (md : Maildir) (flags : Option Bytes) (w : World) (plan : Plan)
    (fuel count i : Nat) (hist : List World) (w' : World)
    (hw' : w' = (runPlan plan (genname env md flags fuel count) w i hist).2.1 ∨
      w' ∈ (runPlan plan (genname env md flags fuel count) w i hist).2.2.drop hist.length)
    (q m : Bytes) (fid : Nat) (hb : w.lookup q m = some fid) :
    w'.lookup q m = some fid ∧ (fid < w.nextFid → w'.file fid = w.file fid) :=
  Proofs.World.genname_never_replaces env md flags w plan fuel count i hist w' hw' q m fid hb

open Proofs.World.C09Ex in
/-- Non-vacuity of `C09_fresh_name`: `b` holds the first candidate; two calls, the second name
(with 4096 attempts, and with 8 where the count of present candidates is cheap to evaluate). -/
example :
    dst.dirH = some 1 ∧ (world []).dirPath 1 = some [98] ∧ (world []).dir [98] = some [(cand1, 1)] ∧
    [(cand1, 1)].length + 1 ≤ 4096 ∧ [(cand1, 1)].length + 1 ≤ 8 ∧ [(cand1, 1)].length < gennameWrap ∧
    (∀ j, j ≤ 1 → (Proofs.World.cand env (some [58, 50, 44]) (0 + 1 + j)).length < NAME_MAX1) ∧
    Proofs.World.cand env (some [58, 50, 44]) 1 = cand1 ∧
    (gen 4096 Plan.none).1 = some (2, cand2) ∧ (gen 4096 Plan.none).2.1.lookup [98] cand2 = some 2 ∧
    (gen 4096 Plan.none).2.1.lookup [98] cand1 = some 1 ∧ (gen 4096 Plan.none).2.2.length = 2 ∧
    (gen 8 Plan.none).1 = some (2, cand2) ∧ (gen 8 Plan.none).2.2.length = 2 ∧
    Proofs.World.presentCount env (some [58, 50, 44]) (world []) [98] 0 8 = 1 := by
  decide +kernel

/-! ## `maildir_genname` with the real constants (`gennameStart`)

The C function (maildir.c): `count = arc4random() % 128; for (;;) { count++; snprintf(.. "%lld.%d_%u.%s%s" ..);
if too long: ENAMETOOLONG, return -1; fd = openat(.., O_WRONLY|O_CREAT|O_EXCL|O_CLOEXEC); if (fd == -1) { if (errno ==
EEXIST) continue; return -1; } return fd; }`.  `Gen.gennameModulus = 128`, `Gen.gennameCountBits = 32` (`unsigned int
count`) and `Gen.gennameLoopBound = none` (`for (;;)`: there is NO retry bound) are regenerated from the source on every
run.  `Proofs.World.gennameCount0 env = env.random % 128`; `cand env flags c` is the name for counter value
`c % 2 ^ 32` (what `%u` prints); `gennameAnswer .. j` is what the `j`-th `openat` returns under the plan in the world
at the start (a failed `openat` changes nothing).  The model makes `gennameAttempts = 2 ^ 32` attempts (one full cycle of
the counter) and then returns nothing; the C loop would try the same names again. -/

/-- The constants are the real ones. -/
theorem C09_genname_constants :
    Gen.gennameModulus = 128 ∧ Gen.gennameCountBits = 32 ∧ Gen.gennameLoopBound = none ∧ gennameAttempts = 2 ^ 32 ∧
    Gen.flagsMax = 64 := by decide

/-- **If `maildir_genname` returns a name** - for every world, every fault plan, every starting value of the random
counter, destination open on an existing directory `p`: the name is the candidate after `k < 2 ^ 32` answers `EEXIST`
(`RetriedTo`), it fits `NAME_MAX`, it was NOT bound in `p` before the call; the descriptor is the new handle; the name
is now bound to the file `w.nextFid` (ids are handed out from `nextFid`: a new file), which is empty and is what the
descriptor refers to (write-only, offset 0); every entry of every directory that was bound is bound to the same file
(nothing replaced); every other file has the same content; no directory appeared or vanished; no modification time
changed. -/
theorem C09_genname_real (env : PEnv) (md : Maildir) (flags : Option Bytes) (w : World) (plan : Plan) (i : Nat)
    (hist : List World) (d : Handle) (p : Bytes) (hd : md.dirH = some d) (hp : w.dirPath d = some p) (hdir : (w.dir p).isSome)
    (h : Handle) (name : Bytes) (hres : (runPlan plan (gennameStart env md flags) w i hist).1 = some (h, name)) :
    (∃ k, k < gennameAttempts ∧ Proofs.World.RetriedTo env flags d plan w i k ∧
      name = Proofs.World.cand env flags (Proofs.World.gennameCount0 env + 1 + k) ∧ name.length < NAME_MAX1) ∧
    w.lookup p name = none ∧ h = w.handles.length ∧
    (runPlan plan (gennameStart env md flags) w i hist).2.1.lookup p name = some w.nextFid ∧
    (runPlan plan (gennameStart env md flags) w i hist).2.1.file w.nextFid = some ⟨[], []⟩ ∧
    (runPlan plan (gennameStart env md flags) w i hist).2.1.obj h = .file w.nextFid 0 true ∧
    (∀ q m fid, w.lookup q m = some fid → (runPlan plan (gennameStart env md flags) w i hist).2.1.lookup q m = some fid) ∧
    (∀ g, g ≠ w.nextFid → (runPlan plan (gennameStart env md flags) w i hist).2.1.file g = w.file g) ∧
    (∀ q, ((runPlan plan (gennameStart env md flags) w i hist).2.1.dir q).isSome = (w.dir q).isSome) ∧
    (runPlan plan (gennameStart env md flags) w i hist).2.1.mtimes = w.mtimes :=
  Proofs.World.genname_real_success env md flags w plan i hist d p hd hp hdir h name hres

/-- **Exactly when it gives up** (returns -1, which every caller treats as an error): for every world and plan,
`maildir_genname` returns nothing IFF for some `k ≤ 2 ^ 32` the first `k` candidates fit and were answered `EEXIST`, and
then (`GivesUpAt`) either `k = 2 ^ 32` - every name the counter can produce has been tried (only here the model parts
from the code, which has no bound and goes round again) -, or the next candidate does not fit `NAME_MAX`
(ENAMETOOLONG), or the next `openat` fails with an error other than `EEXIST`. -/
theorem C09_genname_gives_up_iff (env : PEnv) (md : Maildir) (flags : Option Bytes) (w : World) (plan : Plan) (i : Nat)
    (hist : List World) (d : Handle) (p : Bytes) (hd : md.dirH = some d) (hp : w.dirPath d = some p) :
    (runPlan plan (gennameStart env md flags) w i hist).1 = none ↔
      ∃ k, k ≤ gennameAttempts ∧ Proofs.World.RetriedTo env flags d plan w i k ∧ Proofs.World.GivesUpAt env flags d plan w i k :=
  Proofs.World.genname_real_gives_up_iff env md flags w plan i hist d p hd hp

/-- Where the plan injects nothing, an answer is `EEXIST` iff the candidate name is bound in the directory, and
success otherwise: so without faults "gives up" reads "the first `k` candidates are all taken, and `k = 2 ^ 32` or
the next one does not fit". -/
theorem C09_genname_answer_nofault (env : PEnv) (flags : Option Bytes) (d : Handle) (p : Bytes) (w : World)
    (hp : w.dirPath d = some p) (plan : Plan) (i c0 j : Nat) (hpl : plan (i + j) = none) :
    Proofs.World.gennameAnswer env flags d plan w i c0 j =
      if (w.lookup p (Proofs.World.cand env flags (c0 + 1 + j))).isSome then .err "EEXIST" else .ok w.handles.length :=
  Proofs.World.gennameAnswer_nofault env flags d p w hp plan i c0 j hpl

/-- **Termination with the real constants**: for every world and every plan the number `n` of calls - all of them
`openat(O_CREAT|O_EXCL)` in the destination (`C09_genname_only_creates`) - is at most `2 ^ 32`, and at most
`|es| + (faults the plan injects among these calls) + 1`, `es` the entries of the destination: every retry is a
name that is really taken or an injected `EEXIST`.  In particular at most `|es| + 1` calls without faults. -/
theorem C09_genname_terminates_real (env : PEnv) (md : Maildir) (flags : Option Bytes) (w : World) (plan : Plan) (i : Nat)
    (hist : List World) (d : Handle) (p : Bytes) (es : List (Bytes × Nat)) (hd : md.dirH = some d)
    (hp : w.dirPath d = some p) (hes : w.dir p = some es) :
    let n := (runPlan plan (gennameStart env md flags) w i hist).2.2.length - hist.length
    n ≤ gennameAttempts ∧ n ≤ es.length + Proofs.World.faultsIn plan i n + 1 :=
  Proofs.World.genname_real_calls env md flags w plan i hist d p es hd hp hes

/-- Every call of `maildir_genname` is an exclusive create in its directory. -/
theorem C09_genname_only_creates (env : PEnv) (md : Maildir) (flags : Option Bytes) (w : World) (plan : Plan) (d : Handle)
    (hd : md.dirH = some d) :
    ∀ c ∈ Proofs.World.callsOf' plan (gennameStart env md flags) w, ∃ n, c = .openExcl d n := by
  obtain ⟨L, hL, hQ⟩ := (Proofs.World.calls_genname env md flags gennameAttempts (env.random % Gen.gennameModulus)).trace plan w 0
  unfold Proofs.World.callsOf' gennameStart
  simp only [Proofs.World.runPlan_eq, hL, List.drop_left]
  intro c hc
  obtain ⟨x, hx, rfl⟩ := List.mem_map.1 hc
  obtain ⟨d', n, hd', hx'⟩ := hQ x hx
  cases hd.symm.trans hd'
  exact ⟨_, hx'⟩

/-- The liveness half with the real constants: no fault, fewer than `2 ^ 32` entries, the first `|es| + 1`
candidates fit: a name is returned after at most `|es| + 1` calls (instance of `C09_fresh_name`). -/
theorem C09_fresh_name_real (env : PEnv) (md : Maildir) (flags : Option Bytes) (w : World) (d : Handle) (p : Bytes)
    (es : List (Bytes × Nat)) (i : Nat) (hist : List World)
    (hd : md.dirH = some d) (hp : w.dirPath d = some p) (hes : w.dir p = some es) (hW : es.length < 2 ^ 32)
    (hfit : ∀ j, j ≤ es.length → (Proofs.World.cand env flags (Proofs.World.gennameCount0 env + 1 + j)).length < NAME_MAX1) :
    ∃ h name, (runPlan Plan.none (gennameStart env md flags) w i hist).1 = some (h, name) ∧
      w.lookup p name = none ∧
      (runPlan Plan.none (gennameStart env md flags) w i hist).2.2.length ≤ hist.length + es.length + 1 := by
  have hA : gennameAttempts = 2 ^ 32 := by decide
  have hWr : gennameWrap = 2 ^ 32 := by decide
  obtain ⟨h, name, h1, h2, -, -, -, -, -⟩ := Proofs.World.genname_fresh env md flags w d p es gennameAttempts
    (env.random % Gen.gennameModulus) i hist hd hp hes (by omega) (by omega) hfit
  have h3 := (C09_genname_terminates_real env md flags w Plan.none i hist d p es hd hp hes).2
  rw [Proofs.World.faultsIn_none] at h3
  have hlen : hist.length ≤ (runPlan Plan.none (gennameStart env md flags) w i hist).2.2.length := by
    rw [Proofs.World.runPlan_eq]; simp
  exact ⟨h, name, h1, h2, by omega⟩

open Proofs.World.C09Ex in
/-- Non-vacuity, evaluated with the real constants (`2 ^ 32` attempts, start `0 % 128`) in the world where `b` holds the
first candidate: (1) no fault: two calls, `1.2_2.h:2,` created as file 2; (2) the plan answers the second `openat` with
an injected `EEXIST`: three calls, `1.2_3.h:2,` created, nothing replaced; (3) the plan answers it with `EIO`: gives up
after two calls, the directory is unchanged; (4) a host name of 250 bytes: gives up without a call (ENAMETOOLONG). -/
example :
    dst.dirH = some 1 ∧ (world []).dirPath 1 = some [98] ∧ (world []).dir [98] = some [(cand1, 1)] ∧
    (genReal env Plan.none).1 = some (2, cand2) ∧ (genReal env Plan.none).2.2.length = 2 ∧
    (genReal env (secondFails "EEXIST")).1 = some (2, cand3) ∧ (genReal env (secondFails "EEXIST")).2.2.length = 3 ∧
    (genReal env (secondFails "EEXIST")).2.1.lookup [98] cand3 = some 2 ∧
    (genReal env (secondFails "EEXIST")).2.1.lookup [98] cand2 = none ∧
    (genReal env (secondFails "EEXIST")).2.1.lookup [98] cand1 = some 1 ∧
    (genReal env (secondFails "EIO")).1 = none ∧ (genReal env (secondFails "EIO")).2.2.length = 2 ∧
    (genReal env (secondFails "EIO")).2.1.dir [98] = some [(cand1, 1)] ∧
    (genReal longHost Plan.none).1 = none ∧ (genReal longHost Plan.none).2.2.length = 0 := by
  decide +kernel

open Proofs.World.C09Ex in
/-- Non-vacuity of `C09_fresh_name_real` in the same world: one entry, and the first two candidates fit. -/
example : dst.dirH = some 1 ∧ (world []).dirPath 1 = some [98] ∧ (world []).dir [98] = some [(cand1, 1)] ∧
    [(cand1, 1)].length < 2 ^ 32 ∧
    (∀ j, j ≤ [(cand1, 1)].length →
      (Proofs.World.cand env (some [58, 50, 44]) (Proofs.World.gennameCount0 env + 1 + j)).length < NAME_MAX1) := by
  refine ⟨rfl, by decide, by decide, by decide, ?_⟩
  intro j hj
  have : j = 0 ∨ j = 1 := by simp at hj; omega
  rcases this with rfl | rfl <;> decide +kernel

open Proofs.World.C09Ex in
/-- The right-hand side of `C09_genname_gives_up_iff` on (3): one retry, then `EIO`. -/
example : Proofs.World.RetriedTo env (some [58, 50, 44]) 1 (secondFails "EIO") (world []) 0 1 ∧
    Proofs.World.GivesUpAt env (some [58, 50, 44]) 1 (secondFails "EIO") (world []) 0 1 := by
  refine ⟨fun j hj => ?_, .inr (.inr ⟨by decide, by decide +kernel, "EIO", by decide, by decide +kernel⟩)⟩
  have : j = 0 := by omega
  subst this
  exact ⟨by decide +kernel, by decide +kernel⟩

/-- `maildir_move` never replaces anything.  For ALL fault plans: after every call of
`maildir_move` and at its end, every directory entry `(q, m)` (of the destination or of any other
directory) that existed before and is not the message's own source entry is still bound to the
same file, and that file has the same content, visible and durable. -/
theorem C09_move_never_replaces (env : PEnv) (src dst : Maildir) (ms : MsgSt) (ps : Bytes) (w : World) (plan : Plan)
    (i : Nat) (hist : List World)
    (hsrc : ∀ sh, src.dirH = some sh → w.dirPath sh = some ps)
    (hdst : ∀ dh, dst.dirH = some dh → ∃ pd, w.dirPath dh = some pd ∧ (w.dir pd).isSome)
    (w' : World)
    (hw' : w' = (runPlan plan (maildirMove env src dst ms) w i hist).2.1 ∨
      w' ∈ (runPlan plan (maildirMove env src dst ms) w i hist).2.2.drop hist.length)
    (q m : Bytes) (fid : Nat) (hne : ¬(q = ps ∧ m = ms.name)) (hb : w.lookup q m = some fid) :
    w'.lookup q m = some fid ∧ (fid < w.nextFid → w'.file fid = w.file fid) :=
  Proofs.World.move_never_replaces env src dst ms ps w plan i hist hsrc hdst w' hw' q m fid hne hb

open Proofs.World.C09Ex in
/-- Non-vacuity of `C09_move_never_replaces`: the pre-populated entry `b/1.2_1.h:2,` under a
faulty plan, across devices. -/
example :
    src.dirH = some 0 ∧ (world otherDev).dirPath 0 = some [97] ∧
    dst.dirH = some 1 ∧ (world otherDev).dirPath 1 = some [98] ∧ ((world otherDev).dir [98]).isSome ∧
    ¬(([98] : Bytes) = [97] ∧ cand1 = ms.name) ∧ (world otherDev).lookup [98] cand1 = some 1 ∧
    1 < (world otherDev).nextFid ∧
    (move otherDev statFails).2.1.lookup [98] cand1 = some 1 ∧
    ((move otherDev statFails).2.1.file 1).map (·.data) = some [121] ∧
    (move otherDev statFails).2.2.length = 13 := by
  decide +kernel

/-! ## Destination of a sequence of move / flag / flags actions

`Spec.dest`: (maildir of the last `move`, else the message's) / (subdirectory of the last `flag`, else
the message's).  `Model.finalPlace env ml0 actions`: `matches_append` of the actions' entries after the
match list `ml0`, then the `mh_path` of the last move/flag/flags entry (where `matches_exec` leaves the
message).  The pinned code agrees with the documentation exactly on `Spec.destOK` (finding F12). -/

/-- For every message `root/sub/name` (`root` not empty, absolute or relative; no `/` in `sub` and `name`,
`sub` shorter than `NAME_MAX + 1`), every sequence of move/flag/flags actions with non-empty names whose
joined paths fit `PATH_MAX`, evaluated after any match list without move/flag/flags entries: if the
sequence is in `Spec.destOK`, the message ends in the documented place. -/
theorem C09_destination_partial (env : Env) (root sub name : Bytes) (ml0 : MatchList) (actions : List Spec.PathAction)
    (hpath : env.path = root ++ [47] ++ sub ++ [47] ++ name)
    (hroot : root ≠ []) (hsub : (47 : UInt8) ∉ sub) (hname : (47 : UInt8) ∉ name)
    (hsubl : sub.length < NAME_MAX1)
    (hwf : Spec.actionsWF actions = true) (hfit : Spec.destFits PATH_MAX (root, sub) actions = true)
    (hml0 : ∀ e ∈ ml0, e.moves = false) (hok : Spec.destOK actions = true) :
    finalPlace env ml0 actions = if actions.isEmpty then none else some (Spec.destPath (root, sub) actions) :=
  Proofs.Dest.finalPlace_eq_dest env root sub name ml0 actions hpath hroot hsub hname hsubl hwf hfit hml0 hok

/-- The same for `Model.eval` itself: `c` is the expression the grammar builds from the action list of a
rule (move / flag / flags nodes joined by `and`; `Proofs.Dest.ActionChain` relates it to the actions with
their line numbers and asks that each node passes its own length / letter check).  Evaluated in any state
whose match list has no move/flag/flags entry it matches, and the last move/flag/flags entry of the
resulting match list - the one whose `mh_path` the message is finally moved to - has the documented path. -/
theorem C09_destination_eval (env : Env) (rootMsg m : Msg) (st : St) (part : Nat) (c : Expr)
    (ls : List (Nat × Spec.PathAction)) (hc : Proofs.Dest.ActionChain c ls) (root sub name : Bytes)
    (hpath : env.path = root ++ [47] ++ sub ++ [47] ++ name)
    (hroot : root ≠ []) (hsub : (47 : UInt8) ∉ sub) (hname : (47 : UInt8) ∉ name)
    (hsubl : sub.length < NAME_MAX1)
    (hwf : Spec.actionsWF (ls.map (·.2)) = true) (hfit : Spec.destFits PATH_MAX (root, sub) (ls.map (·.2)) = true)
    (hst : ∀ e ∈ st.ml, e.moves = false) (hok : Spec.destOK (ls.map (·.2)) = true) :
    ∃ st', eval env rootMsg c part m st = (.match, st') ∧
      lastPath st'.ml = some (Spec.destPath (root, sub) (ls.map (·.2))) :=
  Proofs.Dest.eval_chain_dest env rootMsg m st part c ls hc root sub name hpath hroot hsub hname hsubl hwf hfit hst hok

/-- `Spec.destOK` is exact: for all 1093 sequences of at most 6 actions whose names are pairwise distinct (and
distinct from the message's maildir `/S` and subdirectory `old`), the model ends in the documented place
if and only if `destOK` holds. -/
theorem C09_destOK_exact_upto_6 :
    ∀ n ∈ List.range 7, ∀ ks ∈ Proofs.Dest.kindSeqs n,
      Proofs.Dest.agrees ks = Spec.destOK (Proofs.Dest.genActions ks) :=
  Proofs.Dest.destOK_exact_upto_6

/-- The same statement without `Spec.destOK`: what the documentation promises.  It is false. -/
def C09_destination : Prop :=
  ∀ (env : Env) (root sub name : Bytes) (ml0 : MatchList) (actions : List Spec.PathAction),
    env.path = root ++ [47] ++ sub ++ [47] ++ name →
    root ≠ [] → (47 : UInt8) ∉ sub → (47 : UInt8) ∉ name → sub.length < NAME_MAX1 →
    Spec.actionsWF actions = true → Spec.destFits PATH_MAX (root, sub) actions = true →
    (∀ e ∈ ml0, e.moves = false) →
    finalPlace env ml0 actions = if actions.isEmpty then none else some (Spec.destPath (root, sub) actions)

/-- Environment of the witnesses: the message `/S/new/1`. -/
def destWitnessEnv : Env where
  rx := fun _ _ => .nomatch
  command := fun _ => 0
  isDir := fun _ => false
  now := 0
  strptime := fun _ => none
  zoneName := fun _ => none
  fileTime := fun _ => none
  dryrun := false
  path := [47, 83, 47, 110, 101, 119, 47, 49]

/-- F12, first class: `move "/D" flags "F"` on `/S/new/1` moves the message to `/D/new` and then back to
`/S/new` (the `flags` entry takes its destination from the original path). -/
theorem C09_destination_witness_flags_after_move :
    Spec.destOK [.move [47, 68], .flags [70]] = false ∧
    finalPlace destWitnessEnv [] [.move [47, 68], .flags [70]] = some [47, 83, 47, 110, 101, 119] ∧
    Spec.destPath ([47, 83], [110, 101, 119]) [.move [47, 68], .flags [70]] = [47, 68, 47, 110, 101, 119] := by
  decide

/-- F12, second class: `move "/B" flag new flag !new` on `/S/new/1` ends in `/S/cur`, not `/B/cur` (the
"consecutive duplicates" branch of `matches_merge` frees the entry that had inherited `/B`). -/
theorem C09_destination_witness_duplicate_merge :
    Spec.destOK [.move [47, 66], .flag [110, 101, 119], .flag [99, 117, 114]] = false ∧
    finalPlace destWitnessEnv [] [.move [47, 66], .flag [110, 101, 119], .flag [99, 117, 114]]
      = some [47, 83, 47, 99, 117, 114] ∧
    Spec.destPath ([47, 83], [110, 101, 119]) [.move [47, 66], .flag [110, 101, 119], .flag [99, 117, 114]]
      = [47, 66, 47, 99, 117, 114] := by
  decide

theorem C09_destination_false : ¬ C09_destination := by
  intro h
  have h1 := h destWitnessEnv [47, 83] [110, 101, 119] [49] [] [.move [47, 68], .flags [70]] rfl (by decide) (by decide) (by decide)
    (by decide) (by decide) (by decide) (by intro e he; cases he)
  rw [C09_destination_witness_flags_after_move.2.1] at h1
  revert h1
  decide

/-! Non-vacuity: `flags "F" move "/A" flag !new move "/B" flag new` on `/S/new/1` (both kinds occur twice,
the last two differ) satisfies every hypothesis, and ends in `/B/new`. -/
example : Spec.destOK [.flags [70], .move [47, 65], .flag [99, 117, 114], .move [47, 66], .flag [110, 101, 119]] = true ∧
    Spec.actionsWF [.flags [70], .move [47, 65], .flag [99, 117, 114], .move [47, 66], .flag [110, 101, 119]] = true ∧
    Spec.destFits PATH_MAX ([47, 83], [110, 101, 119])
      [.flags [70], .move [47, 65], .flag [99, 117, 114], .move [47, 66], .flag [110, 101, 119]] = true ∧
    finalPlace destWitnessEnv [] [.flags [70], .move [47, 65], .flag [99, 117, 114], .move [47, 66], .flag [110, 101, 119]]
      = some [47, 66, 47, 110, 101, 119] := by
  decide

/-! Non-vacuity of `C09_destination_eval`: the expression of `flags "F" move "/A" flag !new` (lines 3, 4, 5),
`(flags and move) and flag` as parse.y nests it, is an action chain, and its actions are in `destOK`. -/
example : Proofs.Dest.ActionChain
    (.and 5 (.and 4 (.flags 3 [70]) (.move 4 [47, 65])) (.flag 5 [99, 117, 114]))
    ([(3, .flags [70])] ++ [(4, .move [47, 65])] ++ [(5, .flag [99, 117, 114])]) :=
  .and _ _ _ _ _ (.and _ _ _ _ _ (.flags _ _ (by decide)) (.move _ _ (by decide))) (.flag _ _ (by decide))

example : Spec.destOK [.flags [70], .move [47, 65], .flag [99, 117, 114]] = true := by decide


/-! ## The seen flag after a whole action list

`C09_S_adjust` is about ONE `maildir_move`.  A rule may move the message several times and name the file again
afterwards (`flag new label "x"`): every `maildir_move` adjusts the flag set the message carries in memory
(`Model.adjustSeen`; /repo 7589fcb), and every later `maildir_move` / `maildir_write` writes the name from that set.
`Proofs.FlagsSeq.visited ml` are the subdirectories of the destinations of the move / flag / flags entries of the match
list, in order; `flagsThrough s0 mf subs` is `adjustSeen` folded along them. -/

open Proofs.FlagsSeq in
/-- The flag set after the message was taken from `s0` through the subdirectories `subs`: `S` is untouched when the
message never changed its subdirectory, otherwise it is set iff the message is in `cur` at the end (the last change was
into the subdirectory it is in); every other letter is as it was; the masks stay within the 26 letters. -/
theorem C09_S_through (s0 : Subdir) (mf : MFlags) (subs : List Subdir) (h : Proofs.MFlags.Valid mf) :
    (flagsIsSet (flagsThrough s0 mf subs) 83 =
      if subs.all (· == s0) then flagsIsSet mf 83 else (lastSub s0 subs == .cur)) ∧
    (∀ c, c ≠ 83 → flagsIsSet (flagsThrough s0 mf subs) c = flagsIsSet mf c) ∧
    Proofs.MFlags.Valid (flagsThrough s0 mf subs) :=
  ⟨flagsThrough_S subs s0 mf, fun c hc => flagsThrough_other c hc subs s0 mf, flagsThrough_valid subs s0 mf h⟩

/-! Non-vacuity: `6.host:2,RS` (R and S) taken cur -> new -> cur has R and S; taken cur -> new it has R only. -/
example : Proofs.FlagsSeq.flagsThrough .cur ⟨2 ^ 17 + 2 ^ 18, 0⟩ [.new, .cur] = ⟨2 ^ 17 + 2 ^ 18, 0⟩ ∧
    Proofs.FlagsSeq.flagsThrough .cur ⟨2 ^ 17 + 2 ^ 18, 0⟩ [.new] = ⟨2 ^ 17, 0⟩ := by decide

open Proofs.FlagsSeq in
/-- The whole action list, for EVERY match list (any entries, any order, any number), every state `matches_exec`
starts in, every world and EVERY fault plan: if `matches_exec` reports no error, then
* the message is in the subdirectory of the last move / flag / flags entry (its own if there is none),
* `S` of the flag set it carries is untouched if no entry took it to another subdirectory, and otherwise is set iff that
  final subdirectory is `cur`,
* every other flag is as it was when `matches_exec` started (`flags` letters are set before, at evaluation),
* and if some entry named the file (move, flag, flags, label, add-header), the name it has now is a generated name
  whose flag part is `message_flags_str` of exactly that set. -/
theorem C09_S_after_sequence (env : PEnv) (ml : MatchList) (st : ExecSt) (w : World) (plan : Plan) (i : Nat) (hist : List World)
    (hok : (runPlan plan (matchesExec env ml st) w i hist).1.2 = false) :
    (runPlan plan (matchesExec env ml st) w i hist).1.1.src.subdir = lastSub st.src.subdir (visited ml) ∧
    (flagsIsSet (runPlan plan (matchesExec env ml st) w i hist).1.1.ms.flags 83 =
      if (visited ml).all (· == st.src.subdir) then flagsIsSet st.ms.flags 83
      else ((runPlan plan (matchesExec env ml st) w i hist).1.1.src.subdir == .cur)) ∧
    (∀ c, c ≠ 83 → flagsIsSet (runPlan plan (matchesExec env ml st) w i hist).1.1.ms.flags c = flagsIsSet st.ms.flags c) ∧
    ((∃ mh ∈ ml, renames mh = true) → ∃ fl c,
      flagsStr (runPlan plan (matchesExec env ml st) w i hist).1.1.ms.flags Gen.flagsMax = some fl ∧
      (runPlan plan (matchesExec env ml st) w i hist).1.1.ms.name = Proofs.World.cand env (some fl) c) := by
  have h1 := all_runPlan plan (matchesExec_flags env ml st) w i hist hok
  have h2 := all_runPlan plan (matchesExec_named env ml st) w i hist hok
  refine ⟨h1.1, ?_, ?_, fun hex => h2 (.inl hex)⟩
  · rw [h1.2, h1.1]; exact flagsThrough_S _ _ _
  · intro c hc; rw [h1.2]; exact flagsThrough_other c hc _ _ _

/-! Non-vacuity of `C09_S_after_sequence` (and the shape of seeded change C09-s8): the message `/a/cur/m:2,S` under the
match list of `flag new label "x"` - a `flag` entry with destination `/a/new`, then a `label` entry - in a world with the
two directories, without faults.  `matches_exec` reports no error; the message is in `new`, its flag set is empty, and the
name the `label` rewrite gave it is `1.2_2.h:2,` (no `S`): the first name `1.2_1.h:2,` is the one `flag new` gave it. -/
namespace C09SeqEx

def env : PEnv :=
  { now := 1, pid := 2, host := [104], random := 0, tmpdir := [116], home := [104], confpath := [99],
    dryrun := false, syntaxOnly := false, stdinMode := false }
def cur : Bytes := [47, 97, 47, 99, 117, 114]
def new : Bytes := [47, 97, 47, 110, 101, 119]
def nameS : Bytes := [109, 58, 50, 44, 83]
def content : Bytes := [65, 58, 32, 49, 10, 10, 120, 10]
def world : World :=
  { dirs := [(cur, [(nameS, 0)]), (new, [])], files := [(0, ⟨content, content⟩)], nextFid := 1,
    handles := [.dir cur none 0], devs := [], mtimes := [(0, 1000)], trace := [] }
def src : Maildir := { root := [47, 97], path := cur, dirH := some 0, subdir := .cur, walk := true, stdin := false }
def ms : MsgSt :=
  { name := nameS, path := cur ++ [47] ++ nameS, fd := none, msg := { headers := [⟨0, [65], [49]⟩], body := [120, 10] },
    parts := [], flags := ⟨2 ^ 18, 0⟩, loc := some (cur, nameS), content := content }
def ml : MatchList := [{ ty := .flag, lno := 1, part := 0, path := new }, { ty := .label, lno := 1, part := 0 }]
def st : ExecSt := { src := src, chsrc := false, ms := ms, reject := false }
def result : ExecSt × Bool := (runPlan Plan.none (matchesExec env ml st) world 0 []).1

end C09SeqEx

open C09SeqEx in
example : result.2 = false ∧ result.1.src.subdir = .new ∧ result.1.ms.flags = ⟨0, 0⟩ ∧
    result.1.ms.name = [49, 46, 50, 95, 50, 46, 104, 58, 50, 44] ∧
    Proofs.FlagsSeq.visited ml = [.new] ∧ (∃ mh ∈ ml, Proofs.FlagsSeq.renames mh = true) := by
  decide +kernel

open Proofs.FlagsSeq in
/-- The same against ARBITRARY call results (any file system, any interleaving with other parties). -/
theorem C09_S_after_sequence_any_results (env : PEnv) (ml : MatchList) (st : ExecSt) (orc : Nat → Call → Res) (i : Nat)
    (tr : List (Call × Res)) (hok : (runOracle orc (matchesExec env ml st) i tr).1.2 = false) :
    (runOracle orc (matchesExec env ml st) i tr).1.1.src.subdir = lastSub st.src.subdir (visited ml) ∧
    (runOracle orc (matchesExec env ml st) i tr).1.1.ms.flags = flagsThrough st.src.subdir st.ms.flags (visited ml) :=
  (matchesExec_flags env ml st).runOracle orc i tr hok

open Proofs.FlagsSeq in
/-- Corollary in the words of the property: when the message ends in ANOTHER subdirectory than it started in, it has
`S` iff it is in `cur` now ("taken from new to cur gains the S flag, taken from cur to new loses it"), whatever it was
taken through in between. -/
theorem C09_S_after_subdir_change (env : PEnv) (ml : MatchList) (st : ExecSt) (w : World) (plan : Plan) (i : Nat) (hist : List World)
    (hok : (runPlan plan (matchesExec env ml st) w i hist).1.2 = false)
    (hne : (runPlan plan (matchesExec env ml st) w i hist).1.1.src.subdir ≠ st.src.subdir) :
    flagsIsSet (runPlan plan (matchesExec env ml st) w i hist).1.1.ms.flags 83 =
      ((runPlan plan (matchesExec env ml st) w i hist).1.1.src.subdir == .cur) := by
  have h := C09_S_after_sequence env ml st w plan i hist hok
  rw [h.2.1]
  split
  · rename_i hall
    exact absurd (h.1.trans (lastSub_of_all _ _ hall)) hne
  · rfl

open Proofs.FlagsSeq in
/-- `C09_S_after_sequence` for the action lists of the documentation: for every action list inside `Spec.destOK` (hypotheses of
`C09_destination_partial`), `ml` the match list `matches_append` builds from it after any list `ml0` without
move/flag/flags entries, and the documented destination naming the subdirectory `sd`: a run of `matches_exec` over `ml`
that reports no error leaves the message in `sd` - the subdirectory of the last `flag`, else its own - and with `S` iff
`sd` is `cur` whenever an entry took it to another subdirectory on the way; every other flag preserved. -/
theorem C09_S_after_sequence_destOK (eenv : Env) (env : PEnv) (root sub name : Bytes) (ml0 ml : MatchList)
    (actions : List Spec.PathAction) (sd : Subdir)
    (hpath : eenv.path = root ++ [47] ++ sub ++ [47] ++ name)
    (hroot : root ≠ []) (hsub : (47 : UInt8) ∉ sub) (hname : (47 : UInt8) ∉ name) (hsubl : sub.length < NAME_MAX1)
    (hwf : Spec.actionsWF actions = true) (hfit : Spec.destFits PATH_MAX (root, sub) actions = true)
    (hml0 : ∀ e ∈ ml0, e.moves = false) (hdok : Spec.destOK actions = true) (hne : actions ≠ [])
    (happ : appendAll eenv ml0 (actions.map (pathEntry 0 0)) = some ml)
    (hsd : parseSubdir (Spec.destPath (root, sub) actions) = some sd)
    (st : ExecSt) (w : World) (plan : Plan) (i : Nat) (hist : List World)
    (hok : (runPlan plan (matchesExec env ml st) w i hist).1.2 = false) :
    (runPlan plan (matchesExec env ml st) w i hist).1.1.src.subdir = sd ∧
    (flagsIsSet (runPlan plan (matchesExec env ml st) w i hist).1.1.ms.flags 83 =
      if (visited ml).all (· == st.src.subdir) then flagsIsSet st.ms.flags 83 else (sd == .cur)) ∧
    (∀ c, c ≠ 83 → flagsIsSet (runPlan plan (matchesExec env ml st) w i hist).1.1.ms.flags c = flagsIsSet st.ms.flags c) := by
  have hfp := Proofs.Dest.finalPlace_eq_dest eenv root sub name ml0 actions hpath hroot hsub hname hsubl hwf hfit hml0 hdok
  have hemp : actions.isEmpty = false := by cases actions with | nil => exact absurd rfl hne | cons _ _ => rfl
  unfold finalPlace at hfp
  rw [happ, hemp] at hfp
  have hlast : lastPath ml = some (Spec.destPath (root, sub) actions) := by simpa using hfp
  have h := C09_S_after_sequence env ml st w plan i hist hok
  have hs : (runPlan plan (matchesExec env ml st) w i hist).1.1.src.subdir = sd :=
    h.1.trans (lastSub_visited _ sd hsd ml st.src.subdir hlast)
  refine ⟨hs, ?_, h.2.2.1⟩
  rw [h.2.1, hs]

/-! Non-vacuity of `C09_S_after_sequence_destOK`: `move "/B" flag !new` on `/S/new/1` (witness environment above)
satisfies the hypotheses on the action list: it is in `destOK`, `matches_append` builds a match list, and the documented
destination `/B/cur` names the subdirectory `cur`. -/
example : Spec.destOK [.move [47, 66], .flag [99, 117, 114]] = true ∧
    Spec.actionsWF [.move [47, 66], .flag [99, 117, 114]] = true ∧
    Spec.destFits PATH_MAX ([47, 83], [110, 101, 119]) [.move [47, 66], .flag [99, 117, 114]] = true ∧
    (appendAll destWitnessEnv [] ([Spec.PathAction.move [47, 66], .flag [99, 117, 114]].map (pathEntry 0 0))).isSome = true ∧
    parseSubdir (Spec.destPath ([47, 83], [110, 101, 119]) [.move [47, 66], .flag [99, 117, 114]]) = some .cur := by
  decide

end Mdsort.Props
