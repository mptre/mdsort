import Mdsort.Proofs.WorldOwn
import Mdsort.Proofs.Captures
import Mdsort.Proofs.WorldFds
import Mdsort.Proofs.ExecStdin
import Mdsort.Proofs.WorldFdsEx
import Mdsort.Proofs.ExecStatus
import Mdsort.Proofs.ExecSeqEx
import Mdsort.Proofs.EvalPFail
import Mdsort.Proofs.ChildArgv
import Mdsort.Proofs.Interp

/-!
# C13 - commands get exactly the configured arguments and a clean process environment

`Model.execP argv fdin` transcribes `exec(argv, fdin)` (util.c): open /dev/null unless a descriptor is given, fork, waitpid.
`runOracle` lets every call return an ARBITRARY result.

The child.  The call alphabet's `Call.fork argv s` carries what the child does between `fork` and the program
it runs: `dup2(s, 0)` with the HANDLE `s`, then `execvp(argv[0], argv)` with the VECTOR `argv` - there is no other call
between the two in util.c, no shell, and `execP` issues the call with the vector it was handed and with the value of the
variable `fdin` at that point (`Model.childStdin`).  `Model.Call.same`, hence `Model.conform`, compares both, so every
process-level run that conforms a trace checks vector and descriptor of every child against this model (the shim records
what the child really hands to `execvp` and which descriptor it `dup2`s onto 0: `harness/shim/vshim.c`, `tools/world.py`).
So the first sentence of the property is a statement about the TRACE of `main`:

* `C13_child_argv`: every `fork` of a run of `main`, whatever the calls return, carries `strings.map (cstr ∘ interpolate)` of
  the configured strings of an `exec` action or `command` condition of the configuration - one argument per configured
  string, in order (`C13_child_argv_length_order`), byte for byte for strings without `\` / `$` / NUL
  (`C13_child_argv_no_splitting`: blanks, quotes, globs stay inside ONE argument; nothing is prepended, in particular no
  `sh -c`: `C13_no_shell`); in terms of the specification of C12: `C13_child_argv_spec`; exact forms with the capture context
  named: `C13_child_argv_list` (an action list), `C13_child_argv_command` (a condition);
* `C13_child_stdin`: the handle of every `fork` is the `/dev/null` opened by the call just before, or a descriptor obtained
  by `fcntl(F_DUPFD_CLOEXEC)` / `mkostemp(O_CLOEXEC)` and rewound by the successful `lseek(s, 0, SEEK_SET)` just before; what
  that descriptor's file holds is `C13_exec_stdin_sees_current` / `C11_exec_stdin_body_after_rewrite`
  (`C13_exec_stdin_fork_point`: the descriptor those theorems speak of IS the handle of the `fork` call);
* `C13_fd_hygiene` / `C13_fd_cloexec`: at that `fork` the descriptors the run created and has not released are the directory
  streams, the message and that handle, all born close-on-exec (descriptors 0, 1, 2 and anything else the process was
  started with are outside the table).

What stays outside: the model does not execute the child - that `dup2` and `execvp` do what POSIX says, and that nothing
else happens between `fork` and `execvp` in the child, is the transcription of util.c lines 108-114, tied to the code by
the conformance (the shim observes the child up to its `execvp`).
-/

namespace Mdsort.Props
open Mdsort Mdsort.Model

/-- One argument per configured string, in order, each the one-pass interpolation of that string
(C12): no word splitting, no joining. -/
theorem C13_argv (macros : Option (List (Bytes × Bytes))) (ml : MatchList) (i : Nat) (mh mh' : Match)
    (msgs : Nat → Msg) (upd : Option (Nat × Msg)) (hty : mh.ty = .exec ∨ mh.ty = .command)
    (h : matchInterpolate macros ml i mh msgs = some (mh', upd)) :
    mh'.argv.length = mh.strings.length ∧
    ∀ (k : Nat) (s : Bytes), mh.strings[k]? = some s → ∃ v, interpolate (ml.take i) macros s = some v ∧ mh'.argv[k]? = some (cstr v) :=
  Proofs.argv_one_per_string macros ml i mh mh' msgs upd hty h

/-- The value of `exec()` lies in the range of `Model.execValue`: 0 for a clean exit, the
exit code for 1..126 and 128.., -1 for 127, 128 + signal for a signalled child, -1 when /dev/null,
fork or waitpid fail.  (As stated the three witnesses are NOT tied to the results the oracle gave - the
statement only bounds the value; which results are consumed is `C13_status_exact` below.) -/
theorem C13_status (argv : List Bytes) (fdin : Option Handle) (orc : Nat → Call → Res) :
    ∃ devnullOk forkRes waitRes, (runOracle orc (execP argv fdin) 0 []).1 = Model.execValue devnullOk forkRes waitRes :=
  Proofs.execP_value argv fdin orc

/-- **The value of `exec()` IS `execValue` of the results of its own calls**, for arbitrary results: without a
descriptor (`fdin = -1`) of call 0 (`open("/dev/null")` succeeded or not), call 1 (`fork`) and call 2 (`waitpid`); with a
descriptor of call 0 (`fork`) and call 1 (`waitpid`).  Nothing else (no other call, no state) enters the value.  The `fork` is
asked with the vector `exec()` was handed and with the handle `open("/dev/null")` returned (`Proofs.Own.okHandle`) resp. the
descriptor handed in. -/
theorem C13_status_exact (argv : List Bytes) (orc : Nat → Call → Res) :
    (runOracle orc (execP argv none) 0 []).1 =
      Model.execValue (match orc 0 (.openPath (ofString "/dev/null")) with | .ok _ => true | _ => false)
        (orc 1 (.fork argv (Proofs.Own.okHandle (orc 0 (.openPath (ofString "/dev/null")))))) (orc 2 .waitpid) ∧
    ∀ fd, (runOracle orc (execP argv (some fd)) 0 []).1 = Model.execValue true (orc 0 (.fork argv fd)) (orc 1 .waitpid) := by
  refine ⟨Proofs.execP_none_value argv orc, fun fd => ?_⟩
  rw [Proofs.Own.runOracle_eq, Proofs.Own.execP_run]

/-- Non-vacuity of `C13_status_exact`: /dev/null opened, child 7 forked, wait status `3 * 256` (exit code 3) gives 3;
a failing `fork` gives -1; with a descriptor handed in, SIGKILL (wait status 9) gives 137. -/
example :
    (runOracle (fun i _ => [.ok 6, .ok 7, .ok (3 * 256)].getD i (.ok 0)) (execP [[120]] none) 0 []).1 = 3 ∧
    (runOracle (fun i _ => [.ok 6, .err "EAGAIN"].getD i (.ok 0)) (execP [[120]] none) 0 []).1 = -1 ∧
    (runOracle (fun i _ => [.ok 7, .ok 9].getD i (.ok 0)) (execP [[120]] (some 5)) 0 []).1 = 137 := by
  refine ⟨?_, ?_, ?_⟩ <;> decide +kernel

/-- A non-zero value of `exec()` is an error of the exec action (without `stdin`). -/
theorem C13_exec_failure_is_error (env : PEnv) (mh : Match) (st : ExecSt) (orc : Nat → Call → Res)
    (hty : mh.ty = .exec) (hs : mh.execStdin = false)
    (hnz : (runOracle orc (execP mh.argv none) 0 []).1 ≠ 0) :
    (runOracle orc (execOne env mh st) 0 []).1.2 = true :=
  Proofs.exec_nonzero_is_error env mh st orc hty hs hnz

/-- An error of one action stops the remaining actions of that message: the run is the same whatever
follows the failing entry. -/
theorem C13_error_stops_actions (env : PEnv) (mh : Match) (rest rest' : MatchList) (st : ExecSt) (orc : Nat → Call → Res)
    (he : (runOracle orc (execOne env mh st) 0 []).1.2 = true) :
    (runOracle orc (matchesExec env (mh :: rest) st) 0 []).1.2 = true ∧
    (runOracle orc (matchesExec env (mh :: rest) st) 0 []).2 = (runOracle orc (matchesExec env (mh :: rest') st) 0 []).2 :=
  Proofs.error_stops_list env mh rest rest' st orc he

/-- Non-vacuity of `C13_exec_failure_is_error` and `C13_error_stops_actions`: an `exec` entry without `stdin` whose
child exits with status 3 (calls answered: /dev/null = 6, pid 7, wait status `3 * 256`).  The hypotheses hold, so the
entry is an error, and the calls of the list are the same whether a `label` entry or nothing follows. -/
example :
    let orc : Nat → Call → Res := fun i _ => [.ok 6, .ok 7, .ok (3 * 256)].getD i (.ok 0)
    let mh : Match := { ty := .exec, lno := 1, part := 0, argv := [[120]] }
    mh.ty = .exec ∧ mh.execStdin = false ∧ (runOracle orc (execP mh.argv none) 0 []).1 ≠ 0 ∧
    (runOracle orc (execOne Proofs.ExecSeq.exEnv mh Proofs.ExecSeq.exSt) 0 []).1.2 = true ∧
    (runOracle orc (matchesExec Proofs.ExecSeq.exEnv [mh, Proofs.ExecSeq.exLabel] Proofs.ExecSeq.exSt) 0 []).2 =
      (runOracle orc (matchesExec Proofs.ExecSeq.exEnv [mh] Proofs.ExecSeq.exSt) 0 []).2 := by
  intro orc mh
  have hnz : (runOracle orc (execP mh.argv none) 0 []).1 ≠ 0 := by decide +kernel
  have he := C13_exec_failure_is_error Proofs.ExecSeq.exEnv mh Proofs.ExecSeq.exSt orc rfl rfl hnz
  exact ⟨rfl, rfl, hnz, he,
    (C13_error_stops_actions Proofs.ExecSeq.exEnv mh [Proofs.ExecSeq.exLabel] [] Proofs.ExecSeq.exSt orc he).2⟩

/-! ## The status mapping, for every wait status

`Model.execStatus` is the tail of `exec()` (util.c 121-128) on the raw wait status, `Model.wifexited` / `wexitstatus` /
`wifsignaled` / `wtermsig` the macros of `<sys/wait.h>`; `Proofs.waitKind` reads a status as `exited code`, `signaled sig`
or `stopped` (the last is never reported by `waitpid(pid, &status, 0)`).  `Proofs.childOutcome devnullOk forkRes waitRes`
is `cannotRun` when /dev/null cannot be opened, `fork` fails or `waitpid` fails, and `waited kind` otherwise. -/

/-- `exec()` on every wait status: 0 iff the child exited with 0; negative (fatal) iff it exited with 127; positive iff it
exited with 1..126 or 128..255, was killed by a signal (then the value is 128 + signal) or is reported as stopped; and the
value for an exit code other than 127 is that code. -/
theorem C13_exec_status_mapping (s : Nat) :
    (execStatus s = 0 ↔ Proofs.waitKind s = .exited 0) ∧
    (execStatus s < 0 ↔ Proofs.waitKind s = .exited 127) ∧
    (0 < execStatus s ↔ (∃ c, Proofs.waitKind s = .exited c ∧ c ≠ 0 ∧ c ≠ 127) ∨ (∃ g, Proofs.waitKind s = .signaled g) ∨
      Proofs.waitKind s = .stopped) ∧
    (∀ c, Proofs.waitKind s = .exited c → c < 256 ∧ (c ≠ 127 → execStatus s = (c : Int))) ∧
    (∀ g, Proofs.waitKind s = .signaled g → 1 ≤ g ∧ g ≤ 126 ∧ execStatus s = ((128 + g : Nat) : Int)) :=
  ⟨Proofs.execStatus_eq_zero_iff s, Proofs.execStatus_neg_iff s, Proofs.execStatus_pos_iff s,
   fun _ h => ⟨Proofs.waitKind_exited_lt h, Proofs.execStatus_exited h⟩,
   fun _ h => ⟨(Proofs.waitKind_signaled_range h).1, (Proofs.waitKind_signaled_range h).2, Proofs.execStatus_signaled h⟩⟩

/-- The statuses the checks exercise, as raw wait statuses (`code * 256`, `signal`, `signal + 128` with a core dump). -/
example :
    [0, 1, 2, 126, 127, 128, 129, 200, 255].map (fun c => execStatus (c * 256)) = [0, 1, 2, 126, -1, 128, 129, 200, 255] ∧
    [15, 9, 11, 11 + 128, 6 + 128].map execStatus = [143, 137, 139, 139, 134] := by decide

/-- A child whose `execvp` fails exits with `Gen.execChildExit` whatever the reason (ENOENT, EACCES, ...): for the parent
that is the status `Gen.execFatalExit` it turns into the fatal value `Gen.execFatalValue`, which is negative - never a
positive "ran and said no".  All three are regenerated from util.c `exec()` on every run (`tools/gen_tables.py`: the literal
of `_exit(N)` after `execvp`, of `if (error == N) error = V`); `Model.execStatus` and `Model.execvpFailedStatus` are defined
with them.  The statement is closed by evaluation of the generated table: changing the child's `_exit(127)` or the parent's
`error == 127` / `error = -1` in the source (one without the other) makes it false. -/
theorem C13_execvp_failure_is_fatal :
    execvpFailedStatus = Gen.execChildExit ∧ Gen.execChildExit = Gen.execFatalExit ∧ Gen.execChildExit < 256 ∧
    execStatus (Gen.execChildExit * 256) = Gen.execFatalValue ∧ Gen.execFatalValue < 0 ∧
    Proofs.waitKind (Gen.execChildExit * 256) = .exited Gen.execFatalExit := by
  decide

/-- The remaining literals of `exec()` as the source has them (`Gen.exec*`, regenerated): a child killed by signal `g`
gives `Gen.execSignalBase + g`, which is positive and above every exit code that can be mistaken for "exited 1..127";
the three failure paths (`open("/dev/null")`, `fork`, `waitpid`) give `Gen.execCannotRunValue`, which is negative and is
what the model's `execValue` returns there; a status that is neither "exited" nor "signalled" leaves the initial value
`Gen.execInitialValue`, which is positive. -/
theorem C13_exec_literals (f w : Res) :
    Gen.execSignalBase = 128 ∧ Gen.execCannotRunValue < 0 ∧ 0 < Gen.execInitialValue ∧
    Model.execValue false f w = Gen.execCannotRunValue ∧
    (∀ e, Model.execValue true (.err e) w = Gen.execCannotRunValue) ∧
    (∀ pid e, Model.execValue true (.ok pid) (.err e) = Gen.execCannotRunValue) ∧
    (∀ g, Proofs.waitKind g = .signaled g → execStatus g = ((Gen.execSignalBase + g : Nat) : Int)) ∧
    execStatus 127 = Gen.execInitialValue := by
  refine ⟨by decide, by decide, by decide, by simp [Model.execValue], fun e => by simp [Model.execValue],
    fun pid e => by simp [Model.execValue], fun g h => ?_, by decide⟩
  rw [Proofs.execStatus_signaled h, Gen_execSignalBase_eq]

/-- Reading the three results `exec()` consumes. -/
theorem C13_child_outcome (d : Bool) (f w : Res) :
    (∀ k, Proofs.childOutcome d f w = .waited k ↔ d = true ∧ ∃ pid s, f = .ok pid ∧ w = .ok s ∧ Proofs.waitKind s = k) ∧
    (Proofs.childOutcome d f w = .cannotRun ↔ d = false ∨ (∀ pid, f ≠ .ok pid) ∨ (∀ s, w ≠ .ok s)) ∧
    Model.execValue d f w = Proofs.outcomeValue (Proofs.childOutcome d f w) :=
  ⟨Proofs.childOutcome_waited_iff d f w, Proofs.childOutcome_cannotRun_iff d f w, Proofs.execValue_outcome d f w⟩

/-- **The `command` condition, for every wait status.**  `Model.eval` on a `command` node whose strings interpolate to
`av`, in an environment whose command oracle returns what `exec()` derives from the results `d` (/dev/null opened), `f`
(`fork`), `w` (`waitpid`) - by `C13_status` every value of `exec()` has this form:

* the condition MATCHES iff the child was waited for and exited with 0;
* it does NOT match iff the child was waited for and exited with a status in 1..126 or 128..255, or was killed by a
  signal (or is reported stopped);
* it is an ERROR iff /dev/null could not be opened, `fork` failed, `waitpid` failed, or the child exited with 127 (what
  the child does when `execvp` fails);

and in every case the match list is left as it was.
Assumed, as the hypothesis `hrc`: that the oracle `env.command` of the pure evaluator IS `exec()` on the interpolated
vector - no model runs `execP` from inside `eval`; the link to expr.c is the correspondence run only (for `evalP`, which
does run `execP`, see `C13_command_condition`).  A child killed by a signal is "no match": observation O27. -/
theorem C13_command_status (env : Env) (root : Msg) (lno : Nat) (argv av : List Bytes) (part : Nat) (m : Msg) (st : St)
    (hav : argv.mapM (interpolate st.ml none) = some av)
    (d : Bool) (f w : Res) (hrc : env.command av = Model.execValue d f w) :
    let o := Proofs.childOutcome d f w
    let r := eval env root (.command lno argv) part m st
    r.2 = st ∧
    (r.1 = .match ↔ o = .waited (.exited 0)) ∧
    (r.1 = .nomatch ↔ (∃ c, o = .waited (.exited c) ∧ c ≠ 0 ∧ c ≠ 127) ∨ (∃ g, o = .waited (.signaled g)) ∨ o = .waited .stopped) ∧
    (r.1 = .error ↔ o = .cannotRun ∨ o = .waited (.exited 127)) := by
  simp only [Proofs.eval_command_outcome env root lno argv av part m st hav d f w hrc]
  exact ⟨trivial, Proofs.outcomeTri_match_iff _, Proofs.outcomeTri_nomatch_iff _, Proofs.outcomeTri_error_iff _⟩

/-- The same with the command run by `Model.execP` against ARBITRARY call results `orc` (call 0 opens /dev/null, call 1
is `fork` - of the C strings of the vector, with the handle call 0 returned as the child's standard input -, call 2 `waitpid`). -/
theorem C13_command_status_run (env : Env) (root : Msg) (lno : Nat) (argv av : List Bytes) (part : Nat) (m : Msg) (st : St)
    (hav : argv.mapM (interpolate st.ml none) = some av) (orc : Nat → Call → Res)
    (hrc : env.command av = (runOracle orc (execP (av.map cstr) none) 0 []).1) :
    let o := Proofs.childOutcome (match orc 0 (.openPath (ofString "/dev/null")) with | .ok _ => true | _ => false)
      (orc 1 (.fork (av.map cstr) (Proofs.Own.okHandle (orc 0 (.openPath (ofString "/dev/null")))))) (orc 2 .waitpid)
    let r := eval env root (.command lno argv) part m st
    r.2 = st ∧
    (r.1 = .match ↔ o = .waited (.exited 0)) ∧
    (r.1 = .nomatch ↔ (∃ c, o = .waited (.exited c) ∧ c ≠ 0 ∧ c ≠ 127) ∨ (∃ g, o = .waited (.signaled g)) ∨ o = .waited .stopped) ∧
    (r.1 = .error ↔ o = .cannotRun ∨ o = .waited (.exited 127)) :=
  C13_command_status env root lno argv av part m st hav _ _ _ (hrc.trans (Proofs.execP_none_value _ orc))

/-- A `command` condition whose strings do not interpolate (a back-reference to a group that does not exist) is an error
and runs nothing. -/
theorem C13_command_interpolation_error (env : Env) (root : Msg) (lno : Nat) (argv : List Bytes) (part : Nat) (m : Msg) (st : St)
    (hav : argv.mapM (interpolate st.ml none) = none) :
    eval env root (.command lno argv) part m st = (.error, st) := by
  rw [Proofs.eval_command, hav]

/-- An environment whose command oracle is `exec()` on the given `fork` / `waitpid` results. -/
def exampleCommandEnv (f w : Res) : Env where
  rx := fun _ _ => .nomatch
  command := fun _ => Model.execValue true f w
  isDir := fun _ => false
  now := 0
  strptime := fun _ => none
  zoneName := fun _ => none
  fileTime := fun _ => none
  dryrun := false
  path := []

def exampleCommandVerdict (f w : Res) : Tri :=
  (eval (exampleCommandEnv f w) (parseMessage []) (.command 1 [[120]]) 0 (parseMessage []) { ml := [], flags := ⟨0, 0⟩ }).1

/-- Non-vacuity of `C13_command_status` and the table of the statuses the checks exercise: `command "x"` with a child that
exits 0 / 1 / 126 / 127 / 128 / 129 / 200 / 255, dies of SIGTERM / SIGKILL / SIGSEGV (with core), cannot be forked,
cannot be waited for. -/
example :
    ([[120]].mapM (interpolate [] none) = some [[120]]) ∧
    [0, 1, 126, 127, 128, 129, 200, 255].map (fun c => exampleCommandVerdict (.ok 7) (.ok (c * 256))) =
      [.match, .nomatch, .nomatch, .error, .nomatch, .nomatch, .nomatch, .nomatch] ∧
    [15, 9, 11 + 128].map (fun s => exampleCommandVerdict (.ok 7) (.ok s)) = [.nomatch, .nomatch, .nomatch] ∧
    exampleCommandVerdict (.err "EAGAIN") (.ok 0) = .error ∧ exampleCommandVerdict (.ok 7) (.err "ECHILD") = .error := by
  simp only [exampleCommandVerdict, Proofs.eval_command]
  decide +kernel

/-- The hypotheses of `C13_command_status` / `_run` are satisfiable: a child killed by SIGKILL (wait status 9) is "no match". -/
example :
    (eval (exampleCommandEnv (.ok 7) (.ok 9)) (parseMessage []) (.command 1 [[120]]) 0 (parseMessage []) { ml := [], flags := ⟨0, 0⟩ }).1 = .nomatch :=
  (C13_command_status (exampleCommandEnv (.ok 7) (.ok 9)) (parseMessage []) 1 [[120]] [[120]] 0 (parseMessage []) { ml := [], flags := ⟨0, 0⟩ }
    (by decide +kernel) true (.ok 7) (.ok 9) rfl).2.2.1.2 (.inr (.inl ⟨9, by decide +kernel⟩))

/-! ## The argument vector is exactly what was configured -/

/-- `argv = strings.map (cstr ∘ interpolate)`: every configured string interpolates, the vector is
the list of results in the configured order, nothing else of the entry changes and the message is
not touched. -/
theorem C13_argv_exact (macros : Option (List (Bytes × Bytes))) (ml : MatchList) (i : Nat) (mh mh' : Match)
    (msgs : Nat → Msg) (upd : Option (Nat × Msg)) (hty : mh.ty = .exec ∨ mh.ty = .command)
    (h : matchInterpolate macros ml i mh msgs = some (mh', upd)) :
    mh'.argv = mh.strings.map (fun s => cstr ((interpolate (ml.take i) macros s).getD [])) ∧
    (∀ s ∈ mh.strings, (interpolate (ml.take i) macros s).isSome = true) ∧
    mh' = { mh with argv := mh'.argv } ∧ upd = none :=
  Proofs.argv_full macros ml i mh mh' msgs upd hty h

/-- Same length; the k-th argument comes from the k-th configured string. -/
theorem C13_argv_length_order (macros : Option (List (Bytes × Bytes))) (ml : MatchList) (i : Nat) (mh mh' : Match)
    (msgs : Nat → Msg) (upd : Option (Nat × Msg)) (hty : mh.ty = .exec ∨ mh.ty = .command)
    (h : matchInterpolate macros ml i mh msgs = some (mh', upd)) (k : Nat) :
    mh'.argv.length = mh.strings.length ∧
    mh'.argv[k]? = (mh.strings[k]?).map fun s => cstr ((interpolate (ml.take i) macros s).getD []) :=
  Proofs.argv_length macros ml i mh mh' msgs upd hty h k

/-- No word splitting, no globbing, no quote removal: configured strings without `\`, `$` and NUL
become the argument vector byte for byte - an argument with blanks, quotes or `*` stays ONE
argument. -/
theorem C13_argv_no_splitting (macros : Option (List (Bytes × Bytes))) (ml : MatchList) (i : Nat) (mh : Match)
    (msgs : Nat → Msg) (hty : mh.ty = .exec ∨ mh.ty = .command)
    (hpl : ∀ s ∈ mh.strings, Proofs.Plain s ∧ (0 : UInt8) ∉ s) :
    matchInterpolate macros ml i mh msgs = some ({ mh with argv := mh.strings }, none) :=
  Proofs.argv_plain macros ml i mh msgs hty hpl

/-- Non-vacuity: `exec { "sh" "a b 'c' *" "-x" }` - three strings, three arguments. -/
example :
    (∀ s ∈ [[115, 104], [97, 32, 98, 32, 39, 99, 39, 32, 42], [45, 120]], Proofs.Plain s ∧ (0 : UInt8) ∉ s) ∧
    (matchInterpolate none [] 0
      { ty := .exec, lno := 1, part := 0, strings := [[115, 104], [97, 32, 98, 32, 39, 99, 39, 32, 42], [45, 120]] }
      (fun _ => parseMessage [])).map (·.1.argv) =
    some [[115, 104], [97, 32, 98, 32, 39, 99, 39, 32, 42], [45, 120]] := by
  decide +kernel

/-- Non-vacuity with a capture containing a blank: `exec { "echo" "\1" }` after a match whose group 1
is `a b`: two arguments, the second is `a b`. -/
example :
    (matchInterpolate none
      [{ ty := .mtch, lno := 1, part := 0 },
       { ty := .header, lno := 1, part := 0, subs := [⟨[120], some (0, 1)⟩, ⟨[97, 32, 98], some (0, 3)⟩] }] 2
      { ty := .exec, lno := 1, part := 0, strings := [[101, 99, 104, 111], [92, 49]] }
      (fun _ => parseMessage [])).map (·.1.argv) =
    some [[101, 99, 104, 111], [97, 32, 98]] := by
  decide +kernel

/-! ## What an `exec stdin` child reads, across the ACTION LIST

Vocabulary: `Spec/ExecSeq.lean`.  `Spec.uptoFork env pre mh st` is `matches_exec` on `pre ++ mh :: post`
up to - not including - the `fork` of the exec entry `mh` (`C13_exec_stdin_fork_point`).  It is run
against the results of an ARBITRARY oracle, threading the abstract file system (`Spec.runW`); the only
hypothesis on the results is that each one is possible in the world it is given in
(`Spec.PossibleRun`: `applyOk` has an effect for it, a call that creates a descriptor returns the
next handle) - every errno at every call, every short count, every wait status is covered; these
are the runs the call-by-call conformance of the process stages accepts. -/

/-- `matches_exec` on `pre ++ mh :: post`, for an exec entry `mh` with `stdin`, IS `uptoFork` followed by
`afterFork`; and when `uptoFork` ends in `fork st' fd`, the very next call is the `fork` of `exec()`,
which was handed the entry's vector and `fd`: the call is `Call.fork mh.argv fd` - the child `dup2`s THAT descriptor
onto 0 and runs THAT vector. -/
theorem C13_exec_stdin_fork_point (env : PEnv) (pre post : MatchList) (mh : Match) (st : ExecSt)
    (hty : mh.ty = .exec) (hs : mh.execStdin = true) :
    matchesExec env (pre ++ mh :: post) st = (Spec.uptoFork env pre mh st).bind (Spec.afterFork env mh.argv post) ∧
    ∀ st' fd, ∃ k, Spec.afterFork env mh.argv post (.fork st' fd) = (execP mh.argv (some fd)).bind k ∧
      ∃ k', (execP mh.argv (some fd)).bind k = Prog.call (.fork mh.argv fd) k' :=
  ⟨Proofs.ExecSeq.matchesExec_factor env pre post mh st hty hs, fun _ _ => ⟨_, rfl, _, rfl⟩⟩

/-- **The descriptor handed to the child of `exec stdin` refers to the CURRENT message, at offset 0.**
For every action list `pre` standing before the entry (any kinds, any number: label, add-header,
move - also across devices -, flag, flags, discard, exec of every form, ...), every state and world
in which the message is open on a file holding `orig` (`Spec.MsgOpen`), every oracle whose results
are possible: if the run reaches the fork of `mh` (`exec stdin`, not `body`, not inside an
attachment block) with descriptor `fd`, then in the world AT THAT FORK `fd` is a read-only handle
on a file whose data is the content produced by the rewriting actions of `pre`
(`Spec.rewrittenBefore`: `message_write` of the in-memory message if `pre` has a label / add-header,
else the original bytes), and the last call before the fork is a successful `lseek(fd, 0, SEEK_SET)`.
(The in-memory message already carries the headers of ALL label / add-header entries of the list:
known finding F23.) -/
theorem C13_exec_stdin_sees_current (env : PEnv) (pre : MatchList) (mh : Match) (st : ExecSt) (orig : Bytes) (w : World)
    (orc : Nat → Call → Res) (i : Nat) (hb : mh.execBody = false) (hp : mh.part = 0)
    (hopen : Spec.MsgOpen w st orig) (hposs : Spec.PossibleRun orc (Spec.uptoFork env pre mh st) w i)
    (st' : ExecSt) (fd : Handle) (hres : (Spec.runW orc (Spec.uptoFork env pre mh st) w i).1 = .fork st' fd) :
    Spec.RewoundOn (Spec.runW orc (Spec.uptoFork env pre mh st) w i).2 fd (Spec.rewrittenBefore pre st.ms.msg orig) :=
  Proofs.ExecSeq.wpo_sound orc (Proofs.ExecSeq.spec_uptoFork_stdin env pre mh st hb hp hopen) i hposs st' fd hres

/-- Non-vacuity (evaluated run, `Proofs/ExecSeqEx.lean`): `label exec stdin` on the message `A:b\n\nx\n` -
the hypotheses hold, the run reaches the fork with descriptor 8, and the file behind it holds the
rewritten `A: b\n\nx\n`. -/
example : ∃ st', (Spec.runW Proofs.ExecSeq.exOrc1 (Spec.uptoFork Proofs.ExecSeq.exEnv [Proofs.ExecSeq.exLabel]
      Proofs.ExecSeq.exExec Proofs.ExecSeq.exSt) Proofs.ExecSeq.exW 0).1 = .fork st' 8 ∧
    Spec.RewoundOn (Spec.runW Proofs.ExecSeq.exOrc1 (Spec.uptoFork Proofs.ExecSeq.exEnv [Proofs.ExecSeq.exLabel]
      Proofs.ExecSeq.exExec Proofs.ExecSeq.exSt) Proofs.ExecSeq.exW 0).2 8 Proofs.ExecSeq.exNew := by
  obtain ⟨st', h⟩ := Proofs.ExecSeq.forkFd_eq Proofs.ExecSeq.ex1_fork
  refine ⟨st', h, ?_⟩
  rw [← Proofs.ExecSeq.ex1_content]
  exact C13_exec_stdin_sees_current _ _ _ _ _ _ _ 0 rfl rfl Proofs.ExecSeq.ex_open Proofs.ExecSeq.ex1_possible st' 8 h

/-- The same statement with the model's ghost field `MsgSt.content` ("what the file the message's
ENTRY is bound to contains", the field the no-loss theorems of C01/C02 are about) in the place of
`rewrittenBefore`.  It is FALSE for every list (`C13_exec_stdin_sees_content_false`) and proved for
lists without move / flag / flags before the entry (`C13_exec_stdin_sees_content_partial`). -/
def C13_exec_stdin_sees_content : Prop :=
  ∀ (env : PEnv) (pre : MatchList) (mh : Match) (st : ExecSt) (orig : Bytes) (w : World) (orc : Nat → Call → Res) (i : Nat),
    mh.execBody = false → mh.part = 0 → Spec.MsgOpen w st orig → st.ms.content = orig →
    Spec.PossibleRun orc (Spec.uptoFork env pre mh st) w i →
    ∀ (st' : ExecSt) (fd : Handle), (Spec.runW orc (Spec.uptoFork env pre mh st) w i).1 = .fork st' fd →
      Spec.RewoundOn (Spec.runW orc (Spec.uptoFork env pre mh st) w i).2 fd st'.ms.content

/-- What is missing in general is exactly the copy across devices: after `maildir_move` has copied
the message to another device the ENTRY (in the destination maildir) holds `message_write` of the
message, but `message_set_file(..., -1)` keeps the descriptor, which still refers to the unlinked
source file.  Without move / flag / flags before the entry the two coincide. -/
theorem C13_exec_stdin_sees_content_partial (env : PEnv) (pre : MatchList) (mh : Match) (st : ExecSt) (orig : Bytes) (w : World)
    (orc : Nat → Call → Res) (i : Nat) (hb : mh.execBody = false) (hp : mh.part = 0)
    (hnm : ∀ m ∈ pre, m.ty ≠ .move ∧ m.ty ≠ .flag ∧ m.ty ≠ .flags)
    (hopen : Spec.MsgOpen w st orig) (hc : st.ms.content = orig)
    (hposs : Spec.PossibleRun orc (Spec.uptoFork env pre mh st) w i)
    (st' : ExecSt) (fd : Handle) (hres : (Spec.runW orc (Spec.uptoFork env pre mh st) w i).1 = .fork st' fd) :
    Spec.RewoundOn (Spec.runW orc (Spec.uptoFork env pre mh st) w i).2 fd st'.ms.content := by
  have h1 := C13_exec_stdin_sees_current env pre mh st orig w orc i hb hp hopen hposs st' fd hres
  have h2 := Proofs.ExecSeq.All.runW (Proofs.ExecSeq.all_uptoFork_content env pre mh st hnm) orc w i st' fd hres
  rw [h2, hc]
  exact h1

/-- Witness (evaluated run 2 of `Proofs/ExecSeqEx.lean`): `move "/b/new" exec stdin CMD` with `/b` on another
device and the message `A:b\n\nx\n`: the child's descriptor refers to the source file (`A:b`), the entry
in `/b/new` - and `MsgSt.content` - hold `A: b`. -/
theorem C13_exec_stdin_sees_content_false : ¬ C13_exec_stdin_sees_content := by
  intro h
  obtain ⟨st', hr⟩ := Proofs.ExecSeq.forkFd_eq Proofs.ExecSeq.ex2_fork
  have := h Proofs.ExecSeq.exEnv [Proofs.ExecSeq.exMove] Proofs.ExecSeq.exExec Proofs.ExecSeq.exSt Proofs.ExecSeq.exOrig
    Proofs.ExecSeq.exW Proofs.ExecSeq.exOrc2 0 rfl rfl Proofs.ExecSeq.ex_open rfl Proofs.ExecSeq.ex2_possible st' 8 hr
  obtain ⟨⟨fid, off, f, hobj, hfile, hdata⟩, -⟩ := this
  rw [Proofs.ExecSeq.ex2_obj] at hobj
  cases hobj
  rw [Proofs.ExecSeq.ex2_file] at hfile
  cases hfile
  have hcont := Proofs.ExecSeq.ex2_content
  rw [hr] at hcont
  simp only [Proofs.ExecSeq.forkContent] at hcont
  rw [hcont] at hdata
  exact Proofs.ExecSeq.ex_differ hdata

/-! ## Descriptor hygiene: what is open when a child is forked

`Model.openFds tr` (Model/Fds.lean) is the descriptor table as a view of the trace: the handles created by the calls of
`tr` (a successful `opendir`, `openat`, `open`, `fopen`, `fcntl(F_DUPFD_CLOEXEC)`, `mkostemp`) and not yet released
(`close`, `closedir`, `fclose` release whatever they return); `openFdsBy` keeps the creating call with each handle.  The
standard descriptors 0, 1, 2 are not created by a call of the run and are not in the list - they are the
configuration-independent part of the table.  Everything is stated for ARBITRARY results of the calls (`runOracle`):
every behaviour of the file system, every fault, every interleaving with other processes.

`Proofs.Own.FdsAre tr S`: the open descriptors after `tr` are exactly the multiset `S` (every handle as often in
`openFds tr` as in `S`).  `Proofs.Own.ForkFds tr`: there are `ds`, `m`, `s` with `FdsAre tr (ds ++ [m, s])`, where

* `ds` are at most two directory streams, each returned by a successful `opendir` of the trace (the maildir being
  walked - `new`, `cur` or the stdin spool - and, after a move or flag action, the maildir the message is in now; at the
  `fork` of a `command` CONDITION, which runs while the rules are evaluated, only the first);
* `m` is the descriptor of the message, returned by a successful `openat(O_RDONLY|O_CLOEXEC)` of the trace;
* `s` is the descriptor `exec()` makes the child's standard input (`Proofs.Own.ChildStdin tr s`): the call just before
  the `fork` is the successful `open("/dev/null", O_RDONLY|O_CLOEXEC)` that returned `s`, or it is the successful
  `lseek(s, 0, SEEK_SET)` of `message_get_fd` on a descriptor `s` obtained from `fcntl(F_DUPFD_CLOEXEC)` (the whole
  message) or from `mkostemp(O_CLOEXEC)` (decoded body / one part);

and nothing else: no descriptor of an earlier message, no write descriptor of a file being created, no temporary file, no
stream of the configuration file, no third directory. -/

/-- **Descriptor hygiene.**  For every configuration, registry, input and for ARBITRARY results of all calls: at every
`fork` issued by a run of `main` - maildir mode or stdin mode, the `fork` of an `exec` action (whatever actions precede
the exec, inside or outside an attachment block) as well as the `fork` of a `command` condition during the evaluation of the
rules (`Model.evalP`: the table there is the directory stream of the maildir, the descriptor of the message and `/dev/null`,
`Proofs.Own.fds_evalP`) - the descriptors the run has created and not released are exactly those `ForkFds` lists.
(The table holds what the run itself created - descriptors 0, 1, 2 and anything else inherited at start-up are not
in it.  The fork of a `command` condition is among the forks of `mainP`.) -/
theorem C13_fd_hygiene (env : PEnv) (orc : EvalOracles) (ok : Bool) (conf : List ConfBlock) (files : Files) (input : Bytes)
    (orcl : Nat → Call → Res) (j : Nat) (argv : List Bytes) (s : Handle) (r : Res)
    (h : (runOracle orcl (mainP env orc ok conf files input) 0 []).2[j]? = some (.fork argv s, r)) :
    Proofs.Own.ForkFds ((runOracle orcl (mainP env orc ok conf files input) 0 []).2.take j) :=
  Proofs.Own.fd_hygiene env orc ok conf files input orcl j argv s r h

/-- **... and each of them was born close-on-exec.**  At every `fork`, every open descriptor, paired with the call that
created it (`openFdsBy`), was created by a successful call of the trace whose model constructor is a close-on-exec form
(`Call.cloexec`: `opendir`, `openRd`, `openExcl`, `openPath`, `dupfd`, `mkostemp`) - the one constructor that is not,
`fopen` of the configuration file, is the first call of the run and its stream is closed by the second. -/
theorem C13_fd_cloexec (env : PEnv) (orc : EvalOracles) (ok : Bool) (conf : List ConfBlock) (files : Files) (input : Bytes)
    (orcl : Nat → Call → Res) (j : Nat) (argv : List Bytes) (s : Handle) (r : Res)
    (h : (runOracle orcl (mainP env orc ok conf files input) 0 []).2[j]? = some (.fork argv s, r)) :
    ∀ p ∈ openFdsBy ((runOracle orcl (mainP env orc ok conf files input) 0 []).2.take j),
      p.2.cloexec = true ∧ (p.2, Res.ok p.1) ∈ (runOracle orcl (mainP env orc ok conf files input) 0 []).2.take j :=
  Proofs.Own.fd_hygiene_cloexec env orc ok conf files input orcl j argv s r h

/-! Non-vacuity (Proofs/WorldFdsEx.lean): two evaluated runs of `main` over the maildir `/m` with one message, rule
`match all exec "true"` resp. `match all exec stdin "cat"`, every call answered from a fixed list.  The `fork` is call 8
resp. 9; the table there is `[(4, opendir /m/new), (5, openat 1.h), (6, open /dev/null)]` resp.
`[(4, opendir /m/new), (5, openat 1.h), (6, dup of 5)]` with `lseek 6` as the call before; at the end nothing is open. -/
example :
    (Proofs.FdsEx.trace false)[8]? = some (.fork [ofString "true"] 6, .ok 0) ∧
    openFdsBy ((Proofs.FdsEx.trace false).take 8) =
      [(4, .opendir Proofs.exNew), (5, .openRd 4 Proofs.exName), (6, .openPath (ofString "/dev/null"))] ∧
    openFds ((Proofs.FdsEx.trace false).take 8) = [4, 5, 6] ∧ openFds (Proofs.FdsEx.trace false) = [] ∧
    (Proofs.FdsEx.trace true)[9]? = some (.fork [ofString "cat"] 6, .ok 0) ∧
    openFdsBy ((Proofs.FdsEx.trace true).take 9) = [(4, .opendir Proofs.exNew), (5, .openRd 4 Proofs.exName), (6, .dupfd 5)] ∧
    ((Proofs.FdsEx.trace true).take 9).getLast? = some (.lseek 6, .ok 0) ∧ openFds (Proofs.FdsEx.trace true) = [] :=
  Proofs.FdsEx.tables

example : Proofs.Own.ForkFds ((Proofs.FdsEx.trace false).take 8) ∧ Proofs.Own.ForkFds ((Proofs.FdsEx.trace true).take 9) :=
  ⟨C13_fd_hygiene _ _ _ _ _ _ _ 8 _ _ _ Proofs.FdsEx.tables.1, C13_fd_hygiene _ _ _ _ _ _ _ 9 _ _ _ Proofs.FdsEx.tables.2.2.2.2.1⟩

/-- Non-vacuity for the `fork` of a `command` condition (`Proofs.FdsEx.tablesC`): `match command "false" move "/d"` over
the same maildir; the `fork` of evaluation is call 8, the table there is `[(4, opendir /m/new), (5, openat 1.h),
(6, open /dev/null)]`, `/dev/null` opened by the call before; the child exits 1, the condition does not match, nothing is
moved, at the end nothing is open. -/
example :
    Proofs.FdsEx.traceC[8]? = some (.fork [ofString "false"] 6, .ok 0) ∧
    openFdsBy (Proofs.FdsEx.traceC.take 8) =
      [(4, .opendir Proofs.exNew), (5, .openRd 4 Proofs.exName), (6, .openPath (ofString "/dev/null"))] ∧
    openFds Proofs.FdsEx.traceC = [] ∧ Proofs.Own.ForkFds (Proofs.FdsEx.traceC.take 8) :=
  ⟨Proofs.FdsEx.tablesC.2.1, Proofs.FdsEx.tablesC.2.2.1, Proofs.FdsEx.tablesC.2.2.2.2,
   C13_fd_hygiene _ _ _ _ _ _ _ 8 _ _ _ Proofs.FdsEx.tablesC.2.1⟩

/-- The constructors and their flags: which calls create a descriptor, and which of these are close-on-exec forms. -/
theorem C13_cloexec_forms (c : Call) :
    (c.opensFd = true ↔ (∃ p, c = .opendir p) ∨ (∃ d n, c = .openRd d n) ∨ (∃ d n, c = .openExcl d n) ∨ (∃ p, c = .openPath p) ∨
      (∃ p, c = .fopen p) ∨ (∃ fd, c = .dupfd fd) ∨ (∃ t, c = .mkostemp t)) ∧
    (c.cloexec = true ↔ c.opensFd = true ∧ ∀ p, c ≠ .fopen p) := by
  cases c <;> simp [Call.opensFd, Call.cloexec]

/-- **The child's standard input without `stdin`** is `/dev/null`: an exec entry without the `stdin` option opens
`/dev/null` (read-only, close-on-exec) as its first call; if that succeeds the very next call is the `fork` of the entry's
vector with THE HANDLE JUST RETURNED as the child's standard input (so `ChildStdin` holds with that descriptor); if it fails no child is started and the entry is an error. -/
theorem C13_stdin_devnull (env : PEnv) (mh : Match) (st : ExecSt) (orcl : Nat → Call → Res) (i : Nat) (tr : List (Call × Res))
    (hty : mh.ty = .exec) (hs : mh.execStdin = false) :
    (∀ h, orcl i (.openPath Proofs.Own.devNull) = .ok h →
      ∃ r rest, (runOracle orcl (execOne env mh st) i tr).2 =
        tr ++ (Call.openPath Proofs.Own.devNull, Res.ok h) :: (Call.fork mh.argv h, r) :: rest) ∧
    ((∀ h, orcl i (.openPath Proofs.Own.devNull) ≠ .ok h) →
      (runOracle orcl (execOne env mh st) i tr).2 = tr ++ [(Call.openPath Proofs.Own.devNull, orcl i (.openPath Proofs.Own.devNull))] ∧
      (runOracle orcl (execOne env mh st) i tr).1.2 = true) :=
  Proofs.Own.exec_nostdin_child env mh st orcl i tr hty hs

/-- **The child's standard input with `stdin`** (with `C11_exec_stdin`): an exec entry with the `stdin` option first runs
`message_get_fd` for the message or the part the entry refers to (`Proofs.Own.execPart`); if that yields no descriptor
no child is started and the entry is an error; if it yields `fd`, the run of the entry is: the calls `L0` of
`message_get_fd`, none of which failed, by which `fd` was filled with the complete current message / the decoded body /
the re-serialised part (`Spec.HandedOver`, see `C11_exec_stdin`), then the successful `lseek(fd, 0)`, then - as the very
next call - the `fork` of the entry's vector with `fd` as the child's standard input: the child reads that content from
offset 0. -/
theorem C13_stdin_content (env : PEnv) (mh : Match) (st : ExecSt) (orcl : Nat → Call → Res) (i : Nat) (tr : List (Call × Res))
    (hty : mh.ty = .exec) (hs : mh.execStdin = true) :
    ((runOracle orcl (messageGetFd env st.ms (Proofs.Own.execPart mh st) mh.execBody) i tr).1 = none →
      (runOracle orcl (execOne env mh st) i tr).2 =
        (runOracle orcl (messageGetFd env st.ms (Proofs.Own.execPart mh st) mh.execBody) i tr).2 ∧
      (runOracle orcl (execOne env mh st) i tr).1.2 = true ∧
      ∀ x ∈ (runOracle orcl (execOne env mh st) i tr).2.drop tr.length, x.1.isFork = false) ∧
    (∀ fd, (runOracle orcl (messageGetFd env st.ms (Proofs.Own.execPart mh st) mh.execBody) i tr).1 = some fd →
      ∃ L0 r rf rest, (runOracle orcl (execOne env mh st) i tr).2 = tr ++ L0 ++ [(.lseek fd, r)] ++ (Call.fork mh.argv fd, rf) :: rest ∧
        r.isErr = false ∧ (∀ x ∈ L0, Spec.failed x = false) ∧
        Spec.HandedOver env st.ms (Proofs.Own.execPart mh st) mh.execBody fd L0) := by
  obtain ⟨h1, h2⟩ := Proofs.Own.exec_stdin_child env mh st orcl i tr hty hs
  refine ⟨fun hn => ⟨(h1 hn).1, (h1 hn).2, ?_⟩, fun fd hfd => ?_⟩
  · rw [(h1 hn).1]
    simp only [Proofs.Own.runOracle_eq, List.drop_left]
    exact Proofs.Own.calls_runO_mem (Proofs.Own.nofork_messageGetFd env st.ms (Proofs.Own.execPart mh st) mh.execBody) orcl i
  · obtain ⟨rf, rest, he⟩ := h2 fd hfd
    obtain ⟨L0, r, hg, hr, hf, hh⟩ := Proofs.exec_stdin_handed_over env st.ms (Proofs.Own.execPart mh st) mh.execBody orcl i tr fd hfd
    exact ⟨L0, r, rf, rest, by rw [he, hg], hr, hf, hh⟩

/-! Non-vacuity of the two statements about the child's standard input: an exec entry without and with `stdin`; in the
evaluated runs above the call before the `fork` is `open("/dev/null")` (call 7 of the first run) resp. `lseek` on the
duplicate of the message's descriptor (call 8 of the second). -/
example : ({ ty := .exec, lno := 1, part := 0 } : Match).ty = .exec ∧
    ({ ty := .exec, lno := 1, part := 0 } : Match).execStdin = false ∧
    ({ ty := .exec, lno := 1, part := 0, execStdin := true } : Match).execStdin = true := ⟨rfl, rfl, rfl⟩

example : (Proofs.FdsEx.trace false)[7]? = some (.openPath Proofs.Own.devNull, .ok 6) ∧
    (Proofs.FdsEx.trace true)[7]? = some (.dupfd 5, .ok 6) ∧ (Proofs.FdsEx.trace true)[8]? = some (.lseek 6, .ok 0) :=
  Proofs.FdsEx.before_fork

/-! ## The `command` condition inside a run (`expr_eval_command`)

Conditions are evaluated inside the run (`Model.evalT` / `Model.evalP`, Model/EvalP.lean): a `command` condition asks
the operating system one question, `Req.command av`, which `Model.sysCall` turns into the calls of util.c
`exec(argv, -1)` (`open("/dev/null")`, `fork`, `waitpid`, `close`: `C03_evaluation_calls`). -/

/-- **The `command` condition**: when its entry can be appended and its strings interpolate to `av` - one argument per
configured string, in order (`List.mapM`), interpolated against the entries of the rule so far, no shell, no splitting -
the evaluation asks exactly the question `command av` and is *match* if `exec()` returned 0, *error* if it returned a
negative value (`C04_command_failure_causes`: `/dev/null`, `fork`, `waitpid` failed, or exit status 127) and *no match*
otherwise (any other exit status, death by a signal); the entry is removed again. -/
theorem C13_command_condition (env : Env) (root : Msg) (lno : Nat) (argv : List Bytes)
    (part : Nat) (m : Msg) (st : St) (ml : MatchList) (av : List Bytes)
    (happ : matchesAppend env st.ml { ty := .command, lno := lno, part := part, strings := argv } = (ml, false))
    (hav : argv.mapM (interpolate ml.dropLast none) = some av) :
    evalT env root (.command lno argv) part m st =
      (ask (.command av)).bind fun a =>
        .ret (if ansStatus a == 0 then .match else if ansStatus a < 0 then .error else .nomatch,
              { st with ml := ml.dropLast }) := by
  simp only [evalT, happ, hav, Bool.false_eq_true, ↓reduceIte]

/-- **`C13_command_status` inside the run** (its corollary through `Proofs.evalT_command_run`: the command oracle of the
evaluator-level statement IS `exec()` on the results of the three calls this run makes for the condition - `open("/dev/null")`
at step `j`, `fork` at `j + 1`, `waitpid` at `j + 2`): for every wait status the condition MATCHES iff the child was waited
for and exited 0, does NOT match iff it exited with 1..126 / 128..255 or was killed by a signal (or is reported stopped), is
an ERROR iff it could not be run or exited with 127; the match list is left as it was. -/
theorem C13_command_condition_status (env : Env) (root : Msg) (lno : Nat) (argv av : List Bytes) (part : Nat) (m : Msg)
    (st : St) (hav : argv.mapM (interpolate st.ml none) = some av) (orcl : Nat → Call → Res) (j : Nat) :
    let o := Proofs.childOutcome (match orcl j (.openPath (ofString "/dev/null")) with | .ok _ => true | _ => false)
      (orcl (j + 1) (.fork (av.map cstr) (Proofs.Own.okHandle (orcl j (.openPath (ofString "/dev/null")))))) (orcl (j + 2) .waitpid)
    let r := (Proofs.Own.runO orcl (evalT env root (.command lno argv) part m st).toProg j).1
    r.2 = st ∧
    (r.1 = .match ↔ o = .waited (.exited 0)) ∧
    (r.1 = .nomatch ↔ (∃ c, o = .waited (.exited c) ∧ c ≠ 0 ∧ c ≠ 127) ∨ (∃ g, o = .waited (.signaled g)) ∨ o = .waited .stopped) ∧
    (r.1 = .error ↔ o = .cannotRun ∨ o = .waited (.exited 127)) := by
  intro o r
  have hr : r = _ := Proofs.evalT_command_run env root lno argv part m st orcl j
  rw [hr]
  exact C13_command_status _ root lno argv av part m st hav _ _ _ rfl

/-- Non-vacuity: `command { "t" "a b" }` in an empty rule context: two arguments, the second with its blank. -/
example :
    matchesAppend Proofs.exampleEnv [] { ty := .command, lno := 1, part := 0, strings := [[116], [97, 32, 98]] } =
      ([{ ty := .command, lno := 1, part := 0, strings := [[116], [97, 32, 98]] }], false) ∧
    [[116], [97, 32, 98]].mapM (interpolate ([{ ty := .command, lno := 1, part := 0, strings := [[116], [97, 32, 98]] }] : MatchList).dropLast none) =
      some [[116], [97, 32, 98]] := by
  decide +kernel

/-! ## The child: vector and standard input of every `fork` of a run of `main`

`Call.fork argv s` is issued by `Model.execP` only (util.c `exec()`), with the vector and the descriptor it was handed; a
run of `main` reaches `execP` from `matches_exec` (an `exec` entry: `mh.argv`, filled by `match_interpolate`) and from the
evaluation of a `command` condition (`Model.sysCall`: the C strings of the interpolated vector).  Everything below is for
ARBITRARY results of all calls (`runOracle`).

`C13_Configured conf strings macros`: `strings` is the string list of an `exec` ACTION of one of the rule trees of the
configuration and `macros` is the table `path = <path of a message>` (what `matches_interpolate` passes), or `strings` is
the string list of a `command` CONDITION and `macros` is absent (`expr_eval_command` passes NULL). -/

/-- The configured string lists a child can be started from, with the macro table each is interpolated with. -/
def C13_Configured (conf : List ConfBlock) (strings : List Bytes) (macros : Option (List (Bytes × Bytes))) : Prop :=
  ∃ b ∈ conf, (Proofs.IsExecNode b.expr strings ∧ ∃ p, macros = some [(ofString "path", p)]) ∨
    (Proofs.IsCmdNode b.expr strings ∧ macros = none)

/-- **The child gets exactly the configured argument vector after interpolation.**  For every configuration, registry,
input and for ARBITRARY results of all calls: every `fork` in the trace of `main` carries
`strings.map (cstr ∘ interpolate before macros)` for the strings of an `exec` action or a `command` condition of the
configuration (`C13_Configured`) - ONE argument per configured string, in the configured order, each the C string of
the one-pass interpolation of that string (C12) in one context `before` of captures; every string does interpolate (a
string that does not never reaches a `fork`: `C12_failed_template_fails_all`, `C13_command_interpolation_error`). -/
theorem C13_child_argv (env : PEnv) (orc : EvalOracles) (ok : Bool) (conf : List ConfBlock) (files : Files) (input : Bytes)
    (orcl : Nat → Call → Res) (j : Nat) (av : List Bytes) (s : Handle) (r : Res)
    (h : (runOracle orcl (mainP env orc ok conf files input) 0 []).2[j]? = some (.fork av s, r)) :
    ∃ (strings : List Bytes) (before : MatchList) (macros : Option (List (Bytes × Bytes))), C13_Configured conf strings macros ∧
      av = strings.map (fun t => cstr ((interpolate before macros t).getD [])) ∧
      ∀ t ∈ strings, (interpolate before macros t).isSome = true := by
  have hmem := List.mem_of_getElem? h
  rcases Proofs.calls_runOracle_mem (Proofs.Own.fa_mainP env orc ok conf files input) orcl 0 [] _ hmem with h0 | h1
  · cases h0
  · obtain ⟨b, hb, hc⟩ := h1
    rcases hc with ⟨ss, before, mc, hs, hm, hav, hsome⟩ | ⟨ss, before, mc, hs, hm, hav, hsome⟩
    · exact ⟨ss, before, mc, ⟨b, hb, .inl ⟨hs, hm⟩⟩, hav, hsome⟩
    · exact ⟨ss, before, mc, ⟨b, hb, .inr ⟨hs, hm⟩⟩, hav, hsome⟩

/-- **Same length, same order** (`C13_argv_length_order` on the TRACE): the vector of every `fork` has as many arguments as
the action / condition has configured strings, and the k-th argument comes from the k-th string. -/
theorem C13_child_argv_length_order (env : PEnv) (orc : EvalOracles) (ok : Bool) (conf : List ConfBlock) (files : Files)
    (input : Bytes) (orcl : Nat → Call → Res) (j : Nat) (av : List Bytes) (s : Handle) (r : Res)
    (h : (runOracle orcl (mainP env orc ok conf files input) 0 []).2[j]? = some (.fork av s, r)) :
    ∃ (strings : List Bytes) (before : MatchList) (macros : Option (List (Bytes × Bytes))), C13_Configured conf strings macros ∧ av.length = strings.length ∧
      ∀ k : Nat, av[k]? = (strings[k]?).map fun t => cstr ((interpolate before macros t).getD []) := by
  obtain ⟨ss, before, mc, hc, hav, -⟩ := C13_child_argv env orc ok conf files input orcl j av s r h
  refine ⟨ss, before, mc, hc, by rw [hav, List.length_map], fun k => ?_⟩
  rw [hav, List.getElem?_map]

/-- **No word splitting, no globbing, no quote removal, nothing prepended** (`C13_argv_no_splitting` on the TRACE): a
configured string without `\`, `$` and NUL is the argument at its position byte for byte - blanks, quotes, `*` and all. -/
theorem C13_child_argv_no_splitting (env : PEnv) (orc : EvalOracles) (ok : Bool) (conf : List ConfBlock) (files : Files)
    (input : Bytes) (orcl : Nat → Call → Res) (j : Nat) (av : List Bytes) (s : Handle) (r : Res)
    (h : (runOracle orcl (mainP env orc ok conf files input) 0 []).2[j]? = some (.fork av s, r)) :
    ∃ (strings : List Bytes) (macros : Option (List (Bytes × Bytes))), C13_Configured conf strings macros ∧ av.length = strings.length ∧
      ∀ (k : Nat) (t : Bytes), strings[k]? = some t → Proofs.Plain t → (0 : UInt8) ∉ t → av[k]? = some t := by
  obtain ⟨ss, before, mc, hc, hlen, hk⟩ := C13_child_argv_length_order env orc ok conf files input orcl j av s r h
  refine ⟨ss, mc, hc, hlen, fun k t ht hpl h0 => ?_⟩
  rw [hk k, ht, Option.map_some, Proofs.interpolate_plain before mc t hpl, Option.getD_some,
    cstr_of_no_nul fun b hb hb0 => h0 (hb0 ▸ hb)]

/-- **No shell, no other program**: if the program (first string) of every `exec` action and `command` condition of the
configuration is a plain string other than `prog`, no child of the run is started with `prog` as `argv[0]` - in particular
no `sh` (`-c`) unless it is configured; and by `C13_child_argv_length_order` nothing is inserted before or between the
configured arguments. -/
theorem C13_no_shell (env : PEnv) (orc : EvalOracles) (ok : Bool) (conf : List ConfBlock) (files : Files)
    (input : Bytes) (orcl : Nat → Call → Res) (j : Nat) (av : List Bytes) (s : Handle) (r : Res) (prog : Bytes)
    (hcfg : ∀ strings macros, C13_Configured conf strings macros →
      ∃ t0, strings[0]? = some t0 ∧ Proofs.Plain t0 ∧ (0 : UInt8) ∉ t0 ∧ t0 ≠ prog)
    (h : (runOracle orcl (mainP env orc ok conf files input) 0 []).2[j]? = some (.fork av s, r)) :
    av[0]? ≠ some prog := by
  obtain ⟨ss, mc, hc, -, hk⟩ := C13_child_argv_no_splitting env orc ok conf files input orcl j av s r h
  obtain ⟨t0, h0, hpl, hnul, hne⟩ := hcfg ss mc hc
  rw [hk 0 t0 h0 hpl hnul]
  intro e
  exact hne (Option.some.inj e)

/-- **In the words of the specification of C12**: for the k-th configured string `t` (of the documented template syntax) the
k-th argument is the C string of `Spec.interp` of `t` - the token-wise substitution over the captures of the rule
(`Proofs.ruleCaps before`) and the macro table.  Hypothesis `NulFree`: captured texts and the message's path hold no NUL
(they are C strings in the implementation; `C12_interpolate`). -/
theorem C13_child_argv_spec (env : PEnv) (orc : EvalOracles) (ok : Bool) (conf : List ConfBlock) (files : Files)
    (input : Bytes) (orcl : Nat → Call → Res) (j : Nat) (av : List Bytes) (s : Handle) (r : Res)
    (h : (runOracle orcl (mainP env orc ok conf files input) 0 []).2[j]? = some (.fork av s, r)) :
    ∃ (strings : List Bytes) (before : MatchList) (macros : Option (List (Bytes × Bytes))), C13_Configured conf strings macros ∧ av.length = strings.length ∧
      (Proofs.NulFree before macros → ∀ (k : Nat) (t : Bytes), strings[k]? = some t → Spec.itokens t ≠ .undefined →
        ∃ v, Spec.interp (Proofs.ruleCaps before) macros t = some (some v) ∧ av[k]? = some (cstr v)) := by
  obtain ⟨ss, before, mc, hc, hav, hsome⟩ := C13_child_argv env orc ok conf files input orcl j av s r h
  refine ⟨ss, before, mc, hc, by rw [hav, List.length_map], fun hn k t ht hdom => ?_⟩
  have hs := hsome t (List.mem_of_getElem? ht)
  obtain ⟨v, hv⟩ := Option.isSome_iff_exists.1 hs
  refine ⟨v, by rw [Proofs.interpolate_eq_spec before mc t hdom hn, hv], ?_⟩
  rw [hav, List.getElem?_map, ht, Option.map_some, hv, Option.getD_some]

/-- **An action list, exactly**: every `fork` of `matches_exec` on the list `ml` carries the `argv` field of an `exec` entry
of `ml` - the field `C13_argv_exact` / `C13_argv_length_order` / `C13_argv_no_splitting` describe with the capture
context named (`ml.take i` for the entry at position `i`); those statements about the FIELD are therefore statements about
what the child receives. -/
theorem C13_child_argv_list (env : PEnv) (ml : MatchList) (st : ExecSt) (orcl : Nat → Call → Res) (i : Nat)
    (tr : List (Call × Res)) :
    ∀ x ∈ (runOracle orcl (matchesExec env ml st) i tr).2, x ∈ tr ∨
      ∀ av s, x.1 = .fork av s → ∃ mh ∈ ml, mh.ty = .exec ∧ av = mh.argv := by
  intro x hx
  have hc : Proofs.World.Calls (Proofs.ForkArgv fun av => ∃ mh ∈ ml, mh.ty = .exec ∧ av = mh.argv) (matchesExec env ml st) :=
    Proofs.fa_matchesExec env ml st fun mh hmh hty => ⟨mh, hmh, hty, rfl⟩
  rcases Proofs.calls_runOracle_mem hc orcl i tr x hx with h0 | h1
  · exact .inl h0
  · refine .inr fun av s e => ?_
    rw [e] at h1
    exact h1

/-- **A `command` condition, exactly** (with `C13_command_condition`): when its entry can be appended and its strings
interpolate to `av`, the calls of the condition are those of `exec(argv, -1)` on the C strings of `av` - so its `fork` carries
`av.map cstr`, one argument per configured string, and `/dev/null` as standard input (`C13_child_stdin`). -/
theorem C13_child_argv_command (env : Env) (root : Msg) (lno : Nat) (argv : List Bytes)
    (part : Nat) (m : Msg) (st : St) (ml : MatchList) (av : List Bytes)
    (happ : matchesAppend env st.ml { ty := .command, lno := lno, part := part, strings := argv } = (ml, false))
    (hav : argv.mapM (interpolate ml.dropLast none) = some av) :
    (evalT env root (.command lno argv) part m st).toProg =
      (execP (av.map cstr) none).bind fun rc =>
        .ret (if rc == 0 then .match else if rc < 0 then .error else .nomatch, { st with ml := ml.dropLast }) := by
  rw [C13_command_condition env root lno argv part m st ml av happ hav]
  simp only [ask, Ask.ask_bind, Ask.ret_bind, Ask.toProg, sysCall, Proofs.World.bind_assoc, Proofs.World.ret_bind, ansStatus]
  rfl

/-- **The child's standard input.**  For ARBITRARY results of all calls: the handle `s` of every `fork` of a run of `main` -
the descriptor the child `dup2`s onto 0 - is

* the handle the call JUST BEFORE the `fork`, a successful `open("/dev/null", O_RDONLY|O_CLOEXEC)`, returned (no `stdin`
  option; every `command` condition), or
* a descriptor that the call just before the `fork`, a successful `lseek(s, 0, SEEK_SET)`, has rewound, and that was
  obtained from `fcntl(F_DUPFD_CLOEXEC)` (`exec stdin`: the message's descriptor, whose file holds the CURRENT message -
  `C13_exec_stdin_sees_current`) or from `mkostemp(O_CLOEXEC)` (`exec stdin body` / inside an attachment block: a file of its
  own holding the decoded body / the part - `C11_exec_stdin_body_after_rewrite`, `C11_exec_stdin`);

and the descriptors the run has created and not released at that point are at most two directory streams, the message's
descriptor and `s` itself (`ForkFdsOf`; each born close-on-exec: `C13_fd_cloexec`) - so, with descriptors 0, 1, 2 of the
process, the child has `s` on 0 and inherits nothing else. -/
theorem C13_child_stdin (env : PEnv) (orc : EvalOracles) (ok : Bool) (conf : List ConfBlock) (files : Files) (input : Bytes)
    (orcl : Nat → Call → Res) (j : Nat) (av : List Bytes) (s : Handle) (r : Res)
    (h : (runOracle orcl (mainP env orc ok conf files input) 0 []).2[j]? = some (.fork av s, r)) :
    let tr := (runOracle orcl (mainP env orc ok conf files input) 0 []).2.take j
    (tr.getLast? = some (.openPath (ofString "/dev/null"), .ok s) ∨
      ∃ rl, tr.getLast? = some (.lseek s, rl) ∧ rl.isErr = false ∧
        ((∃ fd, (Call.dupfd fd, Res.ok s) ∈ tr) ∨ ∃ t, (Call.mkostemp t, Res.ok s) ∈ tr)) ∧
    Proofs.Own.ForkFdsOf tr s := by
  intro tr
  have hf := Proofs.Own.fd_hygiene_of env orc ok conf files input orcl j av s r h
  obtain ⟨ds, m, h1, h2, h3, h4, hcs⟩ := hf
  exact ⟨hcs, ds, m, h1, h2, h3, h4, hcs⟩

/-! Non-vacuity of the statements about the child (evaluated runs of `main`, `Proofs/WorldFdsEx.lean`): `match all exec
{ "printf" "a b 'c' *" "-x" }` - the `fork` (call 8) carries these three strings as three arguments and the handle 6 that
call 7, `open("/dev/null")`, returned; the configured strings are an `exec` node of the tree, all plain.  `match all exec stdin
"cat"`: the `fork` (call 9) carries `["cat"]` and the handle 6 that `fcntl(F_DUPFD_CLOEXEC)` returned (call 7) and `lseek`
rewound (call 8).  `match command "false" move "/d"`: the `fork` of the condition (call 8) carries `["false"]` and `/dev/null`. -/
example :
    Proofs.FdsEx.traceA[8]? = some (.fork [ofString "printf", ofString "a b 'c' *", ofString "-x"] 6, .ok 0) ∧
    Proofs.FdsEx.traceA[7]? = some (.openPath (ofString "/dev/null"), .ok 6) ∧
    C13_Configured Proofs.FdsEx.confA [ofString "printf", ofString "a b 'c' *", ofString "-x"] (some [(ofString "path", [])]) ∧
    (∀ t ∈ [ofString "printf", ofString "a b 'c' *", ofString "-x"], Proofs.Plain t ∧ (0 : UInt8) ∉ t) ∧
    (Proofs.FdsEx.trace true)[9]? = some (.fork [ofString "cat"] 6, .ok 0) ∧
    (Proofs.FdsEx.trace true)[7]? = some (.dupfd 5, .ok 6) ∧ (Proofs.FdsEx.trace true)[8]? = some (.lseek 6, .ok 0) ∧
    Proofs.FdsEx.traceC[8]? = some (.fork [ofString "false"] 6, .ok 0) ∧
    C13_Configured Proofs.FdsEx.confC [ofString "false"] none :=
  ⟨Proofs.FdsEx.tablesA.2, Proofs.FdsEx.tablesA.1,
   ⟨_, List.mem_singleton.2 rfl, .inl ⟨by simp [Proofs.FdsEx.ruleA, Proofs.IsExecNode], _, rfl⟩⟩, by decide +kernel,
   Proofs.FdsEx.tables.2.2.2.2.1, Proofs.FdsEx.before_fork.2.1, Proofs.FdsEx.before_fork.2.2, Proofs.FdsEx.tablesC.2.1,
   ⟨_, List.mem_singleton.2 rfl, .inr ⟨by simp [Proofs.FdsEx.ruleC, Proofs.IsCmdNode], rfl⟩⟩⟩

/-- The theorems applied to the first of these runs: the vector of its `fork` has the three configured strings as its three
arguments; the descriptors open at the `fork` are a directory stream, the message and the handle 6 of the `fork`, which is
the `/dev/null` of the call before (`Proofs.FdsEx.tablesA`). -/
example :
    (∃ (strings : List Bytes) (macros : Option (List (Bytes × Bytes))), C13_Configured Proofs.FdsEx.confA strings macros ∧ 3 = strings.length ∧
      ∀ (k : Nat) (t : Bytes), strings[k]? = some t → Proofs.Plain t → (0 : UInt8) ∉ t →
        [ofString "printf", ofString "a b 'c' *", ofString "-x"][k]? = some t) ∧
    Proofs.Own.ForkFdsOf (Proofs.FdsEx.traceA.take 8) 6 :=
  ⟨C13_child_argv_no_splitting _ _ _ _ _ _ _ 8 _ 6 _ Proofs.FdsEx.tablesA.2,
   (C13_child_stdin _ _ _ _ _ _ _ 8 _ 6 _ Proofs.FdsEx.tablesA.2).2⟩

/-- Non-vacuity of `C13_no_shell`: the configuration of that run names one program, `printf`; its hypothesis holds for
`prog = sh`, so the child was not started with `sh`. -/
example : ([ofString "printf", ofString "a b 'c' *", ofString "-x"] : List Bytes)[0]? ≠ some (ofString "sh") := by
  refine C13_no_shell _ _ _ Proofs.FdsEx.confA _ _ _ 8 _ 6 _ (ofString "sh") ?_ Proofs.FdsEx.tablesA.2
  rintro ss mc ⟨b, hb, hc⟩
  rw [Proofs.FdsEx.confA, List.mem_singleton] at hb
  subst hb
  rcases hc with ⟨hn, -⟩ | ⟨hn, -⟩
  · simp only [Proofs.FdsEx.ruleA, Proofs.IsExecNode, false_or] at hn
    subst hn
    exact ⟨ofString "printf", rfl, by decide +kernel⟩
  · simp [Proofs.FdsEx.ruleA, Proofs.IsCmdNode] at hn

end Mdsort.Props
