import Mdsort.Proofs.Opts
import Mdsort.Proofs.Lex
import Mdsort.Proofs.LexLiteral
import Mdsort.Proofs.LexFuel
import Mdsort.Proofs.World
import Mdsort.Proofs.ConfErrors
import Mdsort.Proofs.ConfRT5
import Mdsort.Proofs.MainText
import Mdsort.Proofs.MainTextMacros
import Mdsort.Proofs.MainTextLex
import Mdsort.Proofs.MainTextLexTree
import Mdsort.Proofs.ConfCfg4
import Mdsort.Proofs.ConfAnywhere7
import Mdsort.Proofs.Literal

/-!
# C14 - a configuration is accepted or rejected as a whole, and the parser is total

`Model.lex1` transcribes the lexer of parse.y and is compared token by token with the real `yylex`
as the real LALR parser drives it.  `Model.parseConfig` (Model/Conf.lean) transcribes the grammar of
parse.y with its semantic actions, reading its lookahead where the automaton bison generates does;
it is compared with the real parser on accept/reject, the line of the first diagnostic, the trees
(with `ex_lno`) and the number of `yylex` calls.  Not modelled: error recovery after the first
diagnostic, and bison's stack limit of 10000 states.
-/

namespace Mdsort.Props
open Mdsort Mdsort.Model

/-- Totality: the lexer is a total function (by definition), returns a suffix of its input, and
every token but end-of-input consumes at least one byte - on every byte string. -/
theorem C14_lexer_total (pflag sflag afterMacro : Bool) (input : Bytes) :
    let r := lex1 pflag sflag afterMacro input
    (∃ pre, input = pre ++ r.rest) ∧ (r.tok ≠ .eof → r.rest.length < input.length) :=
  Proofs.lex_progress pflag sflag afterMacro input

/-- The budgets inside the lexer model are never the reason for a result (the exhausted cases return "unterminated",
the digits / flags read so far, or END OF INPUT WITHOUT A DIAGNOSTIC - the last would silently accept a truncated file).
For every helper, any two budgets larger than the input give the same result; `lex1` calls `collect` and `patFlags` with
`length + 1`, `lexDigits` with `length + 1` of what it passes, and re-enters after a comment (`lex1Aux`) with the length
of the whole input on a strictly shorter rest - so replacing any of these budgets by a larger one changes nothing. -/
theorem C14_lexer_fuel_irrelevant :
    (∀ (d : UInt8) (f1 f2 : Nat) (s acc : Bytes), s.length < f1 → s.length < f2 → collect d f1 s acc = collect d f2 s acc) ∧
    (∀ (f1 f2 : Nat) (s : Bytes) (i l u : Bool) (e : Nat), s.length < f1 → s.length < f2 →
      patFlags f1 s i l u e = patFlags f2 s i l u e) ∧
    (∀ (f1 f2 : Nat) (s : Bytes) (n : Nat) (o : Bool) (e : Nat), s.length < f1 → s.length < f2 →
      lexDigits f1 s n o e = lexDigits f2 s n o e) ∧
    (∀ (pf sf am : Bool) (f1 f2 : Nat) (s : Bytes), s.length < f1 → s.length < f2 →
      lex1.lex1Aux pf sf am s f1 = lex1.lex1Aux pf sf am s f2) :=
  ⟨Proofs.collect_fuel, Proofs.patFlags_fuel, Proofs.lexDigits_fuel, Proofs.lex1Aux_fuel⟩

/-- Non-vacuity of `C14_tokens_read_back` and of the budgets: a keyword of the regenerated table before a brace, a string
with an escaped quote, and a token behind 3 comment lines (the re-entry after a comment) - with the budget the model uses
and with a budget of 1000. -/
example :
    ("add-header", "ADDHEADER") ∈ Gen.keywords ∧
    lex1 false false false (ofString "add-header{") = { tok := .keyword "ADDHEADER", rest := [123], errors := 0 } ∧
    lex1 false false false ([34] ++ Proofs.escapeQuote (ofString "a\"b") ++ [34, 32]) = { tok := .str (ofString "a\"b"), rest := [32], errors := 0 } ∧
    lex1 false false false (ofString "#a\n #b\n#c\n  match") = { tok := .keyword "MATCH", rest := [], errors := 0 } ∧
    lex1.lex1Aux false false false (ofString " #b\n#c\n  match") 1000 = { tok := .keyword "MATCH", rest := [], errors := 0 } := by
  decide_lit

/-- Rejected as a whole: when the configuration is rejected (or unreadable) the run is an error and
touches nothing but the configuration file, under every fault plan - no maildir is opened, no
message examined, no command run, no file changed, whatever valid parts the file has. -/
theorem C14_reject_whole (env : PEnv) (orc : EvalOracles) (conf : List ConfBlock) (files : Files) (input : Bytes)
    (w : World) (plan : Plan) :
    let r := runPlan plan (mainP env orc false conf files input) w 0 []
    r.1.2.error = true ∧
    (Proofs.callsOf plan (mainP env orc false conf files input) w = [.fopen env.confpath] ∨
     ∃ h, Proofs.callsOf plan (mainP env orc false conf files input) w = [.fopen env.confpath, .fclose h]) :=
  Proofs.bad_config_only_reads_config env orc conf files input w plan

/-- Acceptance at token level: every keyword of the regenerated table (`Gen.keywords`, from parse.y: renaming a keyword
there changes what this says) followed by anything that cannot continue a word, and every non-empty string without
NUL, not ending in a backslash and shorter than the lexeme buffer, written between quotes with `"` escaped, reads back as
the token it was printed from.  (Integer literals: `C14_int_literals`; units: `C15_age_literal_tokens`.) -/
theorem C14_tokens_read_back :
    (∀ (sflag : Bool) (kw tokname : String) (rest : Bytes), (kw, tokname) ∈ Gen.keywords →
      (∀ c, rest.head? = some c → isKwChar c = false) →
      lex1 false sflag false (kw.toUTF8.toList ++ rest) = { tok := .keyword tokname, rest := rest, errors := 0 }) ∧
    (∀ (pflag sflag : Bool) (b rest : Bytes), b ≠ [] → (0 : UInt8) ∉ b → b.getLast? ≠ some 92 → b.length < BUFSIZ - 1 →
      lex1 pflag sflag false ([34] ++ Proofs.escapeQuote b ++ [34] ++ rest) = { tok := .str b, rest := rest, errors := 0 }) :=
  ⟨fun sflag kw tokname rest hk hr => Proofs.lex_keyword sflag kw tokname rest hk hr,
   fun pflag sflag b rest h1 h2 h3 h4 => Proofs.lex_string_roundtrip pflag sflag b rest h1 h2 h3 h4⟩

/-- Integer literals: for EVERY non-empty string of decimal digits `ds` - of any length, with or without
leading zeros - after any white space and before anything that is not a digit, the lexer returns the
value `Spec.decimal ds` exactly and without a diagnostic when it is at most UINT32_MAX, and reports a
diagnostic otherwise; it is accepted IFF the value fits.  There is no length or value (2^64, 2^64 + 60,
2^96, ...) at which a too-large literal becomes acceptable again; all digits are consumed either way. -/
theorem C14_int_literals (sflag : Bool) (sp ds rest : Bytes) (hsp : ∀ x ∈ sp, isspace x = true) (hne : ds ≠ [])
    (hd : ∀ d ∈ ds, isdigit d = true) (hr : ∀ c, rest.head? = some c → isdigit c = false) :
    let r := lex1 false sflag false (sp ++ ds ++ rest)
    (Spec.decimal ds < 2 ^ 32 → r = { tok := .int (Spec.decimal ds), rest := rest, errors := 0 }) ∧
    (2 ^ 32 ≤ Spec.decimal ds → r.errors ≥ 1 ∧ r.rest = rest) ∧
    (r.errors = 0 ↔ Spec.decimal ds < 2 ^ 32) :=
  Proofs.lex_digits sflag sp ds rest hsp hne hd hr

/-- `Spec.decimal` is the usual reading: the canonical decimal form of `n` denotes `n`, and leading zeros
change nothing.  Hence for the canonical form: the literal `n` reads back exactly below 2^32
and is diagnosed from 2^32 on. -/
theorem C14_int_literals_decimal (sflag : Bool) (n : Nat) (rest : Bytes) (hr : ∀ c, rest.head? = some c → isdigit c = false) :
    Spec.decimal (toString n).toUTF8.toList = n ∧
    (∀ k ds, Spec.decimal (List.replicate k 48 ++ ds) = Spec.decimal ds) ∧
    (let r := lex1 false sflag false ((toString n).toUTF8.toList ++ rest)
     (n < 2 ^ 32 → r = { tok := .int n, rest := rest, errors := 0 }) ∧ (n ≥ 2 ^ 32 → r.errors ≥ 1 ∧ r.rest = rest)) :=
  ⟨Proofs.decimal_toString n, Proofs.decimal_leading_zeros, Proofs.lex_int sflag n rest hr⟩

/-! Non-vacuity of `C14_int_literals`: `000060` is 60; 2^64 + 60 and 2 * 2^64 + 3600 seconds (values a 64-bit
accumulator would wrap to the valid ages 60 and 3600) and 2^96 days (which it would wrap to 0) are diagnosed, the first
inside a whole file as well. -/
example : lex1 false false false "  000060 s".toUTF8.toList = { tok := .int 60, rest := " s".toUTF8.toList, errors := 0 } := by
  decide_lit
example : (lex1 false false false "18446744073709551676 seconds".toUTF8.toList).errors = 1 ∧
    (lex1 false false false "36893488147419106832 seconds".toUTF8.toList).errors = 1 ∧
    (lex1 false false false "79228162514264337593543950336 days".toUTF8.toList).errors = 1 := by decide_lit
example : parseConfig [] [] (fun _ => true) "maildir \"q\" { match date > 18446744073709551676 seconds break }".toUTF8.toList = .error 1 :=
  Proofs.Conf.error_of_isErrorAt (by decide_lit)

/-! ## The parser (Model/Conf.lean: the grammar of parse.y with its semantic actions) -/

/-- Totality and progress: `parseConfig` is a total function on all byte strings (by construction:
structural recursion on a budget of `input.length + 1`), never exhausts that budget - so its result
is always an acceptance or a first diagnostic, or the refusal of the `-D` options - and calls the lexer at
most `input.length + 1` times, whatever the bytes, the home directory, the `-D` macros and the
regex library are. -/
theorem C14_parser_total (home : Bytes) (defs : List (Bytes × Bytes)) (rxOk : Pat → Bool) (input : Bytes) :
    parseConfig home defs rxOk input ≠ .fuel ∧
    (parseConfigFull home defs rxOk input).nlex ≤ input.length + 1 :=
  ⟨(Proofs.Conf.parseConfigFull_spec home defs rxOk input).1, (Proofs.Conf.parseConfigFull_spec home defs rxOk input).2.1⟩

/-- What is accepted is well formed: every block of an accepted configuration has the shape the
manual describes (`Spec.wfK`), has at least one action, and uses `reject` only when all its paths are
stdin - for every input. -/
theorem C14_accepted_well_formed (home : Bytes) (defs : List (Bytes × Bytes)) (rxOk : Pat → Bool) (input : Bytes)
    (blocks : List PBlock) (h : parseConfig home defs rxOk input = .ok blocks) :
    ∀ b ∈ blocks, Spec.blockOK rxOk b = true :=
  Proofs.Conf.accepted_block h

/-- Error classes at tree level: a configuration whose tree contains, anywhere (any block, any nesting
depth, next to whatever else), one of these defects is not accepted.  Stated positively for every node
`t` of every block of every accepted configuration:
* a rule has either a nested block containing an action ("empty nested match block"), or a non-empty
  list of actions ("missing action") in which `discard` and `reject` are alone ("cannot be combined");
* an age is below 2^32 seconds ("integer too large": `n * unit ≥ 2^32`);
* `exec body` has `stdin` ("invalid exec options");
* patterns compile ("invalid pattern");
* the rules of an `attachment { }` action have no action but `exec`. -/
theorem C14_error_classes_tree (home : Bytes) (defs : List (Bytes × Bytes)) (rxOk : Pat → Bool) (input : Bytes) (t : CTree)
    (h : Proofs.Conf.AcceptedNode home defs rxOk input t) :
    (∀ l c r, t = .mtch l c r →
      (Spec.isBlock r = true ∧ r.countActions > 0) ∨
      (Spec.isBlock r = false ∧ r.countActions ≥ 1 ∧
        (r.countActions > 1 → r.countLeaf Expr.isDiscard = 0 ∧ r.countLeaf Expr.isReject = 0))) ∧
    (∀ l f c age, t = .leaf (.date l f c age) → age < 2 ^ 32) ∧
    (∀ l si bo argv, t = .leaf (.exec l si bo argv) → bo = true → si = true) ∧
    (∀ l p, t = .leaf (.body l p) → rxOk p = true) ∧
    (∀ l ns p, t = .leaf (.header l ns p) → rxOk p = true) ∧
    (∀ l b, t = .attBlock l b → b.countActions ≤ b.countLeaf Expr.isExec) :=
  ⟨fun _ _ _ e => Proofs.Conf.node_rule (e ▸ h), fun _ _ _ _ e => Proofs.Conf.node_date (e ▸ h),
   fun _ _ _ _ e => Proofs.Conf.node_exec (e ▸ h), fun _ _ e => Proofs.Conf.node_body (e ▸ h),
   fun _ _ _ e => Proofs.Conf.node_header (e ▸ h), fun _ _ e => Proofs.Conf.node_attBlock (e ▸ h)⟩

/-- Error classes at block level: no accepted configuration has a block without action ("empty match
block") or a `reject` in a block with a path other than stdin ("reject cannot be used outside stdin"). -/
theorem C14_error_classes_block (home : Bytes) (defs : List (Bytes × Bytes)) (rxOk : Pat → Bool) (input : Bytes)
    (blocks : List PBlock) (h : parseConfig home defs rxOk input = .ok blocks) (b : PBlock) (hb : b ∈ blocks) :
    b.tree.countActions > 0 ∧
    ((b.paths.any fun p => !isStdinStr p) = true → b.tree.countLeaf Expr.isReject = 0) :=
  (Proofs.Conf.blockOK_parts (Proofs.Conf.accepted_block h b hb)).2

/-- Error class "stdin already defined": whenever the parser meets the keyword `stdin` at the top
level after a block that reads from stdin, it reports a diagnostic on the line of that keyword -
whatever precedes and follows. -/
theorem C14_error_second_stdin (cx : PCtx) (fuel : Nat) (blocks : List PBlock) (s : ParseSt)
    (hla : s.la = some (.kw .stdin)) (hany : blocks.any (fun b => b.paths.any isStdinStr) = true) :
    parseTop cx (fuel + 1) blocks s = .err s.tokLine { s with la := none } :=
  Proofs.Conf.second_stdin cx fuel blocks s hla hany

/-- Error classes "unknown macro used in string" and "macro used in wrong context": a string
`pre ${name} post` (no `$` in `pre`, no `}` in `name`) cannot be expanded when `name` is not defined and
is not `path` - in any context - and when `name` is `path` outside an action. -/
theorem C14_error_macro_reference (action : Bool) (ms : List Macro) (name pre post acc : Bytes) (fuel : Nat)
    (hname : (125 : UInt8) ∉ name) (hpre : (36 : UInt8) ∉ pre) (hf : pre.length < fuel) :
    (isPathMacro name = false → (∀ m ∈ ms, m.name ≠ name) →
      expandMacros action fuel (pre ++ 36 :: 123 :: (name ++ 125 :: post)) ms acc = none) ∧
    (isPathMacro name = true →
      expandMacros false fuel (pre ++ 36 :: 123 :: (name ++ 125 :: post)) ms acc = none) :=
  ⟨fun hnp hun => Proofs.Conf.expandMacros_bad_ref action ms name post hname (Or.inr ⟨hnp, hun⟩) pre acc fuel hpre hf,
   fun hp => Proofs.Conf.expandMacros_bad_ref false ms name post hname (Or.inl ⟨hp, rfl⟩) pre acc fuel hpre hf⟩

/-- Error class "unused macro": when the grammar accepts the file but a macro - defined in the file or
with `-D` - was never referenced, the configuration is rejected with the line of the definition (0 for
`-D`). -/
theorem C14_error_macro_unused (home : Bytes) (defs : List (Bytes × Bytes)) (rxOk : Pat → Bool) (input : Bytes) (ms : List Macro)
    (blocks : List PBlock) (s : ParseSt) (m : Macro) (hd : macrosOfDefs defs [] = some ms)
    (hp : parseTop { nl := countNl input, home := home, rxOk := rxOk } (input.length + 1) [] { rest := input, macros := ms } = .ok blocks s)
    (hu : firstUnused s.macros = some m) :
    parseConfig home defs rxOk input = .error m.lno :=
  Proofs.Conf.unused_macro_rejected home defs rxOk input ms blocks s m hd hp hu

/-! Non-vacuity of the hypotheses above, on concrete files. -/

/-- An accepted file (hypothesis of `C14_accepted_well_formed`, `C14_error_classes_block`). -/
example : ∃ b bs, parseConfig [] [] (fun _ => true)
    "maildir \"a\" { match ! new and date > 2 weeks move \"b\" label \"c\" }\nstdin { match all reject }".toUTF8.toList = .ok (b :: bs) :=
  Proofs.Conf.ok_of_isOkNonempty (by decide_lit)

/-- A node of an accepted file (hypothesis of `C14_error_classes_tree`). -/
example : ∃ t, Proofs.Conf.AcceptedNode [] [] (fun _ => true)
    "stdin { match all exec stdin body \"x\" attachment { match body /p/ exec \"y\" } }".toUTF8.toList t :=
  Proofs.Conf.acceptedNode_of_ok (by decide_lit)

/-- The classes are not empty: these files are rejected, on the expected line. -/
example : parseConfig [] [] (fun _ => true) "stdin {\n match all move \"a\"\n discard }".toUTF8.toList = .error 3 :=
  Proofs.Conf.error_of_isErrorAt (by decide_lit)
example : parseConfig [] [] (fun _ => true) "stdin { match date > 137 years break }".toUTF8.toList = .error 1 :=
  Proofs.Conf.error_of_isErrorAt (by decide_lit)
example : parseConfig [] [] (fun _ => true) "stdin { match all break }\n\nstdin { match all break }".toUTF8.toList = .error 3 :=
  Proofs.Conf.error_of_isErrorAt (by decide_lit)
example : parseConfig [] [] (fun _ => true) "stdin { match all move \"${nosuch}\" }".toUTF8.toList = .error 1 :=
  Proofs.Conf.error_of_isErrorAt (by decide_lit)
example : parseConfig [] [] (fun _ => true) "x = \"1\"\nstdin { match all discard }".toUTF8.toList = .error 1 :=
  Proofs.Conf.error_of_isErrorAt (by decide_lit)
example : parseConfig [] [([120], [49])] (fun _ => true) "stdin { match all discard }".toUTF8.toList = .error 0 :=
  Proofs.Conf.error_of_isErrorAt (by decide_lit)
example : parseConfig [] [] (fun _ => true) "maildir \"a\" { match all reject }".toUTF8.toList = .error 1 :=
  Proofs.Conf.error_of_isErrorAt (by decide_lit)
example : parseConfig [] [] (fun _ => true) "stdin { match all exec body \"x\" }".toUTF8.toList = .error 1 :=
  Proofs.Conf.error_of_isErrorAt (by decide_lit)

/-- Error class "exec options cannot be repeated": a second `stdin` (or `body`) among the options of an
`exec` action is diagnosed on its own line, whatever follows. -/
theorem C14_error_exec_option_repeated (cx : PCtx) (fuel : Nat) (si bo : Bool) (s : ParseSt) :
    (s.la = some (.kw .stdin) → si = true → parseExecFlags cx (fuel + 1) si bo s = .err s.tokLine { s with la := none }) ∧
    (s.la = some (.kw .body) → bo = true → parseExecFlags cx (fuel + 1) si bo s = .err s.tokLine { s with la := none }) :=
  Proofs.Conf.exec_option_repeated cx fuel si bo s

/-- Error class "macro already defined": a second definition of a macro of the file, and any definition
of `path`, is refused by the macro table (`parseMacroDef` then reports the diagnostic). -/
theorem C14_error_macro_redefined (ms : List Macro) (name value : Bytes) (lno : Nat) :
    (isPathMacro name = true → macrosInsert ms name value lno false = none) ∧
    ((∃ m ∈ ms, m.name = name) → (∀ m ∈ ms, m.name = name → m.sticky = false) → macrosInsert ms name value lno false = none) :=
  Proofs.Conf.macro_redefined ms name value lno

/-- Macros are looked up by their exact name: a reference resolves IFF the table holds a macro of exactly
that name, and then to the value of (the first) such macro; and a definition under a name that no macro of
the table bears exactly - in particular a proper prefix or an extension of defined names (`in` after `inbox`,
`ab` next to `a` and `abc`), or the empty name - is entered, after everything defined before, whatever else
is defined. -/
theorem C14_macro_exact_name (ms : List Macro) (name : Bytes) :
    ((macrosUse ms name).isSome = true ↔ ∃ m ∈ ms, m.name = name) ∧
    (∀ v ms', macrosUse ms name = some (v, ms') → ∃ m ∈ ms, m.name = name ∧ m.value = v) ∧
    (∀ value lno sticky, isPathMacro name = false → (∀ m ∈ ms, m.name ≠ name) →
      macrosInsert ms name value lno sticky = some (ms ++ [{ name := name, value := value, lno := lno, sticky := sticky }])) := by
  have hu := Proofs.MainText.mt_macrosUse ms name
  refine ⟨by simp [hu, Spec.macroValue], fun v ms' h => ?_, fun value lno sticky hp hnew => ?_⟩
  · rw [hu, Spec.macroValue, Option.map_map, Option.map_eq_some_iff] at h
    obtain ⟨m, hf, he⟩ := h
    exact ⟨m, List.mem_of_find?_eq_some hf, by simpa using List.find?_some hf, (Prod.mk.inj he).1⟩
  · have hany : (ms.any fun m => m.name == name) = false := by simpa using hnew
    simp [macrosInsert, hp, hany]

/-! Whole files: a name that is a prefix of an earlier macro is a macro of its own (both orders are accepted, each
reference gets the value of exactly its macro), an undefined name that is a prefix or an extension of a defined one - or
the empty name - is unknown, and a definition is refused only under exactly the same name. -/
example : (match parseConfig [] [] (fun _ => true)
      "inbox = \"I\"\nin = \"N\"\nmaildir \"${in}\" { match all move \"${inbox}\" }".toUTF8.toList with
    | .ok [⟨[[78]], .block _ (.mtch _ _ (.leaf (.move _ [73])))⟩] => true | _ => false) = true ∧
    (match parseConfig [] [] (fun _ => true)
      "in = \"N\"\ninbox = \"I\"\nmaildir \"${in}\" { match all move \"${inbox}\" }".toUTF8.toList with
    | .ok [⟨[[78]], .block _ (.mtch _ _ (.leaf (.move _ [73])))⟩] => true | _ => false) = true := by decide_lit
example :
    Proofs.Conf.isErrorAt 2 (parseConfig [] [] (fun _ => true) "dst = \"d\"\nmaildir \"${dst}\" { match all move \"${ds}\" }".toUTF8.toList) = true ∧
    Proofs.Conf.isErrorAt 2 (parseConfig [] [] (fun _ => true) "dst = \"d\"\nmaildir \"${dst}\" { match all move \"${dsts}\" }".toUTF8.toList) = true ∧
    Proofs.Conf.isErrorAt 2 (parseConfig [] [] (fun _ => true) "dst = \"d\"\nmaildir \"${dst}\" { match all move \"${}\" }".toUTF8.toList) = true ∧
    Proofs.Conf.isErrorAt 1 (parseConfig [] [([100, 115, 116], [100])] (fun _ => true) "maildir \"q\" { match all move \"${ds}\" }".toUTF8.toList) = true ∧
    Proofs.Conf.isErrorAt 3 (parseConfig [] [] (fun _ => true)
      "in = \"N\"\ninbox = \"I\"\nin = \"M\"\nmaildir \"${in}\" { match all move \"${inbox}\" }".toUTF8.toList) = true := by decide_lit

/-! Path lists of `maildir` blocks: the grammar accepts the empty list `maildir { } { ... }` (a block that applies to no
maildir; `reject` is then not "outside stdin"); with `reject` anywhere in the block, EVERY path must be the standard input
(`C14_error_classes_block`): a real maildir in any position rejects the file. -/
example :
    Proofs.Conf.isOkNonempty (parseConfig [] [] (fun _ => true) "maildir { } { match all reject }".toUTF8.toList) = true ∧
    Proofs.Conf.isOkNonempty (parseConfig [] [] (fun _ => true) "maildir { } { match new { match all reject } }".toUTF8.toList) = true ∧
    Proofs.Conf.isOkNonempty (parseConfig [] [] (fun _ => true) "maildir { \"/dev/stdin\" \"/dev/stdin\" } { match all reject }".toUTF8.toList) = true ∧
    Proofs.Conf.isErrorAt 1 (parseConfig [] [] (fun _ => true) "maildir { \"/dev/stdin\" \"b\" } { match new reject match all move \"d\" }".toUTF8.toList) = true ∧
    Proofs.Conf.isErrorAt 1 (parseConfig [] [] (fun _ => true) "maildir { \"b\" \"/dev/stdin\" } { match all reject }".toUTF8.toList) = true ∧
    Proofs.Conf.isErrorAt 1 (parseConfig [] [] (fun _ => true) "maildir { \"/dev/stdin\" \"b\" \"/dev/stdin\" } { match all { match all reject } }".toUTF8.toList) = true := by
  decide_lit

example : parseConfig [] [] (fun _ => true) "a = \"1\"\na = \"2\"\nstdin { match all move \"${a}\" }".toUTF8.toList = .error 2 :=
  Proofs.Conf.error_of_isErrorAt (by decide_lit)
example : parseConfig [] [] (fun _ => true) "stdin { match all exec stdin\nstdin \"x\" }".toUTF8.toList = .error 2 :=
  Proofs.Conf.error_of_isErrorAt (by decide_lit)

/-! ## Acceptance: what the grammar writes is read back -/

/-- The full statement, for the printer `Spec.printBlocks` (one line, tokens separated by blanks, every
binary condition in parentheses, every list of strings in braces, ages in seconds, patterns between
slashes): every well-formed list of blocks reads back as itself, all nodes on line 1. -/
def C14_accepts_grammar_full : Prop :=
  ∀ (home : Bytes) (rxOk : Pat → Bool) (bs : List PBlock), (∀ b ∈ bs, Spec.blockOK rxOk b = true) →
    parseConfig home [] rxOk (Spec.printBlocks bs) = .ok (bs.map Spec.relabelBlock)

/-- It is false as it stands: strings are written verbatim, and a string holding a macro reference
(here `move "${x}"`) does not mean itself - the file is rejected ("unknown macro"). -/
theorem C14_accepts_grammar_full_false : ¬ C14_accepts_grammar_full := by
  intro h
  have := h [] (fun _ => true)
    [{ paths := [stdinStr], tree := .block 1 (.mtch 1 (.leaf (.all 1)) (.leaf (.move 1 [36, 123, 120, 125]))) }]
    (by decide +kernel)
  have he : Proofs.Conf.isErrorAt 1 (parseConfig [] [] (fun _ => true) (Spec.printBlocks
    [{ paths := [stdinStr], tree := .block 1 (.mtch 1 (.leaf (.all 1)) (.leaf (.move 1 [36, 123, 120, 125]))) }])) = true := by
    decide +kernel
  rw [this] at he
  cases he

/-- Acceptance (partial): every configuration in `Spec.ConfOK` - well-formed trees of any shape and
depth (conditions with `and`, `or`, `!`, `attachment`, all eight kinds of condition, nested blocks, all
eleven actions including `attachment { }` blocks, any number of `maildir` blocks and one `stdin` block)
whose strings are non-empty, shorter than 8191 bytes, without NUL, newline or `$`, not starting with `~`
and not ending in a backslash, whose patterns have no NUL, newline, `/` or backslash and not both `l` and
`u`, whose ages are below 2^32 and whose `flag` targets are `new` / `cur` - is accepted when written by
`Spec.printBlocks`, and the parser returns exactly its trees, every node on line 1.  Not covered:
macros and `~` (strings with `$`), other layouts (several lines, comments, other units, other
delimiters, bare single strings), and - for the real parser only - trees nested deeper than bison's
stack. -/
theorem C14_accepts_grammar_partial (home : Bytes) (rxOk : Pat → Bool) (bs : List PBlock)
    (hok : Spec.ConfOK rxOk bs = true) :
    parseConfig home [] rxOk (Spec.printBlocks bs) = .ok (bs.map Spec.relabelBlock) :=
  Proofs.Conf.printBlocks_roundtrip home rxOk bs hok

/-- The same for the evaluator's trees (`Model.ConfBlock`, `Model.Expr`). -/
theorem C14_accepts_grammar_partial_expr (home : Bytes) (rxOk : Pat → Bool) (c : List ConfBlock)
    (hok : Spec.ConfOK rxOk (c.map fun b => { paths := b.paths, tree := CTree.ofExpr b.expr }) = true) :
    parseConfig home [] rxOk (Spec.printConf c) =
      .ok (c.map fun b => { paths := b.paths, tree := Spec.relabel (CTree.ofExpr b.expr) }) := by
  have := Proofs.Conf.printBlocks_roundtrip home rxOk _ hok
  simpa [Spec.printConf, Spec.relabelBlock, List.map_map, Function.comp_def] using this

/-- Non-vacuity: a configuration in `Spec.ConfOK` with a nested block, an attachment block, a pattern
with flags, a date, several actions, a second block reading from stdin with `reject`. -/
example : Spec.ConfOK (fun _ => true)
    [{ paths := [[97], [98, 47, 99]],
       tree := .block 1 (.or 1
         (.mtch 1 (.and 1 (.neg 1 (.leaf (.new 1))) (.or 1 (.leaf (.header 1 [[84, 111]] { src := [117, 40, 115, 41], icase := true }))
                    (.leaf (.date 1 .modified .gt 1209600))))
           (.and 1 (.and 1 (.leaf (.move 1 [100])) (.leaf (.label 1 [[120], [121]]))) (.leaf (.pass 1))))
         (.mtch 1 (.attachment 1 (.leaf (.body 1 { src := [112, 100, 102], ucase := true })))
           (.block 1 (.mtch 1 (.leaf (.all 1))
             (.and 1 (.leaf (.exec 1 true true [[99, 97, 116]]))
               (.attBlock 1 (.block 1 (.mtch 1 (.leaf (.old 1)) (.leaf (.exec 1 false false [[108, 112, 114]])))))))))) },
     { paths := [stdinStr], tree := .block 1 (.mtch 1 (.leaf (.command 1 [[116]])) (.leaf (.reject 1))) }] = true := by
  decide +kernel

/-! ## The grammar of parse.y itself (Gen/Grammar.lean: bison's report on the parse.y of this run)

`Gen.productions` is the list of productions bison prints for the working tree's parse.y, regenerated
before every build (tools/gen_grammar.py).  `Spec.Cfg.Tree.ok` checks a parse tree against it: every
inner node is an instance of a production of the table, every leaf a terminal.  The proofs below end in
facts `p_expr3_header_strings_pattern : Gen.productions.contains ("expr3", ["HEADER", "strings", "pattern"]) = true`
(Proofs/ConfCfg1.lean), one per production, each an entry of the list that ONE evaluation compares with the table
(`table_is_covered`): removing or altering a production of parse.y breaks that evaluation. -/

/-- Every documented configuration is a sentence of the yacc grammar: for every configuration `bs` in
`Spec.ConfOK` (the domain of `C14_accepts_grammar_partial`), `Spec.Cfg.treeOfConf bs` is a parse tree
over the productions parse.y has NOW, its root is the start symbol, and its yield is the sequence of
token kinds of the written form - as `Spec.printBlocks` writes it (`blockToks`) and as the lexer model
reads it back from the bytes (`Lexes`: no diagnostic up to the end of the text, pattern / unit mode
exactly at PATTERN / SCALAR tokens). -/
theorem C14_printed_in_yacc_grammar (rxOk : Pat → Bool) (bs : List PBlock) (hok : Spec.ConfOK rxOk bs = true) :
    (Spec.Cfg.treeOfConf bs).ok Gen.productions = true ∧
    (Spec.Cfg.treeOfConf bs).root = Gen.grammarStart ∧
    (Spec.Cfg.treeOfConf bs).yield = (bs.flatMap Spec.blockToks).map Spec.Cfg.ptokKind ∧
    Spec.Cfg.Lexes false (Spec.printBlocks bs) (Spec.Cfg.treeOfConf bs).yield :=
  Proofs.Cfg.printed_in_grammar rxOk bs hok

/-- Non-vacuity and a look at the object: the tree of `stdin { match ! new move "d" }` is checked by
evaluation against the regenerated table, and its yield is the token sequence one expects. -/
example :
    let bs : List PBlock := [{ paths := [stdinStr], tree := .block 1 (.mtch 1 (.neg 1 (.leaf (.new 1))) (.leaf (.move 1 [100]))) }]
    Spec.ConfOK (fun _ => true) bs = true ∧ (Spec.Cfg.treeOfConf bs).ok Gen.productions = true ∧
    (Spec.Cfg.treeOfConf bs).yield = ["STDIN", "'{'", "MATCH", "NEG", "NEW", "MOVE", "STRING", "'}'"] := by
  decide +kernel

/-- The checker is not vacuous: a tree using a production the grammar does not have (`expr3: SYNC`) is
refused, and so is a tree whose leaf is a non-terminal. -/
example :
    (Spec.Cfg.N "expr3" [Spec.Cfg.T "SYNC"]).ok Gen.productions = false ∧
    (Spec.Cfg.N "expr1" [Spec.Cfg.T "expr3"]).ok Gen.productions = false ∧
    (Spec.Cfg.N "expr1" [Spec.Cfg.N "expr3" [Spec.Cfg.T "OLD"]]).ok Gen.productions = true := by
  decide +kernel

/-- The other direction, for the hand-written parser model: EVERY byte string `parseConfig` accepts (no
diagnostic, any `-D` definitions, any home directory, any regex library) is a sentence of the grammar
parse.y has now - the token kinds the lexer model delivers for it up to the end of the input, in the
modes the grammar's mid-rule actions set (`Lexes`), are the yield of a checked parse tree over
`Gen.productions` whose root is the start symbol.  So the recursive-descent model accepts nothing the
context-free grammar does not derive (it rejects more: the semantic checks); none of the two `error`
productions is used.  Not stated: that the tree is the one the LALR automaton builds (the grammar is
ambiguous without the `%left` declarations, which are regenerated as data, `Gen.grammarPrecedence`,
but not interpreted). -/
theorem C14_model_parser_uses_grammar (home : Bytes) (defs : List (Bytes × Bytes)) (rxOk : Pat → Bool) (input : Bytes)
    (blocks : List PBlock) (h : parseConfig home defs rxOk input = .ok blocks) :
    ∃ t : Spec.Cfg.Tree, t.ok Gen.productions = true ∧ t.root = Gen.grammarStart ∧
      Spec.Cfg.Lexes false input t.yield :=
  Proofs.Cfg.accepted_in_grammar h

/-- Non-vacuity: an accepted file with a macro definition, a comment, a bare string, a date with a unit
prefix, a pattern with another delimiter and an attachment block (none of which `Spec.printBlocks` writes). -/
example : ∃ b bs, parseConfig [] [] (fun _ => true)
    "d = \"x\" # comment\nmaildir \"${d}\" { match header \"To\" |a/b|i or date access < 3 we attachment { match all exec \"t\" } }".toUTF8.toList
      = .ok (b :: bs) :=
  Proofs.Conf.ok_of_isOkNonempty (by decide_lit)

/-- The shape of the grammar the parser model was written for, against what parse.y declares now:
* the precedence declarations are `%left AND OR`, `%left NEG`, `%left ATTACHMENT` in this order (lowest
  first) and no rule has a `%prec` - what `parseBinTail` (one left-associative level for `and` / `or`) and
  `parseUnary` (`!` and `attachment` bind tighter than both) implement;
* the table consists of the productions the two theorems above use (`Proofs.Cfg.usedProductions`: what the
  printer writes and the parser model implements) and of exactly two `error` productions, `grammar: error`
  and `exprs: error` - the error recovery that is not modelled; a production added to parse.y is therefore
  reported here before any generator knows the new syntax;
* `SYNC` is the only declared token no rule mentions. -/
theorem C14_grammar_shape :
    Gen.grammarPrecedence = [("left", ["AND", "OR"]), ("left", ["NEG"]), ("left", ["ATTACHMENT"])] ∧
    Gen.grammarRulePrec = [] ∧
    Gen.productions.all (fun p => Proofs.Cfg.usedProductions.contains p || Gen.errorProductions.contains p) = true ∧
    Proofs.Cfg.usedProductions.all (fun p => Gen.productions.contains p) = true ∧
    Gen.errorProductions = [("grammar", ["error"]), ("exprs", ["error"])] ∧
    Gen.grammarUnusedTokens = ["SYNC"] :=
  ⟨by decide, by decide, Proofs.Cfg.table_is_covered.1, Proofs.Cfg.table_is_covered.2.1, by decide, by decide⟩

/-! ## The whole program from the configuration TEXT (`Model.mainText`, Model/MainText.lean)

`mainText env orc rxOk defs confText files input` is `main` of mdsort.c after `getopt`: the `-D` options
`defs` enter the macro table, `parseConfig` reads the bytes `confText` of the configuration file, and the
loop of `mainP` runs over the trees it built.  It is compared with the real binary along the trace of real
runs (`M conformtext`, tools/props/c14.py), next to `mainP` on the trees the real parser built. -/

/-- Rejected as a whole, from the text: for EVERY byte string `parseConfig` rejects - wherever the
defect is, whatever valid blocks surround it - every environment, population `files`, standard input
and fault plan, the run opens (and closes) the configuration file and issues no other call: no maildir
is opened, no message examined, no command run, no file changed; the exit status is 1, in stdin mode
75.  With the `C14_error_*` theorems: a configuration with one of the listed defects anywhere leaves
every maildir untouched. -/
theorem C14_reject_whole_text (env : PEnv) (orc : EvalOracles) (rxOk : Pat → Bool) (defs : List (Bytes × Bytes))
    (confText : Bytes) (files : Files) (input : Bytes) (line : Nat) (w : World) (plan : Plan)
    (h : parseConfig env.home defs rxOk confText = .error line) :
    let p := mainText env orc rxOk defs confText files input
    let r := runPlan plan p w 0 []
    r.1.2.error = true ∧ r.1.1 = (if env.stdinMode then 75 else 1) ∧
    (Proofs.callsOf plan p w = [.fopen env.confpath] ∨
     ∃ hd, Proofs.callsOf plan p w = [.fopen env.confpath, .fclose hd]) :=
  Proofs.MainText.mainText_rejected env orc rxOk defs confText files input line w plan h

/-- Refused `-D` options (`-D path=...`, the same name twice): the run ends in the option loop - no
call at all, not even the configuration file is opened - with exit status 1 also in stdin mode (the
`-` operand has not been seen when `main` gives up). -/
theorem C14_reject_defs_text (env : PEnv) (orc : EvalOracles) (rxOk : Pat → Bool) (defs : List (Bytes × Bytes))
    (confText : Bytes) (files : Files) (input : Bytes) (w : World) (plan : Plan)
    (h : parseConfig env.home defs rxOk confText = .invalidDefs) :
    let p := mainText env orc rxOk defs confText files input
    (runPlan plan p w 0 []).1.1 = 1 ∧ (runPlan plan p w 0 []).1.2.error = true ∧ Proofs.callsOf plan p w = [] :=
  Proofs.MainText.mainText_invalidDefs env orc rxOk defs confText files input w plan h

/-! ## The command line: refused before the configuration is opened -/

/-- A command line `main` refuses - an unknown option, a missing option argument, an operand other than `-`, more than
one operand (usage), `-D` without `=`, `-D` with the name `path` or a name given twice - ends the run with exit status 1
and WITHOUT ANY CALL: the configuration file is not opened, no maildir, no message, no process, under every environment
and fault plan.  (`getopt` and `warnx` write to stderr, which is not a modelled call.) -/
theorem C14_usage_error_no_call (permute : Bool) (args : List Bytes) (raw : RawEnv) (env : PEnv) (orc : EvalOracles)
    (rxOk : Pat → Bool) (confText : Bytes) (files : Files) (input : Bytes) (w : World) (plan : Plan) (e : ArgsErr)
    (h : parseArgs permute args = .error e) :
    let p := mainArgs permute args raw env orc rxOk confText files input
    (runPlan plan p w 0 []).1.1 = 1 ∧ Proofs.callsOf plan p w = [] ∧ (runPlan plan p w 0 []).2.1 = w := by
  intro p
  have hp : p = .ret (earlyExit files) := Proofs.Opts.mainArgs_refused permute args raw env orc rxOk confText files input e h
  rw [hp]
  exact ⟨by rw [(Proofs.Opts.ret_run plan _ w).1]; rfl, (Proofs.Opts.ret_run plan _ w).2, rfl⟩

/-- Which command lines are refused, after any accepted option words (`items`, `Spec.cmdMeaning items {} = .ok o`):
(1) a letter outside `D:df:nv` - alone, clustered after flag letters, `--long`, `-:` - whatever follows: usage;
(2) `-f` / `-D` as the last letter of the last word: usage; (3) `-D` with an argument without `=`: "missing macro
separator"; (4) operands: everything but "none" and "exactly `-`" is usage (also after `--`); (5) the documented
`-D` errors come out of `Spec.cmdline` (`C05_options_select_mode`): the name `path`, a name twice. -/
theorem C14_usage_causes (permute : Bool) (items : List Spec.CmdItem) (hwf : ∀ it ∈ items, it.wf = true) (o : Opts)
    (hm : Spec.cmdMeaning items {} = .ok o) (ls : Bytes) (hl : ls.all Spec.isFlagLetter = true) :
    (∀ c r rest, optLookup Gen.optstring c = none → (ls = [] → ((45 :: c :: r : Bytes) == dashdash) = false) →
      parseArgs permute (Spec.renderCmd items ++ (45 :: (ls ++ c :: r)) :: rest) = .error .usage) ∧
    (∀ c, optLookup Gen.optstring c = some true → c ≠ 45 →
      parseArgs permute (Spec.renderCmd items ++ [45 :: (ls ++ [c])]) = .error .usage) ∧
    (∀ a rest, a.contains 61 = false →
      parseArgs permute (Spec.renderCmd items ++ (45 :: (ls ++ [68])) :: a :: rest) = .error (.macroSeparator a)) ∧
    (∀ ops, ops ≠ [] → ops ≠ [[45]] →
      parseArgs permute (Spec.renderCmd items ++ dashdash :: ops) = .error .usage ∧
      (ops.all isNonOption = true → parseArgs permute (Spec.renderCmd items ++ ops) = .error .usage)) := by
  refine ⟨fun c r rest hc hnd => Proofs.Opts.parseArgs_unknown_option permute items hwf o hm ls hl c r rest hc hnd,
    fun c hc h45 => Proofs.Opts.parseArgs_missing_argument permute items hwf o hm ls hl c hc h45,
    fun a rest ha => Proofs.Opts.parseArgs_missing_separator permute items hwf o hm ls hl a ha rest, ?_⟩
  intro ops h1 h2
  have hu : operandStep o ops = .error .usage := (Proofs.Opts.operandStep_usage o ops).2 ⟨h1, h2⟩
  refine ⟨?_, fun hops => ?_⟩
  · rw [Proofs.Opts.parseArgs_words_dashdash permute items hwf ops, hm]; simp only [hu]
  · rw [Proofs.Opts.parseArgs_words_operands permute items hwf ops hops, hm]; simp only [hu]

/-- The option letters, evaluated on the regenerated option string: `D` and `f` take an argument, `d`, `n`, `v` do not,
nothing else is an option (in particular not `-`, `:`, `h`, `V`, `x`). -/
example :
    Gen.optstring = "D:df:nv".toUTF8.toList ∧
    (List.range 256).filter (fun c => optLookup Gen.optstring c.toUInt8 == some true) = [68, 102] ∧
    (List.range 256).filter (fun c => optLookup Gen.optstring c.toUInt8 == some false) = [100, 110, 118] := by
  decide +kernel

/-- Non-vacuity: each refusal on a concrete command line, also with a valid `-n -f conf` in front and `-` behind. -/
example :
    parseArgs true ["-x".toUTF8.toList] = .error .usage ∧
    parseArgs true ["-n".toUTF8.toList, "-f".toUTF8.toList, "conf".toUTF8.toList, "-dx".toUTF8.toList, "-".toUTF8.toList] = .error .usage ∧
    parseArgs true ["--foo".toUTF8.toList] = .error .usage ∧ parseArgs true ["-d-".toUTF8.toList] = .error .usage ∧
    parseArgs true ["-:".toUTF8.toList] = .error .usage ∧
    parseArgs true ["-n".toUTF8.toList, "-f".toUTF8.toList] = .error .usage ∧ parseArgs true ["-nD".toUTF8.toList] = .error .usage ∧
    parseArgs true ["-D".toUTF8.toList, "a".toUTF8.toList] = .error (.macroSeparator "a".toUTF8.toList) ∧
    parseArgs true ["-Da".toUTF8.toList, "-x".toUTF8.toList] = .error (.macroSeparator "a".toUTF8.toList) ∧
    parseArgs true ["-x".toUTF8.toList, "-Da".toUTF8.toList] = .error .usage ∧
    parseArgs true ["-Dpath=x".toUTF8.toList] = .error (.macroInvalid "path".toUTF8.toList) ∧
    parseArgs true ["-Da=1".toUTF8.toList, "-D".toUTF8.toList, "a=2".toUTF8.toList] = .error (.macroInvalid "a".toUTF8.toList) ∧
    parseArgs true ["x".toUTF8.toList] = .error .usage ∧ parseArgs true ["-".toUTF8.toList, "-".toUTF8.toList] = .error .usage ∧
    parseArgs true ["--".toUTF8.toList, "-n".toUTF8.toList] = .error .usage ∧
    parseArgs true ["".toUTF8.toList] = .error .usage ∧
    (parseArgs true ["-f".toUTF8.toList, "--".toUTF8.toList, "--".toUTF8.toList, "-".toUTF8.toList]).toOption.map
      (fun o => (o.confpath, o.stdinMode)) = some (some "--".toUTF8.toList, true) ∧
    (parseArgs true ["-D=v".toUTF8.toList, "-Da=b=c".toUTF8.toList, "-Dmatch=".toUTF8.toList]).toOption.map (·.defs) =
      some [([], "v".toUTF8.toList), ("a".toUTF8.toList, "b=c".toUTF8.toList), ("match".toUTF8.toList, [])] := by
  decide +kernel

/-- What "after `getopt`" means for the models of `main`: the option string of the `getopt` call in mdsort.c (regenerated:
`Gen.getoptString`) declares exactly the options the models take as parameters - `-D name=value` with an argument (the `defs` of
`mainText`), `-d` (`PEnv.dryrun`), `-f file` with an argument (`confpath`; `fOpt` of `Model.startPaths`), `-n` (syntax check
only), `-v` (verbosity: logging is outside every model) - and no other.  A new or removed option letter in the source makes
this false. -/
theorem C14_getopt_options :
    Model.optSpec Gen.getoptString.toList = [('D', true), ('d', false), ('f', true), ('n', false), ('v', false)] := by
  decide

/-- Accepted text runs its tree: when `parseConfig` accepts, its blocks are trees of the evaluator (no
empty block: `confBlocksOf` succeeds and loses nothing, `toPBlocks conf = blocks`) and `mainText` IS
`mainP` with verdict "accepted" over exactly these trees - as an equality of programs, so every theorem
about `mainP` (C01-C05, C09, C12, C13, C17) holds for the run from the text. -/
theorem C14_accepted_runs_its_tree (env : PEnv) (orc : EvalOracles) (rxOk : Pat → Bool) (defs : List (Bytes × Bytes))
    (confText : Bytes) (files : Files) (input : Bytes) (blocks : List PBlock)
    (h : parseConfig env.home defs rxOk confText = .ok blocks) :
    ∃ conf, confBlocksOf blocks = some conf ∧ Proofs.MainText.toPBlocks conf = blocks ∧
      mainText env orc rxOk defs confText files input = mainP env orc true conf files input :=
  Proofs.MainText.mainText_accepted env orc rxOk defs confText files input blocks h

/-- `parseConfig` has no other outcome (`C14_parser_total` excludes `.fuel`), so the three theorems above
cover every byte string. -/
theorem C14_text_outcomes (home : Bytes) (defs : List (Bytes × Bytes)) (rxOk : Pat → Bool) (confText : Bytes) :
    (∃ blocks, parseConfig home defs rxOk confText = .ok blocks) ∨ (∃ line, parseConfig home defs rxOk confText = .error line) ∨
    parseConfig home defs rxOk confText = .invalidDefs := by
  have := (C14_parser_total home defs rxOk confText).1
  cases h : parseConfig home defs rxOk confText with
  | ok b => exact Or.inl ⟨b, rfl⟩
  | error l => exact Or.inr (Or.inl ⟨l, rfl⟩)
  | invalidDefs => exact Or.inr (Or.inr rfl)
  | fuel => exact absurd h this

/-- The property in one statement, for every byte string, environment, population and fault plan: a run
that issues any call besides opening and closing the configuration file comes from a configuration that
was accepted and all of whose blocks are well formed (`Spec.blockOK`: the shape of mdsort.conf(5) with
every side condition of `C14_error_classes_*`).  Contrapositive: a configuration with a defect anywhere
leaves every maildir untouched. -/
theorem C14_well_formed_or_untouched (env : PEnv) (orc : EvalOracles) (rxOk : Pat → Bool) (defs : List (Bytes × Bytes))
    (confText : Bytes) (files : Files) (input : Bytes) (w : World) (plan : Plan) :
    (∃ blocks, parseConfig env.home defs rxOk confText = .ok blocks ∧ ∀ b ∈ blocks, Spec.blockOK rxOk b = true) ∨
    (∀ c ∈ Proofs.callsOf plan (mainText env orc rxOk defs confText files input) w,
      c = .fopen env.confpath ∨ ∃ h, c = .fclose h) := by
  rcases C14_text_outcomes env.home defs rxOk confText with ⟨b, hb⟩ | ⟨l, hl⟩ | hd
  · exact Or.inl ⟨b, hb, C14_accepted_well_formed _ _ _ _ _ hb⟩
  · refine Or.inr fun c hc => ?_
    rcases (Proofs.MainText.mainText_rejected env orc rxOk defs confText files input l w plan hl).2.2 with h | ⟨hd, h⟩
    · rw [h] at hc
      exact Or.inl (List.mem_singleton.mp hc)
    · rw [h, List.mem_cons, List.mem_singleton] at hc
      rcases hc with rfl | rfl
      · exact Or.inl rfl
      · exact Or.inr ⟨hd, rfl⟩
  · refine Or.inr fun c hc => ?_
    rw [(Proofs.MainText.mainText_invalidDefs env orc rxOk defs confText files input w plan hd).2.2] at hc
    cases hc

/-- Non-vacuity: a rejected text with valid blocks around the defect, an accepted text, refused options
(`home` = `/h`). -/
example :
    Proofs.Conf.isErrorAt 3 (parseConfig [47, 104] [] (fun _ => true)
      "maildir \"~/a\" { match all move \"b\" }\nstdin { match all discard }\nmaildir \"c\" { match all exec body \"x\" }".toUTF8.toList) = true ∧
    Proofs.Conf.isOkNonempty (parseConfig [47, 104] [] (fun _ => true)
      "maildir \"~/a\" { match all move \"b\" }\nstdin { match all discard }".toUTF8.toList) = true ∧
    Proofs.MainText.mt_isInvalidDefs (parseConfig [47, 104] [("path".toUTF8.toList, [120])] (fun _ => true)
      "stdin { match all discard }".toUTF8.toList) = true := by
  decide_lit

/-! ## Diagnostics of the lexer as error classes -/

/-- Every diagnostic of the lexer is a diagnostic of the parser: at every position where the parser reads
a token (`peek` without lookahead, in the lexer modes of that position) a lexer call that reports a
diagnostic ends the parse with an error - there is no handler, an error passes through every
continuation.  (`parseConfig` reads tokens only through `peek`.) -/
theorem C14_error_lexer_diagnostic (cx : PCtx) (pf sf : Bool) (s : ParseSt) (hla : s.la = none)
    (herr : (lex1 pf sf s.afterMacro s.rest).errors > 0) :
    (∃ s', peek cx pf sf s = .err (lexErrLine cx.nl s.afterMacro s.rest) s') ∧
    (∀ {α β : Type} (m : PM α) (f : α → PM β) (s0 s1 : ParseSt) (l : Nat), m s0 = .err l s1 → (m >>= f) s0 = .err l s1) :=
  ⟨Proofs.MainText.mt_peek_lex_error cx pf sf s hla herr, fun m f s0 s1 l h => Proofs.MainText.mt_bind_err m f s0 s1 l h⟩

/-- The lexer-level classes, in every mode and at every position of every file: a pattern token carrying
both `l` and `u`, and a time unit that is a prefix of several units (`scalar none`), come with a
diagnostic; so does an integer literal of 2^32 or more (`C14_int_literals`), and an integer token never
exceeds 32 bits otherwise. -/
theorem C14_error_classes_lexer (pf sf am : Bool) (input : Bytes) :
    (∀ src i, (lex1 pf sf am input).tok = .pattern src i true true → (lex1 pf sf am input).errors > 0) ∧
    ((lex1 pf sf am input).tok = .scalar none → (lex1 pf sf am input).errors > 0) ∧
    (∀ n, (lex1 pf sf am input).tok = .int n → (lex1 pf sf am input).errors > 0 ∨ n < 2 ^ 32) :=
  ⟨fun src i h => Proofs.MainText.mt_lex_pattern_lu pf sf am input src i h,
   fun h => Proofs.MainText.mt_lex_unit_ambiguous pf sf am input h,
   fun n h => Proofs.MainText.mt_lex_int_bound pf sf am input n h⟩

/-- The lexer-level classes as a statement about whole files: for EVERY byte string `parseConfig` accepts,
no pattern anywhere in its trees carries both `l` and `u`, and every age is `n * unit` for an `n` below
2^32 and `unit` one of the values of `Gen.scalars`, the table `scalars[]` of parse.y regenerated on every run (that
this table is the documented one - seven units, 1 ... 31536000 - is `C15_units`; an ambiguous or unknown unit, or an
integer that does not fit, never gets into a tree).  So a configuration in which the parser reads such a token - in any block, at any
depth, next to whatever else - is not accepted. -/
theorem C14_error_classes_tokens (home : Bytes) (defs : List (Bytes × Bytes)) (rxOk : Pat → Bool) (input : Bytes) (e : Expr)
    (h : Proofs.Conf.AcceptedNode home defs rxOk input (.leaf e)) :
    (∀ l p, e = .body l p → (p.lcase && p.ucase) = false) ∧
    (∀ l ns p, e = .header l ns p → (p.lcase && p.ucase) = false) ∧
    (∀ l f c age, e = .date l f c age →
      ∃ n v, age = n * v ∧ n < 2 ^ 32 ∧ v ∈ Gen.scalars.map (·.2)) := by
  have hc := Proofs.MainText.accepted_leaf_clean h
  refine ⟨fun l p he => by subst he; exact hc, fun l ns p he => by subst he; exact hc, fun l f c age he => ?_⟩
  subst he
  exact hc

/-- Non-vacuity: an accepted file with a `date` leaf and a `body` leaf (`2 w` = 2 * 604800). -/
example :
    (∃ l f c age, Proofs.Conf.AcceptedNode [] [] (fun _ => true)
      "maildir \"q\" { match date > 2 w and body /a/il break }".toUTF8.toList (.leaf (.date l f c age))) ∧
    (∃ l p, Proofs.Conf.AcceptedNode [] [] (fun _ => true)
      "maildir \"q\" { match date > 2 w and body /a/il break }".toUTF8.toList (.leaf (.body l p))) :=
  Proofs.MainText.acceptedLeaves_of (by decide_lit)

/-- An unknown unit is no unit token (it is lexed as a macro name, or a keyword): where the grammar expects
the unit of an age, anything but a unit token is a syntax error on the line of that token. -/
theorem C14_error_unknown_unit (cx : PCtx) (s : ParseSt) (t : Tk) (hla : s.la = some t)
    (ht : ∀ v, t ≠ .scalar (some v)) : parseScalar cx s = .err s.tokLine s :=
  Proofs.MainText.mt_parseScalar_not_unit cx s t hla ht

/-- The classes are not empty: whole files with these defects are rejected on the expected line, next to
valid blocks. -/
example :
    Proofs.Conf.isErrorAt 2 (parseConfig [] [] (fun _ => true)
      "stdin { match all discard }\nmaildir \"q\" { match body /a/lu break }".toUTF8.toList) = true ∧
    Proofs.Conf.isErrorAt 1 (parseConfig [] [] (fun _ => true) "maildir \"q\" { match date > 1 m break }".toUTF8.toList) = true ∧
    Proofs.Conf.isErrorAt 1 (parseConfig [] [] (fun _ => true) "maildir \"q\" { match date > 1 foo break }".toUTF8.toList) = true ∧
    Proofs.Conf.isErrorAt 3 (parseConfig [] [] (fun _ => true)
      "maildir \"q\" {\n match date >\n 4294967296 seconds break }".toUTF8.toList) = true ∧
    (lex1 true false false " /a/lu x".toUTF8.toList).errors = 1 ∧ (lex1 false true false " m x".toUTF8.toList).errors = 1 := by
  decide_lit

/-! ## Error classes at EVERY position of a written configuration

The theorems `C14_error_second_stdin`, `C14_error_macro_reference`, `C14_error_unknown_unit`, `C14_error_exec_option_repeated`
above speak of one
parser function started in an arbitrary state.  `C14_error_anywhere_rejects_file` lifts them to whole files: take
what `Spec.printBlocks` writes of a configuration of `Spec.ConfOK` up to ANY position (`Spec.RulePos`: behind any
number of complete blocks, in a `stdin` or `maildir` block, behind any number of complete rules, and - to any
depth - inside the nested block of a rule or the block of an `attachment` action; `Spec.ActPos`: behind
`match cond` and any number of complete actions of a rule there; `Spec.CondPos`: in the condition of a rule
there, behind any sequence of `!`, `attachment`, `(`, `( cond and`, `( cond or`), write the defect, and then
ANYTHING (`tl`: nothing, or a blank and arbitrary bytes - in particular the rest of the well-formed file):
`parseConfig` reports a diagnostic, and the first one is on line 1 (the written part has no newline; `tl`
may have).  With `C14_reject_whole_text`: such a file leaves every maildir untouched.

The proof is a lifting of the local theorems: the read-back lemmas behind
`C14_accepts_grammar_partial` hold in front of arbitrary text and for any postcondition of the error outcome
(Proofs/ConfRT1.lean, ConfRT5.lean: `Up cx tl s ts`, `RT`, `Goal`), so they bring the parser to the position; there the
local function fails, and an error passes through every continuation (`wpl_bind`, Proofs/ConfWpl.lean; the lifting
is Proofs/ConfAnywhere1.lean, the classes Proofs/ConfAnywhere7.lean).  The budget of `parseConfig` is not exhausted (`C14_parser_total`). -/

/-- A string with a macro reference that cannot be expanded in a written configuration (which defines no macro):
its first `$` starts `${name}`, and `name` is not `path` - or the string stands where `${path}` is not allowed
(`action = false`: everywhere but in `move`, `label`, `exec` and the value of `add-header`). -/
example : Spec.BadRef true "in${box}/x".toUTF8.toList ∧ Spec.BadRef false "${path}".toUTF8.toList ∧
    ¬ Spec.strOK "in${box}/x".toUTF8.toList = true :=
  ⟨⟨by decide_lit, "in".toUTF8.toList, "box".toUTF8.toList, "/x".toUTF8.toList, by decide_lit⟩,
   ⟨by decide_lit, [], "path".toUTF8.toList, [], by decide_lit⟩,
   by decide_lit⟩

/-- A defect of one of the classes "stdin already defined", "unknown macro" / "macro used in wrong context", unknown or
ambiguous unit, "exec options cannot be repeated", written at ANY position of a written configuration - behind any well-formed
blocks, rules, actions and parts of a condition, at any nesting depth (`Spec.RulePos`, `ActPos`, `CondPos`, all of whose
parts must be well formed: `.ok`) - and followed by ANY text `tl`, makes `parseConfig` report a diagnostic; the first one is
on line 1 (the written prefix is one line).  Hypotheses besides `.ok`: `Spec.BadRef` (the FIRST `$` of the string starts the
reference, the name is not `path` or the context is not an action, the string itself is one STRING token), the strings before it in
the same list mean themselves, the number of a `date` fits 32 bits, the unit word is a word (`Spec.badUnitWord`) and ends where
it ends.  Not covered: files in another layout than `Spec.printBlocks` writes (checked by differential execution, stage 1c' of
tools/props/c14.py), macro definitions before the defect, the lexer's own diagnostics. -/
theorem C14_error_anywhere_rejects_file (home : Bytes) (rxOk : Pat → Bool) (tl : Bytes) (htl : Spec.tailOK tl = true) :
    -- "stdin already defined": a block written `stdin` behind a block that reads from stdin, at any two positions
    (∀ (pre : List PBlock) (b1 : PBlock) (mid : List PBlock) (b2 : PBlock) (post : List PBlock),
      Spec.ConfOK rxOk (pre ++ b1 :: mid) = true → b1.paths.any isStdinStr = true → b2.paths = [stdinStr] →
      parseConfig home [] rxOk (Spec.printBlocks (pre ++ b1 :: (mid ++ b2 :: post))) = .error 1) ∧
    (∀ (pre : List PBlock), Spec.ConfOK rxOk pre = true → (pre.any fun x => x.paths.any isStdinStr) = true →
      parseConfig home [] rxOk (Spec.render (pre.flatMap Spec.blockToks ++ [.kw .stdin]) ++ tl) = .error 1) ∧
    -- "unknown macro" / "macro used in wrong context" in a string of an action: any action, any action position
    (∀ (p : Spec.ActPos) (site : Spec.ActSite) (b : Bytes), p.ok rxOk = true → site.ok = true → Spec.BadRef site.action b →
      parseConfig home [] rxOk (Spec.render (p.toks ++ site.toks b) ++ tl) = .error 1) ∧
    -- ... in a string of a condition: `header`, `isdirectory`, `command`, at any operand position of any condition
    (∀ (p : Spec.CondPos) (site : Spec.CondSite) (b : Bytes), p.ok rxOk = true → site.ok = true → Spec.BadRef false b →
      parseConfig home [] rxOk (Spec.render (p.toks ++ site.toks b) ++ tl) = .error 1) ∧
    -- ... in a path of a `maildir` block, behind any complete blocks
    (∀ (pre : List PBlock) (l1 l2 : List Bytes) (b : Bytes), Spec.ConfOK rxOk pre = true → l1.all Spec.strOK = true →
      l2.all Spec.strLexOK = true → Spec.BadRef false b →
      parseConfig home [] rxOk
        (Spec.render (pre.flatMap Spec.blockToks ++ (.kw .maildir :: Spec.strsToks (l1 ++ b :: l2))) ++ tl) = .error 1) ∧
    -- "unknown unit": a `date` condition, at any operand position of any condition, whose unit is a word that is a
    -- keyword, or a prefix of no unit, or of several ("ambiguous keyword")
    (∀ (p : Spec.CondPos) (f : DateField) (c : DateCmp) (n : Nat) (w tail : Bytes), p.ok rxOk = true → n < 2 ^ 32 →
      Spec.badUnitWord w = true → (∀ x, tail.head? = some x → isKwChar x = false) →
      parseConfig home [] rxOk
        (Spec.render (p.toks ++ (.kw .date :: (Spec.fieldToks f ++ [Spec.cmpTok c, .int n]))) ++ 32 :: (w ++ tail)) = .error 1) ∧
    -- "exec options cannot be repeated": `exec` with `stdin` or `body` twice among its options, at any action position
    (∀ (p : Spec.ActPos) (opts : List Kw), p.ok rxOk = true → Spec.optsRepeat opts = true →
      parseConfig home [] rxOk (Spec.render (p.toks ++ (.kw .exec :: opts.map Spec.PTok.kw)) ++ tl) = .error 1) :=
  ⟨fun pre b1 mid b2 post h1 h2 h3 => Proofs.Conf.second_stdin_file home rxOk pre b1 mid b2 post h1 h2 h3,
   fun pre h1 h2 => Proofs.Conf.anywhere_second_stdin home rxOk pre h1 h2 tl htl,
   fun p site b hp hs hb => Proofs.Conf.anywhere_action_string home rxOk p hp site hs b hb tl htl,
   fun p site b hp hs hb => Proofs.Conf.anywhere_cond_string home rxOk p hp site hs b hb tl htl,
   fun pre l1 l2 b hpre h1 h2 hb => Proofs.Conf.anywhere_path home rxOk pre hpre l1 l2 h1 h2 b hb tl htl,
   fun p f c n w tail hp hn hw ht => Proofs.Conf.anywhere_unit home rxOk p hp f c n hn w tail hw ht,
   fun p opts hp ho => Proofs.Conf.anywhere_exec_option home rxOk p hp opts ho tl htl⟩

/-! Non-vacuity of `C14_error_anywhere_rejects_file`, on concrete files: the positions and sites satisfy the
hypotheses, the text is the one shown, the well-formed file is accepted and the file with the defect rejected on line 1. -/

/-- A string in the fourth action-carrying rule, three blocks deep (a nested block, an attachment block), behind another
block: `exec stdin { "z" "${u}" "w" }`. -/
example :
    let p : Spec.ActPos :=
      { rp := { pre := [⟨[[97]], .block 1 (.mtch 1 (.leaf (.all 1)) (.leaf (.brk 1)))⟩], paths := [stdinStr],
                steps := [.rule (.mtch 1 (.leaf (.new 1)) (.leaf (.pass 1))), .nested (.leaf (.old 1)),
                          .attach (.leaf (.all 1)) [.leaf (.exec 1 false false [[120]])]] },
        cond := .leaf (.all 1), acts := [.leaf (.exec 1 false false [[121]])] }
    let site : Spec.ActSite := .exec true false [[122]] [[119]]
    let close : Bytes := Spec.render [.rbrace, .rbrace, .rbrace]
    p.ok (fun _ => true) = true ∧ site.ok = true ∧ site.action = true ∧ Spec.tailOK close = true ∧
    Spec.render (p.toks ++ site.toks "${u}".toUTF8.toList) ++ close =
      (" maildir { \"a\" } { match all break } stdin { match new pass match old { match all exec { \"x\" } attachment {" ++
       " match all exec { \"y\" } exec stdin { \"z\" \"${u}\" \"w\" } } } }").toUTF8.toList ∧
    Proofs.Conf.isOkNonempty (parseConfig [] [] (fun _ => true) (Spec.render (p.toks ++ site.toks [118]) ++ close)) = true ∧
    Proofs.Conf.isErrorAt 1 (parseConfig [] [] (fun _ => true)
      (Spec.render (p.toks ++ site.toks "${u}".toUTF8.toList) ++ close)) = true ∧
    -- the same position, `exec stdin body stdin { "z" } } } }`
    Spec.optsRepeat [.stdin, .body, .stdin] = true ∧ Spec.optsRepeat [.stdin, .body] = false ∧
    Proofs.Conf.isOkNonempty (parseConfig [] [] (fun _ => true)
      (Spec.render (p.toks ++ (.kw .exec :: [Kw.stdin, .body].map Spec.PTok.kw)) ++ Spec.render (Spec.strsToks [[122]]) ++ close)) = true ∧
    Proofs.Conf.isErrorAt 1 (parseConfig [] [] (fun _ => true)
      (Spec.render (p.toks ++ (.kw .exec :: [Kw.stdin, .body, .stdin].map Spec.PTok.kw)) ++ (Spec.render (Spec.strsToks [[122]]) ++ close))) = true := by
  decide_lit

/-- An operand deep in a condition of a rule of a nested block: `isdirectory "${path}"`, and `date > 3` with the words
`foo` (no unit), `m` (`minutes` or `months`), `match` (a keyword) instead of a unit; `se` is a unit. -/
example :
    let p : Spec.CondPos :=
      { rp := { pre := [], paths := [[109]], steps := [.nested (.leaf (.all 1))] },
        steps := [.bang, .andR (.leaf (.new 1)), .att, .lpar] }
    let rest : Bytes := Spec.render [.kw .or, .kw .old, .rparen, .rparen, .kw .brk, .rbrace, .rbrace]
    let date : List Spec.PTok := .kw .date :: (Spec.fieldToks .header ++ [Spec.cmpTok .gt, .int 3])
    p.ok (fun _ => true) = true ∧ Spec.tailOK rest = true ∧
    Spec.render (p.toks ++ date) ++ 32 :: ("foo".toUTF8.toList ++ rest) =
      " maildir { \"m\" } { match all { match ! ( new and attachment ( date > 3 foo or old ) ) break } }".toUTF8.toList ∧
    Spec.badUnitWord "foo".toUTF8.toList = true ∧ Spec.badUnitWord "m".toUTF8.toList = true ∧
    Spec.badUnitWord "match".toUTF8.toList = true ∧ Spec.badUnitWord "se".toUTF8.toList = false ∧
    Proofs.Conf.isOkNonempty (parseConfig [] [] (fun _ => true)
      (Spec.render (p.toks ++ date) ++ 32 :: ("se".toUTF8.toList ++ rest))) = true ∧
    Proofs.Conf.isErrorAt 1 (parseConfig [] [] (fun _ => true)
      (Spec.render (p.toks ++ date) ++ 32 :: ("foo".toUTF8.toList ++ rest))) = true ∧
    Proofs.Conf.isErrorAt 1 (parseConfig [] [] (fun _ => true)
      (Spec.render (p.toks ++ date) ++ 32 :: ("m".toUTF8.toList ++ rest))) = true ∧
    Proofs.Conf.isErrorAt 1 (parseConfig [] [] (fun _ => true)
      (Spec.render (p.toks ++ date) ++ 32 :: ("match".toUTF8.toList ++ rest))) = true ∧
    Proofs.Conf.isOkNonempty (parseConfig [] [] (fun _ => true)
      (Spec.render (p.toks ++ Spec.CondSite.isdirectory.toks [100]) ++ rest)) = true ∧
    Proofs.Conf.isErrorAt 1 (parseConfig [] [] (fun _ => true)
      (Spec.render (p.toks ++ Spec.CondSite.isdirectory.toks "${path}".toUTF8.toList) ++ rest)) = true := by
  decide_lit

/-- A path of the second `maildir` block; a block written `stdin` behind a `maildir` block one of whose paths is the
standard input, with a block between them and one behind. -/
example :
    let b : PBlock := ⟨[[97]], .block 1 (.mtch 1 (.leaf (.all 1)) (.leaf (.brk 1)))⟩
    let b1 : PBlock := ⟨[[98], stdinStr], .block 1 (.mtch 1 (.leaf (.all 1)) (.leaf (.brk 1)))⟩
    let b2 : PBlock := ⟨[stdinStr], .block 1 (.mtch 1 (.leaf (.all 1)) (.leaf (.discard 1)))⟩
    let body : Bytes := Spec.render [.lbrace, .kw .mtch, .kw .all, .kw .brk, .rbrace]
    Spec.ConfOK (fun _ => true) [b] = true ∧ Spec.ConfOK (fun _ => true) ([b] ++ b1 :: [b]) = true ∧
    b1.paths.any isStdinStr = true ∧ Spec.tailOK body = true ∧
    Proofs.Conf.isOkNonempty (parseConfig [] [] (fun _ => true)
      (Spec.render ([b].flatMap Spec.blockToks ++ (.kw .maildir :: Spec.strsToks ([[99]] ++ [100] :: [[101]]))) ++ body)) = true ∧
    Proofs.Conf.isErrorAt 1 (parseConfig [] [] (fun _ => true)
      (Spec.render ([b].flatMap Spec.blockToks ++ (.kw .maildir :: Spec.strsToks ([[99]] ++ "~${x}".toUTF8.toList.tail :: [[101]]))) ++ body)) = true ∧
    Proofs.Conf.isOkNonempty (parseConfig [] [] (fun _ => true) (Spec.printBlocks ([b] ++ b1 :: ([b] ++ [b])))) = true ∧
    Proofs.Conf.isErrorAt 1 (parseConfig [] [] (fun _ => true) (Spec.printBlocks ([b] ++ b1 :: ([b] ++ b2 :: [b])))) = true := by
  decide_lit

/-- The macro class stated on trees, for the positions that need no descent: a configuration written by
`Spec.printBlocks` in which ONE string of ONE action holds a macro reference that cannot be expanded - the action being
any of the six that take strings (`Spec.ActSite`; its leaf is `site.expr b`), at any place `as1 | as2` among the actions
of a rule, the rule at any place `rs1 | rs2` among the rules of a block, the block at any place `pre | post` of the
configuration - is rejected on line 1, provided what is written BEFORE the string is well formed (`hpos`: the blocks
`pre` are a configuration of `Spec.ConfOK`, the paths can be written, the block is not a second `stdin` block, the rules
`rs1`, the condition `c` and the actions `as1` are well formed).  Nothing is asked of `as2`, `rs2`, `post`.  (Strings in
rules of nested blocks and of attachment blocks, in conditions and in paths: `C14_error_anywhere_rejects_file`.) -/
theorem C14_error_action_string_rejects_file (home : Bytes) (rxOk : Pat → Bool) (pre post : List PBlock) (paths : List Bytes)
    (rs1 rs2 : List CTree) (c : CTree) (as1 as2 : List CTree) (site : Spec.ActSite) (b : Bytes)
    (hpos : ({ rp := { pre := pre, paths := paths, steps := rs1.map .rule }, cond := c, acts := as1 } : Spec.ActPos).ok rxOk = true)
    (hsite : site.ok = true) (hb : Spec.BadRef site.action b) :
    parseConfig home [] rxOk (Spec.printBlocks (pre ++
      ⟨paths, Spec.blockOfRules (rs1 ++ Spec.ruleOfActs c (as1 ++ .leaf (site.expr b) :: as2) :: rs2)⟩ :: post)) = .error 1 :=
  Proofs.Conf.action_string_file home rxOk pre post paths rs1 rs2 c as1 as2 site b hpos hsite hb

/-- Non-vacuity: the second action of the second rule of the second block, `move "in${box}"`; with `move "in"` the
configuration is in `Spec.ConfOK` and accepted. -/
example :
    let b0 : PBlock := ⟨[stdinStr], .block 1 (.mtch 1 (.leaf (.all 1)) (.leaf (.discard 1)))⟩
    let r : CTree := .mtch 1 (.leaf (.new 1)) (.leaf (.pass 1))
    let conf (b : Bytes) : List PBlock := [b0] ++
      ⟨[[97]], Spec.blockOfRules ([r] ++ Spec.ruleOfActs (.leaf (.old 1)) ([.leaf (.brk 1)] ++ .leaf (Spec.ActSite.move.expr b) :: [.leaf (.pass 1)]) :: [r])⟩ :: [b0]
    ({ rp := { pre := [b0], paths := [[97]], steps := [r].map .rule }, cond := .leaf (.old 1), acts := [.leaf (.brk 1)] } : Spec.ActPos).ok
      (fun _ => true) = true ∧
    Spec.printBlocks (conf "in${box}".toUTF8.toList) =
      " stdin { match all discard } maildir { \"a\" } { match new pass match old break move \"in${box}\" pass match new pass } stdin { match all discard }".toUTF8.toList ∧
    Spec.ConfOK (fun _ => true) ((conf "in".toUTF8.toList).take 2) = true ∧
    Proofs.Conf.isOkNonempty (parseConfig [] [] (fun _ => true) (Spec.printBlocks ((conf "in".toUTF8.toList).take 2))) = true ∧
    Proofs.Conf.isErrorAt 1 (parseConfig [] [] (fun _ => true) (Spec.printBlocks (conf "in${box}".toUTF8.toList))) = true := by
  decide_lit

end Mdsort.Props
