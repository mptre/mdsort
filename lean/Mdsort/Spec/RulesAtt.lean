import Mdsort.Spec.Rules
import Mdsort.Spec.Attachment

/-!
# Documented rule semantics with attachment conditions and attachment blocks (C03)

Extension of `Spec/Rules.lean`.  mdsort.conf(5):

* `attachment condition` - "Evaluates to true if any attachment in the message matches condition":
  the parts are tried in order, the first part on which the condition is decided (true or an
  evaluation error) decides; a malformed multipart message is an error.
* `attachment { rule ... }` - "Evaluate the nested block of rules on each attachment in message.
  The only available action in rule is exec": an action of the enclosing rule.  The block is
  evaluated on EVERY part (each part is a message of its own for the conditions inside); the
  actions it collects on the parts on which it matched are added, in part order and tagged with the
  part, to the actions of the enclosing rule; the enclosing rule matches iff the block matched on
  at least one part (an error on a part is an error).  A rule that does not match contributes no
  action.

The messages are an abstract type `α`; the context gives the parts of a message
(`message_get_attachments`: `none` = malformed) and the truth value of every matcher on every
(part index, message).  The part index follows `Spec.partIndex`: the parts of the message itself
are numbered `i + 1`, inside a part the index stays that of the part.  Nothing here refers to
`Model.eval`; only the AST type and `Tri` are shared with the model.
-/

namespace Mdsort.Spec
open Mdsort Mdsort.Model

mutual
/-- One action of a rule: a plain action, or an attachment block with its rules. -/
inductive ActA where
  | plain (a : Expr)
  | att (lno : Nat) (rules : List RuleA)
/-- `Spec.Rule` with attachment blocks among the actions. -/
inductive RuleA where
  | acts (lno : Nat) (cond : Expr) (acts : List ActA) (ctl : Ctl)
  | blk (lno : Nat) (cond : Expr) (rules : List RuleA)
end

/-! ## the shape the grammar builds -/

mutual
/-- One `expraction`: `attachment { ... }` or a plain action. -/
def parseActA : Expr → Option ActA
  | .attBlock l (.block _ e) => (parseRulesA e).map fun rs => ActA.att l rs
  | a => if isActionExpr a then some (ActA.plain a) else Option.none

/-- The left-nested AND chain of `expractions` (without pass/break). -/
def parseChainA : Expr → Option (List ActA)
  | .and _ l r =>
    match parseChainA l, parseActA r with
    | some ls, some x => some (ls ++ [x])
    | _, _ => Option.none
  | e => (parseActA e).map fun x => [x]

/-- One `match cond rhs`; `pass` / `break` must be the last action. -/
def parseRuleA : Expr → Option RuleA
  | .mtch lno c rhs =>
    if !isCond c then Option.none
    else
      match rhs with
      | .block _ e => (parseRulesA e).map fun rs => RuleA.blk lno c rs
      | .and _ l r =>
        match isCtlExpr r with
        | some ctl => (parseChainA l).map fun as => RuleA.acts lno c as ctl
        | Option.none =>
          match parseChainA l, parseActA r with
          | some ls, some x => some (RuleA.acts lno c (ls ++ [x]) .none)
          | _, _ => Option.none
      | e =>
        match isCtlExpr e with
        | some ctl => some (RuleA.acts lno c [] ctl)
        | Option.none => (parseActA e).map fun x => RuleA.acts lno c [x] .none
  | _ => Option.none

/-- The left-nested OR chain of rules of a block. -/
def parseRulesA : Expr → Option (List RuleA)
  | .or _ l r =>
    match parseRulesA l, parseRuleA r with
    | some ls, some x => some (ls ++ [x])
    | _, _ => Option.none
  | e => (parseRuleA e).map fun x => [x]
end

def parseBlockA : Expr → Option (List RuleA)
  | .block _ e => parseRulesA e
  | _ => Option.none

/-! ### `pass` / `break` anywhere in the action list

The reading of `Spec/Rules.lean` ("`pass` / `break` anywhere in the action list"): the actions of
a rule are all the listed actions and attachment blocks that are not `pass` / `break`, in the order
listed; its control is `pass` / `break` iff that word occurs in the list; a list with both has no
documented meaning (`none`).  Inside an attachment block the parser admits neither
(`expr_validate_attachment_block`). -/

mutual
/-- One `expraction` other than `pass` / `break`. -/
def parseActAW : Expr → Option ActA
  | .attBlock l (.block _ e) => (parseRulesAW e).map fun rs => ActA.att l rs
  | a => if isActionExpr a then some (ActA.plain a) else Option.none

/-- The left-nested AND chain of `expractions`: its actions in order, `pass` / `break` skipped. -/
def parseChainAW : Expr → Option (List ActA)
  | .and _ l r =>
    match parseChainAW l with
    | Option.none => Option.none
    | some ls =>
      if (isCtlExpr r).isSome then some ls
      else match parseActAW r with
        | some x => some (ls ++ [x])
        | Option.none => Option.none
  | e => if (isCtlExpr e).isSome then some [] else (parseActAW e).map fun x => [x]

/-- One `match cond rhs`, `pass` / `break` anywhere among the actions. -/
def parseRuleAW : Expr → Option RuleA
  | .mtch lno c rhs =>
    if !isCond c then Option.none
    else
      match rhs with
      | .block _ e => (parseRulesAW e).map fun rs => RuleA.blk lno c rs
      | e =>
        match ctlOfList (andChain e), parseChainAW e with
        | some ctl, some as => some (RuleA.acts lno c as ctl)
        | _, _ => Option.none
  | _ => Option.none

def parseRulesAW : Expr → Option (List RuleA)
  | .or _ l r =>
    match parseRulesAW l, parseRuleAW r with
    | some ls, some x => some (ls ++ [x])
    | _, _ => Option.none
  | e => (parseRuleAW e).map fun x => [x]
end

def parseBlockAW : Expr → Option (List RuleA)
  | .block _ e => parseRulesAW e
  | _ => Option.none

/-! ## conditions over the parts -/

/-- What the specification is told about the message: the parts of every message (`none`: a
malformed multipart) and the value of every matcher on a message regarded as part `k`. -/
structure PartCtx (α : Type) where
  parts : α → Option (List α)
  v : Nat → α → Expr → Tri

/-- `∃ part`, three-valued and in order: the first part that is not *no match* decides. -/
def anyPart {α : Type} (f : Nat → α → Tri) : Nat → List α → Tri
  | _, [] => .nomatch
  | i, q :: qs =>
    match f i q with
    | .nomatch => anyPart f (i + 1) qs
    | t => t

/-- Three-valued condition with left-to-right short-circuit, on message `m` regarded as part `k`;
`attachment c` quantifies over the parts of `m`. -/
def condValA {α : Type} (cx : PartCtx α) : Expr → Nat → α → Tri
  | .and _ l r, k, m => match condValA cx l k m with
    | .match => condValA cx r k m
    | x => x
  | .or _ l r, k, m => match condValA cx l k m with
    | .nomatch => condValA cx r k m
    | x => x
  | .neg _ e, k, m => match condValA cx e k m with
    | .error => .error
    | .match => .nomatch
    | .nomatch => .match
  | .attachment _ c, k, m =>
    match cx.parts m with
    | Option.none => .error
    | some ps => anyPart (fun i q => condValA cx c (partIndex k i) q) 0 ps
  | e, k, m => cx.v k m e

/-! ## rules -/

/-- State of the specification run: pending actions, each with the index of the part it was
collected on, and the two classes of evaluations on which the evaluator is known to depart from
the documented reading:

* `crosses` - the pinned finding F11 (`Run.crosses` of `Spec/Rules.lean`), extended to attachment blocks: the block
  of an attachment block is evaluated on a part while a `pass` (of the enclosing block or of one
  further out) is pending;
* `leaks` - a rule stopped at an attachment block that matched on no part after the same rule had
  already collected actions (those stay in the evaluator's list although the rule did not match). -/
structure RunA where
  pend : List (Nat × Expr)
  crosses : Bool
  leaks : Bool
deriving Repr

/-- For each part in order: `some any` = the block matched on at least one part, `none` = error. -/
def forParts {α : Type} (f : Nat → α → RunA → BRes × RunA) : Nat → List α → Bool → RunA → Option Bool × RunA
  | _, [], any, run => (some any, run)
  | i, q :: qs, any, run =>
    match f i q run with
    | (.err, run1) => (Option.none, run1)
    | (.matched, run1) => forParts f (i + 1) qs true run1
    | (_, run1) => forParts f (i + 1) qs any run1

mutual
/-- The rules of a block on message `m` regarded as part `k`. -/
def evalRulesA {α : Type} (cx : PartCtx α) (aerr : Expr → Bool) (nested outerPass : Bool) (start : Nat)
    (k : Nat) (m : α) : List RuleA → Bool → RunA → BRes × RunA
  | [], passSeen, run =>
    let own := run.pend.length - start
    let crosses := run.crosses ||
      (nested && (outerPass || (passSeen && own == 0 && start > 0)))
    (if passSeen && own > 0 then .matched else .nomatch, { run with crosses := crosses })
  | r :: rest, passSeen, run =>
    match r with
    | .acts _ c as ctl =>
      match condValA cx c k m with
      | .error => (.err, run)
      | .nomatch => evalRulesA cx aerr nested outerPass start k m rest passSeen run
      | .match =>
        match evalActsA cx aerr (outerPass || passSeen) k m as run with
        | (Option.none, run1) => (.err, run1)
        | (some false, run1) =>
          -- an attachment block of the rule matched on no part: the rule does not match
          evalRulesA cx aerr nested outerPass start k m rest passSeen
            { run1 with pend := run.pend, leaks := run1.leaks || decide (run1.pend.length > run.pend.length) }
        | (some true, run1) =>
          match ctl with
          | .pass => evalRulesA cx aerr nested outerPass start k m rest true run1
          | .brk => (.broke, { run1 with crosses := run1.crosses || (nested && passSeen) })
          | .none => (.matched, run1)
    | .blk _ c rs =>
      match condValA cx c k m with
      | .error => (.err, run)
      | .nomatch => evalRulesA cx aerr nested outerPass start k m rest passSeen run
      | .match =>
        match evalRulesA cx aerr true (outerPass || passSeen) run.pend.length k m rs false run with
        | (.err, run1) => (.err, run1)
        | (.matched, run1) => (.matched, run1)
        | (_, run1) => evalRulesA cx aerr nested outerPass start k m rest passSeen run1

/-- The actions of a rule in order: `some true` = all evaluated, `some false` = an attachment
block matched on no part (the actions after it are not looked at), `none` = error (an action that
cannot be evaluated, a malformed multipart, an error inside an attachment block). -/
def evalActsA {α : Type} (cx : PartCtx α) (aerr : Expr → Bool) (hasPass : Bool) (k : Nat) (m : α) :
    List ActA → RunA → Option Bool × RunA
  | [], run => (some true, run)
  | a :: rest, run =>
    match a with
    | .plain x =>
      if aerr x then (Option.none, run)
      else evalActsA cx aerr hasPass k m rest { run with pend := run.pend ++ [(k, x)] }
    | .att _ rs =>
      match cx.parts m with
      | Option.none => (Option.none, run)
      | some ps =>
        match forParts (fun i q r => evalRulesA cx aerr true hasPass r.pend.length (partIndex k i) q rs false r)
            0 ps false { run with crosses := run.crosses || (hasPass && !ps.isEmpty) } with
        | (some true, run1) => evalActsA cx aerr hasPass k m rest run1
        | other => other
end

/-- Result of the root block. -/
structure OutcomeA where
  res : Tri
  actions : List (Nat × Expr)
  crosses : Bool
  leaks : Bool
deriving Repr

def evalBlockA {α : Type} (cx : PartCtx α) (aerr : Expr → Bool) (root : α) (rules : List RuleA) : OutcomeA :=
  match evalRulesA cx aerr false false 0 0 root rules false { pend := [], crosses := false, leaks := false } with
  | (.err, run) => { res := .error, actions := [], crosses := run.crosses, leaks := run.leaks }
  | (.matched, run) => { res := .match, actions := run.pend, crosses := run.crosses, leaks := run.leaks }
  | (_, run) => { res := .nomatch, actions := [], crosses := run.crosses, leaks := run.leaks }

/-- (type, line, part) of a collected action. -/
def actKeyP (a : Nat × Expr) : Option (MType × Nat × Nat) :=
  (actKey a.2).map fun k => (k.1, k.2, a.1)

def isMoveFlagP (k : MType × Nat × Nat) : Bool := k.1 == .move || k.1 == .flag

/-- `planOf` with the part index: the actions other than move/flag in order, and the last
move-or-flag. -/
def planP (keys : List (MType × Nat × Nat)) : List (MType × Nat × Nat) × Option (MType × Nat × Nat) :=
  (keys.filter (fun k => !isMoveFlagP k), (keys.filter isMoveFlagP).getLast?)

end Mdsort.Spec
