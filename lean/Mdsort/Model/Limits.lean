import Mdsort.Model.Eval

/-!
# The platform limits as parameters: setters and the evaluator

mdsort fills fixed-size buffers of three sizes: `PATH_MAX` (paths), `NAME_MAX + 1` (file names, the
`new`/`cur` component) and 256 (`ev_hostname`).  `Model/Eval.lean`, `Scripts.lean`, `Main.lean` are
written at the platform's values.  Here the same functions take the three sizes as a parameter
(`Limits`); a size is a number of bytes or `Lim.inf`, the ideal string that always fits.  Every
definition below is the corresponding definition of the model with `PATH_MAX` / `NAME_MAX1` replaced
by the parameter and nothing else changed; `Proofs/LimitsBridge.lean` and `Proofs/LimitsBridgeWorld.lean` prove that at `stdLimits` they
ARE the functions of the model (`evalL_std`, `processMessageL_std`, `mainPL_std`, ...), so what the
correspondence run compares with the real binary is the instance at `stdLimits`.
-/

namespace Mdsort.Model
open Mdsort

/-- The size of a buffer: `fin n` = `n` bytes, terminator included; `inf` = an ideal, unbounded string. -/
inductive Lim where
  | fin (n : Nat)
  | inf
deriving Repr, DecidableEq

/-- A string of `len` characters fits (with its terminator). -/
def Lim.fits : Lim → Nat → Bool
  | .fin n, len => decide (len < n)
  | .inf, _ => true

/-- `a ≤ b`: every string that fits `a` fits `b`. -/
def Lim.le : Lim → Lim → Prop
  | .fin a, .fin b => a ≤ b
  | _, .inf => True
  | .inf, .fin _ => False

instance : LE Lim := ⟨Lim.le⟩

/-- The three buffer sizes of mdsort. -/
structure Limits where
  pathMax : Lim        -- `PATH_MAX`: md_root, md_path, me_path, mh_path, mh_maildir, ev_home, ev_tmpdir, the templates
  nameMax1 : Lim       -- `NAME_MAX + 1`: me_name, mh_subdir, generated names, the `new`/`cur` component
  hostMax : Lim        -- `sizeof(ev_hostname)` = `Gen.evHostnameSize` (extern.h, regenerated)
deriving Repr, DecidableEq

/-- The platform: the values the rest of the model is written at. -/
def stdLimits : Limits := { pathMax := .fin PATH_MAX, nameMax1 := .fin NAME_MAX1, hostMax := .fin Gen.evHostnameSize }

/-- Ideal strings: nothing ever overflows. -/
def Limits.unbounded : Limits := { pathMax := .inf, nameMax1 := .inf, hostMax := .inf }

def Limits.le (a b : Limits) : Prop := a.pathMax ≤ b.pathMax ∧ a.nameMax1 ≤ b.nameMax1 ∧ a.hostMax ≤ b.hostMax

instance : LE Limits := ⟨Limits.le⟩

/-! ## the setters -/

/-- `pathjoin(buf, bufsiz, dirname, filename)`. -/
def pathjoinL : Lim → Bytes → Bytes → Option Bytes
  | .fin n, d, f => pathjoin n d f
  | .inf, d, f => some (d ++ [47] ++ f)

/-- `strlcpy(dst, src, siz) >= siz`. -/
def strlcpyL : Lim → Bytes → Option Bytes
  | .fin n, s => strlcpyFits n s
  | .inf, s => some s

/-- `pathslice(path, buf, bufsiz, beg, end)`; no slice is longer than the path, so `|path| + 1` bytes are as good as
unbounded (`Proofs.Limits.pathslice_big`). -/
def pathsliceL (path : Bytes) : Lim → Int → Int → Option Bytes
  | .fin n, b, e => pathslice path n b e
  | .inf, b, e => pathslice path (path.length + 1) b e

/-- `parsesubdir(path, &subdir)`. -/
def parseSubdirL (l : Lim) (path : Bytes) : Option Subdir :=
  match pathsliceL path l (-1) (-1) with
  | none => none
  | some b =>
    if b == [110, 101, 119] then some .new
    else if b == [99, 117, 114] then some .cur
    else none

/-- The `snprintf(buf, bufsiz, "%lld.%d_%u.%s%s", ...)` of `maildir_genname` with its size test. -/
def gennameBufL (l : Lim) (name : Bytes) : Option Bytes := if l.fits name.length then some name else none

/-- The `snprintf(buf, siz, "%s%s", home, str + 1)` of `expandtilde` (parse.y) with its size test; `none` is "path too long". -/
def expandTildeL (l : Lim) (home str : Bytes) : Option Bytes :=
  match str with
  | 126 :: r => if l.fits (home.length + r.length) then some (home ++ r) else none
  | _ => some str

/-- `readenv`: `gethostname(env->ev_hostname, sizeof(env->ev_hostname))` - it fails (`err(1, "gethostname")`, `none`) when
the name with its terminator does not fit (glibc: `ENAMETOOLONG`; the shim does the same) - then the name is cut at its
first dot.  (`defaultconf` and the `strlcpy` of HOME / TMPDIR / TZ in `readenv` are modelled separately: `Model/Start.lean`, package ce8.) -/
def readHostL (l : Lim) (kernelName : Bytes) : Option Bytes :=
  (strlcpyL l kernelName).map fun h => h.takeWhile (· != 46)

/-! ## match.c, expr.c -/

/-- `matches_append(ml, mh)`. -/
def matchesAppendL (L : Limits) (env : Env) (ml : MatchList) (mh : Match) : MatchList × Bool :=
  let (ml1, mh1) := matchesMerge ml mh
  if !mh1.ty.isPath then (ml1 ++ [mh1], false)
  else
    let md : Option Bytes := if mh1.maildir.isEmpty then pathsliceL env.path L.pathMax 0 (-2) else some mh1.maildir
    match md with
    | none => (ml1 ++ [mh1], true)
    | some maildir =>
      let mh2 := { mh1 with maildir := maildir }
      let sd : Option Bytes := if mh2.subdir.isEmpty then pathsliceL env.path L.nameMax1 (-2) (-2) else some mh2.subdir
      match sd with
      | none => (ml1 ++ [mh2], true)
      | some subdir =>
        let mh3 := { mh2 with subdir := subdir }
        match pathjoinL L.pathMax maildir subdir with
        | none => (ml1 ++ [mh3], true)
        | some p => (ml1 ++ [{ mh3 with path := p }], false)

/-- `expr_regexec`. -/
def exprRegexecL (L : Limits) (env : Env) (ty : MType) (lno part : Nat) (p : Pat) (key val : Bytes) (st : St) : Tri × St :=
  match env.rx p val with
  | .nomatch => (.nomatch, st)
  | .error => (.error, st)
  | .ok groups =>
    let mh : Match := { ty := ty, lno := lno, part := part, subs := matchCopy p val groups, pat := some p }
    let (ml, failed) := matchesAppendL L env st.ml mh
    if failed then (.error, { st with ml := ml })
    else if env.dryrun then
      (.match, { st with ml := ml.dropLast ++ (ml.getLast?.map fun m => { m with key := some key, val := some val }).toList })
    else (.match, { st with ml := ml })

/-- `expr_match` and the entries that only append. -/
def exprAppendL (L : Limits) (env : Env) (mh : Match) (st : St) (ok : Tri) : Tri × St :=
  let (ml, failed) := matchesAppendL L env st.ml mh
  (if failed then .error else ok, { st with ml := ml })

/-- `expr_eval`. -/
def evalL (L : Limits) (env : Env) (root : Msg) : Expr → (part : Nat) → Msg → St → Tri × St
  | .block _ e, part, m, st =>
    match evalL L env root e part m st with
    | (.error, st1) => (.error, st1)
    | (ev, st1) =>
      if (matchesFind st1.ml .brk).isSome then
        (.nomatch, { st1 with ml := (matchesRemove st1.ml .brk).1 })
      else if (matchesFind st1.ml .pass).isSome then
        let (ml2, n) := matchesRemove st1.ml .pass
        (if n == 0 then .nomatch else .match, { st1 with ml := ml2 })
      else (ev, st1)
  | .and _ l r, part, m, st =>
    match evalL L env root l part m st with
    | (.match, st1) => evalL L env root r part m st1
    | other => other
  | .or _ l r, part, m, st =>
    match evalL L env root l part m st with
    | (.nomatch, st1) => evalL L env root r part m st1
    | other => other
  | .neg _ e, part, m, st =>
    let n := st.ml.length
    match evalL L env root e part m st with
    | (.error, st1) => (.error, st1)
    | (.nomatch, st1) => (.match, st1)
    | (.match, st1) => (.nomatch, { st1 with ml := st1.ml.take n })
  | .mtch lno c rhs, part, m, st =>
    let (ml, failed) := matchesAppendL L env st.ml { ty := .mtch, lno := lno, part := part }
    if failed then (.error, { st with ml := ml })
    else
      match evalL L env root c part m { st with ml := ml } with
      | (.match, st1) => evalL L env root rhs part m st1
      | other => other
  | .all _, _, _, st => (.match, st)
  | .attachment _ e, part, m, st =>
    match getAttachments m with
    | none => (.error, st)
    | some parts =>
      let rec loop (ps : List Msg) (i : Nat) (st : St) : Tri × St :=
        match ps with
        | [] => (.nomatch, st)
        | p :: rest =>
          match evalL L env root e (if part == 0 then i + 1 else part) p st with
          | (.nomatch, st1) => loop rest (i + 1) st1
          | other => other
      loop parts 0 st
  | .attBlock _ blk, part, m, st =>
    match getAttachments m with
    | none => (.error, st)
    | some parts =>
      let rec loopB (ps : List Msg) (i : Nat) (ev : Tri) (st : St) : Tri × St :=
        match ps with
        | [] => (ev, st)
        | p :: rest =>
          match evalL L env root blk (if part == 0 then i + 1 else part) p st with
          | (.error, st1) => (.error, st1)
          | (.match, st1) => loopB rest (i + 1) .match st1
          | (.nomatch, st1) => loopB rest (i + 1) ev st1
      loopB parts 0 .nomatch st
  | .body lno p, part, m, st =>
    match getBody m with
    | none => (.error, st)
    | some b => exprRegexecL L env .body lno part p (ofString "Body") b st
  | .date lno field cmp age, part, m, st =>
    let dt : Option (Option (Int × Bytes)) :=
      match field with
      | .header =>
        match getHeader1 m (ofString "Date") with
        | none => some none
        | some d =>
          match timeParse env.strptime env.zoneName d with
          | none => none
          | some t => some (some (t, d))
      | f =>
        match env.fileTime env.path with
        | none => none
        | some sb =>
          let tim : Int := match f with
            | .access => sb.atime
            | .modified => sb.mtime
            | .created => sb.ctime
            | .header => 0
          match env.timeFormat tim with
          | none => none
          | some s => some (some (tim, s))
    match dt with
    | none => (.error, st)
    | some none => (.nomatch, st)
    | some (some (tim, date)) =>
      if !dateMatches cmp age env.now tim then (.nomatch, st)
      else exprRegexecL L env .date lno part { src := [46, 42] } (ofString "Date") date st
  | .header lno names p, part, m, st =>
    let rec keys (ks : List Bytes) (st : St) : Tri × St :=
      match ks with
      | [] => (.nomatch, st)
      | k :: rest =>
        match getHeader m k with
        | none => keys rest st
        | some vals =>
          let rec values (vs : List Bytes) (st : St) : Option (Tri × St) :=
            match vs with
            | [] => none
            | v :: more =>
              match exprRegexecL L env .header lno part p k v st with
              | (.nomatch, st1) => values more st1
              | other => some other
          match values vals st with
          | some r => r
          | none => keys rest st
    keys names st
  | .new _, _, _, st =>
    (if pathsliceL env.path L.nameMax1 (-2) (-2) == some [110, 101, 119] then .match else .nomatch, st)
  | .old _, part, _, st =>
    if flagsIsSet (if part == 0 then st.flags else MFlags.empty) 83 then (.nomatch, st)
    else (if pathsliceL env.path L.nameMax1 (-2) (-2) == some [99, 117, 114] then .match else .nomatch, st)
  | .stat lno path, part, _, st =>
    let mh : Match := { ty := .stat, lno := lno, part := part, strings := [path] }
    let (ml, failed) := matchesAppendL L env st.ml mh
    let ev : Tri :=
      if failed then .error
      else
        match strlcpyL L.pathMax path with
        | none => .error
        | some p =>
          match interpolate ml.dropLast none p with
          | none => .error
          | some ip =>
            match strlcpyL L.pathMax ip with
            | none => .error
            | some ip => if env.isDir ip then .match else .nomatch
    (ev, { st with ml := ml.dropLast })
  | .command lno argv, part, _, st =>
    let mh : Match := { ty := .command, lno := lno, part := part, strings := argv }
    let (ml, failed) := matchesAppendL L env st.ml mh
    let ev : Tri :=
      if failed then .error
      else
        match argv.mapM (interpolate ml.dropLast none) with
        | none => .error
        | some av =>
          let rc := env.command av
          if rc == 0 then .match else if rc < 0 then .error else .nomatch
    (ev, { st with ml := ml.dropLast })
  | .move lno path, part, _, st =>
    match strlcpyL L.pathMax path with
    | none => (.error, st)
    | some p => exprAppendL L env { ty := .move, lno := lno, part := part, maildir := p, strings := [path] } st .match
  | .flag lno subdir, part, _, st =>
    match strlcpyL L.nameMax1 subdir with
    | none => (.error, st)
    | some sd => exprAppendL L env { ty := .flag, lno := lno, part := part, subdir := sd, strings := [subdir] } st .match
  | .flags lno fl, part, _, st =>
    let rec setAll (cs : Bytes) (mf : MFlags) (err : Bool) : MFlags × Bool :=
      match cs with
      | [] => (mf, err)
      | c :: r => match flagsSet mf c with
        | none => setAll r mf true
        | some mf' => setAll r mf' err
    let (mf, err) := setAll fl st.flags false
    if err then (.error, { st with flags := mf })
    else exprAppendL L env { ty := .flags, lno := lno, part := part, strings := [fl] } { st with flags := mf } .match
  | .discard lno, part, _, st => exprAppendL L env { ty := .discard, lno := lno, part := part } st .match
  | .brk lno, part, _, st => exprAppendL L env { ty := .brk, lno := lno, part := part } st .match
  | .label lno ls, part, _, st => exprAppendL L env { ty := .label, lno := lno, part := part, strings := ls } st .match
  | .pass lno, part, _, st => exprAppendL L env { ty := .pass, lno := lno, part := part } st .nomatch
  | .reject lno, part, _, st => exprAppendL L env { ty := .reject, lno := lno, part := part } st .match
  | .exec lno si bo argv, part, _, st =>
    exprAppendL L env { ty := .exec, lno := lno, part := part, strings := argv, execStdin := si, execBody := bo } st .match
  | .addHeader lno k v, part, _, st =>
    exprAppendL L env { ty := .addHeader, lno := lno, part := part, hkey := k, hval := v } st .match

/-- `match_interpolate(mh, macros)`: only the `stat` / `move` entries copy a path into a buffer (`mh_path`); every other
entry is handled as in the model. -/
def matchInterpolateL (L : Limits) (macros : Option (List (Bytes × Bytes))) (ml : MatchList) (i : Nat) (mh : Match)
    (msgs : Nat → Msg) : Option (Match × Option (Nat × Msg)) :=
  match mh.ty with
  | .stat | .move =>
    match interpolate (ml.take i) macros mh.path with
    | none => none
    | some p => (strlcpyL L.pathMax p).map fun p => ({ mh with path := p }, none)
  | _ => matchInterpolate macros ml i mh msgs

/-- `matches_interpolate(ml)`. -/
def matchesInterpolateL (L : Limits) (env : Env) (ml : MatchList) (msgs : Nat → Msg) : Option (MatchList × (Nat → Msg)) :=
  let macros := some [(ofString "path", env.path)]
  let rec go (i : Nat) (rest : MatchList) (cur : MatchList) (msgs : Nat → Msg) : Option (MatchList × (Nat → Msg)) :=
    match rest with
    | [] => some (cur, msgs)
    | mh :: more =>
      match matchInterpolateL L macros cur i mh msgs with
      | none => none
      | some (mh', upd) =>
        let cur' := cur.set i mh'
        let msgs' := match upd with
          | none => msgs
          | some (k, m) => fun j => if j == k then m else msgs j
        go (i + 1) more cur' msgs'
  go 0 ml ml msgs

end Mdsort.Model
