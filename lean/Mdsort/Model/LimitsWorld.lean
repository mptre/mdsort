import Mdsort.Model.Limits
import Mdsort.Model.MainText

/-!
# The platform limits as parameters: the programs over libc calls

`Model/Scripts.lean` and `Model/Main.lean` with the buffer sizes as a parameter (see `Model/Limits.lean`).  Functions
that fill no buffer (`maildirOpendir`, `maildirClose`, `maildirUnlink`, `messageWriteP`, `writeAll`, `execP`,
`readAll`, `copyStdin`, `closeStdin`, `afterExec`, `inspectLines`, `exitStatus`) are used as they are.
`Proofs/LimitsBridgeWorld.lean`: at `stdLimits` each function below is the function of the model.
-/

namespace Mdsort.Model
open Mdsort

/-! ## maildir.c -/

/-- `maildir_genname`. -/
def gennameL (L : Limits) (env : PEnv) (md : Maildir) (flags : Option Bytes) : Nat → Nat → Prog (Option (Handle × Bytes))
  | 0, _ => pure none
  | fuel + 1, count =>
    let count := count + 1
    let name := decimalInt env.now ++ [46] ++ decimal env.pid ++ [95] ++ decimal (count % gennameWrap) ++ [46] ++ env.host ++ flags.getD []
    match gennameBufL L.nameMax1 name with
    | none => pure none
    | some name =>
      match md.dirH with
      | none => pure none
      | some d => do
        let r ← call (.openExcl d name)
        match r with
        | .ok h => pure (some (h, name))
        | .err e => if e == "EEXIST" then gennameL L env md flags fuel count else pure none
        | _ => pure none

def gennameStartL (L : Limits) (env : PEnv) (md : Maildir) (flags : Option Bytes) : Prog (Option (Handle × Bytes)) :=
  gennameL L env md flags gennameAttempts (env.random % Gen.gennameModulus)

/-- `maildir_open(path, 0, env)`: destination of a move / flag / flags action. -/
def maildirOpenDstL (L : Limits) (path : Bytes) : Prog (Option Maildir) :=
  match parseSubdirL L.nameMax1 path with
  | none => pure none
  | some sd =>
    match pathsliceL path L.pathMax 0 (-1) with
    | none => pure none
    | some root =>
      match pathjoinL L.pathMax root (subdirName sd) with
      | none => pure none
      | some p => do
        let (md, failed) ← maildirOpendir { root := root, path := p, dirH := none, subdir := sd, walk := false, stdin := false } p
        if failed then pure none else pure (some md)

/-! ## message.c -/

/-- `message_set_file(msg, path, name, fd)`. -/
def messageSetFileL (L : Limits) (ms : MsgSt) (dir name : Bytes) (fd : Option Handle) : Prog (MsgSt × Bool) :=
  match pathjoinL L.pathMax dir name with
  | none => pure (ms, true)
  | some p =>
    match strlcpyL L.nameMax1 name with
    | none => pure ({ ms with path := p }, true)
    | some n =>
      match fd with
      | some h => do
        match ms.fd with
        | some old => let _ ← call (.close old)
        | none => pure ()
        pure ({ ms with path := p, name := n, fd := some h }, false)
      | none => pure ({ ms with path := p, name := n }, false)

/-- The end of a successful `maildir_move`. -/
def messageSetFileMovedL (L : Limits) (ms : MsgSt) (src dst : Subdir) (dir name : Bytes) : Prog (MsgSt × Bool) :=
  match pathjoinL L.pathMax dir name with
  | none => pure (ms, true)
  | some p =>
    match strlcpyL L.nameMax1 name with
    | none => pure ({ ms with path := p }, true)
    | some n => pure ({ ms with path := p, name := n, flags := adjustSeen src dst ms.flags }, false)

/-- `maildir_move(src, dst, msg, env)`. -/
def maildirMoveL (L : Limits) (env : PEnv) (src dst : Maildir) (ms : MsgSt) : Prog (MsgSt × Bool) := do
  if src.stdin && src.root == dst.root then pure (ms, true)
  else
    match src.dirH, dst.dirH with
    | some sh, some dh =>
      let mt ← (if !src.stdin then do
          let r ← call (.fstatat sh ms.name)
          pure (statMtime r)
        else pure none)
      let doutime := mt.isSome
      match msgflags src.subdir dst.subdir ms.flags with
      | none => pure (ms, true)
      | some fl =>
        let g ← gennameStartL L env dst (some fl)
        match g with
        | none => pure (ms, true)
        | some (fd, dstname) =>
          let r ← call (.renameat sh ms.name dh dstname)
          let (err1, ms) ← (match r with
            | .err e =>
              if e == "EXDEV" then do
                let we ← messageWriteP ms.msg fd
                if we then pure (true, ms)
                else do
                  let ue ← maildirUnlink src ms.name
                  pure (ue, if ue then ms else { ms with loc := some (dst.path, dstname), content := (messageWrite ms.msg).1 })
              else pure (true, ms)
            | _ => pure (false, { ms with loc := some (dst.path, dstname) }))
          if err1 then
            let _ ← maildirUnlink dst dstname
            pure ()
          let _ ← call (.close fd)
          let err2 ← (if !err1 && doutime then do
              let r ← call (.utimensat dh dstname none mt)
              pure (!isOk r)
            else pure err1)
          if err2 then pure (ms, true)
          else messageSetFileMovedL L ms src.subdir dst.subdir dst.path dstname
    | _, _ => pure (ms, true)

/-- `maildir_write(md, msg, env)`. -/
def maildirWriteL (L : Limits) (env : PEnv) (md : Maildir) (ms : MsgSt) : Prog (MsgSt × Bool) := do
  match msgflags md.subdir md.subdir ms.flags with
  | none => pure (ms, true)
  | some fl =>
    let g ← gennameStartL L env md (some fl)
    match g with
    | none => pure (ms, true)
    | some (fd, name) =>
      let we ← messageWriteP ms.msg fd
      let _ ← call (.close fd)
      let err ← (if we then pure true else maildirUnlink md ms.name)
      if err then
        let _ ← maildirUnlink md name
        pure (ms, true)
      else
        let ms := { ms with loc := some (md.path, name), content := (messageWrite ms.msg).1 }
        match md.dirH with
        | none => pure (ms, true)
        | some d =>
          let r ← call (.openRd d name)
          match r with
          | .ok rdfd =>
            let (ms', e) ← messageSetFileL L ms md.path name (some rdfd)
            if e then
              let _ ← call (.close rdfd)
              pure (ms', true)
            else pure (ms', false)
          | _ => pure (ms, true)

/-- `writefd(dir)`. -/
def writefdL (L : Limits) (tmpdir : Bytes) : Prog (Option Handle) :=
  match pathjoinL L.pathMax tmpdir (ofString "mdsort-XXXXXXXX") with
  | none => pure none
  | some tmpl => do
    let r ← call (.mkostemp tmpl)
    match r with
    | .ok fd =>
      let r2 ← call (.unlink tmpl)
      if isOk r2 then pure (some fd)
      else
        let _ ← call (.close fd)
        pure none
    | _ => pure none

/-- `message_get_fd(msg, env, dobody)`. -/
def messageGetFdL (L : Limits) (env : PEnv) (ms : MsgSt) (part : Option Msg) (dobody : Bool) : Prog (Option Handle) := do
  let target := part.getD ms.msg
  let fdo ← (if dobody then
      match getBody target with
      | none => pure none
      | some body => do
        let f ← writefdL L env.tmpdir
        match f with
        | none => pure none
        | some fd =>
          let e ← writeAll fd (body.length + 1) (cstr body)
          if e then
            let _ ← call (.close fd)
            pure none
          else pure (some fd)
    else if part.isSome then do
      let f ← writefdL L env.tmpdir
      match f with
      | none => pure none
      | some fd =>
        let e ← messageWriteP target fd
        if e then
          let _ ← call (.close fd)
          pure none
        else pure (some fd)
    else
      match ms.fd with
      | none => pure none
      | some mfd => do
        let r ← call (.dupfd mfd)
        pure (resHandle r))
  match fdo with
  | none => pure none
  | some fd =>
    let r ← call (.lseek fd)
    if isOk r then pure (some fd)
    else
      let _ ← call (.close fd)
      pure none

/-! ## match.c: matches_exec -/

/-- One iteration of the `TAILQ_FOREACH` of `matches_exec`. -/
def execOneL (L : Limits) (env : PEnv) (mh : Match) (st : ExecSt) : Prog (ExecSt × Bool) :=
  match mh.ty with
  | .move | .flag | .flags => do
    let d ← maildirOpenDstL L mh.path
    match d with
    | none => pure (st, true)
    | some dst =>
      let (ms', e) ← maildirMoveL L env st.src dst st.ms
      if e then
        maildirClose dst
        pure ({ st with ms := ms' }, true)
      else if st.src.subdir != dst.subdir || st.src.root != dst.root then
        if st.chsrc then maildirClose st.src
        pure ({ st with src := dst, chsrc := true, ms := ms' }, false)
      else
        maildirClose dst
        pure ({ st with ms := ms' }, false)
  | .discard => do
    let e ← maildirUnlink st.src st.ms.name
    pure (if e then st else { st with ms := { st.ms with loc := none } }, e)
  | .label | .addHeader => do
    let (ms', e) ← maildirWriteL L env st.src st.ms
    pure ({ st with ms := ms' }, e)
  | .reject => pure ({ st with reject := true }, false)
  | .exec => do
    let part : Option Msg := if mh.part == 0 then none else st.ms.parts[mh.part - 1]?
    let fdr ← (if mh.execStdin then do
        let f ← messageGetFdL L env st.ms part mh.execBody
        pure (f.map some)
      else pure (some none))
    match fdr with
    | none => pure (st, true)
    | some fd =>
      let rc ← execP mh.argv fd
      match fd with
      | some h => let _ ← call (.close h)
      | none => pure ()
      pure (st, rc != 0)
  | _ => pure (st, false)

def matchesExecL (L : Limits) (env : PEnv) (ml : MatchList) (st : ExecSt) : Prog (ExecSt × Bool) :=
  match ml with
  | [] => do
    if st.chsrc then maildirClose st.src
    pure (st, false)
  | mh :: rest => do
    let (st', e) ← execOneL L env mh st
    if e then
      if st'.chsrc then maildirClose st'.src
      pure (st', true)
    else matchesExecL L env rest st'

/-! ## mdsort.c -/

/-- `message_parse(dir, dirfd, name)`. -/
def messageParsePL (L : Limits) (d : Handle) (dir name : Bytes) (content : Bytes) : Prog (Option MsgSt) := do
  let r ← call (.openRd d name)
  match r with
  | .ok fd =>
    let failed ← readAll fd (content.length + 2)
    if failed then
      let _ ← call (.close fd)
      pure none
    else
      match pathjoinL L.pathMax dir name, strlcpyL L.nameMax1 name with
      | some p, some n =>
        match flagsParse n with
        | some mf =>
          let m := parseMessage content
          pure (some { name := n, path := p, fd := some fd, msg := m, parts := (getAttachments m).getD [], flags := mf,
                       loc := some (dir, name), content := content })
        | none => do
          let _ ← call (.close fd)
          pure none
      | _, _ => do
        let _ ← call (.close fd)
        pure none
  | _ => pure none

/-- `message_free`. -/
def freeMsg (ms : MsgSt) : Prog Unit :=
  match ms.fd with
  | some h => do let _ ← call (.close h); pure ()
  | none => pure ()

/-- `Model.evalT` with the limits as a parameter: the composite nodes and the three asking conditions, every other node
is `evalL L`.  Every limit of an asking condition is checked before its question is asked. -/
def evalTL (L : Limits) (env : Env) (root : Msg) : Expr → (part : Nat) → Msg → St → Ask (Tri × St)
  | .block _ e, part, m, st =>
    (evalTL L env root e part m st).bind fun
      | (.error, st1) => .ret (.error, st1)
      | (ev, st1) =>
        if (matchesFind st1.ml .brk).isSome then
          .ret (.nomatch, { st1 with ml := (matchesRemove st1.ml .brk).1 })
        else if (matchesFind st1.ml .pass).isSome then
          let (ml2, n) := matchesRemove st1.ml .pass
          .ret (if n == 0 then .nomatch else .match, { st1 with ml := ml2 })
        else .ret (ev, st1)
  | .and _ l r, part, m, st =>
    (evalTL L env root l part m st).bind fun
      | (.match, st1) => evalTL L env root r part m st1
      | other => .ret other
  | .or _ l r, part, m, st =>
    (evalTL L env root l part m st).bind fun
      | (.nomatch, st1) => evalTL L env root r part m st1
      | other => .ret other
  | .neg _ e, part, m, st =>
    let n := st.ml.length
    (evalTL L env root e part m st).bind fun
      | (.error, st1) => .ret (.error, st1)
      | (.nomatch, st1) => .ret (.match, st1)
      | (.match, st1) => .ret (.nomatch, { st1 with ml := st1.ml.take n })
  | .mtch lno c rhs, part, m, st =>
    let (ml, failed) := matchesAppendL L env st.ml { ty := .mtch, lno := lno, part := part }
    if failed then .ret (.error, { st with ml := ml })
    else
      (evalTL L env root c part m { st with ml := ml }).bind fun
        | (.match, st1) => evalTL L env root rhs part m st1
        | other => .ret other
  | .attachment _ e, part, m, st =>
    match getAttachments m with
    | none => .ret (.error, st)
    | some parts =>
      let rec loop (ps : List Msg) (i : Nat) (st : St) : Ask (Tri × St) :=
        match ps with
        | [] => .ret (.nomatch, st)
        | p :: rest =>
          (evalTL L env root e (if part == 0 then i + 1 else part) p st).bind fun
            | (.nomatch, st1) => loop rest (i + 1) st1
            | other => .ret other
      loop parts 0 st
  | .attBlock _ blk, part, m, st =>
    match getAttachments m with
    | none => .ret (.error, st)
    | some parts =>
      let rec loopB (ps : List Msg) (i : Nat) (ev : Tri) (st : St) : Ask (Tri × St) :=
        match ps with
        | [] => .ret (ev, st)
        | p :: rest =>
          (evalTL L env root blk (if part == 0 then i + 1 else part) p st).bind fun
            | (.error, st1) => .ret (.error, st1)
            | (.match, st1) => loopB rest (i + 1) .match st1
            | (.nomatch, st1) => loopB rest (i + 1) ev st1
      loopB parts 0 .nomatch st
  | .date lno .header cmp age, part, m, st => .ret (evalL L env root (.date lno .header cmp age) part m st)
  | .date lno field cmp age, part, _, st =>
    (ask (.fileTime env.path field)).bind fun a =>
      match ansFileTime env.timeFormat field a with
      | none => .ret (.error, st)
      | some (tim, date) =>
        if !dateMatches cmp age env.now tim then .ret (.nomatch, st)
        else .ret (exprRegexecL L env .date lno part { src := [46, 42] } (ofString "Date") date st)
  | .stat lno path, part, _, st =>
    let mh : Match := { ty := .stat, lno := lno, part := part, strings := [path] }
    let (ml, failed) := matchesAppendL L env st.ml mh
    let st' : St := { st with ml := ml.dropLast }
    if failed then .ret (.error, st')
    else
      match strlcpyL L.pathMax path with
      | none => .ret (.error, st')
      | some p =>
        match interpolate ml.dropLast none p with
        | none => .ret (.error, st')
        | some ip =>
          match strlcpyL L.pathMax ip with
          | none => .ret (.error, st')
          | some ip => (ask (.isDir ip)).bind fun a => .ret (if ansIsDir a then .match else .nomatch, st')
  | .command lno argv, part, _, st =>
    let mh : Match := { ty := .command, lno := lno, part := part, strings := argv }
    let (ml, failed) := matchesAppendL L env st.ml mh
    let st' : St := { st with ml := ml.dropLast }
    if failed then .ret (.error, st')
    else
      match argv.mapM (interpolate ml.dropLast none) with
      | none => .ret (.error, st')
      | some av =>
        (ask (.command av)).bind fun a =>
          let rc := ansStatus a
          .ret (if rc == 0 then .match else if rc < 0 then .error else .nomatch, st')
  | e, part, m, st => .ret (evalL L env root e part m st)

/-- `Model.evalP` with the limits as a parameter. -/
def evalPL (L : Limits) (env : Env) (e : Expr) (m : Msg) (fl : MFlags) : Prog (Tri × St) :=
  (evalTL L env m e 0 m { ml := [], flags := fl }).toProg

/-- One message: parse, evaluate, interpolate, inspect / execute, free. -/
def processMessageL (L : Limits) (env : PEnv) (orc : EvalOracles) (expr : Expr) (md : Maildir) (name : Bytes) (st : MainSt) :
    Prog (MainSt × Maildir) :=
  match md.dirH with
  | none => pure (st, md)
  | some d =>
    match st.files.get md.path name with
    | none => pure ({ st with error := true }, md)
    | some content => do
      let pm ← messageParsePL L d md.path name content
      match pm with
      | none => pure ({ st with error := true }, md)
      | some ms =>
        let eenv : Env := {
          rx := orc.rx, command := fun _ => -1, isDir := fun _ => false, now := env.now,
          strptime := orc.strptime, zoneName := orc.zoneName, fileTime := fun _ => none,
          timeFormat := orc.timeFormat, dryrun := env.dryrun, path := ms.path }
        let ev ← evalPL L eenv expr ms.msg ms.flags
        match ev with
        | (.error, _) => do freeMsg ms; pure ({ st with error := true }, md)
        | (.nomatch, _) => do freeMsg ms; pure (st, md)
        | (.match, est) =>
          match matchesInterpolateL L eenv est.ml (partMsg ms.msg ms.parts) with
          | none => do freeMsg ms; pure ({ st with error := true }, md)
          | some (ml, msgs) =>
            let ms1 := { ms with msg := msgs 0, flags := est.flags }
            let st1 := { st with log := st.log ++ inspectLines env ml ms.path }
            if env.dryrun then do freeMsg ms1; pure (st1, md)
            else do
              let (xs, e) ← matchesExecL L env ml { src := md, chsrc := false, ms := ms1, reject := false }
              freeMsg xs.ms
              pure ({ st1 with error := st1.error || e, reject := st1.reject || xs.reject,
                               files := afterExec st1.files md.path name xs.ms }, md)

/-- `maildir_next` + `maildir_opendir` at the end of `new`: the maildir positioned on `cur`, and whether that failed. -/
def nextSubdirL (L : Limits) (md : Maildir) : Prog (Maildir × Bool) :=
  match pathjoinL L.pathMax md.root (subdirName .cur) with
  | none => pure (md, true)
  | some p => maildirOpendir { md with subdir := .cur, path := p } p

/-- `maildir_read` + `maildir_next`: the walk over `new` then `cur` (or the spool). -/
def walkL (L : Limits) (env : PEnv) (orc : EvalOracles) (expr : Expr) : Nat → Maildir → MainSt → Prog (MainSt × Maildir)
  | 0, md, st => pure ({ st with fuelOut := true }, md)
  | fuel + 1, md, st =>
    match md.dirH with
    | none => pure (st, md)
    | some d => do
      let r ← call (.readdir d)
      match r with
      | .name n =>
        if n == [46] || n == [46, 46] then walkL L env orc expr fuel md st
        else do
          let (st', md') ← processMessageL L env orc expr md n st
          walkL L env orc expr fuel md' st'
      | .eof =>
        if md.stdin then pure (st, md)
        else
          match md.subdir with
          | .cur => pure (st, md)
          | .new => do
            let (md', failed) ← nextSubdirL L md
            if failed then pure ({ st with error := true }, md') else walkL L env orc expr fuel md' st
      | _ => pure ({ st with error := true }, md)

/-- `maildir_stdin`: spool standard input into a temporary maildir. -/
def maildirStdinL (L : Limits) (env : PEnv) (input : Bytes) : Prog (Maildir × Bool × Option Bytes) := do
  let md0 : Maildir := { root := [], path := [], dirH := none, subdir := .new, walk := true, stdin := true }
  match pathjoinL L.pathMax env.tmpdir (ofString "mdsort-XXXXXXXX") with
  | none => pure (md0, true, none)
  | some tmpl =>
    let r ← call (.mkdtemp tmpl)
    match r with
    | .name root =>
      match pathjoinL L.pathMax root (subdirName .new) with
      | none => pure ({ md0 with root := root }, true, none)
      | some p =>
        let md1 := { md0 with root := root, path := p }
        let r2 ← call (.mkdir p)
        if !isOk r2 then pure (md1, true, none)
        else
          let (md2, failed) ← maildirOpendir md1 p
          if failed then pure (md2, true, none)
          else
            let g ← gennameStartL L env md2 none
            match g with
            | none => pure (md2, true, none)
            | some (fd, name) =>
              let e1 ← copyStdin fd (input.length + 2) input
              let e2 ← (if e1 then pure true else do
                let r ← call (.fsync fd)
                pure (!isOk r))
              let r3 ← call (.close fd)
              pure (md2, e2 || !isOk r3, some name)
    | _ => pure (md0, true, none)

/-- `maildir_open(path, MAILDIR_WALK, env)`: `md_root` (strlcpy), `md_path` (pathjoin), `opendir`; `none` = NULL. -/
def openMaildirL (L : Limits) (p : Bytes) : Prog (Option Maildir) :=
  match strlcpyL L.pathMax p, pathjoinL L.pathMax p (subdirName .new) with
  | some root, some np => do
    let (md, failed) ← maildirOpendir { root := root, path := np, dirH := none, subdir := .new, walk := true, stdin := false } np
    if failed then pure none else pure (some md)
  | _, _ => pure none

/-- The loop of `main` over the maildir paths of one configuration block. -/
def pathsL (L : Limits) (env : PEnv) (orc : EvalOracles) (input : Bytes) (b : ConfBlock) : List Bytes → MainSt → Prog MainSt
  | [], st => pure st
  | p :: more, st =>
    if (env.stdinMode && !isStdinPath p) || (!env.stdinMode && isStdinPath p) then pathsL L env orc input b more st
    else if isStdinPath p then do
      let (md, failed, spooled) ← maildirStdinL L env input
      if failed then
        let fo ← closeStdin (stdinFuel env) md
        pathsL L env orc input b more (orFuel { st with error := true } fo)
      else
        let st1 := match spooled with
          | some n => { st with files := st.files.put md.path n input }
          | none => st
        let (st2, md2) ← walkL L env orc b.expr (stdinFuel env) md st1
        let fo ← closeStdin (stdinFuel env) md2
        pathsL L env orc input b more (orFuel st2 fo)
    else do
      let o ← openMaildirL L p
      match o with
      | none => pathsL L env orc input b more { st with error := true }
      | some md =>
        let n := (st.files.filter fun e => e.1 == md.path || e.1 == (md.root ++ [47] ++ subdirName .cur)).length
        let (st2, md2) ← walkL L env orc b.expr (2 * n + 8 + env.extraFuel) md st
        maildirClose md2
        pathsL L env orc input b more st2

/-- The loop of `main` over the configuration blocks. -/
def blocksL (L : Limits) (env : PEnv) (orc : EvalOracles) (input : Bytes) : List ConfBlock → MainSt → Prog MainSt
  | [], st => pure st
  | b :: rest, st => do
    let st' ← pathsL L env orc input b b.paths st
    blocksL L env orc input rest st'

/-- `main` after option parsing. -/
def mainPL (L : Limits) (env : PEnv) (orc : EvalOracles) (confOk : Bool) (conf : List ConfBlock) (files : Files) (input : Bytes) :
    Prog (Nat × MainSt) := do
  let st0 : MainSt := { files := files, error := false, reject := false, log := [] }
  let finish (st : MainSt) : Nat × MainSt := (exitStatus env st, st)
  let r ← call (.fopen env.confpath)
  match r with
  | .ok h =>
    let _ ← call (.fclose h)
    if !confOk then pure (finish { st0 with error := true })
    else if env.syntaxOnly then pure (finish st0)
    else do
      let stf ← blocksL L env orc input conf st0
      pure (finish stf)
  | _ => pure (finish { st0 with error := true })


/-- `main` after `getopt`, from the text of the configuration file: `Model.mainText` with the limits as a parameter
(`expandtilde` uses a `PATH_MAX` buffer). -/
def mainTextL (L : Limits) (env : PEnv) (orc : EvalOracles) (rxOk : Pat → Bool) (defs : List (Bytes × Bytes))
    (confText : Bytes) (files : Files) (input : Bytes) : Prog (Nat × MainSt) :=
  match parseConfigL L.pathMax env.home defs rxOk confText with
  | .invalidDefs => pure (1, { files := files, error := true, reject := false, log := [] })
  | .ok blocks =>
    match confBlocksOf blocks with
    | some conf => mainPL L env orc true conf files input
    | none => mainPL L env orc false [] files input
  | .error _ => mainPL L env orc false [] files input
  | .fuel => mainPL L env orc false [] files input

end Mdsort.Model
