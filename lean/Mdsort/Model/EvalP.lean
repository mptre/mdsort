import Mdsort.Model.Scripts

/-!
# Evaluation inside the world model: the conditions that make system calls

Three conditions of expr.c ask the operating system while the rules are being evaluated, in
evaluation order, only when they are reached (short-circuit), possibly several times per message:

* `command "prog" ...`  -> `expr_eval_command` -> util.c `exec(argv, -1)` = `open("/dev/null")`, `fork`,
  `waitpid`, `close`;
* `isdirectory "path"`  -> `expr_eval_stat` -> `stat(path)` after interpolation (a failing `stat` is "no match");
* `date modified|created|access` -> `expr_eval_date` -> `stat(message path)` (a failing `stat` is an error).

`Model.eval` (Model/Eval.lean) gives these conditions pure oracles keyed by their argument, which is what the
documented semantics quantifies over (C03) - but two identical requests of ONE evaluation can be answered
differently by the world (a fault hits the second `fork`; a directory is removed in between), so the world
model needs an evaluator whose questions are asked one after the other.  This file has

* `Ask`: a computation that asks the operating system questions (`Req`) and continues with the answers (`SysAns`);
* `evalT`: `expr_eval` as such a computation.  The composite nodes and the three asking conditions are transcribed
  from expr.c again; every node that asks nothing is `Model.eval` itself (delegated, same code);
* `Ask.run`: the pure reading - the k-th question gets the k-th answer of a list supplied in advance (`evalR`);
* `sysCall`: the calls one question issues (`execP none` = util.c `exec(argv, -1)`, or `stat`) and its answer;
  `Ask.toProg`: the computation as a program over calls, `evalP` = `evalT` as a program.

Proofs/EvalPReplay.lean: the calls of `evalP` are exactly the questions of the pure evaluation `evalR` with the
answers the world gave, in order, and its value is that evaluation's value (`evalP_replay`); and `evalR` IS
`Model.eval` with pure oracles whenever the answers are consistent with such oracles (`evalR_eq_eval_of_consistent`,
Proofs/EvalPEval.lean), so the theorems about `eval` transfer.
-/

namespace Mdsort.Model
open Mdsort

/-! ## what `stat` reports -/

/-- What mdsort reads from a `struct stat`: the directory bit (`isdirectory`) and the three time stamps
(`Model.FileTimes`, the same record the pure evaluator's oracle `Env.fileTime` returns). -/
structure StatInfo where
  isDir : Bool
  times : FileTimes
deriving Repr, DecidableEq

def two64 : Nat := 18446744073709551616

/-- A 64-bit two's complement word as a `time_t`. -/
def wordToInt (n : Nat) : Int :=
  if n % two64 < two64 / 2 then ((n % two64 : Nat) : Int) else ((n % two64 : Nat) : Int) - (two64 : Int)

def intToWord (i : Int) : Nat := (i % (two64 : Int)).toNat

/-- The payload `v` of a successful `stat` (`Res.ok v`): bit 0 = `S_ISDIR`, then `st_atim.tv_sec`, `st_mtim.tv_sec`,
`st_ctim.tv_sec` as 64-bit words (tools/world.py writes the same number). -/
def statDecode (v : Nat) : StatInfo :=
  let r := v / 2
  { isDir := v % 2 == 1,
    times := { atime := wordToInt r, mtime := wordToInt (r / two64), ctime := wordToInt (r / two64 / two64) } }

def statEncode (s : StatInfo) : Nat :=
  (if s.isDir then 1 else 0) +
    2 * (intToWord s.times.atime + two64 * (intToWord s.times.mtime + two64 * intToWord s.times.ctime))

/-- `ts = &st.st_atim | &st.st_mtim | &st.st_ctim` by field, `tim = ts->tv_sec` (as in `Model.eval`). -/
def FileTimes.time (sb : FileTimes) : DateField → Int
  | .access => sb.atime
  | .modified => sb.mtime
  | .created => sb.ctime
  | .header => 0

/-! ## questions and answers -/

/-- One question evaluation asks the operating system. -/
inductive Req where
  | command (argv : List Bytes)                 -- `exec(argv, -1)`
  | isDir (path : Bytes)                        -- `stat(path)`, used for `S_ISDIR`
  | fileTime (path : Bytes) (f : DateField)     -- `stat(message path)`, used for one of the three times
deriving Repr, DecidableEq

inductive SysAns where
  | status (rc : Int)                           -- the value of `exec()`: 0, > 0, < 0
  | stat (si : Option StatInfo)                 -- `none`: `stat` failed
deriving Repr, DecidableEq

/-- `exec()`'s value as read from an answer (an answer of the other kind: failed). -/
def ansStatus : SysAns → Int
  | .status rc => rc
  | _ => -1

def ansStat : SysAns → Option StatInfo
  | .stat si => si
  | _ => none

/-- `stat(path) == 0 && S_ISDIR(st.st_mode)`. -/
def ansIsDir (a : SysAns) : Bool :=
  match ansStat a with
  | some si => si.isDir
  | none => false

/-- What `stat(message path)` reported to a file-time `date` condition: the three time stamps, `none` = -1. -/
def ansTimes (a : SysAns) : Option FileTimes := (ansStat a).map (·.times)

/-- The time of field `f` and its `time_format` (`tf` = `Env.timeFormat`: `localtime` + `strftime`, `none` = NULL);
`none` = `EXPR_ERROR`. -/
def ansFileTime (tf : Int → Option Bytes) (f : DateField) (a : SysAns) : Option (Int × Bytes) :=
  match ansTimes a with
  | some sb => (tf (sb.time f)).map fun s => (sb.time f, s)
  | none => none

/-- A computation that asks questions. -/
inductive Ask (α : Type) where
  | ret (a : α)
  | ask (q : Req) (k : SysAns → Ask α)

def Ask.bind {α β} : Ask α → (α → Ask β) → Ask β
  | .ret a, f => f a
  | .ask q k, f => .ask q (fun a => (k a).bind f)

instance : Monad Ask where
  pure := .ret
  bind := Ask.bind

/-- Ask one question. -/
def ask (q : Req) : Ask SysAns := .ask q .ret

/-! ## `expr_eval` as a computation that asks -/

/-- `expr_eval`: the result and the state.  The three oracle fields `command`, `isDir`, `fileTime` of `env` are not used (the
questions are asked instead); `env.timeFormat` is `time_format`, as for `Model.eval`. -/
def evalT (env : Env) (root : Msg) : Expr → (part : Nat) → Msg → St → Ask (Tri × St)
  | .block _ e, part, m, st =>
    (evalT env root e part m st).bind fun
      | (.error, st1) => .ret (.error, st1)
      | (ev, st1) =>
        if (matchesFind st1.ml .brk).isSome then
          .ret (.nomatch, { st1 with ml := (matchesRemove st1.ml .brk).1 })
        else if (matchesFind st1.ml .pass).isSome then
          let (ml2, n) := matchesRemove st1.ml .pass
          .ret (if n == 0 then .nomatch else .match, { st1 with ml := ml2 })
        else .ret (ev, st1)
  | .and _ l r, part, m, st =>
    (evalT env root l part m st).bind fun
      | (.match, st1) => evalT env root r part m st1
      | other => .ret other
  | .or _ l r, part, m, st =>
    (evalT env root l part m st).bind fun
      | (.nomatch, st1) => evalT env root r part m st1
      | other => .ret other
  | .neg _ e, part, m, st =>
    let n := st.ml.length
    (evalT env root e part m st).bind fun
      | (.error, st1) => .ret (.error, st1)
      | (.nomatch, st1) => .ret (.match, st1)
      | (.match, st1) => .ret (.nomatch, { st1 with ml := st1.ml.take n })
  | .mtch lno c rhs, part, m, st =>
    let (ml, failed) := matchesAppend env st.ml { ty := .mtch, lno := lno, part := part }
    if failed then .ret (.error, { st with ml := ml })
    else
      (evalT env root c part m { st with ml := ml }).bind fun
        | (.match, st1) => evalT env root rhs part m st1
        | other => .ret other
  | .attachment _ e, part, m, st =>
    match getAttachments m with
    | none => .ret (.error, st)
    | some parts =>
      let rec loop (ps : List Msg) (i : Nat) (st : St) : Ask (Tri × St) :=
        match ps with
        | [] => .ret (.nomatch, st)
        | p :: rest =>
          (evalT env root e (if part == 0 then i + 1 else part) p st).bind fun
            | (.nomatch, st1) => loop rest (i + 1) st1
            | other => .ret other
      loop parts 0 st
  | .attBlock _ blk, part, m, st =>
    match getAttachments m with
    | none => .ret (.error, st)
    | some parts =>
      let rec loopB (ps : List Msg) (i : Nat) (ev : Tri) (st : St) : Ask (Tri × St) :=
        match ps with
        | [] => .ret (ev, st)
        | p :: rest =>
          (evalT env root blk (if part == 0 then i + 1 else part) p st).bind fun
            | (.error, st1) => .ret (.error, st1)
            | (.match, st1) => loopB rest (i + 1) .match st1
            | (.nomatch, st1) => loopB rest (i + 1) ev st1
      loopB parts 0 .nomatch st
  | .date lno .header cmp age, part, m, st => .ret (eval env root (.date lno .header cmp age) part m st)
  | .date lno field cmp age, part, _, st =>
    -- `stat(message_get_path(msg))`, then `time_format`
    (ask (.fileTime env.path field)).bind fun a =>
      match ansFileTime env.timeFormat field a with
      | none => .ret (.error, st)
      | some (tim, date) =>
        if !dateMatches cmp age env.now tim then .ret (.nomatch, st)
        else .ret (exprRegexec env .date lno part { src := [46, 42] } (ofString "Date") date st)
  | .stat lno path, part, _, st =>
    let mh : Match := { ty := .stat, lno := lno, part := part, strings := [path] }
    let (ml, failed) := matchesAppend env st.ml mh
    let st' : St := { st with ml := ml.dropLast }
    if failed then .ret (.error, st')
    else
      match strlcpyFits PATH_MAX path with
      | none => .ret (.error, st')
      | some p =>
        match interpolate ml.dropLast none p with
        | none => .ret (.error, st')
        | some ip =>
          match strlcpyFits PATH_MAX ip with
          | none => .ret (.error, st')
          | some ip => (ask (.isDir ip)).bind fun a => .ret (if ansIsDir a then .match else .nomatch, st')
  | .command lno argv, part, _, st =>
    let mh : Match := { ty := .command, lno := lno, part := part, strings := argv }
    let (ml, failed) := matchesAppend env st.ml mh
    let st' : St := { st with ml := ml.dropLast }
    if failed then .ret (.error, st')
    else
      match argv.mapM (interpolate ml.dropLast none) with
      | none => .ret (.error, st')
      | some av =>
        (ask (.command av)).bind fun a =>
          let rc := ansStatus a
          .ret (if rc == 0 then .match else if rc < 0 then .error else .nomatch, st')
  -- every other node asks nothing: `expr_eval` as it is
  | e, part, m, st => .ret (eval env root e part m st)

/-! ## the pure reading: answers supplied in advance -/

/-- Run with the list of answers: question k reads answer k (a missing answer reads as "failed"; `evalP` never
runs short, `Proofs.evalP_replay`).  Returns the value and the questions asked, oldest first. -/
def Ask.run {α} : Ask α → List SysAns → α × List Req
  | .ret a, _ => (a, [])
  | .ask q k, as =>
    let x := (k (as.headD (.status (-1)))).run as.tail
    (x.1, q :: x.2)

/-- The evaluation of the rules `e` on the parsed message `m` (flags `fl`) as a computation. -/
def evalTop (env : Env) (e : Expr) (m : Msg) (fl : MFlags) : Ask (Tri × St) :=
  evalT env m e 0 m { ml := [], flags := fl }

/-- `expr_eval` with positional answers: the result, the state and the questions asked. -/
def evalR (env : Env) (e : Expr) (m : Msg) (fl : MFlags) (as : List SysAns) : (Tri × St) × List Req :=
  (evalTop env e m fl).run as

/-! ## one question as calls -/

/-- What a `stat` call answered. -/
def statAnswer : Res → Option StatInfo
  | .ok v => some (statDecode v)
  | _ => none

/-- The calls of one question and its answer: util.c `exec(argv, -1)` (`execP none`: `open("/dev/null")`, `fork`,
`waitpid`, `close`), or `stat(path)`. -/
def sysCall : Req → Prog SysAns
  | .command av => (execP (av.map cstr) none).bind fun rc => .ret (.status rc)
  | .isDir p => (call (.stat p)).bind fun r => .ret (.stat (statAnswer r))
  | .fileTime p _ => (call (.stat p)).bind fun r => .ret (.stat (statAnswer r))

/-- A computation that asks, as a program over calls. -/
def Ask.toProg {α} : Ask α → Prog α
  | .ret a => .ret a
  | .ask q k => (sysCall q).bind fun a => (k a).toProg

/-- `expr_eval(root rules, message)` in the world model. -/
def evalP (env : Env) (e : Expr) (m : Msg) (fl : MFlags) : Prog (Tri × St) :=
  (evalTop env e m fl).toProg

end Mdsort.Model
