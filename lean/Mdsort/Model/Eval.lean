import Mdsort.Bytes
import Mdsort.Gen.Tables
import Mdsort.Model.Header
import Mdsort.Model.Mime
import Mdsort.Model.Flags
import Mdsort.Model.Time

/-!
# Model of the evaluator: expr.c and match.c

Transcription of every `expr_eval_*`, of `matches_append/merge/find/remove`,
`match_backref`, `isbackref`, `interpolate`, `match_copy`, `match_interpolate`,
`matches_interpolate`, `matches_inspect` and `expr_inspect`.

The match list (`TAILQ`) is a `List Match`, oldest first.  `mh_msg` is the index
of the part the entry was created for (0 = the message, i + 1 = attachment i of
the flattened table).  Everything the evaluator asks the outside world is in
`Env`: the regex engine, the exit status of a command, `stat`, the current time,
`strptime` and the zone-name lookup.
-/

namespace Mdsort.Model
open Mdsort

inductive Tri | match | nomatch | error
deriving Repr, DecidableEq

/-- Pattern as configured: source text and the flags `i`, `l`, `u`. -/
structure Pat where
  src : Bytes
  icase : Bool := false
  lcase : Bool := false
  ucase : Bool := false
deriving Repr, DecidableEq

inductive DateField | header | access | modified | created
deriving Repr, DecidableEq

/-- `struct expr`.  `lno` is `ex_lno`. -/
inductive Expr where
  | block (lno : Nat) (e : Expr)
  | and (lno : Nat) (l r : Expr)
  | or (lno : Nat) (l r : Expr)
  | neg (lno : Nat) (e : Expr)
  | mtch (lno : Nat) (cond rhs : Expr)
  | all (lno : Nat)
  | attachment (lno : Nat) (e : Expr)
  | body (lno : Nat) (p : Pat)
  | date (lno : Nat) (field : DateField) (cmp : DateCmp) (age : Nat)
  | header (lno : Nat) (names : List Bytes) (p : Pat)
  | new (lno : Nat)
  | old (lno : Nat)
  | stat (lno : Nat) (path : Bytes)
  | command (lno : Nat) (argv : List Bytes)
  | move (lno : Nat) (path : Bytes)
  | flag (lno : Nat) (subdir : Bytes)
  | flags (lno : Nat) (fl : Bytes)
  | discard (lno : Nat)
  | brk (lno : Nat)
  | label (lno : Nat) (labels : List Bytes)
  | pass (lno : Nat)
  | reject (lno : Nat)
  | exec (lno : Nat) (stdin body : Bool) (argv : List Bytes)
  | attBlock (lno : Nat) (blk : Expr)
  | addHeader (lno : Nat) (key val : Bytes)
deriving Repr

/-- `enum expr_type` of the entries that can appear in a match list. -/
inductive MType
  | mtch | body | date | header | stat | command
  | move | flag | flags | discard | brk | label | pass | reject | exec | attBlock | addHeader
deriving Repr, DecidableEq

/-- Name in the generated `expr_alloc` table. -/
def MType.name : MType → String
  | .mtch => "match" | .body => "body" | .date => "date" | .header => "header" | .stat => "stat"
  | .command => "command" | .move => "move" | .flag => "flag" | .flags => "flags" | .discard => "discard"
  | .brk => "break" | .label => "label" | .pass => "pass" | .reject => "reject" | .exec => "exec"
  | .attBlock => "attachment_block" | .addHeader => "add_header"

def MType.info (t : MType) : Gen.ExprInfo :=
  match Gen.exprTable.find? (fun i => i.name == t.name) with
  | some i => i
  | none => { name := t.name, action := false, inspect := false, interpolate := false, path := false, label := none }

def MType.isAction (t : MType) : Bool := t.info.action
def MType.isInspect (t : MType) : Bool := t.info.inspect
def MType.isInterp (t : MType) : Bool := t.info.interpolate
def MType.isPath (t : MType) : Bool := t.info.path

/-- One `regmatch_t` after `match_copy`: the (case-folded) text and its offsets;
`none` offsets for an unset group (`rm_so == -1`). -/
structure Sub where
  str : Bytes
  off : Option (Nat × Nat)
deriving Repr, DecidableEq

/-- `struct match`. -/
structure Match where
  ty : MType
  lno : Nat
  part : Nat
  maildir : Bytes := []
  subdir : Bytes := []
  path : Bytes := []
  subs : List Sub := []
  key : Option Bytes := none      -- mh_key / mh_val, dry run only
  val : Option Bytes := none
  argv : List Bytes := []          -- mh_exec after interpolation
  -- what the entry was built from (mh_expr)
  strings : List Bytes := []       -- ex_strings
  hkey : Bytes := []               -- add-header key
  hval : Bytes := []               -- add-header value
  pat : Option Pat := none
  execStdin : Bool := false
  execBody : Bool := false
deriving Repr, DecidableEq

abbrev MatchList := List Match

/-- Result of the regex engine on one subject: `regexec` with `nmatch = re_nsub + 1`. -/
inductive RxRes where
  | nomatch
  | error
  | ok (groups : List (Option (Nat × Nat)))
deriving Repr, DecidableEq

/-- The three time stamps of `struct stat` a date condition can look at (`tv_sec` of each). -/
structure FileTimes where
  atime : Int                                   -- `st_atim.tv_sec`
  mtime : Int                                   -- `st_mtim.tv_sec`
  ctime : Int                                   -- `st_ctim.tv_sec`
deriving Repr, DecidableEq

/-- What the evaluator asks its environment. -/
structure Env where
  rx : Pat → Bytes → RxRes
  command : List Bytes → Int                   -- `exec(argv, -1)`: 0, > 0, or < 0
  isDir : Bytes → Bool                          -- `stat(path) == 0 && S_ISDIR`
  now : Int
  strptime : Bytes → Option (Tm × Bytes)
  zoneName : Bytes → Option Int
  fileTime : Bytes → Option FileTimes           -- `stat(path, &st)`: `none` = -1, else the three time stamps
  timeFormat : Int → Option Bytes := fun _ => none   -- `time_format(tim, buf, sizeof(buf))`: `none` = NULL
  dryrun : Bool
  path : Bytes                                  -- `message_get_path(msg)`

/-- The message under evaluation: the parsed message and, lazily, its parts. -/
structure EvalMsg where
  msg : Msg
  flags : MFlags

/-! ## match list primitives -/

/-- `matches_find(ml, type)`. -/
def matchesFind (ml : MatchList) (t : MType) : Option Match := ml.find? (·.ty == t)

/-- `matches_remove(ml, type)`: the list without that type and the number of actions left. -/
def matchesRemove (ml : MatchList) (t : MType) : MatchList × Nat :=
  let ml' := ml.filter (·.ty != t)
  (ml', (ml'.filter (·.ty.isAction)).length)

/-- Remove the first entry of type `t` (`TAILQ_REMOVE(ml, matches_find(ml, t))`). -/
def removeFirst (ml : MatchList) (t : MType) : MatchList :=
  match ml with
  | [] => []
  | m :: r => if m.ty == t then r else m :: removeFirst r t

/-- `matches_merge(ml, mh)`: the list and the (possibly amended) new entry. -/
def matchesMerge (ml : MatchList) (mh : Match) : MatchList × Match :=
  if mh.ty != .move && mh.ty != .flag then (ml, mh)
  else
    match ml.getLast? with
    | some last =>
      if last.ty == mh.ty then (ml.dropLast, mh)         -- consecutive duplicates
      else
        let other := if mh.ty == .move then MType.flag else MType.move
        match matchesFind ml other with
        | none => (ml, mh)
        | some dup =>
          let mh' := if mh.ty == .move then { mh with subdir := dup.subdir } else { mh with maildir := dup.maildir }
          (removeFirst ml other, mh')
    | none => (ml, mh)

/-- `NAME_MAX + 1` and `PATH_MAX` of the platform headers the sources are compiled against (`cc -E -dM`, regenerated into
`Gen.nameMax` / `Gen.pathMax` on every run).  The numbers themselves are written in one place only, the evaluated lemmas of
`Proofs/GenBridge.lean`, which stop checking when the platform (or a `#define` of the tree) changes the limits; the
executable model (and with it the driver of the correspondence run) follows the regenerated values. -/
def NAME_MAX1 : Nat := Gen.nameMax + 1
def PATH_MAX : Nat := Gen.pathMax

/-- `matches_append(ml, mh)`: `(list, failed)`; on failure the entry is already in the list. -/
def matchesAppend (env : Env) (ml : MatchList) (mh : Match) : MatchList × Bool :=
  let (ml1, mh1) := matchesMerge ml mh
  if !mh1.ty.isPath then (ml1 ++ [mh1], false)
  else
    let md : Option Bytes := if mh1.maildir.isEmpty then pathslice env.path PATH_MAX 0 (-2) else some mh1.maildir
    match md with
    | none => (ml1 ++ [mh1], true)
    | some maildir =>
      let mh2 := { mh1 with maildir := maildir }
      let sd : Option Bytes := if mh2.subdir.isEmpty then pathslice env.path NAME_MAX1 (-2) (-2) else some mh2.subdir
      match sd with
      | none => (ml1 ++ [mh2], true)
      | some subdir =>
        let mh3 := { mh2 with subdir := subdir }
        match pathjoin PATH_MAX maildir subdir with
        | none => (ml1 ++ [mh3], true)
        | some p => (ml1 ++ [{ mh3 with path := p }], false)

/-! ## interpolation -/

structure Backref where
  mi : Nat
  si : Nat
deriving Repr, DecidableEq

/-- The digit loop of `strtoul(s, &end, 10)`: the value read so far and the number of digits consumed (0 if no digits);
sign, white space and the caller's `> INT_MAX` test are in `strtoul` below. -/
def strtoulDigits : Bytes → Nat → Nat → Nat × Nat
  | c :: r, acc, n => if isdigit c then strtoulDigits r (acc * 10 + (c.toNat - 48)) (n + 1) else (acc, n)
  | [], acc, n => (acc, n)

/-- The value `strtoul` returns for `-v` (LP64, `ULONG_MAX = 2^64 - 1`), filtered by the caller's `> INT_MAX` test: digits that
overflow `unsigned long` give `ULONG_MAX` (ERANGE) whatever the sign; otherwise the result is the unsigned negation `2^64 - v`,
which is a small number again for `v` just below `2^64` (`-18446744073709551615` is 1). -/
def strtoulNeg (v : Nat) : Option Nat :=
  if v == 0 then some 0
  else if v > 18446744073709551615 then none
  else if 18446744073709551616 - v > 2147483647 then none
  else some (18446744073709551616 - v)

def strtoul (s : Bytes) : Option Nat × Nat :=
  let ws := (s.takeWhile isspace).length
  let s1 := s.drop ws
  let (neg, sgn) : Bool × Nat := match s1 with
    | 45 :: _ => (true, 1)
    | 43 :: _ => (false, 1)
    | _ => (false, 0)
  let (v, n) := strtoulDigits (s1.drop sgn) 0 0
  if n == 0 then (some 0, 0)                       -- no conversion: end = nptr
  else
    let consumed := ws + sgn + n
    if neg then (strtoulNeg v, consumed)                      -- -v wraps: above INT_MAX unless v is within INT_MAX of 2^64
    else if v > 2147483647 then (none, consumed) else (some v, consumed)

/-- `isbackref(str, &br)`: `.inl n` consumed with a back-reference, `.inr false` not a
back-reference (0), `.inr true` invalid (-1). -/
def isBackref (s : Bytes) : Sum (Nat × Backref) Bool :=
  match s with
  | 92 :: d :: _ =>
    if !isdigit d then .inr false
    else
      match strtoul (s.drop 1) with
      | (none, _) => .inr true
      | (some val, n) =>
        let rest := s.drop (1 + n)
        match rest with
        | 46 :: after =>
          match strtoul after with
          | (none, _) => .inr true
          | (some v2, n2) => .inl (1 + n + 1 + n2, { mi := val, si := v2 })
        | 92 :: 46 :: _ => .inl (1 + n + 1, { mi := 0, si := val })
        | _ => .inl (1 + n, { mi := 0, si := val })
  | _ => .inr false

/-- `match_backref(mh, br)`: `before` are the entries preceding `mh` in the list. -/
def matchBackref (before : MatchList) (br : Backref) : Option Bytes :=
  -- go backwards to the MATCH sentinel of this rule
  let rev := before.reverse
  match rev.findIdx? (·.ty == .mtch) with
  | none => none
  | some k =>
    -- entries after the sentinel, in order, up to (excluding) mh
    let after := (rev.take k).reverse
    match (after.filter (·.ty.isInterp))[br.mi]? with
    | none => none
    | some mi =>
      match mi.subs[br.si]? with
      | none => none
      | some s => some s.str

/-- `ismacro(str, &macro)`: `.inl (len, name)`, `.inr false` = 0, `.inr true` = -1. -/
def isMacro (s : Bytes) : Sum (Nat × Bytes) Bool :=
  match s with
  | 36 :: 123 :: r =>
    let name := r.takeWhile (· != 125)
    if name.length == r.length then .inr true else .inl (name.length + 3, name)
  | _ => .inr false

/-- `interpolate(mh, macros, str)`; `macros = none` is the NULL list. `none` = NULL. -/
def interpolate (before : MatchList) (macros : Option (List (Bytes × Bytes))) (s : Bytes) : Option Bytes :=
  go s.length s []
where
  go : Nat → Bytes → Bytes → Option Bytes
  | 0, _, out => some out
  | fuel + 1, s, out =>
    match s with
    | [] => some out
    | c :: r =>
      match isBackref s with
      | .inr true => none
      | .inl (n, br) =>
        match matchBackref before br with
        | none => none
        | some sub => go fuel (s.drop n) (out ++ cstr sub)
      | .inr false =>
        match isMacro s with
        | .inr true => none
        | .inl (n, name) =>
          match macros with
          | none => none
          | some ms =>
            match ms.find? (·.1 == name) with
            | none => none
            | some (_, v) => go fuel (s.drop n) (out ++ v)
        | .inr false => go fuel r (out ++ [c])

/-- `match_copy`: apply the case flags to each captured text. -/
def matchCopy (p : Pat) (subject : Bytes) (groups : List (Option (Nat × Nat))) : List Sub :=
  groups.map fun g =>
    match g with
    | none => { str := [], off := none }
    | some (so, eo) =>
      let t := (subject.drop so).take (eo - so)
      let t1 := if p.lcase then t.map tolower else t
      let t2 := if p.ucase then t1.map toupper else t1
      { str := t2, off := some (so, eo) }

/-! ## evaluation -/

structure St where
  ml : MatchList
  flags : MFlags          -- `me_mflags`, mutated by `flags` actions during evaluation
deriving Repr

/-- `expr_regexec(ex, ml, msg, env, key, val)`. -/
def exprRegexec (env : Env) (ty : MType) (lno part : Nat) (p : Pat) (key val : Bytes) (st : St) : Tri × St :=
  match env.rx p val with
  | .nomatch => (.nomatch, st)
  | .error => (.error, st)
  | .ok groups =>
    let mh : Match := { ty := ty, lno := lno, part := part, subs := matchCopy p val groups, pat := some p }
    let (ml, failed) := matchesAppend env st.ml mh
    if failed then (.error, { st with ml := ml })
    else if env.dryrun then
      -- mh_key / mh_val are set on the entry just appended
      (.match, { st with ml := ml.dropLast ++ (ml.getLast?.map fun m => { m with key := some key, val := some val }).toList })
    else (.match, { st with ml := ml })

/-- `expr_match` (discard, exec, label, reject) and the entries that only append. -/
def exprAppend (env : Env) (mh : Match) (st : St) (ok : Tri) : Tri × St :=
  let (ml, failed) := matchesAppend env st.ml mh
  (if failed then .error else ok, { st with ml := ml })

/-- The part an entry refers to: the message itself or one of its attachments. -/
def partMsg (m : Msg) (parts : List Msg) : Nat → Msg
  | 0 => m
  | i + 1 => parts.getD i m

/-- `expr_eval`.  `m` is `ea_msg` (with index `part`), `root` the message whose
attachment table indexes the parts. -/
def eval (env : Env) (root : Msg) : Expr → (part : Nat) → Msg → St → Tri × St
  | .block _ e, part, m, st =>
    match eval env root e part m st with
    | (.error, st1) => (.error, st1)
    | (ev, st1) =>
      if (matchesFind st1.ml .brk).isSome then
        (.nomatch, { st1 with ml := (matchesRemove st1.ml .brk).1 })
      else if (matchesFind st1.ml .pass).isSome then
        let (ml2, n) := matchesRemove st1.ml .pass
        (if n == 0 then .nomatch else .match, { st1 with ml := ml2 })
      else (ev, st1)
  | .and _ l r, part, m, st =>
    match eval env root l part m st with
    | (.match, st1) => eval env root r part m st1
    | other => other
  | .or _ l r, part, m, st =>
    match eval env root l part m st with
    | (.nomatch, st1) => eval env root r part m st1
    | other => other
  | .neg _ e, part, m, st =>
    let n := st.ml.length
    match eval env root e part m st with
    | (.error, st1) => (.error, st1)
    | (.nomatch, st1) => (.match, st1)
    | (.match, st1) => (.nomatch, { st1 with ml := st1.ml.take n })
  | .mtch lno c rhs, part, m, st =>
    let (ml, failed) := matchesAppend env st.ml { ty := .mtch, lno := lno, part := part }
    if failed then (.error, { st with ml := ml })
    else
      match eval env root c part m { st with ml := ml } with
      | (.match, st1) => eval env root rhs part m st1
      | other => other
  | .all _, _, _, st => (.match, st)
  | .attachment _ e, part, m, st =>
    match getAttachments m with
    | none => (.error, st)
    | some parts =>
      -- parts of the root are numbered 1..; parts of a part are not addressable (index 0 of themselves)
      let rec loop (ps : List Msg) (i : Nat) (st : St) : Tri × St :=
        match ps with
        | [] => (.nomatch, st)
        | p :: rest =>
          match eval env root e (if part == 0 then i + 1 else part) p st with
          | (.nomatch, st1) => loop rest (i + 1) st1
          | other => other
      loop parts 0 st
  | .attBlock _ blk, part, m, st =>
    match getAttachments m with
    | none => (.error, st)
    | some parts =>
      let rec loopB (ps : List Msg) (i : Nat) (ev : Tri) (st : St) : Tri × St :=
        match ps with
        | [] => (ev, st)
        | p :: rest =>
          match eval env root blk (if part == 0 then i + 1 else part) p st with
          | (.error, st1) => (.error, st1)
          | (.match, st1) => loopB rest (i + 1) .match st1
          | (.nomatch, st1) => loopB rest (i + 1) ev st1
      loopB parts 0 .nomatch st
  | .body lno p, part, m, st =>
    match getBody m with
    | none => (.error, st)
    | some b => exprRegexec env .body lno part p (ofString "Body") b st
  | .date lno field cmp age, part, m, st =>
    let dt : Option (Option (Int × Bytes)) :=
      match field with
      | .header =>
        match getHeader1 m (ofString "Date") with
        | none => some none                                  -- no Date header: no match
        | some d =>
          match timeParse env.strptime env.zoneName d with
          | none => none                                     -- error
          | some t => some (some (t, d))
      | f =>
        -- `ts = &st.st_atim | &st.st_mtim | &st.st_ctim` by field, then `stat(message_get_path(msg), &st)`,
        -- `tim = ts->tv_sec`, `date = time_format(tim, ..)`; a failing `stat` / `time_format` is EXPR_ERROR
        match env.fileTime env.path with
        | none => none
        | some sb =>
          let tim : Int := match f with
            | .access => sb.atime
            | .modified => sb.mtime
            | .created => sb.ctime
            | .header => 0                                   -- UNREACHABLE (handled above)
          match env.timeFormat tim with
          | none => none
          | some s => some (some (tim, s))
    match dt with
    | none => (.error, st)
    | some none => (.nomatch, st)
    | some (some (tim, date)) =>
      if !dateMatches cmp age env.now tim then (.nomatch, st)
      else exprRegexec env .date lno part { src := [46, 42] } (ofString "Date") date st
  | .header lno names p, part, m, st =>
    let rec keys (ks : List Bytes) (st : St) : Tri × St :=
      match ks with
      | [] => (.nomatch, st)
      | k :: rest =>
        match getHeader m k with
        | none => keys rest st
        | some vals =>
          let rec values (vs : List Bytes) (st : St) : Option (Tri × St) :=
            match vs with
            | [] => none
            | v :: more =>
              match exprRegexec env .header lno part p k v st with
              | (.nomatch, st1) => values more st1
              | other => some other
          match values vals st with
          | some r => r
          | none => keys rest st
    keys names st
  | .new _, _, _, st =>
    (if pathslice env.path NAME_MAX1 (-2) (-2) == some [110, 101, 119] then .match else .nomatch, st)
  | .old _, part, _, st =>
    -- an attachment is a zeroed `struct message`: it carries no maildir flags of its own
    if flagsIsSet (if part == 0 then st.flags else MFlags.empty) 83 then (.nomatch, st)
    else (if pathslice env.path NAME_MAX1 (-2) (-2) == some [99, 117, 114] then .match else .nomatch, st)
  | .stat lno path, part, _, st =>
    let mh : Match := { ty := .stat, lno := lno, part := part, strings := [path] }
    let (ml, failed) := matchesAppend env st.ml mh
    let ev : Tri :=
      if failed then .error
      else
        match strlcpyFits PATH_MAX path with
        | none => .error
        | some p =>
          match interpolate ml.dropLast none p with
          | none => .error
          | some ip =>
            match strlcpyFits PATH_MAX ip with
            | none => .error
            | some ip => if env.isDir ip then .match else .nomatch
    (ev, { st with ml := ml.dropLast })
  | .command lno argv, part, _, st =>
    let mh : Match := { ty := .command, lno := lno, part := part, strings := argv }
    let (ml, failed) := matchesAppend env st.ml mh
    let ev : Tri :=
      if failed then .error
      else
        match argv.mapM (interpolate ml.dropLast none) with
        | none => .error
        | some av =>
          let rc := env.command av
          if rc == 0 then .match else if rc < 0 then .error else .nomatch
    (ev, { st with ml := ml.dropLast })
  | .move lno path, part, _, st =>
    match strlcpyFits PATH_MAX path with
    | none => (.error, st)
    | some p => exprAppend env { ty := .move, lno := lno, part := part, maildir := p, strings := [path] } st .match
  | .flag lno subdir, part, _, st =>
    match strlcpyFits NAME_MAX1 subdir with
    | none => (.error, st)
    | some sd => exprAppend env { ty := .flag, lno := lno, part := part, subdir := sd, strings := [subdir] } st .match
  | .flags lno fl, part, _, st =>
    -- every letter is tried; any unknown one is an error after all were applied
    let rec setAll (cs : Bytes) (mf : MFlags) (err : Bool) : MFlags × Bool :=
      match cs with
      | [] => (mf, err)
      | c :: r => match flagsSet mf c with
        | none => setAll r mf true
        | some mf' => setAll r mf' err
    let (mf, err) := setAll fl st.flags false
    if err then (.error, { st with flags := mf })
    else exprAppend env { ty := .flags, lno := lno, part := part, strings := [fl] } { st with flags := mf } .match
  | .discard lno, part, _, st => exprAppend env { ty := .discard, lno := lno, part := part } st .match
  | .brk lno, part, _, st => exprAppend env { ty := .brk, lno := lno, part := part } st .match
  | .label lno ls, part, _, st => exprAppend env { ty := .label, lno := lno, part := part, strings := ls } st .match
  | .pass lno, part, _, st => exprAppend env { ty := .pass, lno := lno, part := part } st .nomatch
  | .reject lno, part, _, st => exprAppend env { ty := .reject, lno := lno, part := part } st .match
  | .exec lno si bo argv, part, _, st =>
    exprAppend env { ty := .exec, lno := lno, part := part, strings := argv, execStdin := si, execBody := bo } st .match
  | .addHeader lno k v, part, _, st =>
    exprAppend env { ty := .addHeader, lno := lno, part := part, hkey := k, hval := v } st .match

/-! ## after evaluation: interpolation of the whole list -/

/-- The copy loop of `match_interpolate` over one existing (decoded) `X-Label` value: `'\n'` and `'\r'`
become a space (/repo 71eba6c), every other byte is copied. -/
def labelSafe (v : Bytes) : Bytes := v.map fun c => if c == 10 || c == 13 then 32 else c

/-- `match_interpolate(mh, macros)` for the entry at position `i`; the message (and its
parts, for entries created inside attachment blocks) is updated by label / add-header. -/
def matchInterpolate (macros : Option (List (Bytes × Bytes))) (ml : MatchList) (i : Nat) (mh : Match)
    (msgs : Nat → Msg) : Option (Match × Option (Nat × Msg)) :=
  let before := ml.take i
  match mh.ty with
  | .stat | .move =>
    match interpolate before macros mh.path with
    | none => none
    | some p => (strlcpyFits PATH_MAX p).map fun p => ({ mh with path := p }, none)
  | .label =>
    let m := msgs mh.part
    let existing : Bytes :=
      match getHeader m (ofString "X-Label") with
      | none => []
      | some ls => ((ls.map labelSafe).intersperse [32]).flatten
    let rec add (ss : List Bytes) (buf : Bytes) : Option Bytes :=
      match ss with
      | [] => some buf
      | s :: r =>
        match interpolate before macros s with
        | none => none
        | some v => add r ((if buf.isEmpty then buf else buf ++ [32]) ++ v)
    match add mh.strings existing with
    | none => none
    | some lab => some (mh, some (mh.part, setHeader m (ofString "X-Label") (cstr lab)))
  | .command | .exec =>
    (mh.strings.mapM (interpolate before macros)).map fun av => ({ mh with argv := av.map cstr }, none)
  | .addHeader =>
    match interpolate before macros mh.hval with
    | none => none
    | some v => some (mh, some (mh.part, setHeader (msgs mh.part) mh.hkey (cstr v)))
  | _ => some (mh, none)

/-- `matches_interpolate(ml)`: the interpolated list and the updated parts, or `none`. -/
def matchesInterpolate (env : Env) (ml : MatchList) (msgs : Nat → Msg) : Option (MatchList × (Nat → Msg)) :=
  let macros := some [(ofString "path", env.path)]
  let rec go (i : Nat) (rest : MatchList) (cur : MatchList) (msgs : Nat → Msg) : Option (MatchList × (Nat → Msg)) :=
    match rest with
    | [] => some (cur, msgs)
    | mh :: more =>
      match matchInterpolate macros cur i mh msgs with
      | none => none
      | some (mh', upd) =>
        let cur' := cur.set i mh'
        let msgs' := match upd with
          | none => msgs
          | some (k, m) => fun j => if j == k then m else msgs j
        go (i + 1) more cur' msgs'
  go 0 ml ml msgs

end Mdsort.Model
