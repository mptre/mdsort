import Mdsort.Model.L0.Basic

/-!
# L0 model of libks/buffer.c (the growable byte buffer)

Every string mdsort builds piecewise goes through this buffer: interpolated strings (match.c `interpolate`, 64
bytes to start with), the `X-Label` value (match.c `match_interpolate`, 128), macro expansion (parse.y
`expandmacros`, 64), the decoders (decode.c: `strlen` of the input, 128 for an encoded word) and the whole message
(`buffer_read_fd`, 8192).  The list-level models treat it as the list of bytes appended so far; here it is what the
C code manipulates: a `malloc`ed object (`bf_ptr`, an `L0.Buf`: every write is bounds-checked), its size `bf_siz`
(`cap`) and the number of bytes in use `bf_len` (`len`).  `Proofs/L0Buffer.lean` proves that no sequence of
operations writes outside the object and that the bytes in use are the concatenation of the pieces appended, which
is the refinement the list-level models rely on.

Transcribed: `buffer_alloc`, `buffer_reserve`, `buffer_puts`, `buffer_putc`, `buffer_printf`/`buffer_vprintf`,
`buffer_release`, `buffer_str`, `buffer_get_len`, `buffer_get_size`, `buffer_read_fd`, `buffer_reset`,
`buffer_pop`.  Not modelled: allocation failure (`calloc`/`realloc` returning NULL) and `size_t` overflow
(`ULONG_MAX` bytes); `realloc` is "a new object whose first `min(old, new)` bytes are the old ones, the rest
garbage".  `vsnprintf(dst, size, fmt, ...)` is its contract on the formatted string `s` (the bytes `fmt` and its
arguments produce, given as data): with `size > 0` it writes `min(|s|, size - 1)` bytes of `s` and a NUL, and
returns `|s|`.
-/

namespace Mdsort.L0
open Mdsort

/-- `struct buffer`. -/
structure LBuf where
  /-- the object `bf_ptr` points to; the empty object stands for `NULL` (`bf_siz = 0`) -/
  store : Buf
  /-- `bf_siz` -/
  cap : Nat
  /-- `bf_len` -/
  len : Nat
deriving Repr, DecidableEq, Inhabited

/-- `realloc(ptr, n)`: a new object of `n` bytes, the first `min(old, n)` bytes copied, the rest garbage. -/
def Buf.realloc (b : Buf) (n : Nat) : Buf := ⟨(b.bytes.toList.take n ++ List.replicate (n - b.bytes.size) 0xAA).toArray⟩

/-- `memcpy(&b[off], s, |s|)`, byte by byte through the checked setter. -/
def Buf.writeAt (b : Buf) (off : Nat) : Bytes → M Buf
  | [] => .ok b
  | c :: cs =>
    match b.set off c with
    | .error e => .error e
    | .ok b' => Buf.writeAt b' (off + 1) cs

/-- `vsnprintf(&b[off], size, fmt, ...)` where `s` is the formatted string: nothing when `size = 0`, otherwise
`min(|s|, size - 1)` bytes of `s` followed by a NUL.  (The return value is `|s|`.) -/
def vsnprintf (b : Buf) (off size : Nat) (s : Bytes) : M Buf :=
  if size = 0 then .ok b
  else
    match b.writeAt off (s.take (min s.length (size - 1))) with
    | .error e => .error e
    | .ok b' => b'.set (off + min s.length (size - 1)) 0

namespace LBuf

/-- `calloc(1, sizeof(*bf))`. -/
def empty : LBuf := { store := ⟨#[]⟩, cap := 0, len := 0 }

/-- `while (newsiz < newlen) newsiz *= 2;` -/
def grow (newsiz newlen : Nat) : Nat :=
  if newsiz < newlen ∧ 0 < newsiz then grow (newsiz * 2) newlen else newsiz
termination_by newlen - newsiz
decreasing_by omega

/-- `buffer_reserve(bf, n)`: nothing when `bf_siz >= bf_len + n`; otherwise double (from 16 for an empty buffer)
until it fits and `realloc`. -/
def reserve (bf : LBuf) (n : Nat) : LBuf :=
  if bf.cap ≥ bf.len + n then bf
  else
    let newsiz := grow (if bf.cap = 0 then 16 else bf.cap) (bf.len + n)
    { bf with store := bf.store.realloc newsiz, cap := newsiz }

/-- `buffer_alloc(sizhint)`. -/
def alloc (sizhint : Nat) : LBuf := empty.reserve sizhint

/-- `buffer_puts(bf, str, len)`: returns the C return value and the buffer. -/
def puts (bf : LBuf) (s : Bytes) : M (Nat × LBuf) :=
  if s.isEmpty then .ok (0, bf)
  else
    let bf := bf.reserve s.length
    match bf.store.writeAt bf.len s with                       -- memcpy(&bf->bf_ptr[bf->bf_len], str, len)
    | .error e => .error e
    | .ok st => .ok (0, { bf with store := st, len := bf.len + s.length })

/-- `buffer_putc(bf, ch)`. -/
def putc (bf : LBuf) (c : UInt8) : M (Nat × LBuf) := bf.puts [c]

/-- `buffer_vprintf` with the two numbers the code chooses left open: `extra` = what is reserved beyond the `n`
formatted bytes (the code: 1, for the NUL `vsnprintf` writes), `guarded` = whether the second `vsnprintf` is told
the space that is really left (`bf_siz - bf_len`, the code) or the `n + 1` bytes it needs. -/
def vprintfWith (extra : Nat) (guarded : Bool) (bf : LBuf) (s : Bytes) : M (Nat × LBuf) :=
  let n := s.length                                            -- n = vsnprintf(NULL, 0, fmt, ap)
  let bf := bf.reserve (n + extra)                             -- buffer_reserve(bf, n + 1)
  let avail := bf.cap - bf.len                                 -- len = bf->bf_siz - bf->bf_len
  match vsnprintf bf.store bf.len (if guarded then avail else n + 1) s with
  | .error e => .error e
  | .ok st =>
    if n ≥ avail then .ok (1, { bf with store := st })         -- if (n < 0 || (size_t)n >= len) error = 1
    else .ok (0, { bf with store := st, len := bf.len + n })   -- bf->bf_len += n

/-- `buffer_vprintf(bf, fmt, ap)` / `buffer_printf(bf, fmt, ...)` as in libks/buffer.c; `s` = the formatted string. -/
def vprintf (bf : LBuf) (s : Bytes) : M (Nat × LBuf) := vprintfWith 1 true bf s

/-- `buffer_release(bf)`: the storage, and the buffer left behind. -/
def release (bf : LBuf) : Buf × LBuf := (bf.store, empty)

/-- `buffer_str(bf)`: terminate unless the last byte in use is a NUL already, then release. -/
def str (bf : LBuf) : M (Buf × LBuf) :=
  if bf.len = 0 then
    match bf.putc 0 with
    | .error e => .error e
    | .ok (_, bf') => .ok bf'.release
  else
    match bf.store.get? (bf.len - 1) with                      -- bf->bf_ptr[bf->bf_len - 1] != '\0'
    | .error e => .error e
    | .ok c =>
      if c != 0 then
        match bf.putc 0 with
        | .error e => .error e
        | .ok (_, bf') => .ok bf'.release
      else .ok bf.release

/-- `buffer_get_len`, `buffer_get_size`. -/
def getLen (bf : LBuf) : Nat := bf.len
def getSize (bf : LBuf) : Nat := bf.cap

/-- `buffer_reset`, `buffer_pop(bf, n)` (not called by mdsort). -/
def reset (bf : LBuf) : LBuf := { bf with len := 0 }
def pop (bf : LBuf) (n : Nat) : Nat × LBuf := (min n bf.len, { bf with len := bf.len - min n bf.len })

/-- The loop of `buffer_read_fd`: `read(fd, &bf_ptr[bf_len], bf_siz - bf_len)` delivers a non-empty prefix of what
is left of the file (`short`: an entry `k` limits one of the first reads to `k + 1` bytes, for short reads; after that
full reads), `bf_len += n`, `buffer_reserve(bf, bf_siz / 2)`; a result of 0 ends the loop. -/
def readLoop (bf : LBuf) (data : Bytes) (short : List Nat) : M LBuf :=
  let room := bf.cap - bf.len
  let n := min (min room data.length) (match short with | [] => data.length | k :: _ => k + 1)
  if h : n = 0 then .ok bf                                      -- if (n == 0) break;
  else
    match bf.store.writeAt bf.len (data.take n) with            -- the kernel stores n bytes at &bf_ptr[bf_len]
    | .error e => .error e
    | .ok st =>
      let bf1 := { bf with store := st, len := bf.len + n }
      readLoop (bf1.reserve (bf1.cap / 2)) (data.drop n) short.tail
termination_by data.length
decreasing_by simp only [List.length_drop]; omega

/-- `buffer_read_fd(fd)` on a descriptor that delivers `data`. -/
def readFd (data : Bytes) (short : List Nat) : M LBuf := readLoop (alloc (1 <<< 13)) data short

/-- The bytes in use. -/
def contents (bf : LBuf) : Bytes := bf.store.bytes.toList.take bf.len

end LBuf

/-- One appending operation of the buffer interface. -/
inductive BufOp where
  | puts (s : Bytes)
  | putc (c : UInt8)
  | printf (s : Bytes)       -- `buffer_printf(bf, fmt, ...)` whose format and arguments produce `s`
deriving Repr, DecidableEq

/-- What the operation is meant to append. -/
def BufOp.piece : BufOp → Bytes
  | .puts s => s
  | .putc c => [c]
  | .printf s => s

namespace LBuf

def step (bf : LBuf) : BufOp → M (Nat × LBuf)
  | .puts s => bf.puts s
  | .putc c => bf.putc c
  | .printf s => bf.vprintf s

/-- A sequence of operations: the final buffer and the return values. -/
def run (bf : LBuf) : List BufOp → M (LBuf × List Nat)
  | [] => .ok (bf, [])
  | op :: ops =>
    match bf.step op with
    | .error e => .error e
    | .ok (rc, bf') =>
      match run bf' ops with
      | .error e => .error e
      | .ok (bf'', rcs) => .ok (bf'', rc :: rcs)

/-- The same with `buffer_vprintf` replaced by a variant (`extra`, `guarded`), for the two "what if" statements. -/
def stepWith (extra : Nat) (guarded : Bool) (bf : LBuf) : BufOp → M (Nat × LBuf)
  | .puts s => bf.puts s
  | .putc c => bf.putc c
  | .printf s => bf.vprintfWith extra guarded s

def runWith (extra : Nat) (guarded : Bool) (bf : LBuf) : List BufOp → M (LBuf × List Nat)
  | [] => .ok (bf, [])
  | op :: ops =>
    match bf.stepWith extra guarded op with
    | .error e => .error e
    | .ok (rc, bf') =>
      match runWith extra guarded bf' ops with
      | .error e => .error e
      | .ok (bf'', rcs) => .ok (bf'', rc :: rcs)

end LBuf

end Mdsort.L0
