import Mdsort.Bytes
import Mdsort.Gen.Tables

/-!
# Model of the configuration lexer (parse.y: `yylex1`, `yypeek`, `yygetc`, `yyungetc`)

The input is the remaining bytes of the file; `fgetc` returning EOF is the empty list.  The lexer
modes are inputs of each call, exactly as the grammar's mid-rule actions set them: `pflag` (a
pattern is expected), `sflag` (a time unit is expected), and whether the previous token was a MACRO
(an unknown keyword is then reported unless `=` follows).  Line counting is the number of newlines
consumed.  The lexeme buffer is `BUFSIZ` (8192) bytes.
-/

namespace Mdsort.Model
open Mdsort

def BUFSIZ : Nat := 8192

inductive Token where
  | eof
  | neg
  | str (s : Bytes)
  | pattern (src : Bytes) (icase lcase ucase : Bool)
  | int (n : Nat)
  | keyword (name : String)
  | scalar (v : Option Nat)          -- none: ambiguous (an error was reported)
  | macro (name : Bytes)
  | char (c : UInt8)
deriving Repr, DecidableEq

/-- Result of one call: the token, the remaining input, the number of diagnostics emitted. -/
structure LexRes where
  tok : Token
  rest : Bytes
  errors : Nat
deriving Repr, DecidableEq

/-- The loop that collects a string or pattern up to the unescaped delimiter (`yypeek(delim)` then
`yygetc`).  `none`: end of file before the delimiter; `some (none, _)`: lexeme buffer full. -/
def collect (delim : UInt8) : Nat → Bytes → Bytes → Option (Option Bytes × Bytes)
  | 0, _, _ => none
  | fuel + 1, s, acc =>
    match s with
    | [] => none                                            -- unterminated
    | c :: r =>
      if c == delim then some (some acc, r)
      else
        -- yypeek: a backslash directly followed by the delimiter is dropped, the delimiter is then data
        let (s', ch) : Bytes × Option UInt8 :=
          if c == 92 then
            match r with
            | d :: r2 => if d == delim then (r2, some d) else (r, some c)
            | [] => (r, some c)
          else (r, some c)
        match ch with
        | none => none
        | some ch =>
          if acc.length == BUFSIZ - 1 then some (none, s')    -- `string too long` / `pattern too long`
          else collect delim fuel s' (acc ++ [ch])

/-- Pattern flags after the closing delimiter. -/
def patFlags : Nat → Bytes → Bool → Bool → Bool → Nat → (Bool × Bool × Bool) × Bytes × Nat
  | 0, s, i, l, u, e => ((i, l, u), s, e)
  | fuel + 1, s, i, l, u, e =>
    match s with
    | 105 :: r => patFlags fuel r true l u e
    | 108 :: r => patFlags fuel r i true u (if u then e + 1 else e)
    | 117 :: r => patFlags fuel r i l true (if l then e + 1 else e)
    | _ => ((i, l, u), s, e)

/-- Decimal integer with the 32-bit overflow test (one diagnostic on overflow, digits still consumed). -/
def lexDigits : Nat → Bytes → Nat → Bool → Nat → Nat × Bytes × Nat
  | 0, s, n, _, e => (n, s, e)
  | fuel + 1, s, n, ovf, e =>
    match s with
    | c :: r =>
      if isdigit c then
        if ovf then lexDigits fuel r n true e
        else
          let n' := n * 10 + (c.toNat - 48)
          -- `number` keeps whatever the overflowing builtin left in it; only the diagnostic matters
          if n * 10 ≥ 2 ^ 32 || n' ≥ 2 ^ 32 then lexDigits fuel r (n' % 2 ^ 32) true (e + 1)
          else lexDigits fuel r n' false e
      else (n, s, e)
    | [] => (n, s, e)

def isKwChar (c : UInt8) : Bool := islower c || c == 45

/-- `yylex1`.  `afterMacro`: the previous token was MACRO. -/
def lex1 (pflag sflag afterMacro : Bool) (input : Bytes) : LexRes :=
  -- leading white space; the comment test comes before the mode is looked at: `#` starts a comment in pattern mode too
  let s0 := input.dropWhile isspace
  let macroErr (c : Option UInt8) : Nat := if afterMacro && c != some 61 then 1 else 0
  match s0 with
  | [] => { tok := .eof, rest := [], errors := macroErr none }
  | c :: r =>
    let e0 := macroErr (some c)
    if c == 33 then { tok := .neg, rest := r, errors := e0 }
    else if c == 35 then
      -- comment: to end of line, then start over (`goto again`: the MACRO check is made again on what follows the comment)
      match (r.dropWhile (· != 10)) with
      | [] => { tok := .eof, rest := [], errors := e0 }
      | _ :: r2 =>
        let sub := lex1Aux pflag sflag afterMacro r2 input.length
        { sub with errors := sub.errors + e0 }
    else lexTok pflag sflag c r e0
where
  /-- Everything after the first significant byte `c`. -/
  lexTok (pflag sflag : Bool) (c : UInt8) (r : Bytes) (e0 : Nat) : LexRes :=
    if c == 34 then
      match collect 34 (r.length + 1) r [] with
      | none => { tok := .eof, rest := [], errors := e0 + 1 }               -- unterminated string
      | some (none, rest) => { tok := .eof, rest := rest, errors := e0 + 1 } -- string too long
      | some (some lexeme, rest) =>
        let s := cstr lexeme
        { tok := .str s, rest := rest, errors := e0 + (if s.isEmpty then 1 else 0) }
    else if pflag then
      match collect c (r.length + 1) r [] with
      | none => { tok := .eof, rest := [], errors := e0 + 1 }
      | some (none, rest) => { tok := .eof, rest := rest, errors := e0 + 1 }
      | some (some lexeme, rest) =>
        let ((i, l, u), rest2, e) := patFlags (rest.length + 1) rest false false false 0
        { tok := .pattern (cstr lexeme) i l u, rest := rest2, errors := e0 + e }
    else if isdigit c then
      let (n, rest, e) := lexDigits (r.length + 2) (c :: r) 0 false 0
      { tok := .int n, rest := rest, errors := e0 + e }
    else if islower c then
      let word := (c :: r).takeWhile isKwChar
      let rest := (c :: r).dropWhile isKwChar
      if word.length > BUFSIZ - 1 then
        -- `keyword too long`: the lexer stops after filling the buffer
        { tok := .eof, rest := (c :: r).drop BUFSIZ, errors := e0 + 1 }
      else
        let w := String.ofList (word.map fun b => Char.ofNat b.toNat)
        match Gen.keywords.find? (fun kv => kv.1 == w) with
        | some kv => { tok := .keyword kv.2, rest := rest, errors := e0 }
        | none =>
          if sflag then
            let ms := Gen.scalars.filter fun (name, _) => w.toList.isPrefixOf name.toList
            match ms with
            | [] => { tok := .macro word, rest := rest, errors := e0 }
            | [(_, v)] => { tok := .scalar (some v), rest := rest, errors := e0 }
            | _ => { tok := .scalar none, rest := rest, errors := e0 + 1 }
          else { tok := .macro word, rest := rest, errors := e0 }
    else if c == 0 then { tok := .eof, rest := r, errors := e0 }   -- `return c` with c = 0 is the end-of-input token
    else { tok := .char c, rest := r, errors := e0 }
  /-- Re-entry after a comment (bounded by the input length). -/
  lex1Aux (pflag sflag afterMacro : Bool) (input : Bytes) : Nat → LexRes
    | 0 => { tok := .eof, rest := [], errors := 0 }
    | fuel + 1 =>
      let s0 := input.dropWhile isspace
      let macroErr (c : Option UInt8) : Nat := if afterMacro && c != some 61 then 1 else 0
      match s0 with
      | [] => { tok := .eof, rest := [], errors := macroErr none }
      | c :: r =>
        let e0 := macroErr (some c)
        if c == 33 then { tok := .neg, rest := r, errors := e0 }
        else if c == 35 then
          match (r.dropWhile (· != 10)) with
          | [] => { tok := .eof, rest := [], errors := e0 }
          | _ :: r2 =>
            let sub := lex1Aux pflag sflag afterMacro r2 fuel
            { sub with errors := sub.errors + e0 }
        else lexTok pflag sflag c r e0

end Mdsort.Model
