import Mdsort.Model.Plan

/-!
# Lineage of files in the sequential world model: which initial file does a file descend from?

The by-content loss-freedom statements of C01 / C02 say "some entry is bound to a file whose BYTES are a complete
version of the message": a byte-identical other message satisfies that whatever happens to the message itself.
Here the identity of a message is followed through a run.

A file of the abstract file system has an identity (`fid`) that `rename` preserves; only two calls make new files:
`openat(O_CREAT|O_EXCL)` (`maildir_genname`: the placeholder of a move, the target of a cross-device copy, the new
version written by `label` / `add-header`, the stdin spool) and `mkostemp` (the temporary file of `exec stdin`).
mdsort processes one message at a time, and the processing of a message starts with `message_parse` opening it
(`openat(dirfd, name, O_RDONLY|O_CLOEXEC)`, call `openRd`).  So, reading a trace from the left:

* `cur` - the file the most recent successful `openRd` opened: the message being processed (after `maildir_write`
  the rewritten message is opened again: it is its own successor);
* `org g` - the file `g` descends from: a file created by this run descends from what `cur` descended from at
  the moment of its creation (the message whose action list wrote it); a file that existed before is its own origin
  (`Lin.init`), and so is a file created while nothing has been opened (the stdin spool).

`lineage w l tr` replays a trace `tr` (calls with their results) from the world `w`, `origin w tr` is the resulting
`org` from the initial state.  Nothing here depends on the program that produced the trace.
-/

namespace Mdsort.Model
open Mdsort

structure Lin where
  cur : Option Nat
  org : Nat → Nat

def Lin.init : Lin := { cur := none, org := id }

/-- The file a successful `openat(dirfd, name, O_RDONLY)` opens in `w`. -/
def openedFile (w : World) : Call → Res → Option Nat
  | .openRd d n, .ok _ => (w.dirPath d).bind fun p => w.lookup p n
  | _, _ => none

/-- Does the call make a new file in `w` (its id is then `w.nextFid`)?  An exclusive create of a free name of an open
directory, or `mkostemp`. -/
def createsFile (w : World) : Call → Res → Bool
  | .openExcl d n, .ok _ =>
    match w.dirPath d with
    | some p => (w.lookup p n).isNone
    | none => false
  | .mkostemp _, .ok _ => true
  | _, _ => false

/-- One call: a new file inherits the origin of the message being processed; a successful `openRd` changes the
message being processed. -/
def linStep (w : World) (c : Call) (r : Res) (l : Lin) : Lin :=
  let l1 : Lin :=
    if createsFile w c r then
      { l with org := fun g => if g = w.nextFid then (match l.cur with | some f => l.org f | none => g) else l.org g }
    else l
  match openedFile w c r with
  | some g => { l1 with cur := some g }
  | none => l1

/-- The world after the calls of `tr` with the results recorded there. -/
def replay (w : World) : List (Call × Res) → World
  | [] => w
  | (c, r) :: rest => replay (stepWorld w c r) rest

/-- The lineage after the calls of `tr`, starting from `l` in world `w`. -/
def lineage (w : World) (l : Lin) : List (Call × Res) → Lin
  | [] => l
  | (c, r) :: rest => lineage (stepWorld w c r) (linStep w c r l) rest

/-- `origin w tr g`: the initial file of `w` that `g` descends from after the trace `tr` (`g` itself if `g` existed in
`w`, or was made while no message was open). -/
def origin (w : World) (tr : List (Call × Res)) (g : Nat) : Nat := (lineage w Lin.init tr).org g

/-- The part of the trace of `w'` that was issued after `w`. -/
def traceSince (w w' : World) : List (Call × Res) := w'.trace.drop w.trace.length

/-- The origin of `g` in a world `w'` reached from `w` (read from the trace recorded in `w'`). -/
def originAt (w w' : World) (g : Nat) : Nat := origin w (traceSince w w') g

end Mdsort.Model
