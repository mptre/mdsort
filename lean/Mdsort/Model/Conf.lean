import Mdsort.Bytes
import Mdsort.Gen.Tables
import Mdsort.Model.Lex
import Mdsort.Model.Eval
import Mdsort.Model.Limits

/-!
# Model of the configuration parser (parse.y: grammar, semantic actions, macro.c)

`parseConfig home defs rxOk input` transcribes `config_parse`: the LALR(1) parser bison generates
from the grammar of parse.y, driven over `lex1` (Model/Lex.lean), with the semantic actions that
count diagnostics.  It is a hand-written recursive-descent parser that reads its lookahead token at
exactly the grammar positions where the generated automaton does: bison reduces by *default
reduction* without reading a lookahead in every state whose only action is one reduction (checked
against `parse.output`: states 1, 5, 7, 8, 10-12, 15, 17, 18, 20, 21, 23-25, 27, 32, 33, 37-39,
41-45, 47-49, 53, 54, 56-58, 60-63, 66-68, 73-77, 79, 81, 82, 84-87, 89-95), so

* the lexer modes `pflag` / `sflag` are switched by the mid-rule actions before the PATTERN / SCALAR
  token is read;
* `lineno` (recorded in every `struct expr` as `ex_lno`) is the line the lexer has reached when the
  node is allocated, which is after the lookahead token only in the states that need one;
* `yyerror` reports `yylval.lineno`, the line on which the most recently read token starts.

The result is the first diagnostic (its line), or the list of configuration blocks.  Error
*recovery* (`yyrecover`, bison's `error` token) is not modelled: after the first diagnostic only
"non-zero" matters.  Not modelled either: bison's parser stack limit (`YYMAXDEPTH` = 10000 states;
deeper nesting is rejected with "memory exhausted").

The tree is `CTree`: `Model.Expr` for the leaves, plus the inner nodes, plus the one tree `Expr`
cannot express - a block with no rule (`ex_lhs == NULL`), which the parser builds for `{ }` and then refuses
wherever a block can stand ("empty match block", "empty nested match block").
-/

namespace Mdsort.Model
open Mdsort

/-! ## The tree the parser builds -/

/-- `struct expr` as built by the parser.  Conditions and actions without sub-expressions are
`leaf`s holding the corresponding `Expr` constructor. -/
inductive CTree where
  | leaf (e : Expr)
  | block (lno : Nat) (body : CTree)
  | emptyBlock (lno : Nat)
  | and (lno : Nat) (l r : CTree)
  | or (lno : Nat) (l r : CTree)
  | neg (lno : Nat) (e : CTree)
  | mtch (lno : Nat) (cond rhs : CTree)
  | attachment (lno : Nat) (e : CTree)
  | attBlock (lno : Nat) (blk : CTree)
deriving Repr

/-- `ex_lno` of an `Expr` node. -/
def Expr.lno : Expr → Nat
  | .block l _ | .and l _ _ | .or l _ _ | .neg l _ | .mtch l _ _ | .all l | .attachment l _ | .body l _
  | .date l _ _ _ | .header l _ _ | .new l | .old l | .stat l _ | .command l _ | .move l _ | .flag l _
  | .flags l _ | .discard l | .brk l | .label l _ | .pass l | .reject l | .exec l _ _ _ | .attBlock l _
  | .addHeader l _ _ => l

def CTree.lno : CTree → Nat
  | .leaf e => e.lno
  | .block l _ | .emptyBlock l | .and l _ _ | .or l _ _ | .neg l _ | .mtch l _ _ | .attachment l _ | .attBlock l _ => l

/-- `EXPR_FLAG_ACTION` of a leaf (expr_alloc). -/
def Expr.leafAction : Expr → Bool
  | .move .. | .flag .. | .flags .. | .discard _ | .brk _ | .label .. | .pass _ | .reject _ | .exec ..
  | .addHeader .. => true
  | _ => false

def Expr.isDiscard : Expr → Bool | .discard _ => true | _ => false
def Expr.isReject : Expr → Bool | .reject _ => true | _ => false
def Expr.isExec : Expr → Bool | .exec .. => true | _ => false

/-- `expr_count_actions`: the nodes carrying `EXPR_FLAG_ACTION`, in the whole tree (an attachment
block counts itself and the actions inside it). -/
def CTree.countActions : CTree → Nat
  | .leaf e => if e.leafAction then 1 else 0
  | .block _ b => b.countActions
  | .emptyBlock _ => 0
  | .and _ l r | .or _ l r | .mtch _ l r => l.countActions + r.countActions
  | .neg _ e | .attachment _ e => e.countActions
  | .attBlock _ b => 1 + b.countActions

/-- `expr_count(ex, type)` for a leaf type. -/
def CTree.countLeaf (p : Expr → Bool) : CTree → Nat
  | .leaf e => if p e then 1 else 0
  | .block _ b => b.countLeaf p
  | .emptyBlock _ => 0
  | .and _ l r | .or _ l r | .mtch _ l r => l.countLeaf p + r.countLeaf p
  | .neg _ e | .attachment _ e | .attBlock _ e => e.countLeaf p

/-- The tree as an `Expr`, when it has no empty block. -/
def CTree.toExpr : CTree → Option Expr
  | .leaf e => some e
  | .block l b => b.toExpr.map (.block l)
  | .emptyBlock _ => none
  | .and l a b => match a.toExpr, b.toExpr with | some a, some b => some (.and l a b) | _, _ => none
  | .or l a b => match a.toExpr, b.toExpr with | some a, some b => some (.or l a b) | _, _ => none
  | .mtch l a b => match a.toExpr, b.toExpr with | some a, some b => some (.mtch l a b) | _, _ => none
  | .neg l e => e.toExpr.map (.neg l)
  | .attachment l e => e.toExpr.map (.attachment l)
  | .attBlock l e => e.toExpr.map (.attBlock l)

/-- An `Expr` as the parser's tree. -/
def CTree.ofExpr : Expr → CTree
  | .block l e => .block l (ofExpr e)
  | .and l a b => .and l (ofExpr a) (ofExpr b)
  | .or l a b => .or l (ofExpr a) (ofExpr b)
  | .neg l e => .neg l (ofExpr e)
  | .mtch l a b => .mtch l (ofExpr a) (ofExpr b)
  | .attachment l e => .attachment l (ofExpr e)
  | .attBlock l e => .attBlock l (ofExpr e)
  | e => .leaf e

/-- One `struct config`: the maildir paths and the rules. -/
structure PBlock where
  paths : List Bytes
  tree : CTree
deriving Repr

/-! ## Tokens as the grammar sees them -/

inductive Kw where
  | access | addheader | all | and | attachment | body | brk | command | created | date | discard | exec
  | flag | flags | header | isdirectory | label | maildir | mtch | modified | move | new | old | or | pass
  | reject | stdin
deriving Repr, DecidableEq

/-- Token name (second column of `Gen.keywords`) to grammar terminal. -/
def Kw.ofName (n : String) : Option Kw :=
  if n == "ACCESS" then some .access else if n == "ADDHEADER" then some .addheader
  else if n == "ALL" then some .all else if n == "AND" then some .and
  else if n == "ATTACHMENT" then some .attachment else if n == "BODY" then some .body
  else if n == "BREAK" then some .brk else if n == "COMMAND" then some .command
  else if n == "CREATED" then some .created else if n == "DATE" then some .date
  else if n == "DISCARD" then some .discard else if n == "EXEC" then some .exec
  else if n == "FLAG" then some .flag else if n == "FLAGS" then some .flags
  else if n == "HEADER" then some .header else if n == "ISDIRECTORY" then some .isdirectory
  else if n == "LABEL" then some .label else if n == "MAILDIR" then some .maildir
  else if n == "MATCH" then some .mtch else if n == "MODIFIED" then some .modified
  else if n == "MOVE" then some .move else if n == "NEW" then some .new
  else if n == "OLD" then some .old else if n == "OR" then some .or
  else if n == "PASS" then some .pass else if n == "REJECT" then some .reject
  else if n == "STDIN" then some .stdin else none

/-- Terminal symbols of the grammar. -/
inductive Tk where
  | eof | neg
  | str (s : Bytes)
  | pat (p : Pat)
  | int (n : Nat)
  | scalar (v : Option Nat)
  | macro (name : Bytes)
  | kw (k : Kw)
  | lbrace | rbrace | lparen | rparen | lt | gt | eq
  | other (c : UInt8)                   -- a character (or unknown keyword name) no rule mentions
deriving Repr, DecidableEq

def Tk.ofToken : Token → Tk
  | .eof => .eof
  | .neg => .neg
  | .str s => .str s
  | .pattern src i l u => .pat { src := src, icase := i, lcase := l, ucase := u }
  | .int n => .int n
  | .scalar v => .scalar v
  | .macro n => .macro n
  | .keyword k => match Kw.ofName k with | some k => .kw k | none => .other 0
  | .char c =>
    if c == 123 then .lbrace else if c == 125 then .rbrace else if c == 40 then .lparen
    else if c == 41 then .rparen else if c == 60 then .lt else if c == 62 then .gt
    else if c == 61 then .eq else .other c

/-! ## Macros (macro.c) -/

/-- `struct macro`. -/
structure Macro where
  name : Bytes
  value : Bytes
  refs : Nat := 0
  defs : Nat := 0
  lno : Nat := 0
  sticky : Bool := false
deriving Repr, DecidableEq

/-- `macro_context(name) == MACRO_CTX_ACTION`: only `path`. -/
def isPathMacro (name : Bytes) : Bool := name == [112, 97, 116, 104]

/-- `macros_insert` for the macro list of a configuration (`ml_ctx = MACRO_CTX_DEFAULT`).
`none`: `MACRO_ERR_CTX` or `MACRO_ERR_EXIST`; a definition shadowed by a `-D` definition
(`MACRO_ERR_STICKY`) is dropped silently, once. -/
def macrosInsert (ms : List Macro) (name value : Bytes) (lno : Nat) (sticky : Bool) : Option (List Macro) :=
  if isPathMacro name then none
  else if ms.any (fun m => m.name == name) then
    if ms.any (fun m => m.name == name && m.sticky && !sticky && m.defs == 0) then
      some (ms.map fun m => if m.name == name then { m with defs := m.defs + 1 } else m)
    else none
  else some (ms ++ [{ name := name, value := value, refs := 0, defs := 0, lno := lno, sticky := sticky }])

/-- The macros given with `-D name=value`, inserted before the file is read (mdsort.c). -/
def macrosOfDefs : List (Bytes × Bytes) → List Macro → Option (List Macro)
  | [], ms => some ms
  | (n, v) :: r, ms =>
    match macrosInsert ms n v 0 true with
    | some ms' => macrosOfDefs r ms'
    | none => none

/-- `macros_find` + `macro_ref`: the value and the table with the reference counted. -/
def macrosUse (ms : List Macro) (name : Bytes) : Option (Bytes × List Macro) :=
  match ms.find? (fun m => m.name == name) with
  | none => none
  | some m => some (m.value, ms.map fun x => if x.name == name then { x with refs := x.refs + 1 } else x)

/-- `ismacro`: `none` - no macro here; `some none` - `${` without `}`; `some (some (name, n))` -
a macro reference of `n` bytes. -/
def ismacro (s : Bytes) : Option (Option (Bytes × Nat)) :=
  match s with
  | 36 :: 123 :: r =>
    let name := r.takeWhile (fun c => c != 125)
    if name.length < r.length then some (some (name, name.length + 3)) else some none
  | _ => none

/-- `expandmacros(str, macros, curctx)`; `action`: `curctx == MACRO_CTX_ACTION`.  `none`: a
diagnostic (unterminated macro, macro used in wrong context, unknown macro). -/
def expandMacros (action : Bool) : Nat → Bytes → List Macro → Bytes → Option (Bytes × List Macro)
  | 0, _, ms, acc => some (acc, ms)
  | fuel + 1, s, ms, acc =>
    match s with
    | [] => some (acc, ms)
    | c :: r =>
      match ismacro s with
      | none => expandMacros action fuel r ms (acc ++ [c])
      | some none => none
      | some (some (name, n)) =>
        if isPathMacro name then
          if action then expandMacros action fuel r ms (acc ++ [c])     -- expansion delayed until the action runs
          else none
        else
          match macrosUse ms name with
          | none => none
          | some (v, ms') => expandMacros action fuel (s.drop n) ms' (acc ++ v)

/-- `expandtilde`: `none` is "path too long" (`Model.expandTildeL`, the size of the buffer being a parameter). -/
def expandTilde (home str : Bytes) : Option Bytes := expandTildeL (.fin PATH_MAX) home str

/-- `expand(str, curctx)`. -/
def expandStr (l : Lim) (home : Bytes) (action : Bool) (ms : List Macro) (str : Bytes) : Option (Bytes × List Macro) :=
  match expandTildeL l home str with
  | none => none
  | some s => expandMacros action (s.length + 1) s ms []

/-- `expandstrings`. -/
def expandStrs (l : Lim) (home : Bytes) (action : Bool) : List Macro → List Bytes → Option (List Bytes × List Macro)
  | ms, [] => some ([], ms)
  | ms, s :: r =>
    match expandStr l home action ms s with
    | none => none
    | some (s', ms') =>
      match expandStrs l home action ms' r with
      | none => none
      | some (r', ms'') => some (s' :: r', ms'')

/-- `isstdin`. -/
def isStdinStr (p : Bytes) : Bool := p == [47, 100, 101, 118, 47, 115, 116, 100, 105, 110]
def stdinStr : Bytes := [47, 100, 101, 118, 47, 115, 116, 100, 105, 110]

/-! ## Lines -/

def countNl (s : Bytes) : Nat := s.count 10

/-- `lineno` when the lexer has `rest` left to read, in a file with `nl` newlines. -/
def lineOf (nl : Nat) (rest : Bytes) : Nat := 1 + nl - countNl rest

/-- White space and comments before a token (the `again:` loop of `yylex1`). -/
def skipBlank : Nat → Bytes → Bytes
  | 0, s => s
  | fuel + 1, s =>
    match s.dropWhile isspace with
    | 35 :: r =>
      match r.dropWhile (fun c => c != 10) with
      | [] => []
      | _ :: r2 => skipBlank fuel r2
    | s' => s'

/-- `yylval.lineno` after a call of the lexer on `rest`: the line on which the token starts. -/
def tokLineOf (nl : Nat) (rest : Bytes) : Nat := lineOf nl (skipBlank (rest.length + 1) rest)

/-- The line of the first diagnostic of a lexer call that reports one: "unknown keyword" is reported
on the line the previous call stopped at (`yypushl(lno)`), everything else on the token's line. -/
def lexErrLine (nl : Nat) (afterMacro : Bool) (rest : Bytes) : Nat :=
  if afterMacro && (rest.dropWhile isspace).head? != some 61 then lineOf nl rest else tokLineOf nl rest

/-! ## Parser state and monad -/

structure PCtx where
  nl : Nat                       -- newlines in the file
  home : Bytes                   -- `ev_home`
  rxOk : Pat → Bool              -- `regcomp` succeeds
  pathMax : Lim := .fin PATH_MAX -- the buffer of `expandtilde` (`PATH_MAX`; a parameter for C18)

structure ParseSt where
  rest : Bytes                   -- what the lexer has not read yet
  la : Option Tk := none         -- bison's `yychar` when it holds a token
  tokLine : Nat := 0             -- `yylval.lineno`
  afterMacro : Bool := false     -- `last_token == MACRO`
  macros : List Macro := []      -- `cl_macros`
  nlex : Nat := 0                -- calls of `yylex` so far
deriving Repr

inductive PRes (α : Type) where
  | ok (a : α) (s : ParseSt)
  | err (line : Nat) (s : ParseSt)      -- first diagnostic
  | fuel (s : ParseSt)                  -- recursion budget exhausted (shown unreachable)

def PM (α : Type) := ParseSt → PRes α

@[inline] def PM.pure {α} (a : α) : PM α := fun s => .ok a s
@[inline] def PM.bind {α β} (m : PM α) (f : α → PM β) : PM β := fun s =>
  match m s with
  | .ok a s' => f a s'
  | .err l s' => .err l s'
  | .fuel s' => .fuel s'

instance : Monad PM where
  pure := PM.pure
  bind := PM.bind

/-- `yyerror` with the current `yylval.lineno` (also: bison's "syntax error"). -/
def failTok {α} : PM α := fun s => .err s.tokLine s
def failAt {α} (line : Nat) : PM α := fun s => .err line s
def outOfFuel {α} : PM α := fun s => .fuel s

/-- Make sure the lookahead token is read (lexer modes `pf`, `sf`) and return it. -/
def peek (cx : PCtx) (pf sf : Bool) : PM Tk := fun s =>
  match s.la with
  | some t => .ok t s
  | none =>
    let r := lex1 pf sf s.afterMacro s.rest
    let t := Tk.ofToken r.tok
    let s' : ParseSt := { s with rest := r.rest, la := some t, tokLine := tokLineOf cx.nl s.rest,
                                 afterMacro := (match r.tok with | .macro _ => true | _ => false), nlex := s.nlex + 1 }
    if r.errors > 0 then .err (lexErrLine cx.nl s.afterMacro s.rest) s' else .ok t s'

/-- Shift the lookahead token.  (End of input is never shifted.) -/
def shift : PM Unit := fun s =>
  match s.la with
  | some .eof => .ok () s
  | _ => .ok () { s with la := none }

/-- `lineno`. -/
def curLine (cx : PCtx) : PM Nat := fun s => .ok (lineOf cx.nl s.rest) s

def getMacros : PM (List Macro) := fun s => .ok s.macros s
def setMacros (ms : List Macro) : PM Unit := fun s => .ok () { s with macros := ms }

/-- `expand(str, ctx)` in a semantic action: a diagnostic is reported on `yylval.lineno`. -/
def expandOne (cx : PCtx) (action : Bool) (str : Bytes) : PM Bytes := fun s =>
  match expandStr cx.pathMax cx.home action s.macros str with
  | none => .err s.tokLine s
  | some (v, ms) => .ok v { s with macros := ms }

/-- `expandmacros(str, macros, ctx)` alone in a semantic action, without tilde expansion: the strings of add-header and
flags (/repo commit 441105a). -/
def expandMac (action : Bool) (str : Bytes) : PM Bytes := fun s =>
  match expandMacros action (str.length + 1) str s.macros [] with
  | none => .err s.tokLine s
  | some (v, ms) => .ok v { s with macros := ms }

def expandAll (cx : PCtx) (action : Bool) (strs : List Bytes) : PM (List Bytes) := fun s =>
  match expandStrs cx.pathMax cx.home action s.macros strs with
  | none => .err s.tokLine s
  | some (v, ms) => .ok v { s with macros := ms }

/-! ## The grammar -/

/-- The next token must be `tk` (never end of input); shift it. -/
def expectTk (cx : PCtx) (tk : Tk) : PM Unit := do
  let t ← peek cx false false
  if t = tk then shift else failTok

/-- `STRING`. -/
def parseStr (cx : PCtx) : PM Bytes := do
  let t ← peek cx false false
  match t with
  | .str s => do shift; pure s
  | _ => failTok

/-- `stringblock` after `{`. -/
def parseStringBlock (cx : PCtx) : Nat → List Bytes → PM (List Bytes)
  | 0, _ => outOfFuel
  | fuel + 1, acc => do
    let t ← peek cx false false
    match t with
    | .str s => do shift; parseStringBlock cx fuel (acc ++ [s])
    | .rbrace => do shift; pure acc
    | _ => failTok

/-- `strings`. -/
def parseStrings (cx : PCtx) (fuel : Nat) : PM (List Bytes) := do
  let t ← peek cx false false
  match t with
  | .str s => do shift; pure [s]
  | .lbrace => do shift; parseStringBlock cx fuel []
  | _ => failTok

/-- `pattern`: the mid-rule action sets `pflag` before the token is read. -/
def parsePattern (cx : PCtx) : PM Pat := do
  let t ← peek cx true false
  match t with
  | .pat p => do shift; pure p
  | _ => failTok

/-- `expr_set_pattern` fails: "invalid pattern". -/
def checkPattern (cx : PCtx) (p : Pat) : PM Unit :=
  if cx.rxOk p then pure () else failTok

/-- `date_field` (state 29: anything but a field keyword reduces the empty rule). -/
def parseDateField (cx : PCtx) : PM DateField := do
  let t ← peek cx false false
  match t with
  | .kw .access => do shift; pure DateField.access
  | .kw .created => do shift; pure DateField.created
  | .kw .header => do shift; pure DateField.header
  | .kw .modified => do shift; pure DateField.modified
  | _ => pure DateField.header

def parseDateCmp (cx : PCtx) : PM DateCmp := do
  let t ← peek cx false false
  match t with
  | .lt => do shift; pure DateCmp.lt
  | .gt => do shift; pure DateCmp.gt
  | _ => failTok

def parseInt (cx : PCtx) : PM Nat := do
  let t ← peek cx false false
  match t with
  | .int n => do shift; pure n
  | _ => failTok

/-- `scalar`: the mid-rule action sets `sflag` before the token is read. -/
def parseScalar (cx : PCtx) : PM Nat := do
  let t ← peek cx false true
  match t with
  | .scalar (some v) => do shift; pure v
  | _ => failTok

/-- `DATE date_field date_cmp date_age` after `DATE`. -/
def parseDate (cx : PCtx) : PM CTree := do
  let field ← parseDateField cx
  let cmp ← parseDateCmp cx
  let n ← parseInt cx
  let v ← parseScalar cx
  if n * v ≥ 2 ^ 32 then failTok        -- `u32_mul_overflow`: "integer too large"
  else do
    let l ← curLine cx
    pure (.leaf (.date l field cmp (n * v)))

/-- `exec_flags`: `(stdin, body)`; a repeated option is a diagnostic. -/
def parseExecFlags (cx : PCtx) : Nat → Bool → Bool → PM (Bool × Bool)
  | 0, _, _ => outOfFuel
  | fuel + 1, si, bo => do
    let t ← peek cx false false
    match t with
    | .kw .stdin => do shift; if si then failTok else parseExecFlags cx fuel true bo
    | .kw .body => do shift; if bo then failTok else parseExecFlags cx fuel si true
    | _ => pure (si, bo)

/-- `optneg`. -/
def parseOptNeg (cx : PCtx) : PM Bool := do
  let t ← peek cx false false
  match t with
  | .neg => do shift; pure true
  | _ => pure false

/-- `expr_validate` for a non-empty action list. -/
def validateActions (a : CTree) : PM Unit :=
  if a.countActions > 1 && (a.countLeaf Expr.isDiscard > 0 || a.countLeaf Expr.isReject > 0) then failAt a.lno
  else pure ()

/-- `expractions: expractions expraction`: the first action alone, later ones under an AND node. -/
def andJoin (cx : PCtx) (acc : Option CTree) (a : CTree) : PM (Option CTree) := do
  let l ← curLine cx
  pure (match acc with | none => some a | some p => some (.and l p a))

def leafAt (cx : PCtx) (mk : Nat → Expr) : PM CTree := do
  let l ← curLine cx
  pure (.leaf (mk l))

/-- The operands that start with keyword `k` (the keyword is the lookahead): the `expr3` alternatives
without parentheses, and `attachment` applied to an operand (`unary` parses one); `none`: `k` starts no
operand. -/
def parseCondKw (cx : PCtx) (fuel : Nat) (unary : PM CTree) (k : Kw) : Option (PM CTree) :=
  match k with
  | .attachment => some (do
      shift
      let e ← unary
      let l ← curLine cx
      pure (.attachment l e))
  | .all => some (do shift; leafAt cx .all)
  | .new => some (do shift; leafAt cx .new)
  | .old => some (do shift; leafAt cx .old)
  | .body => some (do
      shift
      let p ← parsePattern cx
      let l ← curLine cx
      checkPattern cx p
      pure (.leaf (.body l p)))
  | .header => some (do
      shift
      let ss ← parseStrings cx fuel
      let p ← parsePattern cx
      let l ← curLine cx
      checkPattern cx p
      let ss' ← expandAll cx false ss
      pure (.leaf (.header l ss' p)))
  | .date => some (do shift; parseDate cx)
  | .isdirectory => some (do
      shift
      let s ← parseStr cx
      let l ← curLine cx
      let p ← expandOne cx false s
      pure (.leaf (.stat l p)))
  | .command => some (do
      shift
      let ss ← parseStrings cx fuel
      let l ← curLine cx
      let ss' ← expandAll cx false ss
      pure (.leaf (.command l ss')))
  | _ => none

mutual

/-- One operand of `and` / `or`: `expr3`, or `!` / `attachment` applied to an operand. -/
def parseUnary (cx : PCtx) : Nat → PM CTree
  | 0 => outOfFuel
  | fuel + 1 => do
    let t ← peek cx false false
    match t with
    | .neg => do
      shift
      let e ← parseUnary cx fuel
      let l ← curLine cx
      pure (.neg l e)
    | .lparen => do
      shift
      let e ← parseUnary cx fuel
      let e' ← parseBinTail cx fuel e
      expectTk cx .rparen
      pure e'
    | .kw k =>
      match parseCondKw cx fuel (parseUnary cx fuel) k with
      | some p => p
      | none => failTok
    | _ => failTok

/-- `expr1 AND expr1 | expr1 OR expr1` with `%left AND OR`: a left-associative chain of operands. -/
def parseBinTail (cx : PCtx) : Nat → CTree → PM CTree
  | 0, _ => outOfFuel
  | fuel + 1, lhs => do
    let t ← peek cx false false
    match t with
    | .kw .and => do
      shift
      let r ← parseUnary cx fuel
      let l ← curLine cx
      parseBinTail cx fuel (.and l lhs r)
    | .kw .or => do
      shift
      let r ← parseUnary cx fuel
      let l ← curLine cx
      parseBinTail cx fuel (.or l lhs r)
    | _ => pure lhs

end

/-- `MATCH expr1 expr2` after `MATCH`; `exprs` and `actions` parse a nested block (after `{`) and an
action list. -/
def parseRuleWith (cx : PCtx) (fuel : Nat) (exprs : PM CTree) (actions : PM (Option CTree)) : PM CTree := do
  let c0 ← parseUnary cx fuel
  let c ← parseBinTail cx fuel c0
  let t ← peek cx false false
  match t with
  | .lbrace => do
    shift
    let b ← exprs
    if b.countActions == 0 then failTok          -- "empty nested match block"
    else do
      let l ← curLine cx
      pure (.mtch l c b)
  | _ => do
    let acts ← actions
    match acts with
    | none => failTok                            -- "missing action"
    | some a => do
      validateActions a
      let l ← curLine cx
      pure (.mtch l c a)

/-- The `expraction` alternative that starts with keyword `k` (the keyword is the lookahead);
`exprs` parses the block of an `attachment { }` action after its `{`.  `none`: `k` starts no action. -/
def parseActionWith (cx : PCtx) (fuel : Nat) (exprs : PM CTree) (k : Kw) : Option (PM CTree) :=
  match k with
  | .brk => some (do shift; leafAt cx .brk)
  | .discard => some (do shift; leafAt cx .discard)
  | .pass => some (do shift; leafAt cx .pass)
  | .reject => some (do shift; leafAt cx .reject)
  | .move => some (do
      shift
      let s ← parseStr cx
      let l ← curLine cx
      let p ← expandOne cx true s
      pure (.leaf (.move l p)))
  | .flag => some (do
      shift
      let ng ← parseOptNeg cx
      expectTk cx (.kw .new)
      let l ← curLine cx
      pure (.leaf (.flag l (if ng then [99, 117, 114] else [110, 101, 119]))))
  | .flags => some (do
      shift
      let s ← parseStr cx
      let l ← curLine cx
      let s' ← expandMac false s
      pure (.leaf (.flags l s')))
  | .label => some (do
      shift
      let ss ← parseStrings cx fuel
      let l ← curLine cx
      let ss' ← expandAll cx true ss
      pure (.leaf (.label l ss')))
  | .exec => some (do
      shift
      let fl ← parseExecFlags cx fuel false false
      let ss ← parseStrings cx fuel
      let l ← curLine cx
      let ss' ← expandAll cx true ss
      if fl.2 && !fl.1 then failTok                -- "invalid exec options"
      else pure (.leaf (.exec l fl.1 fl.2 ss')))
  | .attachment => some (do
      shift
      expectTk cx .lbrace
      let b ← exprs
      if b.countActions == 0 then failTok          -- "empty nested match block" (/repo commit e1b4ff1)
      else if b.countActions > b.countLeaf Expr.isExec then failTok   -- "attachment cannot be combined with action(s)"
      else do
        let l ← curLine cx
        pure (.attBlock l b))
  | .addheader => some (do
      shift
      let k ← parseStr cx
      let v ← parseStr cx
      let l ← curLine cx
      let k' ← expandMac false k
      let v' ← expandMac true v
      pure (.leaf (.addHeader l k' v')))
  | _ => none

mutual

/-- `exprs '}'` (the `{` is shifted): the rules of a block, joined by OR nodes. -/
def parseExprs (cx : PCtx) : Nat → Option CTree → PM CTree
  | 0, _ => outOfFuel
  | fuel + 1, acc => do
    let t ← peek cx false false
    match t with
    | .kw .mtch => do
      shift
      let r ← parseRuleWith cx fuel (parseExprs cx fuel none) (parseActions cx fuel none)
      let l ← curLine cx
      parseExprs cx fuel (match acc with | none => some r | some a => some (.or l a r))
    | .rbrace => do
      shift
      let l ← curLine cx
      pure (match acc with | none => .emptyBlock l | some a => .block l a)
    | _ => failTok

/-- `expractions`: the actions of a rule, joined by AND nodes. -/
def parseActions (cx : PCtx) : Nat → Option CTree → PM (Option CTree)
  | 0, _ => outOfFuel
  | fuel + 1, acc => do
    let t ← peek cx false false
    match t with
    | .kw k =>
      match parseActionWith cx fuel (parseExprs cx fuel none) k with
      | some p => do
        let a ← p
        let acc' ← andJoin cx acc a
        parseActions cx fuel acc'
      | none => pure acc
    | _ => pure acc

end

/-- `maildir: maildir_paths exprblock` after `maildir_paths`. -/
def parseMaildirBody (cx : PCtx) (fuel : Nat) (paths : List Bytes) : PM PBlock := do
  expectTk cx .lbrace
  let b ← parseExprs cx fuel none
  if b.countActions == 0 then failTok                                  -- "empty match block"
  else if paths.any (fun p => !isStdinStr p) && b.countLeaf Expr.isReject > 0 then failTok   -- "reject cannot be used outside stdin"
  else pure { paths := paths, tree := b }

/-- `macro: MACRO '=' STRING` after the name. -/
def parseMacroDef (cx : PCtx) (name : Bytes) : PM Unit := do
  expectTk cx .eq                   -- the lexer reports "unknown keyword" unless `=` follows
  let v ← parseStr cx
  let l ← curLine cx
  let v' ← expandOne cx false v
  let ms ← getMacros
  match macrosInsert ms name v' l false with
  | none => failTok                                                    -- "macro already defined"
  | some ms' => setMacros ms'

/-- `grammar`: macro definitions and maildir / stdin blocks up to the end of the input. -/
def parseTop (cx : PCtx) : Nat → List PBlock → PM (List PBlock)
  | 0, _ => outOfFuel
  | fuel + 1, blocks => do
    let t ← peek cx false false
    match t with
    | .eof => pure blocks
    | .kw .maildir => do
      shift
      let ss ← parseStrings cx fuel
      let paths ← expandAll cx false ss
      let b ← parseMaildirBody cx fuel paths
      parseTop cx fuel (blocks ++ [b])
    | .kw .stdin => do
      shift
      if blocks.any (fun b => b.paths.any isStdinStr) then failTok      -- "stdin already defined"
      else do
        let b ← parseMaildirBody cx fuel [stdinStr]
        parseTop cx fuel (blocks ++ [b])
    | .macro name => do
      shift
      parseMacroDef cx name
      parseTop cx fuel blocks
    | _ => failTok

/-- `macros_validate`: the first macro never referenced. -/
def firstUnused (ms : List Macro) : Option Macro := ms.find? (fun m => m.refs == 0)

inductive ParseResult where
  | ok (blocks : List PBlock)
  | error (line : Nat)            -- at least one diagnostic; the first one is reported on `line`
  | invalidDefs                   -- mdsort refuses the `-D` options before reading the file
  | fuel                          -- never (see `Proofs/Conf*.lean`)
deriving Repr

structure ParseOut where
  res : ParseResult
  nlex : Nat                      -- number of calls of the lexer

/-- `config_parse` (after the `-D` options have been entered). -/
def parseConfigFull (home : Bytes) (defs : List (Bytes × Bytes)) (rxOk : Pat → Bool) (input : Bytes) : ParseOut :=
  match macrosOfDefs defs [] with
  | none => { res := .invalidDefs, nlex := 0 }
  | some ms =>
    let cx : PCtx := { nl := countNl input, home := home, rxOk := rxOk }
    match parseTop cx (input.length + 1) [] { rest := input, macros := ms } with
    | .ok blocks s =>
      match firstUnused s.macros with
      | some m => { res := .error m.lno, nlex := s.nlex }             -- "unused macro"
      | none => { res := .ok blocks, nlex := s.nlex }
    | .err l s => { res := .error l, nlex := s.nlex }
    | .fuel s => { res := .fuel, nlex := s.nlex }

/-- `config_parse` with the buffer of `expandtilde` as a parameter (C18); `parseConfigFull` is the instance at `PATH_MAX`. -/
def parseConfigFullL (l : Lim) (home : Bytes) (defs : List (Bytes × Bytes)) (rxOk : Pat → Bool) (input : Bytes) : ParseOut :=
  match macrosOfDefs defs [] with
  | none => { res := .invalidDefs, nlex := 0 }
  | some ms =>
    let cx : PCtx := { nl := countNl input, home := home, rxOk := rxOk, pathMax := l }
    match parseTop cx (input.length + 1) [] { rest := input, macros := ms } with
    | .ok blocks s =>
      match firstUnused s.macros with
      | some m => { res := .error m.lno, nlex := s.nlex }
      | none => { res := .ok blocks, nlex := s.nlex }
    | .err l s => { res := .error l, nlex := s.nlex }
    | .fuel s => { res := .fuel, nlex := s.nlex }

def parseConfigL (l : Lim) (home : Bytes) (defs : List (Bytes × Bytes)) (rxOk : Pat → Bool) (input : Bytes) : ParseResult :=
  (parseConfigFullL l home defs rxOk input).res

def parseConfig (home : Bytes) (defs : List (Bytes × Bytes)) (rxOk : Pat → Bool) (input : Bytes) : ParseResult :=
  (parseConfigFull home defs rxOk input).res

end Mdsort.Model
